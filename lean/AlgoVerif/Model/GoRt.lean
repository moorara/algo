import AlgoVerif.Common
/-!
# Runtime of the Go → Lean translator (`/verif/extract/go2lean`)

The definitions the GENERATED models (`AlgoVerif/Generated/*Gen.lean`) are written in: the few Go
constructs whose meaning is not a Lean primitive.  This file is hand-written, core-only and part of the
trusted base of the regenerated tie: it is the reading of Go's semantics the translator relies on.

* a slice `[]T` is an `Array T` (length = capacity; a slice grows only in place — `x = append(x, v)` is
  `x.push v` — and the translator refuses every second reference to it, see its header);
* `s[i]`, `s[i] = v` outside `[0, len(s))` panic;
* `make([]T, n)` panics for `n < 0`, else `n` zero values;
* a pointer to a record that is immutable or has exactly one owner (the translator's two regimes) is an `Option`;
  dereferencing `nil` panics;
* `a / b`, `a % b` truncate toward zero (`Int.tdiv`, `Int.tmod`) and panic for `b = 0`;
* a `*rand.Rand` is a `Go.Rand`: the stream of the generator's future draws and the number already consumed;
  `r.Intn(n)` panics for `n ≤ 0`, else consumes one draw and returns it reduced into `[0, n)` — for every
  behaviour of the real generator there is a stream that reproduces it, and every stream respects `Intn`'s
  contract, so a statement for all streams is a statement for all generators (and seeds);
* `uint` / `uint64` are `UInt64`, `byte` / `uint8` is `UInt8` (Lean's wrap-around arithmetic is Go's); a `string` is the
  list of its bytes; `<` on the ordered types is the class `Go.Ordered`; shifts by a signed count panic for a
  negative count; `&`, `|`, `^` on `int` are taken on the 64-bit two's-complement patterns;
* Go's `int` is the unbounded `Int`: overflow is NOT modelled.
-/
namespace AlgoVerif.Go

variable {α : Type}

/-- `s[i]` — index out of range panics -/
def idx (s : Array α) (i : Int) : Outcome α :=
  if h : 0 ≤ i ∧ i < s.size then .ok (s[i.toNat]'(by omega)) else .panic

/-- `s[i] = v` — index out of range panics -/
def setIdx (s : Array α) (i : Int) (v : α) : Outcome (Array α) :=
  if h : 0 ≤ i ∧ i < s.size then .ok (s.set i.toNat v (by omega)) else .panic

/-- `make([]T, n)` with `zero` the zero value of `T` -/
def make (zero : α) (n : Int) : Outcome (Array α) :=
  if 0 ≤ n then .ok (Array.replicate n.toNat zero) else .panic

/-- `a / b` for a divisor that is not a non-zero constant -/
def div (a b : Int) : Outcome Int :=
  if b = 0 then .panic else .ok (Int.tdiv a b)

/-- `a % b` for a divisor that is not a non-zero constant -/
def mod (a b : Int) : Outcome Int :=
  if b = 0 then .panic else .ok (Int.tmod a b)

/-- `s[lo:hi]` used as a VALUE (source of `copy` / `append(…, s[lo:hi]...)` only): panics unless
`0 ≤ lo ≤ hi ≤ len(s)` (capacity = length) -/
def slice (s : Array α) (lo hi : Int) : Outcome (Array α) :=
  if 0 ≤ lo ∧ lo ≤ hi ∧ hi ≤ s.size then .ok (s.extract lo.toNat hi.toNat) else .panic

/-- `copy(dst, src)`: the first `min(len(dst), len(src))` elements of `dst` are overwritten -/
def copy (dst src : Array α) : Array α :=
  Array.ofFn (n := dst.size) fun k => if h : k.val < src.size then src[k.val] else dst[k.val]

/-- `copy(dst[lo:hi], src)`: `dst[lo:hi]` must be a valid slice expression; the elements
`dst[lo + k]`, `k < min(hi - lo, len(src))` are overwritten -/
def copyInto (dst : Array α) (lo hi : Int) (src : Array α) : Outcome (Array α) :=
  if 0 ≤ lo ∧ lo ≤ hi ∧ hi ≤ dst.size then
    .ok (Array.ofFn (n := dst.size) fun k =>
      if h : lo.toNat ≤ k.val ∧ k.val < hi.toNat ∧ k.val - lo.toNat < src.size then
        src[k.val - lo.toNat]'h.2.2 else dst[k.val])
  else .panic

/-- `p.f` for a pointer `p` to a record: nil dereference panics -/
def deref (p : Option α) : Outcome α :=
  match p with
  | some a => .ok a
  | none => .panic

/-- a `*rand.Rand` (never nil here): the draws it will produce, and how many have been consumed -/
structure Rand where
  stream : Nat → Int
  pos : Nat

/-- `rand.New(rand.NewSource(seed))` for a seed read from the clock: `stream` is arbitrary -/
def Rand.new (stream : Nat → Int) : Rand := ⟨stream, 0⟩

/-- `r.Intn(n)`: panics for `n ≤ 0`; else the next draw, reduced into `[0, n)`, and the advanced generator -/
def Rand.intn (r : Rand) (n : Int) : Outcome (Rand × Int) :=
  if n ≤ 0 then .panic else .ok ({ r with pos := r.pos + 1 }, r.stream r.pos % n)


/-- `float64`, COPY-ONLY: a value is its IEEE-754 bit pattern and the translated code can do nothing with it but move it
(field read, struct literal, assignment, argument, result).  The translator refuses every operator, comparison (also `==`
of a struct with such a field: IEEE `==` is not equality of bit patterns — NaN, ±0), conversion and constant of the type,
so no property of the carrier is ever used: every theorem about generated code holds for any type in its place. -/
structure F64 where
  bits : UInt64
  deriving DecidableEq, Repr, Inhabited

/-- the zero value `+0.0` -/
def F64.zero : F64 := ⟨0⟩

/-- `float32`, copy-only like `F64` -/
structure F32 where
  bits : UInt32
  deriving DecidableEq, Repr, Inhabited

def F32.zero : F32 := ⟨0⟩

/-- a Go `string`: its bytes (strings are immutable values in Go too) -/
abbrev Str := List UInt8

/-- `s[i]` on a string — index out of range panics -/
def strIdx (s : Str) (i : Int) : Outcome UInt8 :=
  if 0 ≤ i then (match s[i.toNat]? with | some b => .ok b | none => .panic) else .panic

/-- Go's `<` on strings: bytewise lexicographic -/
def strLt : Str → Str → Bool
  | _, [] => false
  | [], _ :: _ => true
  | x :: xs, y :: ys => if x < y then true else if y < x then false else strLt xs ys

/-- the types of `constraints.Ordered` / `cmp.Ordered` that the subset has (no floats: `<=` is translated as the
negation of `>`, which NaN would break), with Go's native `<` -/
class Ordered (α : Type) where
  lt : α → α → Bool
instance : Ordered Int := ⟨fun a b => decide (a < b)⟩
instance : Ordered UInt64 := ⟨fun a b => decide (a < b)⟩
instance : Ordered UInt8 := ⟨fun a b => decide (a < b)⟩
instance : Ordered Str := ⟨strLt⟩

/-- `v >> s` for `v uint` and a signed shift count: a negative count panics, a count `≥ 64` gives 0 -/
def shrU64 (v : UInt64) (s : Int) : Outcome UInt64 :=
  if s < 0 then .panic else .ok (if s < 64 then v >>> s.toNat.toUInt64 else 0)
/-- `v << s` for `v uint` -/
def shlU64 (v : UInt64) (s : Int) : Outcome UInt64 :=
  if s < 0 then .panic else .ok (if s < 64 then v <<< s.toNat.toUInt64 else 0)
/-- `v >> s` for `v int`: arithmetic shift (floor division by `2^s`), exact on the unbounded `Int` -/
def shrInt (v : Int) (s : Int) : Outcome Int :=
  if s < 0 then .panic else .ok (v >>> s.toNat)
/-- `v << s` for `v int` (overflow not modelled, as for `*`) -/
def shlInt (v : Int) (s : Int) : Outcome Int :=
  if s < 0 then .panic else .ok (v <<< s.toNat)
/-- `a / b` for unsigned words: division by zero panics -/
def divU64 (a b : UInt64) : Outcome UInt64 := if b = 0 then .panic else .ok (a / b)
/-- `a % b` for unsigned words: division by zero panics -/
def modU64 (a b : UInt64) : Outcome UInt64 := if b = 0 then .panic else .ok (a % b)
/-- `a & b` for `int`s: two's complement on 64 bits (exact for operands that are 64-bit `int`s) -/
def andInt (a b : Int) : Int := (BitVec.ofInt 64 a &&& BitVec.ofInt 64 b).toInt
def orInt (a b : Int) : Int := (BitVec.ofInt 64 a ||| BitVec.ofInt 64 b).toInt
def xorInt (a b : Int) : Int := (BitVec.ofInt 64 a ^^^ BitVec.ofInt 64 b).toInt
/-- how a translated loop ended: it ran to its end / hit `break` (`next`: the state of the variables
it assigns), or executed a `return` of the enclosing function (`ret`) -/
inductive Ctl (σ ρ : Type) where
  | next (s : σ)
  | ret (r : ρ)

end AlgoVerif.Go
