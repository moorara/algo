import AlgoVerif.Common
import AlgoVerif.Generated.Consts
/-!
# Model of `automata/{automata,nfa,dfa,partition}.go`

Transcription of the Go code as it is in /repo's working tree (i.e. with the `Concat` and `Isomorphic`
fixes).  Conventions:

* `State` and `Symbol` are Go `int` / `rune`, here `Int`; `E = 0` is ε (value taken from the
  regenerated constant `Generated.automata_E`).
* `States` (`set.NewSorted`) is a strictly increasing `List Int` (`sins` = `sorted.add`; membership is a
  linear `contains` instead of the binary search — that the binary search agrees is C16's business).
* a Red-Black `symboltable` is a key-sorted association list (`aget`/`aput`), iterated front to back,
  which is the ascending order `All()` yields; `set.NewStable` is a list in insertion order.
* `list.SoftQueue` is the list of all values plus the `front` index; `list.Stack`/`list.Queue` are lists.
* loops that run "until empty / until no change" take fuel and return `Outcome.diverge` when it runs out;
  `generatePermutations` is structurally recursive (on `end − start`) and needs none.
* Go `map` iteration (only in `EliminateDeadStates` and the degree sequence) is order-irrelevant for the
  results that are observed (sets are sorted, degrees are sorted).
-/
namespace AlgoVerif.C13
open AlgoVerif

abbrev State := Int
abbrev Symbol := Int

/-- `const E Symbol = 0` -/
def E : Symbol := (Generated.automata_E : Int)

/-! ## sorted sets of states / symbols (`set.NewSorted`) -/

/-- `sorted.add` -/
def sins (x : Int) : List Int → List Int
  | [] => [x]
  | y :: ys => if x < y then x :: y :: ys else if x = y then y :: ys else y :: sins x ys

/-- `s.Add(vals...)` -/
def saddAll (s : List Int) (xs : List Int) : List Int := xs.foldl (fun acc x => sins x acc) s

/-- `NewStates(vals...)` -/
def mkSet (xs : List Int) : List Int := saddAll [] xs

/-- `s.Union(t)`: clone `s`, add every member of `t` -/
def sunion (a b : List Int) : List Int := saddAll a b

/-- `s.Difference(t)`: clone `s`, remove every member of `t` -/
def sdiff (a b : List Int) : List Int := a.filter (fun x => !b.contains x)

/-- `s.Equal(t)`: same size and every member of `s` is in `t` -/
def setEq (a b : List Int) : Bool := a.length == b.length && a.all (fun x => b.contains x)

/-! ## Red-Black symbol tables as sorted association lists -/

def aget {β : Type} (k : Int) : List (Int × β) → Option β
  | [] => none
  | (k', v) :: r => if k = k' then some v else aget k r

def aput {β : Type} (k : Int) (v : β) : List (Int × β) → List (Int × β)
  | [] => [(k, v)]
  | (k', v') :: r =>
    if k < k' then (k, v) :: (k', v') :: r
    else if k = k' then (k, v) :: r
    else (k', v') :: aput k v r

/-- `redBlack.Equal`: every pair of `t` is in `t2` with an `eqv`-equal value, and vice versa
(the second traversal calls `eqVal(n.val, val)` with `n` from `t2`). -/
def aEqual {β : Type} (eqv : β → β → Bool) (t t2 : List (Int × β)) : Bool :=
  t.all (fun kv => match aget kv.1 t2 with | some v2 => eqv kv.2 v2 | none => false) &&
  t2.all (fun kv => match aget kv.1 t with | some v1 => eqv kv.2 v1 | none => false)

/-! ## NFA -/

structure NFA where
  start : State
  final : List State
  trans : List (State × List (Symbol × List State))
  deriving DecidableEq, Repr, Inhabited

/-- `NewNFA(start, final)` -/
def NFA.new (start : State) (final : List State) : NFA := ⟨start, mkSet final, []⟩

/-- `n.next(s, a)`; `none` is Go's `nil` -/
def NFA.next (n : NFA) (s : State) (a : Symbol) : Option (List State) :=
  match aget s n.trans with
  | some st => aget a st
  | none => none

/-- `n.Add(s, a, next)` -/
def NFA.add (n : NFA) (s : State) (a : Symbol) (next : List State) : NFA :=
  let strans := (aget s n.trans).getD []
  let states := (aget a strans).getD []
  { n with trans := aput s (aput a (saddAll states next) strans) n.trans }

/-- every state that is the target of some transition, with repetitions (bounds the ε-closure loop) -/
def NFA.targets (n : NFA) : List State :=
  n.trans.flatMap (fun st => st.2.flatMap (fun e => e.2))

/-- the `for u := range next.All()` loop of `εClosure` -/
def closeStep (next : List State) (closure stack : List State) : List State × List State :=
  next.foldl (fun (cs : List State × List State) u =>
    if cs.1.contains u then cs else (sins u cs.1, u :: cs.2)) (closure, stack)

/-- the `for !stack.IsEmpty()` loop of `εClosure` (head of `stack` = top) -/
def NFA.closureLoop (n : NFA) : Nat → List State → List State → Outcome (List State)
  | _, closure, [] => .ok closure
  | 0, _, _ :: _ => .diverge
  | fuel + 1, closure, t :: stack =>
    match n.next t E with
    | some nx => n.closureLoop fuel (closeStep nx closure stack).1 (closeStep nx closure stack).2
    | none => n.closureLoop fuel closure stack

/-- fuel with which the closure loop provably returns (`closureLoop_total`) -/
def NFA.closureFuel (n : NFA) (T : List State) : Nat := T.length + 2 * n.targets.length + 1

/-- `n.εClosure(T)` -/
def NFA.εClosure (n : NFA) (T : List State) : Outcome (List State) :=
  n.closureLoop (n.closureFuel T) T T.reverse

/-- body of the loop of `move`: `if next := n.next(s, a); next != nil { states = states.Union(next) }` -/
def NFA.moveStep (n : NFA) (a : Symbol) (acc : List State) (s : State) : List State :=
  match n.next s a with
  | some nx => sunion acc nx
  | none => acc

/-- `n.move(T, a)` -/
def NFA.move (n : NFA) (T : List State) (a : Symbol) : List State :=
  T.foldl (n.moveStep a) []

/-- the `for …; len(s) > 0; s = s[1:]` loop of `Accept` -/
def NFA.acceptLoop (n : NFA) : List State → List Symbol → Outcome (List State)
  | S, [] => .ok S
  | S, a :: w =>
    match n.εClosure (n.move S a) with
    | .ok S' => n.acceptLoop S' w
    | .panic => .panic
    | .diverge => .diverge

/-- `n.Accept(s)` -/
def NFA.accept (n : NFA) (w : List Symbol) : Outcome Bool :=
  match n.εClosure (mkSet [n.start]) with
  | .ok S0 =>
    match n.acceptLoop S0 w with
    | .ok S => .ok (S.any (fun s => n.final.contains s))
    | .panic => .panic
    | .diverge => .diverge
  | .panic => .panic
  | .diverge => .diverge

/-- `n.states()` -/
def NFA.states (n : NFA) : List State :=
  n.trans.foldl (fun acc st => st.2.foldl (fun acc e => sunion (sins st.1 acc) e.2) acc)
    (sunion (mkSet [n.start]) n.final)

/-- `n.symbols()` -/
def NFA.symbols (n : NFA) : List Symbol :=
  n.trans.foldl (fun acc st => st.2.foldl (fun acc e => if e.1 ≠ E then sins e.1 acc else acc) acc) []

/-- `n.Clone()` -/
def NFA.clone (n : NFA) : NFA :=
  n.trans.foldl (fun nfa st => st.2.foldl (fun nfa e => nfa.add st.1 e.1 e.2) nfa)
    ⟨n.start, n.final, []⟩

/-- `n.Equal(rhs)` -/
def NFA.equal (n rhs : NFA) : Bool :=
  n.start == rhs.start && setEq n.final rhs.final && aEqual (aEqual setEq) n.trans rhs.trans

/-! ## stateManager -/

structure SM where
  last : Int
  /-- `states[id][s]` as a list of `((id, s), t)` -/
  tbl : List ((Nat × Int) × Int)
  deriving Repr

def SM.new (last : Int) : SM := ⟨last, []⟩

def SM.find (m : SM) (id : Nat) (s : Int) : Option Int :=
  (m.tbl.find? (fun e => e.1 == (id, s))).map (·.2)

/-- `m.GetOrCreateState(id, s)` -/
def SM.get (m : SM) (id : Nat) (s : Int) : SM × Int :=
  match m.find id s with
  | some t => (m, t)
  | none => (⟨m.last + 1, m.tbl ++ [((id, s), m.last + 1)]⟩, m.last + 1)

/-- `for t := range states.All() { tt := sm.GetOrCreateState(id, t); next = append(next, tt) }` -/
def SM.mapList (m : SM) (id : Nat) (ts : List State) : SM × List State :=
  ts.foldl (fun (acc : SM × List State) t => ((acc.1.get id t).1, acc.2 ++ [(acc.1.get id t).2])) (m, [])

/-- the transition-copying loop shared by `Star`, `Union` and `CombineDFA`:
`for s, strans := range n.trans.All() { ss := sm.Get(id, s); for a, states := range strans.All() { … dst.Add(ss, a, next) } }` -/
def copyTrans (id : Nat) (n : NFA) (m : SM) (dst : NFA) : SM × NFA :=
  n.trans.foldl (fun (acc : SM × NFA) st =>
    let m1 := (acc.1.get id st.1).1
    let ss := (acc.1.get id st.1).2
    st.2.foldl (fun (acc : SM × NFA) e =>
      ((acc.1.mapList id e.2).1, acc.2.add ss e.1 (acc.1.mapList id e.2).2)) (m1, acc.2)) (m, dst)

/-- `n.Star()` -/
def NFA.star (n : NFA) : NFA :=
  let star := NFA.new 0 [1]
  let r := copyTrans 0 n (SM.new 1) star
  let m := (r.1.get 0 n.start).1
  let ss := (r.1.get 0 n.start).2
  let star := (r.2.add 0 E [ss]).add 0 E [1]
  (n.final.foldl (fun (acc : SM × NFA) f =>
    ((acc.1.get 0 f).1, ((acc.2.add (acc.1.get 0 f).2 E [ss]).add (acc.1.get 0 f).2 E [1]))) (m, star)).2

/-- body of the `for id, nfa := range nfas` loop of `Union` -/
def unionStep (acc : SM × NFA) (id : Nat) (nfa : NFA) : SM × NFA :=
  let r := copyTrans id nfa acc.1 acc.2
  let m := (r.1.get id nfa.start).1
  let ss := (r.1.get id nfa.start).2
  let u := r.2.add 0 E [ss]
  nfa.final.foldl (fun (acc : SM × NFA) f =>
    ((acc.1.get id f).1, acc.2.add (acc.1.get id f).2 E [1])) (m, u)

/-- fold with the index of the element (`for id, x := range xs`) -/
def foldlIdx {α β : Type} (f : β → Nat → α → β) (init : β) (xs : List α) (i : Nat := 0) : β :=
  match xs with
  | [] => init
  | x :: r => foldlIdx f (f init i x) r (i + 1)

/-- `n.Union(ns...)` with `nfas = n :: ns` -/
def NFA.union (nfas : List NFA) : NFA :=
  (foldlIdx unionStep (SM.new 1, NFA.new 0 [1]) nfas).2

/-- does some transition of `n` lead to `q`?  (the pre-scan of `Concat`) -/
def NFA.hasEdgeTo (n : NFA) (q : State) : Bool :=
  n.trans.any (fun st => st.2.any (fun e => e.2.contains q))

/-- loop state of `Concat`: state manager, the NFA under construction, `final` -/
structure ConcatSt where
  m : SM
  nfa : NFA
  final : List State

/-- body of the `for id, nfa := range nfas` loop of `Concat` (after the fix) -/
def concatStep (acc : ConcatSt) (id : Nat) (nfa : NFA) : ConcatSt :=
  -- var start []State; the pre-scan calls GetOrCreateState(id, nfa.Start) when an edge leads back to it
  let m0 := if nfa.hasEdgeTo nfa.start then (acc.m.get id nfa.start).1 else acc.m
  let start : List State := if nfa.hasEdgeTo nfa.start then [(acc.m.get id nfa.start).2] else []
  let r := nfa.trans.foldl (fun (a : SM × NFA) st =>
    let m1 := if st.1 = nfa.start then a.1 else (a.1.get id st.1).1
    let sp : List State := if st.1 = nfa.start then acc.final ++ start else [(a.1.get id st.1).2]
    st.2.foldl (fun (a : SM × NFA) e =>
      ((a.1.mapList id e.2).1,
        sp.foldl (fun c s => c.add s e.1 (a.1.mapList id e.2).2) a.2)) (m1, a.2)) (m0, acc.nfa)
  let fin := nfa.final.foldl (fun (a : SM × List State) f =>
    if f = nfa.start then (a.1, a.2 ++ acc.final ++ start)
    else ((a.1.get id f).1, a.2 ++ [(a.1.get id f).2])) (r.1, [])
  ⟨fin.1, r.2, fin.2⟩

/-- `n.Concat(ns...)` with `nfas = n :: ns` -/
def NFA.concat (nfas : List NFA) : NFA :=
  let r := foldlIdx concatStep ⟨SM.new 0, NFA.new 0 [0], [0]⟩ nfas
  { r.nfa with final := mkSet r.final }

/-! ## DFA -/

structure DFA where
  start : State
  final : List State
  trans : List (State × List (Symbol × State))
  deriving DecidableEq, Repr, Inhabited

/-- `NewDFA(start, final)` -/
def DFA.new (start : State) (final : List State) : DFA := ⟨start, mkSet final, []⟩

/-- `d.Next(s, a)`; `-1` when there is no transition -/
def DFA.next (d : DFA) (s : State) (a : Symbol) : State :=
  match aget s d.trans with
  | some st => (aget a st).getD (-1)
  | none => -1

/-- `d.Add(s, a, next)` -/
def DFA.add (d : DFA) (s : State) (a : Symbol) (t : State) : DFA :=
  { d with trans := aput s (aput a t ((aget s d.trans).getD [])) d.trans }

/-- `d.Accept(s)` -/
def DFA.accept (d : DFA) (w : List Symbol) : Bool :=
  d.final.contains (w.foldl d.next d.start)

/-- `d.states()` -/
def DFA.states (d : DFA) : List State :=
  d.trans.foldl (fun acc st => st.2.foldl (fun acc e => sins e.2 (sins st.1 acc)) acc)
    (sunion (mkSet [d.start]) d.final)

/-- `d.symbols()` -/
def DFA.symbols (d : DFA) : List Symbol :=
  d.trans.foldl (fun acc st => st.2.foldl (fun acc e => sins e.1 acc) acc) []

/-- `d.Clone()` -/
def DFA.clone (d : DFA) : DFA :=
  d.trans.foldl (fun dfa st => st.2.foldl (fun dfa e => dfa.add st.1 e.1 e.2) dfa) ⟨d.start, d.final, []⟩

/-- `d.Equal(rhs)` -/
def DFA.equal (d rhs : DFA) : Bool :=
  d.start == rhs.start && setEq d.final rhs.final &&
    aEqual (aEqual (fun (a b : Int) => a == b)) d.trans rhs.trans

/-- `d.ToNFA()` -/
def DFA.toNFA (d : DFA) : NFA :=
  d.trans.foldl (fun nfa st => st.2.foldl (fun nfa e => nfa.add st.1 e.1 [e.2]) nfa) ⟨d.start, d.final, []⟩

/-! ## subset construction (`ToDFA`) -/

/-- `Dstates.Contains(U)`: index of the first set equal to `U` -/
def sqFind (q : List (List State)) (U : List State) : Option Nat :=
  q.findIdx? (fun v => setEq v U)

/-- the `for _, a := range n.Symbols()` loop for the set `T` dequeued at index `i` -/
def subsetStep (n : NFA) (T : List State) (i : Nat) :
    List Symbol → List (List State) × DFA → Outcome (List (List State) × DFA)
  | [], acc => .ok acc
  | a :: syms, acc =>
    match n.εClosure (n.move T a) with
    | .ok U =>
      match sqFind acc.1 U with
      | some j => subsetStep n T i syms (acc.1, acc.2.add i a j)
      | none => subsetStep n T i syms (acc.1 ++ [U], acc.2.add i a acc.1.length)
    | .panic => .panic
    | .diverge => .diverge

/-- the `for T, i := Dstates.Dequeue(); i >= 0; …` loop -/
def subsetLoop (n : NFA) (syms : List Symbol) :
    Nat → List (List State) → Nat → DFA → Outcome (List (List State) × DFA)
  | fuel, q, front, dfa =>
    match q[front]? with
    | none => .ok (q, dfa)
    | some T =>
      match fuel with
      | 0 => .diverge
      | fuel + 1 =>
        match subsetStep n T front syms (q, dfa) with
        | .ok r => subsetLoop n syms fuel r.1 (front + 1) r.2
        | .panic => .panic
        | .diverge => .diverge

/-- `for i, S := range Dstates.Values() { for f := range n.Final.All() { if S.Contains(f) { Final.Add(i); break } } }` -/
def subsetFinals (final : List State) (q : List (List State)) : List State :=
  foldlIdx (fun acc i S => if final.any (fun f => S.contains f) then sins (i : Int) acc else acc) [] q

/-- fuel with which the subset construction provably returns -/
def NFA.subsetFuel (n : NFA) : Nat := 2 ^ n.states.length + 1

/-- the subset construction proper; returns `Dstates.Values()` as well -/
def NFA.subsets (n : NFA) : Outcome (List (List State) × DFA) :=
  match n.εClosure (mkSet [n.start]) with
  | .ok S0 =>
    match subsetLoop n n.symbols n.subsetFuel [S0] 0 (DFA.new 0 []) with
    | .ok r => .ok (r.1, { r.2 with final := subsetFinals n.final r.1 })
    | .panic => .panic
    | .diverge => .diverge
  | .panic => .panic
  | .diverge => .diverge

/-- `n.ToDFA()` -/
def NFA.toDFA (n : NFA) : Outcome DFA :=
  match n.subsets with
  | .ok r => .ok r.2
  | .panic => .panic
  | .diverge => .diverge

/-! ## partitions (`partition.go`) -/

structure Partition where
  /-- `(States, rep)` in insertion order (`set.NewStable`) -/
  groups : List (List Int × Int)
  nextRep : Int
  deriving Repr

def Partition.empty : Partition := ⟨[], 0⟩

/-- `p.Add(states)` for one group: `groups.Add` skips a group whose state set is already there, `nextRep++` regardless -/
def Partition.add (p : Partition) (states : List Int) : Partition :=
  if p.groups.any (fun g => setEq g.1 states) then ⟨p.groups, p.nextRep + 1⟩
  else ⟨p.groups ++ [(states, p.nextRep)], p.nextRep + 1⟩

/-- `p.Rep(s)` -/
def Partition.rep (p : Partition) (s : Int) : Int :=
  match p.groups.find? (fun g => g.1.contains s) with
  | some g => g.2
  | none => -1

/-- `p.Equal(rhs)` -/
def Partition.equal (p rhs : Partition) : Bool :=
  (p.groups.length == rhs.groups.length &&
    p.groups.all (fun g => rhs.groups.any (fun h => setEq h.1 g.1))) && p.nextRep == rhs.nextRep

/-- the inner part of `BuildGroupTrans` for one state: the map from symbols to the representatives of the
groups of the next states (`if rep := p.Rep(next); rep != -1 { Gstrans.Put(a, rep) }`) -/
def sigOf (p : Partition) (d : DFA) (s : State) : List (Symbol × State) :=
  match aget s d.trans with
  | some strans => strans.foldl (fun gs e => if p.rep e.2 ≠ -1 then aput e.1 (p.rep e.2) gs else gs) []
  | none => []

/-- `p.BuildGroupTrans(dfa, G)` -/
def Partition.buildGroupTrans (p : Partition) (d : DFA) (G : List State) : List (State × List (Symbol × State)) :=
  G.foldl (fun gt s => aput s (sigOf p d s) gt) []

/-- the inner `for j := 1; j < len(pairs); j++` loop -/
def collectSame (strans : List (Symbol × State)) (rest : List (State × List (Symbol × State))) (H : List State) : List State :=
  rest.foldl (fun H p => if aEqual (fun (a b : Int) => a == b) strans p.2 && !H.contains p.1 then sins p.1 H else H) H

/-- `p.PartitionAndAddGroups(Gtrans)` -/
def Partition.partitionAndAddGroups (p : Partition) (pairs : List (State × List (Symbol × State))) : Partition :=
  pairs.foldl (fun p pr =>
    if p.rep pr.1 = -1 then p.add (collectSame pr.2 (pairs.drop 1) (mkSet [pr.1])) else p) p

/-- one round: `Πnew` from `Π` -/
def refine (d : DFA) (P : Partition) : Partition :=
  P.groups.foldl (fun Pn G => Pn.partitionAndAddGroups (P.buildGroupTrans d G.1)) Partition.empty

/-- the `for { … if Πnew.Equal(Π) { break }; Π = Πnew }` loop -/
def refineLoop (d : DFA) : Nat → Partition → Outcome Partition
  | 0, _ => .diverge
  | fuel + 1, P => if (refine d P).equal P then .ok P else refineLoop d fuel (refine d P)

/-- step 4 of `Minimize`: build the DFA from the final partition -/
def buildMin (d : DFA) (P : Partition) : DFA :=
  let start := P.rep d.start
  let final := d.final.foldl (fun acc f => sins (P.rep f) acc) []
  P.groups.foldl (fun dfa G =>
    let s := G.1.headD 0   -- `FirstMatch(true)`; the zero value when the group is empty
    match aget s d.trans with
    | some v => v.foldl (fun dfa e => dfa.add G.2 e.1 (P.rep e.2)) dfa
    | none => dfa) ⟨start, final, []⟩

def DFA.minimizeFuel (d : DFA) : Nat := d.states.length + 3

/-- step 1 of `Minimize`: `Π.Add(NF, F)` -/
def DFA.initPartition (d : DFA) : Partition :=
  (Partition.empty.add (sdiff d.states d.final)).add d.final

/-- steps 2–3 of `Minimize`: the final partition -/
def DFA.minimizePartition (d : DFA) : Outcome Partition :=
  refineLoop d d.minimizeFuel d.initPartition

/-- `d.Minimize()` -/
def DFA.minimize (d : DFA) : Outcome DFA :=
  match d.minimizePartition with
  | .ok P => .ok (buildMin d P)
  | .panic => .panic
  | .diverge => .diverge

/-- the transition function as an `Option` (`Next` without the `-1` convention); used by the proofs and by `stableB` -/
def DFA.δ (d : DFA) (s a : Int) : Option Int :=
  match aget s d.trans with
  | some st => aget a st
  | none => none

/-- self-check evaluated by the driver on the final partition of every `min` op: the partition covers the
states, never mixes accepting and non-accepting states, and is closed block-wise under the transition
function (`Proofs/C13Min.lean`: `stable_of_stableB`, `buildMin_lang`). -/
def stableB (d : DFA) (P : Partition) : Bool :=
  d.states.all (fun s => P.rep s != -1) &&
  d.states.all (fun s => d.states.all (fun t => P.rep s != P.rep t ||
    ((d.final.contains s == d.final.contains t) &&
      d.symbols.all (fun a => (d.δ s a).map P.rep == (d.δ t a).map P.rep)))) &&
  P.groups.all (fun G => (G.1.isEmpty && d.states.all (fun s => P.rep s != G.2)) ||
    (d.states.contains (G.1.headD 0) && P.rep (G.1.headD 0) == G.2))

/-! ## EliminateDeadStates -/

/-- step 1: the reversed graph `adj[t] ∋ s` -/
def DFA.revAdj (d : DFA) : List (State × List State) :=
  d.trans.foldl (fun adj st => st.2.foldl (fun adj e => aput e.2 (sins st.1 ((aget e.2 adj).getD [])) adj) adj) []

/-- `dfs(adj, visited, s)`; `vis` is the set of states with `visited[s] == true` -/
def dfs (adj : List (State × List State)) : Nat → List State → State → Outcome (List State)
  | 0, _, _ => .diverge
  | fuel + 1, vis, s =>
    match aget s adj with
    | none => .ok (sins s vis)
    | some ts =>
      ts.foldl (fun (acc : Outcome (List State)) t =>
        match acc with
        | .ok v => if v.contains t then .ok v else dfs adj fuel v t
        | o => o) (.ok (sins s vis))

/-- `d.EliminateDeadStates()` -/
def DFA.elimDead (d : DFA) : Outcome DFA :=
  let adj := aput (-1) d.final d.revAdj
  match dfs adj (d.states.length + 2) [] (-1) with
  | .ok vis =>
    -- keys of `visited` that are still false
    let deads := (adj.map (·.1)).filter (fun s => !vis.contains s)
    .ok (d.trans.foldl (fun dfa st => st.2.foldl (fun dfa e =>
      if !deads.contains st.1 && !deads.contains e.2 then dfa.add st.1 e.1 e.2 else dfa) dfa) ⟨d.start, d.final, []⟩)
  | .panic => .panic
  | .diverge => .diverge

/-! ## ReindexStates -/

/-- the BFS loop; `visited` as a list, `queue` front first -/
def bfsLoop (d : DFA) : Nat → List State → List State → SM → Outcome SM
  | _, _, [], m => .ok m
  | 0, _, _ :: _, _ => .diverge
  | fuel + 1, visited, s :: queue, m =>
    match aget s d.trans with
    | some adj =>
      let r := adj.foldl (fun (acc : List State × List State × SM) e =>
        if acc.1.contains e.2 then acc else (e.2 :: acc.1, acc.2.1 ++ [e.2], (acc.2.2.get 0 e.2).1)) (visited, queue, m)
      bfsLoop d fuel r.1 r.2.1 r.2.2
    | none => bfsLoop d fuel visited queue m

/-- the state manager after the BFS from the start state -/
def DFA.bfsNumbering (d : DFA) : Outcome SM :=
  bfsLoop d (d.states.length + 2) [d.start] [d.start] ((SM.new (-1)).get 0 d.start).1

/-- the rebuilding part of `ReindexStates` -/
def reindexWith (d : DFA) (m : SM) : SM × DFA :=
  let start := (m.get 0 d.start).2
  let m := (m.get 0 d.start).1
  let rf := d.final.foldl (fun (acc : SM × List State) f => ((acc.1.get 0 f).1, sins (acc.1.get 0 f).2 acc.2)) (m, [])
  d.trans.foldl (fun (acc : SM × DFA) st =>
    let ss := (acc.1.get 0 st.1).2
    st.2.foldl (fun (acc : SM × DFA) e => ((acc.1.get 0 e.2).1, acc.2.add ss e.1 (acc.1.get 0 e.2).2))
      ((acc.1.get 0 st.1).1, acc.2)) (rf.1, ⟨start, rf.2, []⟩)

/-- `d.ReindexStates()` -/
def DFA.reindex (d : DFA) : Outcome DFA :=
  match d.bfsNumbering with
  | .ok m => .ok (reindexWith d m).2
  | .panic => .panic
  | .diverge => .diverge

/-! ## CombineDFA -/

/-- step 2 body: like `unionStep`, also recording `finalMap[id]` -/
def combineStep (acc : (SM × NFA) × List (List State)) (id : Nat) (nfa : NFA) : (SM × NFA) × List (List State) :=
  let r := copyTrans id nfa acc.1.1 acc.1.2
  let m := (r.1.get id nfa.start).1
  let ss := (r.1.get id nfa.start).2
  let u := r.2.add 0 E [ss]
  let r2 := nfa.final.foldl (fun (a : (SM × NFA) × List State) f =>
    (((a.1.1.get id f).1, a.1.2.add (a.1.1.get id f).2 E [1]), a.2 ++ [(a.1.1.get id f).2])) ((m, u), [])
  (r2.1, acc.2 ++ [r2.2])

/-- "Remap the final states from the union NFA to combined DFA" -/
def remapSubsets (q : List (List State)) (fm : List (List State)) : List (List State) :=
  fm.map (fun states => states.foldl (fun mapped f =>
    foldlIdx (fun mapped i S => if S.contains f then sins (i : Int) mapped else mapped) mapped q) [])

/-- `CombineDFA(ds...)` -/
def combineDFA (ds : List DFA) : Outcome (DFA × List (List State)) :=
  let ns := ds.map DFA.toNFA
  let u := foldlIdx combineStep ((SM.new 1, NFA.new 0 [1]), []) ns
  match u.1.2.subsets with
  | .ok r =>
    let fm := remapSubsets r.1 u.2
    match r.2.elimDead with
    | .ok combined =>
      match combined.bfsNumbering with
      | .ok m =>
        let rr := reindexWith combined m
        -- "Remap the final states from the old indices to new indices" (the state manager is threaded through)
        let fm2 := fm.foldl (fun (acc : SM × List (List State)) states =>
          let r := states.foldl (fun (a : SM × List State) f => ((a.1.get 0 f).1, sins (a.1.get 0 f).2 a.2)) (acc.1, [])
          (r.1, acc.2 ++ [r.2])) (rr.1, [])
        .ok (rr.2, fm2.2)
      | .panic => .panic
      | .diverge => .diverge
    | .panic => .panic
    | .diverge => .diverge
  | .panic => .panic
  | .diverge => .diverge

/-! ## Isomorphic -/

def insSorted (x : Int) : List Int → List Int
  | [] => [x]
  | y :: ys => if x ≤ y then x :: y :: ys else y :: insSorted x ys

/-- `sort.Quick3Way` on the degree slice: the sorted permutation -/
def sortInts (l : List Int) : List Int := l.foldl (fun acc x => insSorted x acc) []

/-- `totalDegrees[s]` for every state in `States()` order, then sorted -/
def NFA.sortedDegrees (n : NFA) : List Int :=
  let edges : List (State × State) := n.trans.flatMap (fun st => st.2.flatMap (fun e => e.2.map (fun t => (st.1, t))))
  sortInts (n.states.map (fun s => ((edges.filter (fun p => p.1 == s)).length + (edges.filter (fun p => p.2 == s)).length : Int)))

def DFA.sortedDegrees (d : DFA) : List Int :=
  let edges : List (State × State) := d.trans.flatMap (fun st => st.2.map (fun e => (st.1, e.2)))
  sortInts (d.states.map (fun s => ((edges.filter (fun p => p.1 == s)).length + (edges.filter (fun p => p.2 == s)).length : Int)))

def swapAt (l : List Int) (i j : Nat) : List Int :=
  match l[i]?, l[j]? with
  | some x, some y => (l.set i y).set j x
  | _, _ => l

/-- `generatePermutations(states, start, end, yield)` with `k = end − start`; returns `cont` -/
def genPerms (yield : List Int → Bool) : Nat → List Int → Nat → Bool
  | 0, states, _ => yield states
  | k + 1, states, start =>
    (List.range (k + 2)).all (fun i => genPerms yield k (swapAt states start (start + i)) (start + 1))

/-- `for i := range degrees1 { if degrees1[i] != degrees2[i] { return false } }`; `none` = index out of range -/
def degreesAgree : List Int → List Int → Option Bool
  | [], _ => some true
  | _ :: _, [] => none
  | x :: xs, y :: ys => if x ≠ y then some false else degreesAgree xs ys

/-- the bijection `states1[i] ↦ permutation[i]` applied to a state (`bijection[s]`, zero value if absent) -/
def bij (states1 perm : List State) (s : State) : State :=
  match states1.idxOf? s with
  | some i => perm.getD i 0
  | none => 0

/-- the NFA renamed along the bijection, as built inside `Isomorphic` -/
def NFA.permuted (n : NFA) (f : State → State) : NFA :=
  n.trans.foldl (fun p st => st.2.foldl (fun p e => p.add (f st.1) e.1 (e.2.map f)) p)
    (NFA.new (f n.start) (n.final.map f))

def DFA.permuted (d : DFA) (f : State → State) : DFA :=
  d.trans.foldl (fun p st => st.2.foldl (fun p e => p.add (f st.1) e.1 (f e.2)) p)
    (DFA.new (f d.start) (d.final.map f))

/-- `n.Isomorphic(rhs)` -/
def NFA.isomorphic (n rhs : NFA) : Outcome Bool :=
  if n.final.length ≠ rhs.final.length then .ok false
  else if n.states.length ≠ rhs.states.length then .ok false
  else if !setEq n.symbols rhs.symbols then .ok false
  else match degreesAgree n.sortedDegrees rhs.sortedDegrees with
    | none => .panic
    | some false => .ok false
    | some true =>
      if rhs.states.isEmpty then .ok false else
      .ok (!genPerms (fun perm => !(n.permuted (bij n.states perm)).equal rhs)
        (rhs.states.length - 1) rhs.states 0)

/-- `d.Isomorphic(rhs)` -/
def DFA.isomorphic (d rhs : DFA) : Outcome Bool :=
  if d.final.length ≠ rhs.final.length then .ok false
  else if d.states.length ≠ rhs.states.length then .ok false
  else if !setEq d.symbols rhs.symbols then .ok false
  else match degreesAgree d.sortedDegrees rhs.sortedDegrees with
    | none => .panic
    | some false => .ok false
    | some true =>
      if rhs.states.isEmpty then .ok false else
      .ok (!genPerms (fun perm => !(d.permuted (bij d.states perm)).equal rhs)
        (rhs.states.length - 1) rhs.states 0)

end AlgoVerif.C13
