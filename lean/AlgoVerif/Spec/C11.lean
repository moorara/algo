import AlgoVerif.Model.C11
/-!
# C11 — Spec

* rightmost derivations (on top of `Gram.Step/Derives/Language` of `GrammarCore`);
* `tableCheck`: an executable *validator* for a built table against the item sets of its states.  Its first
  group of conditions (`soundChecks`) is exactly what the soundness theorem `C11_sound` needs; the second group
  (`completeChecks`: closure-closed item sets, a transition for every symbol after a dot, a reduce action for
  every complete item and each of its lookaheads) is what the completeness theorem `C11_complete_validated` rests on (in
  the style of Jourdan–Pottier–Leroy, "Validating LR(1) parsers"), and is also evaluated on every generated table;
* a precedence-climbing reference parser for operator grammars `E → E op E | id`.

Core Lean only.
-/
namespace AlgoVerif.C11.Spec
open AlgoVerif AlgoVerif.Gram AlgoVerif.C11

/-! ## rightmost derivations -/

/-- `RDeriv g π α β`: rewriting, for each production of `π` in turn, the rightmost non-terminal (everything to
its right is terminal) leads from `α` to `β`. -/
inductive RDeriv (g : SGrammar) : List Pr → List Sy → List Sy → Prop where
  | nil (α : List Sy) : RDeriv g [] α α
  | cons {π : List Pr} {β : List Sy} (u : List Sy) (v : List String) (p : Pr) (hp : p ∈ g.prods) :
      RDeriv g π (u ++ p.body ++ v.map Sym.term) β →
      RDeriv g (p :: π) (u ++ [Sym.nonterm p.head] ++ v.map Sym.term) β

/-- `π` is a rightmost derivation of the sentence `w` from the start symbol -/
def RightmostDerivation (g : SGrammar) (π : List Pr) (w : List String) : Prop :=
  RDeriv g π [Sym.nonterm g.start] (w.map Sym.term)

/-! ## the table validator -/

def itemsAt (S : StateMap) (s : Int) : List Item := if s < 0 then [] else S.getD s.toNat []

/-- the transitions a table can take: `(s, X, t)` for `shift t ∈ ACTION[s,a]` (X = a) and `GOTO[s,A] = t` (X = A) -/
def transitions (T : Table) : List (Int × Sy × Int) :=
  T.actions.flatMap (fun e => e.2.filterMap fun act =>
    match act with
    | .shift t => some (e.1.1, Sym.term e.1.2, t)
    | _ => none)
  ++ T.gotos.map (fun e => (e.1.1, Sym.nonterm e.1.2, e.2))

/-- item `it` (dot > 0) of the target state is justified by the source state: the symbol before its dot is the
transition symbol and its predecessor (same production, dot one to the left) is in the source state -/
def itemJustified (src : List Item) (X : Sy) (it : Item) : Bool :=
  it.dot == 0 ||
    (it.prod.body[it.dot - 1]? == some X && src.any (fun j => j.prod == it.prod && j.dot + 1 == it.dot))

/-- V1: every transition leads to a state other than 0 whose kernel items are justified by the source state -/
def chkTransitions (S : StateMap) (T : Table) : Bool :=
  (transitions T).all fun tr => tr.2.2 != 0 && (itemsAt S tr.2.2).all (itemJustified (itemsAt S tr.1) tr.2.1)

/-- V2: every reduce action is by a production of `g` whose complete item is in the state -/
def chkReduces (g : SGrammar) (S : StateMap) (T : Table) : Bool :=
  T.actions.all fun e => e.2.all fun act =>
    match act with
    | .reduce p => g.prods.contains p && (itemsAt S e.1.1).any (fun j => j.prod == p && j.dot == p.body.length)
    | _ => true

/-- V3: `accept` only on the endmarker, in a state holding `S′ → S •` -/
def chkAccepts (g : SGrammar) (start' : String) (S : StateMap) (T : Table) : Bool :=
  T.actions.all fun e => e.2.all fun act =>
    match act with
    | .accept => e.1.2 == endmarker &&
        (itemsAt S e.1.1).any (fun j => j.prod == { head := start', body := [Sym.nonterm g.start] } && j.dot == 1)
    | _ => true

/-- V4/V5: state 0 has only items with the dot at the left end; items of `S′` do not occur with dot 0 elsewhere -/
def chkInitial (start' : String) (S : StateMap) : Bool :=
  (itemsAt S 0).all (fun it => it.dot == 0) &&
  ((List.range S.length).all fun i =>
    i == 0 || (itemsAt S (i : Int)).all (fun it => !(it.prod.head == start' && it.dot == 0)))

/-- V6: the endmarker is never shifted -/
def chkNoShiftEnd (T : Table) : Bool :=
  T.actions.all fun e => !(e.1.2 == endmarker) || e.2.all (fun act => !isShift act)

/-- S′ is a fresh name -/
def chkFresh (g : SGrammar) (start' : String) : Bool :=
  !g.nonterms.contains start' && g.prods.all (fun p => !(p.head == start'))

def soundChecks (g : SGrammar) (b : Built) : List (String × Bool) :=
  [ ("transitions", chkTransitions b.states b.table),
    ("reduces", chkReduces g b.states b.table),
    ("accepts", chkAccepts g b.start b.states b.table),
    ("initial", chkInitial b.start b.states),
    ("no-shift-of-endmarker", chkNoShiftEnd b.table),
    ("fresh-start", chkFresh g b.start) ]

/-! ### completeness-side conditions -/

/-- the initial item is in state 0 -/
def chkHasInitial (g : SGrammar) (start' : String) (S : StateMap) : Bool :=
  (itemsAt S 0).any fun it => it.prod == { head := start', body := [Sym.nonterm g.start] } && it.dot == 0

/-- item sets are closed: `A → α•Bβ [a]` in the state, `B → γ` a production ⇒ `B → •γ [b]` in the state for every
`b ∈ FIRST(βa)` (LR(1) items) / `B → •γ` (LR(0) items) -/
def chkClosed (g' : SGrammar) (nl : List String) (fe : Env) (S : StateMap) : Bool :=
  S.all fun I => I.all fun it =>
    match it.dotSym with
    | some (.nonterm B) =>
      (prodsOf g' B).all fun p =>
        match it.la with
        | none => I.contains { prod := p, dot := 0, la := none }
        | some a =>
          (lookaheadsFor nl fe it a).all fun b => I.contains { prod := p, dot := 0, la := some b }
    | _ => true

/-- every symbol after a dot has a transition whose target holds the advanced item (with the same lookahead) -/
def chkAdvance (S : StateMap) (T : Table) : Bool :=
  (S.zipIdx).all fun Is => Is.1.all fun it =>
    match it.dotSym with
    | some (.term a) =>
      (T.cell Is.2 a).any fun act =>
        match act with
        | .shift t => (itemsAt S t).contains it.next
        | _ => false
    | some (.nonterm A) =>
      -- the goto on S′ itself never exists; S′ is never after a dot
      match T.goto Is.2 A with
      | some t => (itemsAt S t).contains it.next
      | none => false
    | none => true

/-- every complete item has its reduce (or accept) action on each of its lookaheads
(`follow`: the lookaheads of an LR(0) item, i.e. FOLLOW of its head, for SLR) -/
def chkReduceComplete (start' : String) (follow : String → List String) (S : StateMap) (T : Table) : Bool :=
  (S.zipIdx).all fun Is => Is.1.all fun it =>
    if it.isComplete then
      if it.prod.head == start' then (T.cell Is.2 endmarker).contains .accept
      else
        let las := match it.la with | some a => [a] | none => follow it.prod.head
        las.all fun a => (T.cell Is.2 a).contains (.reduce it.prod)
    else true

/-- `nl` is closed under the productions: a head whose body is all nullable is nullable -/
def chkNullClosed (ps : List Pr) (nl : List String) : Bool :=
  ps.all fun p => !(p.body.all (symNullable nl)) || nl.contains p.head

/-- `fe` is closed under the productions: FIRST of a body is contained in FIRST of its head -/
def chkFirstClosed (ps : List Pr) (nl : List String) (fe : Env) : Bool :=
  ps.all fun p => (firstOfStr nl fe p.body).all fun c => (envGet fe p.head).contains c

/-- no conflict: at most one action per cell -/
def chkConflictFree (T : Table) : Bool := T.actions.all fun e => e.2.length ≤ 1

/-- state 0 holds the LR(1) initial item `[S′ → •S, $]` -/
def chkInitLR1 (g : SGrammar) (start' : String) (S : StateMap) : Bool :=
  (itemsAt S 0).contains { prod := { head := start', body := [Sym.nonterm g.start] }, dot := 0, la := some endmarker }

/-- every item carries a lookahead (the table was built from LR(1) items) -/
def chkAllLR1 (S : StateMap) : Bool := S.all fun I => I.all fun it => it.la.isSome

def completeChecks (g : SGrammar) (b : Built) : List (String × Bool) :=
  match augment g with
  | .ok g' =>
    let nl := nullableOf g'
    let fe := firstEnv g' nl
    let fo := followEnv g' nl fe
    [ ("has-initial-item", chkHasInitial g b.start b.states),
      ("nullable-closed", chkNullClosed g'.prods nl),
      ("first-closed", chkFirstClosed g'.prods nl fe),
      ("closed", chkClosed g' nl fe b.states),
      ("advance", chkAdvance b.states b.table),
      ("reduce-complete", chkReduceComplete b.start (envGet fo) b.states b.table) ]
  | _ => [("augment", false)]

/-- `none` = every check holds; otherwise the name of the first check that fails -/
def tableCheck (g : SGrammar) (b : Built) : Option String :=
  ((soundChecks g b ++ completeChecks g b).find? (fun c => !c.2)).map (·.1)

def soundOK (g : SGrammar) (b : Built) : Bool := (soundChecks g b).all (·.2)

/-- the completeness group for a conflict-free table built from LR(1) items (LALR(1), canonical LR(1)):
what `C11_complete_validated` needs -/
def completeLR1OK (g : SGrammar) (b : Built) : Bool :=
  match augment g with
  | .ok g' =>
    let nl := nullableOf g'
    let fe := firstEnv g' nl
    g'.start == b.start &&
    chkNullClosed g'.prods nl && chkFirstClosed g'.prods nl fe &&
    chkInitLR1 g b.start b.states && chkAllLR1 b.states &&
    chkClosed g' nl fe b.states && chkAdvance b.states b.table &&
    chkReduceComplete b.start (fun _ => []) b.states b.table &&
    chkConflictFree b.table && chkFresh g b.start
  | _ => false

/-- FOLLOW is closed under one production body: for `A → α B β`, FIRST(β) ⊆ FOLLOW(B), and FOLLOW(A) ⊆ FOLLOW(B) when
β is nullable -/
def followClosedBody (nl : List String) (fe fo : Env) (head : String) : List Sy → Bool
  | [] => true
  | .term _ :: rest => followClosedBody nl fe fo head rest
  | .nonterm B :: rest =>
    (firstOfStr nl fe rest).all (fun c => (envGet fo B).contains c) &&
    (!(rest.all (symNullable nl)) || (envGet fo head).all (fun c => (envGet fo B).contains c)) &&
    followClosedBody nl fe fo head rest

def chkFollowClosed (ps : List Pr) (nl : List String) (fe fo : Env) : Bool :=
  ps.all fun p => followClosedBody nl fe fo p.head p.body

/-- the completeness group for a conflict-free SLR(1) table (LR(0) items, reductions on FOLLOW):
what `C11_complete_validated_slr` needs -/
def completeSLROK (g : SGrammar) (b : Built) : Bool :=
  match augment g with
  | .ok g' =>
    let nl := nullableOf g'
    let fe := firstEnv g' nl
    let fo := followEnv g' nl fe
    g'.start == b.start &&
    chkNullClosed g'.prods nl && chkFirstClosed g'.prods nl fe && chkFollowClosed g'.prods nl fe fo &&
    (envGet fo g.start).contains endmarker &&
    (itemsAt b.states 0).contains { prod := { head := b.start, body := [Sym.nonterm g.start] }, dot := 0, la := none } &&
    (b.states.all fun I => I.all fun it => it.la.isNone) &&
    chkClosed g' nl fe b.states && chkAdvance b.states b.table &&
    chkReduceComplete b.start (envGet fo) b.states b.table &&
    chkConflictFree b.table && chkFresh g b.start
  | _ => false

/-- the completeness validator for a conflict-free table of construction `k` -/
def completeOKFor (k : Kind) (g : SGrammar) (b : Built) : Bool :=
  match k with
  | .slr => completeSLROK g b
  | _ => completeLR1OK g b

/-! ## the success chain SLR ⇒ LALR ⇒ LR(1): a per-run certificate -/

/-- the cores of the kernel items of a state -/
def kernelCores (start' : String) (I : List Item) : List Item :=
  coreOf (I.filter fun it => it.dot > 0 || it.prod.head == start')

/-- the state of the coarser construction with the same kernel cores (`-1`: none) -/
def coarseState (start' : String) (S1 : StateMap) (I : List Item) : Int :=
  match S1.findIdx? (fun K => sameSet (kernelCores start' K) (kernelCores start' I)) with
  | some i => i
  | none => -1

def actionImage (f : Int → Int) : Action → Action
  | .shift t => .shift (f t)
  | a => a

/-- `b2` (the finer construction: LALR w.r.t. SLR, LR(1) w.r.t. LALR) is simulated by `b1` along the state map `f`:
every action of a cell of `b2` is present (shift targets mapped) in the corresponding cell of `b1` — i.e. per core the
lookahead sets of `b2` are included in those of `b1`; and the cells of `b2` are duplicate-free with at most one shift
each. -/
def chainCertF (f : Int → Int) (b1 b2 : Built) : Bool :=
  b2.table.actions.all fun e =>
    decide e.2.Nodup && decide ((e.2.filter isShift).length ≤ 1) &&
    e.2.all fun act => (b1.table.cell (f e.1.1) e.1.2).contains (actionImage f act)

/-- the certificate with the state map "same kernel cores" (tabulated once per state of `b2`) -/
def chainCert (b1 b2 : Built) : Bool :=
  let tab : List Int := b2.states.map (coarseState b1.start b1.states)
  chainCertF (fun t => if t < 0 then -1 else tab.getD t.toNat (-1)) b1 b2

/-! ## derivation trees -/

mutual
/-- `t` is a derivation tree of `g` for the symbol `X` -/
def derivesT (g : SGrammar) : Tree → Sy → Prop
  | .leaf a, X => X = Sym.term a
  | .node p ks, X => X = Sym.nonterm p.head ∧ p ∈ g.prods ∧ derivesL g ks p.body
  | .nil, _ => False
def derivesL (g : SGrammar) : List Tree → List Sy → Prop
  | [], Xs => Xs = []
  | t :: ts, Xs => ∃ X Xr, Xs = X :: Xr ∧ derivesT g t X ∧ derivesL g ts Xr
end

mutual
def treeSize : Tree → Nat
  | .leaf _ => 1
  | .node _ ks => 1 + treeSizeL ks
  | .nil => 1
def treeSizeL : List Tree → Nat
  | [] => 0
  | t :: ts => treeSize t + treeSizeL ts
end

mutual
/-- the productions of a tree in the order a bottom-up parser emits them -/
def postT : Tree → List Pr
  | .leaf _ => []
  | .node p ks => postL ks ++ [p]
  | .nil => []
def postL : List Tree → List Pr
  | [] => []
  | t :: ts => postT t ++ postL ts
end

/-! ## the declared precedence rule -/

inductive Choice where
  | reduce | shift | error
  deriving DecidableEq, Repr

/-- what the declared levels say about a conflict between reducing by `p` and shifting `a`:
the handle of `p` is its first terminal (or `p` itself if it has none), the handle of the shift is `a`;
the handle listed in the earlier level wins; on the same level LEFT reduces, RIGHT shifts, NONE is an error;
an unlisted handle is an error -/
def declared (ls : List Level) (p : Pr) (a : String) : Choice :=
  match precedenceOf ls (handleOfProd p), precedenceOf ls (.term a) with
  | some (i, as), some (k, _) =>
    if i < k then .reduce
    else if k < i then .shift
    else match as with
      | .left => .reduce
      | .right => .shift
      | .none => .error
  | _, _ => .error

/-! ## precedence climbing for `E → E op E | id` -/

inductive Expr where
  | id
  | bin (l : Expr) (op : String) (r : Expr)
  deriving Repr, DecidableEq

def showExpr : Expr → String
  | .id => "(E id)"
  | .bin l op r => "(E " ++ showExpr l ++ " " ++ op ++ " " ++ showExpr r ++ ")"

/-- binding strength: a level listed earlier binds tighter -/
def strength (ls : List Level) (op : String) : Option (Nat × Assoc) :=
  match precedenceOf ls (.term op) with
  | some (i, a) => some (ls.length - i, a)
  | none => none

mutual
/-- an operand followed by operators of strength ≥ `min` -/
def climbExpr (ls : List Level) : Nat → Nat → List String → Option (Expr × List String)
  | 0, _, _ => none
  | fuel + 1, min, toks =>
    match toks with
    | "id" :: rest => climbLoop ls fuel .id min rest
    | _ => none
def climbLoop (ls : List Level) : Nat → Expr → Nat → List String → Option (Expr × List String)
  | 0, _, _, _ => none
  | fuel + 1, lhs, min, toks =>
    match toks with
    | [] => some (lhs, [])
    | op :: rest =>
      match strength ls op with
      | none => none
      | some (s, a) =>
        if s < min then some (lhs, toks)
        else
          match a with
          | .none => none
          | .left =>
            match climbExpr ls fuel (s + 1) rest with
            | some (rhs, rest') => climbLoop ls fuel (.bin lhs op rhs) min rest'
            | none => none
          | .right =>
            match climbExpr ls fuel s rest with
            | some (rhs, rest') => climbLoop ls fuel (.bin lhs op rhs) min rest'
            | none => none
end

/-- the grouping the declared precedence and associativity prescribe (`none`: not an expression, an unlisted
or non-associative operator) -/
def climb (ls : List Level) (toks : List String) : Option Expr :=
  match climbExpr ls (2 * toks.length + 2) 0 toks with
  | some (e, []) => some e
  | _ => none

end AlgoVerif.C11.Spec
