import AlgoVerif.Proofs.C05Binary
import AlgoVerif.Proofs.C05BinomialOrder
import AlgoVerif.Proofs.C05FibFull
import AlgoVerif.Proofs.C05Gen
/-!
# C05 — indexed heaps keep index, key and value consistent (property theorems)

`Spec.Admitted cmp eq cap m ops outs` (Spec/C05.lean): every call of the history returned normally and
answered what the partial map `index ⇀ (key × value)` allows (`Insert` succeeds iff the index is in range
and free, `ChangeKey/DeleteIndex/PeekIndex/ContainsIndex` succeed iff it is held and act on exactly that
entry, `Peek/Delete` return a held index whose current key is `cmp`-extremal, `ContainsKey/ContainsValue`
are exact whatever indices are in use, `Size`/`IsEmpty` count the held indices).  A `panic` or `diverge`
outcome is never admitted, so the theorems also say: out-of-range and unheld indices are answered `false`,
never by a crash, and every loop terminates within the fuel the Model gives it.
-/
open AlgoVerif AlgoVerif.C05 AlgoVerif.C05.Spec

/-- **Indexed binary heap, full strength.**  For every capacity, every lawful comparator (a total preorder
given by the sign of `cmp`), every value-equality function and every finite history of the twelve calls with
arbitrary (also negative / too large / unheld / occupied) index arguments, the trace of the Model of
`heap/indexed_binary.go` is admitted by the Spec, starting from the empty map. -/
theorem C05_ibinary {K V : Type} (cmp : K → K → Int) (hc : LawfulCmp cmp) (eq : V → V → Bool) (cap : Nat)
    (ops : List (Op K V)) :
    Admitted cmp eq cap Map.empty ops (IBinary.run cmp eq cap ops) :=
  IBinary.abs_new (K := K) (V := V) cap ▸ admitted_of_sim (IBinary.step cmp eq) (IBinary.Inv cmp cap) IBinary.abs
    (fun s op inv => IBinary.step_sim hc eq s op inv) ops (IBinary.new cap) (IBinary.inv_new cmp cap)

/-- **Indexed binary heap, the representation invariant.**  After every history the state exists (no call
panicked or ran out of fuel) and satisfies `IBinary.Inv`:
`heap` and `pos` are mutually inverse on positions `1..n` (`Wf.fwd`, `Wf.bwd`), `pos[i] = -1 ↔ kvs[i] = nil`
(`Wf.bwd`), the three slices keep their lengths `cap+1, cap, cap`, the keys reached through `kvs[heap[k]]`
are in heap order (`C05.Hole.Ord`), and `n` is the number of held indices. -/
theorem C05_ibinary_invariant {K V : Type} (cmp : K → K → Int) (hc : LawfulCmp cmp) (eq : V → V → Bool)
    (cap : Nat) (ops : List (Op K V)) :
    ∃ h, execWith (IBinary.step cmp eq) (IBinary.new cap) ops = .ok h ∧ IBinary.Inv cmp cap h :=
  exec_of_sim (IBinary.step cmp eq) (IBinary.Inv cmp cap) (fun s op inv => IBinary.step_sim hc eq s op inv) ops (IBinary.new cap)
    (IBinary.inv_new cmp cap)

/-- Go's `generic.NewCompareFunc[int]` -/
def C05.cmpInt (a b : Int) : Int := if a < b then -1 else if a > b then 1 else 0
/-- Go's `generic.NewReverseCompareFunc[int]` -/
def C05.cmpIntRev (a b : Int) : Int := if a > b then -1 else if a < b then 1 else 0

example : LawfulCmp C05.cmpInt :=
  ⟨fun a b h => by unfold C05.cmpInt at *; omega, fun a b c h1 h2 => by unfold C05.cmpInt at *; omega⟩

example : LawfulCmp C05.cmpIntRev :=
  ⟨fun a b h => by unfold C05.cmpIntRev at *; omega, fun a b c h1 h2 => by unfold C05.cmpIntRev at *; omega⟩

/-- a history with an out-of-range insert (D5), a sparse index set with `ContainsKey` (D4), a key increase, a
`DeleteIndex` of an inner entry and deletes: what the Model answers (and `C05_ibinary` says is admitted) -/
example :
    IBinary.run C05.cmpInt (fun (a b : Nat) => a == b) 6
      [.insert 6 1 0, .insert (-1) 1 0, .insert 5 42 7, .containsKey 42, .insert 2 10 8, .insert 0 50 9,
       .insert 5 1 1, .changeKey 5 60, .peek, .deleteIndex 0, .changeKey 3 1, .delete, .delete, .delete, .size]
    = [.ok (.bool false), .ok (.bool false), .ok (.bool true), .ok (.bool true), .ok (.bool true),
       .ok (.bool true), .ok (.bool false), .ok (.bool true), .ok (.ikv (some (2, 10, 8))),
       .ok (.kv (some (50, 9))), .ok (.bool false), .ok (.ikv (some (2, 10, 8))),
       .ok (.ikv (some (5, 60, 7))), .ok (.ikv none), .ok (.int 0)] := by
  decide +kernel

/-- **Indexed binomial heap, full strength.**  Same statement as `C05_ibinary` for the Model of
`heap/indexed_binomial.go`: every call of every history returns (no dangling `nodes[]` pointer, no out-of-range
access, `merge`/`demote` stay within their fuel) and answers what the partial map allows, `Peek`/`Delete`
returning an extremal key. -/
theorem C05_ibinomial {K V : Type} (cmp : K → K → Int) (hc : LawfulCmp cmp) (eq : V → V → Bool) (cap : Nat)
    (ops : List (Op K V)) :
    Admitted cmp eq cap Map.empty ops (IBinomial.run cmp eq cap ops) :=
  IBinomial.abs_new (K := K) (V := V) cap ▸ admitted_of_sim (IBinomial.step cmp eq) (IBinomial.InvO cmp cap)
    IBinomial.abs (fun s op io => IBinomial.step_full hc eq s op io) ops (IBinomial.new cap)
    (IBinomial.invO_new cmp cap)

/-- **Indexed binomial heap, the representation invariant.**  After every history the state exists and
satisfies `IBinomial.InvO`: the index-map invariant `Reg` (the ids of the linked nodes are pairwise distinct,
every linked node `x` is registered as `nodes[x.index] = x`, every non-nil `nodes[i]` is a linked node whose
`index` field is `i` — kept by the content swaps of `promote`, `demote` and `DeleteIndex`), `n` = number of held
indices, and heap order of every (parent, child) pair of the forest (`HO`). -/
theorem C05_ibinomial_invariant {K V : Type} (cmp : K → K → Int) (hc : LawfulCmp cmp) (eq : V → V → Bool)
    (cap : Nat) (ops : List (Op K V)) :
    ∃ h, execWith (IBinomial.step cmp eq) (IBinomial.new cap) ops = .ok h ∧ IBinomial.InvO cmp cap h :=
  exec_of_sim (IBinomial.step cmp eq) (IBinomial.InvO cmp cap) (fun s op io => IBinomial.step_full hc eq s op io) ops (IBinomial.new cap)
    (IBinomial.invO_new cmp cap)

/-- the index-map part needs no comparator law at all: for an arbitrary `cmp` every call still returns and
answers exactly what the partial map prescribes, except that the index returned by `Peek/Delete` is merely held: every
step is `AdmitWeak` = `AdmitG (fun _ _ => True)`; the Spec names no trace-level notion for it, so `AdmittedG (fun _ _ => True)`
is written out (likewise `AdmittedWhileOk (fun _ _ => True)` in `C05_ifibonacci_anycmp_partial`) -/
theorem C05_ibinomial_indexmap {K V : Type} (cmp : K → K → Int) (eq : V → V → Bool) (cap : Nat)
    (ops : List (Op K V)) :
    AdmittedG (fun _ _ => True) cmp eq cap Map.empty ops (IBinomial.run cmp eq cap ops) := by
  have := admitted_of_sim (P := fun _ _ => True) (cmp := cmp) (eq := eq) (cap := cap)
    (IBinomial.step cmp eq) (IBinomial.Inv cap) IBinomial.abs
    (fun s op inv => by
      obtain ⟨s', r, hstep, inv', adm, _⟩ := IBinomial.step_spec (cmp := cmp) eq s op inv
      exact ⟨s', r, hstep, inv', adm.imp fun _ _ _ _ _ => trivial⟩)
    ops (IBinomial.new cap) (IBinomial.inv_new cap)
  rw [IBinomial.abs_new] at this
  exact this

/-- **Indexed Fibonacci heap, full strength.**  Same statement as `C05_ibinary` for the Model of
`heap/indexed_fibonacci.go`: every call of every history returns — `nodes[i]` always names a linked node,
`roots[x.degree]` is always inside the table of `consolidate` (every tree of degree `d` has at least
`fib (d+2)` nodes although marks are toggled and never cleared, and `fib (d+2) ≤ n` implies
`d < ⌊log_φ n⌋ + 1`), `consolidate` finishes within its fuel — and answers what the partial map allows;
`Peek`/`Delete` return an extremal key (heap order of the forest, `h.ext` before every node; after
`consolidate` every root has been entered into the `roots` table, so the final `pickExt` scan sees them all).
`LawfulCmp` suffices: the `ChangeKey` that keeps the old key object when the new key compares equal is
admitted by the Spec as such (`Spec.AdmitG.changeKey_ok`). -/
theorem C05_ifibonacci {K V : Type} (cmp : K → K → Int) (hc : LawfulCmp cmp) (eq : V → V → Bool) (cap : Nat)
    (ops : List (Op K V)) :
    Admitted cmp eq cap Map.empty ops (IFib.run cmp eq cap ops) :=
  IFib.abs_new (K := K) (V := V) cap ▸ admitted_of_sim (IFib.step cmp eq) (IFib.InvF cmp cap) IFib.abs
    (fun s op iv => IFib.step_full hc eq s op iv) ops (IFib.new cap) (IFib.invF_new cmp cap)

/-- **Indexed Fibonacci heap, the representation invariant.**  After every history the state exists and
satisfies `IFib.InvF`: the index-map invariant `Reg` (linked node ids pairwise distinct, `nodes[x.index] = x`
for every linked node, every non-nil `nodes[i]` a linked node with `index = i` — through cuts, cascading cuts,
consolidation, melds and root-list rotations), `n` = number of held indices = number of linked nodes, every
`degree` field equals the length of the child list and the child lists satisfy the mark-refined degree bound
(`FN.OK`, `FT.WFc`), heap order of every (parent, child) pair (`HO`) and the entry root before every node
(`ExtAll`). -/
theorem C05_ifibonacci_invariant {K V : Type} (cmp : K → K → Int) (hc : LawfulCmp cmp) (eq : V → V → Bool)
    (cap : Nat) (ops : List (Op K V)) :
    ∃ h, execWith (IFib.step cmp eq) (IFib.new cap) ops = .ok h ∧ IFib.InvF cmp cap h :=
  exec_of_sim (IFib.step cmp eq) (IFib.InvF cmp cap) (fun s op iv => IFib.step_full hc eq s op iv) ops (IFib.new cap)
    (IFib.invF_new cmp cap)

/-- `_partial`: for an *arbitrary* comparator (no law at all) the full statement
`AdmittedG (fun _ _ => True) cmp eq cap Map.empty ops (IFib.run cmp eq cap ops)` is not claimed (with an unlawful
`cmp` the Model's `ChangeKey` may try to make a non-root node the entry of the root list, which the Model
answers with `panic`); what is proved: the index/key/value part holds for every call that
returns: the trace is admitted without the extremality demand up to the first call that does not return, if
any (`AdmittedWhileOk`), and every state reached satisfies the index-map invariant -/
theorem C05_ifibonacci_anycmp_partial {K V : Type} (cmp : K → K → Int) (eq : V → V → Bool) (cap : Nat)
    (ops : List (Op K V)) :
    AdmittedWhileOk (fun _ _ => True) cmp eq cap Map.empty ops (IFib.run cmp eq cap ops) ∧
    ∀ h, execWith (IFib.step cmp eq) (IFib.new cap) ops = .ok h → IFib.Inv cap h := by
  -- the simulation runs under the stronger `IFib.InvS` (index map, count and shape)
  have sim : ∀ s op s' r, IFib.InvS cmp cap s → IFib.step cmp eq s op = .ok (s', r) →
      IFib.InvS cmp cap s' ∧ AdmitWeak cmp eq cap (IFib.abs s) op r (IFib.abs s') :=
    fun s op s' r iv he => let ⟨iv', adm⟩ := (IFib.step_spec eq s op iv).1 _ he; ⟨iv', adm.imp fun _ _ _ _ _ => trivial⟩
  constructor
  · have := admittedWhileOk_of_sim (P := fun _ _ => True) (cmp := cmp) (eq := eq) (cap := cap)
      (IFib.step cmp eq) (IFib.InvS cmp cap) IFib.abs sim ops (IFib.new cap) (IFib.invS_new cmp cap)
    rw [IFib.abs_new] at this
    exact this
  · intro h he
    exact (exec_of_sim_ok (IFib.step cmp eq) (IFib.InvS cmp cap)
      (fun s op s' r iv he => (sim s op s' r iv he).1) ops _ _ (IFib.invS_new cmp cap) he).inv

/-- the theorems are not vacuous: on this history (sparse indices, an out-of-range insert, a key
decrease that cuts a node out of its tree, a key increase, a `DeleteIndex` of an inner node) both Models return
from every call -/
example :
    let ops : List (Op Int Nat) :=
      [.insert 9 1 0, .insert 7 50 1, .insert 1 40 2, .insert 4 30 3, .insert 6 20 4, .insert 2 10 5, .delete,
       .changeKey 7 5, .changeKey 6 60, .deleteIndex 4, .containsKey 60, .peek, .delete, .delete, .delete, .size]
    IBinomial.run C05.cmpInt (fun a b => a == b) 8 ops = IFib.run C05.cmpInt (fun a b => a == b) 8 ops ∧
    IFib.run C05.cmpInt (fun a b => a == b) 8 ops =
      [.ok (.bool false), .ok (.bool true), .ok (.bool true), .ok (.bool true), .ok (.bool true),
       .ok (.bool true), .ok (.ikv (some (2, 10, 5))), .ok (.bool true), .ok (.bool true),
       .ok (.kv (some (30, 3))), .ok (.bool true), .ok (.ikv (some (7, 5, 1))), .ok (.ikv (some (7, 5, 1))),
       .ok (.ikv (some (1, 40, 2))), .ok (.ikv (some (6, 60, 4))), .ok (.int 0)] := by
  decide +kernel

/-! ## invalid indices: rejected with `false`, in *any* state

Unconditional (no invariant, no comparator law, any state `h` whatsoever): every index-taking call with an index outside
`[0, len(nodes))` (resp. `len(kvs)`) returns normally, answers `false`/`none` and leaves the state unchanged. -/

theorem C05_invalid_index_rejected_ibinary {K V : Type} (cmp : K → K → Int) (h : IBinary K V) (i : Int)
    (hi : i < 0 ∨ i ≥ (h.kvs.size : Int)) (k : K) (v : V) :
    h.insert cmp i k v = .ok (h, false) ∧ h.changeKey cmp i k = .ok (h, false) ∧
    h.deleteIndex cmp i = .ok (h, none) ∧ h.peekIndex i = .ok none ∧ h.containsIndex i = .ok false := by
  have hc : h.containsIndex i = .ok false := by
    unfold IBinary.containsIndex; rw [if_neg (by omega)]
  refine ⟨?_, ?_, ?_, ?_, hc⟩
  · unfold IBinary.insert; rw [if_pos hi]
  · unfold IBinary.changeKey; rw [hc]
  · unfold IBinary.deleteIndex; rw [hc]
  · unfold IBinary.peekIndex; rw [hc]

theorem C05_invalid_index_rejected_ibinomial {K V : Type} (cmp : K → K → Int) (h : IBinomial K V) (i : Int)
    (hi : i < 0 ∨ i ≥ (h.nodes.size : Int)) (k : K) (v : V) :
    h.insert cmp i k v = .ok (h, false) ∧ h.changeKey cmp i k = .ok (h, false) ∧
    h.deleteIndex cmp i = .ok (h, none) ∧ h.peekIndex i = .ok none ∧ h.containsIndex i = false := by
  have hc : h.containsIndex i = false := by
    unfold IBinomial.containsIndex; rw [if_neg (by omega)]
  refine ⟨?_, ?_, ?_, ?_, hc⟩
  · unfold IBinomial.insert; rw [if_pos (by omega)]
  · unfold IBinomial.changeKey; rw [if_pos hc]
  · unfold IBinomial.deleteIndex; rw [if_pos hc]
  · unfold IBinomial.peekIndex; rw [if_pos hc]

theorem C05_invalid_index_rejected_ifibonacci {K V : Type} (cmp : K → K → Int) (h : IFib K V) (i : Int)
    (hi : i < 0 ∨ i ≥ (h.nodes.size : Int)) (k : K) (v : V) :
    h.insert cmp i k v = .ok (h, false) ∧ h.changeKey cmp i k = .ok (h, false) ∧
    h.deleteIndex cmp i = .ok (h, none) ∧ h.peekIndex i = .ok none ∧ h.containsIndex i = false := by
  have hc : h.containsIndex i = false := by
    unfold IFib.containsIndex; rw [if_neg (by omega)]
  refine ⟨?_, ?_, ?_, ?_, hc⟩
  · unfold IFib.insert; rw [if_pos (by omega)]
  · unfold IFib.changeKey; rw [if_pos hc]
  · unfold IFib.deleteIndex; rw [if_pos hc]
  · unfold IFib.peekIndex; rw [if_pos hc]

example : ∃ (h : IFib Int Nat) (i : Int), i < 0 ∨ i ≥ (h.nodes.size : Int) := ⟨IFib.new 3, 3, by decide⟩

/-! ## the same statements about the definitions GENERATED from `heap/indexed_binary.go`

`AlgoVerif.Generated.IHeap.*` (file `Generated/C05Gen.lean`) is produced from `/repo/heap/indexed_binary.go` by the
translator `/verif/extract/go2lean` on every run of this check (`bin/pre-C05`; scheme, subset — in particular the
ownership rule for the `*generic.KeyValue` records that `ChangeKey` assigns through — and what is trusted: header of
`extract/go2lean/main.go`).  `Gen.ofM cmp eq h` reads a state of the hand Model as the generated structure,
`Gen.genStep F` answers one call of the interface with the generated methods (fuel `F` for `promote` / `demote`),
`Gen.genRun` a history from `NewIndexedBinary`.  An edit of the Go source that changes what a method computes changes
the generated file and these stop checking. -/

open AlgoVerif.Generated.IHeap AlgoVerif.C05.Gen

/-- **one call, every state.**  For every state `h` of the hand Model (no invariant), every comparator (no law), every
call and every fuel that covers the hand Model's own (`h.n + 2` and every stored position `+ 1`): the hand Model's
step is `diverge` (fuel), `panic` (it stops earlier than the code in states `C05_ibinary` proves unreachable), or the
generated methods compute exactly the same result and the same next state. -/
theorem C05_generated_ibinary_step_refines {K V : Type} [Inhabited K] [Inhabited V] (cmp : K → K → Int)
    (eq : V → V → Bool) (F : Nat) (h : IBinary K V) (hc : Covers F h) (op : Op K V) :
    IBinary.step cmp eq h op = .diverge ∨ IBinary.step cmp eq h op = .panic ∨
      (IBinary.step cmp eq h op).map (fun r => (ofM cmp eq r.1, r.2)) = genStep F (ofM cmp eq h) op := by
  rcases step_le cmp eq F h hc op with e | e | e
  · left; cases hs : IBinary.step cmp eq h op <;> simp_all [Outcome.map]
  · right; left; cases hs : IBinary.step cmp eq h op <;> simp_all [Outcome.map]
  · right; right; exact e

/-- **every history**: under a lawful comparator the generated methods answer, call by call, exactly what the hand
Model answers (any fuel `≥ cap + 2`) -/
theorem C05_generated_ibinary_run_refines {K V : Type} [Inhabited K] [Inhabited V] (cmp : K → K → Int)
    (hc : LawfulCmp cmp) (eq : V → V → Bool) (cap : Nat) (F : Nat) (hF : cap + 2 ≤ F) (ops : List (Op K V)) :
    genRun F cmp eq cap ops = IBinary.run cmp eq cap ops := genRun_eq hc eq cap F hF ops

/-- **Indexed binary heap, full strength, about the generated definitions**: the statement of `C05_ibinary` -/
theorem C05_generated_ibinary {K V : Type} [Inhabited K] [Inhabited V] (cmp : K → K → Int) (hc : LawfulCmp cmp)
    (eq : V → V → Bool) (cap : Nat) (F : Nat) (hF : cap + 2 ≤ F) (ops : List (Op K V)) :
    Admitted cmp eq cap Map.empty ops (genRun F cmp eq cap ops) := by
  rw [C05_generated_ibinary_run_refines cmp hc eq cap F hF ops]
  exact C05_ibinary cmp hc eq cap ops

/-- the history of the example after `C05_ibinary_invariant`, run on the generated definitions -/
example :
    genRun 8 C05.cmpInt (fun (a b : Nat) => a == b) 6
      [.insert 6 1 0, .insert (-1) 1 0, .insert 5 42 7, .containsKey 42, .insert 2 10 8, .insert 0 50 9,
       .insert 5 1 1, .changeKey 5 60, .peek, .deleteIndex 0, .changeKey 3 1, .delete, .delete, .delete, .size]
    = [.ok (.bool false), .ok (.bool false), .ok (.bool true), .ok (.bool true), .ok (.bool true),
       .ok (.bool true), .ok (.bool false), .ok (.bool true), .ok (.ikv (some (2, 10, 8))),
       .ok (.kv (some (50, 9))), .ok (.bool false), .ok (.ikv (some (2, 10, 8))),
       .ok (.ikv (some (5, 60, 7))), .ok (.ikv none), .ok (.int 0)] := by
  decide +kernel
