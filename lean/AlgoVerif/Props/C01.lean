import AlgoVerif.Proofs.C01Kinds
import AlgoVerif.Proofs.C01Inst
import AlgoVerif.Proofs.C01Equal
import AlgoVerif.Generated.C01
/-!
# C01 — ordered symbol tables behave as a sorted map on every operation history

`run kind a b c ops` executes the history `ops` on three tables of the Model (`Model/C01.lean`, the
transcription of `symboltable/{bst,avl,red_black}.go`); the theorems take three *fresh* tables
`Table.new cmpA eqA`, `Table.new cmpB eqB`, `Table.new cmpC eqC`, i.e. `New…(cmp, eqVal)` called three times,
**each time with its own comparator and its own value equality**.  `Spec.accepts` says that the abstract
sorted maps (`Spec/C01.lean`; each one ascending in its own comparator) admit the sequence of results.  The
theorems say: for all lawful comparators (one per table — the same one, or e.g. the natural and the reverse
order), all value equalities, every finite history of API calls (every predicate, every argument), the Model
neither panics nor diverges and every result is the one the abstract sorted maps give.  In particular
`a.Equal(b)` between two tables that enumerate the same pairs in different orders is inside the theorems; by
`C01_equal_comparator_free` the admitted answer is the comparator-free "both hold the same key-value pairs".
`SelectMatch`/`PartitionMatch` results inherit the receiver's comparator and value equality.
-/
open AlgoVerif AlgoVerif.C01

theorem C01_bst {K V : Type} (cmpA cmpB cmpC : K → K → Int) (hA : LawfulCmp cmpA) (hB : LawfulCmp cmpB)
    (hC : LawfulCmp cmpC) (eqA eqB eqC : V → V → Bool) (ops : List (Op K V)) :
    ∃ s outs, run .bst (.new cmpA eqA) (.new cmpB eqB) (.new cmpC eqC) ops = .ok (s, outs) ∧
      Spec.accepts (.new cmpA eqA, .new cmpB eqB, .new cmpC eqC) ops outs :=
  run_accepts .bst hA hB hC eqA eqB eqC ops

theorem C01_avl {K V : Type} (cmpA cmpB cmpC : K → K → Int) (hA : LawfulCmp cmpA) (hB : LawfulCmp cmpB)
    (hC : LawfulCmp cmpC) (eqA eqB eqC : V → V → Bool) (ops : List (Op K V)) :
    ∃ s outs, run .avl (.new cmpA eqA) (.new cmpB eqB) (.new cmpC eqC) ops = .ok (s, outs) ∧
      Spec.accepts (.new cmpA eqA, .new cmpB eqB, .new cmpC eqC) ops outs :=
  run_accepts .avl hA hB hC eqA eqB eqC ops

theorem C01_rb {K V : Type} (cmpA cmpB cmpC : K → K → Int) (hA : LawfulCmp cmpA) (hB : LawfulCmp cmpB)
    (hC : LawfulCmp cmpC) (eqA eqB eqC : V → V → Bool) (ops : List (Op K V)) :
    ∃ s outs, run .rb (.new cmpA eqA) (.new cmpB eqB) (.new cmpC eqC) ops = .ok (s, outs) ∧
      Spec.accepts (.new cmpA eqA, .new cmpB eqB, .new cmpC eqC) ops outs :=
  run_accepts .rb hA hB hC eqA eqB eqC ops

/-- What the abstract maps answer to `Equal` does not depend on the comparators the two tables were built
with: for any two lawful comparators and maps ascending in them, `Spec.equal` (the answer `C01_bst/avl/rb`
prove the Model gives) is true exactly when every pair of either map has its key in the other one with an
`eqVal`-equal value — keys compared with `=`, no order involved.  So a natural-order table and a
reverse-order table holding the same pairs are `Equal`. -/
theorem C01_equal_comparator_free {K V : Type} (cmp₁ cmp₂ : K → K → Int) (h₁ : LawfulCmp cmp₁)
    (h₂ : LawfulCmp cmp₂) (eqVal : V → V → Bool) (m₁ m₂ : Spec.Map K V) (s₁ : Spec.Sorted cmp₁ m₁)
    (s₂ : Spec.Sorted cmp₂ m₂) :
    Spec.equal cmp₁ cmp₂ eqVal m₁ m₂ = true ↔ Spec.SamePairs eqVal m₁ m₂ :=
  equal_iff_samePairs h₁ h₂ eqVal s₁ s₂

/-- `Traverse` stated exactly (not only up to the enumeration the sorted map admits): in each of the eight
orders, with a visitor that stops after `limit` pairs (`0` = never), it visits precisely the first pairs of
the pre-order, in-order or post-order listing `listing o t` of the tree (a plain structural recursion, defined in
`Proofs/C01Traverse.lean`); for an invalid order it visits nothing.  Holds for every tree. -/
theorem C01_traverse_exact {K V : Type} (o : Order) (limit : Nat) (t : Tree K V) :
    traverseCollect o limit t = if o = .other then [] else Spec.takeLim limit (listing o t) :=
  traverseCollect_eq o limit t

/-- `FirstMatch` stated exactly: the first pair of the pre-order (VLR) listing that satisfies the
predicate; `AnyMatch`/`AllMatch` stop at the first decisive pair of the same listing but their result
does not depend on it. -/
theorem C01_firstMatch_exact {K V : Type} (p : K → V → Bool) (t : Tree K V) :
    firstMatch p t = (listing .vlr t).find? (fun x => p x.1 x.2) :=
  firstMatch_eq p t

/-- The Model has the query half of the three tables once.  This is the regenerated fact that justifies it:
on /repo the 29 query functions of `bst.go`, `avl.go` and `red_black.go` are identical after
renaming (`bin/pre-C01` rewrites `Generated/C01.lean` on every check). -/
theorem C01_queries_shared : AlgoVerif.Generated.C01.allShared = true := by decide

/-! ### non-vacuity -/

/-- the two comparators of the harness satisfy the law the theorems assume -/
example : LawfulCmp cmpAsc := lawful_cmpAsc
example : LawfulCmp cmpDesc := lawful_cmpDesc
/-- … and so do the non-normalised ones (`a-b`, `7*(a-b)`, `b-a`) -/
example : LawfulCmp cmpDiff := lawful_cmpDiff
example : LawfulCmp cmpDiff7 := lawful_cmpDiff7
example : LawfulCmp cmpRDiff := lawful_cmpRDiff
example : LawfulCmp cmpRDiff3 := lawful_cmpRDiff3
/-- … and two orders that are neither the natural one nor its reverse: by absolute value then sign, evens
before odds -/
example : LawfulCmp cmpAbsSign := lawful_cmpAbsSign
example : LawfulCmp cmpEvenOdd := lawful_cmpEvenOdd

/-- the seeded change C01-s1 in the Model's terms: a natural-order table and a reverse-order table of the same
kind holding the same three pairs are `Equal` (both ways round, and after `SelectMatch`, whose result inherits
the receiver's comparator), and stop being so after a `Put` of a different value -/
example : okAnd (run .avl (.new cmpAsc eqInt) (.new cmpDesc eqInt) (.new cmpAbsSign eqInt)
      [.put 0 7, .put 3 5, .put (-2) 1, .swap, .put 3 5, .put (-2) 1, .put 0 7, .equal, .swap, .equal, .all, .swap,
        .all, .selectMatch (fun _ _ => true), .swap, .equal, .equalSelf, .put 0 8, .equal])
    (fun r => outBools r.2 == [true, true, true, true, false] &&
      r.1.1.root.toList == [(3, 5), (0, 8), (-2, 1)] && r.1.2.1.root.toList == [(3, 5), (0, 7), (-2, 1)] &&
      r.1.2.2.root.toList == []) = true := by decide +kernel

/-- the hypotheses of `C01_equal_comparator_free` on those two listings -/
example : Spec.Sorted cmpAsc [((-2 : Int), (1 : Int)), (0, 7), (3, 5)] ∧
    Spec.Sorted cmpDesc [((3 : Int), (5 : Int)), (0, 7), (-2, 1)] ∧
    Spec.equal cmpAsc cmpDesc eqInt [((-2 : Int), (1 : Int)), (0, 7), (3, 5)] [(3, 5), (0, 7), (-2, 1)] = true := by
  unfold Spec.Sorted
  decide +kernel

example : okAnd (run1 .rb cmpDiff7 eqInt
      [.put 1 1, .put 3 3, .put 2 2, .put 7 7, .put 6 6, .put 5 5, .put 4 4, .delete 2, .delete 6, .deleteMin,
        .deleteMax, .allUntil 2, .equalOther])
    (fun r => r.1.1.root.sz == 3) = true := by decide +kernel

/-- a history with a double rotation (AVL: 1, 3, 2) reaching a 7-key tree, then a two-child `Delete`,
`DeleteMin`, `DeleteMax`, a query on an absent key and a `SelectMatch`, runs to completion -/
example : okAnd (run1 .avl cmpAsc eqInt
      [.put 1 1, .put 3 3, .put 2 2, .put 7 7, .put 6 6, .put 5 5, .put 4 4, .size, .delete 4, .deleteMin,
        .deleteMax, .floor 4, .selectMatch (fun k _ => k % 2 == 0), .swap, .all])
    (fun r => r.1.1.root.sz == 2 && r.1.2.1.root.sz == 4) = true := by decide +kernel

example : okAnd (run1 .rb cmpDesc eqInt
      [.put 1 1, .put 3 3, .put 2 2, .put 7 7, .put 6 6, .put 5 5, .put 4 4, .delete 2, .delete 6, .deleteMin,
        .deleteMax, .rank 4, .equal])
    (fun r => r.1.1.root.sz == 3) = true := by decide +kernel

example : okAnd (run1 .bst cmpAsc eqInt
      [.put 4 4, .put 2 2, .put 6 6, .put 1 1, .put 3 3, .put 5 5, .put 7 7, .delete 4, .delete 2, .select 2])
    (fun r => r.1.1.root.sz == 5) = true := by decide +kernel
