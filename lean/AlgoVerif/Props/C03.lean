import AlgoVerif.Proofs.C02Chain
import AlgoVerif.Proofs.C02OA
import AlgoVerif.Proofs.C02LinDel
import AlgoVerif.Proofs.C03Sites
import AlgoVerif.Proofs.C02Pool
/-!
# C03 — every hash-table operation terminates, whatever the delete/insert churn

In the Model every probe loop has fuel `m` (one unit per inspected slot) and the `Put → resize → Put`
recursion has fuel `depth`; running out of fuel is the outcome `diverge`.  The theorems say: for every
hash function, valid options, shuffle and history `ops` the Model reaches a state (no earlier operation
failed), **any** further operation `op` returns `ok` (so its loops stopped within their fuel: at most
`m` probes), and in the reached state the probe walk of **every** key — present, deleted or never
seen — inspects at most `cover ≤ m` slots (`cover = (m+1)/2` for quadratic probing).

Ingredients (each a lemma with a real proof): in `Proofs/C02Num.lean` `isPrime_correct`,
`smallestPrimeLargerThan_terminates` (Bertrand's postulate, Mathlib), `quad_cover`, `double_cover`, `h2of_coprime`; `pigeonhole`
(`Proofs/C02Lists.lean`; over a slot array: `free_of_count` in `Proofs/C02Probe.lean`); in `Proofs/C02OA.lean` `OA.u_lt_cover`
(fewer than `cover` slots are occupied — for quadratic probing `u ≤ (m-1)/2` — which the load check in `Put` establishes) and
`OA.exists_free`.

The second part ties the hypothesis `ValidOpts` to the code that *uses* the tables: `Generated/C03CallSites.lean`
is rewritten from /repo's non-test source on every check and lists every call of the four constructors with its
statically evaluated `HashOpts`; `C03_repo_callsites_valid` (by `decide`) says each of them satisfies exactly the
hypothesis of the theorem of its table, so the library-internal tables (`grammar.Productions`, FIRST/FOLLOW,
the LR and predictive parsing tables) terminate (`C03_repo_tables_terminate`).  A `HashOpts` literal outside
`ValidOpts`, or one the translator cannot evaluate, makes this file fail to build.
-/
open AlgoVerif AlgoVerif.C02

/-- separate chaining: no operation fails; a bucket walk visits at most `n` nodes -/
theorem C03_chain {K V σ : Type} [DecidableEq K] (hash : K → UInt64) (sh : Shuffle σ) (hsh : ShufflePerm sh)
    (eqVal : V → V → Bool) (opts : Opts) (hv : Chain.ValidOpts opts) (g : σ) (ops : List (Op K V)) (op : Op K V) :
    ∃ t0 : ChainTable K V, Chain.new opts = .ok t0 ∧
      ∃ st r, reach (Chain.impl sh hash eqVal) ⟨t0, t0, g⟩ ops = some st ∧
        step (Chain.impl sh hash eqVal) st op = .ok r ∧
        ∀ (b : Bool) (key : K),
          ((Chain.nodesVisited key (Chain.bucket (st.sel b) (Chain.hashIdx (st.sel b).m (mix (hash key)))) : Nat) : Int)
            ≤ (st.sel b).n := by
  obtain ⟨t0, hnew, st, r, hreach, hstep, hsel⟩ :=
    reach_ok_of_empty (Chain.correct hsh hash eqVal) (Chain.init_spec hash opts hv) g ops op
  exact ⟨t0, hnew, st, r, hreach, hstep, fun b key => Chain.nodes_bound hash (st.sel b) key (hsel b)⟩

/-- linear probing (`linear_hash_table.go`): no operation fails (in particular the re-insertion loop of
`Delete` ends within `m` re-insertions) and every probe walk inspects at most `m` slots -/
theorem C03_linear {K V σ : Type} [DecidableEq K] (hash : K → UInt64) (sh : Shuffle σ) (hsh : ShufflePerm sh)
    (eqVal : V → V → Bool) (opts : Opts) (hv : Lin.ValidOpts opts) (g : σ) (ops : List (Op K V)) (op : Op K V) :
    ∃ t0 : LinTable K V, Lin.new opts = .ok t0 ∧
      ∃ st r, reach (Lin.impl sh hash eqVal) ⟨t0, t0, g⟩ ops = some st ∧
        step (Lin.impl sh hash eqVal) st op = .ok r ∧
        ∀ (b : Bool) (key : K), ∃ c,
          Lin.probes (st.sel b) (mix (hash key)) key (st.sel b).m 0 = some c ∧ c ≤ (st.sel b).m := by
  obtain ⟨t0, hnew, st, r, hreach, hstep, hsel⟩ :=
    reach_ok_of_empty (Lin.correct hsh hash eqVal) (Lin.init_spec hash opts hv) g ops op
  exact ⟨t0, hnew, st, r, hreach, hstep, fun b key => Lin.probes_bound hash (st.sel b) key (hsel b)⟩

/-- quadratic probing and double hashing share the Model; `kind` selects the probe sequence -/
theorem C03_openAddressing {K V σ : Type} [DecidableEq K] (kind : Kind) (hash : K → UInt64) (sh : Shuffle σ)
    (hsh : ShufflePerm sh) (eqVal : V → V → Bool) (opts : Opts) (hv : OA.ValidOpts kind opts) (g : σ)
    (ops : List (Op K V)) (op : Op K V) :
    ∃ t0 : OATable K V, OA.new kind opts = .ok t0 ∧
      ∃ st r, reach (OA.impl sh hash eqVal) ⟨t0, t0, g⟩ ops = some st ∧
        step (OA.impl sh hash eqVal) st op = .ok r ∧
        ∀ (b : Bool) (key : K), ∃ cg cf,
          OA.probesGet (st.sel b) (mix (hash key)) key (st.sel b).m 0 = some cg ∧
          OA.probesFind (st.sel b) (mix (hash key)) key (st.sel b).m 0 = some cf ∧
          cg ≤ cover (st.sel b).kind (st.sel b).m ∧ cf ≤ cover (st.sel b).kind (st.sel b).m ∧
          cover (st.sel b).kind (st.sel b).m ≤ (st.sel b).m := by
  obtain ⟨t0, hnew, st, r, hreach, hstep, hsel⟩ :=
    reach_ok_of_empty (OA.correct hsh hash eqVal) (OA.init_spec hash kind opts hv) g ops op
  refine ⟨t0, hnew, st, r, hreach, hstep, fun b key => ?_⟩
  obtain ⟨cg, cf, h1, h2, h3, h4⟩ := OA.probes_bound hash (st.sel b) key (hsel b)
  exact ⟨cg, cf, h1, h2, h3, h4, cover_le _ _⟩

/-- quadratic probing (`quadratic_hash_table.go`): `C03_openAddressing` for the tables `OA.new .quad` builds.  The bound is
`cover` at the `kind` of the reached table; that this is still `.quad`, so that the bound reads `(m+1)/2`, is true of the Model (no
operation writes the field) but is not part of the statement. -/
theorem C03_quadratic {K V σ : Type} [DecidableEq K] (hash : K → UInt64) (sh : Shuffle σ)
    (hsh : ShufflePerm sh) (eqVal : V → V → Bool) (opts : Opts) (hv : OA.ValidOpts .quad opts) (g : σ)
    (ops : List (Op K V)) (op : Op K V) :
    ∃ t0 : OATable K V, OA.new .quad opts = .ok t0 ∧
      ∃ st r, reach (OA.impl sh hash eqVal) ⟨t0, t0, g⟩ ops = some st ∧
        step (OA.impl sh hash eqVal) st op = .ok r ∧
        ∀ (b : Bool) (key : K), ∃ cg cf,
          OA.probesGet (st.sel b) (mix (hash key)) key (st.sel b).m 0 = some cg ∧
          OA.probesFind (st.sel b) (mix (hash key)) key (st.sel b).m 0 = some cf ∧
          cg ≤ cover (st.sel b).kind (st.sel b).m ∧ cf ≤ cover (st.sel b).kind (st.sel b).m ∧
          cover (st.sel b).kind (st.sel b).m ≤ (st.sel b).m :=
  C03_openAddressing .quad hash sh hsh eqVal opts hv g ops op

/-- double hashing (`double_hash_table.go`): `C03_openAddressing` for the tables `OA.new .dbl` builds; the bound `cover ≤ m` is
stated at the `kind` of the reached table, as in `C03_quadratic`. -/
theorem C03_double {K V σ : Type} [DecidableEq K] (hash : K → UInt64) (sh : Shuffle σ)
    (hsh : ShufflePerm sh) (eqVal : V → V → Bool) (opts : Opts) (hv : OA.ValidOpts .dbl opts) (g : σ)
    (ops : List (Op K V)) (op : Op K V) :
    ∃ t0 : OATable K V, OA.new .dbl opts = .ok t0 ∧
      ∃ st r, reach (OA.impl sh hash eqVal) ⟨t0, t0, g⟩ ops = some st ∧
        step (OA.impl sh hash eqVal) st op = .ok r ∧
        ∀ (b : Bool) (key : K), ∃ cg cf,
          OA.probesGet (st.sel b) (mix (hash key)) key (st.sel b).m 0 = some cg ∧
          OA.probesFind (st.sel b) (mix (hash key)) key (st.sel b).m 0 = some cf ∧
          cg ≤ cover (st.sel b).kind (st.sel b).m ∧ cf ≤ cover (st.sel b).kind (st.sel b).m ∧
          cover (st.sel b).kind (st.sel b).m ≤ (st.sel b).m :=
  C03_openAddressing .dbl hash sh hsh eqVal opts hv g ops op

/-! ## tables used together -/

/-- a pool of tables (`Model/C02Pool.lean`: any number of tables, each of any of the four implementations with its own
hash function, `eqVal` and valid options; operations on any of them, `Equal` between any two, sequences and
traversals held on to): every history reaches a state, any further operation returns, and in the reached state the
probe walk of every key stays within the bound of its table in EVERY table of the pool -/
theorem C03_pool {K V σ : Type} [DecidableEq K] (sh : Shuffle σ) (hsh : ShufflePerm sh) (cfgs : List (Cfg K V))
    (hv : ∀ c ∈ cfgs, Tab.ValidOpts c.ty c.opts) (g : σ) (ops : List (POp K V)) (op : POp K V) :
    ∃ objs : List (Obj K V), Pool.new cfgs = .ok objs ∧
      ∃ st r, Pool.reach sh ⟨objs, g, {}⟩ ops = some st ∧ Pool.step sh st op = .ok r ∧
        ∀ o ∈ st.objs, Tab.ProbesBounded o.hash o.tab := by
  obtain ⟨objs, hnew, hrel⟩ := Pool.init_rel (σ := σ) cfgs hv
  obtain ⟨st, ss, hreach, hrel'⟩ := pool_reach hsh ops _ _ (hrel g)
  obtain ⟨st', o, _, hstep, _⟩ := pool_step_sim hsh st ss hrel' op
  exact ⟨objs, hnew, st, (st', o), hreach, hstep, fun o ho => Tab.probes_bounded o.hash o.tab (hrel'.inv o ho)⟩

/-- the hypothesis is satisfiable and the reached pool is not trivial: two quadratic tables under a constant hash, one
churned (16 cycles of put / delete of fresh keys: D3's history), one filled with 16 colliding keys (D26's), compared
with `Equal` at the end; table 0 has re-hashed in place (m = 31), table 1 has grown (m = 67) -/
example : (match (Pool.new [⟨.quadratic, fun _ => 5, fun a b => a == b, {}⟩, ⟨.quadratic, fun _ => 5, fun a b => a == b, {}⟩] :
      Outcome (List (Obj Int Int))) with
    | .ok objs =>
      match Pool.reach (fun g n => (List.range n, g)) ⟨objs, (), {}⟩
          (((List.range 16).flatMap fun i => [POp.put 0 (i : Int) 0, POp.delete 0 (i : Int)]) ++
           ((List.range 16).map fun i => POp.put 1 (i : Int) 0) ++ [.equal 0 1, .equal 1 1]) with
      | some st => st.objs.map fun o => match o.tab with
          | .oa t => (t.m, t.n, t.u)
          | _ => (0, 0, 0)
      | none => []
    | _ => []) = [(31, 0, 1), (67, 16, 16)] := by
  decide +kernel

/-! ## every constructor call site of /repo passes valid options -/

open AlgoVerif.C03 AlgoVerif.Generated in
/-- Every call of `NewQuadraticHashTable` / `NewDoubleHashTable` / `NewLinearHashTable` / `NewChainHashTable` in the
non-test source of /repo (the regenerated table `C03CallSites`) either passes a statically known `HashOpts` value
that satisfies exactly the hypothesis of `C03_quadratic` / `C03_double` / `C03_linear` / `C03_chain` (`ValidFor`:
what the constructor accepts after its own defaulting of zero fields, load-factor bounds no looser than the
defaults), or sits in a method of the table's own struct and hands the receiver's bounds on (`Inherits`: `resize`,
`SelectMatch`, `PartitionMatch`).  No entry is `unknown`. -/
theorem C03_repo_callsites_valid : ∀ s ∈ C03CallSites, SiteValid s := by
  decide +kernel

open AlgoVerif.C03 AlgoVerif.Generated in
/-- … therefore every table the library builds for itself with statically known options — `grammar.Productions`,
the FIRST/FOLLOW tables, the LR ACTION/GOTO tables and their rows, the predictive parsing table — terminates:
for every key type, hash function, shuffle and history the constructor accepts the options, the history reaches a
state and any further operation returns (`Terminates`: what the four theorems above conclude, without the probe-count clause;
by `terminates_of_valid`, from the same `X.correct` and `X.init_spec`). -/
theorem C03_repo_tables_terminate : ∀ s ∈ C03CallSites, ∀ o, staticOpts s = some o → Terminates s.ctor o := by
  intro s hs o ho
  have hv : ValidFor s.ctor o := by
    have := C03_repo_callsites_valid s hs
    simpa [SiteValid, ho] using this
  exact terminates_of_valid s.ctor o hv

open AlgoVerif.C03 AlgoVerif.Generated in
/-- the sites that inherit (`SelectMatch`, `PartitionMatch`: default capacity, the receiver's bounds): whenever the
receiver's bounds are valid — which `ValidOpts` of the receiver's own constructor call gives, the bounds never
change afterwards — the new table is built with valid options and terminates.  (The `resize` sites are the calls
`OA.resizeWith` / `Lin.resizeWith` / `Chain.resizeWith` of the Model and are inside the theorems above.) -/
theorem C03_repo_inherited_tables_terminate : ∀ s ∈ C03CallSites, staticOpts s = none → s.cap = .dflt →
    ∀ rmin rmax, ValidLF (dminOf s.ctor) (dmaxOf s.ctor) rmin rmax →
      ValidFor s.ctor ⟨0, rmin, rmax⟩ ∧ Terminates s.ctor ⟨0, rmin, rmax⟩ := by
  intro s _ _ _ rmin rmax hr
  have hv := inherits_valid s.ctor rmin rmax hr
  exact ⟨hv, terminates_of_valid s.ctor _ hv⟩

open AlgoVerif.C03 AlgoVerif.Generated in
/-- the two users the property names, by name: the tables behind `grammar.NewProductions` and behind
`lr.NewParsingTable` (ACTION and GOTO) and the rows created by `AddACTION` / `SetGOTO` are in the table, are
quadratic tables with static options, and terminate — these are the options the Models `C03.Productions` and
`C03.LRTable` (corresponded with the Go code on every run) are constructed with. -/
theorem C03_productions_and_parsing_table_terminate :
    ∀ site ∈ [("grammar/production.go", "NewProductions", 0), ("parser/lr/parsing_table.go", "NewParsingTable", 0),
        ("parser/lr/parsing_table.go", "NewParsingTable", 1), ("parser/lr/parsing_table.go", "ParsingTable.AddACTION", 0),
        ("parser/lr/parsing_table.go", "ParsingTable.SetGOTO", 0)],
      (oaSite site.1 site.2.1 site.2.2).map Prod.fst = some Kind.quad ∧
      ∀ o, oaSite site.1 site.2.1 site.2.2 = some (.quad, o) → Terminates .quadratic o := by
  have key : ∀ file fn idx o, oaSite file fn idx = some (.quad, o) → Terminates .quadratic o := by
    intro file fn idx o h
    unfold oaSite at h
    split at h
    · rename_i s hf
      split at h
      · rename_i k o' hk hs
        cases h
        have hq : s.ctor = .quadratic := by
          cases hc : s.ctor <;> simp [oaKind, hc] at hk
          rfl
        have := C03_repo_tables_terminate s (List.mem_of_find?_eq_some hf) o hs
        rwa [hq] at this
      · cases h
    · cases h
  intro site hm
  refine ⟨?_, fun o h => key _ _ _ o h⟩
  revert site
  decide +kernel

/-! ## the hypotheses are satisfiable, on the histories of the defects D3 and D26 -/
section NonVacuity

def idShuffle3 : Shuffle Unit := fun g n => (List.range n, g)

example : ShufflePerm idShuffle3 := fun _ _ => List.Perm.refl _
example : OA.ValidOpts .quad {} := ⟨Or.inl rfl, by constructor <;> decide⟩
example : OA.ValidOpts .dbl {} := ⟨Or.inl rfl, by constructor <;> decide⟩
example : Lin.ValidOpts {} := ⟨Or.inl rfl, by constructor <;> decide⟩
example : Chain.ValidOpts {} := ⟨Or.inl rfl, by constructor <;> decide⟩

/-- `put i; delete i` for `i = 0 … n-1` -/
def churn : Nat → List (Op Int Int)
  | 0 => []
  | n + 1 => churn n ++ [.put false n n, .delete false n]

/-- D3's history (constant hash, 16 churn cycles at `m = 31`, then `put 16`; with defect D3 the last `put`
never returns): the Model runs it to the end — `put 15` re-hashes into the same size and
drops the 15 tombstones — and the absent key 1000 is then found absent after 3 probes. -/
example : (match (OA.new .quad {} : Outcome (OATable Int Int)) with
    | .ok t0 =>
      match reach (OA.impl idShuffle3 (fun _ => 5) (fun a b => a == b)) ⟨t0, t0, ()⟩ (churn 16 ++ [.put false 16 16]) with
      | some st => (st.a.m, st.a.n, st.a.u, OA.probesGet st.a (mix 5) 1000 st.a.m 0)
      | none => (0, 0, 0, none)
    | _ => (0, 0, 0, none)) = (31, 1, 2, some 3) := by
  decide +kernel

/-- D26's history (constant hash, 16 colliding live keys, no delete): the 16th `put` grows the table
to 67 slots, and looking up an absent colliding key takes 17 probes. -/
example : (match (OA.new .quad {} : Outcome (OATable Int Int)) with
    | .ok t0 =>
      match reach (OA.impl idShuffle3 (fun _ => 5) (fun a b => a == b)) ⟨t0, t0, ()⟩
          ((List.range 16).map fun i => .put false (i + 1 : Nat) 0) with
      | some st => (st.a.m, st.a.n, st.a.u, OA.probesGet st.a (mix 5) 1000 st.a.m 0)
      | none => (0, 0, 0, none)
    | _ => (0, 0, 0, none)) = (67, 16, 16, some 17) := by
  decide +kernel

open AlgoVerif.C03 AlgoVerif.Generated in
/-- the table of call sites is not empty, it contains both kinds of entry, and the validity predicate is not
trivially true: the options of the seeded changes C03-n2 / C03-n3 (`MaxLoadFactor` 0.6 resp. 0.75 at an external
site) and a site the translator could not evaluate are rejected. -/
example : C03CallSites.length ≥ 27 ∧ (∃ s ∈ C03CallSites, (staticOpts s).isSome) ∧ (∃ s ∈ C03CallSites, Inherits s) ∧
    ¬ SiteValid ⟨"parser/lr/parsing_table.go", "NewParsingTable", 0, .quadratic, false, .dflt, .dflt, .lit 3 5⟩ ∧
    ¬ SiteValid ⟨"grammar/production.go", "NewProductions", 0, .quadratic, false, .dflt, .dflt, .lit 3 4⟩ ∧
    ¬ SiteValid ⟨"x.go", "f", 0, .quadratic, false, .dflt, .dflt, .unknown⟩ ∧
    ¬ SiteValid ⟨"x.go", "f", 0, .quadratic, false, .dflt, .recvMin, .recvMax⟩ ∧
    SiteValid ⟨"x.go", "f", 0, .double, false, .lit 61, .lit 1 4, .lit 3 8⟩ := by
  decide +kernel

open AlgoVerif.C03 in
/-- bounds a receiver may have: the defaults of the quadratic table -/
example : ValidLF (dminOf .quadratic) (dmaxOf .quadratic) ⟨1, 8⟩ ⟨1, 2⟩ := by decide

/-- the bytes of the non-terminal name `N<n>` -/
def ntName (n : Nat) : List UInt8 := 78 :: (Nat.toDigits 10 n).map fun c => UInt8.ofNat c.toNat

open AlgoVerif.C03 in
/-- the witness of the seeded change C03-n3 on the Model of `grammar.Productions` (built with the options of its
call site): 17 heads whose default string hashes share the home slot 5 modulo 31 are added; the 16th `Add` grows
the table to 67 slots, every `Add` returns and every head is found. -/
example : (match Productions.new with
    | .ok p0 =>
      match ([28, 30, 57, 75, 128, 160, 180, 202, 270, 281, 291, 338, 363, 382, 418, 426, 443].map ntName).foldl
          (fun (acc : Outcome (Productions × Unit)) h =>
            match acc with
            | .ok (p, g) => Productions.add idShuffle3 p g h 0
            | o => o) (.ok (p0, ())) with
      | .ok (p, _) => (p.table.m, p.table.n, p.table.u,
          (Productions.get p (ntName 443)).map (Option.map List.length), (Productions.get p (ntName 444)).map (Option.map List.length))
      | _ => (0, 0, 0, .panic, .panic)
    | _ => (0, 0, 0, .panic, .panic)) = (67, 17, 17, .ok (some 1), .ok none) := by
  decide +kernel

end NonVacuity
