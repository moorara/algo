import AlgoVerif.Model.C16
import AlgoVerif.Spec.C16
import AlgoVerif.Proofs.C16Partitions
import AlgoVerif.Proofs.C16Instances
import AlgoVerif.Proofs.C16History
import AlgoVerif.Proofs.C16Store
import AlgoVerif.Proofs.C16HeapSim
import AlgoVerif.Proofs.C16Format
import AlgoVerif.Generated.C16
import AlgoVerif.Proofs.C16Gen
/-!
# C16 — property theorems (helper lemmas in `Proofs/C16*.lean`)

Vocabulary:

* `WF0 s` (`Proofs/C16Basic.lean`) — the representation invariant of a set object `s : MSet α` of any of the three
  implementations: its `equal` callback decides `=` (`set`, `stable`) resp. its `compare` callback is a
  total order (`sorted`: returns a sign function `c` with `c a b = 0 ↔ a = b`, antisymmetric, `<`
  transitive), the member slice has no duplicates, and for `sorted` is strictly ascending for
  `compare`.  `MSet.new` of a lawful callback satisfies it and every operation below preserves it, so
  it holds after *every* history; each theorem is therefore one step of the refinement, for an
  arbitrary reachable state, arbitrary arguments and an arbitrary mix of implementations.
* `ShLaw sh` (`Proofs/C16Algebra.lean`) — all that is assumed of the shuffle behind the unordered set's `All()`: it
  returns a permutation of the indices.
* `Spec.FSet` (`Spec/C16.lean`) — duplicate-free lists up to permutation (`FSet.Equiv`), with `insertAll`, `eraseAll`,
  `memAll`, `card`, `eq`, `subset`, `unionAll`, `interAll`, `diffAll`.
* `Impl.isSorted`, `Impl.isUnordered` (`Proofs/C16Basic.lean`) — which of the three implementations an object is.
* `Op.abs`, `Op.Lawful`, `Rel`, `TraceRel` (`Proofs/C16History.lean`) — for the histories: an operation with the
  implementation of its `new` forgotten, "its `new` has a lawful callback", register files resp. observation lists
  of the Model and of `Spec.srun` that correspond.
-/
open AlgoVerif AlgoVerif.C16 AlgoVerif.C16.Spec

/-! ## the hypotheses are met by what the correspondence runs -/

/-- the callbacks the line-protocol driver (and the Go harness: `==`; comparators returning -1/0/+1 ascending
and descending, and the non-normalised `a-b`, `7*(a-b)`, `b-a`) runs the Model with are lawful, and the driver's mirror of `math/rand`'s `Shuffle` over the
scripted source is a lawful shuffle — so every theorem below applies to every correspondence run -/
theorem C16_driver_instances_lawful :
    ImplLaw (fun _ => True) Eq (.unordered Driver.eqI) ∧ ImplLaw (fun _ => True) Eq (.stable Driver.eqI) ∧
    ImplLaw (fun _ => True) Eq (.sorted Driver.cmpAsc) ∧ ImplLaw (fun _ => True) Eq (.sorted Driver.cmpDesc) ∧
    ImplLaw (fun _ => True) Eq (.sorted Driver.cmpSub) ∧ ImplLaw (fun _ => True) Eq (.sorted Driver.cmpSub7) ∧
    ImplLaw (fun _ => True) Eq (.sorted Driver.cmpRevSub) ∧
    ShLaw Driver.shuffle :=
  ⟨eqI_law, eqI_law, cmpAsc_law, cmpDesc_law, cmpSub_law, cmpSub7_law, cmpRevSub_law, shuffle_law⟩

/-- the Model has one transcription of what `set.go`, `stable.go` and `sorted.go` repeat: its only
implementation-dependent functions are `find`, one round of `Add`, and `All`.  `bin/pre-C16` compares the
method texts of the three files on every run (`Generated/C16.lean`): the unordered and the stable set
differ exactly in `All`, the stable and the sorted set exactly in `Add`/`add`/`find` (up to the receiver
type and the name of the callback field).  Editing one copy makes this theorem fail. -/
theorem C16_shared_transcription_matches_source :
    Generated.set_unordered_stable_differ = ["All"] ∧
    Generated.set_stable_sorted_differ = ["Add", "find", "add"] := by
  decide +kernel

/-- Start from any file of freshly constructed sets of any mix of the three
implementations (lawful callbacks), run any list of operations — Add, Remove, RemoveAll, Contains, Size,
IsEmpty, All, Equal, IsSubset, IsSuperset, Clone, CloneEmpty, New, AnyMatch, AllMatch, FirstMatch, SelectMatch,
PartitionMatch, Union/Intersection/Difference with any number of operands taken from any registers (also the
receiver itself, also the same one twice), results stored into any register
— with any lawful shuffle: the Model never panics or diverges, every observation agrees with the one the
abstract finite sets of `Spec.srun` give (`TraceRel`: equal Booleans and sizes, element listings equal as
sets), and in the final state every register holds a valid set object (`WF0`, which for `sorted` includes
comparator order) denoting the abstract set (`Rel`).  The theorems below are the single steps; they also
give the stored order for `stable` and `sorted` in every such reachable state. -/
theorem C16_history_refines {α σ : Type} [DecidableEq α] {sh : Shuffle σ} (hsh : ShLaw sh)
    (impls : List (Impl α)) (himpls : ∀ impl ∈ impls, ImplLaw (fun _ => True) Eq impl)
    (ops : List (Op α)) (hops : ∀ op ∈ ops, op.Lawful) (g : σ) :
    ∃ regs' g' obs, runOps sh ops (impls.map MSet.new, g) = .ok ((regs', g'), obs) ∧
      Rel regs' (srun (ops.map Op.abs) (impls.map fun _ => FSet.empty)).1 ∧
      TraceRel obs (srun (ops.map Op.abs) (impls.map fun _ => FSet.empty)).2 := by
  obtain ⟨st', obs, h₁, h₂, h₃⟩ := runOps_refines hsh ops _ (impls.map MSet.new, g) (rel_init impls himpls) hops
  exact ⟨st'.1, st'.2, obs, h₁, h₂, h₃⟩

example : ∃ regs' g' obs,
    runOps revShuffle [.add 0 [3, 1], .add 1 [1, 2], .union 2 0 [1, 0], .equal 2 1, .all 2]
      ([Impl.unordered Driver.eqI, .sorted Driver.cmpDesc, .stable Driver.eqI].map MSet.new, ()) = .ok ((regs', g'), obs) ∧
    TraceRel obs (srun ([Op.add 0 [3, 1], .add 1 [1, 2], .union 2 0 [1, 0], .equal 2 1, .all 2].map Op.abs)
      ([Impl.unordered Driver.eqI, .sorted Driver.cmpDesc, .stable Driver.eqI].map fun _ => FSet.empty)).2 := by
  obtain ⟨r, g, o, h, _, ht⟩ := C16_history_refines revShuffle_law
    [Impl.unordered Driver.eqI, .sorted Driver.cmpDesc, .stable Driver.eqI]
    (forall_mem_triple eqI_law cmpDesc_law eqI_law)
    [.add 0 [3, 1], .add 1 [1, 2], .union 2 0 [1, 0], .equal 2 1, .all 2]
    (by intro op h; simp at h; rcases h with rfl | rfl | rfl | rfl | rfl <;> trivial) ()
  exact ⟨r, g, o, h, ht⟩

/-! ## refinement of the single-set operations, for each implementation -/

/-- a freshly constructed set of any implementation with a lawful callback is a valid empty set -/
theorem C16_new_refines {α : Type} {impl : Impl α} (hl : ImplLaw (fun _ => True) Eq impl) :
    WF0 (MSet.new impl) ∧ (MSet.new impl).members = FSet.empty :=
  ⟨wf0_nil hl, rfl⟩

example : WF0 (MSet.new (.sorted Driver.cmpDesc)) := (C16_new_refines (impl := .sorted Driver.cmpDesc) cmpDesc_law).1

/-- `Add(vals...)` never panics or diverges, keeps the invariant and the implementation, and the new
member list denotes the old set with the values inserted -/
theorem C16_add_refines {α : Type} [DecidableEq α] {s : MSet α} (h : WF0 s) (vs : List α) :
    ∃ s', s.add vs = .ok s' ∧ WF0 s' ∧ s'.impl = s.impl ∧
      FSet.Equiv s'.members (FSet.insertAll s.members vs) := by
  obtain ⟨s', h₁, hw, hi, hm, _⟩ := MSet.add_spec0 h vs
  refine ⟨s', h₁, hw, hi, equiv_of_mem_iff hw.nodup (FSet.valid_insertAll h.nodup) (fun x => ?_)⟩
  rw [hm, FSet.mem_insertAll]

example : ∃ s', exAsc.add [4, 1, 0] = .ok s' ∧ WF0 s' ∧ s'.impl = exAsc.impl ∧
    FSet.Equiv s'.members (FSet.insertAll exAsc.members [4, 1, 0]) := C16_add_refines exAsc_wf _

/-- `Remove(vals...)`: the new member list is the old one without the values — same set, and the
remaining members keep their order (all three implementations) -/
theorem C16_remove_refines {α : Type} [DecidableEq α] {s : MSet α} (h : WF0 s) (vs : List α) :
    ∃ s', s.remove vs = .ok s' ∧ WF0 s' ∧ s'.impl = s.impl ∧
      s'.members = FSet.eraseAll s.members vs :=
  MSet.remove_spec0 h vs

example : ∃ s', exUnordered.remove [1, 9] = .ok s' ∧ WF0 s' ∧ s'.impl = exUnordered.impl ∧
    s'.members = FSet.eraseAll exUnordered.members [1, 9] := C16_remove_refines exUnordered_wf _

theorem C16_removeAll_refines {α : Type} {s : MSet α} (h : WF0 s) :
    WF0 s.removeAll ∧ s.removeAll.impl = s.impl ∧ s.removeAll.members = FSet.empty :=
  ⟨wf0_nil h.law, rfl, rfl⟩

example : WF0 exDesc.removeAll := (C16_removeAll_refines exDesc_wf).1

/-- `Contains(vals...)` answers "all values are members" -/
theorem C16_contains_refines {α : Type} [DecidableEq α] {s : MSet α} (h : WF0 s) (vs : List α) :
    s.contains vs = .ok (FSet.memAll s.members vs) := by
  obtain ⟨r, hr, hiff⟩ := MSet.contains_spec eq_equivalence h vs (fun _ _ => trivial)
  rw [hr]
  congr 1
  rw [Bool.eq_iff_iff, hiff, FSet.memAll_iff]
  simp

example : exDesc.contains [2, 6] = .ok (FSet.memAll exDesc.members [2, 6]) := C16_contains_refines exDesc_wf _

theorem C16_size_refines {α : Type} (s : MSet α) :
    s.size = (FSet.card s.members : Int) ∧ s.isEmpty = (FSet.card s.members == 0) :=
  ⟨rfl, rfl⟩

/-- ranging over `All()` yields every member exactly once (for any lawful shuffle) -/
theorem C16_all_refines {α σ : Type} {sh : Shuffle σ} (hsh : ShLaw sh) (s : MSet α) (g : σ) :
    ∃ ms g', s.all sh g = .ok (ms, g') ∧ FSet.Equiv ms s.members := by
  obtain ⟨ms, g', h, hp, _⟩ := MSet.all_spec hsh s g
  exact ⟨ms, g', h, hp⟩

example : ∃ ms g', exUnordered.all revShuffle () = .ok (ms, g') ∧ FSet.Equiv ms exUnordered.members :=
  C16_all_refines revShuffle_law _ _

/-- `Equal` between any two implementations decides equality of the two sets -/
theorem C16_equal_refines {α : Type} [DecidableEq α] {s t : MSet α} (hs : WF0 s) (ht : WF0 t) :
    s.equal t = .ok (FSet.eq s.members t.members) := by
  obtain ⟨r, hr, hiff⟩ := MSet.equal_spec0 hs ht
  rw [hr]
  congr 1
  rw [Bool.eq_iff_iff, hiff, FSet.eq_iff]

example : exStable.equal exAsc = .ok (FSet.eq exStable.members exAsc.members) := C16_equal_refines exStable_wf exAsc_wf

theorem C16_isSubset_refines {α σ : Type} [DecidableEq α] {sh : Shuffle σ} (hsh : ShLaw sh) {s t : MSet α}
    (ht : WF0 t) (g : σ) : ∃ g', s.isSubset sh t g = .ok (FSet.subset s.members t.members, g') := by
  obtain ⟨r, g', hr, hiff⟩ := MSet.isSubset_spec0 hsh (s := s) ht g
  refine ⟨g', ?_⟩
  rw [hr]
  congr 2
  rw [Bool.eq_iff_iff, hiff, FSet.subset_iff]

theorem C16_isSuperset_refines {α σ : Type} [DecidableEq α] {sh : Shuffle σ} (hsh : ShLaw sh) {s t : MSet α}
    (hs : WF0 s) (g : σ) : ∃ g', s.isSuperset sh t g = .ok (FSet.subset t.members s.members, g') :=
  C16_isSubset_refines hsh hs g

example : ∃ g', exUnordered.isSubset revShuffle exDesc () = .ok (FSet.subset exUnordered.members exDesc.members, g') :=
  C16_isSubset_refines revShuffle_law exDesc_wf _

/-- `Clone` returns a set object with the same implementation and members; `CloneEmpty` a valid empty
one.  (In the functional Model a value cannot be changed through another one; that later writes to a clone
or to its source never reach the other object is `C16_heap_history_owns` /
`C16_mutators_touch_only_their_object` below, on the heap machine.) -/
theorem C16_clone_refines {α : Type} {s : MSet α} (h : WF0 s) :
    s.clone = s ∧ WF0 s.cloneEmpty ∧ s.cloneEmpty.impl = s.impl ∧ s.cloneEmpty.members = FSet.empty :=
  ⟨rfl, wf0_cloneEmpty h, rfl, rfl⟩

/-- `New(callback, vals...)` (values may repeat): a valid set denoting the values -/
theorem C16_newWith_refines {α : Type} [DecidableEq α] {impl : Impl α} (hl : ImplLaw (fun _ => True) Eq impl)
    (vals : List α) :
    ∃ s, MSet.newWith impl vals = .ok s ∧ WF0 s ∧ s.impl = impl ∧
      FSet.Equiv s.members (FSet.insertAll FSet.empty vals) := by
  obtain ⟨s, h₁, hw, hi, he⟩ := C16_add_refines (wf0_nil hl) vals
  exact ⟨s, h₁, hw, hi, he⟩

example : ∃ s, MSet.newWith (.sorted Driver.cmpSub7) [5, 2, 5, 5, -1] = .ok s ∧ WF0 s ∧ s.impl = .sorted Driver.cmpSub7 ∧
    FSet.Equiv s.members (FSet.insertAll FSet.empty [5, 2, 5, 5, -1]) :=
  C16_newWith_refines (impl := .sorted Driver.cmpSub7) cmpSub7_law _

/-- `AnyMatch`, `AllMatch`, `FirstMatch`: "some member satisfies `p`", "all members do", and a member
satisfying `p` — the first one in the stored order (insertion order for `stable`, comparator order for
`sorted`) — or none exactly when no member does -/
theorem C16_match_refines {α : Type} (s : MSet α) (p : α → Bool) :
    (s.anyMatch p = true ↔ ∃ x ∈ s.members, p x = true) ∧
    (s.allMatch p = true ↔ ∀ x ∈ s.members, p x = true) ∧
    (s.firstMatch p = none ↔ ∀ x ∈ s.members, p x = false) ∧
    (∀ x, s.firstMatch p = some x → ∃ before after, s.members = before ++ x :: after ∧ p x = true ∧
        ∀ y ∈ before, p y = false) := by
  refine ⟨by simp [MSet.anyMatch], by simp [MSet.allMatch], by simp [MSet.firstMatch], ?_⟩
  intro x hx
  simp only [MSet.firstMatch] at hx
  obtain ⟨hp, before, after, hs, hb⟩ := List.find?_eq_some_iff_append.1 hx
  exact ⟨before, after, hs, hp, fun y hy => by simpa using hb y hy⟩

example : exSub7.firstMatch (fun x => decide (0 ≤ x)) = some 0 := by decide

/-- `SelectMatch` / `PartitionMatch`: valid sets of the receiver's implementation holding the members that
satisfy / do not satisfy the predicate; for `set` and `stable` in the receiver's stored order -/
theorem C16_selectMatch_spec {α : Type} {s : MSet α} (h : WF0 s) (p : α → Bool) :
    ∃ t u, s.partitionMatch p = .ok (t, u) ∧ s.selectMatch p = .ok t ∧ WF0 t ∧ WF0 u ∧
      t.impl = s.impl ∧ u.impl = s.impl ∧
      FSet.Equiv t.members (s.members.filter p) ∧ FSet.Equiv u.members (s.members.filter (fun x => !p x)) ∧
      (s.impl.isSorted = false →
        t.members = s.members.filter p ∧ u.members = s.members.filter (fun x => !p x)) := by
  obtain ⟨t, u, h₁, h₂, hwt, hwu, hit, hiu, hmt, hmu, hseq⟩ := MSet.partitionMatch_spec0 h p
  exact ⟨t, u, h₁, h₂, hwt, hwu, hit, hiu,
    equiv_of_mem_iff hwt.nodup (List.Pairwise.sublist List.filter_sublist h.nodup) hmt,
    equiv_of_mem_iff hwu.nodup (List.Pairwise.sublist List.filter_sublist h.nodup) hmu, hseq⟩

example : ∃ t u, exStable.partitionMatch (fun x => decide (x < 5)) = .ok (t, u) ∧ t.members = [1, 4] ∧ u.members = [5] := by
  obtain ⟨t, u, h, _, _, _, _, _, _, _, ho⟩ := C16_selectMatch_spec exStable_wf (fun x => decide (x < 5))
  exact ⟨t, u, h, (ho rfl).1, (ho rfl).2⟩

/-! ## set algebra with any number and mix of operand implementations -/

/-- `s.Union(sets...)`: a valid set of the receiver's implementation denoting `s ∪ ⋃ sets` -/
theorem C16_union_spec {α σ : Type} [DecidableEq α] {sh : Shuffle σ} (hsh : ShLaw sh) {s : MSet α} (h : WF0 s)
    (sets : List (MSet α)) (hsets : ∀ u ∈ sets, WF0 u) (g : σ) :
    ∃ t g', s.union sh sets g = .ok (t, g') ∧ WF0 t ∧ t.impl = s.impl ∧
      FSet.Equiv t.members (FSet.unionAll s.members (sets.map (·.members))) := by
  obtain ⟨t, g', h₁, hw, hi, hm⟩ := MSet.union_spec0 hsh h sets g
  refine ⟨t, g', h₁, hw, hi, equiv_of_mem_iff hw.nodup
    (FSet.valid_unionAll h.nodup (List.forall_mem_map.2 fun u hu => (hsets u hu).nodup)) (fun x => ?_)⟩
  rw [hm, FSet.mem_unionAll, exists_mem_map]

example : ∃ t g', exStable.union revShuffle [exUnordered, exDesc, exStable] () = .ok (t, g') ∧ WF0 t ∧
    t.impl = exStable.impl ∧
    FSet.Equiv t.members (FSet.unionAll exStable.members ([exUnordered, exDesc, exStable].map (·.members))) :=
  C16_union_spec revShuffle_law exStable_wf _ (forall_mem_triple exUnordered_wf exDesc_wf exStable_wf) _

/-- `s.Intersection(sets...)`: a valid set of the receiver's implementation denoting `s ∩ ⋂ sets` -/
theorem C16_intersection_spec {α : Type} [DecidableEq α] {s : MSet α} (h : WF0 s)
    (sets : List (MSet α)) (hsets : ∀ u ∈ sets, WF0 u) :
    ∃ t, s.intersection sets = .ok t ∧ WF0 t ∧ t.impl = s.impl ∧
      FSet.Equiv t.members (FSet.interAll s.members (sets.map (·.members))) := by
  obtain ⟨t, h₁, hw, hi, hm, _⟩ := MSet.intersection_spec0 h sets hsets
  refine ⟨t, h₁, hw, hi, equiv_of_mem_iff hw.nodup
    (List.Pairwise.sublist FSet.interAll_sublist h.nodup) (fun x => ?_)⟩
  rw [hm, FSet.mem_interAll, List.forall_mem_map]

example : ∃ t, exAsc.intersection [exStable, exUnordered] = .ok t ∧ WF0 t ∧ t.impl = exAsc.impl ∧
    FSet.Equiv t.members (FSet.interAll exAsc.members ([exStable, exUnordered].map (·.members))) :=
  C16_intersection_spec exAsc_wf _ (forall_mem_pair exStable_wf exUnordered_wf)

/-- `s.Difference(sets...)`: a valid set of the receiver's implementation whose member list is the
receiver's without the members of the operands, in the receiver's order -/
theorem C16_difference_spec {α σ : Type} [DecidableEq α] {sh : Shuffle σ} (hsh : ShLaw sh) {s : MSet α} (h : WF0 s)
    (sets : List (MSet α)) (g : σ) :
    ∃ t g', s.difference sh sets g = .ok (t, g') ∧ WF0 t ∧ t.impl = s.impl ∧
      t.members = FSet.diffAll s.members (sets.map (·.members)) :=
  MSet.difference_spec0 hsh h sets g

example : ∃ t g', exDesc.difference revShuffle [exUnordered, exDesc] () = .ok (t, g') ∧ WF0 t ∧
    t.impl = exDesc.impl ∧ t.members = FSet.diffAll exDesc.members ([exUnordered, exDesc].map (·.members)) :=
  C16_difference_spec revShuffle_law exDesc_wf _ _

/-- No operand is written, in any state.  `Model/C16.lean` re-runs
Union / Intersection / Difference on set objects that carry the identity and capacity of the backing
array of their member slice (`HSet`) and records every array written (`Store`), with Go's rules for
`make`, `copy`, `append` and re-slicing (capacity growth is an arbitrary function).  For any receiver and
operands — any implementations, any aliasing between them, any store — the call returns the same set as
the functional Model, and every array it writes was allocated by the call itself (`WritesOnlyFresh`): the
only object written is the `Clone`/`CloneEmpty` made at the start, whose array is new, and a reallocating
`append` moves it to another new array.  Hence no array reachable from the receiver, an operand or any
other existing set object is written.  What the other objects hold after the call, in the states a history can reach
— where no two objects share an array — is `C16_heap_history_owns` below; this theorem says less (which arrays are
written) of more states.  (That the Go code follows these rules is what the harness validates on
every run: every register other than the destination is compared with its `String()` snapshot after every
operation.) -/
theorem C16_algebra_writes_only_fresh_arrays {α σ : Type} {sh : Shuffle σ} (hsh : ShLaw sh) (grow : Nat → Nat)
    (s : HSet α) (hs : WF0 s.set) (sets : List (HSet α)) (hsets : ∀ u ∈ sets, WF0 u.set) (g : σ) (st : Store) :
    (∃ t g' st', s.union sh grow sets g st = .ok (t, g', st') ∧
        s.set.union sh (sets.map (·.set)) g = .ok (t.set, g') ∧ WritesOnlyFresh st st') ∧
    (∃ t st', s.intersection grow sets st = .ok (t, st') ∧
        s.set.intersection (sets.map (·.set)) = .ok t.set ∧ WritesOnlyFresh st st') ∧
    (∃ t g' st', s.difference sh sets g st = .ok (t, g', st') ∧
        s.set.difference sh (sets.map (·.set)) g = .ok (t.set, g') ∧ WritesOnlyFresh st st') := by
  classical
  have hsets' : ∀ u ∈ sets.map (·.set), WF0 u := List.forall_mem_map.2 hsets
  refine ⟨?_, ?_, ?_⟩
  · obtain ⟨r, g', h, _⟩ := MSet.union_spec0 hsh hs (sets.map (·.set)) g
    obtain ⟨t, st', e, ht, hf⟩ := HSet.union_fresh sh grow s sets g h st
    exact ⟨t, g', st', e, by rw [ht]; exact h, hf⟩
  · obtain ⟨r, h, _⟩ := MSet.intersection_spec0 hs (sets.map (·.set)) hsets'
    obtain ⟨t, st', e, ht, hf⟩ := HSet.intersection_fresh grow s sets h st
    exact ⟨t, st', e, by rw [ht]; exact h, hf⟩
  · obtain ⟨r, g', h, _⟩ := MSet.difference_spec0 hsh hs (sets.map (·.set)) g
    obtain ⟨t, st', e, ht, hf⟩ := HSet.difference_fresh sh s sets g h st
    exact ⟨t, g', st', e, by rw [ht]; exact h, hf⟩

/-- receiver and operand sharing one backing array (array 0, as after a hypothetical shallow copy), one
more operand: still only new arrays are written -/
example : ∃ t g' st', (HSet.mk exStable 0 3).difference revShuffle [HSet.mk exStable 0 3, HSet.mk exAsc 1 4] () ⟨2, []⟩
    = .ok (t, g', st') ∧ WritesOnlyFresh ⟨2, []⟩ st' := by
  obtain ⟨_, _, t, g', st', e, _, hf⟩ := C16_algebra_writes_only_fresh_arrays revShuffle_law (fun n => 2 * n)
    (HSet.mk exStable 0 3) exStable_wf [HSet.mk exStable 0 3, HSet.mk exAsc 1 4] (forall_mem_pair exStable_wf exAsc_wf) () ⟨2, []⟩
  exact ⟨t, g', st', e, hf⟩

/-! ## distinct set objects never share an array (the heap machine) -/

/-- `Model/C16.lean` (namespace `Hp`) runs the same operations on set
objects as Go has them: a slice header (`buf`, `len`; capacity = length of array `buf`) over a store of
arrays, with `make`/`copy` allocating, `append` overwriting the object's own array when the capacity
allows and moving to a new array otherwise, `Remove` shifting the tail down in place — so that two objects
sharing an array *would* disturb each other.  Start with any file of freshly constructed sets (each owns
its own empty array) and run any history — Add, Remove, RemoveAll, Clone, CloneEmpty, New, Union,
Intersection, Difference, SelectMatch, PartitionMatch with any operands, and all the reading operations —
with any lawful callbacks, any lawful shuffle and any growth rule: the heap machine never panics; in the
final state no two registers share an array (`Hp.Own`: hence a later mutation of a clone, of a
set-algebra result or of a source writes only that object's own array or a new one); and it is
observationally equal to the functional register machine — same observations, and every register's view of
the store is the functional machine's set value — which in turn refines the abstract finite sets
(`C16_history_refines`).  So no operation ever changes what another object holds. -/
theorem C16_heap_history_owns {α σ : Type} [DecidableEq α] {sh : Shuffle σ} (hsh : ShLaw sh) (grow : Nat → Nat)
    (impls : List (Impl α)) (himpls : ∀ impl ∈ impls, ImplLaw (fun _ => True) Eq impl)
    (ops : List (Op α)) (hops : ∀ op ∈ ops, op.Lawful) (g : σ) :
    ∃ regs' H' g' obs,
      Hp.runOps sh grow ops (Hp.initRegs 0 impls, Hp.initHeap impls, g) = .ok ((regs', H', g'), obs) ∧
      Hp.Own H' regs' ∧
      runOps sh ops (impls.map MSet.new, g) = .ok ((regs'.map (Hp.Obj.abs H'), g'), obs) ∧
      Rel (regs'.map (Hp.Obj.abs H')) (srun (ops.map Op.abs) (impls.map fun _ => FSet.empty)).1 ∧
      TraceRel obs (srun (ops.map Op.abs) (impls.map fun _ => FSet.empty)).2 := by
  obtain ⟨R', g', obs, h₁, h₂, h₃⟩ := C16_history_refines hsh impls himpls ops hops g
  have h₁' : runOps sh ops ((Hp.initRegs 0 impls).map (Hp.Obj.abs (Hp.initHeap impls)), g) = .ok ((R', g'), obs) := by
    rw [Hp.init_abs]; exact h₁
  obtain ⟨regs', H', e, hm, hown⟩ := Hp.runOps_sim sh grow ops (Hp.init_own impls) g h₁'
  subst hm
  exact ⟨regs', H', g', obs, e, hown, h₁, h₂, h₃⟩

/-- In any state in which no two registers share an array,
`Add(vals...)` and `Remove(vals...)` on the (valid) object in register `i` succeed on the heap machine, leave
the object in its old array or in a newly allocated one, and every other register keeps its slice header
valid, its view of the store — its members — unchanged, and an array different from the mutated object's;
`RemoveAll` gives the object a new array and changes no existing one. -/
theorem C16_mutators_touch_only_their_object {α : Type} (grow : Nat → Nat) {H : Hp.Heap α} {regs : List (Hp.Obj α)}
    (hown : Hp.Own H regs) {i : Nat} {o : Hp.Obj α} (hi : regs[i]? = some o) (hw : WF0 (o.abs H)) (vs : List α) :
    (∃ H' o', Hp.add grow H o vs = .ok (H', o') ∧ (o'.buf = o.buf ∨ H.size ≤ o'.buf) ∧
      ∀ j p, j ≠ i → regs[j]? = some p → Hp.Valid H' p ∧ p.view H' = p.view H ∧ p.buf ≠ o'.buf) ∧
    (∃ H' o', Hp.remove H o vs = .ok (H', o') ∧ (o'.buf = o.buf ∨ H.size ≤ o'.buf) ∧
      ∀ j p, j ≠ i → regs[j]? = some p → Hp.Valid H' p ∧ p.view H' = p.view H ∧ p.buf ≠ o'.buf) ∧
    (H.size ≤ (Hp.removeAll H o).2.buf ∧ Hp.Ext H (Hp.removeAll H o).1) := by
  have hvo := hown.1 o (List.mem_of_getElem? hi)
  have hne : ∀ j p, j ≠ i → regs[j]? = some p → Hp.Valid H p ∧ p.buf ≠ o.buf := by
    intro j p hji hj
    refine ⟨hown.1 p (List.mem_of_getElem? hj), ?_⟩
    exact Hp.nodup_getElem?_ne hown.2 (by rw [List.getElem?_map, hj]; rfl) (by rw [List.getElem?_map, hi]; rfl) hji
  refine ⟨?_, ?_, ?_⟩
  · obtain ⟨s', hs, _⟩ := MSet.add_wf eq_equivalence hw vs fun _ _ => trivial
    obtain ⟨H', o', e, tr⟩ := Hp.add_trans grow vs hvo hs
    exact ⟨H', o', e, tr.buf, fun j p hji hj => tr.other (hne j p hji hj).1 (hne j p hji hj).2⟩
  · obtain ⟨s', hs, _⟩ := MSet.remove_wf eq_equivalence hw vs fun _ _ => trivial
    obtain ⟨H', o', e, tr⟩ := Hp.remove_trans vs hvo hs
    exact ⟨H', o', e, tr.buf, fun j p hji hj => tr.other (hne j p hji hj).1 (hne j p hji hj).2⟩
  · obtain ⟨_, _, _, hb, hext⟩ := Hp.fresh_spec H o.impl [] []
    exact ⟨by simp only [Hp.removeAll]; rw [hb]; exact Nat.le_refl _, hext⟩

example : ∃ regs' H' g' obs,
    Hp.runOps revShuffle (fun n => n) [.add 0 [3, 1, 2], .clone 1 0, .remove 1 [1], .add 1 [9], .remove 0 [3], .union 2 0 [1]]
      (Hp.initRegs 0 [Impl.stable Driver.eqI, .stable Driver.eqI, .sorted Driver.cmpSub],
        Hp.initHeap [Impl.stable Driver.eqI, .stable Driver.eqI, .sorted Driver.cmpSub], ()) =
        .ok ((regs', H', g'), obs) ∧ Hp.Own H' regs' := by
  obtain ⟨r, H', g, o, h, hown, _⟩ := C16_heap_history_owns revShuffle_law (fun n => n)
    [Impl.stable Driver.eqI, .stable Driver.eqI, .sorted Driver.cmpSub]
    (forall_mem_triple eqI_law eqI_law cmpSub_law)
    [.add 0 [3, 1, 2], .clone 1 0, .remove 1 [1], .add 1 [9], .remove 0 [3], .union 2 0 [1]]
    (by intro op h; simp at h; rcases h with rfl | rfl | rfl | rfl | rfl | rfl <;> trivial) ()
  exact ⟨r, H', g, o, h, hown⟩

/-- the stable set iterates in insertion order: `All()` yields the stored sequence (no shuffle), `Add`
appends each new value (`Seq.insertAll`), `Remove` deletes in place (`Seq.eraseAll`), `Union` is the
receiver's sequence followed, operand by operand, by the values not yet present in the order the operand's
`All()` yields them (`YieldsOf`: its stored sequence, or some permutation of it for an unordered operand),
`Intersection`/`Difference` are the receiver's sequence filtered.
(Stated for every implementation that is not `sorted`, i.e. also for the slice inside the unordered set.) -/
theorem C16_stable_insertion_order {α σ : Type} [DecidableEq α] {sh : Shuffle σ} (hsh : ShLaw sh) {s : MSet α}
    (h : WF0 s) (hl : s.impl.isSorted = false) (vs : List α) (sets : List (MSet α)) (hsets : ∀ u ∈ sets, WF0 u) (g : σ) :
    (s.impl.isUnordered = false → s.all sh g = .ok (s.members, g)) ∧
    (∃ s', s.add vs = .ok s' ∧ s'.members = Seq.insertAll s.members vs) ∧
    (∃ s', s.remove vs = .ok s' ∧ s'.members = Seq.eraseAll s.members vs) ∧
    (∃ t g' yields, s.union sh sets g = .ok (t, g') ∧ YieldsOf yields sets ∧
      t.members = FSet.unionAll s.members yields) ∧
    (∃ t, s.intersection sets = .ok t ∧ t.members = FSet.interAll s.members (sets.map (·.members))) ∧
    (∃ t g', s.difference sh sets g = .ok (t, g') ∧ t.members = FSet.diffAll s.members (sets.map (·.members))) := by
  refine ⟨?_, ?_, ?_, ?_, ?_, ?_⟩
  · intro hu
    obtain ⟨ms, g', h₁, _, hord⟩ := MSet.all_spec hsh s g
    obtain ⟨rfl, rfl⟩ := hord hu
    exact h₁
  · obtain ⟨s', h₁, _, _, _, hseq⟩ := MSet.add_spec0 h vs
    exact ⟨s', h₁, hseq hl⟩
  · obtain ⟨s', h₁, _, _, hm⟩ := MSet.remove_spec0 h vs
    exact ⟨s', h₁, hm⟩
  · exact MSet.union_seq0 hsh h hl sets hsets g
  · obtain ⟨t, h₁, _, _, _, hseq⟩ := MSet.intersection_spec0 h sets hsets
    exact ⟨t, h₁, hseq hl⟩
  · obtain ⟨t, g', h₁, _, _, hm⟩ := C16_difference_spec hsh h sets g
    exact ⟨t, g', h₁, hm⟩

example : ∃ t g' yields, exStable.union revShuffle [exUnordered, exAsc] () = .ok (t, g') ∧
    YieldsOf yields [exUnordered, exAsc] ∧ t.members = FSet.unionAll exStable.members yields :=
  (C16_stable_insertion_order revShuffle_law exStable_wf rfl [] [exUnordered, exAsc] (forall_mem_pair exUnordered_wf exAsc_wf) ()).2.2.2.1

/-- the sorted set iterates in comparator order, for any lawful comparator: the stored sequence is
strictly ascending for `compare` in every reachable state — initially and after `Add`, `Remove`, `Union`,
`Intersection`, `Difference` with any operands — and `All()` yields exactly that sequence. -/
theorem C16_sorted_comparator_order {α σ : Type} {sh : Shuffle σ} (hsh : ShLaw sh) {s : MSet α} {compare : CompareFunc α}
    (h : WF0 s) (hi : s.impl = .sorted compare) (vs : List α) (sets : List (MSet α)) (hsets : ∀ u ∈ sets, WF0 u) (g : σ) :
    SortedBy compare s.members ∧ s.all sh g = .ok (s.members, g) ∧
    (∃ s', s.add vs = .ok s' ∧ SortedBy compare s'.members) ∧
    (∃ s', s.remove vs = .ok s' ∧ SortedBy compare s'.members) ∧
    (∃ t g', s.union sh sets g = .ok (t, g') ∧ SortedBy compare t.members) ∧
    (∃ t, s.intersection sets = .ok t ∧ SortedBy compare t.members) ∧
    (∃ t g', s.difference sh sets g = .ok (t, g') ∧ SortedBy compare t.members) := by
  classical
  refine ⟨h.sorted compare hi, ?_, ?_, ?_, ?_, ?_, ?_⟩
  · obtain ⟨ms, g', h₁, _, hord⟩ := MSet.all_spec hsh s g
    obtain ⟨rfl, rfl⟩ := hord (by rw [hi]; rfl)
    exact h₁
  · obtain ⟨s', h₁, hw, hi', _⟩ := MSet.add_spec0 h vs
    exact ⟨s', h₁, hw.sorted compare (hi'.trans hi)⟩
  · obtain ⟨s', h₁, hw, hi', _⟩ := MSet.remove_spec0 h vs
    exact ⟨s', h₁, hw.sorted compare (hi'.trans hi)⟩
  · obtain ⟨t, g', h₁, hw, hi', _⟩ := MSet.union_spec0 hsh h sets g
    exact ⟨t, g', h₁, hw.sorted compare (hi'.trans hi)⟩
  · obtain ⟨t, h₁, hw, hi', _⟩ := MSet.intersection_spec0 h sets hsets
    exact ⟨t, h₁, hw.sorted compare (hi'.trans hi)⟩
  · obtain ⟨t, g', h₁, hw, hi', _⟩ := MSet.difference_spec0 hsh h sets g
    exact ⟨t, g', h₁, hw.sorted compare (hi'.trans hi)⟩

example : SortedBy Driver.cmpDesc exDesc.members :=
  (C16_sorted_comparator_order revShuffle_law exDesc_wf rfl [] [] (by simp) ()).1

/-- `Powerset(s)` returns (without panicking, and with recursion depth `Size()+1`) a set of set objects in
which every member is a valid subset of `s`, every subset of `s` — given as an arbitrary predicate on
the members — occurs, no two members denote the same set, and there are exactly `2^n` of them. -/
theorem C16_powerset_exact {α σ : Type} {sh : Shuffle σ} (hsh : ShLaw sh) {s : MSet α} (h : WF0 s) (g : σ) :
    ∃ PS g', s.powerset sh g = .ok (PS, g') ∧
      (∀ T ∈ PS.members, WF0 T ∧ ∀ x ∈ T.members, x ∈ s.members) ∧
      (∀ p : α → Prop, ∃ T ∈ PS.members, ∀ x, x ∈ T.members ↔ x ∈ s.members ∧ p x) ∧
      PS.members.Pairwise (fun A B => ¬ ∀ x, x ∈ A.members ↔ x ∈ B.members) ∧
      PS.members.length = 2 ^ s.members.length := by
  obtain ⟨PS, g', h₁, hspec⟩ := powerset_spec hsh (s.members.length + 1) s h g (by omega)
  exact ⟨PS, g', h₁, fun T hT => ⟨hspec.wf.mem_dom T hT, hspec.sound T hT⟩, hspec.complete, hspec.wf.nodup, hspec.card⟩

example : ∃ PS g', exAsc.powerset revShuffle () = .ok (PS, g') ∧ PS.members.length = 2 ^ 3 := by
  obtain ⟨PS, g', h, _, _, _, hc⟩ := C16_powerset_exact revShuffle_law exAsc_wf ()
  exact ⟨PS, g', h, hc⟩

/-- `Partitions(s)` returns (without panicking, and with recursion depth `Size()+1`) a set of partition
objects such that: every member is a partition of `s` (non-empty, duplicate-free, pairwise disjoint blocks
covering exactly the members of `s`); every partition of `s` — given as an arbitrary list of blocks —
occurs; no two members consist of the same blocks; and their number is the Bell number `bell n`
(`Spec.bell`, defined through the recurrence of the Stirling numbers of the second kind; in fact the number
of members with `k` blocks is `stirling2 n k`). -/
theorem C16_partitions_exact {α σ : Type} {sh : Shuffle σ} (hsh : ShLaw sh) {s : MSet α} (h : WF0 s) (g : σ) :
    ∃ Ps g', s.partitions sh g = .ok (Ps, g') ∧
      (∀ P ∈ Ps.members, IsPartition (P.members.map (·.members)) s.members) ∧
      (∀ F : List (List α), IsPartition F s.members →
        ∃ P ∈ Ps.members, SameFamily (P.members.map (·.members)) F) ∧
      Ps.members.Pairwise (fun P Q => ¬ SameFamily (P.members.map (·.members)) (Q.members.map (·.members))) ∧
      Ps.members.length = bell s.members.length ∧
      (∀ k, (Ps.members.filter (fun P => P.members.length == k)).length = stirling2 s.members.length k) := by
  obtain ⟨Ps, g', h₁, hspec⟩ := partitions_spec hsh (s.members.length + 1) s h g (by omega)
  refine ⟨Ps, g', h₁, fun P hP => (hspec.sound P hP).isPartition, fun F hF => ?_, ?_, ?_, ?_⟩
  · obtain ⟨P, hP, hrel⟩ := hspec.complete F hF
    exact ⟨P, hP, sameFamily_of_sameBlock (hspec.sound P hP) hF hrel⟩
  · refine List.Pairwise.imp ?_ hspec.wf.nodup
    intro P Q hne hsame
    exact hne ((famEq_iff_sameFamily P Q).2 hsame)
  · rw [length_eq_sumTo (fun P : MSet (MSet α) => P.members.length) (s.members.length + 1) Ps.members
      (fun P hP => Nat.lt_succ_of_le (hspec.blocks_le P hP))]
    exact sumTo_congr _ (fun k _ => hspec.count k)
  · intro k
    rw [← List.countP_eq_length_filter]
    exact hspec.count k

example : ∃ Ps g', exUnordered.partitions revShuffle () = .ok (Ps, g') ∧
    ∃ P ∈ Ps.members, SameFamily (P.members.map (·.members)) [[3, 4], [1]] := by
  obtain ⟨Ps, g', h, _, hc, _⟩ := C16_partitions_exact revShuffle_law exUnordered_wf ()
  refine ⟨Ps, g', h, hc _ ⟨by decide, by decide, fun x => ?_⟩⟩
  simp only [exUnordered, List.mem_cons, List.not_mem_nil, or_false, exists_eq_or_imp, exists_eq_left]
  omega

example : ∃ Ps g', exUnordered.partitions revShuffle () = .ok (Ps, g') ∧ Ps.members.length = 5 := by
  obtain ⟨Ps, g', h, _, _, _, hn, _⟩ := C16_partitions_exact revShuffle_law exUnordered_wf ()
  exact ⟨Ps, g', h, hn⟩

/-! ## the `format` field (`New…WithFormat`, `String()`)

`Model/C16X.lean` adds the third field of the Go structs — `format`, an arbitrary function from the member slice
to a string, read only by `String()` — to the set objects (`FmtSet`), and to the register machine the
constructors with initial values and a format and `String()` (`stepX`, `runX`).  The property does not mention
`String()`; what it needs is that the constructors with a format build the same sets and that the format can
never influence a member slice.  That is what is proved here, together with where the format goes. -/

/-- `NewWithFormat` / `NewStableWithFormat` / `NewSortedWithFormat(callback, format, vals...)` with any format
function and any initial values (repeats too) builds the very set object `New` / `NewStable` / `NewSorted(callback,
vals...)` builds — a valid set denoting the values (`C16_newWith_refines`) — and differs from it only in the
`format` field: its `String()` is `format` applied to the member slice as stored, that of the plain
constructors' result is `format.go`'s `{a, b, c}`. -/
theorem C16_newWithFormat_refines {α : Type} [DecidableEq α] {impl : Impl α} (hl : ImplLaw (fun _ => True) Eq impl)
    (format : StringFormat α) (pv : α → String) (vals : List α) :
    ∃ s, MSet.newWith impl vals = .ok s ∧
      FmtSet.newWithFormat impl format vals = .ok ⟨s, format⟩ ∧
      FmtSet.new pv impl vals = .ok ⟨s, defaultStringFormat pv⟩ ∧
      WF0 s ∧ s.impl = impl ∧ FSet.Equiv s.members (FSet.insertAll FSet.empty vals) ∧
      (FmtSet.mk s format).string = format s.members ∧
      (FmtSet.mk s (defaultStringFormat pv)).string = s.string pv := by
  obtain ⟨s, h₁, hw, hi, he⟩ := C16_newWith_refines hl vals
  have h₂ : (MSet.new impl).add vals = .ok s := h₁
  refine ⟨s, h₁, ?_, ?_, hw, hi, he, rfl, rfl⟩
  · simp [FmtSet.newWithFormat, FmtSet.add, h₂]
  · simp [FmtSet.new, FmtSet.add, h₂]

example : ∃ s, FmtSet.newWithFormat (.sorted Driver.cmpDesc) (fun ms => toString ms.length) [5, 2, 5, 7] = .ok ⟨s, fun ms => toString ms.length⟩ ∧
    WF0 s ∧ FSet.Equiv s.members (FSet.insertAll FSet.empty [5, 2, 5, 7]) := by
  obtain ⟨s, _, h, _, hw, _, he, _⟩ := C16_newWithFormat_refines (impl := .sorted Driver.cmpDesc) cmpDesc_law
    (fun ms => toString ms.length) Driver.pvI [5, 2, 5, 7]
  exact ⟨s, h, hw, he⟩

/-- The format of a result is the receiver's.  `Clone` and `CloneEmpty` copy the format; `Add`, `Remove`,
`RemoveAll` keep it; `Union`, `Intersection`, `Difference` (any number of operands carrying any formats),
`SelectMatch` and `PartitionMatch` return objects with the receiver's format.  Each of these calls computes the
member slice the functional Model computes (`C16_format_is_ghost_state`), so together with the theorems above:
`String()` of a result is the receiver's format applied to the set the set-algebra theorems describe. -/
theorem C16_format_of_result_is_receivers {α σ : Type} (sh : Shuffle σ) (s : FmtSet α) (sets : List (FmtSet α))
    (vs : List α) (p : α → Bool) (g : σ) :
    s.clone.format = s.format ∧ s.cloneEmpty.format = s.format ∧ s.removeAll.format = s.format ∧
    (∀ t, s.add vs = .ok t → t.format = s.format) ∧
    (∀ t, s.remove vs = .ok t → t.format = s.format) ∧
    (∀ t g', s.union sh sets g = .ok (t, g') → t.format = s.format) ∧
    (∀ t, s.intersection sets = .ok t → t.format = s.format) ∧
    (∀ t g', s.difference sh sets g = .ok (t, g') → t.format = s.format) ∧
    (∀ t, s.selectMatch p = .ok t → t.format = s.format) ∧
    (∀ t u, s.partitionMatch p = .ok (t, u) → t.format = s.format ∧ u.format = s.format) :=
  ⟨rfl, rfl, rfl, fun _ h => FmtSet.add_format h, fun _ h => FmtSet.remove_format h,
    fun _ _ h => FmtSet.union_format h, fun _ h => FmtSet.intersection_format h,
    fun _ _ h => FmtSet.difference_format h, fun _ h => FmtSet.selectMatch_format h,
    fun _ _ h => FmtSet.partitionMatch_format h⟩

/-- a stable receiver made with a custom format, operands with two other formats: the union prints in the
receiver's -/
example : ∃ t g', (FmtSet.mk exStable (fun ms => "<" ++ toString ms.length ++ ">")).union revShuffle
      [⟨exUnordered, defaultStringFormat Driver.pvI⟩, ⟨exDesc, fun _ => "?"⟩] () = .ok (t, g') ∧
    t.string = "<" ++ toString t.set.members.length ++ ">" ∧
    FSet.Equiv t.set.members (FSet.unionAll exStable.members [exUnordered.members, exDesc.members]) := by
  obtain ⟨t, g', h, _, _, he⟩ := C16_union_spec revShuffle_law exStable_wf [exUnordered, exDesc] (forall_mem_pair exUnordered_wf exDesc_wf) ()
  have hx := FmtSet.union_set revShuffle (FmtSet.mk exStable (fun ms => "<" ++ toString ms.length ++ ">"))
    [⟨exUnordered, defaultStringFormat Driver.pvI⟩, ⟨exDesc, fun _ => "?"⟩] ()
  simp only [List.map_cons, List.map_nil] at hx
  rw [h] at hx
  obtain ⟨⟨t', g''⟩, hu, e⟩ := Outcome.map_eq_ok hx
  cases e
  exact ⟨t', g'', hu, by simp only [FmtSet.string, FmtSet.union_format hu], he⟩

/-- The format is ghost state.  For any shuffle, any `%v`, any state of the register machine with formats
(any set objects carrying any format functions) and any operation, forgetting the formats and the `String()`
column of the step gives exactly the step of the functional register machine on the state with the formats
forgotten — same outcome (ok / panic / diverge), same registers, same shuffle state, same observation.  And for
every history, including the constructors with initial values and a format and `String()` calls
(`OpX.lower`: such a constructor is `New` followed by `Add(vals...)`, `String()` is no operation), the final
state with the formats forgotten is the final state of the functional machine.  Hence no format function can
influence a member slice, and every theorem of this file about histories of the functional Model is a theorem
about histories of sets with formats. -/
theorem C16_format_is_ghost_state {α σ : Type} (sh : Shuffle σ) (pv : α → String) (st : StateX α σ) :
    (∀ op : Op α, (stepX sh pv st (.base op)).map (fun r => (eraseX r.1, r.2.1)) = stepOp sh (eraseX st) op) ∧
    (∀ ops : List (OpX α), (runX sh pv ops st).map (fun r => eraseX r.1) =
      (runOps sh (ops.flatMap OpX.lower) (eraseX st)).map (·.1)) :=
  ⟨stepX_erase sh pv st, fun ops => runX_lower sh pv ops st⟩

/-- Start from any file of freshly constructed sets of any mix
of the three implementations (lawful callbacks), each with any format function, and run any list of operations —
those of `C16_history_refines`, the constructors `New…(callback, vals...)` and `New…WithFormat(callback, format,
vals...)` with any format function, and `String()` — with any lawful shuffle: the machine never panics or
diverges, and in the final state every register holds a valid set object denoting the abstract set the lowered
history computes on `Spec.srun`. -/
theorem C16_history_with_formats_refines {α σ : Type} [DecidableEq α] {sh : Shuffle σ} (hsh : ShLaw sh) (pv : α → String)
    (init : List (Impl α × StringFormat α)) (hinit : ∀ p ∈ init, ImplLaw (fun _ => True) Eq p.1)
    (ops : List (OpX α)) (hops : ∀ op ∈ ops.flatMap OpX.lower, op.Lawful) (g : σ) :
    ∃ st' out, runX sh pv ops (init.map (fun p => ⟨MSet.new p.1, p.2⟩), g) = .ok (st', out) ∧
      Rel (st'.1.map (·.set)) (srun ((ops.flatMap OpX.lower).map Op.abs) (init.map fun _ => FSet.empty)).1 := by
  obtain ⟨regs', g', obs, h₁, h₂, _⟩ := C16_history_refines hsh (init.map (·.1))
    (List.forall_mem_map.2 hinit)
    (ops.flatMap OpX.lower) hops g
  have he := runX_lower sh pv ops (init.map (fun p => (⟨MSet.new p.1, p.2⟩ : FmtSet α)), g)
  have hst : eraseX (init.map (fun p => (⟨MSet.new p.1, p.2⟩ : FmtSet α)), g) = ((init.map (·.1)).map MSet.new, g) := by
    simp [eraseX, List.map_map, Function.comp_def]
  rw [hst, h₁] at he
  simp only [List.map_map, Function.comp_def] at h₂
  obtain ⟨r, hx, e⟩ := Outcome.map_eq_ok he
  refine ⟨r.1, r.2, hx, ?_⟩
  have : r.1.1.map (·.set) = regs' := congrArg (·.1) e
  rw [this]
  exact h₂

example : ∃ st' out,
    runX revShuffle Driver.pvI
      [.newWithFormat 0 (.unordered Driver.eqI) (fun ms => toString ms.length) [3, 1, 3], .base (.add 1 [1, 2]),
        .base (.union 2 0 [1, 0]), .string 2, .base (.equal 2 1)]
      ([(Impl.unordered Driver.eqI, defaultStringFormat Driver.pvI), (.sorted Driver.cmpDesc, fun _ => "x"),
        (.stable Driver.eqI, defaultStringFormat Driver.pvI)].map (fun p => ⟨MSet.new p.1, p.2⟩), ()) = .ok (st', out) := by
  obtain ⟨st', out, h, _⟩ := C16_history_with_formats_refines revShuffle_law Driver.pvI
    [(Impl.unordered Driver.eqI, defaultStringFormat Driver.pvI), (.sorted Driver.cmpDesc, fun _ => "x"),
      (.stable Driver.eqI, defaultStringFormat Driver.pvI)]
    (forall_mem_triple eqI_law cmpDesc_law eqI_law)
    [.newWithFormat 0 (.unordered Driver.eqI) (fun ms => toString ms.length) [3, 1, 3], .base (.add 1 [1, 2]),
      .base (.union 2 0 [1, 0]), .string 2, .base (.equal 2 1)]
    (by intro op h; simp [OpX.lower] at h; rcases h with rfl | rfl | rfl | rfl | rfl
        · exact eqI_law
        all_goals trivial) ()
  exact ⟨st', out, h⟩

/-- `Powerset(s)` / `Partitions(s)` of a set with a format, as `Model/C16X.lean` has them: the member sets
(blocks) are exactly those of the functional Model (so `C16_powerset_exact` / `C16_partitions_exact` describe
them), each carrying the format of `s`; the containers carry the default format over the members' own
`String()`.  (In the Model this is how the formats are attached — the rule follows from the Go code building
every member by `s.CloneEmpty()`, `head.Clone()`, `head.Union(…)`, cf. `C16_format_of_result_is_receivers`;
it is compared with `Powerset(s).String()` / `Partitions(s).String()` of the Go code on every run.) -/
theorem C16_format_of_powerset_members {α σ : Type} (sh : Shuffle σ) (s : FmtSet α) (g : σ) :
    (∀ PS g', s.powerset sh g = .ok (PS, g') →
      (∃ PS₀, s.set.powerset sh g = .ok (PS₀, g') ∧ PS.set.members.map (·.set) = PS₀.members) ∧
      (∀ T ∈ PS.set.members, T.format = s.format) ∧ PS.format = defaultStringFormat FmtSet.string) ∧
    (∀ Ps g', s.partitions sh g = .ok (Ps, g') →
      (∃ Ps₀, s.set.partitions sh g = .ok (Ps₀, g') ∧
        Ps.set.members.map (fun P => P.set.members.map (·.set)) = Ps₀.members.map (·.members)) ∧
      (∀ P ∈ Ps.set.members, P.format = defaultStringFormat FmtSet.string ∧ ∀ B ∈ P.set.members, B.format = s.format) ∧
      Ps.format = defaultStringFormat FmtSet.string) := by
  refine ⟨?_, ?_⟩
  · intro PS g' h
    obtain ⟨⟨PS₀, g₀⟩, hp, e⟩ := bind_eq_ok h
    cases e
    exact ⟨⟨PS₀, hp, by simp [List.map_map, Function.comp_def]⟩, List.forall_mem_map.2 fun _ _ => rfl, rfl⟩
  · intro Ps g' h
    obtain ⟨⟨Ps₀, g₀⟩, hp, e⟩ := bind_eq_ok h
    cases e
    exact ⟨⟨Ps₀, hp, by simp [List.map_map, Function.comp_def]⟩,
      List.forall_mem_map.2 fun _ _ => ⟨rfl, List.forall_mem_map.2 fun _ _ => rfl⟩, rfl⟩

example : ∃ PS g', (FmtSet.mk exAsc (fun ms => toString ms.length)).powerset revShuffle () = .ok (PS, g') ∧
    PS.set.members.length = 2 ^ 3 ∧ ∀ T ∈ PS.set.members, T.string = toString T.set.members.length := by
  obtain ⟨PS₀, g', h, _, _, _, hc⟩ := C16_powerset_exact revShuffle_law exAsc_wf ()
  have hx : (FmtSet.mk exAsc (fun ms => toString ms.length)).powerset revShuffle () =
      .ok (⟨⟨.unordered fmtSetEqFunc, PS₀.members.map fun m => ⟨m, fun ms => toString ms.length⟩⟩,
        defaultStringFormat FmtSet.string⟩, g') := by
    simp [FmtSet.powerset, h]
  refine ⟨_, g', hx, by simp only [List.length_map]; exact hc, ?_⟩
  intro T hT
  have := ((C16_format_of_powerset_members revShuffle (FmtSet.mk exAsc (fun ms => toString ms.length)) ()).1 _ _ hx).2.1 T hT
  simp only [FmtSet.string, this]

/-! ## one call per value = one variadic call; a traversal changes no set

The threshold families of the correspondence build and shrink sets both ways (`addseq`/`removeseq`: one `Add` /
`Remove` call per value, `addvar`/`removevar`: one variadic call) and use iterators in the ways a `for range`
loop does not (`all2`, `allnest`, `allpull`, `allbreak` of `Driver/C16.lean`, all compositions of `stepOp (.all i)`). -/

/-- `for _, v := range vs { s.Add(v) }` is `s.Add(vs...)` — for every implementation and every callback (lawful or
not), the panicking and the diverging outcomes included -/
theorem C16_add_one_by_one {α : Type} (s : MSet α) (vs : List α) : addEach s vs = s.add vs :=
  addEach_eq_add s vs

example : addEach exAsc [4, 1, 0, 4] = exAsc.add [4, 1, 0, 4] ∧
    (exAsc.add [4, 1, 0, 4]).map (·.members) = .ok [0, 1, 3, 4, 5] :=
  ⟨C16_add_one_by_one _ _, by decide +kernel⟩

/-- `for _, v := range vs { s.Remove(v) }` is `s.Remove(vs...)` -/
theorem C16_remove_one_by_one {α : Type} (s : MSet α) (vs : List α) : removeEach s vs = s.remove vs :=
  removeEach_eq_remove s vs

example : removeEach exStable [4, 9, 5] = exStable.remove [4, 9, 5] ∧
    (exStable.remove [4, 9, 5]).map (·.members) = .ok [1] :=
  ⟨C16_remove_one_by_one _ _, by decide +kernel⟩

/-- `All()` — run to the end or abandoned, once or twice, nested in or interleaved with another traversal — leaves
every set object as it is: the only state it touches is the shuffle source -/
theorem C16_all_changes_no_set {α σ : Type} (sh : Shuffle σ) (regs regs' : List (MSet α)) (g g' : σ) (i : Nat)
    (obs : Obs α) (h : stepOp sh (regs, g) (.all i) = .ok ((regs', g'), obs)) : regs' = regs :=
  stepOp_read_regs sh _ (.all i) trivial _ h

example : (stepOp revShuffle ([exUnordered, exAsc], ()) (.all 0)).isOk = true ∧
    ∀ regs' g' obs, stepOp revShuffle ([exUnordered, exAsc], ()) (.all 0) = .ok ((regs', g'), obs) →
      regs' = [exUnordered, exAsc] :=
  ⟨by decide +kernel, fun _ _ _ h => C16_all_changes_no_set _ _ _ _ _ _ _ h⟩

/-- a sequence is a handle on its set (`Model/C16.lean`, `Seq`; DESIGN.md §2, D29).  Obtaining it changes
nothing and draws nothing.  Running it in ANY later state — after any `Add`/`Remove`/`RemoveAll`, after other
traversals, for the second time — never fails, changes no register, and lists exactly the members the set object
has WHEN IT IS RUN, each once: for the stable and the sorted set in their order and without touching the shuffle
source, for the unordered set in the order of one fresh draw -/
theorem C16_seq_run_lists_members_at_run_time {α σ : Type} {sh : Shuffle σ} (hsh : ShLaw sh)
    (st₀ st : RegState α σ) (i : Nat) (s : MSet α) (hs : st.1[i]? = some s) :
    (obtainAll st₀ i).1 = st₀ ∧
    ∃ ms g', (obtainAll st₀ i).2.run sh st = .ok ((st.1, g'), .elems ms) ∧ FSet.Equiv ms s.members ∧
      (s.impl.isUnordered = false → ms = s.members ∧ g' = st.2) := by
  refine ⟨rfl, ?_⟩
  obtain ⟨ms, g', h, hp, ho⟩ := MSet.all_spec hsh s st.2
  refine ⟨ms, g', ?_, hp, ho⟩
  simp only [Seq.run, obtainAll, stepOp, hs, h, bind, Outcome.bind]
  rfl

/-- the D29 history: `seq := s.All()` on {4, 1, 3}, `s.Remove(4, 1)`, then the run — it lists [3] -/
example : ∃ st g', stepOp revShuffle ([exUnordered, exAsc], ()) (.remove 0 [4, 1]) = .ok (st, .unit) ∧
    (obtainAll ([exUnordered, exAsc], ()) 0).2.run revShuffle st = .ok ((st.1, g'), .elems [3]) := by
  exact ⟨([⟨exUnordered.impl, [3]⟩, exAsc], ()), (), rfl, rfl⟩

/-! ## the methods GENERATED from `set/set.go`, `set/stable.go` and `set/sorted.go`

`AlgoVerif.Generated.Set.*` (file `Generated/C16Gen.lean`) is produced from `/repo/set/{set,stable,sorted}.go` by the
translator `/verif/extract/go2lean` on every run of this check (`bin/pre-C16`; scheme, subset and what is trusted: header
of `extract/go2lean/main.go`).  First the single-set methods of `set` and `stable`: `find`, `Contains`, `Add`, `Remove`,
`RemoveAll`, `Clone`, `CloneEmpty`, `Size`, `IsEmpty`, `AnyMatch`, `AllMatch`, `FirstMatch` (`String` only applies the
format callback).  `Gen.toM` / `Gen.toM_st` read a generated object as the hand Model's; the callback is a pure
function, as the translator assumes of every function value.  `C16_generated_*_refines`: the generated method and the
hand Model's compute the same outcome for EVERY object, callback and argument list (no invariant assumed).
`C16_generated_add` … restate the C16 facts for valid objects. -/

open AlgoVerif.Generated AlgoVerif.C16.Gen

theorem C16_generated_set_refines {α : Type} [Inhabited α] (s : Set.set α) (vals : Array α) (v : α) (p : α → Bool) :
    Set.set.find s v = (toM s).find v ∧
    Set.set.Contains s vals = (toM s).contains vals.toList ∧
    (Set.set.Add s vals).map toM = (toM s).add vals.toList ∧
    (Set.set.Remove s vals).map toM = (toM s).remove vals.toList ∧
    (Set.set.RemoveAll s).map toM = .ok (toM s).removeAll ∧
    (Set.set.Clone s).map toM = .ok (toM s).clone ∧
    (Set.set.CloneEmpty s).map toM = .ok (toM s).cloneEmpty ∧
    Set.set.Size s = (toM s).size ∧ Set.set.IsEmpty s = (toM s).isEmpty ∧
    Set.set.AnyMatch s p = .ok ((toM s).anyMatch p) ∧
    Set.set.AllMatch s p = .ok ((toM s).allMatch p) ∧
    (Set.set.FirstMatch s p).map optOf = .ok ((toM s).firstMatch p) :=
  ⟨find_eq s v, Contains_eq s vals, Add_eq s vals, Remove_eq s vals, rfl, congrArg (Outcome.map toM) (Clone_ok s), rfl,
    rfl, Go.natCast_beq_zero _, AnyMatch_eq s p, AllMatch_eq s p, FirstMatch_eq s p⟩

theorem C16_generated_stable_refines {α : Type} [Inhabited α] (s : Set.stable α) (vals : Array α) (v : α) (p : α → Bool) :
    Set.stable.find s v = (toM_st s).find v ∧
    Set.stable.Contains s vals = (toM_st s).contains vals.toList ∧
    (Set.stable.Add s vals).map toM_st = (toM_st s).add vals.toList ∧
    (Set.stable.Remove s vals).map toM_st = (toM_st s).remove vals.toList ∧
    (Set.stable.RemoveAll s).map toM_st = .ok (toM_st s).removeAll ∧
    (Set.stable.Clone s).map toM_st = .ok (toM_st s).clone ∧
    (Set.stable.CloneEmpty s).map toM_st = .ok (toM_st s).cloneEmpty ∧
    Set.stable.Size s = (toM_st s).size ∧ Set.stable.IsEmpty s = (toM_st s).isEmpty ∧
    Set.stable.AnyMatch s p = .ok ((toM_st s).anyMatch p) ∧
    Set.stable.AllMatch s p = .ok ((toM_st s).allMatch p) ∧
    (Set.stable.FirstMatch s p).map optOf = .ok ((toM_st s).firstMatch p) :=
  ⟨find_eq_st s v, Contains_eq_st s vals, Add_eq_st s vals, Remove_eq_st s vals, rfl,
    congrArg (Outcome.map toM_st) (Clone_ok_st s), rfl, rfl, Go.natCast_beq_zero _, AnyMatch_eq_st s p, AllMatch_eq_st s p,
    FirstMatch_eq_st s p⟩

/-- `Add(vals...)` of a valid `set` object, on the generated method: it returns, the result is valid and denotes the
old set with the values inserted -/
theorem C16_generated_add {α : Type} [Inhabited α] [DecidableEq α] (s : Set.set α) (h : WF0 (toM s)) (vals : Array α) :
    ∃ s', Set.set.Add s vals = .ok s' ∧ WF0 (toM s') ∧
      FSet.Equiv s'.members.toList (FSet.insertAll s.members.toList vals.toList) := by
  obtain ⟨m', h1, hw, -, he⟩ := C16_add_refines h vals.toList
  obtain ⟨s', hs, rfl⟩ := Outcome.map_eq_ok ((Add_eq s vals).trans h1)
  exact ⟨s', hs, hw, he⟩

/-- `Remove(vals...)` of a valid `set` object, on the generated method: the members without the values, in order -/
theorem C16_generated_remove {α : Type} [Inhabited α] [DecidableEq α] (s : Set.set α) (h : WF0 (toM s)) (vals : Array α) :
    ∃ s', Set.set.Remove s vals = .ok s' ∧ WF0 (toM s') ∧
      s'.members.toList = FSet.eraseAll s.members.toList vals.toList := by
  obtain ⟨m', h1, hw, -, he⟩ := C16_remove_refines h vals.toList
  obtain ⟨s', hs, rfl⟩ := Outcome.map_eq_ok ((Remove_eq s vals).trans h1)
  exact ⟨s', hs, hw, he⟩

/-- `Contains(vals...)` of a valid `set` object, on the generated method -/
theorem C16_generated_contains {α : Type} [Inhabited α] [DecidableEq α] (s : Set.set α) (h : WF0 (toM s)) (vals : Array α) :
    Set.set.Contains s vals = .ok (FSet.memAll s.members.toList vals.toList) := by
  rw [Contains_eq]; exact C16_contains_refines h vals.toList

example : Set.set.Contains (⟨#[3, 1, 4], fun a b => a == b, fun _ => []⟩ : Set.set Int) #[4, 3] = .ok true ∧
    (Set.set.Remove (⟨#[3, 1, 4], fun a b => a == b, fun _ => []⟩ : Set.set Int) #[1, 9]).map (·.members) = .ok #[3, 4] ∧
    (Set.stable.Add (⟨#[3, 1], fun a b => a == b, fun _ => []⟩ : Set.stable Int) #[1, 7, 7]).map (·.members) = .ok #[3, 1, 7] := by
  decide +kernel

/-! ### `sorted.go`, and the methods that take or return other sets

Generated as well: the methods of `sorted`, for all three types `Equal`, `SelectMatch`, `PartitionMatch`, and for
`stable` and `sorted` `IsSubset`, `IsSuperset`, `Union`, `Difference`.  Dynamic dispatch is resolved by
`extract/go2lean/devirt.go`; the one ASSUMPTION is that an argument of type `Set[T]` holds the receiver's own
implementation (two `stable` sets, two `sorted` sets, …) — the statements below are about such calls.  `stable` /
`sorted` iterate in stored order, so the generator state `g` of the hand Model is returned unchanged.  For `sorted` the
binary searches draw on the method's fuel: `x = diverge ∨ x = y` for every fuel covering the longest member list that
occurs (`total sets 0` = the number of members of all operands); it is the second disjunct that holds (`Gen.find_eq_so`, …:
the hand Model's searches never exhaust their `len + 1` rounds). -/

theorem C16_generated_set_binary_refines {α : Type} [Inhabited α] (s rhs : Set.set α) (p : α → Bool) :
    Set.set.Equal s rhs = (toM s).equal (toM rhs) ∧
    (Set.set.SelectMatch s p).map toM = (toM s).selectMatch p ∧
    (Set.set.PartitionMatch s p).map toM2 = (toM s).partitionMatch p :=
  ⟨Equal_eq s rhs, SelectMatch_eq s p, PartitionMatch_eq s p⟩

theorem C16_generated_stable_binary_refines {α σ : Type} [Inhabited α] (sh : Shuffle σ) (g : σ) (s rhs : Set.stable α)
    (sets : Array (Set.stable α)) (p : α → Bool) :
    Set.stable.Equal s rhs = (toM_st s).equal (toM_st rhs) ∧
    (Set.stable.SelectMatch s p).map toM_st = (toM_st s).selectMatch p ∧
    (Set.stable.PartitionMatch s p).map toM2_st = (toM_st s).partitionMatch p ∧
    (toM_st s).isSubset sh (toM_st rhs) g = (Set.stable.IsSubset s rhs).map (fun b => (b, g)) ∧
    (toM_st s).isSuperset sh (toM_st rhs) g = (Set.stable.IsSuperset s rhs).map (fun b => (b, g)) ∧
    (toM_st s).union sh (sets.toList.map toM_st) g = (Set.stable.Union s sets).map (fun t => (toM_st t, g)) ∧
    (toM_st s).difference sh (sets.toList.map toM_st) g = (Set.stable.Difference s sets).map (fun t => (toM_st t, g)) :=
  ⟨Equal_eq_st s rhs, SelectMatch_eq_st s p, PartitionMatch_eq_st s p, IsSubset_eq_st sh s rhs g,
    IsSuperset_eq_st sh s rhs g, Union_eq_st sh s sets g, Difference_eq_st sh s sets g⟩

/-- `sorted`: the single-set methods (those without a search are equalities) -/
theorem C16_generated_sorted_refines {α : Type} [Inhabited α] (s : Set.sorted α) (vals : Array α) (v : α) (p : α → Bool)
    (fuel : Nat) (hf : s.members.size + vals.size + 1 ≤ fuel) :
    ((toM_so s).find v = .diverge ∨ (toM_so s).find v = Set.sorted.find fuel s v) ∧
    ((toM_so s).contains vals.toList = .diverge ∨ (toM_so s).contains vals.toList = Set.sorted.Contains fuel s vals) ∧
    ((toM_so s).add vals.toList = .diverge ∨ (toM_so s).add vals.toList = (Set.sorted.Add fuel s vals).map toM_so) ∧
    ((toM_so s).remove vals.toList = .diverge ∨ (toM_so s).remove vals.toList = (Set.sorted.Remove fuel s vals).map toM_so) ∧
    (Set.sorted.RemoveAll s).map toM_so = .ok (toM_so s).removeAll ∧
    (Set.sorted.Clone s).map toM_so = .ok (toM_so s).clone ∧
    (Set.sorted.CloneEmpty s).map toM_so = .ok (toM_so s).cloneEmpty ∧
    Set.sorted.Size s = (toM_so s).size ∧ Set.sorted.IsEmpty s = (toM_so s).isEmpty ∧
    Set.sorted.AnyMatch s p = .ok ((toM_so s).anyMatch p) ∧
    Set.sorted.AllMatch s p = .ok ((toM_so s).allMatch p) ∧
    (Set.sorted.FirstMatch s p).map optOf = .ok ((toM_so s).firstMatch p) ∧
    ((toM_so s).selectMatch p = .diverge ∨ (toM_so s).selectMatch p = (Set.sorted.SelectMatch fuel s p).map toM_so) ∧
    ((toM_so s).partitionMatch p = .diverge ∨
      (toM_so s).partitionMatch p = (Set.sorted.PartitionMatch fuel s p).map toM2_so) :=
  have hs : s.members.size + 1 ≤ fuel := by omega
  ⟨.inr (find_eq_so s v fuel hs), .inr (Contains_eq_so s vals fuel hs), .inr (Add_eq_so s vals fuel hf),
    .inr (Remove_eq_so s vals fuel hs), rfl, congrArg (Outcome.map toM_so) (Clone_ok_so s), rfl, rfl, Go.natCast_beq_zero _,
    AnyMatch_eq_so s p, AllMatch_eq_so s p, FirstMatch_eq_so s p, .inr (SelectMatch_eq_so s p fuel hs),
    .inr (PartitionMatch_eq_so s p fuel hs)⟩

/-- `sorted`: the methods with other `sorted` sets as arguments -/
theorem C16_generated_sorted_binary_refines {α σ : Type} [Inhabited α] (sh : Shuffle σ) (g : σ) (s rhs : Set.sorted α)
    (sets : Array (Set.sorted α)) (fuel : Nat) (h1 : s.members.size + total sets 0 + 1 ≤ fuel)
    (h2 : rhs.members.size + 1 ≤ fuel) :
    ((toM_so s).equal (toM_so rhs) = .diverge ∨ (toM_so s).equal (toM_so rhs) = Set.sorted.Equal fuel s rhs) ∧
    ((toM_so s).isSubset sh (toM_so rhs) g = .diverge ∨
      (toM_so s).isSubset sh (toM_so rhs) g = (Set.sorted.IsSubset fuel s rhs).map (fun b => (b, g))) ∧
    ((toM_so s).isSuperset sh (toM_so rhs) g = .diverge ∨
      (toM_so s).isSuperset sh (toM_so rhs) g = (Set.sorted.IsSuperset fuel s rhs).map (fun b => (b, g))) ∧
    ((toM_so s).union sh (sets.toList.map toM_so) g = .diverge ∨
      (toM_so s).union sh (sets.toList.map toM_so) g = (Set.sorted.Union fuel s sets).map (fun t => (toM_so t, g))) ∧
    ((toM_so s).difference sh (sets.toList.map toM_so) g = .diverge ∨
      (toM_so s).difference sh (sets.toList.map toM_so) g =
        (Set.sorted.Difference fuel s sets).map (fun t => (toM_so t, g))) :=
  have hs : s.members.size + 1 ≤ fuel := by omega
  ⟨.inr (Equal_eq_so s rhs fuel h2), .inr (IsSubset_eq_so sh s rhs g fuel h2), .inr (IsSuperset_eq_so sh s rhs g fuel hs),
    .inr (Union_eq_so sh s sets g fuel h1), .inr (Difference_eq_so sh s sets g fuel hs)⟩

/-- `Add(vals...)` of a valid `sorted` object on the generated method: it returns (the searches stay within the
fuel), the result is valid — in particular still sorted — and denotes the old set with the values inserted -/
theorem C16_generated_sorted_add {α : Type} [Inhabited α] [DecidableEq α] (s : Set.sorted α) (h : WF0 (toM_so s))
    (vals : Array α) (fuel : Nat) (hf : s.members.size + vals.size + 1 ≤ fuel) :
    ∃ s', Set.sorted.Add fuel s vals = .ok s' ∧ WF0 (toM_so s') ∧
      FSet.Equiv s'.members.toList (FSet.insertAll s.members.toList vals.toList) := by
  obtain ⟨m', h1, hw, -, he⟩ := C16_add_refines h vals.toList
  obtain ⟨s', hs, rfl⟩ := Outcome.map_eq_ok ((Add_eq_so s vals fuel hf).symm.trans h1)
  exact ⟨s', hs, hw, he⟩

/-- `Equal` of two valid `stable` objects on the generated method decides equality of the denoted sets -/
theorem C16_generated_stable_equal {α : Type} [Inhabited α] [DecidableEq α] (s t : Set.stable α)
    (hs : WF0 (toM_st s)) (ht : WF0 (toM_st t)) :
    Set.stable.Equal s t = .ok (FSet.eq s.members.toList t.members.toList) := by
  rw [Equal_eq_st]; exact C16_equal_refines hs ht

/-- `Union` of valid `sorted` objects on the generated method: a valid `sorted` set denoting the union -/
theorem C16_generated_sorted_union {α : Type} [Inhabited α] [DecidableEq α] (s : Set.sorted α) (sets : Array (Set.sorted α))
    (h : WF0 (toM_so s)) (hsets : ∀ u ∈ sets.toList, WF0 (toM_so u)) (fuel : Nat)
    (hf : s.members.size + total sets 0 + 1 ≤ fuel) :
    ∃ t, Set.sorted.Union fuel s sets = .ok t ∧ WF0 (toM_so t) ∧
      FSet.Equiv t.members.toList (FSet.unionAll s.members.toList (sets.toList.map (·.members.toList))) := by
  obtain ⟨m, g', h1, hw, -, he⟩ := C16_union_spec idShuffle_law h (sets.toList.map toM_so)
    (List.forall_mem_map.2 hsets) ()
  obtain ⟨t, hs, ht⟩ := Outcome.map_eq_ok ((Union_eq_so _ s sets () fuel hf).symm.trans h1)
  cases ht
  refine ⟨t, hs, hw, ?_⟩
  rwa [List.map_map] at he

example : (Set.sorted.Add 9 (⟨#[1, 5], fun a b => a - b, fun _ => []⟩ : Set.sorted Int) #[3, 5, 0]).map (·.members) = .ok #[0, 1, 3, 5] ∧
    Set.stable.Equal (⟨#[2, 7], fun a b => a == b, fun _ => []⟩ : Set.stable Int) ⟨#[7, 2], fun a b => a == b, fun _ => []⟩ = .ok true ∧
    (Set.sorted.Union 9 (⟨#[1, 5], fun a b => a - b, fun _ => []⟩ : Set.sorted Int)
        #[⟨#[0, 5], fun a b => a - b, fun _ => []⟩, ⟨#[9], fun a b => a - b, fun _ => []⟩]).map (·.members) = .ok #[0, 1, 5, 9] := by
  decide +kernel
