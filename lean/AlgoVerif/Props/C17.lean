import AlgoVerif.Model.C17
import AlgoVerif.Spec.C17
import AlgoVerif.Proofs.C17QF
import AlgoVerif.Proofs.C17Gen
/-!
# C17 — union-find tracks the equivalence closure of all unions

The property theorems; helper lemmas are in `Proofs/C17*.lean`.

Reading of the property (DESIGN.md §6).  A history is a list `us : List (Int × Int)` of `Union(p, q)`
calls with arbitrary Go `int` arguments; `X.run us` makes the calls one after the other on
`NewX(n)` (`X` = `QuickFind`, `QuickUnion`, `Weighted`, the line-by-line Models of
`unionfind/unionfind.go`).  Queries do not change the structure, so "after any sequence of calls"
is "for the state `u` with `(X.new n).run us = .ok u`".

* `Spec.Conn n us p q`  — `p`, `q` are in range and linked by a chain of unions of the history whose
  arguments were both in range (the reflexive-symmetric-transitive closure);
* `Spec.Tracks n us find isConnected count` — the four clauses of C17 about the query results
  (see `Spec/C17.lean`), each including that the modelled call returns (`.ok`: no index panic, and
  the `for p != root[p]` loop does not run out of its fuel `len(root)`).

Every theorem is for all `n` and all histories, valid and invalid arguments alike.
-/
open AlgoVerif AlgoVerif.C17 AlgoVerif.C17.Spec

/-- quick-find: every history runs to completion and the queries are those of the closure -/
theorem C17_quickFind_tracks (n : Nat) (us : List (Int × Int)) :
    ∃ u, (QuickFind.new n).run us = .ok u ∧ Tracks n us u.find u.isConnected u.getCount := by
  obtain ⟨u, h, I⟩ := QuickFind.run_inv us (QFInv.init n)
  exact ⟨u, h, QuickFind.tracks I⟩

theorem C17_quickUnion_tracks (n : Nat) (us : List (Int × Int)) :
    ∃ u, (QuickUnion.new n).run us = .ok u ∧ Tracks n us u.find u.isConnected u.getCount := by
  obtain ⟨u, h, I⟩ := QuickUnion.run_inv (u := QuickUnion.new n) us (QUInv.init n)
  exact ⟨u, h, QuickUnion.tracks I⟩

theorem C17_weighted_tracks (n : Nat) (us : List (Int × Int)) :
    ∃ u, (Weighted.new n).run us = .ok u ∧ Tracks n us u.find u.isConnected u.getCount := by
  obtain ⟨u, h, I⟩ := Weighted.run_inv us (WQInv.init n)
  exact ⟨u, h, Weighted.tracks I⟩

-- non-vacuity: a history with merges of two non-trivial trees, a redundant union, a self union and
-- invalid arguments; the three final states differ, the answers do not.
example : (QuickFind.new 6).run [(0, 1), (2, 3), (1, 3), (5, 0), (4, 4), (0, 7), (3, 0), (-1, 2)]
    = .ok ⟨2, #[3, 3, 3, 3, 4, 3]⟩ := by decide +kernel
example : (QuickUnion.new 6).run [(0, 1), (2, 3), (1, 3), (5, 0), (4, 4), (0, 7), (3, 0), (-1, 2)]
    = .ok ⟨2, #[1, 3, 3, 3, 4, 3]⟩ := by decide +kernel
example : (Weighted.new 6).run [(0, 1), (2, 3), (1, 3), (5, 0), (4, 4), (0, 7), (3, 0), (-1, 2)]
    = .ok ⟨2, #[0, 0, 0, 2, 4, 0], #[5, 1, 2, 1, 1, 1]⟩ := by decide +kernel
example : Conn 6 [(0, 1), (2, 3), (1, 3), (5, 0), (4, 4), (0, 7), (3, 0), (-1, 2)] 5 2 :=
  .trans (.pair (by decide) (by decide) (by decide))
    (.trans (.pair (p := 0) (q := 1) (by decide) (by decide) (by decide))
      (.trans (.pair (p := 1) (q := 3) (by decide) (by decide) (by decide))
        (.symm (.pair (p := 2) (q := 3) (by decide) (by decide) (by decide)))))

/-! ## the clauses of the property spelled out

`find`, `isConnected`, `count` stand for the three queries of any of the implementations. -/

/-- `IsConnected(p, q)` is true exactly when a chain of earlier unions links `p` and `q` -/
theorem C17_connected_iff_closure {n us find isConnected count}
    (T : Tracks n us find isConnected count) (p q : Int) :
    (isConnected p q = .ok true ↔ Conn n us p q) ∧ (isConnected p q = .ok false ↔ ¬ Conn n us p q) := by
  obtain ⟨b, hb, hiff⟩ := T.connected_iff p q
  rw [hb]
  cases b
  · have : ¬ Conn n us p q := fun h => by have := hiff.2 h; cases this
    simp [this]
  · have : Conn n us p q := hiff.1 rfl
    simp [this]

/-- `Find` gives two in-range elements the same representative iff they are connected, and the
representative is a member of the class -/
theorem C17_find_same_iff_connected {n us find isConnected count}
    (T : Tracks n us find isConnected count) (p q : Int) (hp : Valid n p) (hq : Valid n q) :
    ∃ rp rq, find p = .ok (rp, true) ∧ find q = .ok (rq, true) ∧ Conn n us p rp ∧ Conn n us q rq ∧
      (rp = rq ↔ Conn n us p q) := by
  obtain ⟨rp, h1, c1⟩ := T.find_valid p hp
  obtain ⟨rq, h2, c2⟩ := T.find_valid q hq
  exact ⟨rp, rq, h1, h2, c1, c2, T.find_same_iff p q rp rq true true hp hq h1 h2⟩

/-- `Count` is the number of equivalence classes, and it is `n` minus the number of unions that
joined two different classes -/
theorem C17_count_eq_classes {n us find isConnected count}
    (T : Tracks n us find isConnected count) :
    0 ≤ count ∧ IsClassCount n us count.toNat ∧ count = n - numMerges n us :=
  ⟨T.count_classes.1, T.count_classes.2, T.count_merges⟩

/-- the number of classes of a relation is determined: `IsClassCount` holds of one number only
(so the previous theorem does say "equals the number of classes") -/
theorem C17_classCount_unique {n us k k'} (h : IsClassCount n us k) (h' : IsClassCount n us k') :
    k = k' :=
  IsClassCount.unique h h'

/-- out-of-range `Find` is reported as not found -/
theorem C17_find_invalid {n us find isConnected count}
    (T : Tracks n us find isConnected count) (p : Int) (hp : ¬ (0 ≤ p ∧ p < n)) :
    find p = .ok (-1, false) :=
  T.find_invalid p hp

-- non-vacuity of the hypotheses `Tracks …`: the three `_tracks` theorems above provide them for every
-- history; on the example history: 5 and 2 are connected, 4 is alone, 2 classes.
example : ∃ u, (QuickUnion.new 6).run [(0, 1), (2, 3), (1, 3), (5, 0), (4, 4), (0, 7), (3, 0), (-1, 2)] = .ok u ∧
    u.isConnected 5 2 = .ok true ∧ u.isConnected 4 2 = .ok false ∧ u.find 5 = .ok (3, true) ∧
    u.find 6 = .ok (-1, false) ∧ u.getCount = 2 := ⟨⟨2, #[1, 3, 3, 3, 4, 3]⟩, by decide +kernel, by decide +kernel⟩
example : ¬ Conn 6 [(0, 1), (2, 3), (1, 3), (5, 0), (4, 4), (0, 7), (3, 0), (-1, 2)] 4 2 := by
  intro hc
  obtain ⟨u, h, T⟩ := C17_quickUnion_tracks 6 _
  have hf : (Outcome.ok u >>= fun u => u.isConnected 4 2) = .ok true := (C17_connected_iff_closure T 4 2).1.2 hc
  rw [← h] at hf
  exact absurd hf (by decide +kernel)

/-! ## invalid arguments change nothing — for ANY state, reachable or not -/

/-- quick-find: `Union` with an out-of-range argument returns the receiver unchanged,
`IsConnected` is false, `Find` is `(-1, false)` -/
theorem C17_quickFind_invalid_args (u : QuickFind) (p q : Int)
    (h : ¬ (0 ≤ p ∧ p < u.id.size) ∨ ¬ (0 ≤ q ∧ q < u.id.size)) :
    u.union p q = .ok u ∧ u.isConnected p q = .ok false ∧
      (¬ (0 ≤ p ∧ p < u.id.size) → u.find p = .ok (-1, false)) :=
  ⟨QuickFind.union_invalid rfl (not_and_of_not_or_not h), QuickFind.isConnected_invalid rfl (not_and_of_not_or_not h),
    fun hp => QuickFind.find_invalid rfl hp⟩

theorem C17_quickUnion_invalid_args (u : QuickUnion) (p q : Int)
    (h : ¬ (0 ≤ p ∧ p < u.root.size) ∨ ¬ (0 ≤ q ∧ q < u.root.size)) :
    u.union p q = .ok u ∧ u.isConnected p q = .ok false ∧
      (¬ (0 ≤ p ∧ p < u.root.size) → u.find p = .ok (-1, false)) :=
  ⟨QuickUnion.union_invalid rfl (not_and_of_not_or_not h), QuickUnion.isConnected_invalid rfl (not_and_of_not_or_not h),
    fun hp => QuickUnion.find_invalid rfl hp⟩

theorem C17_weighted_invalid_args (u : Weighted) (p q : Int)
    (h : ¬ (0 ≤ p ∧ p < u.root.size) ∨ ¬ (0 ≤ q ∧ q < u.root.size)) :
    u.union p q = .ok u ∧ u.isConnected p q = .ok false ∧
      (¬ (0 ≤ p ∧ p < u.root.size) → u.find p = .ok (-1, false)) :=
  ⟨Weighted.union_invalid rfl (not_and_of_not_or_not h), Weighted.isConnected_invalid rfl (not_and_of_not_or_not h),
    fun hp => Weighted.find_invalid rfl hp⟩

example : (⟨1, #[1, 1, 1]⟩ : QuickUnion).union 1 3 = .ok ⟨1, #[1, 1, 1]⟩ := by decide +kernel

/-- … and an invalid call leaves the closure itself unchanged -/
theorem C17_invalid_union_keeps_closure (n : Nat) (us : List (Int × Int)) (a b : Int)
    (h : ¬ ((0 ≤ a ∧ a < n) ∧ (0 ≤ b ∧ b < n))) (p q : Int) :
    Conn n (us ++ [(a, b)]) p q ↔ Conn n us p q :=
  conn_snoc_skip (.inl h)

/-! ## `Find` never diverges: the forest is acyclic, with an explicit rank -/

/-- quick-union after any history: there is a rank `rk` that strictly increases along every parent
link and satisfies `rk i + count ≤ n`; the number of roots is `count ≥ 1` (for `n > 0`); hence a climb
from any element takes at most `n - count ≤ n - 1` steps and `findLoop` with fuel `n = len(root)`
returns a root — it neither runs out of fuel (`diverge`) nor indexes out of range (`panic`). -/
theorem C17_quickUnion_find_terminates (n : Nat) (us : List (Int × Int)) (u : QuickUnion)
    (h : (QuickUnion.new n).run us = .ok u) :
    u.root.size = n ∧
    (∃ rk : Int → Nat, (∀ i, Valid n i → par u.root i ≠ i → rk i < rk (par u.root i)) ∧
      (∀ i, Valid n i → (rk i : Int) + u.count ≤ n)) ∧
    (0 < n → 1 ≤ u.count) ∧
    (∀ p, Valid n p → ∃ r, findLoop u.root n p = .ok r ∧ Valid n r ∧ par u.root r = r) := by
  obtain ⟨u', h', I⟩ := QuickUnion.run_inv (u := QuickUnion.new n) us (QUInv.init n)
  rw [h] at h'; cases h'
  exact ⟨I.forest.size, I.forest.rank, I.forest.terminates⟩

theorem C17_weighted_find_terminates (n : Nat) (us : List (Int × Int)) (u : Weighted)
    (h : (Weighted.new n).run us = .ok u) :
    u.root.size = n ∧ u.size.size = n ∧
    (∃ rk : Int → Nat, (∀ i, Valid n i → par u.root i ≠ i → rk i < rk (par u.root i)) ∧
      (∀ i, Valid n i → (rk i : Int) + u.count ≤ n)) ∧
    (0 < n → 1 ≤ u.count) ∧
    (∀ p, Valid n p → ∃ r, findLoop u.root n p = .ok r ∧ Valid n r ∧ par u.root r = r) := by
  obtain ⟨u', h', W⟩ := Weighted.run_inv us (WQInv.init n)
  rw [h] at h'; cases h'
  exact ⟨W.qu.forest.size, W.sizes, W.qu.forest.rank, W.qu.forest.terminates⟩

/-- quick-find has no loop: its forest has depth ≤ 1 (`id[id[i]] = id[i]`) -/
theorem C17_quickFind_flat (n : Nat) (us : List (Int × Int)) (u : QuickFind)
    (h : (QuickFind.new n).run us = .ok u) :
    u.id.size = n ∧ ∀ i, Valid n i → Valid n (par u.id i) ∧ par u.id (par u.id i) = par u.id i := by
  obtain ⟨u', h', I⟩ := QuickFind.run_inv us (QFInv.init n)
  rw [h] at h'; cases h'
  exact ⟨I.size, fun i hi => ⟨I.repr.valid i hi, I.repr.idem i hi⟩⟩

-- the fuel bound is met exactly: on the path 0 -> 1 -> 2 -> 3 the loop condition is evaluated n = 4
-- times from element 0; one unit less diverges.
example : (QuickUnion.new 4).run [(0, 1), (0, 2), (0, 3)] = .ok ⟨1, #[1, 2, 3, 3]⟩ := by decide +kernel
example : findLoop #[1, 2, 3, 3] 4 0 = .ok 3 ∧ findLoop #[1, 2, 3, 3] 3 0 = .diverge := by decide +kernel

/-- same answers to `IsConnected` and `Count`, and `Find` induces the same partition, after the
same history — although the three internal states (and the representatives) differ -/
theorem C17_implementations_agree (n : Nat) (us : List (Int × Int)) :
    ∃ qf qu wq, (QuickFind.new n).run us = .ok qf ∧ (QuickUnion.new n).run us = .ok qu ∧
      (Weighted.new n).run us = .ok wq ∧
      (∀ p q, qf.isConnected p q = qu.isConnected p q ∧ qu.isConnected p q = wq.isConnected p q) ∧
      qf.getCount = qu.getCount ∧ qu.getCount = wq.getCount := by
  obtain ⟨qf, h1, T1⟩ := C17_quickFind_tracks n us
  obtain ⟨qu, h2, T2⟩ := C17_quickUnion_tracks n us
  obtain ⟨wq, h3, T3⟩ := C17_weighted_tracks n us
  exact ⟨qf, qu, wq, h1, h2, h3, fun p q => ⟨(T1.agree T2).1 p q, (T2.agree T3).1 p q⟩, (T1.agree T2).2,
    (T2.agree T3).2⟩

/-! ## the second tie: the Model REGENERATED from the source equals the hand Model

`AlgoVerif.Generated.UnionFind.*` (file `Generated/C17Gen.lean`) is produced from
`/repo/unionfind/unionfind.go` by the translator `/verif/extract/go2lean` on every run of this check
(`bin/pre-C17`; scheme, subset and what is trusted: header of `extract/go2lean/main.go`).  The theorems
below say that every generated definition IS the hand-written Model the theorems above are about — for all
arguments — and restate the main theorems directly about the generated definitions.  An edit of
`unionfind.go` that changes what a function computes changes the generated file and one of these stops
checking.  `qf`, `qu`, `wq` read a generated structure field by field as the Model's; the generated
`Find` / `Union` / `IsConnected` of the two quick-union types take the fuel of the
`for p != u.root[p]` loop as their first argument. -/

open AlgoVerif.Generated.UnionFind AlgoVerif.C17.Gen

/-- quick-find: `isValid`, `Find`, `IsConnected`, `Count` -/
theorem C17_generated_quickFind_queries (u : quickFind) (p q : Int) :
    quickFind.isValid u p = (qf u).isValid p ∧ quickFind.Find u p = (qf u).find p ∧
    quickFind.IsConnected u p q = (qf u).isConnected p q ∧ quickFind.Count u = (qf u).getCount :=
  ⟨quickFind_isValid u p, quickFind_Find u p, quickFind_IsConnected u p q, quickFind_Count u⟩

/-- quick-find: `Union` (the new receiver is the result) -/
theorem C17_generated_quickFind_Union (u : quickFind) (p q : Int) :
    (quickFind.Union u p q).map qf = (qf u).union p q :=
  quickFind_Union u p q

/-- quick-find: `NewQuickFind(n)`; the generated constructor also covers `n < 0` (`make` panics) -/
theorem C17_generated_quickFind_New :
    (∀ n : Nat, (NewQuickFind n).map qf = .ok (QuickFind.new n)) ∧ (∀ n : Int, n < 0 → NewQuickFind n = .panic) :=
  ⟨NewQuickFind_eq, fun _ h => NewQuickFind_neg h⟩

/-- quick-union: the `for p != u.root[p] { p = u.root[p] }` loop with `k` rounds left is `findLoop … k` -/
theorem C17_generated_quickUnion_Find_loop (fuel : Nat) (u : quickUnion) (k : Nat) (p : Int) :
    quickUnion.Find.loop1 fuel u k p = findLoop u.root k p :=
  quickUnion_Find_loop fuel u k p

/-- quick-union with fuel `len(u.root)`: `isValid`, `Find`, `IsConnected`, `Count` -/
theorem C17_generated_quickUnion_queries (u : quickUnion) (p q : Int) :
    quickUnion.isValid u p = (qu u).isValid p ∧ quickUnion.Find u.root.size u p = (qu u).find p ∧
    quickUnion.IsConnected u.root.size u p q = (qu u).isConnected p q ∧ quickUnion.Count u = (qu u).getCount :=
  ⟨quickUnion_isValid u p, quickUnion_Find u p, quickUnion_IsConnected u p q, quickUnion_Count u⟩

theorem C17_generated_quickUnion_Union (u : quickUnion) (p q : Int) :
    (quickUnion.Union u.root.size u p q).map qu = (qu u).union p q :=
  quickUnion_Union u p q

theorem C17_generated_quickUnion_New :
    (∀ n : Nat, (NewQuickUnion n).map qu = .ok (QuickUnion.new n)) ∧ (∀ n : Int, n < 0 → NewQuickUnion n = .panic) :=
  ⟨NewQuickUnion_eq, fun _ h => NewQuickUnion_neg h⟩

theorem C17_generated_weighted_Find_loop (fuel : Nat) (u : weightedQuickUnion) (k : Nat) (p : Int) :
    weightedQuickUnion.Find.loop1 fuel u k p = findLoop u.root k p :=
  weighted_Find_loop fuel u k p

theorem C17_generated_weighted_queries (u : weightedQuickUnion) (p q : Int) :
    weightedQuickUnion.isValid u p = (wq u).isValid p ∧ weightedQuickUnion.Find u.root.size u p = (wq u).find p ∧
    weightedQuickUnion.IsConnected u.root.size u p q = (wq u).isConnected p q ∧
    weightedQuickUnion.Count u = (wq u).getCount :=
  ⟨weighted_isValid u p, weighted_Find u p, weighted_IsConnected u p q, weighted_Count u⟩

theorem C17_generated_weighted_Union (u : weightedQuickUnion) (p q : Int) :
    (weightedQuickUnion.Union u.root.size u p q).map wq = (wq u).union p q :=
  weighted_Union u p q

theorem C17_generated_weighted_New :
    (∀ n : Nat, (NewWeightedQuickUnion n).map wq = .ok (Weighted.new n)) ∧
    (∀ n : Int, n < 0 → NewWeightedQuickUnion n = .panic) :=
  ⟨NewWeighted_eq, fun _ h => NewWeighted_neg h⟩

-- non-vacuity: the generated definitions compute; the states are those of the Model's example above
example : (do let u ← NewQuickFind 6
              quickFind.run u [(0, 1), (2, 3), (1, 3), (5, 0), (4, 4), (0, 7), (3, 0), (-1, 2)])
    = .ok ⟨2, #[3, 3, 3, 3, 4, 3]⟩ := by decide +kernel
example : (do let u ← NewQuickUnion 6
              quickUnion.run u [(0, 1), (2, 3), (1, 3), (5, 0), (4, 4), (0, 7), (3, 0), (-1, 2)])
    = .ok ⟨2, #[1, 3, 3, 3, 4, 3]⟩ := by decide +kernel
example : (do let u ← NewWeightedQuickUnion 6
              weightedQuickUnion.run u [(0, 1), (2, 3), (1, 3), (5, 0), (4, 4), (0, 7), (3, 0), (-1, 2)])
    = .ok ⟨2, #[0, 0, 0, 2, 4, 0], #[5, 1, 2, 1, 1, 1]⟩ := by decide +kernel
example : quickUnion.Find 4 ⟨1, #[1, 2, 3, 3]⟩ 0 = .ok (3, true) ∧
    quickUnion.Find 3 ⟨1, #[1, 2, 3, 3]⟩ 0 = .diverge ∧ quickUnion.Find 5 ⟨1, #[1, 2, 3, 7]⟩ 0 = .panic := by decide +kernel

/-! ### the C17 statements, about the generated definitions

`X.run u us` (defined in `Proofs/C17Gen.lean`) makes the generated `Union` calls of the history one after
the other, each with fuel `len(u.root)`. -/

/-- quick-find, generated: from `NewQuickFind(n)` every history runs to completion and the generated
queries are those of the equivalence closure -/
theorem C17_generated_quickFind_tracks (n : Nat) (us : List (Int × Int)) :
    ∃ u0 u, NewQuickFind n = .ok u0 ∧ quickFind.run u0 us = .ok u ∧
      Tracks n us (quickFind.Find u) (quickFind.IsConnected u) (quickFind.Count u) := by
  obtain ⟨m, hm, T⟩ := C17_quickFind_tracks n us
  obtain ⟨u0, u, h0, hu, rfl⟩ := run_transfer (NewQuickFind_eq n) (quickFind_run us) hm
  have e1 : quickFind.Find u = (qf u).find := funext (quickFind_Find u)
  have e2 : quickFind.IsConnected u = (qf u).isConnected := funext fun p => funext (quickFind_IsConnected u p)
  exact ⟨u0, u, h0, hu, e1 ▸ e2 ▸ T⟩

/-- quick-union, generated; fuel `n = len(u.root)` suffices for every `Find` -/
theorem C17_generated_quickUnion_tracks (n : Nat) (us : List (Int × Int)) :
    ∃ u0 u, NewQuickUnion n = .ok u0 ∧ quickUnion.run u0 us = .ok u ∧ u.root.size = n ∧
      Tracks n us (quickUnion.Find n u) (quickUnion.IsConnected n u) (quickUnion.Count u) := by
  obtain ⟨m, hm, T⟩ := C17_quickUnion_tracks n us
  obtain ⟨u0, u, h0, hu, rfl⟩ := run_transfer (NewQuickUnion_eq n) (quickUnion_run us) hm
  obtain rfl : u.root.size = n := (C17_quickUnion_find_terminates _ us _ hm).1
  have e1 : quickUnion.Find u.root.size u = (qu u).find := funext (quickUnion_Find u)
  have e2 : quickUnion.IsConnected u.root.size u = (qu u).isConnected :=
    funext fun p => funext (quickUnion_IsConnected u p)
  exact ⟨u0, u, h0, hu, rfl, e1 ▸ e2 ▸ T⟩

theorem C17_generated_weighted_tracks (n : Nat) (us : List (Int × Int)) :
    ∃ u0 u, NewWeightedQuickUnion n = .ok u0 ∧ weightedQuickUnion.run u0 us = .ok u ∧ u.root.size = n ∧
      Tracks n us (weightedQuickUnion.Find n u) (weightedQuickUnion.IsConnected n u) (weightedQuickUnion.Count u) := by
  obtain ⟨m, hm, T⟩ := C17_weighted_tracks n us
  obtain ⟨u0, u, h0, hu, rfl⟩ := run_transfer (NewWeighted_eq n) (weighted_run us) hm
  obtain rfl : u.root.size = n := (C17_weighted_find_terminates _ us _ hm).1
  have e1 : weightedQuickUnion.Find u.root.size u = (wq u).find := funext (weighted_Find u)
  have e2 : weightedQuickUnion.IsConnected u.root.size u = (wq u).isConnected :=
    funext fun p => funext (weighted_IsConnected u p)
  exact ⟨u0, u, h0, hu, rfl, e1 ▸ e2 ▸ T⟩

/-- the caller may pass ANY fuel ≥ `len(u.root)`: after any history the generated `Find` of both
quick-union types answers as with fuel `n` (it never diverges, so more fuel changes nothing) -/
theorem C17_generated_find_any_fuel (n : Nat) (us : List (Int × Int)) (fuel : Nat) (hf : n ≤ fuel) (p : Int) :
    (∀ u0 u, NewQuickUnion n = .ok u0 → quickUnion.run u0 us = .ok u →
      quickUnion.Find fuel u p = quickUnion.Find n u p) ∧
    (∀ u0 u, NewWeightedQuickUnion n = .ok u0 → weightedQuickUnion.run u0 us = .ok u →
      weightedQuickUnion.Find fuel u p = weightedQuickUnion.Find n u p) := by
  obtain ⟨j, rfl⟩ : ∃ j, fuel = n + j := ⟨fuel - n, by omega⟩
  constructor
  · intro u0 u h0 hu
    have hr := quickUnion_run us u0
    rw [hu, show qu u0 = QuickUnion.new n from
      Outcome.ok.inj ((congrArg (Outcome.map qu) h0).symm.trans (NewQuickUnion_eq n))] at hr
    obtain ⟨u', h', I⟩ := QuickUnion.run_inv (u := QuickUnion.new n) us (QUInv.init n)
    rw [← hr] at h'; cases h'
    simp only [quickUnion.Find, quickUnion.isValid, quickUnion_Find_loop]
    exact find_fuel I.forest ..
  · intro u0 u h0 hu
    have hr := weighted_run us u0
    rw [hu, show wq u0 = Weighted.new n from
      Outcome.ok.inj ((congrArg (Outcome.map wq) h0).symm.trans (NewWeighted_eq n))] at hr
    obtain ⟨u', h', W⟩ := Weighted.run_inv us (WQInv.init n)
    rw [← hr] at h'; cases h'
    simp only [weightedQuickUnion.Find, weightedQuickUnion.isValid, weighted_Find_loop]
    exact find_fuel W.qu.forest ..

-- non-vacuity: the hypotheses of the last theorem are met by the example history, and fuel matters below n
example : ∃ u0 u, NewQuickUnion 4 = .ok u0 ∧ quickUnion.run u0 [(0, 1), (0, 2), (0, 3)] = .ok u ∧
    quickUnion.Find 4 u 0 = .ok (3, true) ∧ quickUnion.Find 9 u 0 = .ok (3, true) ∧
    quickUnion.Find 3 u 0 = .diverge :=
  ⟨⟨4, #[0, 1, 2, 3]⟩, ⟨1, #[1, 2, 3, 3]⟩, by decide, by decide, by decide, by decide +kernel, by decide +kernel⟩
