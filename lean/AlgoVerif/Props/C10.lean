import AlgoVerif.Proofs.C10LL1
import AlgoVerif.Proofs.C10Term
import AlgoVerif.Proofs.C10TableEq
import AlgoVerif.Proofs.C10Verify
import AlgoVerif.Proofs.C10Ext
import AlgoVerif.Proofs.C10Edit
/-!
# C10 — FIRST, FOLLOW and nullable are exact; the LL(1) verdict matches the predictive table

Model: `Model/C10.lean` (the three fixpoint loops of `grammar/cfg.go` with their `updated` logic, the
FIRST closure for strings, `IsLL1`'s pairwise conditions, `predictive.BuildParsingTable` as the sequence of
`addProduction` / `setSync` calls the code makes — `buildTable` — whose cells are the lists `cell g fi fo A a`
and whose `Conflicts()` is `conflicts g fi fo`, see `C10_table_built_is_cells`).
Spec: `Spec/C10.lean` (`Derives` of `Model/GrammarCore.lean`; sentential forms).

Every statement is for ALL grammars (`T`, `N` arbitrary types with decidable equality), ALL symbol
strings, and EVERY iteration order: `IterOrder.Fair` only asks that each `range` over a table or set
visits every element (in any order, which may differ from pass to pass and from head to head).
The hypotheses `… = .ok r` say that the loop returned; `C10_fixpoints_terminate` shows that on every
grammar that passes `Verify()` they do (the Model's `fixFuel g` passes always suffice, i.e. the Go loops
terminate), so the hypotheses are never vacuous.

Proof pattern (helper lemmas in `Proofs/C10*.lean`): the returned family is *closed* under the rules
because the last pass changed nothing, and *below every closed family* because each step only adds what
the rules force; the Spec's family is closed (by building derivations) and below every closed family (by
induction on the length of a derivation).
-/
open AlgoVerif AlgoVerif.Gram AlgoVerif.C10

section
variable {T N : Type} [DecidableEq T] [DecidableEq N]

/-- `NullableNonTerminals` returns exactly the non-terminals that derive ε. -/
theorem C10_nullable_exact (g : Grammar T N) (o : IterOrder T N) (ho : o.Fair) (R : List N)
    (h : nullable g o = .ok R) (A : N) : A ∈ R ↔ Spec.Nullable g A :=
  nullable_exact ho h A

/-- `FIRST(α)` holds exactly the terminals that can begin a sentential form derived from `α`, and the
empty marker iff `α ⇒* ε`. -/
theorem C10_first_exact (g : Grammar T N) (o : IterOrder T N) (ho : o.Fair) (fi : N → TE T)
    (h : computeFirst g o = .ok fi) (α : List (Sym T N)) :
    (∀ a, a ∈ (firstStr fi α).terms ↔ Spec.First g α a) ∧ ((firstStr fi α).eps = true ↔ Spec.Eps g α) :=
  ⟨fun a => first_exact_terms ho h α a, first_exact_eps ho h α⟩

/-- When every non-terminal is reachable, `FOLLOW(A)` holds exactly the terminals that can appear
immediately after `A` in a sentential form derived from the start symbol, and the endmarker iff `A` can
end one. -/
theorem C10_follow_exact (g : Grammar T N) (o₁ o₂ : IterOrder T N) (h₁ : o₁.Fair) (h₂ : o₂.Fair)
    (hv : validB g = true) (hreach : Spec.AllReachable g) (an : Analysis T N)
    (h : analyse g o₁ o₂ = .ok an) (A : N) :
    (∀ a, a ∈ (an.follow A).terms ↔ Spec.Follow g A a) ∧
    ((an.follow A).endm = true ↔ Spec.FollowEnd g A) :=
  follow_exact h₁ h₂ hv hreach h A

/-- Without any reachability assumption FOLLOW is still complete: whatever follows `A` in a sentential
form is in the set (the converse needs `A`'s occurrences to be reachable). -/
theorem C10_follow_complete (g : Grammar T N) (o₁ o₂ : IterOrder T N) (h₁ : o₁.Fair) (h₂ : o₂.Fair)
    (an : Analysis T N) (h : analyse g o₁ o₂ = .ok an) (A : N) :
    (∀ a, Spec.Follow g A a → a ∈ (an.follow A).terms) ∧ (Spec.FollowEnd g A → (an.follow A).endm = true) :=
  follow_complete h₁ h₂ h A

/-- The sets do not depend on the iteration order: two runs agree on every FIRST(α) and FOLLOW(A). -/
theorem C10_order_irrelevant (g : Grammar T N) (o₁ o₂ o₃ o₄ : IterOrder T N)
    (h₁ : o₁.Fair) (h₂ : o₂.Fair) (h₃ : o₃.Fair) (h₄ : o₄.Fair) (an an' : Analysis T N)
    (h : analyse g o₁ o₂ = .ok an) (h' : analyse g o₃ o₄ = .ok an') :
    SameSets (firstStr an.first) (firstStr an'.first) an.follow an'.follow :=
  analyse_sameSets h₁ h₂ h₃ h₄ h h'

/-- The three "until nothing changed" loops return, for every grammar that passes `Verify()` and every
iteration order: a pass that reports `updated` adds a member to one of `|N|` sets of terminals or raises
one of `|N|` flags, and nothing is ever removed. -/
theorem C10_fixpoints_terminate (g : Grammar T N) (hv : validB g = true) (o₁ o₂ : IterOrder T N)
    (h₁ : o₁.Fair) (h₂ : o₂.Fair) :
    (∃ R, nullable g o₁ = .ok R) ∧ (∃ an, analyse g o₁ o₂ = .ok an) :=
  ⟨nullable_terminates hv h₁, analyse_terminates hv h₁ h₂⟩

/-- The table built call by call has the cells the theorems below talk about.  For a duplicate-free
production list (what `G.Productions` is), whatever the order of the rows: every cell of `buildTable` is the
list `cell g fi fo A a` — the productions that belong into `M[A,a]`, each once, in the order of the
production list — and `Conflicts()` over the declared rows and columns is `conflicts g fi fo`; emptiness of
`Conflicts()` does not depend on the order in which rows and columns are visited. -/
theorem C10_table_built_is_cells (g : Grammar T N) (hnd : g.prods.Nodup) (fi : List (Sym T N) → TE T)
    (fo : N → TEnd T) (rows : List N) :
    tcell (buildTable fi fo g.prods rows) = cell g fi fo ∧
    tconflicts (buildTable fi fo g.prods rows) g.nonterms (columns g) = conflicts g fi fo ∧
    ∀ (rows' : List N) (cols' : List (Option T)), (∀ A, A ∈ g.nonterms ↔ A ∈ rows') →
      (∀ c, c ∈ columns g ↔ c ∈ cols') →
      (tconflicts (buildTable fi fo g.prods rows) rows' cols' = [] ↔ conflicts g fi fo = []) := by
  refine ⟨tcell_eq_cell hnd fi fo rows, tconflicts_eq hnd fi fo rows, ?_⟩
  intro rows' cols' hr hc
  rw [← tconflicts_eq hnd fi fo rows]
  exact (tconflicts_nil_iff _ hr hc).symm

/-- A conflict in the predictive parsing table (built from one run of FIRST/FOLLOW) always comes with an
`IsLL1` error (which runs FIRST/FOLLOW again, in another order). -/
theorem C10_conflict_implies_ll1_error (g : Grammar T N) (hnd : g.prods.Nodup)
    (o₁ o₂ o₃ o₄ : IterOrder T N) (h₁ : o₁.Fair) (h₂ : o₂.Fair) (h₃ : o₃.Fair) (h₄ : o₄.Fair)
    (anT anL : Analysis T N) (hT : analyse g o₁ o₂ = .ok anT) (hL : analyse g o₃ o₄ = .ok anL)
    (hc : conflicts g (firstStr anT.first) anT.follow ≠ []) :
    ll1Errors g (firstStr anL.first) anL.follow ≠ [] := by
  have s := analyse_sameSets h₁ h₂ h₃ h₄ hT hL
  exact (ll1Errors_ne_nil_iff hnd).2 (s.ll1Bad.1 (conflict_ll1Bad ((conflicts_ne_nil_iff hnd).1 hc)))

/-- For grammars whose non-terminals are all reachable and productive, `IsLL1` reports no error exactly
when the table has at most one production per cell. -/
theorem C10_ll1_iff_conflict_free (g : Grammar T N) (hv : validB g = true) (hnd : g.prods.Nodup)
    (hreach : Spec.AllReachable g) (hprod : Spec.AllProductive g)
    (o₁ o₂ o₃ o₄ : IterOrder T N) (h₁ : o₁.Fair) (h₂ : o₂.Fair) (h₃ : o₃.Fair) (h₄ : o₄.Fair)
    (anT anL : Analysis T N) (hT : analyse g o₁ o₂ = .ok anT) (hL : analyse g o₃ o₄ = .ok anL) :
    ll1Errors g (firstStr anL.first) anL.follow = [] ↔ conflicts g (firstStr anT.first) anT.follow = [] := by
  have s := analyse_sameSets h₁ h₂ h₃ h₄ hT hL
  -- both sides negated: an `IsLL1` error is a failed condition, a non-empty `Conflicts()` a conflict
  exact Decidable.not_iff_not.1 (((ll1Errors_ne_nil_iff hnd).trans s.ll1Bad.symm).trans
    (Iff.trans ⟨ll1Bad_conflict h₁ h₂ hv hreach hprod hT, conflict_ll1Bad⟩ (conflicts_ne_nil_iff hnd).symm))

/-! ### what the statements above take for granted: `Verify()`, no nil dereference, the memo table, in-place edits, the accessors -/

/-- `Verify()` returns nil (`validB`) exactly when the list of errors it collects (`verifyErrors`, compared with
the implementation's on every malformed grammar the generators produce) is empty. -/
theorem C10_verify_errors_iff_valid (g : Grammar T N) : verifyErrors g = [] ↔ validB g = true :=
  verifyErrors_nil_iff g

/-- On a grammar that passes `Verify()` no table lookup of `NullableNonTerminals`, `ComputeFIRST`,
`ComputeFOLLOW` misses: the Model of the three functions on arbitrary grammars (`nullableP`, `analyseP`, which
answer `panic` where the Go code dereferences the nil result of a lookup — corresponded on malformed grammars)
coincides with the Model the theorems above are about, for every iteration order. -/
theorem C10_valid_grammar_never_panics (g : Grammar T N) (hv : validB g = true) (o₁ o₂ : IterOrder T N)
    (h₁ : o₁.Fair) (h₂ : o₂.Fair) :
    analyseP g o₁ o₂ = analyse g o₁ o₂ ∧ nullableP g o₁ = nullable g o₁ ∧ ∃ an, analyseP g o₁ o₂ = .ok an := by
  refine ⟨analyseP_eq_analyse hv h₁ h₂, nullableP_eq_nullable hv h₁, ?_⟩
  rw [analyseP_eq_analyse hv h₁ h₂]
  exact analyse_terminates hv h₁ h₂

/-- The memo table of the FIRST closure is transparent: as long as the closure is called with declared
symbols only, every call — computed or answered from the table — returns `firstStr fi α`, the value
`C10_first_exact` is about, and the table stays good.  (A call that reaches an undeclared symbol panics and leaves
its partial value in the table; `firstCall` models that too, and the correspondence exercises it.) -/
theorem C10_first_memo_transparent (g : Grammar T N) (fi : N → TE T) (memo : FirstMemo T N)
    (α : List (Sym T N)) (hm : MemoGood fi memo) (hα : ∀ X, X ∈ α → symDeclared g X = true) :
    (firstCall g fi memo α).1 = .ok (firstStr fi α) ∧ MemoGood fi (firstCall g fi memo α).2 :=
  firstCall_good g fi memo α hm hα

/-- No history of calls changes an answer.  One FIRST closure (one memo table, empty when `ComputeFIRST` returns it)
is called with ANY sequence of strings `qs` — declared symbols or not, so calls that panic and leave a partial value in
the table are included: there is one answer per call, and every call whose string consists of declared symbols is
answered with `firstStr fi α`, the value `C10_first_exact` is about, whatever was asked before it.  (The memo table is
keyed by the string of symbols itself; two different strings never share an entry.) -/
theorem C10_first_memo_any_history (g : Grammar T N) (fi : N → TE T) (qs : List (List (Sym T N))) :
    (firstCalls g fi [] qs).1.length = qs.length ∧
    ∀ p, p ∈ qs.zip (firstCalls g fi [] qs).1 → (∀ X, X ∈ p.1 → symDeclared g X = true) →
      p.2 = .ok (firstStr fi p.1) :=
  ⟨firstCalls_length g fi qs [], (firstCalls_good g fi qs [] (fun _ _ h => by cases h)).2⟩

/-- The memoising closure serves the analyses as the pure function does.  `ComputeFOLLOW` asks the closure for the
rests `β` of bodies `A → α B β`, `IsLL1` and `BuildParsingTable` for whole bodies — all of them pieces of production
bodies, asked of ONE closure in an order that depends on the iteration order.  On a grammar that passes `Verify()`, for
every such history and every state of the table that earlier calls of this kind (or any other calls) have left, the
answers are `firstStr fi` of the strings, one by one: which is why the Model of the three functions calls `firstStr fi`
where the Go code calls the closure. -/
theorem C10_first_memo_serves_analyses (g : Grammar T N) (hv : validB g = true) (fi : N → TE T)
    (before qs : List (List (Sym T N)))
    (hq : ∀ s, s ∈ qs → ∃ p, p ∈ g.prods ∧ ∃ pre suf, p.body = pre ++ s ++ suf) :
    (firstCalls g fi (firstCalls g fi [] before).2 qs).1 = qs.map (fun s => .ok (firstStr fi s)) := by
  apply firstCalls_declared g fi qs _ (firstCalls_good g fi before [] (fun _ _ h => by cases h)).1
  intro s hs
  obtain ⟨p, hp, pre, suf, hb⟩ := hq s hs
  exact infix_declared hv hp hb

/-- Every way of editing a grammar object in place keeps it a set grammar.  `Edit` lists the ways the API lets a
caller change a `*CFG` (`Productions.Add / Remove / RemoveAll`, `Add` / `Remove` on the set `Productions.Get` returns or
`AllByHead` yields, the `Body` of a `*Production` inside the grammar assigned or written into, `Terminals` /
`NonTerminals` `Add` / `Remove`, `Start` assigned, a field replaced by its clone).  The Go code keeps nothing between two
calls, so a query on the edited object is the query on `applyEdits g es`, to which all theorems above apply; in
particular the hypothesis `g.prods.Nodup` of the IsLL1 / table theorems holds after every history of edits of a grammar
that `NewCFG` made. -/
theorem C10_edits_keep_sets (g : Grammar T N) (h : IsSetGrammar g) (es : List (Edit T N)) :
    IsSetGrammar (applyEdits g es) ∧ (applyEdits g es).prods.Nodup :=
  ⟨applyEdits_isSet es g h, (applyEdits_isSet es g h).2.2⟩

/-- `IsEmpty` and `GetProduction` read the cells: on the table `BuildParsingTable` builds for a duplicate-free
production list, `IsEmpty(A,a)` says whether `cell g fi fo A a` is empty and `GetProduction(A,a)` returns its
production exactly when it holds one. -/
theorem C10_accessors_read_cells (g : Grammar T N) (hnd : g.prods.Nodup) (fi : List (Sym T N) → TE T)
    (fo : N → TEnd T) (rows : List N) (A : N) (a : Option T) :
    (cellInfo (buildTable fi fo g.prods rows) A a).1 = (cell g fi fo A a).isEmpty ∧
    (cellInfo (buildTable fi fo g.prods rows) A a).2.2 = (match cell g fi fo A a with
      | [p] => some p
      | _ => none) := by
  rw [cellInfo_isEmpty, cellInfo_getProduction, tcell_eq_cell hnd]
  exact ⟨rfl, rfl⟩

end

/-! ## the hypotheses are satisfiable on a non-trivial grammar

`S → a A b`, `A → ε | a A | B`, `B → A` (an ε-chain with a unit cycle), terminals `0 = a`, `1 = b`,
non-terminals `0 = S`, `1 = A`, `2 = B`. -/

def C10ex : Grammar Nat Nat :=
  { terms := [0, 1], nonterms := [0, 1, 2], start := 0,
    prods := [⟨0, [.term 0, .nonterm 1, .term 1]⟩, ⟨1, []⟩, ⟨1, [.term 0, .nonterm 1]⟩,
              ⟨1, [.nonterm 2]⟩, ⟨2, [.nonterm 1]⟩] }

/-- an order that reverses every list, differently from the canonical one -/
def C10revOrder : IterOrder Nat Nat := ⟨fun _ l => l.reverse, fun _ l => l.reverse⟩

example : (IterOrder.canon : IterOrder Nat Nat).Fair := ⟨fun _ _ _ => Iff.rfl, fun _ _ _ => Iff.rfl⟩
example : C10revOrder.Fair := ⟨fun _ _ _ => List.mem_reverse, fun _ _ _ => List.mem_reverse⟩

example : nullable C10ex IterOrder.canon = .ok [1, 2] := by decide
example : nullable C10ex C10revOrder = .ok [1, 2] := by decide
example : validB C10ex = true := by decide
example : C10ex.prods.Nodup := by decide

example : ∃ an, analyse C10ex IterOrder.canon C10revOrder = .ok an ∧
    (firstStr an.first [.nonterm 1, .term 1]).terms = [0, 1] ∧ (firstStr an.first [.nonterm 2]).eps = true ∧
    (an.follow 2).terms = [1] ∧ (an.follow 0).endm = true ∧
    ll1Errors C10ex (firstStr an.first) an.follow ≠ [] ∧
    conflicts C10ex (firstStr an.first) an.follow ≠ [] := by
  refine ⟨_, rfl, ?_, ?_, ?_, ?_, ?_, ?_⟩ <;> decide

example : Spec.AllReachable C10ex := by
  intro A hA
  have step1 : Derives C10ex [Sym.nonterm 0] [.term 0, .nonterm 1, .term 1] :=
    Derives.of_prod (p := ⟨0, [.term 0, .nonterm 1, .term 1]⟩) (by decide)
  have step2 : Derives C10ex [Sym.nonterm 1] [.nonterm 2] :=
    Derives.of_prod (p := ⟨1, [.nonterm 2]⟩) (by decide)
  simp [C10ex] at hA
  rcases hA with rfl | rfl | rfl
  · exact ⟨[], [], Derives.refl _⟩
  · exact ⟨[.term 0], [.term 1], step1⟩
  · refine ⟨[.term 0], [.term 1], step1.trans ?_⟩
    have := (step2.append_left [Sym.term 0]).append_right [Sym.term 1]
    simpa using this

example : Spec.AllProductive C10ex := by
  have hA : Derives C10ex [Sym.nonterm 1] [] := Derives.of_prod (p := ⟨1, []⟩) (by decide)
  have hB : Derives C10ex [Sym.nonterm 2] [] :=
    (Derives.of_prod (p := ⟨2, [.nonterm 1]⟩) (by decide)).trans hA
  have hS : Derives C10ex [Sym.nonterm 0] [.term 0, .term 1] := by
    refine (Derives.of_prod (p := ⟨0, [.term 0, .nonterm 1, .term 1]⟩) (by decide)).trans ?_
    have := (hA.append_left [Sym.term 0]).append_right [Sym.term 1]
    simpa using this
  intro A hA'
  simp [C10ex] at hA'
  rcases hA' with rfl | rfl | rfl
  · exact ⟨[0, 1], hS⟩
  · exact ⟨[], hA⟩
  · exact ⟨[], hB⟩


/-- edits of every kind on `C10ex`: it stays a set grammar; `setBody` on a production that is not there, or towards one
that is there already, changes nothing; `getAdd` on a head without productions changes nothing -/
example : IsSetGrammar C10ex ∧
    (applyEdits C10ex [.getAdd ⟨2, [.term 1]⟩, .setBody ⟨1, [.nonterm 2]⟩ [.term 1, .nonterm 2], .removeAll 0,
      .addNonterm 3, .removeTerm 0, .addTerm 5, .getRemove ⟨1, []⟩, .refresh]).prods
      = [⟨1, [.term 0, .nonterm 1]⟩, ⟨1, [.term 1, .nonterm 2]⟩, ⟨2, [.nonterm 1]⟩, ⟨2, [.term 1]⟩] ∧
    applyEdit C10ex (.setBody ⟨1, [.nonterm 2]⟩ []) = C10ex ∧
    applyEdit C10ex (.setBody ⟨1, [.term 7]⟩ [.term 8]) = C10ex ∧
    (applyEdit C10ex (.getAdd ⟨7, []⟩)).prods = C10ex.prods :=
  ⟨⟨by decide, by decide, by decide⟩, by decide, rfl, rfl, rfl⟩

/-! ### malformed grammars, histories of calls and the memo table on examples -/

/-- a malformed grammar: start symbol `7` undeclared, non-terminal `2` without production, head `5` undeclared,
terminal `9` and non-terminal `8` undeclared in a body -/
def C10bad : Grammar Nat Nat :=
  { terms := [0, 1], nonterms := [0, 1, 2], start := 7,
    prods := [⟨0, [.term 0, .nonterm 1, .term 9]⟩, ⟨1, []⟩, ⟨5, [.nonterm 8]⟩] }

example : verifyErrors C10bad =
    [.startUndeclared, .noStartProd, .noProd 2, .termUndeclared 9, .headUndeclared 5, .nontermUndeclared 8] := by decide
example : validB C10bad = false := by decide
/-- `ComputeFIRST` dereferences nil on it (the undeclared head) -/
example : analyseP C10bad IterOrder.canon IterOrder.canon = .panic := rfl
/-- `S → a A z`, `A → ε` with `z` undeclared: `ComputeFIRST` returns (it stops at `a`), `ComputeFOLLOW` asks the
closure for FIRST(`z`) and panics -/
def C10bad2 : Grammar Nat Nat :=
  { terms := [0], nonterms := [0, 1], start := 0, prods := [⟨0, [.term 0, .nonterm 1, .term 9]⟩, ⟨1, []⟩] }
example : (∃ fi, computeFirstP C10bad2 IterOrder.canon = .ok fi) ∧
    analyseP C10bad2 IterOrder.canon IterOrder.canon = .panic := ⟨⟨_, rfl⟩, rfl⟩

/-- a history on one closure: FIRST(`A z`) (`z` undeclared) panics, asked again it answers the partial value, and the
strings of declared symbols asked before, between and after get their FIRST sets; `[A b]` is a piece of the body
`[a A b]` of `S` (the last conjunct) -/
example : ∃ an, analyse C10ex IterOrder.canon IterOrder.canon = .ok an ∧
    (firstCalls C10ex an.first []
      [[.nonterm 1, .term 1], [.nonterm 1, .term 9], [.term 0, .nonterm 1, .term 1], [.nonterm 1, .term 9],
       [.nonterm 1, .term 1], []]).1
      = [.ok ⟨[0, 1], false⟩, .panic, .ok ⟨[0], false⟩, .ok ⟨[0], false⟩, .ok ⟨[0, 1], false⟩, .ok ⟨[], true⟩] ∧
    validB C10ex = true ∧
    (∃ p, p ∈ C10ex.prods ∧ ∃ pre suf, p.body = pre ++ [Sym.nonterm 1, .term 1] ++ suf) :=
  ⟨_, rfl, by decide, by decide, ⟨⟨0, [.term 0, .nonterm 1, .term 1]⟩, by decide, [.term 0], [], rfl⟩⟩

/-- the memo table: FIRST(`A z`) with `z` undeclared panics behind the nullable `A` and leaves `{a}` without ε in the
table, which the second call returns; with declared symbols the table is transparent -/
example : ∃ an, analyse C10ex IterOrder.canon IterOrder.canon = .ok an ∧
    (firstCall C10ex an.first [] [.nonterm 1, .term 9]).1 = .panic ∧
    (firstCall C10ex an.first (firstCall C10ex an.first [] [.nonterm 1, .term 9]).2 [.nonterm 1, .term 9]).1
      = .ok ⟨[0], false⟩ ∧
    (firstCall C10ex an.first [] [.nonterm 1, .term 1]).1 = .ok ⟨[0, 1], false⟩ ∧
    MemoGood an.first ([] : FirstMemo Nat Nat) :=
  ⟨_, rfl, by decide, by decide, by decide, fun _ _ h => by cases h⟩
