import AlgoVerif.Proofs.C12Complete
import AlgoVerif.Proofs.C12AST
import AlgoVerif.Proofs.C12Term
import AlgoVerif.Proofs.C10TableEq
import AlgoVerif.Proofs.C12ASTStack
import AlgoVerif.Proofs.C12Faults
import AlgoVerif.Proofs.C10Edit
/-!
# C12 — the predictive parser accepts exactly L(G) for LL(1) grammars

Model: `Model/C10.lean` (`parseLoop` = the stack/input loop of `predictive.Parse`,
`parseWith` = `Parse` including `BuildParsingTable` — the table filled by the `addProduction` / `setSync`
calls in the order the code makes them — and the `Conflicts()` gate, `buildASTStack` = the callbacks of
`ParseAndBuildAST` with their explicit stack of node pointers).  Spec: `Language` of
`Model/GrammarCore.lean`, `Spec.LeftmostDerives`.

Two refinement facts carry the proofs (`C12_table_refinement`, `C12_ast_refinement`): for a duplicate-free
production list the cells of the table built call by call are the lists `cell g fi fo A a` (so
`Conflicts()` is `conflicts g fi fo`), and the pointer-stack builder computes the same tree as "complete the
leftmost incomplete node" (`buildAST`).  Hypotheses of the form `conflicts g … = []` below therefore say
"`Conflicts()` of the built table is empty".

All statements are for ALL grammars, ALL token strings and EVERY iteration order of the FIRST/FOLLOW
computation the table is built from; `parseWith … = .ok (.done …)` already says that the table had no
conflict (otherwise the answer is `.tableError`).  The hypothesis `analyse … = .ok an` (FIRST/FOLLOW
returned) holds for every grammar that passes `Verify()` by `C10_fixpoints_terminate`.
-/
open AlgoVerif AlgoVerif.Gram AlgoVerif.C10
set_option linter.unusedSectionVars false

section
variable {T N : Type} [DecidableEq T] [DecidableEq N]

/-- **Soundness.**  If `Parse` returns no error, the productions it emitted are the leftmost derivation
of the input from the start symbol (so the input is a sentence), the token callback saw exactly the
input, and `ParseAndBuildAST` returns a complete tree whose leaves are the input tokens in order
(yield = input).  No hypothesis on the grammar or on how FIRST/FOLLOW were obtained is needed. -/
theorem C12_sound (g : Grammar T N) (an : Analysis T N) (fuel : Nat) (w : List T) (E : List (Event T N))
    (h : parseWith g an fuel w = .ok (.done (.accept E))) :
    Spec.LeftmostDerives g (eventProds E) [Sym.nonterm g.start] (w.map Sym.term) ∧
    Language g w ∧
    eventToks E = withPos w 0 ∧
    ∃ t, buildASTStack g.start E = .ok t ∧
      t.frontier = (withPos w 0).map (fun x => (x.1, some x.2)) ∧ t.yield = w := by
  unfold parseWith at h
  dsimp only at h
  split at h
  · generalize hl : parseLoop _ fuel _ w 0 [] = o at h
    cases o with
    | ok r =>
      cases h
      obtain ⟨h1, h2⟩ := parse_sound (tcell_tableSound g _ _ _) hl
      refine ⟨h1, h1.toDerives, h2, ?_⟩
      rw [buildASTStack_eq]
      exact ast_of_parse hl
    | panic => cases h
    | diverge => cases h
  · cases h

/-- **The table built call by call is the table of cells.**  For a duplicate-free production list (what
`G.Productions` is) and any order of the rows: every cell of `buildTable` is the list `cell g fi fo A a`,
`Conflicts()` is `conflicts g fi fo`, and `Parse` is `parseWithCells`. -/
theorem C12_table_refinement (g : Grammar T N) (hnd : g.prods.Nodup) (an : Analysis T N) (rows : List N) :
    tcell (buildTable (firstStr an.first) an.follow g.prods rows) = cell g (firstStr an.first) an.follow ∧
    tconflicts (buildTable (firstStr an.first) an.follow g.prods rows) g.nonterms (columns g)
      = conflicts g (firstStr an.first) an.follow ∧
    ∀ fuel w, parseWith g an fuel w = parseWithCells g an fuel w :=
  ⟨tcell_eq_cell hnd _ _ rows, tconflicts_eq hnd _ _ rows, fun fuel w => parseWith_eq_cells hnd an fuel w⟩

/-- **The pointer-stack AST builder is "complete the leftmost incomplete node".** -/
theorem C12_ast_refinement (S : N) (es : List (Event T N)) :
    buildASTStack S es = buildAST es (Tree.node S none []) :=
  buildASTStack_eq S es

/-- **A sentence followed by further tokens is not accepted** (unless the longer string is a sentence
itself): `Parse` never answers "no error" on a non-sentence — this is `C12_sound` read backwards, for any string that
is not a sentence; that `u` is one is not used.  (The witness of defect D19, `a a` for `S → a`, is the `example` on
`C12d19` below: there the answer is the error `trailing`.) -/
theorem C12_rejects_trailing (g : Grammar T N) (an : Analysis T N) (fuel : Nat) (u v : List T)
    (_hu : Language g u) (hv : ¬ Language g (u ++ v)) (E : List (Event T N)) :
    parseWith g an fuel (u ++ v) ≠ .ok (.done (.accept E)) :=
  fun h => hv (C12_sound g an fuel (u ++ v) E h).2.1

/-- the step that implements it: stack down to `$`, input not at its end ⇒ error -/
theorem C12_stack_empty_input_left (M : N → Option T → List (GProd T N)) (fuel : Nat) (a : T)
    (rest : List T) (pos : Nat) (evs : List (Event T N)) :
    parseLoop M (fuel + 1) [] (a :: rest) pos evs = .ok (.reject .trailing) := rfl

/-- **Completeness, with termination on sentences.**  For a valid grammar whose table (built from any
fair run of FIRST/FOLLOW) is conflict-free, `Parse` accepts every sentence after finitely many steps. -/
theorem C12_complete (g : Grammar T N) (hv : validB g = true) (hnd : g.prods.Nodup)
    (o₁ o₂ : IterOrder T N) (h₁ : o₁.Fair) (h₂ : o₂.Fair) (an : Analysis T N)
    (han : analyse g o₁ o₂ = .ok an) (hcf : conflicts g (firstStr an.first) an.follow = [])
    (w : List T) (hw : Language g w) :
    ∃ fuel₀ E, ∀ fuel, fuel ≥ fuel₀ → parseWith g an fuel w = .ok (.done (.accept E)) := by
  obtain ⟨fuel₀, _, hE, E, rfl⟩ := accepts_of_derives hv (cell_tableLL1 hv h₁ h₂ han hcf) w
    [Sym.nonterm g.start] [] hw (by simpa [Ctx] using Derives.refl _) 0 []
  exact ⟨fuel₀, E, parseWith_of_loop hnd hcf hE⟩

/-- **Exactness** (what the parser decides, given enough steps): accepted iff sentence. -/
theorem C12_accepts_iff_sentence (g : Grammar T N) (hv : validB g = true) (hnd : g.prods.Nodup)
    (o₁ o₂ : IterOrder T N) (h₁ : o₁.Fair) (h₂ : o₂.Fair) (an : Analysis T N)
    (han : analyse g o₁ o₂ = .ok an) (hcf : conflicts g (firstStr an.first) an.follow = [])
    (w : List T) :
    (∃ fuel E, parseWith g an fuel w = .ok (.done (.accept E))) ↔ Language g w := by
  constructor
  · rintro ⟨fuel, E, h⟩
    exact (C12_sound g an fuel w E h).2.1
  · intro hw
    obtain ⟨fuel₀, E, h⟩ := C12_complete g hv hnd o₁ o₂ h₁ h₂ an han hcf w hw
    exact ⟨fuel₀, E, h fuel₀ (Nat.le_refl _)⟩

/-- **Termination on every token sequence.**  For a valid grammar and a table built from any fair run
of FIRST/FOLLOW, `Parse` returns after finitely many steps on every input — sentence or not (if the
table has a conflict it returns the table error at once).  Between two matches the lookahead is fixed,
and the cell of the non-terminal on top of the stack says how the run goes on: an entry that is there
because its body produces the lookahead is the first step of a derivation of a string that starts with
the lookahead, which the run follows and which gets shorter; an entry that is there because its body
vanishes is a step of a derivation `π ⇒* ε` of a prefix of the stack, which gets shorter, and then the
stack is shorter (`Proofs/C12Term.lean`). -/
theorem C12_terminates (g : Grammar T N) (hv : validB g = true) (hnd : g.prods.Nodup)
    (o₁ o₂ : IterOrder T N) (h₁ : o₁.Fair) (h₂ : o₂.Fair) (an : Analysis T N)
    (han : analyse g o₁ o₂ = .ok an) (w : List T) :
    ∃ fuel₀ r, ∀ fuel, fuel ≥ fuel₀ → parseWith g an fuel w = .ok r := by
  by_cases hcf : conflicts g (firstStr an.first) an.follow = []
  · obtain ⟨fuel₀, r, hr⟩ := parse_terminates hv h₁ h₂ han hcf w
    exact ⟨fuel₀, .done r, parseWith_of_loop hnd hcf hr⟩
  · refine ⟨0, .tableError, ?_⟩
    intro fuel _
    rw [parseWith_eq_cells hnd]
    simp [parseWithCells, hcf]

/-- **The property in one statement.**  For a valid grammar whose predictive table is conflict-free, and
every token sequence `w`: `Parse` terminates, and it returns no error iff `w` is a sentence of `G`. -/
theorem C12_decides_language (g : Grammar T N) (hv : validB g = true) (hnd : g.prods.Nodup)
    (o₁ o₂ : IterOrder T N) (h₁ : o₁.Fair) (h₂ : o₂.Fair) (an : Analysis T N)
    (han : analyse g o₁ o₂ = .ok an) (hcf : conflicts g (firstStr an.first) an.follow = [])
    (w : List T) :
    ∃ fuel₀ r, (∀ fuel, fuel ≥ fuel₀ → parseWith g an fuel w = .ok (.done r)) ∧
      ((∃ E, r = .accept E) ↔ Language g w) := by
  obtain ⟨fuel₀, r, hr⟩ := parse_terminates hv h₁ h₂ han hcf w
  have hall := parseWith_of_loop hnd hcf hr
  refine ⟨fuel₀, r, hall, ?_⟩
  constructor
  · rintro ⟨E, rfl⟩
    exact (C12_sound g an fuel₀ w E (hall fuel₀ (Nat.le_refl _))).2.1
  · intro hw
    obtain ⟨f₁, E, hE⟩ := C12_complete g hv hnd o₁ o₂ h₁ h₂ an han hcf w hw
    cases (hall (max fuel₀ f₁) (Nat.le_max_left _ _)).symm.trans (hE (max fuel₀ f₁) (Nat.le_max_right _ _))
    exact ⟨E, rfl⟩

/-! ### a lexer that fails, callbacks that return errors

`parseWithF` is `Parse` with a lexer whose call number `lexFail` answers an error other than `io.EOF`, a token
callback that returns an error for the token at position `tokFail` and a production callback that returns an error
at its call number `prodFail` (`none` = never); its result lists the callbacks that returned nil.  The property
words the parser's answer for lexers and callbacks that do not fail (the theorems above); these theorems say what
the three `return &parser.ParseError{Cause: err}` branches do, for all grammars, inputs and fault positions. -/

/-- **Nothing fails ⇒ the `Parse` of the theorems above**, and such a run never ends in a failure. -/
theorem C12_faultfree_is_parse (g : Grammar T N) (an : Analysis T N) (fuel : Nat) (w : List T) :
    (parseWith g an fuel w = (parseWithF g an none none none fuel w).bind fun r => match r with
      | .tableError => .ok .tableError
      | .done E .accept => .ok (.done (.accept E))
      | .done _ (.reject why) => .ok (.done (.reject why))
      | .done _ (.fail _) => .panic) ∧
    ∀ E f, parseWithF g an none none none fuel w ≠ .ok (.done E (.fail f)) := by
  constructor
  · unfold parseWith parseWithF
    dsimp only
    split
    · rw [parseRunF_none _ fuel _ w 0 0 []]
      simp only [reduceCtorEq, if_false]
      cases parseRunF (tcell (buildTable (firstStr an.first) an.follow g.prods g.nonterms)) none none none fuel
          [Sym.nonterm g.start] w 0 0 with
      | ok r =>
        obtain ⟨E, e⟩ := r
        cases e <;> simp [Outcome.bind, Outcome.map, toPResult]
      | panic => rfl
      | diverge => rfl
    · rfl
  · exact fun E f h => parseRunF_none_ne_fail _ fuel _ w 0 0 _ f (parseWithF_none_done h).2

/-- **An error of the lexer or of a callback stops `Parse` at that call.**  Whatever fails and wherever: the
run is the run in which nothing fails, cut at the first call that returns an error (`cutEvents`) — `Parse` returns
that error, and the callbacks it made before are exactly those of the undisturbed run up to there. -/
theorem C12_error_stops_parse (g : Grammar T N) (an : Analysis T N) (lexFail tokFail prodFail : Option Nat)
    (fuel : Nat) (w : List T) (E : List (Event T N)) (e : Ending)
    (h : parseWithF g an none none none fuel w = .ok (.done E e)) :
    parseWithF g an lexFail tokFail prodFail fuel w =
      .ok (if lexFail = some 0 then .done [] (.fail .lexer)
           else .done (cutEvents lexFail tokFail prodFail 0 E e).1 (cutEvents lexFail tokFail prodFail 0 E e).2) := by
  obtain ⟨hc, hr⟩ := parseWithF_none_done h
  unfold parseWithF
  dsimp only
  rw [if_pos hc]
  split
  · rfl
  · rw [parseRunF_cut _ lexFail tokFail prodFail fuel _ w 0 0 _ _ hr]; rfl

/-- **Nothing is emitted after the error, and without an error nothing changes**: the callbacks made under faults
are a prefix of the callbacks of the undisturbed run; if `Parse` does not end with an injected error, its answer
and its callbacks are those of the undisturbed run (so `C12_sound` … `C12_decides_language` apply to it). -/
theorem C12_nothing_emitted_after_error (g : Grammar T N) (an : Analysis T N)
    (lexFail tokFail prodFail : Option Nat) (fuel : Nat) (w : List T) (E E' : List (Event T N)) (e e' : Ending)
    (h : parseWithF g an none none none fuel w = .ok (.done E e))
    (h' : parseWithF g an lexFail tokFail prodFail fuel w = .ok (.done E' e')) :
    E' <+: E ∧ ((∀ f, e' ≠ .fail f) → E' = E ∧ e' = e) := by
  rw [C12_error_stops_parse g an lexFail tokFail prodFail fuel w E e h] at h'
  by_cases h0 : lexFail = some 0
  · simp only [h0, if_true, Outcome.ok.injEq, ParseOutF.done.injEq] at h'
    obtain ⟨rfl, rfl⟩ := h'
    exact ⟨List.nil_prefix, fun hf => absurd rfl (hf .lexer)⟩
  · simp only [h0, if_false, Outcome.ok.injEq, ParseOutF.done.injEq] at h'
    obtain ⟨rfl, rfl⟩ := h'
    refine ⟨(cutEvents_spec _ _ _ E 0 e).1, fun hf => ?_⟩
    rw [(cutEvents_spec _ _ _ E 0 e).2 hf]
    exact ⟨rfl, rfl⟩

/-- **The token callback's error is returned**: if the undisturbed run hands the token at position `j` to the token
callback (after the callbacks `E₁`), and that call returns an error, `Parse` returns that error (with the position
of the token) having made exactly the callbacks `E₁`. -/
theorem C12_token_callback_error_returned (g : Grammar T N) (an : Analysis T N) (fuel : Nat) (w : List T)
    (E₁ E₂ : List (Event T N)) (t : T) (j : Nat) (e : Ending)
    (h : parseWithF g an none none none fuel w = .ok (.done (E₁ ++ .tok t j :: E₂) e))
    (hfirst : ∀ t' p, Event.tok t' p ∈ E₁ → p ≠ j) :
    parseWithF g an none (some j) none fuel w = .ok (.done E₁ (.fail (.token j))) := by
  rw [C12_error_stops_parse g an none (some j) none fuel w _ e h, cutEvents_token j t E₁ E₂ 0 e hfirst]
  simp

/-- **The production callback's error is returned**: if its call number `k` returns an error, `Parse` returns that
error having made exactly the callbacks before it. -/
theorem C12_production_callback_error_returned (g : Grammar T N) (an : Analysis T N) (fuel : Nat) (w : List T)
    (E₁ E₂ : List (Event T N)) (p : GProd T N) (e : Ending)
    (h : parseWithF g an none none none fuel w = .ok (.done (E₁ ++ .prod p :: E₂) e)) :
    parseWithF g an none none (some (eventProds E₁).length) fuel w = .ok (.done E₁ (.fail .prod)) := by
  rw [C12_error_stops_parse g an none none (some (eventProds E₁).length) fuel w _ e h,
    cutEvents_prod (eventProds E₁).length p E₁ E₂ 0 e (by omega)]
  simp

/-- **The lexer's error is returned**: an error at the first `NextToken` is returned before any callback; an error
at the call that follows the token at position `j` is returned right after that token's callback. -/
theorem C12_lexer_error_returned (g : Grammar T N) (an : Analysis T N) (fuel : Nat) (w : List T)
    (E : List (Event T N)) (e : Ending) (h : parseWithF g an none none none fuel w = .ok (.done E e)) :
    parseWithF g an (some 0) none none fuel w = .ok (.done [] (.fail .lexer)) ∧
    ∀ (E₁ E₂ : List (Event T N)) (t : T) (j : Nat), E = E₁ ++ .tok t j :: E₂ →
      (∀ t' p, Event.tok t' p ∈ E₁ → p ≠ j) →
      parseWithF g an (some (j + 1)) none none fuel w = .ok (.done (E₁ ++ [.tok t j]) (.fail .lexer)) := by
  constructor
  · rw [C12_error_stops_parse g an (some 0) none none fuel w E e h]
    simp
  · intro E₁ E₂ t j hE hfirst
    subst hE
    rw [C12_error_stops_parse g an (some (j + 1)) none none fuel w _ e h, cutEvents_lexer j t E₁ E₂ 0 e hfirst]
    simp

/-! ### the lexer's end of input, one parser object over time (`Model/C10Edit.lean`)

`nextToken` turns every error `err` with `errors.Is(err, io.EOF)` into the endmarker and hands every other error back;
`parseWithL` is `Parse` on a lexer given by what its calls return (`LexAnswer`: a token, an end-of-input error of any
make with any token beside it, another error).  `predictive.New` keeps the pointer to the caller's grammar and `Parse`
builds the table from it every time; `parserHistory` is one parser object over a history of in-place edits of that
grammar (every way the API allows: `Edit`) and `Parse` calls. -/

/-- **`Parse` sees the tokens and nothing else.**  For every lexer — whatever error it ends its input with (`io.EOF`,
wrapped, joined, a type of its own), whatever token it returns beside that error, wherever it fails — `Parse` is
`parseWithF` on the tokens delivered before the first call that returned an error, failing at that call iff the error
is not an end-of-input error; so all theorems above apply, and two lexers that deliver the same tokens and then end
give the same result. -/
theorem C12_lexer_end_of_input (g : Grammar T N) (an : Analysis T N) (lx : List (LexAnswer T))
    (tokFail prodFail : Option Nat) (fuel : Nat) :
    parseWithL g an lx tokFail prodFail fuel = parseWithF g an (lexFailAt lx) tokFail prodFail fuel (lexTokens lx) ∧
    ∀ lx' : List (LexAnswer T), lexTokens lx' = lexTokens lx → lexFailAt lx' = lexFailAt lx →
      parseWithL g an lx' tokFail prodFail fuel = parseWithL g an lx tokFail prodFail fuel := by
  refine ⟨parseWithL_eq g an lx tokFail prodFail fuel, ?_⟩
  intro lx' ht hf
  rw [parseWithL_eq, parseWithL_eq, ht, hf]

/-- **A parser object answers for the grammar as it is.**  One parser made for a grammar object `g` (a set grammar, as
`NewCFG` makes it), any history of in-place edits of `g` and `Parse` calls of that parser on new inputs: the `Parse` that
comes after the steps `pre` is the `Parse` of a fresh parser on `applyEdits g (editsOf pre)`; so when THAT grammar
passes `Verify()` and its table is conflict-free, the call terminates and returns no error iff its input is a sentence
of that grammar — whatever the parser has parsed before and whatever the grammar was then. -/
theorem C12_parser_object_history (g : Grammar T N) (hset : IsSetGrammar g) (pre post : List (PStep T N))
    (w : List T) (o₁ o₂ : IterOrder T N) (h₁ : o₁.Fair) (h₂ : o₂.Fair)
    (hv : validB (applyEdits g (editsOf pre)) = true) (an : Analysis T N)
    (han : analyse (applyEdits g (editsOf pre)) o₁ o₂ = .ok an)
    (hcf : conflicts (applyEdits g (editsOf pre)) (firstStr an.first) an.follow = []) :
    (∀ fuel, (parserHistory fuel g (pre ++ .parse w o₁ o₂ :: post))[parsesIn pre]? =
      some (freshParse fuel (applyEdits g (editsOf pre)) w o₁ o₂)) ∧
    ∃ fuel₀ r, (∀ fuel, fuel ≥ fuel₀ →
        (parserHistory fuel g (pre ++ .parse w o₁ o₂ :: post))[parsesIn pre]? = some (.ok (.done r))) ∧
      ((∃ E, r = .accept E) ↔ Language (applyEdits g (editsOf pre)) w) := by
  refine ⟨fun fuel => parserHistory_at fuel g pre post w o₁ o₂, ?_⟩
  have hnd := (applyEdits_isSet (editsOf pre) g hset).2.2
  obtain ⟨fuel₀, r, hall, hiff⟩ := C12_decides_language _ hv hnd o₁ o₂ h₁ h₂ an han hcf w
  refine ⟨fuel₀, r, ?_, hiff⟩
  intro fuel hf
  rw [parserHistory_at]
  simp only [freshParse, han]
  rw [hall fuel hf]

end

/-! ## non-vacuity: `S → a A b`, `A → ε | a A` (terminals `0 = a`, `1 = b`; non-terminals `0 = S`, `1 = A`) -/

def C12ex : Grammar Nat Nat :=
  { terms := [0, 1], nonterms := [0, 1], start := 0,
    prods := [⟨0, [.term 0, .nonterm 1, .term 1]⟩, ⟨1, []⟩, ⟨1, [.term 0, .nonterm 1]⟩] }

example : validB C12ex = true := by decide
example : C12ex.prods.Nodup := by decide

/-- the table is conflict-free, `a a b` is accepted with the expected leftmost derivation, `a b b`
(sentence + trailing token) and `a` (truncated sentence) are rejected -/
example : ∃ an, analyse C12ex IterOrder.canon IterOrder.canon = .ok an ∧
    conflicts C12ex (firstStr an.first) an.follow = [] ∧
    (∃ E, parseWith C12ex an 50 [0, 0, 1] = .ok (.done (.accept E)) ∧
      eventProds E = [⟨0, [.term 0, .nonterm 1, .term 1]⟩, ⟨1, [.term 0, .nonterm 1]⟩, ⟨1, []⟩] ∧
      ∃ t, buildASTStack 0 E = .ok t ∧ t.yield = [0, 0, 1]) ∧
    parseWith C12ex an 50 [0, 1, 1] = .ok (.done (.reject .trailing)) ∧
    parseWith C12ex an 50 [0] = .ok (.done (.reject .noEntry)) :=
  ⟨_, rfl, by decide, ⟨_, rfl, by decide, _, rfl, by decide⟩, rfl, rfl⟩

example : Language C12ex [0, 0, 1] := by
  have hA0 : Derives C12ex [Sym.nonterm 1] [] := Derives.of_prod (p := ⟨1, []⟩) (by decide)
  have hA1 : Derives C12ex [Sym.nonterm 1] [.term 0] := by
    refine (Derives.of_prod (p := ⟨1, [.term 0, .nonterm 1]⟩) (by decide)).trans ?_
    simpa using hA0.append_left [Sym.term 0]
  refine (Derives.of_prod (p := ⟨0, [.term 0, .nonterm 1, .term 1]⟩) (by decide)).trans ?_
  have := (hA1.append_left [Sym.term 0]).append_right [Sym.term 1]
  simpa using this

/-- D19 witness: `S → a` on `a a` is rejected because input is left when the stack is empty -/
def C12d19 : Grammar Nat Nat :=
  { terms := [0], nonterms := [0], start := 0, prods := [⟨0, [.term 0]⟩] }

example : ∃ an, analyse C12d19 IterOrder.canon IterOrder.canon = .ok an ∧
    (∃ E, parseWith C12d19 an 10 [0] = .ok (.done (.accept E))) ∧
    parseWith C12d19 an 10 [0, 0] = .ok (.done (.reject .trailing)) :=
  ⟨_, rfl, ⟨_, rfl⟩, rfl⟩

/-- faults on `a a b` for `S → a A b`, `A → ε | a A`: the undisturbed run makes six callbacks; an error of the token
callback at position 1, of production callback number 1, of the lexer at its calls 0 and 2 each stop it there -/
example : ∃ an, analyse C12ex IterOrder.canon IterOrder.canon = .ok an ∧
    parseWithF C12ex an none none none 50 [0, 0, 1] = .ok (.done
      [.prod ⟨0, [.term 0, .nonterm 1, .term 1]⟩, .tok 0 0, .prod ⟨1, [.term 0, .nonterm 1]⟩, .tok 0 1, .prod ⟨1, []⟩,
       .tok 1 2] .accept) ∧
    parseWithF C12ex an none (some 1) none 50 [0, 0, 1] = .ok (.done
      [.prod ⟨0, [.term 0, .nonterm 1, .term 1]⟩, .tok 0 0, .prod ⟨1, [.term 0, .nonterm 1]⟩] (.fail (.token 1))) ∧
    parseWithF C12ex an none none (some 1) 50 [0, 0, 1] = .ok (.done
      [.prod ⟨0, [.term 0, .nonterm 1, .term 1]⟩, .tok 0 0] (.fail .prod)) ∧
    parseWithF C12ex an (some 0) none none 50 [0, 0, 1] = .ok (.done [] (.fail .lexer)) ∧
    parseWithF C12ex an (some 2) none none 50 [0, 0, 1] = .ok (.done
      [.prod ⟨0, [.term 0, .nonterm 1, .term 1]⟩, .tok 0 0, .prod ⟨1, [.term 0, .nonterm 1]⟩, .tok 0 1] (.fail .lexer)) :=
  ⟨_, rfl, rfl, rfl, rfl, rfl, rfl⟩

/-- the lexer's ways of ending: `a a b` then `io.EOF` (the answers end), then an end-of-input error with a token `9`
beside it, then nothing but that error — the same accepting run; a failure at call 2 is the failing call of `parseWithF` -/
example : ∃ an, analyse C12ex IterOrder.canon IterOrder.canon = .ok an ∧
    parseWithL C12ex an [.tok 0, .tok 0, .tok 1] none none 50 = parseWithF C12ex an none none none 50 [0, 0, 1] ∧
    parseWithL C12ex an [.tok 0, .tok 0, .tok 1, .eof (some 9), .tok 1] none none 50 =
      parseWithF C12ex an none none none 50 [0, 0, 1] ∧
    parseWithL C12ex an [.tok 0, .tok 0, .fail, .tok 1] none none 50 = parseWithF C12ex an (some 2) none none 50 [0, 0] ∧
    lexTokens [LexAnswer.tok 0, .tok 0, .tok 1, .eof (some 9), .tok 1] = [0, 0, 1] ∧
    lexFailAt [LexAnswer.tok (0 : Nat), .tok 0, .fail, .tok 1] = some 2 :=
  ⟨_, rfl, rfl, rfl, rfl, rfl, rfl⟩

/-- one parser object: made for `C12ex`, it accepts `a a b`; `S → a A b` is then turned into `S → a A` through the pointer
of the production (`setBody`), `A → b` added through the set `Get` returns (`getAdd`) and removed again: the same object
now rejects `a a b` and accepts `a a` — the grammar stays a set grammar all along -/
example : IsSetGrammar C12ex ∧
    (parserHistory 50 C12ex
      [.parse [0, 0, 1] IterOrder.canon IterOrder.canon,
       .edit (.setBody ⟨0, [.term 0, .nonterm 1, .term 1]⟩ [.term 0, .nonterm 1]),
       .edit (.getAdd ⟨1, [.term 1]⟩), .edit (.removeProd ⟨1, [.term 1]⟩),
       .parse [0, 0, 1] IterOrder.canon IterOrder.canon,
       .parse [0, 0] IterOrder.canon IterOrder.canon]).map (fun r => match r with
        | .ok (.done (.accept _)) => 1
        | .ok (.done (.reject _)) => 0
        | _ => 2) = [1, 0, 1] :=
  ⟨⟨by decide, by decide, by decide⟩, by decide +kernel⟩
