import AlgoVerif.Proofs.C13Subset
import AlgoVerif.Proofs.C13Union
import AlgoVerif.Proofs.C13Star
import AlgoVerif.Proofs.C13DfaOps
import AlgoVerif.Proofs.C13SubsetTerm
import AlgoVerif.Proofs.C13DfaTerm
import AlgoVerif.Proofs.C13Min
import AlgoVerif.Proofs.C13Concat
import AlgoVerif.Proofs.C13CombineMap
import AlgoVerif.Proofs.C13Refine
import AlgoVerif.Proofs.C13Minimal
import AlgoVerif.Proofs.C13MinimalFull
import AlgoVerif.Proofs.C13IsoDFA
import AlgoVerif.Proofs.C13IsoNFA
import AlgoVerif.Proofs.C13Results
import AlgoVerif.Proofs.C13X
/-!
# C13 — automata conversions and combinators compute the intended regular languages

Objects.  `NFA`/`DFA` are the Models of `automata/nfa.go` / `automata/dfa.go` (`Model/C13.lean`).
`n.lang : List Int → Prop` is the *relational* language of an ε-NFA (`Spec.nfaLang` of the transition
relation `n.Δ` the tables denote: some path spelling the word, ε-moves free, ends in a final state);
`d.lang` is the run-based language of a partial DFA (`Spec.dfaLang`).  Union, concatenation and the
Kleene star of languages are the textbook definitions in `Spec/C13.lean`, independent of automata.

Standing hypotheses (each is a documented convention of the package, and every automaton built with
`New…`/`Add` and non-negative ids satisfies them):
* `WF` — the tables are key-sorted (what the Red-Black tables guarantee; `NFA.WF_new`, `NFA.WF_add`);
* `E ∉ w` — "E is the empty string ε and is never a member of an input alphabet" (automata.go);
* `DFA.Proper` — `-1` ("invalid state", returned by `Next`) is not used as a state id;
  `DFA.NoEps` — a DFA has no transition labelled `E`.
-/
open AlgoVerif AlgoVerif.C13 AlgoVerif.C13.Spec

/-- `NFA.Accept` always returns (the ε-closure loop never runs out of fuel, nothing panics) and
decides the relational language. -/
theorem C13_nfa_accept_spec (n : NFA) (w : Word) :
    ∃ b, n.accept w = .ok b ∧ (b = true ↔ n.lang w) :=
  n.accept_total w

example : (NFA.new 0 [1] |>.add 0 97 [1] |>.add 1 E [0]).accept [97, 97] = .ok true := by decide +kernel

/-- `DFA.Accept` decides the run-based language of a DFA that does not use `-1` as a state. -/
theorem C13_dfa_accept_spec (d : DFA) (hp : d.Proper) (w : Word) : d.accept w = true ↔ d.lang w :=
  d.accept_spec hp w

example : ((DFA.new 2 [4]).add 2 97 4).Proper := DFA.proper_of_properB (by decide)

/-- `ToNFA` preserves the language. -/
theorem C13_toNFA_accepts (d : DFA) (hwf : d.WF) (he : d.NoEps) (w : Word) : d.toNFA.lang w ↔ d.lang w :=
  DFA.toNFA_lang hwf he w

example : ((DFA.new 2 [4]).add 2 97 4 |>.add 4 98 2).NoEps ∧ ((DFA.new 2 [4]).add 2 97 4 |>.add 4 98 2).WF :=
  ⟨DFA.noEps_of_noEpsB (by decide), DFA.WF_add (DFA.WF_add (DFA.WF_new _ _) _ _ _) _ _ _⟩

/-- `Clone` preserves the language (NFA and DFA). -/
theorem C13_clone_accepts_nfa (n : NFA) (hwf : n.WF) (w : Word) : n.clone.lang w ↔ n.lang w :=
  NFA.clone_lang hwf w

theorem C13_clone_accepts_dfa (d : DFA) (hwf : d.WF) (w : Word) : d.clone.lang w ↔ d.lang w :=
  DFA.clone_lang hwf w

example : ((NFA.new 0 [1]).add 0 97 [1, 0]).WF := NFA.WF_add (NFA.WF_new _ _) _ _ _

/-- Subset construction: `ToDFA` always returns (the fuel `2^|Q| + 1` is never exhausted, because the
queue holds pairwise distinct subsets of the state set; nothing panics) and the DFA accepts exactly the
NFA's language. -/
theorem C13_toDFA_accepts (n : NFA) (w : Word) (hE : E ∉ w) :
    ∃ d, n.toDFA = .ok d ∧ (d.lang w ↔ n.lang w) := by
  obtain ⟨d, hd, -⟩ := n.toDFA_total
  exact ⟨d, hd, n.toDFA_lang d hd w hE⟩

/-- Termination of the subset construction, stated on the loop: with any fuel `≥ 2^|Q|` the loop returns. -/
theorem C13_toDFA_terminates (n : NFA) (fuel : Nat) (hf : 2 ^ n.states.length ≤ fuel) (S0 : List Int)
    (h0 : n.εClosure (mkSet [n.start]) = .ok S0) :
    ∃ r, subsetLoop n n.symbols fuel [S0] 0 (DFA.new 0 []) = .ok r :=
  (subsetLoop_total n n.symbols fuel [S0] 0 _ (SubInv.start n _ S0 h0) (by omega)).imp fun _ h => h.1

example : (NFA.new 0 [1] |>.add 0 97 [0, 1] |>.add 0 E [1]).toDFA.isOk = true := by decide +kernel

/-- `Union` accepts exactly the union of the operand languages. -/
theorem C13_union_lang (nfas : List NFA) (hwf : ∀ n ∈ nfas, n.WF) (w : Word) (hE : E ∉ w) :
    (NFA.union nfas).lang w ↔ Lang.unionAll (nfas.map NFA.lang) w := by
  rw [NFA.union_lang nfas hwf w hE]
  exact ⟨fun ⟨n, h1, h2⟩ => ⟨n.lang, List.mem_map.2 ⟨n, h1, rfl⟩, h2⟩,
    fun ⟨L, hL, h2⟩ => by obtain ⟨n, h1, rfl⟩ := List.mem_map.1 hL; exact ⟨n, h1, h2⟩⟩

example : Lang.unionAll [(NFA.new 0 [1] |>.add 0 97 [1]).lang, (NFA.new 3 [3]).lang] [] :=
  ⟨(NFA.new 3 [3]).lang, by simp, 3, by decide, Path.eps (EReach.refl _)⟩

/-- `Star` accepts exactly the Kleene closure of the operand language. -/
theorem C13_star_lang (n : NFA) (hwf : n.WF) (w : Word) (hE : E ∉ w) :
    n.star.lang w ↔ Lang.star n.lang w :=
  n.star_lang hwf w hE

example : (NFA.new 4 [6] |>.add 4 97 [6]).star.accept [97, 97, 97] = .ok true := by decide +kernel

/-- `EliminateDeadStates` always returns (the DFS never exhausts its fuel) and preserves the language. -/
theorem C13_elimDead_accepts (d : DFA) (hwf : d.WF) (hp : d.Proper) (w : Word) :
    ∃ d', d.elimDead = .ok d' ∧ (d'.lang w ↔ d.lang w) := by
  obtain ⟨d', hd', -⟩ := d.elimDead_total
  exact ⟨d', hd', d.elimDead_lang d' hwf hp hd' w⟩

example : ((DFA.new 0 [1]).add 0 97 1 |>.add 0 98 2 |>.add 2 97 2).elimDead
    = .ok ((DFA.new 0 [1]).add 0 97 1) := by decide +kernel

/-- `ReindexStates` always returns (the BFS never exhausts its fuel) and preserves the language. -/
theorem C13_reindex_accepts (d : DFA) (hwf : d.WF) (w : Word) :
    ∃ d', d.reindex = .ok d' ∧ (d'.lang w ↔ d.lang w) := by
  obtain ⟨d', hd', -⟩ := d.reindex_total
  exact ⟨d', hd', d.reindex_lang d' hwf hd' w⟩

example : ((DFA.new 5 [9]).add 5 97 9 |>.add 9 98 5).reindex = .ok ((DFA.new 0 [1]).add 0 97 1 |>.add 1 98 0) := by
  decide +kernel

/-- `Concat` (the code of /repo, where defect D20 of DESIGN.md §2 is repaired) accepts exactly the concatenation
of the operand languages — for every word, any number of operands, operands whose start state is accepting or
has incoming edges included.  No `E ∉ w` as for `Union` and `Star`: `Concat` adds no ε-edge of its own. -/
theorem C13_concat_lang (nfas : List NFA) (hwf : ∀ n ∈ nfas, n.WF) (w : Word) :
    (NFA.concat nfas).lang w ↔ Lang.concatAll (nfas.map NFA.lang) w :=
  NFA.concat_lang nfas hwf w

/-- the D20 witnesses: `a*·b` accepts `b`, `ab*·c(dc)*` rejects `acdbc` -/
example : (NFA.concat [NFA.new 0 [0] |>.add 0 97 [0], NFA.new 0 [1] |>.add 0 98 [1]]).accept [98] = .ok true := by
  decide +kernel
example : (NFA.concat [NFA.new 0 [1] |>.add 0 97 [1] |>.add 1 98 [1],
    NFA.new 0 [1] |>.add 0 99 [1] |>.add 1 100 [0]]).accept [97, 99, 100, 98, 99] = .ok false := by
  decide +kernel

/-- The refinement loop of `Minimize` exits within its fuel `|Q| + 3`: from the initial partition (final and
non-final states) it returns after at most `|Q| + 2` rounds, because an unsuccessful round strictly increases
the number of groups, which never exceeds `|Q|`.  (`refineLoop_total` says so from any partition that satisfies
the loop invariant `PInv`.) -/
theorem C13_minimize_terminates (d : DFA) (hwf : d.WF) (hfs : SSorted d.final) (fuel : Nat)
    (hf : d.states.length + 2 ≤ fuel) : ∃ P, refineLoop d fuel d.initPartition = .ok P :=
  (refineLoop_total d hwf (PInv d) (fun _ h => h) (fun P => refine_pinv P d hwf) fuel d.initPartition
    (d.initPartition_pinv hfs) hf).imp fun _ h => h.1

/-- `Minimize` always returns and the result accepts the same language: the loop keeps a partition of the
states into disjoint sorted groups that never mix accepting and non-accepting states, the exit test
`Πnew.Equal(Π)` makes every group uniform for the signatures `BuildGroupTrans` computes, and the quotient by
such a partition preserves the language.  (`SSorted d.final` holds for every DFA made by `NewDFA`.) -/
theorem C13_minimize_accepts (d : DFA) (hwf : d.WF) (hfs : SSorted d.final) (w : Word) :
    ∃ d', d.minimize = .ok d' ∧ (d'.lang w ↔ d.lang w) := by
  obtain ⟨d', hd', -⟩ := d.minimize_total hwf hfs
  exact ⟨d', hd', d.minimize_lang d' hwf hfs hd' w⟩

example : ((DFA.new 0 [2, 3]).add 0 97 1 |>.add 0 98 1 |>.add 1 97 2 |>.add 1 98 3).minimize
    = .ok ((DFA.new 0 [2]).add 0 97 1 |>.add 0 98 1 |>.add 1 97 2 |>.add 1 98 2) := by decide +kernel

/-- Step 4 of `Minimize` on its own: the quotient of a DFA by ANY stable partition accepts the same language. -/
theorem C13_minimize_quotient (d : DFA) (hwf : d.WF) (P : Partition) (hs : Stable d P) (w : Word) :
    (buildMin d P).lang w ↔ d.lang w :=
  buildMin_lang d hwf P hs w

/-- non-vacuity: a stable partition of a four-state DFA into three groups -/
example : Stable ((DFA.new 0 [2, 3]).add 0 97 1 |>.add 0 98 1 |>.add 1 97 2 |>.add 1 98 3)
    ⟨[([0], 0), ([1], 1), ([2, 3], 2)], 3⟩ :=
  stable_of_stableB _ (DFA.WF_add (DFA.WF_add (DFA.WF_add (DFA.WF_add (DFA.WF_new _ _) _ _ _) _ _ _) _ _ _) _ _ _) _ (by decide)

/-- `CombineDFA` always returns, and the DFA it returns accepts the union of the operand languages. -/
theorem C13_combine_lang (ds : List DFA) (hwf : ∀ d ∈ ds, d.WF) (hne : ∀ d ∈ ds, d.NoEps) (w : Word) (hE : E ∉ w) :
    ∃ D fm, combineDFA ds = .ok (D, fm) ∧ (D.lang w ↔ ∃ d ∈ ds, d.lang w) := by
  obtain ⟨⟨D, fm⟩, h, -⟩ := combineDFA_total ds
  exact ⟨D, fm, h, combineDFA_lang ds hwf hne D fm h w hE⟩

/-- Whenever `CombineDFA` returns `(D, fm)`, the final-state map `fm` has one entry per operand and tells, for each
operand, exactly the states in which that operand accepts: after reading `w` the combined DFA is in a state
listed in `fm[i]` iff operand `i` accepts `w`; every state listed is `≥ 0`. -/
theorem C13_combine_finalMap (ds : List DFA) (hwf : ∀ d ∈ ds, d.WF) (hne : ∀ d ∈ ds, d.NoEps)
    (D : DFA) (fm : List (List Int)) (h : combineDFA ds = .ok (D, fm)) (w : Word) (hE : E ∉ w) :
    fm.length = ds.length ∧
    ∀ (i : Nat) (d : DFA), ds[i]? = some d → ∃ l : List Int, fm[i]? = some l ∧ (∀ q ∈ l, (-1 : Int) < q) ∧
      ∀ q, dfaRun D.δ (some D.start) w = some q → (q ∈ l ↔ d.lang w) :=
  combineDFA_finalMap ds hwf hne D fm h w hE

example : combineDFA [(DFA.new 0 [1]).add 0 97 1, (DFA.new 4 [4]).add 4 98 4]
    = .ok ((DFA.new 0 [0, 1, 2]).add 0 97 1 |>.add 0 98 2 |>.add 2 98 2, [[1], [0, 2]]) := by decide +kernel

/-- `Minimize` of a DFA without unreachable or dead states has the fewest states of any equivalent DFA:
for every (partial) DFA `(δ2, start2, final2)` with the same language whose reachable states lie in `Q2`,
the result of `Minimize` has at most `|Q2|` states.  (Different groups of the final partition are
distinguished by a word — by induction over the splits; a split on a missing transition uses that the
existing target is live — and the states of the quotient are reachable and live when those of `d` are;
then the Myhill–Nerode argument below.) -/
theorem C13_minimize_minimal (d d' : DFA) (hwf : d.WF) (hfs : SSorted d.final)
    (hreach : ∀ s ∈ d.states, ∃ u, dfaRun d.δ (some d.start) u = some s)
    (hlive : ∀ s ∈ d.states, ∃ v, d.acc s v)
    (h : d.minimize = .ok d')
    (δ2 : Int → Int → Option Int) (start2 : Int) (final2 : Int → Prop) (Q2 : List Int)
    (hQ2 : ∀ u t, dfaRun δ2 (some start2) u = some t → t ∈ Q2)
    (hlang : ∀ w, d.lang w ↔ dfaLang δ2 start2 final2 w) :
    d'.states.length ≤ Q2.length :=
  d.minimize_minimal d' hwf hfs hreach hlive h δ2 start2 final2 Q2 hQ2 hlang

/-- non-vacuity: every state of the DFA for `(a|b)a*` with a redundant state is reachable and live -/
example : let d := ((DFA.new 0 [1, 2]).add 0 97 1 |>.add 0 98 2 |>.add 1 97 1 |>.add 2 97 2)
    (∀ s ∈ d.states, ∃ u, dfaRun d.δ (some d.start) u = some s) ∧ (∀ s ∈ d.states, ∃ v, d.acc s v) ∧
    d.minimize = .ok ((DFA.new 0 [1]).add 0 97 1 |>.add 0 98 1 |>.add 1 97 1) := by
  intro d
  have hst : ∀ s ∈ d.states, s = 0 ∨ s = 1 ∨ s = 2 := by decide
  refine ⟨fun s hs => ?_, fun s hs => ?_, by decide⟩
  · rcases hst s hs with rfl | rfl | rfl
    · exact ⟨[], rfl⟩
    · exact ⟨[97], by decide⟩
    · exact ⟨[98], by decide⟩
  · rcases hst s hs with rfl | rfl | rfl
    · exact ⟨[97], 1, by decide, by decide⟩
    · exact ⟨[], 1, rfl, by decide⟩
    · exact ⟨[], 2, rfl, by decide⟩

/-- The Myhill–Nerode half on its own, for partial DFAs: reachable + live + pairwise distinguishable states
⇒ no more states than any DFA for the same language. -/
theorem C13_minimal_criterion
    (δ : Int → Int → Option Int) (start : Int) (final : Int → Prop) (Q : List Int) (hnd : Q.Nodup)
    (hreach : ∀ q ∈ Q, ∃ u, dfaRun δ (some start) u = some q)
    (hlive : ∀ q ∈ Q, ∃ v, accFrom δ final q v)
    (hdist : ∀ p ∈ Q, ∀ q ∈ Q, p ≠ q → ∃ v, ¬ (accFrom δ final p v ↔ accFrom δ final q v))
    (δ2 : Int → Int → Option Int) (start2 : Int) (final2 : Int → Prop) (Q2 : List Int)
    (hQ2 : ∀ u t, dfaRun δ2 (some start2) u = some t → t ∈ Q2)
    (hlang : ∀ w, dfaLang δ start final w ↔ dfaLang δ2 start2 final2 w) :
    Q.length ≤ Q2.length :=
  minimal_of_distinguishable δ start final Q hnd hreach hlive hdist δ2 start2 final2 Q2 hQ2 hlang

/-- non-vacuity: the two states of the DFA for `a(aa)*` are reachable, live and distinguishable -/
example : let d := ((DFA.new 0 [1]).add 0 97 1 |>.add 1 97 0)
    (∀ q ∈ [(0 : Int), 1], ∃ u, dfaRun d.δ (some 0) u = some q) ∧
    (∀ q ∈ [(0 : Int), 1], ∃ v, accFrom d.δ (fun f => f ∈ d.final) q v) := by
  refine ⟨?_, ?_⟩
  · intro q hq; simp at hq; rcases hq with rfl | rfl
    · exact ⟨[], rfl⟩
    · exact ⟨[97], by decide⟩
  · intro q hq; simp at hq; rcases hq with rfl | rfl
    · exact ⟨[97], 1, by decide, by decide⟩
    · exact ⟨[], 1, rfl, by decide⟩

/-- `Isomorphic` (the code of /repo, where defect D21 of DESIGN.md §2 is repaired) is true for any NFA and a copy
with its states renamed by an arbitrary map that is injective on the states (the copy is built the way a caller
would: `NewNFA` of the renamed start and final states, `Add` of every renamed transition).  The pre-checks (numbers of states and final states,
alphabet, sorted degree sequence — never read out of range) are invariant under the renaming,
`generatePermutations` reaches the arrangement that realises the renaming, and the renamed copy is `Equal`
to the automaton the search builds for it.  `hts`: target sets are sorted, as `Add` keeps them. -/
theorem C13_isomorphic_renamed (n : NFA) (hwf : n.WF) (hfs : SSorted n.final)
    (hts : ∀ s a nx, (s, a, nx) ∈ entries n.trans → SSorted nx) (f : Int → Int)
    (hinj : ∀ s ∈ n.states, ∀ t ∈ n.states, f s = f t → s = t) :
    n.isomorphic (n.permuted f) = .ok true :=
  n.isomorphic_permuted hwf hfs hts f hinj

theorem C13_isomorphic_renamed_dfa (d : DFA) (hwf : d.WF) (hfs : SSorted d.final) (f : Int → Int)
    (hinj : ∀ s ∈ d.states, ∀ t ∈ d.states, f s = f t → s = t) :
    d.isomorphic (d.permuted f) = .ok true :=
  d.isomorphic_permuted hwf hfs f hinj

/-- non-vacuity: the hypotheses hold for a two-state NFA with an ε-move and a non-monotone renaming -/
example : let n := (NFA.new 3 [5]).add 3 97 [3, 5] |>.add 5 E [3]
    let f : Int → Int := fun x => if x = 3 then 10 else if x = 5 then 2 else x
    n.WF ∧ SSorted n.final ∧ (∀ s a nx, (s, a, nx) ∈ entries n.trans → SSorted nx) ∧
    (∀ s ∈ n.states, ∀ t ∈ n.states, f s = f t → s = t) :=
  ⟨NFA.WF_add (NFA.WF_add (NFA.WF_new _ _) _ _ _) _ _ _, ssorted_mkSet _,
   targets_sorted_of_all _ (by decide), by decide⟩

/-- The search on its own: `Isomorphic` answers `true` whenever its pre-checks pass and the first
arrangement `generatePermutations` yields (i-th smallest state ↦ i-th smallest state) works. -/
theorem C13_isomorphic_first_arrangement (n rhs : NFA)
    (h1 : n.final.length = rhs.final.length) (h2 : n.states.length = rhs.states.length)
    (h3 : setEq n.symbols rhs.symbols = true)
    (h4 : degreesAgree n.sortedDegrees rhs.sortedDegrees = some true)
    (hne : rhs.states.isEmpty = false)
    (heq : (n.permuted (bij n.states rhs.states)).equal rhs = true) :
    n.isomorphic rhs = .ok true :=
  n.isomorphic_of_sorted_renaming rhs h1 h2 h3 h4 hne heq

/-- non-vacuity: the hypotheses hold for the D21 witness (states {0,1} against {5,7}) -/
example : let n := (NFA.new 0 [1]).add 0 97 [1]; let rhs := (NFA.new 5 [7]).add 5 97 [7]
    n.final.length = rhs.final.length ∧ n.states.length = rhs.states.length ∧ setEq n.symbols rhs.symbols = true ∧
    degreesAgree n.sortedDegrees rhs.sortedDegrees = some true ∧ rhs.states.isEmpty = false ∧
    (n.permuted (bij n.states rhs.states)).equal rhs = true := by decide +kernel

/-- the D21 witnesses: states {0,1} against {5,7}; a swapped copy (not order-preserving); automata for which the
degree slices of the unrepaired code had different lengths -/
example : ((DFA.new 0 [1]).add 0 97 1).isomorphic ((DFA.new 5 [7]).add 5 97 7) = .ok true := by decide +kernel
example : ((NFA.new 3 [5]).add 3 97 [3, 5] |>.add 5 E [3]).isomorphic
    ((NFA.new 5 [3]).add 5 97 [5, 3] |>.add 3 E [5]) = .ok true := by decide +kernel
example : ((DFA.new 0 [1, 2]).add 0 97 1 |>.add 1 97 0).isomorphic ((DFA.new 0 [1, 2]).add 0 97 0) = .ok false := by
  decide +kernel

/-! ## The results are well-formed again

`DFA.Good` bundles what the theorems above ask of a DFA (key-sorted tables, `-1` not a state, sorted final
set, no `E`-labelled edge); for NFAs it is `NFA.WF`.  Every automaton built with `New…`/`Add` from state
ids `≠ -1` and symbols `≠ E` has the property, and every operation returns an automaton that has it — so
`Accept` of a result decides its language and results can be fed to further operations. -/

theorem C13_api_result_wf (s : Int) (f : List Int) (hf : (-1 : Int) ∉ f) :
    (DFA.new s f).Good ∧ (NFA.new s f).WF ∧
    (∀ d : DFA, d.Good → ∀ s a t : Int, s ≠ -1 → a ≠ E → (d.add s a t).Good) ∧
    (∀ n : NFA, n.WF → ∀ (s a : Int) (nx : List Int), (n.add s a nx).WF) :=
  ⟨DFA.Good_new s f hf, NFA.WF_new s f, fun _ h s a t hs ha => DFA.Good_add h s a t hs ha,
   fun _ h s a nx => NFA.WF_add h s a nx⟩

theorem C13_toDFA_result_wf (n : NFA) (d : DFA) (h : n.toDFA = .ok d) : d.Good := n.toDFA_good d h
theorem C13_toNFA_result_wf (d : DFA) : d.toNFA.WF := d.toNFA_WF
theorem C13_minimize_result_wf (d d' : DFA) (hg : d.Good) (h : d.minimize = .ok d') : d'.Good := d.minimize_good d' hg h
theorem C13_elimDead_result_wf (d d' : DFA) (hg : d.Good) (h : d.elimDead = .ok d') : d'.Good := d.elimDead_good d' hg h
theorem C13_reindex_result_wf (d d' : DFA) (hg : d.Good) (h : d.reindex = .ok d') : d'.Good := d.reindex_good d' hg h
theorem C13_combine_result_wf (ds : List DFA) (D : DFA) (fm : List (List Int)) (h : combineDFA ds = .ok (D, fm)) :
    D.Good := combineDFA_good ds D fm h
theorem C13_clone_result_wf (n : NFA) (d : DFA) (hg : d.Good) : n.clone.WF ∧ d.clone.Good := ⟨n.clone_WF, d.clone_good hg⟩
theorem C13_union_result_wf (nfas : List NFA) : (NFA.union nfas).WF := NFA.union_WF nfas
theorem C13_concat_result_wf (nfas : List NFA) : (NFA.concat nfas).WF := NFA.concat_WF nfas
theorem C13_star_result_wf (n : NFA) : n.star.WF := n.star_WF

example : ((DFA.new 2 [4]).add 2 97 4 |>.add 4 98 2).Good :=
  DFA.Good_add (DFA.Good_add (DFA.Good_new 2 [4] (by decide)) 2 97 4 (by decide) (by decide)) 4 98 2 (by decide) (by decide)

/-! ## The property with `Accept` on both sides

`n.accept w = .ok true` is "`N.Accept(w)` returns true" for the NFA model (it always returns),
`d.accept w = true` the same for the DFA model. -/

theorem C13_toDFA_accept (n : NFA) (w : Word) (hE : E ∉ w) :
    ∃ d, n.toDFA = .ok d ∧ d.Good ∧ (d.accept w = true ↔ n.accept w = .ok true) := by
  rw [n.accept_iff_lang]
  exact DFA.accept_of_lang n.toDFA_good (C13_toDFA_accepts n w hE)

theorem C13_toNFA_accept (d : DFA) (hg : d.Good) (w : Word) : d.toNFA.accept w = .ok true ↔ d.accept w = true := by
  rw [NFA.accept_iff_lang, d.accept_iff_lang hg, DFA.toNFA_lang hg.wf hg.noEps]

theorem C13_clone_accept (n : NFA) (hwf : n.WF) (d : DFA) (hg : d.Good) (w : Word) :
    (n.clone.accept w = .ok true ↔ n.accept w = .ok true) ∧ (d.clone.accept w = true ↔ d.accept w = true) := by
  refine ⟨by rw [NFA.accept_iff_lang, NFA.accept_iff_lang, NFA.clone_lang hwf], ?_⟩
  rw [d.clone.accept_iff_lang (d.clone_good hg), d.accept_iff_lang hg, DFA.clone_lang hg.wf]

theorem C13_minimize_accept (d : DFA) (hg : d.Good) (w : Word) :
    ∃ d', d.minimize = .ok d' ∧ d'.Good ∧ (d'.accept w = true ↔ d.accept w = true) := by
  rw [d.accept_iff_lang hg]
  exact DFA.accept_of_lang (fun d' => d.minimize_good d' hg) (C13_minimize_accepts d hg.wf hg.fin w)

theorem C13_elimDead_accept (d : DFA) (hg : d.Good) (w : Word) :
    ∃ d', d.elimDead = .ok d' ∧ d'.Good ∧ (d'.accept w = true ↔ d.accept w = true) := by
  rw [d.accept_iff_lang hg]
  exact DFA.accept_of_lang (fun d' => d.elimDead_good d' hg) (C13_elimDead_accepts d hg.wf hg.proper w)

theorem C13_reindex_accept (d : DFA) (hg : d.Good) (w : Word) :
    ∃ d', d.reindex = .ok d' ∧ d'.Good ∧ (d'.accept w = true ↔ d.accept w = true) := by
  rw [d.accept_iff_lang hg]
  exact DFA.accept_of_lang (fun d' => d.reindex_good d' hg) (C13_reindex_accepts d hg.wf w)

theorem C13_union_accept (nfas : List NFA) (hwf : ∀ n ∈ nfas, n.WF) (w : Word) (hE : E ∉ w) :
    (NFA.union nfas).accept w = .ok true ↔ ∃ n ∈ nfas, n.accept w = .ok true := by
  simp only [NFA.accept_iff_lang, NFA.union_lang nfas hwf w hE]

theorem C13_concat_accept (nfas : List NFA) (hwf : ∀ n ∈ nfas, n.WF) (w : Word) :
    (NFA.concat nfas).accept w = .ok true ↔ Lang.concatAll (nfas.map NFA.acceptsL) w := by
  rw [NFA.accept_iff_lang, NFA.concat_lang nfas hwf w]
  have : nfas.map NFA.acceptsL = nfas.map NFA.lang := List.map_congr_left (fun n _ => n.acceptsL_eq)
  rw [this]

theorem C13_star_accept (n : NFA) (hwf : n.WF) (w : Word) (hE : E ∉ w) :
    n.star.accept w = .ok true ↔ Lang.star n.acceptsL w := by
  rw [NFA.accept_iff_lang, n.star_lang hwf w hE, n.acceptsL_eq]

/-- `CombineDFA` with `Accept` and `Next` as the code exposes them: the state `Next` leads to after `w`
(`-1` when the run dies) is listed in `finalMap[i]` iff operand `i` accepts `w`. -/
theorem C13_combine_accept (ds : List DFA) (hg : ∀ d ∈ ds, d.Good) (w : Word) (hE : E ∉ w) :
    ∃ D fm, combineDFA ds = .ok (D, fm) ∧ D.Good ∧ (D.accept w = true ↔ ∃ d ∈ ds, d.accept w = true) ∧
      fm.length = ds.length ∧
      ∀ (i : Nat) (d : DFA), ds[i]? = some d → ∃ l : List Int, fm[i]? = some l ∧
        (w.foldl D.next D.start ∈ l ↔ d.accept w = true) := by
  obtain ⟨⟨D, fm⟩, h, -⟩ := combineDFA_total ds
  have hG := combineDFA_good ds D fm h
  have hlang := combineDFA_lang ds (fun d hd => (hg d hd).wf) (fun d hd => (hg d hd).noEps) D fm h w hE
  obtain ⟨hlen, hmap⟩ := combineDFA_finalMap ds (fun d hd => (hg d hd).wf) (fun d hd => (hg d hd).noEps) D fm h w hE
  refine ⟨D, fm, h, hG, ?_, hlen, ?_⟩
  · rw [D.accept_iff_lang hG, hlang]
    exact exists_congr fun d => and_congr_right fun hd => (d.accept_iff_lang (hg d hd) w).symm
  · intro i d hd
    have hdm : d ∈ ds := List.mem_of_getElem? hd
    obtain ⟨l, hl, hpos, hq⟩ := hmap i d hd
    refine ⟨l, hl, ?_⟩
    rw [D.foldl_next hG.proper.2, d.accept_iff_lang (hg d hdm)]
    cases hr : dfaRun D.δ (some D.start) w with
    | some q => simpa using hq q hr
    | none =>
      simp only [Option.getD_none]
      refine iff_of_false (fun hm => by have := hpos _ hm; omega) (fun hdl => ?_)
      obtain ⟨f, hf, _⟩ := hlang.2 ⟨d, hdm, hdl⟩
      rw [hr] at hf; cases hf

/-- End to end, on `Accept` only: `Minimize(ToDFA(Concat(ns…)))` always exists and accepts `w` iff `w` splits
into words the operands accept, one after the other. -/
theorem C13_chain_accept (nfas : List NFA) (hwf : ∀ n ∈ nfas, n.WF) (w : Word) (hE : E ∉ w) :
    ∃ d m, (NFA.concat nfas).toDFA = .ok d ∧ d.minimize = .ok m ∧
      (m.accept w = true ↔ Lang.concatAll (nfas.map NFA.acceptsL) w) := by
  obtain ⟨d, hd, hg, h1⟩ := C13_toDFA_accept (NFA.concat nfas) w hE
  obtain ⟨m, hm, _, h2⟩ := C13_minimize_accept d hg w
  exact ⟨d, m, hd, hm, by rw [h2, h1, C13_concat_accept nfas hwf w]⟩

example : let a := NFA.new 0 [0] |>.add 0 97 [0]; let b := NFA.new 0 [1] |>.add 0 98 [1]
    (((NFA.concat [a, b]).toDFA.bind DFA.minimize).map (fun m => (m.accept [97, 97, 98], m.accept [98, 97])))
      = .ok (true, false) := by decide +kernel

/-! ## The read-only public API: `Symbols`, `States`, `Next`, `Transitions`

These methods read the same tables the language theorems are about (`Model/C13X.lean` has the Models of the
exported `NFA.Next` and of the two `Transitions()` iterators with their early exit).  `d.δ` is the
transition function and `n.next` / `n.Δ` the transition relation the languages above are defined from. -/

/-- `DFA.Symbols` and `NFA.Symbols` return the strictly increasing (sorted, duplicate-free) list of the symbols that
label an entry of the table; the NFA leaves `E` out, the DFA does not. -/
theorem C13_symbols_spec (d : DFA) (n : NFA) (hd : d.WF) (hn : n.WF) :
    (SSorted d.symbols ∧ ∀ a, a ∈ d.symbols ↔ ∃ s t, d.δ s a = some t) ∧
    (SSorted n.symbols ∧ ∀ a, a ∈ n.symbols ↔ a ≠ E ∧ ∃ s nx, n.next s a = some nx) := by
  refine ⟨⟨d.symbols_sorted, fun a => ?_⟩, ⟨n.symbols_sorted, fun a => ?_⟩⟩
  · simp only [d.mem_symbols_iff, mem_entries_DFA hd]
  · simp only [n.mem_symbols_iff, mem_entries_NFA hn]

example : ((DFA.new 2 [4]).add 2 98 4 |>.add 4 97 2 |>.add 4 98 4).symbols = [97, 98] ∧
    ((NFA.new 1 [3]).add 1 98 [] |>.add 1 E [3] |>.add 3 97 [1, 3]).symbols = [97, 98] := by decide +kernel

/-- `States` returns the strictly increasing list of: the start state, the final states, and every source and
target of an entry of the table. -/
theorem C13_states_spec (d : DFA) (n : NFA) (hd : d.WF) (hn : n.WF) :
    (SSorted d.states ∧
      ∀ x, x ∈ d.states ↔ x = d.start ∨ x ∈ d.final ∨ ∃ s a t, d.δ s a = some t ∧ (x = s ∨ x = t)) ∧
    (SSorted n.states ∧
      ∀ x, x ∈ n.states ↔ x = n.start ∨ x ∈ n.final ∨ ∃ s a nx, n.next s a = some nx ∧ (x = s ∨ x ∈ nx)) := by
  refine ⟨⟨d.states_sorted, fun x => ?_⟩, ⟨n.states_sorted, fun x => ?_⟩⟩
  · simp only [d.mem_states_iff, mem_entries_DFA hd]
  · simp only [n.mem_states_iff, mem_entries_NFA hn]

example : ((NFA.new 7 [3]).add 1 98 [] |>.add 1 E [3] |>.add 3 97 [9, 3]).states = [1, 3, 7, 9] := by decide +kernel

/-- The exported `NFA.Next(s, a)` returns exactly the targets of the transition relation `Δ` the language of the NFA
is defined from (`nil` = `none` when the table has no entry); on an automaton made with `NewNFA` it is `nil`
everywhere, and `Add(s', a', nx)` changes it at `(s', a')` only, to the sorted union of the old targets and `nx`. -/
theorem C13_nfa_next_spec (n : NFA) (s a : Int) :
    (∀ t, (∃ nx, n.nextPub s a = some nx ∧ t ∈ nx) ↔ n.Δ s a t) ∧
    (∀ st f, (NFA.new st f).nextPub s a = none) ∧
    (∀ s' a' l, (n.add s' a' l).nextPub s a =
      if s = s' ∧ a = a' then some (saddAll ((n.nextPub s' a').getD []) l) else n.nextPub s a) := by
  refine ⟨fun t => ?_, fun st f => ?_, fun s' a' l => ?_⟩
  · rw [n.nextPub_eq]; exact Iff.rfl
  · rw [NFA.nextPub_eq, NFA.next_new]
  · simp only [NFA.nextPub_eq, NFA.next_add]

/-- the slice `Next` returns is strictly increasing on every NFA made with `NewNFA` and `Add` -/
theorem C13_nfa_next_sorted :
    (∀ st f, (NFA.new st f).TSorted) ∧ (∀ (n : NFA) s a l, n.TSorted → (n.add s a l).TSorted) ∧
    (∀ (n : NFA) s a nx, n.TSorted → n.nextPub s a = some nx → SSorted nx) :=
  ⟨NFA.TSorted_new, fun _ s a l h => NFA.TSorted_add h s a l, fun n s a nx h hn => h s a nx (by rw [← n.nextPub_eq]; exact hn)⟩

example : ((NFA.new 1 [3]).add 1 98 [] |>.add 3 97 [3, 1] |>.add 3 97 [2]).nextPub 3 97 = some [1, 2, 3] ∧
    ((NFA.new 1 [3]).add 1 98 []).nextPub 1 98 = some [] ∧ ((NFA.new 1 [3]).add 1 98 []).nextPub 1 97 = none := by decide +kernel

/-- `DFA.Next(s, a)` is the transition function with `-1` for "no transition"; `-1` everywhere after `NewDFA`, and
`Add(s', a', t)` overwrites the entry `(s', a')` only. -/
theorem C13_dfa_next_spec (d : DFA) (s a : Int) :
    d.next s a = (d.δ s a).getD (-1) ∧
    (∀ st f, (DFA.new st f).next s a = -1) ∧
    (∀ s' a' t, (d.add s' a' t).next s a = if s = s' ∧ a = a' then t else d.next s a) := by
  refine ⟨d.next_eq s a, fun st f => ?_, fun s' a' t => ?_⟩
  · rw [DFA.next_eq, DFA.δ_new]; rfl
  · simp only [DFA.next_eq, DFA.δ_add]; split <;> rfl

example : ((DFA.new 2 [4]).add 2 97 4 |>.add 2 97 6).next 2 97 = 6 ∧ ((DFA.new 2 [4]).add 2 97 4).next 2 98 = -1 := by decide +kernel

/-- `Transitions()` is a range-over-func iterator: two nested loops over the table that `return` as soon as the
consumer's `yield` answers false.  For EVERY consumer (state `σ`, body `yield`) running it is the same as one
`for … { … break … }` loop (`Spec.foldUntil`) over the entries of the table in iteration order — nothing is
yielded after the consumer stopped, nothing is skipped before. -/
theorem C13_transitions_iter {σ : Type} (d : DFA) (n : NFA)
    (yd : σ → Int × Int × Int → σ × Bool) (yn : σ → Int × Int × List Int → σ × Bool) (init : σ) :
    d.transitionsIter yd init = foldUntil yd (entries d.trans) init ∧
    n.transitionsIter yn init = foldUntil yn (entries n.trans) init :=
  ⟨iterOuter_eq yd d.trans init, iterOuter_eq yn n.trans init⟩

/-- a consumer that breaks after `k` transitions (the op `trans X k` of the harness) gets the first `k` entries, and
the entries are exactly the transitions: `(s, a, t)` is yielded iff `δ s a = some t` (DFA), `(s, a, nx)` iff
`next s a = some nx` (NFA). -/
theorem C13_transitions_prefix (d : DFA) (n : NFA) (hd : d.WF) (hn : n.WF) (k : Nat) :
    d.transPrefix k = (entries d.trans).take k ∧ n.transPrefix k = (entries n.trans).take k ∧
    (∀ s a t, (s, a, t) ∈ d.transPrefix (entries d.trans).length ↔ d.δ s a = some t) ∧
    (∀ s a nx, (s, a, nx) ∈ n.transPrefix (entries n.trans).length ↔ n.next s a = some nx) := by
  refine ⟨d.transPrefix_eq k, n.transPrefix_eq k, fun s a t => ?_, fun s a nx => ?_⟩
  · rw [d.transPrefix_eq, List.take_length]; exact mem_entries_DFA hd s a t
  · rw [n.transPrefix_eq, List.take_length]; exact mem_entries_NFA hn s a nx

example : ((DFA.new 2 [4]).add 4 98 2 |>.add 2 97 4 |>.add 4 97 4).transPrefix 2 = [(2, 97, 4), (4, 97, 4)] ∧
    ((NFA.new 1 [3]).add 3 98 [3, 1] |>.add 1 98 [] |>.add 1 E [3]).transPrefix 0 = [] ∧
    ((NFA.new 1 [3]).add 3 98 [3, 1] |>.add 1 98 [] |>.add 1 E [3]).transPrefix 5 = [(1, 0, [3]), (1, 98, []), (3, 98, [1, 3])] := by
  decide +kernel

/-! ## `Final.Add`, and one object used several times in one call

The exported field `Final` is a set the caller may add to in place (`X.Final.Add(s)`, Model: `addFinal`): the
transition tables are untouched, the language grows by exactly the words that lead to `s`, the automaton stays
well-formed.  One object used several times in one call needs no further operation of the Model: an operand list
is a `List NFA` / `List DFA` of *values*, so `C13_union_lang`, `C13_concat_lang`, `C13_combine_lang`,
`C13_combine_finalMap` already speak about lists in which the same automaton occurs several times (`a.Concat(a)`,
`CombineDFA(d, d, d)`), and `C13_isomorphic_renamed` with the identity renaming about `a.Isomorphic(a)`. -/

/-- `n.Final.Add(s)` on an NFA: accepted afterwards = accepted before, or some path from the start state spelling the
word ends in `s`; `Accept` decides it; `WF` is kept. -/
theorem C13_addFinal_nfa (n : NFA) (s : Int) (w : Word) :
    ((n.addFinal s).lang w ↔ n.lang w ∨ Path n.Δ n.start w s) ∧
    (∃ b, (n.addFinal s).accept w = .ok b ∧ (b = true ↔ n.lang w ∨ Path n.Δ n.start w s)) ∧
    (n.WF → (n.addFinal s).WF) := by
  refine ⟨n.addFinal_lang s w, ?_, fun h => h⟩
  obtain ⟨b, hb, hl⟩ := (n.addFinal s).accept_total w
  exact ⟨b, hb, hl.trans (n.addFinal_lang s w)⟩

example : ((NFA.new 0 [2] |>.add 0 E [1] |>.add 1 97 [2]).addFinal 1).accept [] = .ok true ∧
    (NFA.new 0 [2] |>.add 0 E [1] |>.add 1 97 [2]).accept [] = .ok false := by decide +kernel

/-- `d.Final.Add(s)` on a DFA: accepted afterwards = accepted before, or the run ends in `s` — for the language and
for the executable `Accept`; a `Good` DFA stays `Good` (for `s ≠ -1`, which is not a state). -/
theorem C13_addFinal_dfa (d : DFA) (s : Int) (w : Word) :
    ((d.addFinal s).lang w ↔ d.lang w ∨ dfaRun d.δ (some d.start) w = some s) ∧
    (d.addFinal s).accept w = (d.accept w || (w.foldl d.next d.start == s)) ∧
    (d.Good → s ≠ -1 → (d.addFinal s).Good) :=
  ⟨d.addFinal_lang s w, d.addFinal_accept s w, fun h hs => DFA.addFinal_good h s hs⟩

example : (((DFA.new 2 [4]).add 2 97 4 |>.add 4 98 6).addFinal 6).accept [97, 98] = true ∧
    ((DFA.new 2 [4]).add 2 97 4 |>.add 4 98 6).accept [97, 98] = false := by decide +kernel

/-- the same object twice in one call, on the Model: `a.Concat(a)` for `a = a*b` (the witness of the seeded change
C13-s2) accepts `abab` and `bb` and rejects `ab`; `CombineDFA(d, d)` has both operands accept in the same states -/
example : (NFA.concat [NFA.new 0 [1] |>.add 0 97 [0] |>.add 0 98 [1], NFA.new 0 [1] |>.add 0 97 [0] |>.add 0 98 [1]]).accept [97, 98, 97, 98] = .ok true ∧
    (NFA.concat [NFA.new 0 [1] |>.add 0 97 [0] |>.add 0 98 [1], NFA.new 0 [1] |>.add 0 97 [0] |>.add 0 98 [1]]).accept [98, 98] = .ok true ∧
    (NFA.concat [NFA.new 0 [1] |>.add 0 97 [0] |>.add 0 98 [1], NFA.new 0 [1] |>.add 0 97 [0] |>.add 0 98 [1]]).accept [97, 98] = .ok false := by
  decide +kernel
example : combineDFA [(DFA.new 2 [4]).add 2 97 4, (DFA.new 2 [4]).add 2 97 4]
    = .ok ((DFA.new 0 [1]).add 0 97 1, [[1], [1]]) := by decide +kernel
