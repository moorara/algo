import AlgoVerif.Proofs.C08TotalCnf
import AlgoVerif.Proofs.C09LeftRecMain
import AlgoVerif.Proofs.C09LeftFactorPost
import AlgoVerif.Proofs.C09LeftRecValid
import AlgoVerif.Proofs.C08Aux
/-!
# C09 — normal forms are reached, results pass `Verify()`, inputs are never mutated

Reading of the property.  The post-conditions are the predicates of `Spec/C09.lean` (`NoEmptyExceptFreshStart`,
`NoUnit`, `AllReachable`, `NoCycle`, `NoLeftRecursion`, `LeftFactored`, `IsCNF`, and `Spec.Valid` =
`Verify()`), evaluated on the result of the Model (`Model/C08.lean`, shared with C08) of each transformation.
Full statement, for every transformation `T` with post-condition `Post_T`:

    ∀ g g', Valid g → T g = .ok g' → Post_T g g' ∧ Valid g'

Input immutability is not a statement about the functional Model (a function cannot change its argument); it
is validated on every explored run by the harness (a clone and a deep textual rendering taken before the
call; `Equal` and the rendering compared after it — the rendering because `Clone` shares the production values
with the original — for the receiver of each transformation and for grammars handed to
`predictive.BuildParsingTable` and the three LR table constructors).

Proved here without size bounds, each under the hypotheses its statement shows (`Valid g` or less for the
post-conditions; `Hygienic g` only in the two `_total` forms):

* `EliminateSingleProductions` yields no unit production (`C09_singlefree_noUnit`);
* `EliminateEmptyProductions` yields no ε-production except `S′ → ε` for a start symbol `S′` that is new and
  occurs in no body (`C09_emptyfree_noEmpty`);
* `EliminateUnreachableProductions` yields only reachable non-terminals, productions and terminals
  (`C09_unreachable_allReachable`);
* `EliminateCycles` yields no unit production, only reachable symbols, and no derivation `A ⇒⁺ A` — the
  semantic statement, not only the graph test (`C09_cycles_noUnit`, `C09_cycles_allReachable`,
  `C09_cycles_noCycle`);
* `ChomskyNormalForm` yields a grammar in Chomsky normal form, strict sense (`C09_cnf_isCNF`), accepted by
  `IsCNF()` (`C09_cnf_agrees_with_IsCNF`); `EliminateLeftRecursion` yields no left recursion
  (`C09_leftrecursion_noLeftRecursion`); what `LeftFactor` guarantees is `C09_leftfactoring_*`;
* every result passes `Verify()`: `C09_emptyfree_valid`, `C09_unreachable_valid`, `C09_leftfactoring_valid`
  for every valid grammar; `C09_singlefree_valid`, `C09_cycles_valid`, `C09_leftrecursion_valid`,
  `C09_cnf_valid` under the hypothesis `L(G) ≠ ∅` (decidable: `C08_nonEmpty_iff`), which
  `C09_empty_language_counterexample` shows cannot be dropped for unit-elimination and everything built on it.

Kernel-checked counterexamples (`decide` on the Model) for the known findings:
`C09_leftfactor_counterexample`, `C09_empty_language_counterexample`, `C09_fresh_names_counterexample`.
-/
open AlgoVerif AlgoVerif.Gram AlgoVerif.C08 AlgoVerif.C08.Spec AlgoVerif.C09.Spec

/-- the result of `EliminateSingleProductions` has no production `A → B` -/
theorem C09_singlefree_noUnit (g g' : G) (h : elimSingle g = .ok g') : NoUnit g' :=
  elimSingle_noUnit h

/-- the only ε-production `EliminateEmptyProductions` leaves is `S′ → ε` for a fresh start symbol `S′`
(a new name: not a declared non-terminal of the input; occurring in no body) -/
theorem C09_emptyfree_noEmpty (g g' : G) (hv : Valid g) (h : elimEmpty g = .ok g') :
    NoEmptyExceptFreshStart g g' :=
  elimEmpty_noEmpty h hv.wellFormed

/-- non-vacuity: nullable start symbol, nullable symbols in the middle of a body -/
example : (elimEmpty
      { terms := ["a", "b"]
        nonterms := ["S", "A"]
        prods := [{ head := "S", body := [.nonterm "A", .term "b", .nonterm "A"] }, { head := "S", body := [] },
                  { head := "A", body := [.term "a"] }, { head := "A", body := [] }]
        start := "S" }).map showGrammar
    = .ok "start=S′ T={a,b} N={A,S,S′} P={A→a; S′→S; S′→ε; S→A b; S→A b A; S→b; S→b A}" := by
  decide +kernel

/-- every non-terminal, production and terminal of the result of `EliminateUnreachableProductions` is
reachable from the start symbol -/
theorem C09_unreachable_allReachable (g g' : G) (h : elimUnreachable g = .ok g') : AllReachable g' :=
  elimUnreachable_allReachable h

/-- the result of `EliminateCycles` has no unit production -/
theorem C09_cycles_noUnit (g g' : G) (h : elimCycles g = .ok g') : NoUnit g' :=
  elimCycles_noUnit h

/-- the result of `EliminateCycles` has only reachable symbols -/
theorem C09_cycles_allReachable (g g' : G) (h : elimCycles g = .ok g') : AllReachable g' :=
  elimCycles_allReachable h

-- non-vacuity: a cyclic grammar (`A ⇒ B ⇒ A`, `S ⇒ S S ⇒* S` through the nullable `A`)
set_option maxRecDepth 8000 in
example : (elimCycles
      { terms := ["a", "b"]
        nonterms := ["S", "A", "B"]
        prods := [{ head := "S", body := [.nonterm "A", .nonterm "B", .nonterm "A"] },
                  { head := "S", body := [.nonterm "S", .nonterm "S"] },
                  { head := "A", body := [.nonterm "B"] }, { head := "A", body := [] },
                  { head := "B", body := [.nonterm "A"] }, { head := "B", body := [.term "b"] }]
        start := "S" }).map (fun g' => (noUnitB g', noCycleB g', allReachableB g', validB g'))
    = .ok (true, true, true, true) := by
  simp only [allReachableB, reachSetB, noCycleB, acyclicB, reachPlus, nullableB, iter_eq_iterStop]
  decide +kernel

/-- the result of `EliminateCycles` has no derivation `A ⇒⁺ A` (one or more steps), for any `A` -/
theorem C09_cycles_noCycle (g g' : G) (hv : Valid g) (h : elimCycles g = .ok g') : NoCycle g' :=
  elimCycles_noCycle h hv.wellFormed

/-- the result of `EliminateEmptyProductions` passes `Verify()` (start symbol declared, every non-terminal
has a production, every symbol declared) — for every valid grammar, `L(G) = ∅` included: everything the final
pruning removes is nullable, and the start symbol keeps a production -/
theorem C09_emptyfree_valid (g g' : G) (hv : Valid g) (h : elimEmpty g = .ok g') : Valid g' :=
  elimEmpty_valid h hv

/-- the result of `EliminateSingleProductions` passes `Verify()` when `L(G) ≠ ∅` -/
theorem C09_singlefree_valid (g g' : G) (hv : Valid g) (hl : ∃ w, Language g w) (h : elimSingle g = .ok g') :
    Valid g' :=
  elimSingle_valid h hv hl

/-- the result of `EliminateUnreachableProductions` passes `Verify()` -/
theorem C09_unreachable_valid (g g' : G) (hv : Valid g) (h : elimUnreachable g = .ok g') : Valid g' :=
  elimUnreachable_valid h hv

/-- the result of `EliminateCycles` passes `Verify()` when `L(G) ≠ ∅` -/
theorem C09_cycles_valid (g g' : G) (hv : Valid g) (hl : ∃ w, Language g w) (h : elimCycles g = .ok g') :
    Valid g' :=
  elimCycles_valid h hv hl

/-- non-vacuity of the hypotheses: a valid grammar with a sentence (`b`), an ε-only non-terminal `C` (D13),
a unit-only non-terminal `D`; the results are valid -/
example :
    let g : G := { terms := ["a", "b"]
                   nonterms := ["S", "C", "D"]
                   prods := [{ head := "S", body := [.nonterm "C", .term "b"] }, { head := "S", body := [.nonterm "D", .term "a"] },
                             { head := "C", body := [] }, { head := "D", body := [.nonterm "D"] }]
                   start := "S" }
    Valid g ∧ (elimEmpty g).map (fun g' => (showGrammar g', validB g')) = .ok ("start=S T={a,b} N={D,S} P={D→D; S→D a; S→b}", true)
      ∧ (elimCycles g).map (fun g' => (showGrammar g', validB g')) = .ok ("start=S T={b} N={S} P={S→b}", true) := by
  decide +kernel

/-- the result of `ChomskyNormalForm` is in Chomsky normal form in the strict sense of the doc comment of
`IsCNF`: every production is `A → B C` with `B`, `C` non-terminals other than the start symbol, `A → a`, or
`S → ε` for the start symbol `S` -/
theorem C09_cnf_isCNF (g g' : G) (hv : Valid g) (h : cnf g = .ok g') : IsCNF g' :=
  cnf_isCNF h hv.wellFormed

/-- the result of `ChomskyNormalForm` passes the check `(*CFG).IsCNF()` performs (`looseCnfProd`: `cnfProd`
without looking for the start symbol in bodies) -/
theorem C09_cnf_agrees_with_IsCNF (g g' : G) (hv : Valid g) (h : cnf g = .ok g') : looseCNFB g' = true := by
  have := cnf_isCNF h hv.wellFormed
  unfold looseCNFB
  refine List.all_eq_true.mpr (fun p hp => ?_)
  have hp' := this p hp
  unfold cnfProd at hp'
  unfold looseCnfProd
  split <;> simp_all

/-- the result of `ChomskyNormalForm` passes `Verify()` when `L(G) ≠ ∅` -/
theorem C09_cnf_valid (g g' : G) (hv : Valid g) (hl : ∃ w, Language g w) (h : cnf g = .ok g') : Valid g' :=
  cnf_valid h hv hl

/-- unconditional form for `EliminateCycles`: on a valid hygienic grammar with a non-empty language it returns
a valid grammar without unit productions, without cycles, with reachable symbols only -/
theorem C09_cycles_total (g : G) (hv : Valid g) (hh : Hygienic g) (hl : ∃ w, Language g w) :
    ∃ g', elimCycles g = .ok g' ∧ NoUnit g' ∧ NoCycle g' ∧ AllReachable g' ∧ Valid g' := by
  obtain ⟨g', h⟩ := elimCycles_total hv hh
  exact ⟨g', h, elimCycles_noUnit h, elimCycles_noCycle h hv.wellFormed, elimCycles_allReachable h,
    elimCycles_valid h hv hl⟩

/-- unconditional form for `ChomskyNormalForm`: on a valid hygienic grammar with a non-empty language it
returns a valid grammar in Chomsky normal form, unless BIN runs out of numeric suffixes -/
theorem C09_cnf_total (g : G) (hv : Valid g) (hh : Hygienic g) (hl : ∃ w, Language g w)
    (hbin : binNamesSuffice g = true) :
    ∃ g', cnf g = .ok g' ∧ IsCNF g' ∧ Valid g' := by
  obtain ⟨g', h⟩ := cnf_total hv hh (binNamesSuffice_spec hbin)
  exact ⟨g', h, cnf_isCNF h hv.wellFormed, cnf_valid h hv hl⟩

def cnfTotalWitness : G :=
  { terms := ["a", "b"]
    nonterms := ["S", "A"]
    prods := [{ head := "S", body := [.term "a", .nonterm "S", .term "b", .nonterm "A"] },
              { head := "S", body := [.nonterm "A"] }, { head := "A", body := [.term "a"] },
              { head := "A", body := [] }]
    start := "S" }

-- non-vacuity of the hypotheses of `C09_cnf_total` / `C08_cnf_total`
set_option maxRecDepth 40000 in
example : Valid cnfTotalWitness ∧ Hygienic cnfTotalWitness ∧ (∃ w, Language cnfTotalWitness w) ∧
    binNamesSuffice cnfTotalWitness = true := by
  refine ⟨by decide +kernel, hygienic_of_last (by decide +kernel) (by decide +kernel), ⟨[], ?_⟩, by decide +kernel⟩
  -- S ⇒ A ⇒ ε
  have h1 : Derives cnfTotalWitness [Sym.nonterm "S"] [Sym.nonterm "A"] :=
    Derives.of_prod (g := cnfTotalWitness) (p := { head := "S", body := [.nonterm "A"] }) (by decide +kernel)
  have h2 : Derives cnfTotalWitness [Sym.nonterm "A"] [] :=
    Derives.of_prod (g := cnfTotalWitness) (p := { head := "A", body := [] }) (by decide +kernel)
  exact h1.trans h2

/-! ## known findings: kernel-checked witnesses on the Model -/

def leftFactorWitness : G :=
  { terms := ["a", "b", "c"]
    nonterms := ["S"]
    prods := [{ head := "S", body := [.term "a", .term "b"] }, { head := "S", body := [.term "a", .term "c"] }]
    start := "S" }

/-- `LeftFactor` returns `S → a b | a c` unchanged (it factors a head only when the head also has an
alternative with a unique first symbol): the result is not left-factored.  Known finding
`C09-leftfactor-residual`; the library's test `TestCFG_LeftFactor/5th` expects this result. -/
theorem C09_leftfactor_counterexample :
    Valid leftFactorWitness ∧ Hygienic leftFactorWitness ∧
    (leftFactor leftFactorWitness).map (fun g' => (showGrammar g', leftFactoredB g'))
      = .ok ("start=S T={a,b,c} N={S} P={S→a b; S→a c}", false) :=
  ⟨by decide +kernel, hygienic_of_last (by decide +kernel) (by decide +kernel), by decide +kernel⟩

def emptyLanguageWitness : G :=
  { terms := ["a"]
    nonterms := ["S", "A"]
    prods := [{ head := "S", body := [.nonterm "S"] }, { head := "S", body := [.nonterm "A"] },
              { head := "A", body := [.nonterm "S"] }]
    start := "S" }

/-- `L(G) = ∅` and the start symbol reaches unit productions only: the result of
`EliminateSingleProductions` keeps the start symbol without any production, which `Verify()` rejects.
Known finding `C09-empty-language-*`. -/
theorem C09_empty_language_counterexample :
    Valid emptyLanguageWitness ∧ Hygienic emptyLanguageWitness ∧
    (elimSingle emptyLanguageWitness).map (fun g' => (showGrammar g', validB g'))
      = .ok ("start=S T={a} N={S} P={}", false) :=
  ⟨by decide +kernel, hygienic_of_last (by decide +kernel) (by decide +kernel), by decide +kernel⟩

def freshNamesWitness : G :=
  { terms := ["a", "b", "c", "d", "e", "x", "y"]
    nonterms := ["S"]
    prods := (["a", "b", "c", "d", "e"].flatMap fun t =>
                [({ head := "S", body := [.term t, .term "x"] } : SProd), { head := "S", body := [.term t, .term "y"] }])
             ++ [{ head := "S", body := [.term "x"] }]
    start := "S" }

/-- five groups of alternatives with a common first symbol need five fresh names; `AddNewNonTerminal` has
four prime suffixes and panics.  Known finding `C09-fresh-names-exhausted`. -/
theorem C09_fresh_names_counterexample :
    Valid freshNamesWitness ∧ Hygienic freshNamesWitness ∧
    (leftFactor freshNamesWitness).map showGrammar = .panic :=
  ⟨by decide +kernel, hygienic_of_last (by decide +kernel) (by decide +kernel), by decide +kernel⟩

/-
Not proved (decided on every run by the harness' independent analyses and by the correspondence of `post` lines
between the implementation's result and the Lean decision procedures):

    theorem C09_noCycleB_iff (g : G) : noCycleB g = true ↔ NoCycle g
    theorem C09_noLeftRecB_iff (g : G) : noLeftRecB g = true ↔ NoLeftRecursion g
      -- the two graph analyses the driver prints decide the semantic statements (the theorems of this file are about
      -- the semantic statements themselves).
    `LeftFactored (leftFactor g)` is false in general (`C09_leftfactor_counterexample`, known finding
    `C09-leftfactor-residual`); what holds is `C09_leftfactoring_uniformHeads` / `…_leftFactored_of_unique`.
-/

/-! ## EliminateLeftRecursion and LeftFactor post-conditions
(proofs in `Proofs/C09LeftRec*.lean`, `Proofs/C09LeftFactorPost.lean`) -/

/-- `EliminateLeftRecursion` yields no non-terminal `A` with `A ⇒⁺ A α` (direct or indirect), for every valid
grammar on which the Model returns. -/
theorem C09_leftrecursion_noLeftRecursion (g g' : G) (hv : Valid g) (h : elimLeftRec g = .ok g') :
    NoLeftRecursion g' :=
  AlgoVerif.C08.C09_leftrec_noLeftRecursion g g' hv h

/-- the result of `EliminateLeftRecursion` passes `Verify()` when `L(G) ≠ ∅` -/
theorem C09_leftrecursion_valid (g g' : G) (hv : Valid g) (hl : ∃ w, Language g w) (h : elimLeftRec g = .ok g') :
    Valid g' :=
  elimLeftRec_valid h hv hl

/-- non-vacuity: the D14 grammar; the result has no left recursion and is valid -/
example : (elimLeftRec
      { terms := ["a", "b", "c", "d"]
        nonterms := ["S", "A"]
        prods := [{ head := "S", body := [.nonterm "A", .term "a"] }, { head := "S", body := [.term "b"] },
                  { head := "A", body := [.nonterm "S", .term "c"] }, { head := "A", body := [.term "d"] }]
        start := "S" }).map (fun g' => (noLeftRecB g', validB g')) = .ok (true, true) := by
  decide +kernel

/-- What `LeftFactor` guarantees unconditionally: for every non-terminal of the result either no alternative
shares its first symbol with another alternative, or every alternative does (the second case is exactly the
known finding `C09-leftfactor-residual`). -/
theorem C09_leftfactoring_uniformHeads (g g' : G) (h : leftFactor g = .ok g') : AlgoVerif.C08.UniformHeads g' :=
  AlgoVerif.C08.C09_leftfactor_uniformHeads h

/-- The result of `LeftFactor` passes `Verify()`. -/
theorem C09_leftfactoring_valid (g g' : G) (hv : Valid g) (h : leftFactor g = .ok g') : Valid g' :=
  AlgoVerif.C08.C09_leftfactor_valid hv h

/-- non-vacuity: two rounds of factoring end in a left-factored, valid grammar -/
example : (leftFactor
      { terms := ["a", "b", "c", "d"]
        nonterms := ["S"]
        prods := [{ head := "S", body := [.term "a", .term "b", .term "b"] }, { head := "S", body := [.term "a", .term "b", .term "c"] },
                  { head := "S", body := [.term "a", .term "d"] }, { head := "S", body := [.term "c"] }]
        start := "S" }).map (fun g' => (leftFactoredB g', validB g')) = .ok (true, true) := by
  decide +kernel

/-- The result of `LeftFactor` is left-factored whenever every head keeps an alternative that shares its first
symbol with no other (the situation `LeftFactor` is written for). -/
theorem C09_leftfactoring_leftFactored_of_unique (g g' : G) (hw : WellFormed g) (h : leftFactor g = .ok g')
    (huniq : ∀ p ∈ g'.prods, ∃ q ∈ g'.prods, q.head = p.head ∧ ¬ AlgoVerif.C08.SharesFirst g' q) :
    AlgoVerif.C09.Spec.LeftFactored g' :=
  AlgoVerif.C08.C09_leftfactor_leftFactored_of_unique hw h huniq

/-! ## `Verify()` and `IsCNF()` as the lists of errors they return (`verifyErrors`, `cnfErrors`; corresponded with the
implementation's errors on valid and on malformed grammars, ops `verify` and `iscnf`) -/

/-- **`Verify()` returns no error exactly on the grammars the theorems call `Valid`**: the list of errors the Model of
`Verify()` collects (one per offence: start symbol undeclared / without production, non-terminal without production,
undeclared head, undeclared terminal or non-terminal in a body) is empty iff `Spec.Valid g`. -/
theorem C09_verify_errors_iff_valid (g : G) : AlgoVerif.C10.verifyErrors g = [] ↔ Valid g :=
  verifyErrors_nil_iff_Valid g

/-- **`IsCNF()` returns no error exactly when every production has one of the three forms it checks** (`looseCNFB`,
the predicate `C09_cnf_agrees_with_IsCNF` proves of `ChomskyNormalForm`'s result). -/
theorem C09_iscnf_errors_iff (g : G) : cnfErrors g = [] ↔ looseCNFB g = true :=
  cnfErrors_nil_iff g

example : AlgoVerif.C10.verifyErrors (⟨["a"], ["S", "Y"], [⟨"S", [.term "a", .nonterm "Z", .term "z"]⟩, ⟨"W", []⟩], "Q"⟩ : G)
    = [.startUndeclared, .noStartProd, .noProd "Y", .nontermUndeclared "Z", .termUndeclared "z", .headUndeclared "W"] := by
  decide +kernel

example : cnfErrors (⟨["a"], ["S", "A"], [⟨"S", [.nonterm "A", .nonterm "A"]⟩, ⟨"S", []⟩, ⟨"A", [.term "a"]⟩,
    ⟨"A", []⟩, ⟨"A", [.nonterm "S"]⟩], "S"⟩ : G) = [⟨"A", []⟩, ⟨"A", [.nonterm "S"]⟩] := by decide +kernel
