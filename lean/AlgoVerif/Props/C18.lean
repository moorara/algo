import AlgoVerif.Proofs.C18Stack
import AlgoVerif.Proofs.C18Queue
import AlgoVerif.Proofs.C18Soft
import AlgoVerif.Proofs.C18Gen
/-!
# C18 — property theorems (statements only live here; helper lemmas in `Proofs/C18*.lean`)

Reading of the property.  `Stack.run zero eq s ops` / `Queue.run …` / `SoftQueue.run …`
(`Model/C18Run.lean`) execute a history on the Model of `/repo/list/{stack,queue,soft_queue}.go` and
return one `Outcome (Out α)` per operation; the trace would end with `panic` (index out of range /
nil dereference) or `diverge` (the `Contains` loop ran out of fuel) at the first failing operation.
`Spec.S.run` / `Spec.Q.run` / `Spec.SQ.run` execute the same history on the abstract sequence
(`Spec/C18.lean`: stack = list with push/pop at the head; queue = list with enqueue at the back and
dequeue at the front; soft queue = every value ever enqueued + how many were dequeued).

Each theorem says: for EVERY block size ≥ 1, EVERY `equal` function, EVERY zero value, EVERY value
type and EVERY finite history, the Model's trace is exactly the Spec's outputs, each wrapped in
`Outcome.ok` — so no operation panics or hangs, and Push/Pop/Peek/Contains/Size/IsEmpty (resp.
Enqueue/Dequeue/…) return what the abstract sequence returns.  In particular `Contains` is
`List.any` over the *live* values only: it never reports a value that was already removed or never
added (stale cells of a block are not seen).

Proof: forward simulation (`runTrace_refines`) with the abstraction functions `Stack.abs`,
`Queue.abs` (live cells of the block chain) and the invariants `Stack.Inv`, `Queue.Inv`
(DESIGN.md Appendix B), by induction over the history.  No bound on anything.
-/
open AlgoVerif AlgoVerif.C18

/-- The block-chain stack pops in reverse push order; Size, IsEmpty, Peek, Contains agree with the
abstract list; nothing panics or hangs. -/
theorem C18_stack_refines {α : Type} (zero : α) (eq : α → α → Bool) (blockSize : Nat)
    (hB : 1 ≤ blockSize) (ops : List (Op α)) :
    Stack.run zero eq (Stack.new blockSize) ops = (Spec.S.run eq [] ops).map Outcome.ok :=
  runTrace_refines _ _ Stack.Rel (Stack.step_refines zero eq) ops _ _
    ⟨Stack.new_inv blockSize hB, Stack.new_abs blockSize⟩

/-- non-vacuity: block size 2, five pushes (three blocks), `Contains` of a live and of an absent
value, then popping across both block boundaries down to empty, a pop on empty, and a refill. -/
example :
    Stack.run (0 : Int) (fun a b => a == b) (Stack.new 2)
      [.add 1, .add 2, .add 3, .add 4, .add 5, .size, .contains 1, .contains 9, .remove, .peek, .remove,
       .remove, .contains 4, .remove, .remove, .isEmpty, .remove, .add 7, .peek, .contains 5]
    = [.ok .unit, .ok .unit, .ok .unit, .ok .unit, .ok .unit, .ok (.int 5), .ok (.bool true),
       .ok (.bool false), .ok (.val (some 5)), .ok (.val (some 4)), .ok (.val (some 4)),
       .ok (.val (some 3)), .ok (.bool false), .ok (.val (some 2)), .ok (.val (some 1)),
       .ok (.bool true), .ok (.val none), .ok .unit, .ok (.val (some 7)), .ok (.bool false)] := by
  decide +kernel

/-- The block-chain queue dequeues in enqueue order (FIFO); Size, IsEmpty, Peek agree with the
abstract list and `Contains` ranges over the live cells only; nothing panics or hangs. -/
theorem C18_queue_refines {α : Type} (zero : α) (eq : α → α → Bool) (blockSize : Nat)
    (hB : 1 ≤ blockSize) (ops : List (Op α)) :
    Queue.run zero eq (Queue.new blockSize) ops = (Spec.Q.run eq [] ops).map Outcome.ok :=
  runTrace_refines _ _ Queue.Rel (Queue.step_refines zero eq) ops _ _
    ⟨Queue.new_inv blockSize hB, Queue.new_abs blockSize⟩

/-- non-vacuity: block size 2; the history of defect D22 of DESIGN.md §2, repaired in /repo (enq, enq, deq, deq, enq:
the queue is drained exactly at a block boundary and refilled), then `Contains` of the stale values
1 and 2 (still physically in the abandoned block) is `false`, then growth across a boundary and a
drain across it. -/
example :
    Queue.run (0 : Int) (fun a b => a == b) (Queue.new 2)
      [.add 1, .add 2, .remove, .remove, .add 3, .contains 1, .contains 2, .contains 3, .add 4, .add 5,
       .size, .remove, .peek, .remove, .contains 4, .remove, .remove, .isEmpty]
    = [.ok .unit, .ok .unit, .ok (.val (some 1)), .ok (.val (some 2)), .ok .unit, .ok (.bool false),
       .ok (.bool false), .ok (.bool true), .ok .unit, .ok .unit, .ok (.int 3), .ok (.val (some 3)),
       .ok (.val (some 4)), .ok (.val (some 4)), .ok (.bool false), .ok (.val (some 5)), .ok (.val none),
       .ok (.bool true)] := by
  decide +kernel

/-- The soft queue: Enqueue returns the index of the new value, Dequeue/Peek return the front value
with its index (or index -1 when empty), Contains returns the first index in `Values()` (dequeued
values included) or -1, Size/IsEmpty/Values agree with the Spec; nothing panics. -/
theorem C18_softQueue_refines {α : Type} (eq : α → α → Bool) (ops : List (SoftOp α)) :
    SoftQueue.run eq SoftQueue.new ops = (Spec.SQ.run eq {} ops).map Outcome.ok :=
  runTrace_refines _ _ SoftQueue.Rel (SoftQueue.step_refines eq) ops _ _ SoftQueue.new_rel

/-- Stable positions, stated on the Model's observable outputs alone: in any history, the index `i`
returned by an `Enqueue v` is the position at which `Values()` holds `v` after ANY further history
`ops₂` ("forever after"). -/
theorem C18_softQueue_stable_positions {α : Type} (eq : α → α → Bool) (ops₁ : List (SoftOp α)) (v : α)
    (ops₂ : List (SoftOp α)) :
    ∃ (i : Nat) (l : List α),
      (SoftQueue.run eq SoftQueue.new (ops₁ ++ SoftOp.enq v :: (ops₂ ++ [SoftOp.values])))[ops₁.length]?
        = some (.ok (Out.int i)) ∧
      (SoftQueue.run eq SoftQueue.new (ops₁ ++ SoftOp.enq v :: (ops₂ ++ [SoftOp.values]))).getLast?
        = some (.ok (Out.list l)) ∧
      l[i]? = some v := by
  obtain ⟨i, l, h1, h2, h3⟩ := Spec.SQ.stable_positions eq {} ops₁ v ops₂
  refine ⟨i, l, ?_, ?_, h3⟩
  · rw [C18_softQueue_refines]; simp [h1]
  · rw [C18_softQueue_refines]; simp [List.getLast?_map, h2]

/-- non-vacuity: enqueue, dequeue to empty, dequeue on empty, refill; indices keep counting and
`Values()` keeps the dequeued values at their positions. -/
example :
    SoftQueue.run (fun (a b : Int) => a == b) SoftQueue.new
      [.enq 10, .enq 20, .deq, .peek, .deq, .deq, .isEmpty, .enq 30, .contains 10, .contains 99, .size,
       .peek, .values]
    = [.ok (.int 0), .ok (.int 1), .ok (.valIdx (some (10, 0))), .ok (.valIdx (some (20, 1))),
       .ok (.valIdx (some (20, 1))), .ok (.valIdx none), .ok (.bool true), .ok (.int 2), .ok (.int 0),
       .ok (.int (-1)), .ok (.int 1), .ok (.valIdx (some (30, 2))), .ok (.list [10, 20, 30])] := by
  decide +kernel

/-! ## the second tie (soft queue): the Model REGENERATED from the source equals the hand Model

`AlgoVerif.Generated.List.*` (file `Generated/C18Gen.lean`) is produced from `/repo/list/soft_queue.go` by the
translator `/verif/extract/go2lean` on every run of this check (`bin/pre-C18`; scheme, subset and what is trusted:
header of `extract/go2lean/main.go`).  `sq` reads the generated structure as the Model's, `valIdx` reads Go's
`(T, int)` as an `Option` (index `-1` = nothing); Go's zero value of `T` is the `default` of the `Inhabited`
instance.  An edit of `soft_queue.go` that changes what a method computes changes the generated file and these
stop checking.  (`stack.go`, `queue.go`: pointer-linked blocks, outside the translator's subset.) -/

open AlgoVerif.Generated.List AlgoVerif.C18.Gen

/-- `NewSoftQueue`, `Size`, `IsEmpty`, `Enqueue` (pure: they cannot panic) -/
theorem C18_generated_softQueue_pure {α : Type} [Inhabited α] (eq : α → α → Bool) (q : softQueue α) (v : α) :
    (NewSoftQueue eq).map sq = .ok SoftQueue.new ∧ softQueue.Size q = (sq q).size ∧
    softQueue.IsEmpty q = (sq q).isEmpty ∧
    (sq (softQueue.Enqueue q v).1, (softQueue.Enqueue q v).2) = (sq q).enqueue v :=
  ⟨New_eq eq, Size_eq q, IsEmpty_eq q, Enqueue_eq q v⟩

/-- `Dequeue`, `Peek` (they index `q.list[q.front]`: same result, same panic) -/
theorem C18_generated_softQueue_front {α : Type} [Inhabited α] (q : softQueue α) :
    (softQueue.Dequeue q).map (fun r => (sq r.1, valIdx r.2)) = (sq q).dequeue ∧
    (softQueue.Peek q).map valIdx = (sq q).peek :=
  ⟨Dequeue_eq q, Peek_eq q⟩

/-- `Contains` (a `range` loop with a `return` inside) and `Values` (`make` + `copy`) -/
theorem C18_generated_softQueue_scan {α : Type} [Inhabited α] (q : softQueue α) (v : α) :
    softQueue.Contains q v = .ok ((sq q).contains q.equal v) ∧
    (softQueue.Values q).map Array.toList = .ok (sq q).values :=
  ⟨Contains_eq q v, Values_eq q⟩

/-- histories: the trace of the generated definitions is the Model's trace -/
theorem C18_generated_softQueue_run {α : Type} [Inhabited α] (q : softQueue α) (ops : List (SoftOp α)) :
    Gen.run q ops = SoftQueue.run q.equal (sq q) ops :=
  run_eq ops q

/-- `C18_softQueue_refines`, about the generated definitions: from `NewSoftQueue(equal)` every history produces
exactly the Spec's outputs; nothing panics -/
theorem C18_generated_softQueue_refines {α : Type} [Inhabited α] (eq : α → α → Bool) (ops : List (SoftOp α)) :
    ∃ q0, NewSoftQueue eq = .ok q0 ∧ Gen.run q0 ops = (Spec.SQ.run eq {} ops).map Outcome.ok := by
  obtain ⟨q0, h0, he⟩ := New_equal eq
  refine ⟨q0, h0, ?_⟩
  have hs : sq q0 = SoftQueue.new := by
    have := New_eq eq; rw [h0] at this; simpa using this
  rw [run_eq, he, hs]
  exact C18_softQueue_refines eq ops

-- non-vacuity: the generated definitions compute the Model's example trace
example :
    (match NewSoftQueue (fun (a b : Int) => a == b) with
     | .ok q => Gen.run q [.enq 10, .enq 20, .deq, .peek, .deq, .deq, .isEmpty, .enq 30, .contains 10, .contains 99,
         .size, .peek, .values]
     | _ => [])
    = [.ok (.int 0), .ok (.int 1), .ok (.valIdx (some (10, 0))), .ok (.valIdx (some (20, 1))),
       .ok (.valIdx (some (20, 1))), .ok (.valIdx none), .ok (.bool true), .ok (.int 2), .ok (.int 0),
       .ok (.int (-1)), .ok (.int 1), .ok (.valIdx (some (30, 2))), .ok (.list [10, 20, 30])] := by
  decide +kernel
