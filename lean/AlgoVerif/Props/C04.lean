import AlgoVerif.Proofs.C04Binary
import AlgoVerif.Proofs.C04Fib
import AlgoVerif.Proofs.C04MaxDegree
import AlgoVerif.Proofs.C04BinomialShape
import AlgoVerif.Proofs.C04Mixed
import AlgoVerif.Proofs.C04Gen
/-!
# C04 — heaps are priority queues (property theorems; helper lemmas in `Proofs/C04*.lean`)

`Admitted1` / `Admitted` (Spec/C04.lean): every operation of the history returns (no `panic`, no
`diverge`), `Peek`/`Delete` return a held pair whose key is `cmp`-extremal among all held entries,
`Delete` removes exactly that pair, `Size` = number of held entries, `IsEmpty`/`ContainsKey`/`ContainsValue`
answer membership over the held multiset, `Merge` makes the receiver hold the multiset union and leaves the
operand empty (both heaps stay in use afterwards; merging a heap into itself changes nothing; `mergeOther d`, a
`Merge` whose operand is not a heap of the same implementation type, is ignored by the code as documented —
"the new heap must have the same underlying type" — and must leave every heap of the family as it is).
`LawfulCmp cmp`: `cmp` is a total preorder read through its sign (min or max orientation alike).
-/
open AlgoVerif AlgoVerif.C04

/-- Binary heap (`heap/binary.go`): for every lawful comparator, every initial size and every finite
history, the trace of the Model is admitted by the multiset Spec. -/
theorem C04_binary {K V : Type} (cmp : K → K → Int) (hc : LawfulCmp cmp) (eqV : V → V → Bool) (size : Nat)
    (ops : List (Op K V)) :
    Admitted1 cmp eqV [] ops (Binary.run cmp eqV size ops) := by
  have := binary_admitted hc eqV ops (Binary.new size) (BInv_new cmp size)
  rwa [abs_new] at this

/-- non-vacuity: the hypotheses hold for the two `int` comparators the harness uses (and for a preorder with
ties between distinct keys) -/
example : LawfulCmp cmpAsc ∧ LawfulCmp cmpDesc ∧ LawfulCmp cmpHalf := ⟨lawful_cmpAsc, lawful_cmpDesc, lawful_cmpHalf⟩
/-- … and for comparators that return arbitrary magnitudes rather than -1/0/+1 -/
example : LawfulCmp cmpSub ∧ LawfulCmp cmpSub7 ∧ LawfulCmp cmpRevSub := ⟨lawful_cmpSub, lawful_cmpSub7, lawful_cmpRevSub⟩
/-- a history under such a comparator runs as the theorem says -/
example : Binary.run cmpSub7 (fun a b : Int => a == b) 1
      [.insert 3 1, .insert 1 2, .insert 2 3, .delete, .containsKey 2, .delete, .delete] =
    [.ok .unit, .ok .unit, .ok .unit, .ok (.kv (some (1, 2))), .ok (.bool true),
     .ok (.kv (some (2, 3))), .ok (.kv (some (3, 1)))] := rfl
/-- … and so does one with duplicate keys, a resize (size 0 → capacity 2 → 4) and a tie on the extremal key -/
example : Binary.run cmpAsc (fun a b : Int => a == b) 0
      [.insert 3 1, .insert 1 2, .insert 1 3, .delete, .size, .containsKey 3, .delete, .delete, .delete] =
    [.ok .unit, .ok .unit, .ok .unit, .ok (.kv (some (1, 2))), .ok (.int 2), .ok (.bool true),
     .ok (.kv (some (1, 3))), .ok (.kv (some (3, 1))), .ok (.kv none)] := rfl

/-- Binomial heap (`heap/binomial.go`): for every lawful comparator and every finite history over a family of
heaps (Insert / Delete / DeleteAll / Peek / Size / IsEmpty / ContainsKey / ContainsValue on any heap of the
family, `Merge` of any heap of the family into any heap of the family, with both heaps used further), the trace
of the Model is admitted by the multiset Spec. -/
theorem C04_binomial {K V : Type} (cmp : K → K → Int) (hc : LawfulCmp cmp) (eqV : V → V → Bool)
    (ops : List (MOp K V)) :
    Admitted cmp eqV (fun _ => []) ops ((binomialImpl cmp eqV).run ops) :=
  (binomialRefines hc eqV).admitted ops

/-- non-vacuity: duplicate keys, a Merge of two non-empty heaps (which links twice), a tie on the extremal key,
the operand used again after the Merge, a second Merge of the same operand and a self-Merge. -/
example : (binomialImpl cmpAsc (fun a b : Int => a == b)).run
      [.on 0 (.insert 3 1), .on 0 (.insert 1 2), .on 1 (.insert 1 3), .on 1 (.insert 2 4), .merge 0 1,
       .on 0 .delete, .on 0 .size, .on 1 .size, .on 1 (.insert 0 5), .merge 0 1, .merge 0 0, .on 0 .delete,
       .on 0 .delete, .on 0 (.containsKey 3)] =
    [.ok .unit, .ok .unit, .ok .unit, .ok .unit, .ok .unit,
     .ok (.kv (some (1, 2))), .ok (.int 3), .ok (.int 0), .ok .unit, .ok .unit, .ok .unit, .ok (.kv (some (0, 5))),
     .ok (.kv (some (1, 3))), .ok (.bool true)] := by
  simp [Impl.run, Impl.runFrom, Impl.mstep, binomialImpl, Binomial.step, update, Binomial.insert, Binomial.union,
    Binomial.merge, Binomial.consolidate, Binomial.consLoop, Binomial.new, Tree.leaf, Tree.deg,
    Binomial.sibSameOrder, Tree.link, cmpAsc, Tree.key, Binomial.mergeWith, Binomial.delete, Binomial.findExt,
    Binomial.findExtLoop, Tree.children, Tree.val, Binomial.containsKey, Tree.anyF, Tree.any]

/-- non-vacuity for `mergeOther` (an operand of another type): the receiver keeps its two entries. -/
example : (binomialImpl cmpAsc (fun a b : Int => a == b)).run
      [.on 0 (.insert 3 1), .on 0 (.insert 1 2), .mergeOther 0, .on 0 .size, .on 0 .delete, .mergeOther 1, .on 0 .delete] =
    [.ok .unit, .ok .unit, .ok .unit, .ok (.int 2), .ok (.kv (some (1, 2))), .ok .unit, .ok (.kv (some (3, 1)))] := by
  simp [Impl.run, Impl.runFrom, Impl.mstep, binomialImpl, Binomial.step, update, Binomial.insert, Binomial.union,
    Binomial.merge, Binomial.consolidate, Binomial.consLoop, Binomial.new, Tree.leaf, Tree.deg,
    Binomial.sibSameOrder, Tree.link, cmpAsc, Tree.key, Binomial.delete, Binomial.findExt,
    Binomial.findExtLoop, Tree.children, Tree.val]

/-- Fibonacci heap (`heap/fibonacci.go`): for every lawful comparator and every finite history over a family of
heaps, the trace of the Model is admitted by the multiset Spec.  In particular `consolidate` never indexes
`roots` out of range (every tree is a binomial tree, so `2 ^ degree ≤ n` and
`degree < maxDegree n`), never follows a pointer to a node already cut from the root list, returns within
its `(number of roots + 1)²` iterations, and leaves `h.ext` on a root with an extremal key. -/
theorem C04_fibonacci {K V : Type} (cmp : K → K → Int) (hc : LawfulCmp cmp) (eqV : V → V → Bool)
    (ops : List (MOp K V)) :
    Admitted cmp eqV (fun _ => []) ops ((fibImpl cmp eqV).run ops) :=
  (fibRefines hc eqV).admitted ops

/-- non-vacuity (max orientation): lazy inserts, a Merge of two non-empty heaps, a Delete whose `consolidate`
links three times (root list `3 2 4 5` → one tree of degree 2), a tie on the extremal key `5`, the operand used
again after the Merge and merged a second time. -/
example : (fibImpl cmpDesc (fun a b : Int => a == b)).run
      [.on 0 (.insert 3 1), .on 0 (.insert 5 2), .on 1 (.insert 5 3), .on 1 (.insert 2 4), .on 1 (.insert 4 5),
       .merge 0 1, .on 0 .delete, .on 0 .size, .on 1 .size, .on 1 (.insert 9 6), .merge 0 1, .on 0 .delete,
       .on 0 .delete, .on 0 (.containsKey 3)] =
    [.ok .unit, .ok .unit, .ok .unit, .ok .unit, .ok .unit, .ok .unit,
     .ok (.kv (some (5, 2))), .ok (.int 4), .ok (.int 0), .ok .unit, .ok .unit, .ok (.kv (some (9, 6))),
     .ok (.kv (some (5, 3))), .ok (.bool true)] :=
  rfl

/-- non-vacuity for `mergeOther` (an operand of another type): the receiver keeps its two entries. -/
example : (fibImpl cmpDesc (fun a b : Int => a == b)).run
      [.on 0 (.insert 3 1), .on 0 (.insert 5 2), .mergeOther 0, .on 0 .size, .on 0 .delete, .mergeOther 1, .on 0 .delete] =
    [.ok .unit, .ok .unit, .ok .unit, .ok (.int 2), .ok (.kv (some (5, 2))), .ok .unit, .ok (.kv (some (3, 1)))] :=
  rfl

/-- The arithmetic behind `roots[x.degree]` being in range: a tree of degree `d` that fits into `n` nodes
(`2 ^ d ≤ n`, which holds for the binomial trees of the plain Fibonacci heap) has
`d < maxDegree n` for the integer `maxDegree` of the Model (`⌊log_φ n⌋ + 1`). -/
theorem C04_fibonacci_degree_in_range (n d : Nat) (h : 2 ^ d ≤ n) : maxDegree (n : Int) = .ok (floorLogPhi n + 1) ∧
    d < floorLogPhi n + 1 :=
  ⟨maxDegree_eq n (Nat.le_trans Nat.one_le_two_pow h), deg_lt_maxDegree n d h⟩

/-- non-vacuity: 13 nodes can hold a tree of degree 3 (8 nodes); `maxDegree 13 = 6`. -/
example : maxDegree (13 : Int) = .ok 6 ∧ 3 < floorLogPhi 13 + 1 := by decide

/-- The integer `maxDegree` of the Model is exactly `⌊log_φ n⌋ + 1`: `floorLogPhi n` is the largest `k` with
`φ^k ≤ n`, where `φ^k ≤ n` is written over the integers through Binet's closed form
`φ^k = (L_k + F_k·√5)/2` as `PhiLe k n : L_k ≤ 2n ∧ 5·F_k² ≤ (2n − L_k)²`.  (What remains outside Lean is the
closed form itself and the agreement of Go's `float64` computation with this exact value, which the harness
checks for every `n` of a range on each run.) -/
theorem C04_fibonacci_maxDegree_exact (n : Nat) (hn : 1 ≤ n) :
    maxDegree (n : Int) = .ok (floorLogPhi n + 1) ∧
    (∀ k, k ≤ floorLogPhi n → PhiLe k n) ∧ (∀ k, floorLogPhi n < k → ¬ PhiLe k n) :=
  ⟨maxDegree_eq n hn, floorLogPhi_spec n hn⟩

/-- non-vacuity: `φ^3 ≈ 4.24 ≤ 5 < φ^4 ≈ 6.85`, and `floorLogPhi 5 = 3`. -/
example : floorLogPhi 5 = 3 ∧ PhiLe 3 5 ∧ ¬ PhiLe 4 5 := by
  refine ⟨by decide, ?_, ?_⟩ <;> (unfold PhiLe; decide)

/-- Structural property of the binomial heap (what the Go `verify()` checks besides heap order; not needed for
the priority-queue property): after every history over a family of heaps, in every heap the root list is
strictly increasing in order and every tree is a binomial tree (a node of order `k` has children of orders
`k-1, …, 0`). -/
theorem C04_binomial_shape {K V : Type} (cmp : K → K → Int) (hc : LawfulCmp cmp) (eqV : V → V → Bool)
    (ops : List (MOp K V)) (regs : Nat → Binomial K V)
    (hrun : (binomialImpl cmp eqV).stateAfter (fun _ => Binomial.new) ops = .ok regs) (r : Nat) :
    (regs r).head.Pairwise (fun a b => a.deg < b.deg) ∧ ∀ t ∈ (regs r).head, Tree.Binom t :=
  have h : BnInv cmp (regs r) :=
    (binomialRefines hc eqV).stateAfter_inv ops _ regs (fun _ => BnInv_nil cmp) hrun r
  ⟨h.shape.sorted, h.shape.binom⟩

/-- non-vacuity: the hypothesis holds for a history that builds the forest `[order 0, order 2]` out of 5 items. -/
example : (match (binomialImpl cmpAsc (fun a b : Int => a == b)).stateAfter (fun _ => Binomial.new)
      [.on 0 (.insert 3 1), .on 0 (.insert 1 2), .on 1 (.insert 1 3), .on 1 (.insert 2 4), .merge 0 1,
       .on 0 (.insert 7 5)] with
    | .ok regs => some ((regs 0).head.map (·.deg))
    | _ => none) = some [0, 2] := by
  simp [Impl.stateAfter, Impl.mstep, binomialImpl, Binomial.step, update, Binomial.insert, Binomial.union,
    Binomial.merge, Binomial.consolidate, Binomial.consLoop, Binomial.new, Tree.leaf, Tree.deg,
    Binomial.sibSameOrder, Tree.link, cmpAsc, Tree.key, Binomial.mergeWith]

/-! ## heaps of one family built with different comparators

`NewBinomial` / `NewFibonacci` store the comparator in the heap and `Merge` only asserts the implementation type of
its operand, so two heaps built with different comparator FUNCTIONS can be merged; the receiver's code then runs
with the receiver's comparator on the operand's trees (`ImplC.run cmps`: heap `r` of the family is built with
`cmps r`).  When all of them are comparators of one order — they agree in sign with a lawful `cmp` (`SignEq`), as
`cmpAsc`, `a - b` and `7 * (a - b)` do — the family is a family of priority queues of that order: every history is
admitted by the Spec for `cmp`, Merge between any two of them included.  (For comparators of different orders —
a min-heap merged into a max-heap — the property promises nothing about extremality: the Model still says what
the code does and the harness compares it, the oracle then only claims the union of the entries.) -/

/-- Binomial heaps built with different comparators of one order. -/
theorem C04_binomial_mixed_comparators {K V : Type} (cmp : K → K → Int) (hc : LawfulCmp cmp) (eqV : V → V → Bool)
    (cmps : Nat → K → K → Int) (hs : ∀ r, SignEq (cmps r) cmp) (ops : List (MOp K V)) :
    Admitted cmp eqV (fun _ => []) ops ((binomialImplC eqV).run cmps ops) := by
  rw [binomial_mixed_run cmp eqV cmps hs ops]
  exact C04_binomial cmp hc eqV ops

/-- Fibonacci heaps built with different comparators of one order. -/
theorem C04_fibonacci_mixed_comparators {K V : Type} (cmp : K → K → Int) (hc : LawfulCmp cmp) (eqV : V → V → Bool)
    (cmps : Nat → K → K → Int) (hs : ∀ r, SignEq (cmps r) cmp) (ops : List (MOp K V)) :
    Admitted cmp eqV (fun _ => []) ops ((fibImplC eqV).run cmps ops) := by
  rw [fib_mixed_run cmp eqV cmps hs ops]
  exact C04_fibonacci cmp hc eqV ops

/-- non-vacuity: heap 0 built with the normalised comparator, heap 1 with `a - b`, heap 2 with `7 * (a - b)`: the
hypothesis holds, and a history that merges heap 1 into heap 0, heap 0 into heap 2 and drains heap 2 runs as the
theorem says (both implementations). -/
example : ∀ r, SignEq ((fun r : Nat => if r % 3 = 0 then cmpAsc else if r % 3 = 1 then cmpSub else cmpSub7) r) cmpAsc := by
  intro r
  show SignEq (if r % 3 = 0 then cmpAsc else if r % 3 = 1 then cmpSub else cmpSub7) cmpAsc
  split
  · exact SignEq.refl _
  · split
    · exact signEq_cmpSub
    · exact signEq_cmpSub7
example : (fibImplC (fun a b : Int => a == b)).run
      (fun r : Nat => if r % 3 = 0 then cmpAsc else if r % 3 = 1 then cmpSub else cmpSub7)
      [.on 0 (.insert 3 1), .on 1 (.insert 1 2), .on 1 (.insert 5 3), .on 1 .delete, .on 1 (.insert 4 4), .merge 0 1,
       .on 2 (.insert 2 5), .merge 2 0, .on 0 .size, .on 2 .delete, .on 2 .delete, .on 2 .delete, .on 2 .delete,
       .on 2 .delete] =
    [.ok .unit, .ok .unit, .ok .unit, .ok (.kv (some (1, 2))), .ok .unit, .ok .unit, .ok .unit, .ok .unit,
     .ok (.int 0), .ok (.kv (some (2, 5))), .ok (.kv (some (3, 1))), .ok (.kv (some (4, 4))),
     .ok (.kv (some (5, 3))), .ok (.kv none)] :=
  rfl
example : (binomialImplC (fun a b : Int => a == b)).run
      (fun r : Nat => if r % 3 = 0 then cmpAsc else if r % 3 = 1 then cmpSub else cmpSub7)
      [.on 0 (.insert 3 1), .on 1 (.insert 1 2), .on 1 (.insert 5 3), .on 1 .delete, .on 1 (.insert 4 4), .merge 0 1,
       .on 2 (.insert 2 5), .merge 2 0, .on 0 .size, .on 2 .delete, .on 2 .delete] =
    [.ok .unit, .ok .unit, .ok .unit, .ok (.kv (some (1, 2))), .ok .unit, .ok .unit, .ok .unit, .ok .unit,
     .ok (.int 0), .ok (.kv (some (2, 5))), .ok (.kv (some (3, 1)))] := by
  simp [ImplC.run, ImplC.runFrom, ImplC.mstep, binomialImplC, Binomial.step, update, Binomial.insert, Binomial.union,
    Binomial.merge, Binomial.consolidate, Binomial.consLoop, Binomial.new, Tree.leaf, Tree.deg,
    Binomial.sibSameOrder, Tree.link, cmpSub, cmpSub7, Tree.key, Binomial.mergeWith, Binomial.delete,
    Binomial.findExt, Binomial.findExtLoop, Tree.children, Tree.val]

/-! ## the second tie (binary heap): the Model REGENERATED from the source

`AlgoVerif.Generated.Heap.*` (file `Generated/C04Gen.lean`) is produced from `/repo/heap/binary.go` by the
translator `/verif/extract/go2lean` on every run of this check (`bin/pre-C04`; `DOT` and the test-only `verify` are
excluded by name; scheme, subset and what is trusted: header of `extract/go2lean/main.go`).  The hand Model keeps
the count and every index as a `Nat` and a cell `*generic.KeyValue` as `Option (K × V)`; `Gen.toM` reads the
generated structure (count `Int`, cells `Option (KeyValue K V)`) as the Model's, for states with `0 ≤ h.n` — the
only ones the Model can express.  `x = .diverge ∨ x = y` ("refines"): the hand Model ran out of ITS fuel — which
`C04_binary` excludes for the states that occur — or the generated definition, given at least the stated fuel,
returns exactly the same outcome (same heap array, same result, same panic).  Each theorem is per operation, for
ANY state with `0 ≤ h.n` (reachable or not) and any callbacks.  An edit of `binary.go` that changes what a method
computes changes the generated file and these stop checking.  (`binomial.go`, `fibonacci.go`: pointer-linked trees,
outside the translator's subset.) -/

open AlgoVerif.Generated.Heap AlgoVerif.C04.Gen

/-- `NewBinary`, `DeleteAll`, `Size`, `IsEmpty`, `Peek` (no loop: equalities) -/
theorem C04_generated_binary_simple {K V : Type} [Inhabited K] [Inhabited V] (h : binary K V) (hn : 0 ≤ h.n)
    (size : Nat) (cmp : K → K → Int) (eq : V → V → Bool) :
    (NewBinary (size : Int) cmp eq).map toM = .ok (Binary.new size) ∧
    (binary.DeleteAll h).map toM = .ok (toM h).deleteAll ∧
    binary.Size h = ((toM h).n : Int) ∧ binary.IsEmpty h = decide ((toM h).n = 0) ∧
    (binary.Peek h).map kvOpt = (toM h).peek :=
  ⟨NewBinary_eq size cmp eq, DeleteAll_eq h, Size_eq h hn, IsEmpty_eq h hn, Peek_eq h hn⟩

/-- `ContainsKey`, `ContainsValue`: counted loops with a `return` inside (no fuel on the generated side) -/
theorem C04_generated_binary_contains_refines {K V : Type} [Inhabited K] [Inhabited V] (h : binary K V)
    (hn : 0 ≤ h.n) (key : K) (val : V) :
    ((toM h).containsKey h.cmpKey key = .diverge ∨ (toM h).containsKey h.cmpKey key = binary.ContainsKey h key) ∧
    ((toM h).containsValue h.eqVal val = .diverge ∨
      (toM h).containsValue h.eqVal val = binary.ContainsValue h val) :=
  ⟨ContainsKey_le h key, ContainsValue_le h val⟩

/-- `Insert` (optional `resize`, the swim loop, the store) with any fuel `≥ h.n + 2` -/
theorem C04_generated_binary_insert_refines {K V : Type} [Inhabited K] [Inhabited V] (h : binary K V)
    (hn : 0 ≤ h.n) (key : K) (val : V) (fuel : Nat) (hf : h.n.toNat + 2 ≤ fuel) :
    Binary.insert h.cmpKey (toM h) key val = .diverge ∨
      Binary.insert h.cmpKey (toM h) key val = (binary.Insert fuel h key val).map toM := by
  obtain ⟨d, rfl⟩ : ∃ d, fuel = h.n.toNat + 2 + d := ⟨fuel - (h.n.toNat + 2), by omega⟩
  exact Insert_le h hn key val d

/-- `Delete` (the sink loop with its `break`, two stores, optional `resize`) with any fuel `≥ h.n + 1`; Go's
`(K, V, bool)` result is read as the Model's `Option (K × V)` -/
theorem C04_generated_binary_delete_refines {K V : Type} [Inhabited K] [Inhabited V] (h : binary K V)
    (hn : 0 ≤ h.n) (fuel : Nat) (hf : h.n.toNat + 1 ≤ fuel) :
    Binary.delete h.cmpKey (toM h) = .diverge ∨
      Binary.delete h.cmpKey (toM h) = (binary.Delete fuel h).map (fun r => (toM r.1, kvOpt r.2)) := by
  obtain ⟨d, rfl⟩ : ∃ d, fuel = h.n.toNat + 1 + d := ⟨fuel - (h.n.toNat + 1), by omega⟩
  exact Delete_le h hn d

-- non-vacuity: the generated definitions compute (insert 5, 3, 8 into a heap of initial size 1, then delete the
-- minimum): keys come out in order and the array was resized on the way
example :
    (do let h0 ← NewBinary (K := Int) (V := Int) 1 (fun a b => a - b) (fun a b => a == b)
        let h1 ← binary.Insert 9 h0 5 50
        let h2 ← binary.Insert 9 h1 3 30
        let h3 ← binary.Insert 9 h2 8 80
        let (h4, k, v, ok) ← binary.Delete 9 h3
        pure (k, v, ok, h4.n, h4.heap.size, binary.Size h3)) = .ok (3, 30, true, 2, 4, 3) := rfl
