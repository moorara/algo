import AlgoVerif.Proofs.C08TotalCnf
import AlgoVerif.Proofs.C08LeftRecMain
import AlgoVerif.Proofs.C08LeftFactorMain
import AlgoVerif.Proofs.C08LeftRecTotal
import AlgoVerif.Proofs.C08LeftFactorTotal
import AlgoVerif.Proofs.C08Productive
import AlgoVerif.Proofs.C08Aux
import AlgoVerif.Proofs.C08Hist
import AlgoVerif.Proofs.C08Macro
/-!
# C08 — CFG transformations preserve the generated language (statements; proofs in `Proofs/C08*.lean`)

Reading of the property.  `AlgoVerif.C08.elimEmpty`, `elimSingle`, `elimUnreachable`, `elimCycles`,
`elimLeftRec`, `leftFactor`, `cnf` (`Model/C08.lean`) are the Model of `EliminateEmptyProductions`,
`EliminateSingleProductions`, `EliminateUnreachableProductions`, `EliminateCycles`,
`EliminateLeftRecursion`, `LeftFactor`, `ChomskyNormalForm` of `/repo/grammar/cfg.go` (results are pruned by
`removeNonTerminalsWithoutProductions`; `LeftFactor` repeats until nothing changes).  Each returns `Outcome G`;
`Language g w` (`Model/GrammarCore.lean`) says the terminal string `w` is derivable from the start symbol.  The
property is, for every transformation `T`,

    ∀ g g', Valid g → T g = .ok g' → ∀ w, Language g' w ↔ Language g w

together with `T g = .ok _` for valid hygienic `g` (no panic, no divergence) except where
`AddNewNonTerminal` runs out of suffixes.  There is no bound on grammar size, body length or sentence length
in any statement below.

What is proved here, each for every valid grammar and every sentence, both inclusions:

* `EliminateEmptyProductions` (`C08_emptyfree`), `EliminateSingleProductions` (`C08_singlefree`),
  `EliminateUnreachableProductions` (`C08_unreachable`), `EliminateCycles` (`C08_cycles`), START
  (`C08_cnfstart`), TERM (`C08_cnfterm`), BIN (`C08_cnfbin`) and `ChomskyNormalForm` (`C08_cnf`, the
  composition START, TERM, BIN, DEL, UNIT, unreachable exactly as coded) return a grammar with exactly the
  same language;
* so does `removeNonTerminalsWithoutProductions` (`C08_prune`), the step the ε-, unit- and left-recursion
  elimination end with;
* so do `EliminateLeftRecursion` (`C08_leftrecursion`; `Proofs/C08LeftRec*.lean`: substitution of an earlier
  non-terminal and the Arden-style removal of immediate left recursion each preserve the language, folded over
  the loops, composed with `EliminateCycles` and the final pruning) and `LeftFactor` (`C08_leftfactoring`;
  `Proofs/C08LeftFactor*.lean`: folding a group of alternatives under pairwise different fresh names preserves
  the language, lifted through `lfHead`, `lfPass` and the repeat-until-stable loop).

Proof shape: a general library about derivations (`Proofs/C08Lang.lean`: monotonicity, the simulation lemma
`Derives.expands` for the inclusion `L(T g) ⊆ L(g)`, induction over parse trees for the converse) plus, per
transformation, invariants of the Model's folds and fixpoint loops (`Proofs/C08Model.lean`, `C08Single.lean`,
`C08Empty.lean`): a fixpoint of a pass is closed under the rule the pass applies (DESIGN.md Appendix B), and
everything a pass adds is justified.

Names that already look generated.  None of the language theorems has a hygiene hypothesis: `A`, `A₁`, `A′`, `aₙ` may all be
declared.  What they rest on is `C08_fresh_name_not_declared`: whatever the prefix and the suffix list, the name
`AddNewNonTerminal` returns is not a declared non-terminal (so, in a valid grammar, it occurs in no production).  `Hygienic` is a
hypothesis of the *totality* theorems only, where it is needed: with `A′ … A⁗` declared `LeftFactor` on `A` really panics.

Objects.  `C08_history_apply` and `C08_history_frame` lift the statements from values to histories over grammar objects
(`Model/C08Hist.lean`; component `history` of the check): whatever was done before, `apply i T j` gives slot `j` the
language slot `i` has at the time of the call, and every op leaves all slots but the one it writes untouched.

Totality is `C08_*_total` below.  Two documented panics of `AddNewNonTerminal` remain reachable on valid input
and are excluded by hypotheses that run the Model: `LeftFactor` needing a fifth primed name for one base name
(`lfNamesSuffice g`: `leftFactor g` is not `.panic`; known finding `C08-fresh-names-exhausted`) and BIN /
`ChomskyNormalForm` needing more than 99 numeric names for one head, e.g. a body of 102 symbols
(`binNamesSuffice g`: START, TERM, BIN on `g` are not `.panic`; known findings `C08-bin-names-cnfbin`,
`C08-bin-names-cnf`).  What the two totality statements add to these hypotheses: no divergence and, for
`ChomskyNormalForm`, no panic in the `EliminateCycles` that follows BIN.  `C08_cycles_total`, `C08_cnf_total` and `C08_leftrecursion_total` carry the
hypothesis `∃ w, Language g w` (`L(G) ≠ ∅`); their proofs do not use it (C09 needs it, for `Valid` of the result).  It is
decidable: `C08_nonEmpty_iff` ties it to the Boolean `nonEmptyB g`.
-/
open AlgoVerif AlgoVerif.Gram AlgoVerif.C08 AlgoVerif.C08.Spec

/-- `EliminateUnreachableProductions` preserves the language — every grammar (valid or not), every sentence. -/
theorem C08_unreachable (g g' : G) (h : elimUnreachable g = .ok g') : SameLanguage g g' :=
  fun w => elimUnreachable_language h w

/-- non-vacuity: `B` is unreachable; it, its production and the terminal `b` go away -/
example : (elimUnreachable
      { terms := ["a", "b"]
        nonterms := ["S", "A", "B"]
        prods := [{ head := "S", body := [.term "a", .nonterm "A"] }, { head := "A", body := [.term "a"] },
                  { head := "B", body := [.term "b", .nonterm "S"] }]
        start := "S" }).map showGrammar = .ok "start=S T={a} N={A,S} P={A→a; S→a A}" := by
  decide +kernel

/-- `removeNonTerminalsWithoutProductions` (run at the end of ε-, unit- and left-recursion elimination)
preserves the language: a production that mentions a non-terminal without productions is used in no
derivation of a sentence. -/
theorem C08_prune (g : G) : SameLanguage g (prune g) :=
  fun w => prune_language g w

/-- non-vacuity: `A` has no production; `S → a A` goes, then nothing else -/
example : showGrammar (prune
      { terms := ["a"]
        nonterms := ["S", "A"]
        prods := [{ head := "S", body := [.term "a", .nonterm "A"] }, { head := "S", body := [.term "a"] }]
        start := "S" }) = "start=S T={a} N={S} P={S→a}" := by
  decide +kernel

/-- START (`eliminateStartSymbolFromRight`) preserves the language of every valid grammar. -/
theorem C08_cnfstart (g g' : G) (hv : Valid g) (h : cnfStart g = .ok g') : SameLanguage g g' :=
  fun w => cnfStart_language h hv.wellFormed w

example : (cnfStart
      { terms := ["a"]
        nonterms := ["S"]
        prods := [{ head := "S", body := [.term "a", .nonterm "S"] }, { head := "S", body := [] }]
        start := "S" }).map showGrammar = .ok "start=S′ T={a} N={S,S′} P={S′→S; S→a S; S→ε}" := by
  decide +kernel

/-- `EliminateSingleProductions` preserves the language of every valid grammar: closure of the unit
productions, re-attachment of the non-unit bodies, pruning. -/
theorem C08_singlefree (g g' : G) (hv : Valid g) (h : elimSingle g = .ok g') : SameLanguage g g' :=
  fun w => elimSingle_language h hv.wellFormed w

/-- non-vacuity: unit cycle `A ↔ B`, `S → A`; the result has no unit production -/
example : (elimSingle
      { terms := ["a", "b"]
        nonterms := ["S", "A", "B"]
        prods := [{ head := "S", body := [.nonterm "A"] }, { head := "S", body := [.term "a"] },
                  { head := "A", body := [.nonterm "B"] }, { head := "B", body := [.nonterm "A"] },
                  { head := "B", body := [.nonterm "S", .term "b"] }]
        start := "S" }).map showGrammar = .ok "start=S T={a,b} N={A,B,S} P={A→S b; B→S b; S→S b; S→a}" := by
  decide +kernel

/-- `EliminateEmptyProductions` preserves the language of every valid grammar, whatever the length of the
bodies and the positions of the nullable symbols in them (defect D12 of DESIGN.md §2 violated this): every way of dropping
nullable occurrences is generated (`mem_expandBody_iff`), each is derivable (`Variant.derives`), `nullable` is
exactly the set of non-terminals deriving ε, and `S′ → S | ε` is added iff `S ⇒* ε`. -/
theorem C08_emptyfree (g g' : G) (hv : Valid g) (h : elimEmpty g = .ok g') : SameLanguage g g' :=
  fun w => elimEmpty_language h hv.wellFormed w

/-- non-vacuity: the D12 grammar (`S → a N b M c`, `N`, `M` nullable): all four variants, none duplicated -/
example : (elimEmpty
      { terms := ["a", "b", "c"]
        nonterms := ["S", "N", "M"]
        prods := [{ head := "S", body := [.term "a", .nonterm "N", .term "b", .nonterm "M", .term "c"] },
                  { head := "N", body := [.term "a"] }, { head := "N", body := [] },
                  { head := "M", body := [.term "b"] }, { head := "M", body := [] }]
        start := "S" }).map showGrammar
    = .ok "start=S T={a,b,c} N={M,N,S} P={M→b; N→a; S→a N b M c; S→a N b c; S→a b M c; S→a b c}" := by
  decide +kernel

/-- non-vacuity (D13): the ε-only non-terminal `A` disappears together with `S → a A` -/
example : (elimEmpty
      { terms := ["a"]
        nonterms := ["S", "A"]
        prods := [{ head := "S", body := [.term "a", .nonterm "A"] }, { head := "A", body := [] }]
        start := "S" }).map showGrammar = .ok "start=S T={a} N={S} P={S→a}" := by
  decide +kernel

/-- `EliminateCycles` (= ε-elimination, unit-elimination, unreachable-elimination) preserves the language of
every valid grammar. -/
theorem C08_cycles (g g' : G) (hv : Valid g) (h : elimCycles g = .ok g') : SameLanguage g g' :=
  fun w => elimCycles_language h hv.wellFormed w

/-- non-vacuity: nullable symbols at both ends and in the middle, a unit cycle `A ↔ B` -/
example : (elimCycles
      { terms := ["a", "b"]
        nonterms := ["S", "A", "B"]
        prods := [{ head := "S", body := [.nonterm "A", .term "a", .nonterm "B", .nonterm "A"] },
                  { head := "A", body := [.nonterm "B"] }, { head := "A", body := [] },
                  { head := "B", body := [.nonterm "A"] }, { head := "B", body := [.term "b"] }]
        start := "S" }).map showGrammar
    = .ok "start=S T={a,b} N={A,B,S} P={A→b; B→b; S→A a; S→A a A; S→A a B; S→A a B A; S→a; S→a A; S→a B; S→a B A}" := by
  decide +kernel

/-- TERM (`eliminateNonSolitaryTerminals`) preserves the language: every fresh `aₙ` has the single production
`aₙ → a`, so unfolding it gives the original bodies back (`Folded.language`), and every original
production is derivable from its image. -/
theorem C08_cnfterm (g g' : G) (hv : Valid g) (h : cnfTerm g = .ok g') : SameLanguage g g' :=
  fun w => cnfTerm_language h hv.wellFormed w

example : (cnfTerm
      { terms := ["a", "b"]
        nonterms := ["S", "A"]
        prods := [{ head := "S", body := [.term "a", .nonterm "S", .term "b", .nonterm "A"] },
                  { head := "S", body := [.term "a"] }, { head := "A", body := [.term "b", .term "b"] }]
        start := "S" }).map showGrammar
    = .ok "start=S T={a,b} N={A,S,aₙ,bₙ} P={A→bₙ bₙ; S→a; S→aₙ S bₙ A; aₙ→a; bₙ→b}" := by
  decide +kernel

/-- BIN (`eliminateNonBinaryProductions`) preserves the language: the fresh `Aᵢ` of the chain
`A → X₁ A₁, A₁ → X₂ A₂, …, Aₙ₋₂ → Xₙ₋₁ Xₙ` stands for `Xᵢ₊₁ … Xₙ`. -/
theorem C08_cnfbin (g g' : G) (hv : Valid g) (h : cnfBin g = .ok g') : SameLanguage g g' :=
  fun w => cnfBin_language h hv.wellFormed w

set_option maxRecDepth 20000 in
example : (cnfBin
      { terms := ["a"]
        nonterms := ["S", "A"]
        prods := [{ head := "S", body := [.nonterm "A", .nonterm "S", .nonterm "A", .nonterm "A"] },
                  { head := "S", body := [.nonterm "A"] }, { head := "A", body := [.term "a"] }]
        start := "S" }).map showGrammar
    = .ok "start=S T={a} N={A,S,S₁,S₂} P={A→a; S₁→S S₂; S₂→A A; S→A; S→A S₁}" := by
  decide +kernel

/-- `ChomskyNormalForm` preserves the language of every valid grammar. -/
theorem C08_cnf (g g' : G) (hv : Valid g) (h : cnf g = .ok g') : SameLanguage g g' :=
  fun w => cnf_language h hv.wellFormed w

set_option maxRecDepth 40000 in
example : (cnf
      { terms := ["a", "b"]
        nonterms := ["S", "A"]
        prods := [{ head := "S", body := [.term "a", .nonterm "S", .term "b"] }, { head := "S", body := [.nonterm "A"] },
                  { head := "A", body := [.term "a"] }, { head := "A", body := [] }]
        start := "S" }).map showGrammar
    = .ok "start=S″ T={a,b} N={S,S″,S₁,aₙ,bₙ} P={S″→a; S″→aₙ S₁; S″→ε; S₁→S bₙ; S₁→b; S→a; S→aₙ S₁; aₙ→a; bₙ→b}" := by
  decide +kernel

/-! ## totality: the transformations return, and what they return has the same language -/

/-- `EliminateUnreachableProductions` returns for every grammar -/
theorem C08_unreachable_total (g : G) : ∃ g', elimUnreachable g = .ok g' ∧ SameLanguage g g' := by
  obtain ⟨g', h⟩ := elimUnreachable_total g
  exact ⟨g', h, C08_unreachable g g' h⟩

/-- `EliminateSingleProductions` returns for every valid grammar -/
theorem C08_singlefree_total (g : G) (hv : Valid g) : ∃ g', elimSingle g = .ok g' ∧ SameLanguage g g' := by
  obtain ⟨g', h⟩ := elimSingle_total hv
  exact ⟨g', h, C08_singlefree g g' hv h⟩

/-- `EliminateEmptyProductions` returns for every valid hygienic grammar -/
theorem C08_emptyfree_total (g : G) (hv : Valid g) (hh : Hygienic g) :
    ∃ g', elimEmpty g = .ok g' ∧ SameLanguage g g' := by
  obtain ⟨g', h⟩ := elimEmpty_total hv hh
  exact ⟨g', h, C08_emptyfree g g' hv h⟩

/-- `EliminateCycles` returns for every valid hygienic grammar (`hl` is not used: `elimCycles_total`) -/
theorem C08_cycles_total (g : G) (hv : Valid g) (hh : Hygienic g) (hl : ∃ w, Language g w) :
    ∃ g', elimCycles g = .ok g' ∧ SameLanguage g g' := by
  obtain ⟨g', h⟩ := elimCycles_total hv hh
  exact ⟨g', h, C08_cycles g g' hv h⟩

/-- TERM returns for every valid hygienic grammar -/
theorem C08_cnfterm_total (g : G) (hv : Valid g) (hh : Hygienic g) :
    ∃ g', cnfTerm g = .ok g' ∧ SameLanguage g g' := by
  obtain ⟨g', h⟩ := cnfTerm_total hv.wellFormed (hyg_alphaFree hh)
  exact ⟨g', h, C08_cnfterm g g' hv h⟩

/-- `ChomskyNormalForm` returns for every valid hygienic grammar on which START, TERM, BIN do not panic
(`binNamesSuffice`, which runs them; on a hygienic grammar the one panic left to exclude is BIN running out of
numeric suffixes); BIN never diverges (`cnfBin_ne_diverge`).  `hl` is not used (`cnf_total`). -/
theorem C08_cnf_total (g : G) (hv : Valid g) (hh : Hygienic g) (hl : ∃ w, Language g w)
    (hbin : binNamesSuffice g = true) :
    ∃ g', cnf g = .ok g' ∧ SameLanguage g g' := by
  obtain ⟨g', h⟩ := cnf_total hv hh (binNamesSuffice_spec hbin)
  exact ⟨g', h, C08_cnf g g' hv h⟩

/-- `L(G) ≠ ∅` is decidable: `nonEmptyB g` (the start symbol is in the least fixpoint of "has a body of
terminals and productive non-terminals") is true exactly when some sentence is derivable. -/
theorem C08_nonEmpty_iff (g : G) : nonEmptyB g = true ↔ ∃ w, Language g w :=
  nonEmptyB_iff g

example : nonEmptyB
      { terms := ["a"]
        nonterms := ["S", "A"]
        prods := [{ head := "S", body := [.nonterm "S", .term "a"] }, { head := "S", body := [.nonterm "A"] },
                  { head := "A", body := [.term "a", .nonterm "A"] }, { head := "A", body := [] }]
        start := "S" } = true ∧
    nonEmptyB
      { terms := ["a"]
        nonterms := ["S", "A"]
        prods := [{ head := "S", body := [.nonterm "S", .term "a"] }, { head := "S", body := [.nonterm "A"] },
                  { head := "A", body := [.term "a", .nonterm "A"] }]
        start := "S" } = false := by
  decide +kernel

/-! ## EliminateLeftRecursion and LeftFactor (proofs in `Proofs/C08LeftRec*.lean`, `Proofs/C08LeftFactor*.lean`) -/

/-- `EliminateLeftRecursion` preserves the language (both inclusions), for every valid grammar on which the
Model returns. -/
theorem C08_leftrecursion (g g' : G) (hv : Valid g) (h : elimLeftRec g = .ok g') : SameLanguage g g' :=
  AlgoVerif.C08.C08_leftrec g g' hv h

/-- non-vacuity: indirect left recursion `S → A a | b`, `A → S c | d` (the D14 grammar) -/
example : (elimLeftRec
      { terms := ["a", "b", "c", "d"]
        nonterms := ["S", "A"]
        prods := [{ head := "S", body := [.nonterm "A", .term "a"] }, { head := "S", body := [.term "b"] },
                  { head := "A", body := [.nonterm "S", .term "c"] }, { head := "A", body := [.term "d"] }]
        start := "S" }).map showGrammar
    = .ok "start=S T={a,b,c,d} N={A,A′,S} P={A′→a c A′; A′→ε; A→b c A′; A→d A′; S→A a; S→b}" :=
  elimLeftRec_LRex2

/-- `LeftFactor` preserves the language (both inclusions), for every valid grammar on which the Model
returns (i.e. unless the documented fresh-name panic occurs). -/
theorem C08_leftfactoring (g g' : G) (hv : Valid g) (h : leftFactor g = .ok g') :
    SameLanguage g g' :=
  AlgoVerif.C08.C08_leftfactor_of_wellFormed hv.wellFormed h

/-- non-vacuity: two rounds of factoring, `S → a S′ | c`, `S′ → b S″ | d`, `S″ → b | c` -/
example : (leftFactor
      { terms := ["a", "b", "c", "d"]
        nonterms := ["S"]
        prods := [{ head := "S", body := [.term "a", .term "b", .term "b"] }, { head := "S", body := [.term "a", .term "b", .term "c"] },
                  { head := "S", body := [.term "a", .term "d"] }, { head := "S", body := [.term "c"] }]
        start := "S" }).map showGrammar
    = .ok "start=S T={a,b,c,d} N={S,S′,S″} P={S′→b S″; S′→d; S″→b; S″→c; S→a S′; S→c}" := by
  decide +kernel

/-- Totality of `EliminateLeftRecursion`: for every valid hygienic grammar the Model returns (no panic: a primed
name is always free; no divergence), the result has the same language and no left recursion.  `hl` is not used
(`C08_leftrec_total`). -/
theorem C08_leftrecursion_total (g : G) (hv : Valid g) (hh : Hygienic g) (hl : ∃ w, Language g w) :
    ∃ g', elimLeftRec g = .ok g' ∧ SameLanguage g g' ∧ AlgoVerif.C09.Spec.NoLeftRecursion g' :=
  AlgoVerif.C08.C08_leftrec_total g hv hh

/-- Totality of `LeftFactor`: on a valid grammar the repeat-until-stable loop never runs out of the Model's fuel,
so the Model returns unless it panics, and what it returns has the same language.  `lfNamesSuffice g` is the test
"`leftFactor g` is not `.panic`", evaluated; that the Model's only `.panic` here is `addNew`'s (`AddNewNonTerminal`
out of its four primed names; known finding `C08-fresh-names-exhausted`) is read off `lfHead` and `lfStep`, not
stated. -/
theorem C08_leftfactoring_total (g : G) (hv : Valid g) (hn : AlgoVerif.C08.lfNamesSuffice g = true) :
    ∃ g', leftFactor g = .ok g' ∧ SameLanguage g g' :=
  AlgoVerif.C08.C08_leftfactor_total hv hn

/-- `LeftFactor` never diverges on a well-formed grammar. -/
theorem C08_leftfactoring_ne_diverge (g : G) (hw : WellFormed g) : leftFactor g ≠ .diverge :=
  AlgoVerif.C08.C08_leftfactor_ne_diverge hw

/-! ## the helpers the transformations rest on (`Model/C08Aux.lean`; corresponded op by op: `cmp`, `hash`, `order`,
`orderprods`, `eq`, `symbols`, `match`, `iscnf`, `verify`, `write`) -/

/-- **The comparators are the orders the Model sorts by.**  `CmpString` / `CmpProduction` answer `-1` exactly when
`bodyLt` / `prodLt` hold — the strict orders by which `orderNT`, `cnfBin` and `lfHead` of the Model walk productions and
prefix groups — and `0` on equal operands; so the order the implementation's comparators are seen to produce on every run
is the order the theorems above are about. -/
theorem C08_comparators_are_model_orders (l r : List SSym) (p q : SProd) :
    (cmpBody l r = -1 ↔ bodyLt l r = true) ∧ (cmpProd p q = -1 ↔ prodLt p q = true) ∧
    cmpBody l l = 0 ∧ cmpProd p p = 0 := by
  refine ⟨cmpOfLt_neg_one _ _ _, cmpOfLt_neg_one _ _ _, cmpOfLt_self _ _ (bodyLt_irrefl l), cmpOfLt_self _ _ ?_⟩
  simp [prodLt, String.lt_irrefl, bodyLt_irrefl]

example : cmpBody [.nonterm "A", .term "a"] [.term "a", .term "b"] = -1 ∧
    cmpBody [.term "b"] [.term "a"] = 1 ∧ cmpBody [] [] = 0 ∧
    cmpProd ⟨"A", [.term "a"]⟩ ⟨"S", []⟩ = -1 ∧ cmpSymbol (.term "z") (.nonterm "A") = -1 := by decide +kernel

/-- **`Equal` grammars generate the same language**: what `CFG.Equal` compares (the three sets as sets, the start
symbol) determines the language. -/
theorem C08_equal_grammars_same_language (g h : G) (he : equalG g h = true) (w : List String) :
    Language g w ↔ Language h w :=
  equalG_language he w

example : equalG ⟨["a", "b"], ["S"], [⟨"S", [.term "a"]⟩, ⟨"S", []⟩], "S"⟩
    ⟨["b", "a"], ["S"], [⟨"S", []⟩, ⟨"S", [.term "a"]⟩], "S"⟩ = true := by decide +kernel

/-! ## fresh names, whatever the names in the grammar look like -/

/-- **`AddNewNonTerminal` returns a name that is not declared** — for every grammar (hygienic or not: `A₁`, `A′`, `aₙ` may be
declared), every prefix and every suffix list: the name is the stripped prefix plus one of the suffixes, it is not a
declared non-terminal, and it is the only thing added.  This is the fact the soundness of START, TERM, BIN,
`EliminateEmptyProductions`, `EliminateLeftRecursion` and `LeftFactor` rests on. -/
theorem C08_fresh_name_not_declared (g g1 : G) (pre n : String) (sufs : List String)
    (h : addNew g pre sufs = .ok (g1, n)) :
    n ∉ g.nonterms ∧ g1 = { g with nonterms := g.nonterms ++ [n] } ∧
    ∃ s ∈ sufs, n = sufs.foldl trimSuffix pre ++ s := by
  obtain ⟨h1, h2⟩ := addNew_ok h
  exact ⟨h1, h2, addNew_form h⟩

set_option maxRecDepth 40000 in
/-- non-vacuity, on names that look generated: `A₁` is taken, so `A` gets `A₂`; asked for `A₁` the search strips the suffix and
answers `A₂` as well; `A₁₂` only loses `₂` (one `TrimSuffix` per suffix, in list order) and gets `A₁₁`; `A₂₁` loses both;
with all four primed names taken there is no answer (the documented panic) -/
example : freshName ["S", "A", "A₁"] "A" numerics = some "A₂" ∧ freshName ["S", "A", "A₁"] "A₁" numerics = some "A₂" ∧
    freshName ["A₁₂"] "A₁₂" numerics = some "A₁₁" ∧ freshName ["A₂₁", "A₁"] "A₂₁" numerics = some "A₂" ∧
    freshName ["a", "aₙ"] "aₙ" alphas = some "aⁿ" ∧ freshName ["A", "A′", "A″", "A‴", "A⁗"] "A″" primes = none := by
  decide +kernel

/-! ## histories over grammar objects (`Model/C08Hist.lean`) -/

/-- **`apply i T j` preserves the language of the operand as it is at the time of the call**, whatever ops (transformations,
clones, edits through `Productions.Add/Remove`, `NonTerminals.Add`, `Terminals.Add`) produced the store `s`: if slot `i`
holds a valid grammar `g` and the op returns, slot `j` then holds `T g` — the pure transformation of the *current* value —
and `T g` has exactly the language of `g`.  `T` ranges over the seven transformations, the three steps of
`ChomskyNormalForm` and `Clone`. -/
theorem C08_history_apply (s s' : Hist.Store) (i j : Nat) (t : String) (g : G)
    (hi : Hist.get s i = some g) (hv : Valid g) (h : Hist.step s (.apply i t j) = some (.ok s')) :
    ∃ g', Hist.transform t g = some (.ok g') ∧ Hist.get s' j = some g' ∧ SameLanguage g g' :=
  Hist.step_apply hi hv h

/-- **Every op writes one slot**: a transformation leaves its operand (and every other object) as it is, an edit of a result
does not reach the operand it came from, and vice versa. -/
theorem C08_history_frame (s s' : Hist.Store) (op : Hist.Op) (h : Hist.step s op = some (.ok s')) (x : Nat)
    (hx : x ≠ op.target) : Hist.get s' x = Hist.get s x :=
  Hist.step_frame h x hx

set_option maxRecDepth 40000 in
/-- non-vacuity: the history `nullable-then-change` of the check — `S → a b | a | c` is left-factored into slot 1, the owner
adds `S → ε` to slot 0, both are made ε-free; slot 1's result has `S → a` (from `S′ → ε`), slot 0's has the new start `S′` -/
example :
    let g0 : G := { terms := ["a", "b", "c"], nonterms := ["S"], start := "S",
                    prods := [⟨"S", [.term "a", .term "b"]⟩, ⟨"S", [.term "a"]⟩, ⟨"S", [.term "c"]⟩] }
    let run := fun (s : Hist.Store) (ops : List Hist.Op) =>
      ops.foldl (fun (s : Option Hist.Store) op => s.bind fun s => match Hist.step s op with
        | some (.ok s') => some s'
        | _ => none) (some s)
    Valid g0 ∧
    ((run [(0, g0)] [.apply 0 "leftfactor" 1, .addProd 0 ⟨"S", []⟩, .apply 1 "emptyfree" 2, .apply 0 "emptyfree" 3]).map
      fun s => [0, 1, 2, 3].map fun i => (Hist.get s i).map showGrammar)
    = some [some "start=S T={a,b,c} N={S} P={S→a; S→a b; S→c; S→ε}",
            some "start=S T={a,b,c} N={S,S′} P={S′→b; S′→ε; S→a S′; S→c}",
            some "start=S T={a,b,c} N={S,S′} P={S′→b; S→a; S→a S′; S→c}",
            some "start=S′ T={a,b,c} N={S,S′} P={S′→S; S′→ε; S→a; S→a b; S→c}"] := by
  decide +kernel
