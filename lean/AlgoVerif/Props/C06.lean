import AlgoVerif.Proofs.C06BinarySim
import AlgoVerif.Proofs.C06Patricia
import AlgoVerif.Proofs.C06PDel3
import AlgoVerif.Proofs.C06X
import AlgoVerif.Proofs.C06XP
import AlgoVerif.Proofs.C06Fast
/-!
# C06 — tries are ordered string maps with prefix and pattern queries

Only the property theorems live here; the helper lemmas are in `Proofs/C06*.lean`.

* `Spec.Map` (`Spec/C06.lean`): an association list strictly sorted by `klt`, the ordered-map queries
  and `withPrefix` / `longestPrefixOf` / `match` as plain `filter` / `find?` / `head?` / `getLast?`.
* `Binary`, `Patricia` (`Model/C06.lean`): transcriptions of `trie/binary.go` and `trie/patricia.go`
  (+ `bitstring.go`, `bitpattern.go`).
* `Binary.run` / `Patricia.run` / `Spec.Map.run` (`Model/C06Run.lean`): a history is a list of `Op`;
  queries are operations, so "every query argument" is covered by "every history".
-/
open AlgoVerif AlgoVerif.C06

/-! ## the Spec's order is the lexicographic order on bytes, and Spec states stay strictly sorted -/

/-- `klt` (Go's `<` on strings) is core Lean's lexicographic order on `List UInt8`. -/
theorem C06_spec_order_is_lexicographic (a b : Key) : klt a b = true ↔ a < b := klt_iff_lt a b

/-- Whatever the history, the Spec's association list is strictly increasing — so `head?`, `getLast?`,
`filter` in the Spec's definitions really are minimum, maximum and the ascending sub-lists. -/
theorem C06_spec_sorted {V : Type} (ops : List (Op V)) (m : Spec.Map V) (hm : Sorted m) :
    Sorted (specFinal Spec.Map.step m ops) := by
  induction ops generalizing m with
  | nil => exact hm
  | cons op ops ih =>
    apply ih
    cases op <;> simp only [Spec.Map.step] <;> try exact hm
    · exact Spec.Map.put_sorted hm _ _
    · exact hm.filter _
    · exact List.Pairwise.sublist (List.tail_sublist m) hm
    · exact List.Pairwise.sublist (List.dropLast_sublist m) hm
    · exact Sorted.nil

/-- **C06, binary trie.**  For every history of Put, Get, Delete, DeleteMin, DeleteMax, DeleteAll and all
queries (Size, Min, Max, Floor, Ceiling, Select, Rank, Range, RangeSize, All, WithPrefix, LongestPrefixOf,
Match) whose stored / looked-up / deleted keys are non-empty, over any value type, the binary trie never
panics and every operation returns exactly what the sorted map returns (lists in ascending order). -/
theorem C06_binary {V : Type} [Inhabited V] (ops : List (Op V)) (hk : ∀ op ∈ ops, op.keysNonempty = true) :
    Binary.run (Binary.new : Binary V) ops = (Spec.Map.run ([] : Spec.Map V) ops).map Outcome.ok :=
  Binary.run_sim BInv.new ops hk

/-- non-vacuity: a history that deletes a key which is a prefix (`a`) and one which is an extension
(`abc`) of held keys, with queries in between; the hypothesis of `C06_binary` holds for it. -/
example : ∀ op ∈ ([.put [97] 1, .put [97, 98] 2, .put [97, 98, 99] 3, .delete [97], .withPrefix [97], .delete [97, 98, 99],
    .longestPrefixOf [97, 98, 100], .match [97, 42], .rank [97, 97], .deleteMin, .all] : List (Op Int)),
    op.keysNonempty = true := by decide +kernel

example : Binary.run (Binary.new : Binary Int)
    [.put [97] 1, .put [97, 98] 2, .put [97, 98, 99] 3, .delete [97], .withPrefix [97], .delete [97, 98, 99],
     .longestPrefixOf [97, 98, 100], .match [97, 42], .rank [97, 97], .deleteMin, .all]
    = [.ok .unit, .ok .unit, .ok .unit, .ok (.val (some 1)), .ok (.list [([97, 98], 2), ([97, 98, 99], 3)]),
       .ok (.val (some 3)), .ok (.kv (some ([97, 98], 2))), .ok (.list [([97, 98], 2)]), .ok (.int 0),
       .ok (.kv (some ([97, 98], 2))), .ok (.list [])] := by decide +kernel

/-- `bitString.Bit`: position 0 panics (negative shift; never asked for), position `i + 1` is bit `i` of the
sequence `xbit`: the zero-padded bits of the string below `lenPos`, one "has at least i bytes" bit per byte above. -/
theorem C06_bitstring_bit (b : BitString) :
    BitString.bit b 0 = .panic ∧ ∀ i, BitString.bit b (i + 1) = .ok (BitString.xbit b i) :=
  ⟨BitString.bit_zero b, BitString.bit_succ b⟩

/-- `bitString.DiffPos`: 0 exactly for equal strings; otherwise — for strings of at most `lenPos` bits — the 1-based
position of the first bit of that sequence at which they differ. -/
theorem C06_bitstring_diffPos (b c : BitString) :
    (BitString.diffPos b c = 0 ↔ b = c) ∧
    (BitString.Small b → BitString.Small c → ∀ p, BitString.diffPos b c = p + 1 →
      BitString.xbit b p ≠ BitString.xbit c p ∧ ∀ j, j < p → BitString.xbit b j = BitString.xbit c j) :=
  ⟨BitString.diffPos_eq_zero_iff b c, fun hb hc => BitString.diffPos_succ b c hb hc⟩

/-- the order of first differing positions (bits before lengths) is the lexicographic order on byte strings. -/
theorem C06_bitstring_order {a b : Key} {d : Nat} (ha : BitString.Small a) (hb : BitString.Small b)
    (h0 : BitString.xbit a d = false) (h1 : BitString.xbit b d = true)
    (hj : ∀ j, j < d → BitString.xbit a j = BitString.xbit b j) : klt a b = true :=
  klt_of_xbits ha hb h0 h1 hj

/-- `bitString.Equal` is equality of the byte strings; `b.HasPrefix(c)` says the zero-padded `b` agrees
with `c` on the `len(c)` bits of `c`. -/
theorem C06_bitstring_equal_hasPrefix (b c : BitString) :
    (BitString.equal b c = true ↔ b = c) ∧
    (BitString.hasPrefix b c = true ↔ ∀ j, j < BitString.len c → kbit b j = kbit c j) :=
  ⟨BitString.equal_iff b c, BitString.hasPrefix_iff b c⟩

/-- `search` terminates: on every store whose links point into the store (only the root's right link is
nil, the root's bit position is 0) `search` returns a stored node, within the Model's fuel and
without dereferencing nil — the loop only follows links to strictly larger bit positions. -/
theorem C06_patricia_search_total {V : Type} (t : Patricia V) (hc : Patricia.Closed t) (key : BitString) :
    (t.root = none ∧ t.search key = .ok none) ∨ ∃ r, r < t.nodes.size ∧ t.search key = .ok (some r) :=
  Patricia.search_total hc key

example : Patricia.Closed (Patricia.new : Patricia Int) := Patricia.Closed.new

/-- **C06, Patricia trie: the full statement.**  For every history of all 19 operations — Put, Get, Delete, DeleteMin,
DeleteMax, DeleteAll and every query (Size, Min, Max, Floor, Ceiling, Select, Rank, Range, RangeSize, All, WithPrefix,
LongestPrefixOf, Match) — whose stored keys are non-empty and of at most `lenPos` bits (`PatriciaHistory`, see
`Model/C06Run.lean`; WithPrefix arguments that short too; `lenPos ≥ 2^30`: `C06_patricia_key_length_reach`), over any
value type — keys containing or ending in 0x00 included — the Patricia trie never panics, never runs out of fuel, and
every operation returns exactly what the sorted map returns; in particular deleting a key removes that key only, also
when it is a prefix or an extension of held keys (in the Patricia trie: when its node is the root, an inner node or the
referrer of its own thread), and deleting an absent key changes nothing.

Proof: the store (array of nodes with cyclic index links) unfolds from `root.left` into a crit-bit tree (`Rep`,
`Proofs/C06PRep.lean`); `_put` is insertion at the first differing bit (`Proofs/C06PPut.lean`), `remove` is the
contraction of the removed leaf's parent followed by the replacement of the removed leaf's node by the contracted
node (`Proofs/C06PDel*.lean`), traversals are folds over the in-order leaves. -/
theorem C06_patricia {V : Type} (ops : List (Op V)) (h : PatriciaHistory ops = true) :
    Patricia.run (Patricia.new : Patricia V) ops = (Spec.Map.run ([] : Spec.Map V) ops).map Outcome.ok :=
  Patricia.run_sim Patricia.PInvN.new ops h

/-- non-vacuity: keys that are prefixes / extensions of each other, keys that differ by trailing 0x00 bytes only
(`a`, `a\0`, `a\0\0`), keys differing in the last bit of a byte (`b`, `c`), an update, all kinds of queries, and
deletions of the root's key (`ab`, inserted first), of keys that are prefixes / extensions of held keys, of an absent key,
DeleteMin and DeleteMax. -/
example : PatriciaHistory
    ([.put [97, 98] 1, .put [97] 2, .put [97, 0] 3, .put [97, 0, 0] 4, .put [98, 120] 6, .put [99, 121] 7, .put [97] 5,
      .get [97, 0], .rank [97, 0, 0], .floor [97, 1], .ceiling [97, 0], .select 2, .range [97] [98], .min, .max, .all, .size,
      .withPrefix [97], .withPrefix [98], .withPrefix [99], .longestPrefixOf [97, 0, 0, 7], .match [97, 42],
      .match [42, 42, 42], .delete [97, 98], .all, .delete [97, 0], .withPrefix [97], .delete [100], .deleteMin, .all,
      .deleteMax, .all, .delete [97, 0, 0], .delete [98, 120], .size, .all] : List (Op Int)) = true := by
  decide +kernel

example : Patricia.run (Patricia.new : Patricia Int)
    [.put [97, 98] 1, .put [97] 2, .put [97, 0] 3, .put [97, 0, 0] 4, .put [98, 120] 6, .put [99, 121] 7, .put [97] 5,
      .get [97, 0], .rank [97, 0, 0], .floor [97, 1], .ceiling [97, 0], .select 2, .range [97] [98], .min, .max, .all, .size,
      .withPrefix [97], .withPrefix [98], .withPrefix [99], .longestPrefixOf [97, 0, 0, 7], .match [97, 42],
      .match [42, 42, 42], .delete [97, 98], .all, .delete [97, 0], .withPrefix [97], .delete [100], .deleteMin, .all,
      .deleteMax, .all, .delete [97, 0, 0], .delete [98, 120], .size, .all]
    = (Spec.Map.run ([] : Spec.Map Int)
    [.put [97, 98] 1, .put [97] 2, .put [97, 0] 3, .put [97, 0, 0] 4, .put [98, 120] 6, .put [99, 121] 7, .put [97] 5,
      .get [97, 0], .rank [97, 0, 0], .floor [97, 1], .ceiling [97, 0], .select 2, .range [97] [98], .min, .max, .all, .size,
      .withPrefix [97], .withPrefix [98], .withPrefix [99], .longestPrefixOf [97, 0, 0, 7], .match [97, 42],
      .match [42, 42, 42], .delete [97, 98], .all, .delete [97, 0], .withPrefix [97], .delete [100], .deleteMin, .all,
      .deleteMax, .all, .delete [97, 0, 0], .delete [98, 120], .size, .all]).map Outcome.ok := by
  decide +kernel

/-! ## the rest of `trie.Trie` (not named by the property; `Model/C06X.lean`)

`Traverse`, `AnyMatch`, `AllMatch`, `FirstMatch`, `SelectMatch`, `PartitionMatch`, `Equal`, `Height`, `IsEmpty` are
transcribed so that the correspondence run executes every branch of the `_traverse` functions the property's queries
share.  The theorems below say what these operations mean on the sorted map, for histories over two registers
(`a`: the trie all operations apply to; `b`: the result of the last `SelectMatch` / `PartitionMatch`; `swap`). -/

/-- The general `_traverse` of the binary trie (`Model/C06X.lean`) is, in the orders `Ascending` / `VLR` and
`Descending` / `RLV`, the very traversal the property's ordered queries are stated with (`Model/C06.lean`); an order
that is none of the eight constants visits nothing and reports "stopped" on a non-nil node. -/
theorem C06_binary_traverse_orders {V σ : Type} (visit : σ → Key → V → Bool → σ × Bool) (n : BNode V) (pre : Key) (s : σ) :
    BNode.trav .asc visit n pre s = BNode.travAsc visit n pre s ∧
    BNode.trav .vlr visit n pre s = BNode.travAsc visit n pre s ∧
    BNode.trav .desc visit n pre s = BNode.travDesc visit n pre s ∧
    BNode.trav .rlv visit n pre s = BNode.travDesc visit n pre s ∧
    BNode.trav .bad visit n pre s = (s, n.isNil) :=
  ⟨BNode.trav_fwd (.inr rfl) .., BNode.trav_fwd (.inl rfl) .., BNode.trav_bwd (.inr rfl) .., BNode.trav_bwd (.inl rfl) ..,
   BNode.trav_bad ..⟩

/-- `Equal` as the Spec reads it (every pair of either map has a partner with the same key and an `eqVal`-related value
in the other) is equality of the sorted maps whenever `eqVal` decides equality of values. -/
theorem C06_spec_equal_is_equality {V : Type} (eqv : V → V → Bool) (heq : ∀ a b, eqv a b = true ↔ a = b)
    {m m2 : Spec.Map V} (hs : Sorted m) (hs2 : Sorted m2) : Spec.Map.equal eqv m m2 = true ↔ m = m2 :=
  Spec.Map.equal_iff eqv heq hs hs2

/-- **Binary trie, all of `trie.Trie`.**  For every history over the two registers — the 19 operations of the property
and IsEmpty, Height, Traverse (any order, any stopping visitor), AnyMatch, AllMatch, FirstMatch, SelectMatch,
PartitionMatch (any predicate), Equal (any `eqVal`), Equal against a trie of the other kind, swap — with non-empty
stored / looked-up / deleted keys, nothing panics and every result is admitted by the pair of sorted maps
(`Spec.admits`): IsEmpty / AnyMatch / AllMatch / Equal exactly; FirstMatch a held pair satisfying the predicate (none iff
there is none); SelectMatch / PartitionMatch tries whose `All()` and `Size()` are exactly the selected / rejected
sub-maps — and they are again tries of which all this holds; Traverse with an unknown order shows nothing.  (Height and
what the binary trie's Traverse shows — nodes, not keys — are not functions of the map: only "returns" is stated.) -/
theorem C06_binary_collection {V : Type} [Inhabited V] (eqv : V → V → Bool) (ops : List (XOp V))
    (hk : ∀ op ∈ ops, op.keysNonempty = true) :
    Spec.Admitted false eqv Binary.Holds (([], []) : Spec.Map V × Spec.Map V) ops
      (Binary.xrun eqv (Binary.new, Binary.new) ops) :=
  Binary.xrun_sim eqv BInv.new BInv.new ops hk

/-- the binary trie's FirstMatch is moreover exact: in every state that represents the sorted map `m` (`BInv`: right
links increasing, entries = `m`, size = length — the invariant every history of `C06_binary` / `C06_binary_collection`
maintains) it returns the first match in ascending key order -/
theorem C06_binary_firstMatch_exact {V : Type} (t : Binary V) (m : Spec.Map V) (h : BInv t m) (p : Key → V → Bool) :
    t.firstMatch p = m.find? fun e => p e.1 e.2 :=
  Binary.firstMatch_eq h p

example : BInv (Binary.new : Binary Int) [] := BInv.new

/-- Why the visitor of the binary trie's `Max` is never shown a node that does not end a key (`return true` in
`binary.go:271` is dead code; recorded in `meta/C06.json`, `unreachable_branches`): "a node without a left child ends a
key" (`BNode.Tight`) holds of the empty trie, is kept by every operation, and on a non-empty trie with this property
a descending (`RLV`) traversal whose visitor stops at the first `term` node stops at its very first call — two such
visitors that differ only on non-`term` nodes give the same result. -/
theorem C06_binary_max_sees_term_node_first {V σ : Type} [Inhabited V] :
    (Binary.new : Binary V).root.Tight ∧
    (∀ (t t' : Binary V) (op : Op V) (o : Out V), t.root.Tight → t.step op = .ok (t', o) → t'.root.Tight) ∧
    (∀ (t : Binary V) (v1 v2 : σ → Key → V → Bool → σ × Bool), t.root.Tight → t.root.isNil = false →
      (∀ s k v, v1 s k v true = v2 s k v true) → (∀ s k v, (v1 s k v true).2 = false) →
      ∀ s, t.root.travDesc v1 [] s = t.root.travDesc v2 [] s ∧ (t.root.travDesc v1 [] s).2 = false) :=
  ⟨trivial, fun _ _ op _ h hs => Binary.step_tight op h hs,
   fun t v1 v2 ht hn ha hs s => BNode.travDesc_first_term v1 v2 ha hs t.root hn ht [] s⟩

/-- non-vacuity: the trie holding `a`, `ab`, `b` is tight and non-empty -/
example : ((BNode.nil : BNode Int).put 97 [] 1 0).1.put 97 [98] 2 1 |>.1.put 98 [] 3 2 |>.1.Tight ∧
    (((BNode.nil : BNode Int).put 97 [] 1 0).1.put 97 [98] 2 1 |>.1.put 98 [] 3 2 |>.1.isNil) = false := by
  refine ⟨?_, rfl⟩
  simp [BNode.put, BNode.chain, BNode.Tight, BNode.isNil]

/-- **Patricia trie, all of `trie.Trie`.**  The same for the Patricia trie, for histories whose stored keys are non-empty
and of at most `lenPos` bits (`XPatriciaHistory`); in addition Traverse shows keys: the ascending list cut where the
visitor stops for `Ascending`, the descending one for `Descending`, some arrangement of the held pairs cut there for the
six structural orders (they walk the nodes; every node is the target of exactly one thread), and Height, all traversals
and the `Put`s inside SelectMatch / PartitionMatch stay within the Model's fuel. -/
theorem C06_patricia_collection {V : Type} (eqv : V → V → Bool) (ops : List (XOp V)) (hk : XPatriciaHistory ops = true) :
    Spec.Admitted true eqv Patricia.Holds (([], []) : Spec.Map V × Spec.Map V) ops
      (Patricia.xrun eqv (Patricia.new, Patricia.new) ops) :=
  Patricia.xrun_sim eqv Patricia.PInvN.new Patricia.PInvN.new ops hk

/-- non-vacuity: a history using every extended operation satisfies both hypotheses; a shorter one runs to these booleans -/
example : (∀ op ∈ ([.base (.put [97] 1), .base (.put [97, 98] 2), .base (.put [98] 3), .isEmpty, .height,
      .traverse .lvr 2, .traverse .bad (-1), .anyMatch (fun _ v => v == 2), .allMatch (fun k _ => k.length == 1),
      .firstMatch (fun _ v => v > 1), .selectMatch (fun k _ => klt k [98]), .equal, .swap, .base .all,
      .partitionMatch (fun _ v => v == 1), .equal, .equalOther] : List (XOp Int)), op.keysNonempty = true) ∧
    XPatriciaHistory ([.base (.put [97] 1), .base (.put [97, 98] 2), .base (.put [98] 3), .isEmpty, .height,
      .traverse .lvr 2, .traverse .bad (-1), .anyMatch (fun _ v => v == 2), .allMatch (fun k _ => k.length == 1),
      .firstMatch (fun _ v => v > 1), .selectMatch (fun k _ => klt k [98]), .equal, .swap, .base .all,
      .partitionMatch (fun _ v => v == 1), .equal, .equalOther] : List (XOp Int)) = true := by
  decide +kernel

example : ((Patricia.xrun (fun a b : Int => a == b) (Patricia.new, Patricia.new)
      [.base (.put [97] 1), .base (.put [97, 98] 2), .base (.put [98] 3), .isEmpty,
       .anyMatch (fun _ v => v == 2), .allMatch (fun k _ => k.length == 1),
       .selectMatch (fun k _ => klt k [98]), .equal, .swap, .partitionMatch (fun _ v => v == 1), .equal]).map
      fun o => match o with
        | .ok (.bool b) => some b
        | _ => none)
    = [none, none, none, some false, some true, some false, none, some false, none, none, some false] := by
  decide +kernel

/-! ## what the driver executes is the Model

The correspondence driver answers `All` on the binary trie through `Binary.xstepFast` (linear in the number of keys,
needed for the sweeps over 65 536 and more keys; `Binary.all` appends to the list collected so far and is quadratic
when executed).  For every state and every operation it is the step function the theorems above are about. -/

theorem C06_driver_step_is_model_step {V : Type} [Inhabited V] (eqv : V → V → Bool) (s : Binary V × Binary V) (op : XOp V) :
    Binary.xstepFast eqv s op = Binary.xstep eqv s op := Binary.xstepFast_eq eqv s op

/-- the one operation on which the two differ syntactically, on a trie holding `a`, `ab`, `b` -/
example : (Binary.xstepFast (fun a b : Int => a == b)
      ({ size := 3, root := ((BNode.nil : BNode Int).put 97 [] 1 0).1.put 97 [98] 2 1 |>.1.put 98 [] 3 2 |>.1 }, Binary.new)
      (.base .all)).map (fun r => match r.2 with | .base (.list l) => l | _ => [])
    = .ok [([97], 1), ([97, 98], 2), ([98], 3)] := by decide +kernel

/-! ## the reach of the Patricia theorems in key length

`C06_patricia` and `C06_patricia_collection` are proved under an explicit hypothesis on the histories
(`PatriciaHistory` / `XPatriciaHistory`, i.e. `Op.smallKeys` for every operation): stored keys (and WithPrefix
arguments) have **at most `lenPos` bits**, `lenPos` being the base of `bitString`'s length positions, regenerated
from `trie/bitstring.go` on every run (`Generated.trie_lenPos`).  A smaller constant in the source would shrink the set
of histories those theorems speak about without breaking them (Model and code move together).  This theorem states the
reach: `lenPos` is at least `2^30`, so every non-empty key of up to `2^27` bytes (128 MiB) is within the hypothesis.
Lowering `lenPos` in the source (to `1 << 20`, say: wrong answers for keys sharing more than 131072 leading bytes) breaks
this obligation. -/

theorem C06_patricia_key_length_reach :
    2 ^ 30 ≤ BitString.lenPos ∧
    ∀ {V : Type} (k : Key) (v : V), k ≠ [] → k.length ≤ 2 ^ 27 →
      (Op.put k v).smallKeys = true ∧ (Op.withPrefix k : Op V).smallKeys = true := by
  have h : 2 ^ 30 ≤ BitString.lenPos := by decide
  refine ⟨h, fun k v hk hl => ?_⟩
  have : 8 * k.length ≤ BitString.lenPos := by omega
  cases k with
  | nil => exact absurd rfl hk
  | cons c cs =>
    simp only [List.length_cons] at this
    simp [Op.smallKeys, this]

/-- a key of 200 000 bytes (beyond 2^17 = 131072) is within the hypothesis of `C06_patricia` -/
example : (Op.put (List.replicate 200000 (97 : UInt8)) (1 : Int)).smallKeys = true :=
  (C06_patricia_key_length_reach.2 _ _ (fun h => by
      have := congrArg List.length h
      rw [List.length_replicate, List.length_nil] at this
      omega)
    (by rw [List.length_replicate]; decide)).1
