import AlgoVerif.Model.C14
import AlgoVerif.Model.C14W
import AlgoVerif.Spec.C14
import AlgoVerif.Proofs.C14PathsTop
import AlgoVerif.Proofs.C14Build
import AlgoVerif.Proofs.C14Bfs
import AlgoVerif.Proofs.C14Comp
import AlgoVerif.Proofs.C14Cycle
import AlgoVerif.Proofs.C14Topo
import AlgoVerif.Proofs.C14Scc
import AlgoVerif.Proofs.C14Cert
import AlgoVerif.Proofs.C14Dijkstra
import AlgoVerif.Proofs.C14Prim
import AlgoVerif.Proofs.C14Admits
import AlgoVerif.Proofs.C14Kept
import AlgoVerif.Proofs.C14Gen
import AlgoVerif.Proofs.C14WGen
import AlgoVerif.Props.C18
/-!
# C14 — property theorems

`g : Graph` is the Model of any of the four Go graph types; `g.WF` is what `NewX(V)` + `AddEdge` establish
(`C14_build_directed` / `C14_build_undirected`: every graph built from a vertex count and an edge list is
well-formed, and its arc relation `g.HasArc` is the edge relation of the edge list).
-/
open AlgoVerif AlgoVerif.C14

/-- `NewDirected(n, es…)`: well-formed, `n` vertices, arcs = the valid edges of the list. -/
theorem C14_build_directed (n : Nat) (es : List EdgeIn) :
    (buildDirected n es).WF ∧ (buildDirected n es).n = n ∧
      ∀ a b, (buildDirected n es).HasArc a b ↔ DirE n es a b :=
  buildDirected_spec n es

/-- `NewUndirected(n, es…)`: additionally symmetric, arcs = valid edges in both directions. -/
theorem C14_build_undirected (n : Nat) (es : List EdgeIn) :
    (buildUndirected n es).WF ∧ (buildUndirected n es).Symmetric ∧ (buildUndirected n es).n = n ∧
      ∀ a b, (buildUndirected n es).HasArc a b ↔ UndirE n es a b :=
  buildUndirected_spec n es

/-- a directed multigraph with a cycle, a self-loop, parallel edges, an ignored edge and an unreachable vertex -/
def C14_exD : Graph :=
  buildDirected 5 [⟨0, 1, 0⟩, ⟨0, 1, 0⟩, ⟨1, 2, 0⟩, ⟨2, 2, 0⟩, ⟨2, 0, 0⟩, ⟨0, 3, 0⟩, ⟨7, 1, 0⟩, ⟨2, 3, 0⟩]

example : C14_exD.WF ∧ C14_exD.HasArc 2 0 ∧ ¬ C14_exD.HasArc 4 1 := by
  obtain ⟨h1, _, h3⟩ := C14_build_directed 5 [⟨0, 1, 0⟩, ⟨0, 1, 0⟩, ⟨1, 2, 0⟩, ⟨2, 2, 0⟩, ⟨2, 0, 0⟩, ⟨0, 3, 0⟩, ⟨7, 1, 0⟩, ⟨2, 3, 0⟩]
  exact ⟨h1, (h3 2 0).2 (by unfold DirE; decide), fun h => absurd ((h3 4 1).1 h) (by unfold DirE; decide)⟩

/-- **Totality.** `Paths(s, strategy)` returns for every source (valid or not) and every strategy — the
traversal loops never run out of fuel (`diverge`) and never index out of range (`panic`) — and `To(v)`
returns for every `v` in `[0, n)`; outside it panics (the Go code indexes `visited[v]`). -/
theorem C14_paths_total (g : Graph) (hg : g.WF) (s : Int) (strat : Strategy) :
    ∃ p, g.paths s strat = .ok p ∧
      ∀ v : Int, (0 ≤ v ∧ v < (g.n : Int) → ∃ r, p.to v = .ok r) ∧
                 (¬ (0 ≤ v ∧ v < (g.n : Int)) → p.to v = .panic) := by
  obtain ⟨p, h1, hout, hin⟩ := paths_spec hg s strat
  exact ⟨p, h1, fun v => ⟨fun hv => let ⟨r, hr, _⟩ := hin v hv; ⟨r, hr⟩, hout v⟩⟩

/-- **Soundness.** Whatever `To(v)` returns is a real path: source and target are vertices, the list starts
at `s`, ends at `v`, and consecutive vertices are joined by an arc of the graph. -/
theorem C14_paths_sound (g : Graph) (hg : g.WF) (s : Int) (strat : Strategy) (p : Paths) (v : Int)
    (path : List Nat) (hp : g.paths s strat = .ok p) (hto : p.to v = .ok (some path)) :
    0 ≤ s ∧ s < (g.n : Int) ∧ 0 ≤ v ∧ v < (g.n : Int) ∧ WalkFromTo g.HasArc s.toNat v.toNat path := by
  obtain ⟨hv, hok⟩ := paths_to_ok hg hp hto
  exact ⟨hok.1, hok.2.1, hv.1, hv.2, hok.2.2.1⟩

/-- **Completeness.** If `v` is reachable from `s`, `To(v)` returns a path (for each of the three strategies). -/
theorem C14_paths_complete (g : Graph) (hg : g.WF) (s v : Int) (strat : Strategy)
    (hs : 0 ≤ s ∧ s < (g.n : Int)) (hv : 0 ≤ v ∧ v < (g.n : Int))
    (hr : Reach g.HasArc s.toNat v.toNat) :
    ∃ p path, g.paths s strat = .ok p ∧ p.to v = .ok (some path) ∧
      WalkFromTo g.HasArc s.toNat v.toNat path := by
  obtain ⟨p, h1, _, hin⟩ := paths_spec hg s strat
  obtain ⟨r, hto, hok⟩ := hin v hv
  cases r with
  | none => exact absurd ⟨hs.1, hs.2, hr⟩ hok
  | some path => exact ⟨p, path, h1, hto, hok.2.2.1⟩

/-- `To(v)` answers `(nil, false)` exactly when `s` is not a vertex or `v` is not reachable from it -/
theorem C14_paths_none_iff (g : Graph) (hg : g.WF) (s v : Int) (strat : Strategy) (p : Paths)
    (hv : 0 ≤ v ∧ v < (g.n : Int)) (hp : g.paths s strat = .ok p) :
    p.to v = .ok none ↔ ¬ (0 ≤ s ∧ s < (g.n : Int) ∧ Reach g.HasArc s.toNat v.toNat) := by
  obtain ⟨p', h1, _, hin⟩ := paths_spec hg s strat
  obtain rfl : p' = p := Outcome.ok.inj (h1.symm.trans hp)
  obtain ⟨r, hr, hok⟩ := hin v hv
  rw [hr]
  cases r with
  | none => exact iff_of_true rfl hok
  | some path => exact iff_of_false (by simp) fun h => h ⟨hok.1, hok.2.1, hok.2.2.1.reach⟩

-- non-vacuity: the three strategies find three different valid paths 0 → 3 in `C14_exD`, none to 4
example : (C14_exD.paths 0 .dfs).bind (·.to 3) = .ok (some [0, 1, 2, 3]) := by decide +kernel
example : (C14_exD.paths 0 .dfsi).bind (·.to 3) = .ok (some [0, 3]) := by decide +kernel
example : (C14_exD.paths 0 .bfs).bind (·.to 2) = .ok (some [0, 1, 2]) := by decide +kernel
example : (C14_exD.paths 0 .bfs).bind (·.to 4) = .ok none := by decide +kernel
example : (C14_exD.paths 9 .bfs).bind (·.to 0) = .ok none := by decide +kernel
example : (C14_exD.paths 0 .bfs).bind (·.to 5) = .panic := by decide +kernel

/-- **BFS paths have the fewest edges.** The answer of `To(v)` after `Paths(s, BFS)` has at most as many
edges (`path.length - 1`) as any walk from `s` to `v` (`WalkLen … m` = a walk of exactly `m` edges). -/
theorem C14_bfs_fewest_edges (g : Graph) (hg : g.WF) (s v : Int) (p : Paths) (path : List Nat)
    (hp : g.paths s .bfs = .ok p) (hto : p.to v = .ok (some path)) (m : Nat)
    (hw : WalkLen g.HasArc s.toNat m v.toNat) : path.length ≤ m + 1 := by
  exact (paths_to_ok hg hp hto).2.2.2.2 rfl m hw

-- non-vacuity: DFS finds 0→1→2→3 (3 edges), BFS 0→3 (1 edge), and a 1-edge walk exists
example : (C14_exD.paths 0 .bfs).bind (·.to 3) = .ok (some [0, 3]) := by decide +kernel
example : WalkLen C14_exD.HasArc 0 1 3 := by
  refine .succ .zero ?_
  exact ⟨⟨3, ⟨0, 3, 0⟩⟩, by decide, rfl⟩

/-- **ConnectedComponents partitions the vertices exactly by reachability** (undirected = symmetric graphs):
it returns; every vertex gets an id `< count`; every id `< count` is in use (so `count` is the number of
components); two vertices have the same id iff one reaches the other. -/
theorem C14_cc_partition (g : Graph) (hg : g.WF) (hsym : g.Symmetric) :
    ∃ cc, g.connectedComponents = .ok cc ∧ cc.id.size = g.n ∧
      (∀ x, x < g.n → ∃ i, cc.id[x]? = some i ∧ i < cc.count) ∧
      (∀ i, i < cc.count → ∃ x, x < g.n ∧ cc.id[x]? = some i) ∧
      (∀ x y, x < g.n → y < g.n → (cc.id[x]? = cc.id[y]? ↔ Reach g.HasArc x y)) :=
  cc_spec hg hsym

/-- three components: {0,1,2} (with parallel edges), {3} (self-loop), {4,5}; the edge 6–7 is ignored -/
def C14_exU : Graph :=
  buildUndirected 6 [⟨0, 1, 0⟩, ⟨1, 0, 0⟩, ⟨1, 2, 0⟩, ⟨3, 3, 0⟩, ⟨4, 5, 0⟩, ⟨6, 7, 0⟩]

example : C14_exU.WF ∧ C14_exU.Symmetric :=
  ⟨(C14_build_undirected _ _).1, (C14_build_undirected _ _).2.1⟩
example : C14_exU.connectedComponents = .ok ⟨3, #[0, 0, 0, 1, 2, 2]⟩ := by decide +kernel

/-- **A cycle is reported iff one exists, and the reported cycle is genuine**: `DirectedCycle` returns for every
graph; `Cycle()` answers `(c, true)` only for a closed walk `c = [v, w, …, v]` along arcs with at least one
edge; it answers `(nil, false)` iff the graph has no cycle. -/
theorem C14_cycle_iff_and_genuine (g : Graph) (hg : g.WF) :
    ∃ c, g.directedCycle = .ok c ∧
      (∀ cyc, c.cycleList = some cyc → IsCycle g.HasArc cyc) ∧
      (c.cycleList = none ↔ Acyclic g.HasArc) :=
  directedCycle_spec hg

example : (C14_exD.directedCycle).map (·.cycleList) = .ok (some [2, 2]) := by decide +kernel
example : ((buildDirected 4 [⟨0, 1, 0⟩, ⟨1, 2, 0⟩, ⟨2, 3, 0⟩, ⟨3, 1, 0⟩]).directedCycle).map (·.cycleList) =
    .ok (some [3, 1, 2, 3]) := by decide +kernel

/-- a DAG whose insertion order is not topological -/
def C14_exDag : Graph :=
  buildDirected 6 [⟨5, 0, 0⟩, ⟨4, 0, 0⟩, ⟨5, 2, 0⟩, ⟨2, 3, 0⟩, ⟨3, 1, 0⟩, ⟨4, 1, 0⟩]

example : (C14_exDag.directedCycle).map (·.cycleList) = .ok none := by decide +kernel

/-- **Topological returns an order iff the graph is acyclic, and the order respects every arc**: the order
lists every vertex exactly once, for every arc `u → v` the vertex `u` occurs strictly before `v`, and
`Rank` is the inverse of `Order`. -/
theorem C14_topological_iff_and_order_respects_edges (g : Graph) (hg : g.WF) :
    ∃ t, g.topological = .ok t ∧
      (t.order.isSome ↔ Acyclic g.HasArc) ∧ (t.rank.isSome ↔ t.order.isSome) ∧
      ∀ order, t.order = some order →
        IsPermOfRange g.n order ∧ RespectsArcs g.HasArc order ∧
        ∃ rank : Array Nat, t.rank = some rank ∧ rank.size = g.n ∧
          ∀ (j v : Nat), order[j]? = some v → rank[v]? = some j :=
  topological_spec hg

example : C14_exDag.topological = .ok ⟨some [5, 4, 2, 3, 1, 0], some #[5, 4, 2, 3, 1, 0]⟩ := by decide +kernel
example : C14_exD.topological = .ok ⟨none, none⟩ := by decide +kernel

/-- **StronglyConnectedComponents partitions the vertices exactly by mutual reachability**: it returns for
every graph; every vertex gets an id `< count`; every id `< count` is in use; two vertices have the same id
iff each reaches the other. -/
theorem C14_scc_partition (g : Graph) (hg : g.WF) :
    ∃ cc, g.stronglyConnectedComponents = .ok cc ∧ cc.id.size = g.n ∧
      (∀ x, x < g.n → ∃ i, cc.id[x]? = some i ∧ i < cc.count) ∧
      (∀ i, i < cc.count → ∃ x, x < g.n ∧ cc.id[x]? = some i) ∧
      (∀ x y, x < g.n → y < g.n →
        (cc.id[x]? = cc.id[y]? ↔ Reach g.HasArc x y ∧ Reach g.HasArc y x)) :=
  scc_spec hg

example : C14_exD.stronglyConnectedComponents = .ok ⟨3, #[2, 2, 2, 1, 0]⟩ := by decide +kernel

/-- the SCC certificate the driver evaluates on every `scc` query is sound (second, independent line of
evidence for the same conjunct; it ties the *evaluated* result to the property without the Kosaraju proof). -/
theorem C14_scc_certificate_sound (g : Graph) (hg : g.WF) (c : Components) (h : sccCertificate g c = true) :
    c.id.size = g.n ∧
    (∀ v, v < g.n → c.id.getD v 0 < c.count) ∧
    (∀ i, i < c.count → ∃ v, v < g.n ∧ c.id.getD v 0 = i) ∧
    (∀ u v, u < g.n → v < g.n →
      (c.id.getD u 0 = c.id.getD v 0 ↔ Reach g.HasArc u v ∧ Reach g.HasArc v u)) :=
  sccCertificate_sound g hg c h

example : (C14_exD.stronglyConnectedComponents).map (sccCertificate C14_exD) = .ok true := by decide +kernel

/-- `NewWeightedDirected(n, es…)`: every entry of `adj[u]` stores an edge `u → to`; the stored edges are
exactly the valid edges of the list; no negative weight in the list ⇒ none in the graph. -/
theorem C14_build_weighted_directed (n : Nat) (es : List EdgeIn) :
    (buildDirected n es).DWF ∧ ((∀ e ∈ es, 0 ≤ e.w) → (buildDirected n es).NonNeg) ∧
    ∀ a b e, (buildDirected n es).HasEdge a b e ↔
      ∃ x ∈ es, 0 ≤ x.u ∧ x.u < (n : Int) ∧ 0 ≤ x.v ∧ x.v < (n : Int) ∧
        (a : Int) = x.u ∧ (b : Int) = x.v ∧ e = ⟨a, b, x.w⟩ :=
  ⟨(buildDirected_dwf n es).1, (buildDirected_dwf n es).2, buildDirected_hasEdge n es⟩

/-- **ShortestPathTree returns, for non-negative weights, the minimum distance to every reachable vertex
with a path of exactly that weight** (and `(nil, -1, false)` exactly for the unreachable ones): for a valid
source the Model returns (no `panic`, no `diverge` with the fuel `n + 1`), and for every vertex `v`
either no walk of stored edges leads from `s` to `v` and `PathTo(v)` answers `none`, or `PathTo(v)` answers a
walk `p` from `s` to `v` of stored edges together with `d = weight(p)`, and no walk from `s` to `v` is lighter. -/
theorem C14_spt_paths_realise_dist_and_shortest (g : Graph) (hg : g.WF) (hd : g.DWF) (hnn : g.NonNeg)
    (s : Nat) (hs : s < g.n) :
    ∃ t, g.shortestPathTree (s : Int) = .ok t ∧
      ∀ v, v < g.n →
        (t.pathTo (v : Int) = .ok none ∧ ¬ ∃ q, IsEdgeWalk g s v q) ∨
        (∃ p d, t.pathTo (v : Int) = .ok (some (p, d)) ∧ IsEdgeWalk g s v p ∧ walkWeight p = d ∧
          ∀ q, IsEdgeWalk g s v q → d ≤ walkWeight q) :=
  let ⟨t, h1, _, h3⟩ := spt_spec_sz hg hd hnn s hs
  ⟨t, h1, h3⟩

/-- zero weights, ties, a zero-weight cycle, parallel edges, an unreachable part -/
def C14_exW : Graph :=
  buildDirected 7 [⟨0, 1, 0⟩, ⟨1, 2, 0⟩, ⟨2, 0, 0⟩, ⟨0, 3, 5⟩, ⟨2, 3, 5⟩, ⟨1, 3, 4⟩, ⟨1, 3, 6⟩, ⟨3, 4, 1⟩,
    ⟨3, 4, 1⟩, ⟨4, 4, 0⟩, ⟨5, 6, 2⟩, ⟨0, 0, 0⟩]

example : C14_exW.WF ∧ C14_exW.DWF ∧ C14_exW.NonNeg :=
  ⟨(C14_build_directed _ _).1, (C14_build_weighted_directed _ _).1,
   (C14_build_weighted_directed _ _).2.1 (by decide)⟩
example : (C14_exW.shortestPathTree 0).bind (·.pathTo 4) =
    .ok (some ([⟨0, 1, 0⟩, ⟨1, 3, 4⟩, ⟨3, 4, 1⟩], 5)) := by decide +kernel
example : (C14_exW.shortestPathTree 0).bind (·.pathTo 6) = .ok none := by decide +kernel
example : (C14_exW.shortestPathTree 7).bind (·.pathTo 0) = .panic := by decide +kernel

/-- the shortest-path certificate the driver evaluates on every `spt`/`sptto` query is sound:
`distTo[s] = 0`, no relaxable edge and answers that realise their distance are shortest paths
(this lemma does not need non-negative weights). -/
theorem C14_spt_certificate_sound (g : Graph) (hg : g.WF) (s : Nat) (t : SPT)
    (answers : List (Nat × Option (List Edge × Int))) (h : sptCertificate g s t answers = true) :
    ∀ v a, (v, a) ∈ answers →
      match a with
      | none => ¬ ∃ q, IsEdgeWalk g s v q
      | some (p, d) => IsEdgeWalk g s v p ∧ walkWeight p = d ∧ ∀ q, IsEdgeWalk g s v q → d ≤ walkWeight q :=
  sptCertificate_sound g hg s t answers h

/-- **MinimumSpanningTree returns a spanning forest** (undirected = symmetric graphs whose adjacency entries
store an edge joining owner and neighbour, `C14_build_undirected` + `C14_build_weighted_undirected`): the Model
returns (no `panic`/`diverge`); `Edges()` are the non-zero entries `edgeTo[w]` (`MST.edges`, by definition);
every such entry is a stored edge of the graph joining `w` with a parent `p` (`TLink`); parents have a smaller
rank, so the edges form a forest (every vertex has at most one parent edge and following parents never
returns); and two vertices are joined by tree edges iff they are connected in the graph (spanning). -/
theorem C14_mst_spanning_forest (g : Graph) (hg : g.WF) (hu : g.UWF) (hsym : g.Symmetric) :
    ∃ m, g.minimumSpanningTree = .ok m ∧ m.edgeTo.size = g.n ∧
      (∀ w, m.par w ≠ Edge.zero → ∃ p, TLink g m w p) ∧
      (∃ rank : Nat → Nat, ∀ w p, TLink g m w p → rank p < rank w) ∧
      (∀ u v, u < g.n → v < g.n → (Reach g.HasArc u v ↔ Reach (TArc g m) u v)) :=
  mst_spec hg hu hsym

/-- two components, parallel edges of different weight, zero and negative weights, a self-loop -/
def C14_exM : Graph :=
  buildUndirected 7 [⟨0, 1, 4⟩, ⟨1, 0, 2⟩, ⟨1, 2, 0⟩, ⟨0, 2, 0⟩, ⟨2, 3, -3⟩, ⟨3, 0, 5⟩, ⟨3, 3, -9⟩, ⟨4, 5, 1⟩,
    ⟨5, 6, 1⟩, ⟨6, 4, 1⟩]

example : C14_exM.WF ∧ C14_exM.UWF ∧ C14_exM.Symmetric :=
  ⟨(C14_build_undirected _ _).1, buildUndirected_uwf _ _, (C14_build_undirected _ _).2.1⟩
example : (C14_exM.minimumSpanningTree).map (fun m => (m.edges, m.weight)) =
    .ok ([⟨1, 2, 0⟩, ⟨0, 2, 0⟩, ⟨2, 3, -3⟩, ⟨4, 5, 1⟩, ⟨6, 4, 1⟩], -1) := by decide +kernel
example : (C14_exM.minimumSpanningTree).map (mstCertificate C14_exM) = .ok true := by decide +kernel

/-- `NewWeightedUndirected(n, es…)`: every adjacency entry stores an edge joining its owner and its neighbour
(`UWF`), and every edge is stored in the adjacency lists of both of its ends (`UStored`). -/
theorem C14_build_weighted_undirected (n : Nat) (es : List EdgeIn) :
    (buildUndirected n es).UWF ∧ (buildUndirected n es).UStored :=
  ⟨buildUndirected_uwf n es, buildUndirected_ustored n es⟩

/-- **MinimumSpanningTree returns a spanning forest of minimum total weight** (any integer weights, also
negative): `Edges()` is a spanning forest of the graph in the sense of `IsSpanningForest` (stored edges, no
repetition, no cycle: removing an edge disconnects its ends; the ends of every graph edge are connected), and
`Weight()` — the sum of their weights — is at most the weight of *every* spanning forest `F` of the graph.
Proof: every edge Prim adds is a lightest stored edge between the vertices visited before its child and the
rest (`ForestOK`, kept as an invariant of `prim`; uses `Delete` returning a least key), and the classical
exchange argument (`cut_rule_optimal`, `Proofs/C14Mst.lean`: a forest that contains the first `i` chosen
edges can be changed, without gaining weight, into one that also contains the next). -/
theorem C14_mst_minimum_weight (g : Graph) (hg : g.WF) (hu : g.UWF) (hsym : g.Symmetric) (hst : g.UStored) :
    ∃ m, g.minimumSpanningTree = .ok m ∧ IsSpanningForest g m.edges ∧ m.weight = wsum m.edges ∧
      ∀ F, IsSpanningForest g F → m.weight ≤ wsum F := by
  obtain ⟨m, h1, h2, h3⟩ := mst_minimum hg hu hsym hst
  exact ⟨m, h1, h2, wsum_edges m, h3⟩

example : C14_exM.UStored := (C14_build_weighted_undirected _ _).2
-- a competitor: the spanning forest that uses the heavy parallel edge 0–1:4 weighs 4 more (3 against -1)
example : wsum [⟨0, 1, 4⟩, ⟨1, 2, 0⟩, ⟨2, 3, -3⟩, ⟨4, 5, 1⟩, ⟨5, 6, 1⟩] = 3 := by decide +kernel

/-! ## the containers behind DFSi, BFS, `To`, `PathTo`, `Cycle` -/

/-- **Dependency on C18, made explicit.**  The Model of the traversals keeps the content of `list.Stack` /
`list.Queue` as a plain list: `pushStack`/`pushQueue` and taking the head are literally the operations of the
abstract stack and queue of `Spec/C18.lean`; and by `C18_stack_refines` / `C18_queue_refines` every history on
the block-linked Model of `/repo/list/{stack,queue}.go` with the block size the graph package uses
(`listNodeSize`, regenerated from the source) returns what the abstract sequence returns, never panicking or
hanging.  So the only thing trusted here is that the traversals use the containers through
`Push/Pop/IsEmpty` (`Enqueue/Dequeue/IsEmpty`) — which the correspondence run checks across block
boundaries. -/
theorem C14_containers_are_C18_spec :
    (∀ (w : Nat) (l : List Nat), pushStack w l = C18.Spec.S.push l w) ∧
    (∀ (w : Nat) (l : List Nat), pushQueue w l = C18.Spec.Q.enqueue l w) ∧
    (∀ (v : Nat) (l : List Nat), C18.Spec.S.pop (v :: l) = (l, some v) ∧ C18.Spec.Q.dequeue (v :: l) = (l, some v)) ∧
    (∀ (eq : Nat → Nat → Bool) (ops : List (C18.Op Nat)),
      C18.Stack.run 0 eq (C18.Stack.new C14.listNodeSize) ops = (C18.Spec.S.run eq [] ops).map Outcome.ok) ∧
    (∀ (eq : Nat → Nat → Bool) (ops : List (C18.Op Nat)),
      C18.Queue.run 0 eq (C18.Queue.new C14.listNodeSize) ops = (C18.Spec.Q.run eq [] ops).map Outcome.ok) := by
  have hB : 1 ≤ C14.listNodeSize := by decide
  exact ⟨fun _ _ => rfl, fun _ _ => rfl, fun _ _ => ⟨rfl, rfl⟩,
    fun eq ops => C18_stack_refines 0 eq _ hB ops, fun eq ops => C18_queue_refines 0 eq _ hB ops⟩

/-! ## graph objects over time: `AddEdge` interleaved with queries, `Reverse()`, several objects

`Model/C14S.lean`: a `GObj` is the fields of a Go graph struct, `World` the objects a client holds, `World.run`
a history of `AddEdge` calls, queries, `Reverse()` calls kept as further objects, and switches between objects.
`Spec/C14S.lean`: the same history on (kind, vertex count, list of `AddEdge` calls) triples, and `Admits`, the
property's demand on each query's answer.  The theorems above speak about a graph value; these say which
graph value every query of every history is answered on — the one with exactly the edges added so far. -/

/-- **Every history on one object.**  For every kind, vertex count and every sequence of `AddEdge` calls
interleaved with queries in any way: the object ends as the graph built from the calls (`GObj.build`, i.e.
`NewX(n, edges…)`), whose adjacency structure is `buildDirected`/`buildUndirected` of the calls — the graph the
theorems above are about — and the `i`-th step, if it is a query, returned exactly what that query returns on
the graph built from the calls made before step `i`. -/
theorem C14_history_state (k : Kind) (n : Nat) (ops : List Op) (hs : ∀ op ∈ ops, op.single = true) :
    ((World.init k n).run ops).1 = ⟨#[GObj.build k n (edgesOf ops)], 0⟩ ∧
    (GObj.build k n (edgesOf ops)).g = theGraph k n (edgesOf ops) ∧
    ((World.init k n).run ops).2.length = ops.length ∧
    ∀ i q, ops[i]? = some (.query q) →
      ((World.init k n).run ops).2[i]? = some ((GObj.build k n (edgesOf (ops.take i))).answer q) := by
  obtain ⟨h1, h4⟩ := run_single k n ops hs []
  simp only [List.nil_append] at h1 h4
  rw [← init_eval, run_refines]
  unfold SWorld.init
  refine ⟨?_, build_g k n _, srun_length ops _, h4⟩
  rw [h1]
  exact initWith_eval k n _

/-- **Every query of every history returns what the property demands for the graph consisting of exactly the
edges added so far** (`Admits`, `Spec/C14S.lean`: paths sound, complete and — BFS — fewest edges; (strongly)
connected components partition by (mutual) reachability; a genuine cycle iff one exists; a topological order
respecting every edge iff none exists; a minimum spanning forest; shortest distances with realising paths for
non-negative weights; `panic` exactly for out-of-range arguments). -/
theorem C14_history_admitted (k : Kind) (n : Nat) (ops : List Op) (hs : ∀ op ∈ ops, op.single = true)
    (i : Nat) (q : Query) (hi : ops[i]? = some (.query q)) (hq : q.applies k = true) :
    ∃ a, ((World.init k n).run ops).2[i]? = some a ∧ Admits k n (edgesOf (ops.take i)) q a :=
  ⟨_, (C14_history_state k n ops hs).2.2.2 i q hi, answer_admitted k n _ q hq⟩

/-- the history of the regression case `corpus/C14/11-scc-after-addedge.ops`: query, add an edge, query again -/
def C14_exHist : List Op :=
  [.query .scc, .edge 1 0 0, .query .scc, .edge 0 1 0, .query .scc, .query (.path .bfs 1 0)]

example : ∀ op ∈ C14_exHist, op.single = true := by decide +kernel
example : edgesOf (C14_exHist.take 4) = [⟨1, 0, 0⟩, ⟨0, 1, 0⟩] := by decide +kernel
-- the three `scc` answers differ although they are asked of the same object: 2, 2, then 1 component
example : (((World.init .directed 2).run C14_exHist).2.map fun a => a.map fun
      | .comps c => c.count
      | _ => 99) = [.ok 2, .ok 99, .ok 2, .ok 99, .ok 1, .ok 99] := by
  decide +kernel

/-- **SCC on an object with a history.**  On a directed object, after any interleaving of `AddEdge` calls and queries,
`StronglyConnectedComponents()` partitions the vertices by mutual reachability in the edge relation of *all* calls made so
far — whatever was queried in between.  (The instance of `C14_history_admitted` that excludes, for the Model, a reverse graph
cached across `AddEdge` calls: seeded change C14-n1.) -/
theorem C14_history_scc (k : Kind) (hk : k.isDirected = true) (n : Nat) (ops : List Op)
    (hs : ∀ op ∈ ops, op.single = true) (i : Nat) (hi : ops[i]? = some (.query .scc)) :
    ∃ c, ((World.init k n).run ops).2[i]? = some (.ok (.comps c)) ∧ c.id.size = n ∧
      (∀ x, x < n → ∃ j, c.id[x]? = some j ∧ j < c.count) ∧
      (∀ j, j < c.count → ∃ x, x < n ∧ c.id[x]? = some j) ∧
      ∀ x y, x < n → y < n →
        (c.id[x]? = c.id[y]? ↔
          Reach (DirE n (edgesOf (ops.take i))) x y ∧ Reach (DirE n (edgesOf (ops.take i))) y x) := by
  obtain ⟨a, h1, h2⟩ := C14_history_admitted k n ops hs i .scc hi (by simp [Query.applies, hk])
  simp only [Admits] at h2
  obtain ⟨c, rfl, h3, h4, h5, h6⟩ := h2
  have hE : EdgeRel k n (edgesOf (ops.take i)) = DirE n (edgesOf (ops.take i)) := by
    unfold EdgeRel; rw [hk]; rfl
  rw [hE] at h6
  exact ⟨c, h1, h3, h4, h5, h6⟩

/-- **The state of an object is its edge list.**  For the graph of kind `k` on `n` vertices that has received the
`AddEdge` calls `es` (in this order, invalid ones included): `V() = n`; `E()` is the number of calls with both
endpoints valid; `Adj(v)` is exactly the list of entries those calls append (`adjSpec`, in call order; an
undirected edge appears at both ends, a self-loop twice), `nil` for an invalid vertex; `OutDegree`/`Degree` is its
length, `-1` for an invalid vertex; `InDegree(v)` (directed kinds) counts the stored edges pointing to `v`;
`Edges()` (weighted kinds) lists the stored edge of every adjacency entry (undirected: only the entries whose
neighbour is larger than their owner, so every edge between distinct vertices once and no self-loop). None of
them panics. -/
theorem C14_accessors (k : Kind) (n : Nat) (es : List EdgeIn) :
    (GObj.build k n es).V = n ∧
    (GObj.build k n es).E = (es.filter (validE n)).length ∧
    (∀ v : Int, (GObj.build k n es).adjOf v =
      if 0 ≤ v ∧ v < (n : Int) then .ok (some (adjSpec k n es v.toNat)) else .ok none) ∧
    (∀ v : Int, (GObj.build k n es).outDegree v =
      if 0 ≤ v ∧ v < (n : Int) then .ok ((adjSpec k n es v.toNat).length : Int) else .ok (-1)) ∧
    (k.isDirected = true → ∀ v : Int, (GObj.build k n es).inDegree v =
      if 0 ≤ v ∧ v < (n : Int) then
        .ok ((es.filter fun e => validE n e && decide (e.v.toNat = v.toNat)).length : Int)
      else .ok (-1)) ∧
    (GObj.build k n es).edges =
      if k.isDirected then (List.range n).flatMap fun v => (adjSpec k n es v).map (·.e)
      else (List.range n).flatMap fun v => ((adjSpec k n es v).filter fun x => decide (v < x.to)).map (·.e) := by
  refine ⟨?_, ?_, build_adjOf k n es, build_outDegree k n es, fun hk => build_inDegree k hk n es, build_edges k n es⟩
  · show ((GObj.build k n es).g.n : Int) = n
    rw [build_n]
  · show ((GObj.build k n es).e : Int) = _
    rw [build_e]

-- a weighted undirected multigraph with a self-loop, parallel edges and an ignored call
example : (GObj.build .wundirected 3 [⟨0, 1, 5⟩, ⟨1, 1, 2⟩, ⟨2, 1, 7⟩, ⟨3, 0, 1⟩, ⟨1, 0, 4⟩]).E = 4 := by decide +kernel
example : adjSpec .wundirected 3 [⟨0, 1, 5⟩, ⟨1, 1, 2⟩, ⟨2, 1, 7⟩, ⟨3, 0, 1⟩, ⟨1, 0, 4⟩] 1 =
    [⟨0, ⟨0, 1, 5⟩⟩, ⟨1, ⟨1, 1, 2⟩⟩, ⟨1, ⟨1, 1, 2⟩⟩, ⟨2, ⟨2, 1, 7⟩⟩, ⟨0, ⟨1, 0, 4⟩⟩] := by decide +kernel
example : (GObj.build .wundirected 3 [⟨0, 1, 5⟩, ⟨1, 1, 2⟩, ⟨2, 1, 7⟩, ⟨3, 0, 1⟩, ⟨1, 0, 4⟩]).edges =
    [⟨0, 1, 5⟩, ⟨1, 0, 4⟩, ⟨2, 1, 7⟩] := by decide +kernel

/-- **`Reverse()`.**  For a directed kind, `Reverse()` of the graph with the calls `es` is the graph (a new
object) with the calls `flipSpec n es`: one call per stored edge — so `E()` is the same —, every stored edge turned
around with its weight, hence the converse edge relation. -/
theorem C14_reverse_object (k : Kind) (hk : k.isDirected = true) (n : Nat) (es : List EdgeIn) :
    (GObj.build k n es).reverse = GObj.build k n (flipSpec n es) ∧
    (∀ x, x ∈ flipSpec n es ↔ ∃ e ∈ es, validE n e = true ∧ x = ⟨e.v, e.u, e.w⟩) ∧
    (GObj.build k n es).reverse.E = (GObj.build k n es).E ∧
    (∀ a b, (GObj.build k n es).reverse.g.HasArc a b ↔ (GObj.build k n es).g.HasArc b a) := by
  have hr := build_reverse k hk n es
  refine ⟨hr, mem_flipSpec n es, ?_, ?_⟩
  · show (((GObj.build k n es).reverse.e : Nat) : Int) = ((GObj.build k n es).e : Nat)
    rw [hr, build_e, build_e, filter_flipSpec, length_flipSpec]
  · intro a b
    rw [hr, build_g, build_g, theGraph_hasArc, theGraph_hasArc]
    unfold EdgeRel
    rw [hk]
    exact dirE_flip n es a b

example : flipSpec 3 [⟨2, 0, 7⟩, ⟨0, 1, 5⟩, ⟨5, 1, 1⟩, ⟨0, 2, 6⟩, ⟨0, 1, 4⟩] =
    [⟨1, 0, 5⟩, ⟨2, 0, 6⟩, ⟨1, 0, 4⟩, ⟨0, 2, 7⟩] := by decide +kernel

/-- **Reverse of Reverse.**  Reversing a directed graph twice gives (a new object holding) the graph with exactly the
stored edges of the original: the calls are `flipSpec n (flipSpec n es)` — the valid calls of `es`, regrouped by head
vertex —, `E()` is the same and so is the edge relation.  (The order inside an adjacency list can differ from the
original's; `C14_accessors` gives it exactly.) -/
theorem C14_reverse_reverse (k : Kind) (hk : k.isDirected = true) (n : Nat) (es : List EdgeIn) :
    (GObj.build k n es).reverse.reverse = GObj.build k n (flipSpec n (flipSpec n es)) ∧
    (∀ x, x ∈ flipSpec n (flipSpec n es) ↔ x ∈ es ∧ validE n x = true) ∧
    (GObj.build k n es).reverse.reverse.E = (GObj.build k n es).E ∧
    (∀ a b, (GObj.build k n es).reverse.reverse.g.HasArc a b ↔ (GObj.build k n es).g.HasArc a b) := by
  obtain ⟨h1, _, he1, ha1⟩ := C14_reverse_object k hk n es
  obtain ⟨h2, _, he2, ha2⟩ := C14_reverse_object k hk n (flipSpec n es)
  rw [h1]
  refine ⟨h2, fun x => ?_, ?_, fun a b => ?_⟩
  · rw [(flipSpec_flipSpec_perm n es).mem_iff, List.mem_filter]
  · rw [he2, ← h1, he1]
  · rw [ha2 a b, ← h1, ha1 b a]

example : flipSpec 3 (flipSpec 3 [⟨2, 0, 7⟩, ⟨0, 1, 5⟩, ⟨5, 1, 1⟩, ⟨0, 2, 6⟩, ⟨0, 1, 4⟩]) =
    [⟨2, 0, 7⟩, ⟨0, 1, 5⟩, ⟨0, 1, 4⟩, ⟨0, 2, 6⟩] := by decide +kernel

/-- **Every history on any number of objects refines the Spec world** (`SWorld`, `Spec/C14S.lean`): each object is
(kind, n, list of calls); `AddEdge` appends to the *current* object's list and leaves every other object as it
is; a query changes no object and returns the answer on the graph built from the current object's list;
`Reverse()` adds an object whose list is the flipped list of the current one *as it is at that moment* — nothing
done to either object afterwards reaches the other. -/
theorem C14_world_refines (k : Kind) (n : Nat) (ops : List Op) :
    (World.init k n).run ops = (((SWorld.init k n).run ops).1.eval, ((SWorld.init k n).run ops).2) := by
  rw [← init_eval]; exact run_refines ops _

/-- **`Reverse()` and the original are independent.**  Add `es1` to a directed object, keep `Reverse()`, add
`es2` to the original, switch to the reversed object and add `es3` to it (queries anywhere in between change
nothing, `C14_world_refines`): the original ends as the graph of `es1 ++ es2`, the other one as the graph of the
flipped `es1` followed by `es3`. -/
theorem C14_reverse_independent (k : Kind) (hk : k.isDirected = true) (n : Nat) (es1 es2 es3 : List EdgeIn) :
    let edges := fun (es : List EdgeIn) => es.map fun e => Op.edge e.u e.v e.w
    ((World.init k n).run (edges es1 ++ [.mkrev] ++ edges es2 ++ [.use 1] ++ edges es3)).1 =
      ⟨#[GObj.build k n (es1 ++ es2), GObj.build k n (flipSpec n es1 ++ es3)], 1⟩ := by
  intro edges
  rw [C14_world_refines]
  -- the Spec world is run piece by piece; each run of `AddEdge` calls appends to the current object's list
  simp [edges, srun_append, srun_edges, SWorld.run, SWorld.step, SWorld.obj, SWorld.init, SWorld.eval, SObj.eval, hk]

example : (((World.init .directed 3).run
      [.edge 0 1 0, .mkrev, .edge 1 2 0, .use 1, .edge 2 2 0, .query .dump]).1.objs.toList.map fun o =>
        (o.e, (List.range 3).map fun v => (o.g.adj.getD v []).map (·.to))) =
    [(2, [[1], [2], []]), (2, [[], [0], [2]])] := by decide +kernel

/-! ### constructors with an edge list, and `AddEdge` afterwards

`Model/C14R.lean`: `World.initWith k n es0` is `NewX(n, es0…)` (the Go constructors allocate one empty list per
vertex and call `AddEdge` for every edge of the list). -/

/-- **`NewX(V, edges…)` and then `AddEdge`.**  The constructor with the edge list `es0` gives the object that
`NewX(V)` followed by the same `AddEdge` calls gives; and for every interleaving of further `AddEdge` calls and
queries on it, the object ends as the graph of `es0` followed by the calls, and every query returns its answer on
the graph consisting of exactly `es0` and the edges added before it — the answer the property demands (`Admits`).
(Seeded change C14-q1: adjacency lists carved out of one backing array by the constructor, so that a later
`AddEdge(v, ·)` overwrites the first entry of a later vertex, is excluded by this theorem for the Model and shows
as a difference between implementation and Model on `corpus/C14/16-ctor-edges-then-addedge.ops`.) -/
theorem C14_ctor_history (k : Kind) (n : Nat) (es0 : List EdgeIn) (ops : List Op)
    (hs : ∀ op ∈ ops, op.single = true) :
    World.initWith k n es0 = ((World.init k n).run (es0.map fun e => Op.edge e.u e.v e.w)).1 ∧
    ((World.initWith k n es0).run ops).1 = World.initWith k n (es0 ++ edgesOf ops) ∧
    ∀ i q, ops[i]? = some (.query q) → q.applies k = true →
      ∃ a, ((World.initWith k n es0).run ops).2[i]? = some a ∧
        a = (GObj.build k n (es0 ++ edgesOf (ops.take i))).answer q ∧
        Admits k n (es0 ++ edgesOf (ops.take i)) q a := by
  obtain ⟨h1, h4⟩ := run_single k n ops hs es0
  refine ⟨initWith_eq_run k n es0, ?_, ?_⟩
  · rw [← initWith_eval, run_refines, h1]
    exact initWith_eval k n _
  · intro i q hi hq
    refine ⟨_, ?_, rfl, answer_admitted k n _ q hq⟩
    rw [← initWith_eval, run_refines]
    exact h4 i q hi

-- the history of `corpus/C14/16-ctor-edges-then-addedge.ops`, case 1: NewDirected(5, 0→1, 1→2, 2→3), AddEdge(0, 4), Adj(1)
example : ((World.initWith .directed 5 [⟨0, 1, 0⟩, ⟨1, 2, 0⟩, ⟨2, 3, 0⟩]).run
      [.edge 0 4 0, .query (.adjOf 1)]).2.map (fun a => a.map fun
        | .arcs (some l) => l.map (·.to)
        | _ => []) = [.ok [], .ok [2]] := by decide +kernel

/-! ### result objects kept by the client

`Model/C14R.lean`: a `Session` is the graph objects (`World`) and the result objects the client holds; `keep q` makes
the call on the current object and keeps the object it returns, `ask i sel` reads result `i` (everything, or one
`To(v)` / `PathTo(v)`). -/

/-- **Keeping and reading results does nothing to the graphs.**  The objects at the end of any session are those
of the history with the `keep` and `ask` steps left out, and the `AddEdge` calls, direct queries, `Reverse()` calls of
the session returned what they return in that history — to which `C14_world_refines` and `C14_history_admitted`
apply. -/
theorem C14_session_objects (s : Session) (ops : List ROp) :
    (s.run ops).1.w = (s.w.run (baseOps ops)).1 ∧ pickBase ops (s.run ops).2 = (s.w.run (baseOps ops)).2 :=
  run_w ops s

/-- **A kept result keeps answering for the graph it was computed on.**  Take any session that starts with
`NewX(n, es0…)`: any history `pre` (on any number of objects), then `r := cur.Q(…)` kept as a result (the call
returned: `hr`), then any history `mid` — `AddEdge` on the same graph or another one, other traversals and
algorithms, further results kept, results read, `Reverse()` —, then a read of `r`, then anything.  The read returns
exactly what the query `Q` (for one target: `Paths(s).To(v)`, `ShortestPathTree(s).PathTo(v)`) returns when asked
and read in one step at the moment of the `keep`; the graph then was the one built from the current object's calls
so far (`so`, `C14_world_refines`), and the answer is what the property demands for exactly that graph (`Admits`:
paths sound, complete, fewest edges for BFS; components by (mutual) reachability; cycle / topological order;
minimum spanning forest; shortest paths).  Nothing in `mid` — and no earlier read — can change it.
(Seeded change C14-q2: a scratch slice of visited flags owned by the graph and retained by `*Paths` is excluded by
this theorem for the Model and shows as a difference between implementation and Model on
`corpus/C14/17-results-kept.ops`.) -/
theorem C14_kept_results (k : Kind) (n : Nat) (es0 : List EdgeIn) (pre mid post : List ROp) (q : Query)
    (sel : Option Int) (hq : q.keepable = true) (r : Res)
    (hr : ((Session.init k n es0).run pre).1.w.obj.compute q = .ok r) :
    let sj := ((Session.init k n es0).run pre).1
    let so := ((⟨#[⟨k, n, es0⟩], 0⟩ : SWorld).run (baseOps pre)).1.obj
    let a := sj.w.obj.answer (q.at sel)
    sj.w.obj = GObj.build so.k so.n so.es ∧
    ((Session.init k n es0).run
        (pre ++ (.keep q :: (mid ++ (.ask sj.kept.size sel :: post))))).2[pre.length + 1 + mid.length]? = some a ∧
    ((q.at sel).applies so.k = true → Admits so.k so.n so.es (q.at sel) a) := by
  intro sj so a
  have hw : sj.w = ((⟨#[⟨k, n, es0⟩], 0⟩ : SWorld).run (baseOps pre)).1.eval := by
    show ((Session.init k n es0).run pre).1.w = _
    rw [(run_w pre (Session.init k n es0)).1]
    show ((World.initWith k n es0).run _).1 = _
    rw [← initWith_eval, run_refines]
  have hobj : sj.w.obj = GObj.build so.k so.n so.es := by rw [hw, eval_obj]; rfl
  refine ⟨hobj, ?_, fun hap => ?_⟩
  · rw [(run_append pre _ (Session.init k n es0)).2,
      List.getElem?_append_right (by rw [run_length]; omega), run_length]
    have hidx : pre.length + 1 + mid.length - pre.length = mid.length + 1 := by omega
    rw [hidx]
    have hstep : sj.step (.keep q) = ({ sj with kept := sj.kept.push ⟨sj.w.obj, q, r⟩ }, .ok .unit) := by
      simp only [Session.step]
      rw [show sj.w.obj.compute q = .ok r from hr]
    show (sj.run (.keep q :: (mid ++ (.ask sj.kept.size sel :: post)))).2[mid.length + 1]? = some a
    simp only [Session.run, List.getElem?_cons_succ, hstep]
    rw [run_ask mid _ sj.kept.size ⟨sj.w.obj, q, r⟩ sel post (by simp)]
    have hc := compute_ask sj.w.obj q hq sel
    rw [show sj.w.obj.compute q = .ok r from hr] at hc
    exact congrArg some hc
  · show Admits so.k so.n so.es (q.at sel) (sj.w.obj.answer (q.at sel))
    rw [hobj]
    exact answer_admitted so.k so.n so.es _ hap

/-- the session of `corpus/C14/17-results-kept.ops`, case 1 (beginning): `p := g.Paths(0, DFS)` kept, then
`g.Paths(3, BFS)`, `g.ConnectedComponents()` and `AddEdge(2, 3)`, then `p.To(2)`, `p.To(4)` -/
def C14_exKept : List ROp :=
  [.keep (.paths .dfs 0), .keep (.paths .bfs 3), .keep .cc, .base (.edge 2 3 0), .ask 0 (some 2), .ask 0 (some 4),
   .base (.query (.path .dfs 0 4))]

-- `p` still says: 2 is reached by 0-1-2, 4 is not reachable — although it is in the graph as it is now
example : ((Session.init .undirected 6 [⟨0, 1, 0⟩, ⟨1, 2, 0⟩, ⟨3, 4, 0⟩]).run C14_exKept).2.map (fun a => a.map fun
      | .path p => p
      | _ => none) =
    [.ok none, .ok none, .ok none, .ok none, .ok (some [0, 1, 2]), .ok none, .ok (some [0, 1, 2, 3, 4])] := by
  decide +kernel
-- the hypothesis `hr` for its first step: the call returns (visited = {0, 1, 2}, edgeTo[2] = 1)
example : (((Session.init .undirected 6 [⟨0, 1, 0⟩, ⟨1, 2, 0⟩, ⟨3, 4, 0⟩]).run []).1.w.obj.compute
      (.paths .dfs 0)).map (fun
        | .paths p => (p.visited.toList, p.edgeTo.toList)
        | _ => ([], [])) = .ok ([true, true, true, false, false, false], [0, 0, 1, 0, 0, 0]) := by decide +kernel

/-! ## the GENERATED adjacency code (`Generated/C14Gen.lean`, rewritten from `graph/{graph,directed,undirected}.go` by
`/verif/extract/go2lean` on every check run) against the hand Model of the graph objects

`Gen.ofD o` / `Gen.ofU o` read a hand-Model object `o : GObj` as the generated `Directed` / `Undirected` structure,
`Gen.WFd` / `Gen.WFu` say that `adj` (and `ins`) have `V` entries — what the constructor establishes and `AddEdge` keeps
(part of each statement).  The statements are equalities of outcomes for ALL arguments, invalid vertices included; only
the table reads of `Orders` and `(Strongly)ConnectedComponents` are stated at valid vertices (`Gen.O_PreRank`,
`Gen.O_PostRank`, `Gen.CC_ID`, `Gen.SCC_ID` say what they are at every `int`).
An edit of the Go text of these functions that changes what they compute changes the generated definitions and breaks
these theorems (helper lemmas: `Proofs/C14Gen.lean`). -/

/-- `NewDirected(V, edges...)`: the generated constructor (both loops, one `AddEdge` per pair) is `GObj.build`;
for `V < 0` it panics (`make`). -/
theorem C14_generated_directed_new (n : Nat) (es : List EdgeIn) (V : Int) (hV : V < 0) (edges : Array (Array Int)) :
    Generated.Graph.NewDirected (n : Int) (Gen.edgesOf es) = .ok (Gen.ofD (GObj.build .directed n es)) ∧
    Gen.WFd (GObj.build .directed n es) ∧
    Generated.Graph.NewDirected V edges = .panic :=
  ⟨(Gen.D_New n es).1, (Gen.D_New n es).2, Gen.D_New_neg V hV edges⟩

/-- `(*Directed).AddEdge(v, w)` at ANY point of a history (every well-formed object, every pair of `int`s):
the generated code is `GObj.addEdge`, and well-formedness is kept. -/
theorem C14_generated_directed_addEdge (o : GObj) (hw : Gen.WFd o) (u v wt : Int) :
    Generated.Graph.Directed.AddEdge (Gen.ofD o) u v = .ok (Gen.ofD (o.addEdge u v wt)) ∧
    Gen.WFd (o.addEdge u v wt) :=
  Gen.D_AddEdge o hw u v wt

/-- `V()`, `E()`, `isVertexValid`, `InDegree(v)`, `OutDegree(v)` of `*Directed`: the generated accessors are the hand
Model's, for every object and every `int` (`-1` for an invalid vertex; a panic where the Go code would index outside
`ins` / `adj`). -/
theorem C14_generated_directed_accessors (o : GObj) (v : Int) :
    Generated.Graph.Directed.V (Gen.ofD o) = o.V ∧ Generated.Graph.Directed.E (Gen.ofD o) = o.E ∧
    Generated.Graph.Directed.isVertexValid (Gen.ofD o) v = o.g.isVertexValid v ∧
    Generated.Graph.Directed.InDegree (Gen.ofD o) v = o.inDegree v ∧
    Generated.Graph.Directed.OutDegree (Gen.ofD o) v = o.outDegree v :=
  ⟨Gen.D_V o, Gen.D_E o, Gen.D_isVertexValid o v, Gen.D_InDegree o v, Gen.D_OutDegree o v⟩

/-- `(*Directed).Reverse()`: with fuel for the `V+1` tests of its `for v := 0; v < g.V(); v++` loop the generated code
(constructor, both loops, `rev.AddEdge(w, v)`) is `GObj.reverse`, a well-formed object. -/
theorem C14_generated_directed_reverse (fuel : Nat) (o : GObj) (hw : Gen.WFd o) (hf : o.g.n + 1 ≤ fuel) :
    Generated.Graph.Directed.Reverse fuel (Gen.ofD o) = .ok (Gen.ofD o.reverse) ∧ Gen.WFd o.reverse :=
  Gen.D_Reverse fuel o hw hf

/-- `NewUndirected(V, edges...)` is `GObj.build`; for `V < 0` it panics. -/
theorem C14_generated_undirected_new (n : Nat) (es : List EdgeIn) (V : Int) (hV : V < 0) (edges : Array (Array Int)) :
    Generated.Graph.NewUndirected (n : Int) (Gen.edgesOf es) = .ok (Gen.ofU (GObj.build .undirected n es)) ∧
    Gen.WFu (GObj.build .undirected n es) ∧
    Generated.Graph.NewUndirected V edges = .panic :=
  ⟨(Gen.U_New n es).1, (Gen.U_New n es).2, Gen.U_New_neg V hV edges⟩

/-- `(*Undirected).AddEdge(v, w)` at any point of a history, self-loops included. -/
theorem C14_generated_undirected_addEdge (o : GObj) (hw : Gen.WFu o) (u v wt : Int) :
    Generated.Graph.Undirected.AddEdge (Gen.ofU o) u v = .ok (Gen.ofU (o.addEdge u v wt)) ∧
    Gen.WFu (o.addEdge u v wt) :=
  Gen.U_AddEdge o hw u v wt

/-- `V()`, `E()`, `isVertexValid`, `Degree(v)` of `*Undirected`. -/
theorem C14_generated_undirected_accessors (o : GObj) (v : Int) :
    Generated.Graph.Undirected.V (Gen.ofU o) = o.V ∧ Generated.Graph.Undirected.E (Gen.ofU o) = o.E ∧
    Generated.Graph.Undirected.isVertexValid (Gen.ofU o) v = o.g.isVertexValid v ∧
    Generated.Graph.Undirected.Degree (Gen.ofU o) v = o.outDegree v :=
  ⟨Gen.U_V o, Gen.U_E o, Gen.U_isVertexValid o v, Gen.U_Degree o v⟩

/-- `(*Orders).ReversePostOrder()` (the loop writing `revOrder[l-1-i]`) is the hand Model's `reversePostOrder`;
`PreRank(v)` / `PostRank(v)` at a valid `v` are the table reads. -/
theorem C14_generated_orders (o : Orders) (v : Nat) (h1 : v < o.preRank.size) (h2 : v < o.postRank.size) :
    Generated.Graph.Orders.ReversePostOrder (Gen.ofO o) = .ok (o.reversePostOrder.map Int.ofNat).toArray ∧
    Generated.Graph.Orders.PreRank (Gen.ofO o) v = .ok (o.preRank[v] : Int) ∧
    Generated.Graph.Orders.PostRank (Gen.ofO o) v = .ok (o.postRank[v] : Int) := by
  refine ⟨Gen.O_ReversePostOrder o, ?_, ?_⟩
  · rw [Gen.O_PreRank]; simp [h1]
  · rw [Gen.O_PostRank]; simp [h2]

/-- `(*ConnectedComponents).Components()` and `(*StronglyConnectedComponents).Components()` (the two copies of the
grouping loop) are the hand Model's `Components.components` — also its panic for an `id` entry ≥ `count`;
`ID`, `IsConnected`, `IsStronglyConnected` at valid vertices are reads of the `id` table. -/
theorem C14_generated_components (c : Components) (v w : Nat) (hv : v < c.id.size) (hw : w < c.id.size) :
    Generated.Graph.ConnectedComponents.Components (Gen.ofCC c) = c.components.map Gen.compsOf ∧
    Generated.Graph.StronglyConnectedComponents.Components (Gen.ofSCC c) = c.components.map Gen.compsOf ∧
    Generated.Graph.ConnectedComponents.ID (Gen.ofCC c) v = .ok (c.id[v] : Int) ∧
    Generated.Graph.StronglyConnectedComponents.ID (Gen.ofSCC c) v = .ok (c.id[v] : Int) ∧
    Generated.Graph.ConnectedComponents.IsConnected (Gen.ofCC c) v w = .ok (c.id[v] == c.id[w]) ∧
    Generated.Graph.StronglyConnectedComponents.IsStronglyConnected (Gen.ofSCC c) v w = .ok (c.id[v] == c.id[w]) := by
  refine ⟨Gen.CC_Components c, Gen.SCC_Components c, ?_, ?_, Gen.CC_IsConnected c v w hv hw,
    Gen.SCC_IsStronglyConnected c v w hv hw⟩
  · rw [Gen.CC_ID]; simp [hv]
  · rw [Gen.SCC_ID]; simp [hv]

-- the generated code run on the graph 0→1, 1→2, 2→0, 0→7 (invalid, ignored) over 3 vertices, then reversed
example : (Generated.Graph.NewDirected 3 #[#[0, 1], #[1, 2], #[2, 0], #[0, 7]]).bind (Generated.Graph.Directed.Reverse 4)
    = .ok ⟨3, 3, #[1, 1, 1], #[#[2], #[0], #[1]]⟩ := by decide +kernel
-- the hypotheses of the theorems above hold of every object a client can build (here with a self-loop)
example : Gen.WFd (GObj.build .directed 3 [⟨0, 1, 0⟩, ⟨1, 1, 0⟩]) := (Gen.D_New 3 _).2
example : Gen.WFu (GObj.build .undirected 3 [⟨0, 1, 0⟩, ⟨1, 1, 0⟩]) := (Gen.U_New 3 _).2
example : Generated.Graph.ConnectedComponents.Components ⟨2, #[0, 1, 0, 1]⟩ = .ok #[#[0, 2], #[1, 3]] := by decide +kernel

/-! ### the weighted types (`Generated/C14WGen.lean`, rewritten from `graph/{weighted_directed,weighted_undirected}.go`)

The Go code only copies a `float64` weight (the translator refuses every operator on the type), the hand Model carries an
`Int`: each statement holds for EVERY map `wOf : Int → Go.F64` of the hand Model's weights to float64 values.
`Gen.ofWD wOf o` / `Gen.ofWU wOf o`: the object `o` as the generated structure, an adjacency entry `x` being the edge struct
`⟨x.e.a, x.e.b, wOf x.e.w⟩`; `Gen.WFwd` / `Gen.WFwu`: lengths of `adj` / `ins`, and for the undirected type that an entry of
`adj[v]` has `v` as an endpoint and stores the other one (so `e.Other(v)` is the neighbour the hand Model stores). -/

/-- `NewWeightedDirected(V, edges...)` is `GObj.build`; for `V < 0` it panics. -/
theorem C14_generated_wdirected_new (wOf : Int → Go.F64) (n : Nat) (es : List EdgeIn) (V : Int) (hV : V < 0)
    (edges : Array Generated.GraphW.DirectedEdge) :
    Generated.GraphW.NewWeightedDirected (n : Int) (Gen.dedgesOf wOf es) = .ok (Gen.ofWD wOf (GObj.build .wdirected n es)) ∧
    Gen.WFwd (GObj.build .wdirected n es) ∧
    Generated.GraphW.NewWeightedDirected V edges = .panic :=
  ⟨(Gen.WD_New wOf n es).1, (Gen.WD_New wOf n es).2, Gen.WD_New_neg V hV edges⟩

/-- `(*WeightedDirected).AddEdge(DirectedEdge{u, v, w})` at any point of a history, for every pair of `int`s. -/
theorem C14_generated_wdirected_addEdge (wOf : Int → Go.F64) (o : GObj) (hw : Gen.WFwd o) (u v wt : Int) :
    Generated.GraphW.WeightedDirected.AddEdge (Gen.ofWD wOf o) ⟨u, v, wOf wt⟩ = .ok (Gen.ofWD wOf (o.addEdge u v wt)) ∧
    Gen.WFwd (o.addEdge u v wt) :=
  Gen.WD_AddEdge wOf o hw u v wt

/-- `V()`, `E()`, `isVertexValid`, `InDegree`, `OutDegree`, `Adj` (the value returned; `nil` and the empty list are both
`#[]`) of `*WeightedDirected`: the hand Model's, for every object and `int`; `Edges()` (every list of `adj` in turn) is
the hand Model's `edges` for an object of a directed kind (`hk`: for the other kinds `edges` lists each edge once). -/
theorem C14_generated_wdirected_accessors (wOf : Int → Go.F64) (o : GObj) (hk : o.kind.isDirected = true) (v : Int) :
    Generated.GraphW.WeightedDirected.V (Gen.ofWD wOf o) = o.V ∧ Generated.GraphW.WeightedDirected.E (Gen.ofWD wOf o) = o.E ∧
    Generated.GraphW.WeightedDirected.isVertexValid (Gen.ofWD wOf o) v = o.g.isVertexValid v ∧
    Generated.GraphW.WeightedDirected.InDegree (Gen.ofWD wOf o) v = o.inDegree v ∧
    Generated.GraphW.WeightedDirected.OutDegree (Gen.ofWD wOf o) v = o.outDegree v ∧
    Generated.GraphW.WeightedDirected.Adj (Gen.ofWD wOf o) v = (o.adjOf v).map (Gen.sliceOf (Gen.deOf wOf)) ∧
    Generated.GraphW.WeightedDirected.Edges (Gen.ofWD wOf o) = .ok (o.edges.map (Gen.deE wOf)).toArray :=
  ⟨Gen.WD_V wOf o, Gen.WD_E wOf o, Gen.WD_isVertexValid wOf o v, Gen.WD_InDegree wOf o v, Gen.WD_OutDegree wOf o v,
    Gen.WD_Adj wOf o v, Gen.WD_Edges wOf o hk⟩

/-- `(*WeightedDirected).Reverse()` (each stored edge re-added as `DirectedEdge{e.To(), e.From(), e.Weight()}`), with
fuel for the `V+1` tests of its loop, is `GObj.reverse`. -/
theorem C14_generated_wdirected_reverse (wOf : Int → Go.F64) (fuel : Nat) (o : GObj) (hw : Gen.WFwd o)
    (hf : o.g.n + 1 ≤ fuel) :
    Generated.GraphW.WeightedDirected.Reverse fuel (Gen.ofWD wOf o) = .ok (Gen.ofWD wOf o.reverse) ∧ Gen.WFwd o.reverse :=
  Gen.WD_Reverse wOf fuel o hw hf

/-- `NewWeightedUndirected(V, edges...)` is `GObj.build`; for `V < 0` it panics. -/
theorem C14_generated_wundirected_new (wOf : Int → Go.F64) (n : Nat) (es : List EdgeIn) (V : Int) (hV : V < 0)
    (edges : Array Generated.GraphW.UndirectedEdge) :
    Generated.GraphW.NewWeightedUndirected (n : Int) (Gen.uedgesOf wOf es) = .ok (Gen.ofWU wOf (GObj.build .wundirected n es)) ∧
    Gen.WFwu (GObj.build .wundirected n es) ∧
    Generated.GraphW.NewWeightedUndirected V edges = .panic :=
  ⟨(Gen.WU_New wOf n es).1, (Gen.WU_New wOf n es).2, Gen.WU_New_neg V hV edges⟩

/-- `(*WeightedUndirected).AddEdge(UndirectedEdge{u, v, w})` (`v := e.Either(); w := e.Other(v)`, the edge stored in both
lists) at any point of a history, self-loops included. -/
theorem C14_generated_wundirected_addEdge (wOf : Int → Go.F64) (o : GObj) (hw : Gen.WFwu o) (u v wt : Int) :
    Generated.GraphW.WeightedUndirected.AddEdge (Gen.ofWU wOf o) ⟨u, v, wOf wt⟩ = .ok (Gen.ofWU wOf (o.addEdge u v wt)) ∧
    Gen.WFwu (o.addEdge u v wt) :=
  Gen.WU_AddEdge wOf o hw u v wt

/-- `V()`, `E()`, `isVertexValid`, `Degree`, `Adj` of `*WeightedUndirected`; `Edges()` — each edge once, listed from
the endpoint `v` with `e.Other(v) > v`, a self-loop never — is the hand Model's `edges`; `Other` is its `switch`. -/
theorem C14_generated_wundirected_accessors (wOf : Int → Go.F64) (o : GObj) (hw : Gen.WFwu o) (v : Int)
    (e : Generated.GraphW.UndirectedEdge) :
    Generated.GraphW.WeightedUndirected.V (Gen.ofWU wOf o) = o.V ∧ Generated.GraphW.WeightedUndirected.E (Gen.ofWU wOf o) = o.E ∧
    Generated.GraphW.WeightedUndirected.isVertexValid (Gen.ofWU wOf o) v = o.g.isVertexValid v ∧
    Generated.GraphW.WeightedUndirected.Degree (Gen.ofWU wOf o) v = o.outDegree v ∧
    Generated.GraphW.WeightedUndirected.Adj (Gen.ofWU wOf o) v = (o.adjOf v).map (Gen.sliceOf (Gen.ueOf wOf)) ∧
    Generated.GraphW.WeightedUndirected.Edges (Gen.ofWU wOf o) = .ok (o.edges.map (Gen.ueE wOf)).toArray ∧
    Generated.GraphW.UndirectedEdge.Other e v = (if v = e.v then e.w else if v = e.w then e.v else -1) :=
  ⟨Gen.WU_V wOf o, Gen.WU_E wOf o, Gen.WU_isVertexValid wOf o v, Gen.WU_Degree wOf o v, Gen.WU_Adj wOf o v,
    Gen.WU_Edges wOf o hw, Gen.other_eq e v⟩

-- the generated code run on the weighted undirected graph 0–1 (w₁), 1–1 (w₂), 2–0 (w₃) over 3 vertices: Edges() lists
-- 0–1 once, from vertex 0, the edge {2,0} once, from vertex 0 too (Other(0) = 2 > 0), and never the self-loop
example : (Generated.GraphW.NewWeightedUndirected 3 #[⟨0, 1, ⟨11⟩⟩, ⟨1, 1, ⟨22⟩⟩, ⟨2, 0, ⟨33⟩⟩]).bind
    Generated.GraphW.WeightedUndirected.Edges = .ok #[⟨0, 1, ⟨11⟩⟩, ⟨2, 0, ⟨33⟩⟩] := by decide +kernel
example : Gen.WFwu (GObj.build .wundirected 3 [⟨0, 1, 5⟩, ⟨1, 1, -2⟩, ⟨2, 0, 7⟩]) := (Gen.WU_New (fun _ => ⟨0⟩) 3 _).2
example : Gen.WFwd (GObj.build .wdirected 3 [⟨0, 1, 5⟩, ⟨1, 1, -2⟩]) := (Gen.WD_New (fun _ => ⟨0⟩) 3 _).2
