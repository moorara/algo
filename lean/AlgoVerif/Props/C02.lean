import AlgoVerif.Proofs.C02Chain
import AlgoVerif.Proofs.C02OA
import AlgoVerif.Proofs.C02LinDel
import AlgoVerif.Model.C02Hash
import AlgoVerif.Proofs.C02Gen
import AlgoVerif.Proofs.C02LinGen
import AlgoVerif.Proofs.C02Pool
/-!
# C02 — the hash tables behave as a map for any hash function, options and history

`run I ⟨t0, t0, g⟩ ops` is the trace of a history on two tables built by the constructor with the same
options (every operation names its table; `equal` compares the two), `Spec.run` is the trace of the
same history on two finite maps, `Agree` says: same length, every Model operation returned `ok` (no
`panic`, no `diverge`) with the Spec's output (listings of `All` as multisets).

Quantified: the key type (with decidable equality), the value type, `eqVal`, the hash function
`hash : K → UInt64` (arbitrary), the shuffle `sh` and its generator state (any function returning
permutations of `[0,n)`), valid options (what the constructor accepts, load-factor bounds default or
tighter: `dmin ≤ minLF < maxLF ≤ dmax`), and the history.

The last part of the file is about `hash/hash.go` (`Model/C02Hash.lean`): the library's default hash functions
`HashFuncFor*(nil)` are modelled as pure functions — the FNV fold over the bytes each function writes — and
the four table theorems are instantiated at the default string and int hash.  That the Go closures (which
reuse a hasher and, for scalars, a buffer) really compute these pure functions on every call of a history is
what the correspondence component `hashfn` checks on every run.

Helper lemmas: `Proofs/C02Lists`, `C02Num`, `C02Sim` (generic refinement), `C02Chain`, `C02Probe` (the search loop and the
invariant that the open-addressing tables share), `C02OA`, `C02Lin`,
`C02LinDel` (the cluster re-insertion loop of linear probing's `Delete`), `C02Pool` (tables used together).
The predicates of the statements are defined in these modules, where they are first needed: `ShufflePerm`, `ValidLF`, `effLF`,
`reach` in `C02Sim`; `cover` in `C02Num`; each `X.ValidOpts` beside `X.init_spec` at the end of its table's file (`C02Chain`, `C02OA`,
`C02LinDel`); `Tab.ValidOpts`, `specInit`, `Spec.prun` / `Spec.ChoicesOK` / `Spec.pouts`, `Tab.ProbesBounded` in `C02Pool`.
-/
open AlgoVerif AlgoVerif.C02

/-- separate chaining (`chain_hash_table.go`) -/
theorem C02_chain {K V σ : Type} [DecidableEq K] (hash : K → UInt64) (sh : Shuffle σ) (hsh : ShufflePerm sh)
    (eqVal : V → V → Bool) (opts : Opts) (hv : Chain.ValidOpts opts) (g : σ) (ops : List (Op K V)) :
    ∃ t0 : ChainTable K V, Chain.new opts = .ok t0 ∧
      Agree (run (Chain.impl sh hash eqVal) ⟨t0, t0, g⟩ ops) (Spec.run eqVal ⟨[], []⟩ ops) :=
  sim_of_empty (Chain.correct hsh hash eqVal) (Chain.init_spec hash opts hv) g ops

/-- linear probing (`linear_hash_table.go`), including `Delete` with re-insertion of the cluster -/
theorem C02_linear {K V σ : Type} [DecidableEq K] (hash : K → UInt64) (sh : Shuffle σ) (hsh : ShufflePerm sh)
    (eqVal : V → V → Bool) (opts : Opts) (hv : Lin.ValidOpts opts) (g : σ) (ops : List (Op K V)) :
    ∃ t0 : LinTable K V, Lin.new opts = .ok t0 ∧
      Agree (run (Lin.impl sh hash eqVal) ⟨t0, t0, g⟩ ops) (Spec.run eqVal ⟨[], []⟩ ops) :=
  sim_of_empty (Lin.correct hsh hash eqVal) (Lin.init_spec hash opts hv) g ops

/-- quadratic probing (`quadratic_hash_table.go`) -/
theorem C02_quadratic {K V σ : Type} [DecidableEq K] (hash : K → UInt64) (sh : Shuffle σ) (hsh : ShufflePerm sh)
    (eqVal : V → V → Bool) (opts : Opts) (hv : OA.ValidOpts .quad opts) (g : σ) (ops : List (Op K V)) :
    ∃ t0 : OATable K V, OA.new .quad opts = .ok t0 ∧
      Agree (run (OA.impl sh hash eqVal) ⟨t0, t0, g⟩ ops) (Spec.run eqVal ⟨[], []⟩ ops) :=
  sim_of_empty (OA.correct hsh hash eqVal) (OA.init_spec hash .quad opts hv) g ops

/-- double hashing (`double_hash_table.go`) -/
theorem C02_double {K V σ : Type} [DecidableEq K] (hash : K → UInt64) (sh : Shuffle σ) (hsh : ShufflePerm sh)
    (eqVal : V → V → Bool) (opts : Opts) (hv : OA.ValidOpts .dbl opts) (g : σ) (ops : List (Op K V)) :
    ∃ t0 : OATable K V, OA.new .dbl opts = .ok t0 ∧
      Agree (run (OA.impl sh hash eqVal) ⟨t0, t0, g⟩ ops) (Spec.run eqVal ⟨[], []⟩ ops) :=
  sim_of_empty (OA.correct hsh hash eqVal) (OA.init_spec hash .dbl opts hv) g ops

/-! ## tables used together: different implementations, hash functions, options and value equalities; iterator values

`Model/C02Pool.lean`: a history runs on a pool of tables, table `i` built by any of the four constructors (`c.ty`)
with its own hash function, its own `eqVal` and its own valid options.  Besides the operations of the four theorems
above: `equal i j` = `tables[i].Equal(tables[j])` for any `i`, `j` — the same table twice (`i = j`), tables that differ
in hash function / options / `eqVal` (each is searched with its own hash function, values are compared with the
receiver's `eqVal`), tables of different Go types (never equal: the type assertion) — and the iterator values a
program can keep: `seq i` (`tables[i].All()`: a handle on the table; the table is listed, and the shuffle drawn, whenever the sequence is
RUN), `pull s` (`iter.Pull2`), `next p` (the first one runs the sequence), `stop p`.  Nested `for range ht.All()` loops, two pulled iterators advanced alternately, a loop broken off half-way and
a sequence run twice are histories over these four operations.  `Spec.Admits`: every operation returned `ok` the
output of the Spec (finite maps, `Spec.pstep`) for *some* order of each listing that is a permutation of the map as it
is when the listing is made. -/

theorem C02_pool {K V σ : Type} [DecidableEq K] (sh : Shuffle σ) (hsh : ShufflePerm sh) (cfgs : List (Cfg K V))
    (hv : ∀ c ∈ cfgs, Tab.ValidOpts c.ty c.opts) (g : σ) (ops : List (POp K V)) :
    ∃ objs : List (Obj K V), Pool.new cfgs = .ok objs ∧
      Spec.Admits (specInit cfgs) ops (Pool.run sh ⟨objs, g, {}⟩ ops) := by
  obtain ⟨objs, hnew, hrel⟩ := Pool.init_rel (σ := σ) cfgs hv
  exact ⟨objs, hnew, pool_sim hsh ops _ _ (hrel g)⟩

/-- what a sequence and a traversal are worth, in EVERY state `s` the Spec reaches (whatever the listings chosen, as long
as each is a permutation of the map it lists) — in particular after `Put` / `Delete` / resizes / `DeleteAll` on the table
a sequence was obtained from:

* `ItersOK s`: every sequence and traversal is a handle on a table of the pool, and a traversal that is half-way has a
  suffix of a permutation of its table's CURRENT map left;
* a traversal `p` that has not started (obtained at any earlier time, from a sequence obtained at any earlier time): any
  permutation `ch` of the table's map as it is NOW is an admissible listing for its first `next`, and advancing it
  `|ch| + 1` times yields exactly the pairs of `ch`, in order, each once, and then the end — so a sequence obtained
  before a change and run after it lists the table as it is when it is run;
* a traversal that is half-way, advanced to its end, yields exactly what it has left, then the end — however many other
  traversals of the same table are in progress (they are other entries of `pulls`).

(What is deliberately not claimed: a traversal that is half-way when ITS table is changed — it is `broken`.) -/
theorem C02_pool_traversals {K V : Type} [DecidableEq K] (cfgs : List (Cfg K V))
    (steps : List (POp K V × List (K × V))) (hc : Spec.ChoicesOK (specInit cfgs) steps) :
    Spec.ItersOK (Spec.prun (specInit cfgs) steps) ∧
    ∀ (p : Nat) (pl : PullV K V), (Spec.prun (specInit cfgs) steps).it.pulls[p]? = some pl →
      (pl.phase = .fresh → ∃ t, (Spec.prun (specInit cfgs) steps).tabs[pl.tid]? = some t ∧
        ∀ ch : List (K × V), ch.Perm t.map → ∀ chs : List (List (K × V)), chs.length = ch.length →
          Spec.choiceOK (Spec.prun (specInit cfgs) steps) (.next p) ch ∧
          Spec.pouts (Spec.prun (specInit cfgs) steps) ((ch :: chs).map fun c => (POp.next p, c)) =
            ch.map POut.pair ++ [POut.done]) ∧
      (pl.phase = .running → ∃ t l, (Spec.prun (specInit cfgs) steps).tabs[pl.tid]? = some t ∧ l.Perm t.map ∧
        pl.rest <:+ l ∧
        ∀ chs : List (List (K × V)), chs.length = pl.rest.length + 1 →
          Spec.pouts (Spec.prun (specInit cfgs) steps) (chs.map fun c => (POp.next p, c)) =
            pl.rest.map POut.pair ++ [POut.done]) := by
  have hI := Spec.iters_ok steps _ hc (Spec.itersOK_init cfgs)
  refine ⟨hI, ?_⟩
  intro p pl hp
  obtain ⟨t, ht, hrun⟩ := hI.2 pl (List.mem_of_getElem? hp)
  constructor
  · intro hph
    refine ⟨t, ht, ?_⟩
    intro ch hperm chs hlen
    refine ⟨?_, Spec.drain_fresh _ p pl hp hph ch chs hlen⟩
    simp only [Spec.choiceOK, Iters.freshTid, hp, hph, if_true, Option.bind_some, ht]
    exact hperm
  · intro hph
    obtain ⟨l, hl, hsuf⟩ := hrun hph
    exact ⟨t, l, ht, hl, hsuf, fun chs hlen => Spec.drain_running pl.rest _ p pl hp hph rfl chs hlen⟩

section PoolNonVacuity

/-- a separate-chaining table (identity hash, default options), a quadratic-probing table (constant hash, capacity
37, tighter bounds, values compared modulo 8) and a second quadratic-probing one (identity hash, default options):
all three option sets are valid -/
def poolCfgs : List (Cfg Int Int) :=
  [⟨.chain, fun k => UInt64.ofNat k.toNat, fun a b => a == b, {}⟩,
   ⟨.quadratic, fun _ => 5, fun a b => a % 8 == b % 8, ⟨37, ⟨1, 4⟩, ⟨3, 8⟩⟩⟩,
   ⟨.quadratic, fun k => UInt64.ofNat k.toNat, fun a b => a == b, {}⟩]

example : ∀ c ∈ poolCfgs, Tab.ValidOpts c.ty c.opts := by
  intro c hc
  simp only [poolCfgs, List.mem_cons, List.not_mem_nil, or_false] at hc
  rcases hc with rfl | rfl | rfl
  · exact ⟨Or.inl rfl, by constructor <;> decide⟩
  · exact ⟨Or.inr (by decide), by constructor <;> decide⟩
  · exact ⟨Or.inl rfl, by constructor <;> decide⟩

/-- the Model on that pool (identity shuffle): the two quadratic tables hold the same keys with values that differ by
8 — equal for the receiver that compares modulo 8, different for the other one; a table equals itself; a chaining
table never equals a quadratic one; two traversals of table 1 advanced alternately each yield both pairs; then two
more traversals of the same sequence are obtained, one is started, table 1 is changed: the one that was half-way is
broken (`invalid`), the one that had not started starts afterwards and lists the table as it is THEN (three pairs). -/
example : (match (Pool.new poolCfgs : Outcome (List (Obj Int Int))) with
    | .ok objs => Pool.run (fun g n => (List.range n, g)) ⟨objs, (), {}⟩
        [.put 1 1 10, .put 1 2 20, .put 2 1 18, .put 2 2 28, .put 0 1 10, .put 0 2 20,
         .equal 1 2, .equal 2 1, .equal 1 1, .equal 0 1, .equal 0 0,
         .seq 1, .seq 1, .pull 0, .pull 1, .next 0, .next 1, .next 1, .next 0, .next 0, .next 1,
         .pull 0, .pull 0, .next 3, .put 1 3 30, .next 3, .next 2, .next 2, .next 2, .next 2, .size 1]
    | _ => []) =
    [.ok .unit, .ok .unit, .ok .unit, .ok .unit, .ok .unit, .ok .unit,
     .ok (.bool true), .ok (.bool false), .ok (.bool true), .ok (.bool false), .ok (.bool true),
     .ok (.id 0), .ok (.id 1), .ok (.id 0), .ok (.id 1), .ok (.pair (1, 10)), .ok (.pair (1, 10)), .ok (.pair (2, 20)),
     .ok (.pair (2, 20)), .ok .done, .ok .done,
     .ok (.id 2), .ok (.id 3), .ok (.pair (1, 10)), .ok .unit, .ok .invalid, .ok (.pair (1, 10)), .ok (.pair (2, 20)),
     .ok (.pair (3, 30)), .ok .done, .ok (.int 3)] := by
  decide +kernel

/-- D29's history: 3 entries, the sequence is obtained, 14 more entries (a resize: 32 -> 64 slots), a traversal of the
sequence is obtained, all entries but one are deleted (the table shrinks back to 32 slots); `size`, `next`, `next` -/
def d29Ops : List (POp Int Int) :=
  [POp.put 0 1 1, POp.put 0 2 2, POp.put 0 3 3, POp.seq 0] ++
  ((List.range 14).map fun i => POp.put 0 ((100 + i : Nat) : Int) 7) ++ [POp.size 0, POp.pull 0] ++
  [POp.delete 0 2, POp.delete 0 3] ++ ((List.range 14).map fun i => POp.delete 0 ((100 + i : Nat) : Int)) ++
  [POp.size 0, POp.next 0, POp.next 0]

/-- D29's witness on the Model (linear probing, default options, the default int hash): the sequence and its traversal
are run only after the table has grown and shrunk again — they list the one pair the table holds THEN.  (Defect D29 of
DESIGN.md §2: an `All()` that lists its slot indices when the sequence is obtained gives a partial listing after growth, an
index out of range after shrinking.) -/
example : (match (Pool.new [⟨.linear, Hash.forInt, fun a b => a == b, {}⟩] : Outcome (List (Obj Int Int))) with
    | .ok objs => (Pool.run (fun g n => (List.range n, g)) ⟨objs, (), {}⟩ d29Ops).drop 36
    | _ => []) = [.ok (.int 1), .ok (.pair (1, 1)), .ok .done] := by
  decide +kernel

/-- listings chosen for the Spec: `all` of an empty map; the first `next` of a traversal lists the one-pair map -/
example : Spec.ChoicesOK (specInit poolCfgs) [(.put 0 1 10, []), (.all 1, []), (.seq 0, []), (.pull 0, []), (.next 0, [(1, 10)])] := by
  simp [Spec.ChoicesOK, Spec.choiceOK, Spec.pstep, specInit, poolCfgs, Spec.Map.insert, Spec.Map.erase, Iters.addSeq,
    Iters.pull, Iters.freshTid, Iters.invalidate]

end PoolNonVacuity

/-! ## the library's default hash functions (`hash/hash.go`) -/

open AlgoVerif.C02.Hash in
/-- the FNV fold: `Reset` gives the offset basis, every written byte is one `fnvStep` (FNV-1 or FNV-1a, whichever
`ensureHasher` installs: `fnvStep` reads the regenerated `hash_defaultHasherIsFNV1a`, and the statement holds for either), and
writing `a` then `b` is writing `a ++ b` -/
theorem C02_hash_fnv_fold (a b : Bytes) (c : UInt8) :
    fnv [] = offset64 ∧ fnv (a ++ [c]) = fnvStep (fnv a) c ∧ fnv (a ++ b) = b.foldl fnvStep (fnv a) := by
  refine ⟨rfl, ?_, ?_⟩ <;> simp [fnv, List.foldl_append]

open AlgoVerif.C02.Hash in
/-- every modelled `HashFuncFor<name>(nil)` is a function of the bytes it writes and of nothing else: two
arguments with the same byte encoding hash to the same value, which is the FNV fold of those bytes.  (In the
Model this holds by construction — the point of stating it is that the correspondence run compares every call
of a history of the Go closures with `hashOf`.) -/
theorem C02_hash_bytes_only (name : String) (x y : Arg) (bs : Bytes)
    (hx : encode name x = some bs) (hy : encode name y = some bs) :
    hashOf name x = hashOf name y ∧ hashOf name x = some (fnv bs) := by
  simp [hashOf, hx, hy]

open AlgoVerif.C02.Hash AlgoVerif.Generated in
/-- the empty string (and every empty slice) hashes to the offset basis — on every call; the integer 0 hashes to
the fold of eight zero bytes; and the Model covers exactly the `HashFuncFor*` constructors found in the source
(`hash_funcNames` is regenerated from hash/hash.go) -/
theorem C02_hash_zero_keys_and_coverage :
    forString [] = offset64 ∧ offset64 = 14695981039346656037 ∧ forStringSlice [] = offset64 ∧ forIntSlice [] = offset64 ∧
    forInt 0 = fnv [0, 0, 0, 0, 0, 0, 0, 0] ∧ forInt 0 ≠ forString [] ∧
    (∀ n ∈ hash_funcNames, n ∈ families.map Prod.fst) ∧ (∀ n ∈ families.map Prod.fst, n ∈ hash_funcNames) := by
  decide +kernel

open AlgoVerif.C02.Hash in
/-- C02 for tables keyed by strings under the library's default string hash `hash.HashFuncForString(nil)`
(`grammar.HashNonTerminal`, `HashTerminal`, …): instances of the four theorems -/
theorem C02_default_string_hash {V σ : Type} (sh : Shuffle σ) (hsh : ShufflePerm sh) (eqVal : V → V → Bool) (g : σ)
    (ops : List (Op Bytes V)) :
    (∀ opts, Chain.ValidOpts opts → ∃ t0 : ChainTable Bytes V, Chain.new opts = .ok t0 ∧
      Agree (run (Chain.impl sh forString eqVal) ⟨t0, t0, g⟩ ops) (Spec.run eqVal ⟨[], []⟩ ops)) ∧
    (∀ opts, Lin.ValidOpts opts → ∃ t0 : LinTable Bytes V, Lin.new opts = .ok t0 ∧
      Agree (run (Lin.impl sh forString eqVal) ⟨t0, t0, g⟩ ops) (Spec.run eqVal ⟨[], []⟩ ops)) ∧
    (∀ opts, OA.ValidOpts .quad opts → ∃ t0 : OATable Bytes V, OA.new .quad opts = .ok t0 ∧
      Agree (run (OA.impl sh forString eqVal) ⟨t0, t0, g⟩ ops) (Spec.run eqVal ⟨[], []⟩ ops)) ∧
    (∀ opts, OA.ValidOpts .dbl opts → ∃ t0 : OATable Bytes V, OA.new .dbl opts = .ok t0 ∧
      Agree (run (OA.impl sh forString eqVal) ⟨t0, t0, g⟩ ops) (Spec.run eqVal ⟨[], []⟩ ops)) :=
  ⟨fun opts hv => C02_chain forString sh hsh eqVal opts hv g ops,
   fun opts hv => C02_linear forString sh hsh eqVal opts hv g ops,
   fun opts hv => C02_quadratic forString sh hsh eqVal opts hv g ops,
   fun opts hv => C02_double forString sh hsh eqVal opts hv g ops⟩

open AlgoVerif.C02.Hash in
/-- C02 for tables keyed by Go `int`s under the library's default int hash `hash.HashFuncForInt(nil)`
(`lr.HashState`, …) -/
theorem C02_default_int_hash {V σ : Type} (sh : Shuffle σ) (hsh : ShufflePerm sh) (eqVal : V → V → Bool) (g : σ)
    (ops : List (Op Int V)) :
    (∀ opts, Chain.ValidOpts opts → ∃ t0 : ChainTable Int V, Chain.new opts = .ok t0 ∧
      Agree (run (Chain.impl sh forInt eqVal) ⟨t0, t0, g⟩ ops) (Spec.run eqVal ⟨[], []⟩ ops)) ∧
    (∀ opts, Lin.ValidOpts opts → ∃ t0 : LinTable Int V, Lin.new opts = .ok t0 ∧
      Agree (run (Lin.impl sh forInt eqVal) ⟨t0, t0, g⟩ ops) (Spec.run eqVal ⟨[], []⟩ ops)) ∧
    (∀ opts, OA.ValidOpts .quad opts → ∃ t0 : OATable Int V, OA.new .quad opts = .ok t0 ∧
      Agree (run (OA.impl sh forInt eqVal) ⟨t0, t0, g⟩ ops) (Spec.run eqVal ⟨[], []⟩ ops)) ∧
    (∀ opts, OA.ValidOpts .dbl opts → ∃ t0 : OATable Int V, OA.new .dbl opts = .ok t0 ∧
      Agree (run (OA.impl sh forInt eqVal) ⟨t0, t0, g⟩ ops) (Spec.run eqVal ⟨[], []⟩ ops)) :=
  ⟨fun opts hv => C02_chain forInt sh hsh eqVal opts hv g ops,
   fun opts hv => C02_linear forInt sh hsh eqVal opts hv g ops,
   fun opts hv => C02_quadratic forInt sh hsh eqVal opts hv g ops,
   fun opts hv => C02_double forInt sh hsh eqVal opts hv g ops⟩

/-! ## the hypotheses are satisfiable, on non-trivial states -/
section NonVacuity

def idShuffle : Shuffle Unit := fun g n => (List.range n, g)

example : ShufflePerm idShuffle := fun _ _ => List.Perm.refl _

/-- default options and tighter explicit ones are valid -/
example : OA.ValidOpts .quad {} := ⟨Or.inl rfl, by constructor <;> decide⟩
example : OA.ValidOpts .dbl ⟨61, ⟨1, 4⟩, ⟨3, 8⟩⟩ := ⟨Or.inr (by decide), by constructor <;> decide⟩
example : Chain.ValidOpts ⟨8, ⟨3, 1⟩, ⟨5, 1⟩⟩ := ⟨Or.inr (by decide), by constructor <;> decide⟩
example : Lin.ValidOpts ⟨64, ⟨3, 8⟩, ⟨7, 16⟩⟩ := ⟨Or.inr (by decide), by constructor <;> decide⟩

/-- linear probing, constant hash: a cluster of four keys; deleting the first one moves the other three
back by one slot each (the re-insertion loop), and every key is still found. -/
example : (match (Lin.new {} : Outcome (LinTable Int Int)) with
    | .ok t0 => run (Lin.impl idShuffle (fun _ => 5) (fun a b => a == b)) ⟨t0, t0, ()⟩
        [.put false 1 10, .put false 2 20, .put false 3 30, .put false 4 40, .delete false 1,
         .get false 4, .get false 1, .size false, .all false]
    | _ => []) =
    [.ok .unit, .ok .unit, .ok .unit, .ok .unit, .ok (.val (some 10)),
     .ok (.val (some 40)), .ok (.val none), .ok (.int 3), .ok (.list [(2, 20), (3, 30), (4, 40)])] := by
  decide +kernel

/-- D2's witness on the Model, with a constant hash function: colliding keys, a tombstone
that is revived, and the count is right (with defect D2 `size` answers 1). -/
example : (match (OA.new .quad {} : Outcome (OATable Int Int)) with
    | .ok t0 => run (OA.impl idShuffle (fun _ => 5) (fun a b => a == b)) ⟨t0, t0, ()⟩
        [.put false 1 10, .put false 2 20, .delete false 1, .put false 1 11, .size false, .get false 1]
    | _ => []) =
    [.ok .unit, .ok .unit, .ok (.val (some 10)), .ok .unit, .ok (.int 2), .ok (.val (some 11))] := by
  decide +kernel

open AlgoVerif.C02.Hash in
/-- the encodings are not all alike: "a" and "b" differ, `[1]` as `[]int8` is one byte and as `[]int` 24 bytes
(the `unsafe.Sizeof` quirk), −1 is sign-extended; `"ab","c"` and `"a","bc"` are written as the same bytes -/
example : encode "String" (.bytes [97]) ≠ encode "String" (.bytes [98]) ∧
    (encode "Int8Slice" (.ints [1])).map List.length = some 1 ∧ (encode "IntSlice" (.ints [1])).map List.length = some 24 ∧
    encode "Int16" (.int (-1)) = some [255, 255] ∧ encode "Bool" (.int 1) = none ∧
    encode "StringSlice" (.strs [[97, 98], [99]]) = encode "StringSlice" (.strs [[97], [98, 99]]) := by
  decide +kernel

open AlgoVerif.C02.Hash in
/-- the witness history of the seeded change C02-n2 on the Model: the empty string is the first key the default
string hash ever sees; it is found again after other keys have been hashed, and the count is right. -/
example : (match (OA.new .quad {} : Outcome (OATable Bytes Int)) with
    | .ok t0 => run (OA.impl idShuffle forString (fun a b => a == b)) ⟨t0, t0, ()⟩
        [.put false [] 1, .put false [97] 2, .get false [], .put false [] 3, .size false, .get false []]
    | _ => []) =
    [.ok .unit, .ok .unit, .ok (.val (some 1)), .ok .unit, .ok (.int 2), .ok (.val (some 3))] := by
  decide +kernel

end NonVacuity

/-! ## the arithmetic helpers of the hash tables, GENERATED from `symboltable/hash_table.go`

`AlgoVerif.Generated.HashHelp.*` (file `Generated/C02Gen.lean`) is produced from `/repo/symboltable/hash_table.go` by
the translator `/verif/extract/go2lean` on every run of this check (`bin/pre-C02`; scheme, subset and what is
trusted: header of `extract/go2lean/main.go`): `gcd` over `UInt64`, the others over the unbounded `Int`, each loop with
the caller's fuel.  The capacity checks (`isPowerOf2`, `isPrime`), the second hash of double hashing (`gcd`,
`largestPrimeSmallerThan`) and the rehash sizes (`smallestPrimeLargerThan`) of the Model are these functions.  The
statements: on the natural numbers, with at least the stated fuel, the generated definition returns the hand Model's
value — and hence the mathematical one.  (Of the three open-addressing table files only `probe`, `Get`, `Size`, `IsEmpty`
of `linear_hash_table.go` are inside the translator's subset — next section; the rest compares `float32` load factors,
and `Put` ↔ `resize` recurse through a range-over-func iterator.) -/

open AlgoVerif.Generated AlgoVerif.C02.Gen

theorem C02_generated_gcd_refines (a b : UInt64) (fuel : Nat) (hf : min a.toNat b.toNat + 1 ≤ fuel) :
    (HashHelp.gcd fuel a b).map UInt64.toNat = .ok (gcdGo a.toNat b.toNat) := gcd_eq a b fuel hf

/-- the generated `gcd` computes the greatest common divisor -/
theorem C02_generated_gcd (a b : UInt64) (fuel : Nat) (hf : min a.toNat b.toNat + 1 ≤ fuel) :
    (HashHelp.gcd fuel a b).map UInt64.toNat = .ok (Nat.gcd a.toNat b.toNat) := by
  rw [C02_generated_gcd_refines a b fuel hf, gcdGo_eq]

example : (HashHelp.gcd 13 12 18).map UInt64.toNat = .ok 6 := by decide +kernel

theorem C02_generated_isPowerOf2_refines (n : Nat) (hn : n < 2 ^ 63) :
    HashHelp.isPowerOf2 (n : Int) = C02.isPowerOf2 n := isPowerOf2_eq n hn

example : HashHelp.isPowerOf2 32 = true ∧ HashHelp.isPowerOf2 48 = false := by decide +kernel

theorem C02_generated_isPrime_refines (n fuel : Nat) (hf : n + 1 ≤ fuel) :
    HashHelp.isPrime fuel (n : Int) = .ok (C02.isPrime n) := isPrime_eq n fuel hf

/-- the generated `isPrime` decides primality -/
theorem C02_generated_isPrime (n fuel : Nat) (hf : n + 1 ≤ fuel) :
    ∃ b, HashHelp.isPrime fuel (n : Int) = .ok b ∧ (b = true ↔ Nat.Prime n) :=
  ⟨_, C02_generated_isPrime_refines n fuel hf, isPrime_correct n⟩

example : HashHelp.isPrime 132 131 = .ok true ∧ HashHelp.isPrime 134 133 = .ok false := by decide +kernel

theorem C02_generated_largestPrimeSmallerThan_refines (n fuel : Nat) (hf : n + 1 ≤ fuel) :
    HashHelp.largestPrimeSmallerThan fuel (n : Int) = .ok (C02.largestPrimeSmallerThan n) := largestPrime_eq n fuel hf

theorem C02_generated_smallestPrimeLargerThan_refines (n fuel : Nat) (hf : 2 * n + 3 ≤ fuel) :
    (C02.smallestPrimeLargerThan n).map (fun q => ((q : Nat) : Int)) = .diverge ∨
      (C02.smallestPrimeLargerThan n).map (fun q => ((q : Nat) : Int)) = HashHelp.smallestPrimeLargerThan fuel (n : Int) :=
  smallestPrime_le n fuel hf

/-- the generated `smallestPrimeLargerThan` terminates with a prime in `[n, 2n]` (Bertrand's postulate) -/
theorem C02_generated_smallestPrimeLargerThan (n fuel : Nat) (hn : 1 ≤ n) (hf : 2 * n + 3 ≤ fuel) :
    ∃ r : Nat, HashHelp.smallestPrimeLargerThan fuel (n : Int) = .ok (r : Int) ∧ Nat.Prime r ∧ n ≤ r ∧ r ≤ 2 * n := by
  obtain ⟨r, h, hp, h1, h2⟩ := smallestPrimeLargerThan_terminates n hn
  refine ⟨r, ?_, hp, h1, h2⟩
  exact Outcome.le.ok (C02_generated_smallestPrimeLargerThan_refines n fuel hf) (by simp [h])

example : HashHelp.smallestPrimeLargerThan 67 32 = .ok 37 := by decide +kernel

/-! ## the GENERATED `probe` / `Get` of `symboltable/linear_hash_table.go` (`Generated/C02LinGen.lean`)

`probe`'s closure is converted by the translator into the record of its captured variables (`M, h1, i, next`) and the
method `call` (extract/go2lean/closure.go); `Gen.ofLin` reads a table of the hand Model as the generated struct (entries as
`Option (KeyValue K V)`, `eqKey` = equality; the hash function, `eqVal` and the two float32 load factors are arbitrary),
`Gen.EnvOK m h j env`: the environment after `j` calls.  Helper lemmas: `Proofs/C02LinGen.lean`. -/

/-- the probe sequence: `probe(key)` starts the environment at 0 calls, and the `j`-th call of the closure returns the hand
Model's `Lin.probeIdx m h j` (`h & (M-1)` first, then `(h1 + j) % M`, computed on 64-bit words and converted to `int`),
for every table size `0 < m < 2^32` and every `j < 2^32`. -/
theorem C02_generated_linear_probe {K V : Type} [DecidableEq K] [Inhabited K] [Inhabited V]
    (hash : K → UInt64) (eqVal : V → V → Bool) (a b : Go.F32) (t : LinTable K V) (key : K)
    (hm0 : 0 < t.m) (hm : t.m < 2 ^ 32) :
    EnvOK t.m (mix (hash key)) 0 (LinHT.linearHashTable.probe (ofLin hash eqVal a b t) key) ∧
    ∀ (j : Nat) (env : LinHT.linearHashTable_probeEnv), EnvOK t.m (mix (hash key)) j env → j < 2 ^ 32 →
      ∃ env', LinHT.linearHashTable_probeEnv.call env = .ok (env', ((Lin.probeIdx t.m (mix (hash key)) j : Nat) : Int)) ∧
        EnvOK t.m (mix (hash key)) (j + 1) env' :=
  ⟨probe_ok hash eqVal a b t key hm0 hm, fun j env he hj => call_ok t.m _ j env he hm0 hm hj⟩

/-- `Get(key)`: with fuel `m` (one unit per inspected slot, as the hand Model has it) the generated function returns
exactly what the hand Model's `Lin.get` returns — `(v, true)` for `some v`, `(zero, false)` for `none`, the same panic
for a probe outside `entries`, the same `diverge` when `m` probes meet no nil slot. -/
theorem C02_generated_linear_get {K V : Type} [DecidableEq K] [Inhabited K] [Inhabited V]
    (hash : K → UInt64) (eqVal : V → V → Bool) (a b : Go.F32) (t : LinTable K V) (key : K)
    (hm0 : 0 < t.m) (hm : t.m < 2 ^ 32) :
    LinHT.linearHashTable.Get t.m (ofLin hash eqVal a b t) key = (Lin.get hash t key).map pairOf :=
  Get_eq hash eqVal a b t key hm0 hm

/-- `Size()` and `IsEmpty()` read the counter `n`. -/
theorem C02_generated_linear_size {K V : Type} [DecidableEq K] [Inhabited K] [Inhabited V]
    (hash : K → UInt64) (eqVal : V → V → Bool) (a b : Go.F32) (t : LinTable K V) :
    LinHT.linearHashTable.Size (ofLin hash eqVal a b t) = t.n ∧
    LinHT.linearHashTable.IsEmpty (ofLin hash eqVal a b t) = (t.n == 0) := ⟨rfl, rfl⟩

-- the hypotheses hold of every table the constructor builds with a capacity below 2^32; the generated `Get` on the table
-- of capacity 4 holding 6 ↦ 60 at slot 2 (hash = identity on `Nat` keys): found at the first probe of key 6
example : (LinHT.linearHashTable.Get 4 (ofLin (V := Nat) (fun k : Nat => UInt64.ofNat k) (· == ·) ⟨0⟩ ⟨0⟩
    ⟨#[none, none, some (6, 60), none], 4, 1, ⟨1, 8⟩, ⟨1, 2⟩⟩) 6) = .ok (60, true) :=
  (C02_generated_linear_get (fun k : Nat => UInt64.ofNat k) (· == ·) ⟨0⟩ ⟨0⟩
    (⟨#[none, none, some (6, 60), none], 4, 1, ⟨1, 8⟩, ⟨1, 2⟩⟩ : LinTable Nat Nat) 6 (by decide) (by decide)).trans (by decide)
