import AlgoVerif.Proofs.C09LeftRecImm
import AlgoVerif.Proofs.C09Valid
/-!
# `EliminateLeftRecursion` leaves no left recursion (C09)

The order `orderNT` returns is duplicate-free and is exactly the set of declared
non-terminals; the grammar `elimCycles` returns has no unit productions and ε only for a start symbol that
occurs in no body — so the loop invariant `LRInv9` holds initially; it is kept by `lrSubst`, `lrImmediate`
(`Proofs/C09LeftRecInv.lean`, `C09LeftRecImm.lean`); at the end it yields the ranking certificate of
`Proofs/C09LeftRecInv.lean`, which survives the final `prune`.
-/
namespace AlgoVerif.C08
open AlgoVerif AlgoVerif.Gram AlgoVerif.C08.Spec AlgoVerif.C09.Spec

theorem elimUnreachable_nodup {g g' : G} (h : elimUnreachable g = .ok g') : g'.nonterms.Nodup := by
  obtain ⟨r, hr, _, hn, _, _⟩ := elimUnreachable_ok h
  rw [hn]
  unfold reachable at hr
  exact iterFix_inv (reachPass g.prods) (fun r : List String => r.Nodup) (fun a ha => reachPass_nodup _ ha)
    _ _ _ (by simp) (ofOpt_ok hr)

theorem elimCycles_nodup {g g' : G} (h : elimCycles g = .ok g') : g'.nonterms.Nodup := by
  obtain ⟨_, _, _, _, h3⟩ := elimCycles_ok h
  exact elimUnreachable_nodup h3

theorem lrInv9_init {g0 : G} {nts : List String} (hw : WellFormed g0) (hu : NoUnit g0) (he : EpsOnlyStart g0)
    (hnts : ∀ X, X ∈ nts ↔ X ∈ g0.nonterms) : LRInv9 nts (thr 0 0) g0 := by
  -- a symbol of a body is declared, and has no ε-production since only the start symbol, which is in no body, has one
  have solid : ∀ p, p ∈ g0.prods → ∀ s, s ∈ p.body → Solid nts g0 s := by
    intro p hp s hs
    cases s with
    | term _ => trivial
    | nonterm Z =>
      refine ⟨(hnts Z).2 ((hw.2 p hp).2 _ hs), fun q hq hqZ hqb => ?_⟩
      obtain ⟨h1, h2⟩ := he q hq hqb
      exact h2 p hp (h1 ▸ hqZ ▸ hs)
  refine ⟨hw, fun X hX => (hnts X).1 hX, fun p hp Y rest hb => ?_⟩
  refine ⟨solid p hp _ (by rw [hb]; simp), fun _ => ⟨.inr (by simp [thr]), ?_⟩⟩
  cases rest with
  | nil =>
    have := hu p hp
    unfold isSingle at this
    rw [hb] at this
    simp at this
  | cons s rest' => exact ⟨s, rest', rfl, solid p hp s (by rw [hb]; simp)⟩

theorem elimLeftRec_noLeftRecursion {g g' : G} (h : elimLeftRec g = .ok g') (hw : WellFormed g) :
    NoLeftRecursion g' := by
  obtain ⟨g0, nts, g1, h0, hn, h2, rfl⟩ := elimLeftRec_ok h
  have hw0 := elimCycles_wf h0 hw
  obtain ⟨hnd, hmem⟩ := orderNT_spec hn hw0 (elimCycles_nodup h0)
  have hinit := lrInv9_init hw0 (elimCycles_noUnit h0) (elimCycles_epsOnlyStart h0 hw) hmem
  have hfin := lrLoop_inv9 hnd nts [] g0 g1 (by simp) hinit h2
  exact noLeftRecursion_of_cert ((cert_of_inv hfin).mono (prune_prods_subset g1))

/-- **`EliminateLeftRecursion` reaches its normal form**: the result has no derivation `A ⇒⁺ A α` — every
valid grammar; conditional on the Model returning `.ok`. -/
theorem C09_leftrec_noLeftRecursion (g g' : G) (hv : Valid g) (h : elimLeftRec g = .ok g') :
    NoLeftRecursion g' :=
  elimLeftRec_noLeftRecursion h hv.wellFormed

end AlgoVerif.C08

/-! ## non-vacuity: the D14 grammar (`S → A a | b`, `A → S c | d`) is valid, the Model returns `.ok`, and the
theorem applies to the result -/
open AlgoVerif AlgoVerif.Gram AlgoVerif.C08 AlgoVerif.C08.Spec AlgoVerif.C09.Spec in
example : ∃ g', elimLeftRec C08LRex2 = .ok g' ∧ NoLeftRecursion g' := by
  obtain ⟨g', hh, _⟩ := Outcome.map_eq_ok elimLeftRec_LRex2
  exact ⟨g', hh, C09_leftrec_noLeftRecursion _ _ (by decide +kernel) hh⟩
