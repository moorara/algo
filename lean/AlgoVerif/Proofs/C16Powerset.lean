import AlgoVerif.Proofs.C16Algebra
/-!
# C16 helper lemmas: `Powerset`

The power set is an unordered set of set objects whose `equal` callback is `Set.Equal`; its elements are
compared modulo "same members" (`SetEq`) and have to be well-formed set objects for that callback to
behave (`dom` = `WF0`).
-/
namespace AlgoVerif.C16
variable {α : Type} {σ : Type}

def SetEq (a b : MSet α) : Prop := ∀ x, x ∈ a.members ↔ x ∈ b.members

theorem setEq_equivalence : Equivalence (@SetEq α) :=
  ⟨fun _ _ => Iff.rfl, fun h x => (h x).symm, fun h₁ h₂ x => (h₁ x).trans (h₂ x)⟩

theorem setEqFunc_law : EqLaw (WF0 (α := α)) SetEq setEqFunc := by
  intro a b ha hb
  exact MSet.equal_spec0 ha hb

abbrev WF1 (PS : MSet (MSet α)) : Prop := WF WF0 SetEq PS

theorem wf1_new : WF1 (MSet.new (.unordered (setEqFunc (α := α)))) :=
  ⟨by simp [MSet.new], by simp [MSet.new], setEqFunc_law, fun c hc => by cases hc⟩

theorem add_new_unordered {β : Type} {dom : β → Prop} {R : β → β → Prop} (hR : Equivalence R) {PS : MSet β}
    (h : WF dom R PS) {e : EqualFunc β} (himpl : PS.impl = .unordered e) {T : β} (hT : dom T)
    (hnew : ∀ Y ∈ PS.members, ¬ R Y T) :
    ∃ PS', PS.add [T] = .ok PS' ∧ WF dom R PS' ∧ PS'.impl = PS.impl ∧ PS'.members = PS.members ++ [T] := by
  obtain ⟨PS', h₁, hw, hi, hcase⟩ := MSet.add1_spec hR h hT
  refine ⟨PS', by rw [MSet.add_singleton]; exact h₁, hw, hi, ?_⟩
  rcases hcase with ⟨⟨Y, hY, hYT⟩, _⟩ | ⟨_, l₁, l₂, hs, hs', hl⟩
  · exact absurd hYT (hnew Y hY)
  · have : l₂ = [] := hl (by rw [himpl]; rfl)
    subst this
    rw [hs', hs]; simp

/-- the loop over the subsets `todo` of the tail: a round adds `T` and `head ∪ T`.  Both `Add`s append
(`add_new_unordered`) because nothing in `PS` denotes either set of a round still to come — the last hypothesis, which
a round hands on to the next. -/
theorem powersetLoop_spec {sh : Shuffle σ} (hsh : ShLaw sh) {head : MSet α} (hh : WF0 head) {m0 : α}
    (hhm : ∀ x, x ∈ head.members ↔ x = m0) :
    ∀ (todo : List (MSet α)), (∀ T ∈ todo, WF0 T) → (∀ T ∈ todo, m0 ∉ T.members) →
      todo.Pairwise (fun a b => ¬ SetEq a b) →
    ∀ (PS : MSet (MSet α)), WF1 PS → PS.impl = .unordered setEqFunc →
      (∀ Y ∈ PS.members, ∀ T ∈ todo, ¬ SetEq Y T ∧ ¬ (∀ x, x ∈ Y.members ↔ x = m0 ∨ x ∈ T.members)) →
    ∀ g, ∃ PS' g', powersetLoop sh head PS todo g = .ok (PS', g') ∧ WF1 PS' ∧ PS'.impl = PS.impl ∧
      PS'.members.length = PS.members.length + 2 * todo.length ∧
      (∀ Y ∈ PS.members, Y ∈ PS'.members) ∧
      (∀ T ∈ todo, T ∈ PS'.members ∧ ∃ U ∈ PS'.members, ∀ x, x ∈ U.members ↔ x = m0 ∨ x ∈ T.members) ∧
      (∀ Y ∈ PS'.members, Y ∈ PS.members ∨ ∃ T ∈ todo, Y = T ∨ ∀ x, x ∈ Y.members ↔ x = m0 ∨ x ∈ T.members) := by
  intro todo
  induction todo with
  | nil =>
    intro _ _ _ PS hPS _ _ g
    exact ⟨PS, g, rfl, hPS, rfl, by simp, fun _ h => h, by simp, fun Y hY => .inl hY⟩
  | cons T rest ih =>
    intro hwf hm0 hpw PS hPS himpl hfresh g
    have hT : WF0 T := hwf T (List.mem_cons_self ..)
    have hm0T : m0 ∉ T.members := hm0 T (List.mem_cons_self ..)
    have hpw' := List.pairwise_cons.1 hpw
    -- PS.Add(subset)
    obtain ⟨PS₁, h₁, hw₁, hi₁, hmem₁⟩ := add_new_unordered setEq_equivalence hPS himpl hT
      (fun Y hY => (hfresh Y hY T (List.mem_cons_self ..)).1)
    -- head.Union(subset)
    obtain ⟨u, g₁, hu, hwu, _, hmu⟩ := MSet.union_spec0 hsh hh [T] g
    have hmu' : ∀ x, x ∈ u.members ↔ x = m0 ∨ x ∈ T.members := by
      intro x; rw [hmu, hhm]; simp
    -- PS.Add(head.Union(subset))
    obtain ⟨PS₂, h₂, hw₂, hi₂, hmem₂⟩ := add_new_unordered setEq_equivalence hw₁ (hi₁.trans himpl) hwu (by
      rw [hmem₁, List.forall_mem_append, List.forall_mem_singleton]
      exact ⟨fun Y hY hYu => (hfresh Y hY T (List.mem_cons_self ..)).2 (fun x => (hYu x).trans (hmu' x)),
        fun hYu => hm0T ((hYu m0).2 ((hmu' m0).2 (.inl rfl)))⟩)
    have hmem₂' : PS₂.members = PS.members ++ [T, u] := by rw [hmem₂, hmem₁]; simp
    obtain ⟨PS', g', h', hw', hi', hlen', hkeep', hall', hfrom'⟩ :=
      ih (fun T' hT' => hwf T' (List.mem_cons_of_mem _ hT'))
        (fun T' hT' => hm0 T' (List.mem_cons_of_mem _ hT')) hpw'.2 PS₂ hw₂ ((hi₂.trans hi₁).trans himpl) (by
          intro Y hY T' hT'
          have hm0T' : m0 ∉ T'.members := hm0 T' (List.mem_cons_of_mem _ hT')
          rw [hmem₂'] at hY
          rcases List.mem_append.1 hY with hY | hY
          · exact hfresh Y hY T' (List.mem_cons_of_mem _ hT')
          · simp at hY
            rcases hY with rfl | rfl
            · exact ⟨hpw'.1 T' hT', fun h => hm0T ((h m0).2 (.inl rfl))⟩
            · refine ⟨fun h => hm0T' ((h m0).1 ((hmu' m0).2 (.inl rfl))), fun h => hpw'.1 T' hT' ?_⟩
              intro x
              have hx := (hmu' x).symm.trans (h x)
              by_cases hx0 : x = m0
              · rw [hx0]
                exact ⟨fun h => absurd h hm0T, fun h => absurd h hm0T'⟩
              · simp only [hx0, false_or] at hx
                exact hx) g₁
    refine ⟨PS', g', ?_, hw', hi'.trans ((hi₂.trans hi₁)), ?_, ?_, ?_, ?_⟩
    · simp only [powersetLoop, h₁, hu, h₂, h', ok_bind]
    · rw [hlen', hmem₂']
      simp only [List.length_append, List.length_cons, List.length_nil]
      omega
    · intro Y hY; exact hkeep' Y (by rw [hmem₂']; exact List.mem_append_left _ hY)
    · intro T' hT'
      rcases List.mem_cons.1 hT' with rfl | hT'
      · exact ⟨hkeep' _ (by rw [hmem₂']; simp), u, hkeep' u (by rw [hmem₂']; simp), hmu'⟩
      · exact hall' T' hT'
    · intro Y hY
      rcases hfrom' Y hY with hY | ⟨T', hT', hY⟩
      · rw [hmem₂'] at hY
        rcases List.mem_append.1 hY with hY | hY
        · exact .inl hY
        · simp at hY
          rcases hY with rfl | rfl
          · exact .inr ⟨_, List.mem_cons_self .., .inl rfl⟩
          · exact .inr ⟨T, List.mem_cons_self .., .inr hmu'⟩
      · exact .inr ⟨T', List.mem_cons_of_mem _ hT', hY⟩

/-- `complete` names a subset by a predicate, `{x ∈ s | p x}`, so that no list of members has to be produced -/
structure PSpec (s : MSet α) (PS : MSet (MSet α)) : Prop where
  wf : WF1 PS
  impl : PS.impl = .unordered setEqFunc
  sound : ∀ T ∈ PS.members, ∀ x ∈ T.members, x ∈ s.members
  complete : ∀ p : α → Prop, ∃ T ∈ PS.members, ∀ x, x ∈ T.members ↔ x ∈ s.members ∧ p x
  card : PS.members.length = 2 ^ s.members.length

theorem eq_singleton_of_length_of_mem {l : List α} {a : α} (hl : l.length = 1) (ha : a ∈ l) : l = [a] := by
  match l, hl, ha with
  | [b], _, ha => simp at ha; rw [ha]

theorem members_eq_nil_of_size {s : MSet α} (h : s.size = 0) : s.members = [] := by
  simp only [MSet.size] at h
  exact List.eq_nil_of_length_eq_zero (by omega)

/-- the first steps of `Powerset` and `Partitions` on a non-empty set: `members := Collect(s.All())`, `head` receives
`members[0]` and `tail` the others -/
theorem split_head {sh : Shuffle σ} (hsh : ShLaw sh) {s : MSet α} (hs : WF0 s) (hsz : ¬ s.size = 0) (g : σ) :
    ∃ m0 ms g₁ head tail, s.all sh g = .ok (m0 :: ms, g₁) ∧ ms.length + 1 = s.members.length ∧ m0 ∉ ms ∧
      (∀ x, x ∈ s.members ↔ x = m0 ∨ x ∈ ms) ∧
      s.cloneEmpty.add1 m0 = .ok head ∧ WF0 head ∧ (∀ x, x ∈ head.members ↔ x = m0) ∧
      s.cloneEmpty.add ms = .ok tail ∧ WF0 tail ∧ (∀ x, x ∈ tail.members ↔ x ∈ ms) ∧
      tail.members.length = ms.length := by
  classical
  obtain ⟨members, g₁, ha, hp, _⟩ := MSet.all_spec hsh s g
  have hlen := hp.length_eq
  cases members with
  | nil =>
    exfalso
    simp only [MSet.size] at hsz
    simp at hlen
    omega
  | cons m0 ms =>
    have hnd' := List.nodup_cons.1 (hp.symm.nodup hs.nodup)
    obtain ⟨head, hh₁, hhw, _, hhm, _⟩ := MSet.add1_spec0 (wf0_cloneEmpty hs) m0
    obtain ⟨tail, ht₁, htw, _, htm, _⟩ := MSet.add_spec0 (wf0_cloneEmpty hs) ms
    have htm' : ∀ x, x ∈ tail.members ↔ x ∈ ms := by
      intro x; rw [htm]; simp [MSet.cloneEmpty]
    have htlen := ((List.perm_ext_iff_of_nodup htw.nodup hnd'.2).2 htm').length_eq
    simp only [List.length_cons] at hlen
    exact ⟨m0, ms, g₁, head, tail, ha, hlen, hnd'.1,
      fun x => ⟨fun h => List.mem_cons.1 (hp.symm.subset h), fun h => hp.subset (List.mem_cons.2 h)⟩,
      hh₁, hhw, fun x => by rw [hhm]; simp [MSet.cloneEmpty], ht₁, htw, htm', htlen⟩

theorem powerset_spec {sh : Shuffle σ} (hsh : ShLaw sh) : ∀ (fuel : Nat) (s : MSet α), WF0 s → ∀ g,
    s.members.length < fuel → ∃ PS g', powerset sh fuel s g = .ok (PS, g') ∧ PSpec s PS := by
  intro fuel
  induction fuel with
  | zero => intro _ _ _ hf; omega
  | succ fuel ih =>
    intro s hs g hf
    unfold powerset
    by_cases hsz : s.size = 0
    · have hnil := members_eq_nil_of_size hsz
      obtain ⟨PS, h₁, hw, hi, hmem⟩ := add_new_unordered setEq_equivalence wf1_new rfl (wf0_cloneEmpty hs) (by simp [MSet.new])
      refine ⟨PS, g, by simp [hsz, h₁], hw, hi, ?_, ?_, ?_⟩
      · intro T hT x hx
        rw [hmem] at hT; simp [MSet.new] at hT; subst hT
        simp [MSet.cloneEmpty] at hx
      · intro p
        refine ⟨s.cloneEmpty, by rw [hmem]; simp, fun x => ?_⟩
        simp [MSet.cloneEmpty, hnil]
      · rw [hmem, hnil]; simp [MSet.new]
    · obtain ⟨m0, ms, g₁, head, tail, ha, hlen, hm0, hmem_s, hh₁, hhw, hhm', ht₁, htw, htm', htlen⟩ :=
        split_head hsh hs hsz g
      -- Powerset(tail)
      obtain ⟨sub, g₂, hsub, hspec⟩ := ih tail htw g₁ (by omega)
      obtain ⟨subsets, g₃, hall, hperm, _⟩ := MSet.all_spec hsh sub g₂
      have hsubsets_wf : ∀ T ∈ subsets, WF0 T := fun T hT => hspec.wf.mem_dom T (hperm.subset hT)
      have hsubsets_m0 : ∀ T ∈ subsets, m0 ∉ T.members := by
        intro T hT hm
        exact hm0 ((htm' m0).1 (hspec.sound T (hperm.subset hT) m0 hm))
      have hsubsets_pw : subsets.Pairwise (fun a b => ¬ SetEq a b) :=
        (hperm.pairwise_iff (fun h h' => h (setEq_equivalence.symm h'))).2 hspec.wf.nodup
      obtain ⟨PS, g₄, hloop, hw, hi, hlen', _, hall', hfrom'⟩ :=
        powersetLoop_spec hsh hhw hhm' subsets hsubsets_wf hsubsets_m0 hsubsets_pw
          (MSet.new (.unordered setEqFunc)) wf1_new rfl (by simp [MSet.new]) g₃
      refine ⟨PS, g₄, ?_, hw, hi, ?_, ?_, ?_⟩
      · simp only [hsz, ↓reduceIte, ha, ok_bind]
        simp only [MSet.add_singleton, hh₁, ht₁, hsub, hall, ok_bind]
        exact hloop
      · intro Y hY x hx
        rcases hfrom' Y hY with h | ⟨T, hT, rfl | hYT⟩
        · simp [MSet.new] at h
        · exact (hmem_s x).2 (.inr ((htm' x).1 (hspec.sound Y (hperm.subset hT) x hx)))
        · rcases (hYT x).1 hx with rfl | hxT
          · exact (hmem_s x).2 (.inl rfl)
          · exact (hmem_s x).2 (.inr ((htm' x).1 (hspec.sound T (hperm.subset hT) x hxT)))
      · -- the subset for `p`: the tail's subset `T` for `p`, or `head.Union(T)` if `p m0`
        intro p
        obtain ⟨T, hT, hTp⟩ := hspec.complete p
        have hT' : T ∈ subsets := hperm.symm.subset hT
        obtain ⟨hTPS, U, hU, hUm⟩ := hall' T hT'
        by_cases hp0 : p m0
        · refine ⟨U, hU, fun x => ?_⟩
          rw [hUm, hTp, hmem_s, htm']
          by_cases hx : x = m0
          · simp only [hx, hp0, true_or, and_self]
          · simp only [hx, false_or]
        · refine ⟨T, hTPS, fun x => ?_⟩
          rw [hTp, hmem_s, htm']
          by_cases hx : x = m0
          · simp only [hx, hp0, and_false]
          · simp only [hx, false_or]
      · -- the loop added two sets for each of the tail's `2 ^ |ms|` subsets
        rw [hlen', hperm.length_eq, hspec.card, htlen, ← hlen, Nat.pow_succ, Nat.mul_comm]
        exact Nat.zero_add _

end AlgoVerif.C16
