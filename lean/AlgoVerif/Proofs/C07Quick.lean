import AlgoVerif.Proofs.C07Basic
/-!
# C07 — quick sort and Select (`sort/quick.go`): `partition`, `quick`, the loop of `Select`

`partition` leaves a block `≤ v` and a block `≥ v` around the pivot value `v`; for `quick` that is
`sortedSeg_of_pivot` once both blocks are sorted, and `Select` keeps a separator (`Sep`) on either side of the
window it narrows, which is all `HasRank` needs (`hasRank_of_split`).
-/
namespace AlgoVerif.C07
open AlgoVerif

variable {α : Type} {cmp : α → α → Int}

theorem scanUp_spec (tp : TotalPreorder cmp) (a : Array α) (v : α) (l hi : Nat) (hhi : hi < a.size) :
    ∀ (f i : Nat), i ≤ hi → hi < f + i → AllSeg (fun x => cmp x v ≤ 0) a l i →
      ∃ i' : Nat, scanUp cmp a v (hi : Int) f (i : Int) = .ok (i' : Int) ∧ i ≤ i' ∧ i' ≤ hi ∧
        AllSeg (fun x => cmp x v ≤ 0) a l i' ∧ (i' < hi → ∀ (h : i' < a.size), cmp v a[i'] ≤ 0) := by
  intro f
  induction f with
  | zero => intro i _ h; omega
  | succ f ih =>
    intro i hi' hf hL
    unfold scanUp
    split
    · rw [get_nat (by omega : i < a.size)]
      simp only [ok_bind]
      split
      · next hc =>
        rw [← Int.natCast_add_one]
        obtain ⟨i', g1, g2, g⟩ := ih (i+1) (by omega) (by omega) (hL.append (.single fun _ => Int.le_of_lt hc))
        exact ⟨i', g1, by omega, g⟩
      · next hc => exact ⟨i, rfl, Nat.le_refl _, hi', hL, fun _ _ => tp.le_of_not_lt hc⟩
    · exact ⟨i, rfl, Nat.le_refl _, hi', hL, fun h => by omega⟩

theorem scanDown_spec (tp : TotalPreorder cmp) (a : Array α) (v : α) (lo h : Nat) :
    ∀ (f j : Nat), lo ≤ j → j < a.size → j < f + lo → AllSeg (fun x => cmp v x ≤ 0) a (j+1) h →
      ∃ j' : Nat, scanDown cmp a v (lo : Int) f (j : Int) = .ok (j' : Int) ∧ lo ≤ j' ∧ j' ≤ j ∧
        AllSeg (fun x => cmp v x ≤ 0) a (j'+1) h ∧ (lo < j' → ∀ (h : j' < a.size), cmp a[j'] v ≤ 0) := by
  intro f
  induction f with
  | zero => intro j _ _ h; omega
  | succ f ih =>
    intro j hlo hj hf hR
    unfold scanDown
    split
    · rw [get_nat hj]
      simp only [ok_bind]
      split
      · next hc =>
        obtain ⟨j0, rfl⟩ : ∃ j0, j = j0 + 1 := ⟨j - 1, by omega⟩
        rw [Int.natCast_add_one, Int.add_sub_cancel]
        obtain ⟨j', g1, g2, g3, g⟩ := ih j0 (by omega) (by omega) (by omega)
          ((AllSeg.single fun _ => tp.le_of_gt hc).append hR)
        exact ⟨j', g1, g2, by omega, g⟩
      · next hc => exact ⟨j, rfl, hlo, Nat.le_refl _, hR, fun _ _ => by omega⟩
    · exact ⟨j, rfl, hlo, Nat.le_refl _, hR, fun h => by omega⟩

/-- `j` enters as `j+1`, which the loop decrements at once. -/
theorem partLoop_spec (tp : TotalPreorder cmp) (v : α) (lo hi : Nat) :
    ∀ (f i j : Nat) (a : Array α), hi < a.size → lo ≤ i ∧ i ≤ j ∧ i < hi ∧ j ≤ hi ∧ hi < f + i →
      AllSeg (fun x => cmp x v ≤ 0) a lo (i+1) → AllSeg (fun x => cmp v x ≤ 0) a (j+1) (hi+1) →
      ∃ (a' : Array α) (j' : Nat),
        partLoop cmp v (lo : Int) (hi : Int) f (i : Int) ((j : Int) + 1) a = .ok (a', (j' : Int)) ∧
        SegStep a a' (lo+1) (hi+1) ∧ lo ≤ j' ∧ j' ≤ hi ∧
        AllSeg (fun x => cmp x v ≤ 0) a' lo (j'+1) ∧
        AllSeg (fun x => cmp v x ≤ 0) a' (j'+1) (hi+1) := by
  intro f
  induction f with
  | zero => intros; omega
  | succ f ih =>
    intro i j a hhi hb left right
    unfold partLoop
    rw [← Int.natCast_add_one, Int.add_sub_cancel]
    obtain ⟨i', u1, u2, u3, L, u5⟩ := scanUp_spec tp a v lo hi hhi (a.size + 1) (i+1) (by omega) (by omega) left
    obtain ⟨j', d1, d2, d3, R, d5⟩ :=
      scanDown_spec tp a v lo (hi+1) (a.size + 1) j (by omega) (by omega) (by omega) right
    rw [u1]; simp only [ok_bind]; rw [d1]; simp only [ok_bind]
    split
    · -- `j' ≤ i'`: before `i'` the upward scan vouches, and `j' = i'` is where the downward scan stopped
      refine ⟨a, j', rfl, SegStep.refl _ _ _, d2, by omega, fun p hp1 hp2 h => ?_, R⟩
      by_cases hpj : p < i'
      · exact L p hp1 hpj h
      · obtain rfl : p = j' := by omega
        exact d5 (by omega) h
    · rw [swap_nat (by omega) (by omega)]
      simp only [ok_bind]
      obtain ⟨j0, rfl⟩ : ∃ j0, j' = j0 + 1 := ⟨j' - 1, by omega⟩
      -- `a[j'] ≤ v` goes to the end of the left block, `a[i'] ≥ v` to the front of the right one
      obtain ⟨a', j'', r1, s, r⟩ := ih i' j0 (a.swap i' (j0+1) (by omega) (by omega))
        (by rw [Array.size_swap]; exact hhi) (by omega)
        (AllSeg.swap _ _ (fun p h1 h2 _ _ hp => L p h1 (by omega) hp) (fun _ _ => d5 (by omega) _)
          (fun _ _ => by omega))
        (AllSeg.swap _ _ (fun p h1 h2 _ _ hp => R p (by omega) h2 hp) (fun _ _ => by omega)
          (fun _ _ => u5 (by omega) _))
      exact ⟨a', j'', r1, (SegStep.swap _ _ (by omega) (by omega) (by omega) (by omega)).trans s, r⟩

theorem partition_spec (tp : TotalPreorder cmp) (a : Array α) (lo hi : Nat)
    (hlo : lo < hi) (hhi : hi < a.size) :
    ∃ (a' : Array α) (j : Nat), partition cmp a (lo : Int) (hi : Int) = .ok (a', (j : Int)) ∧
      SegStep a a' lo (hi+1) ∧ lo ≤ j ∧ j ≤ hi ∧
      AllSeg (fun x => cmp x (a[lo]'(by omega)) ≤ 0) a' lo (j+1) ∧
      AllSeg (fun x => cmp (a[lo]'(by omega)) x ≤ 0) a' j (hi+1) := by
  unfold partition
  have hlo' : lo < a.size := by omega
  rw [get_nat hlo']
  simp only [ok_bind]
  obtain ⟨a1, j, r1, S, r4, r5, hle, hge⟩ :=
    partLoop_spec tp (a[lo]'hlo') lo hi (a.size + 1) lo hi a hhi (by omega)
      (.single fun _ => tp.refl _) (fun p h1 h2 => by omega)
  rw [r1]
  simp only [ok_bind]
  have hsz := S.size
  rw [swap_nat (by omega) (by omega)]
  simp only [ok_bind]
  have hv : a1[lo]'(by omega) = a[lo]'hlo' := S.frame lo (Or.inl (Nat.lt_succ_self _)) hlo' _
  -- the pivot goes to `j`, the element `≤ v` that stood there to `lo`: a rearrangement of `[lo, j]`
  have T := SegStep.swap (a := a1) (lo := lo) (hi1 := j+1) (i := lo) (j := j) (by omega) (by omega)
    (Nat.le_refl _) (by omega) r4 (Nat.lt_succ_self _)
  exact ⟨_, j, rfl, (S.widen (Nat.le_succ _) (Nat.le_refl _)).trans (T.widen (Nat.le_refl _) (by omega)),
    r4, r5, T.pres _ hle,
    (AllSeg.single fun _ => by rw [Array.getElem_swap_right, hv]; exact tp.refl _).append
      (T.allSeg_disjoint (Or.inr (Nat.le_refl _)) hge)⟩

theorem partition_seg_perm {cmp : α → α → Int} (tp : TotalPreorder cmp) (a : Array α) (lo hi : Nat)
    (hlo : lo < hi) (hhi : hi < a.size) {a' : Array α} {j : Int}
    (h : partition cmp a (lo : Int) (hi : Int) = .ok (a', j)) :
    ((a'.toList.drop lo).take (hi + 1 - lo)).Perm ((a.toList.drop lo).take (hi + 1 - lo)) := by
  obtain ⟨a1, j1, p1, S, _⟩ := partition_spec tp a lo hi hlo hhi
  rw [p1] at h
  cases h
  simpa only [segL_eq] using (perm_iff_segL_perm (frame_getElem? S.size S.frame)).1 S.perm

theorem quickAux_spec (tp : TotalPreorder cmp) :
    ∀ (f : Nat) (a : Array α) (lo hi1 : Nat), lo ≤ hi1 → hi1 ≤ a.size → hi1 < f + lo →
      ∃ a', quickAux cmp f a (lo : Int) ((hi1 : Int) - 1) = .ok a' ∧
        SegStep a a' lo hi1 ∧ SortedSeg cmp a' lo hi1 := by
  intro f
  induction f with
  | zero => intro a lo hi1 _ _ h; omega
  | succ f ih =>
    intro a lo hi1 hle hsz hf
    unfold quickAux
    split
    · exact ⟨a, rfl, SegStep.refl _ _ _, fun p q h1 h2 h3 h4 => by omega⟩
    · have e : ((hi1 : Int) - 1) = ((hi1 - 1 : Nat) : Int) := by omega
      obtain ⟨a1, j, p1, S1, p4, p5, hle1, hge1⟩ :=
        partition_spec tp a lo (hi1 - 1) (by omega) (by omega)
      rw [(by omega : hi1 - 1 + 1 = hi1)] at S1 hge1
      rw [← e] at p1
      rw [p1]
      simp only [ok_bind]
      have hsz1 := S1.size
      obtain ⟨a2, q1, S2, sorted2⟩ := ih a1 lo j p4 (by omega) (by omega)
      rw [q1]
      simp only [ok_bind]
      have e' : ((j : Int) + 1) = ((j + 1 : Nat) : Int) := by omega
      rw [e']
      have hsz2 := S2.size
      obtain ⟨a3, r1, S3, sorted3⟩ := ih a2 (j+1) hi1 (by omega) (by omega) (by omega)
      refine ⟨a3, r1, S1.trans ((S2.widen (Nat.le_refl _) (by omega)).trans
        (S3.widen (by omega) (Nat.le_refl _))), ?_⟩
      exact sortedSeg_of_pivot tp _
        (S3.allSeg_disjoint (Or.inl (Nat.le_refl _))
          ((S2.widen (Nat.le_refl _) (Nat.le_succ _)).pres _ hle1))
        ((S3.widen (Nat.le_succ _) (Nat.le_refl _)).pres _
          (S2.allSeg_disjoint (Or.inr (Nat.le_refl _)) hge1))
        (S3.sortedSeg_disjoint (Or.inl (Nat.le_succ _)) sorted2) sorted3

theorem quickCore_spec (tp : TotalPreorder cmp) (a : Array α) :
    ∃ out, quickCore cmp a = .ok out ∧ IsSortOf cmp out a := by
  obtain ⟨out, h1, S, h5⟩ := quickAux_spec tp (a.size + 1) a 0 a.size (Nat.zero_le _)
    (Nat.le_refl _) (by omega)
  exact ⟨out, by simpa [quickCore] using h1, isSortOf_of (S.size ▸ h5) S.perm⟩

def Sep (cmp : α → α → Int) (a : Array α) (m : Nat) : Prop :=
  ∀ p q, p < m → m ≤ q → ∀ (hp : p < a.size) (hq : q < a.size), cmp a[p] a[q] ≤ 0

/-- the side the step does not touch stands still, and being `≤` (or `≥`) a fixed element is a predicate on the
side that is rearranged -/
theorem Sep.step {a a' : Array α} {l h m : Nat} (s : Sep cmp a m) (S : SegStep a a' l h)
    (hd : h ≤ m ∨ m ≤ l) : Sep cmp a' m := by
  intro p q h1 h2 hp hq
  have hs := S.size
  rcases hd with hd | hd
  · rw [S.frame q (Or.inr (by omega)) (by omega) hq]
    exact (S.widen (Nat.zero_le _) hd).pres (fun x => cmp x (a[q]'(by omega)) ≤ 0)
      (fun p _ g gs => s p q g h2 gs _) p (Nat.zero_le _) h1 hp
  · rw [S.frame p (Or.inl (by omega)) (by omega) hp]
    exact (S.widen hd (Nat.le_max_left h (q+1))).pres (fun x => cmp (a[p]'(by omega)) x ≤ 0)
      (fun q g _ gs => s p q h1 g _ gs) q h2 (by omega) hq

theorem selectLoop_aux (tp : TotalPreorder cmp) (k : Nat) :
    ∀ (f lo hi : Nat) (a : Array α), lo ≤ k → k ≤ hi → hi < a.size → hi < f + lo →
      Sep cmp a lo → Sep cmp a (hi+1) →
      ∃ (out : Array α) (v : α), selectLoop cmp (k : Int) f (lo : Int) (hi : Int) a = .ok (out, v) ∧
        out.size = a.size ∧ out.Perm a ∧ (∀ (h : k < out.size), out[k] = v) ∧
        Sep cmp out k ∧ Sep cmp out (k+1) := by
  intro f
  induction f with
  | zero => intro lo hi a _ _ _ h; omega
  | succ f ih =>
    intro lo hi a hlk hkh hhi hf sl sh
    unfold selectLoop
    split
    · obtain ⟨a1, j, p1, S, p4, p5, hle, hge⟩ := partition_spec tp a lo hi (by omega) hhi
      rw [p1]
      simp only [ok_bind]
      have p2 := S.size
      have sl1 := sl.step S (Or.inr (Nat.le_refl _))
      have sh1 := sh.step S (Or.inl (Nat.le_refl _))
      -- the pivot value `a[lo]` lies between `a1[lo..j]` and `a1[j..hi]`, so `j` separates the window and
      -- with it the whole array
      have sep : ∀ p q, p ≤ j → j ≤ q → ∀ (hp : p < a1.size) (hq : q < a1.size), cmp a1[p] a1[q] ≤ 0 := by
        intro p q h1 h2 hp hq
        by_cases c : p < lo
        · exact sl1 p q c (by omega) hp hq
        · by_cases c' : hi < q
          · exact sh1 p q (by omega) c' hp hq
          · exact tp.trans _ _ _ (hle p (by omega) (by omega) hp) (hge q (by omega) (by omega) hq)
      split
      · rw [← Int.natCast_add_one]
        obtain ⟨out, v, r1, r2, r3, r⟩ := ih (j+1) hi a1 (by omega) hkh (by omega) (by omega)
          (fun p q h1 h2 => sep p q (by omega) (by omega)) sh1
        exact ⟨out, v, r1, by omega, r3.trans S.perm, r⟩
      · split
        · obtain ⟨j0, rfl⟩ : ∃ j0, j = j0 + 1 := ⟨j - 1, by omega⟩
          rw [Int.natCast_add_one, Int.add_sub_cancel]
          obtain ⟨out, v, r1, r2, r3, r⟩ := ih lo j0 a1 hlk (by omega) (by omega) (by omega) sl1
            (fun p q h1 h2 => sep p q (by omega) (by omega))
          exact ⟨out, v, r1, by omega, r3.trans S.perm, r⟩
        · obtain rfl : j = k := by omega
          rw [get_nat (by omega)]
          exact ⟨a1, _, rfl, p2, S.perm, fun _ => rfl, fun p q h1 h2 => sep p q (by omega) h2,
            fun p q h1 h2 => sep p q (by omega) (by omega)⟩
    · obtain rfl : lo = k := by omega
      obtain rfl : hi = lo := by omega
      rw [get_nat hhi]
      exact ⟨a, _, rfl, rfl, Array.Perm.refl _, fun _ => rfl, sl, sh⟩

/-- nothing from `k` on is `< l[k]`, and the `k + 1` elements up to `k` are `≤ l[k]` -/
theorem hasRank_of_split (tp : TotalPreorder cmp) (l : List α) (k : Nat)
    (hk : k < l.length)
    (hl : ∀ p, p < k → ∀ (hp : p < l.length), cmp l[p] l[k] ≤ 0)
    (hr : ∀ q, k < q → ∀ (hq : q < l.length), cmp l[k] l[q] ≤ 0) :
    HasRank cmp l k l[k] := by
  refine ⟨List.getElem_mem hk, ?_, ?_⟩
  · have h0 : (l.drop k).countP (fun x => cmp x l[k] < 0) = 0 := by
      rw [List.countP_eq_zero]
      intro x hx
      obtain ⟨i, hi, e⟩ := List.mem_iff_getElem.1 hx
      rw [List.getElem_drop] at e
      simp only [List.length_drop] at hi
      have hle : cmp l[k] x ≤ 0 := by
        rw [← e]
        by_cases c : i = 0
        · subst c; exact tp.refl _
        · exact hr (k + i) (by omega) (by omega)
      have := tp.flip x l[k]
      simp only [decide_eq_true_eq]
      omega
    have h1 : (l.take k).countP (fun x => cmp x l[k] < 0) ≤ k := by
      refine Nat.le_trans List.countP_le_length ?_
      simp only [List.length_take]; omega
    calc l.countP (fun x => cmp x l[k] < 0)
        = (l.take k ++ l.drop k).countP (fun x => cmp x l[k] < 0) := by rw [List.take_append_drop]
      _ ≤ k := by rw [List.countP_append, h0]; omega
  · have h1 : (l.take (k+1)).countP (fun x => cmp x l[k] ≤ 0) = k + 1 := by
      have hlen : (l.take (k+1)).length = k + 1 := by simp only [List.length_take]; omega
      refine Eq.trans (List.countP_eq_length.2 ?_) hlen
      intro x hx
      obtain ⟨i, hi, e⟩ := List.mem_iff_getElem.1 hx
      rw [List.getElem_take] at e
      rw [hlen] at hi
      simp only [decide_eq_true_eq]
      rw [← e]
      by_cases c : i = k
      · subst c; exact tp.refl _
      · exact hl i (by omega) (by omega)
    calc k < (l.take (k+1)).countP (fun x => cmp x l[k] ≤ 0) + (l.drop (k+1)).countP (fun x => cmp x l[k] ≤ 0) := by omega
      _ = l.countP (fun x => cmp x l[k] ≤ 0) := by rw [← List.countP_append, List.take_append_drop]

theorem hasRank_of_perm {l l' : List α} (h : l.Perm l') {k : Nat} {v : α}
    (hr : HasRank cmp l k v) : HasRank cmp l' k v :=
  ⟨(h.mem_iff).1 hr.1, by rw [← h.countP_eq]; exact hr.2.1, by rw [← h.countP_eq]; exact hr.2.2⟩

theorem selectLoop_spec (tp : TotalPreorder cmp) (a : Array α) (k : Nat)
    (hk : k < a.size) :
    ∃ out v, selectLoop cmp (k : Int) (a.size + 1) 0 ((a.size : Int) - 1) a = .ok (out, v) ∧
      out.Perm a ∧ HasRank cmp a.toList k v := by
  obtain ⟨n, hn⟩ : ∃ n, a.size = n + 1 := ⟨a.size - 1, by omega⟩
  obtain ⟨out, v, r1, r2, r3, r4, r5, r6⟩ :=
    selectLoop_aux tp k (a.size + 1) 0 n a (Nat.zero_le _) (by omega) (by omega) (by omega)
      (fun p q h => by omega) (fun p q _ h2 _ hq => by omega)
  rw [hn, Int.natCast_add_one, Int.add_sub_cancel]
  refine ⟨out, v, by simpa [hn] using r1, r3, ?_⟩
  have hko : k < out.size := by omega
  have hr : HasRank cmp out.toList k out.toList[k] :=
    hasRank_of_split tp out.toList k (by simpa using hko)
      (fun p h hp => by simpa using r5 p k h (Nat.le_refl _) (by simpa using hp) hko)
      (fun q h hq => by simpa using r6 k q (Nat.lt_succ_self _) h hko (by simpa using hq))
  have ev : out.toList[k]'(by simpa using hko) = v := by simpa using r4 hko
  rw [ev] at hr
  exact hasRank_of_perm (Array.perm_iff_toList_perm.1 r3) hr

end AlgoVerif.C07
