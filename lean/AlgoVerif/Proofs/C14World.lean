import AlgoVerif.Proofs.C14State
/-!
# C14 proofs — histories: the Model's world of objects refines the Spec's world of edge lists
-/
namespace AlgoVerif.C14

theorem eval_obj (sw : SWorld) : sw.eval.obj = sw.obj.eval := by
  unfold SWorld.eval World.obj SWorld.obj
  simp only [Array.getD_eq_getD_getElem?, Array.getElem?_map]
  cases sw.objs[sw.cur]? <;> rfl

theorem eval_step (sw : SWorld) (op : Op) :
    sw.eval.step op =
      ((sw.step op).eval, match op with
        | .query q => sw.obj.eval.answer q
        | _ => .ok .unit) := by
  cases op with
  | edge u v wt =>
    simp only [World.step, SWorld.step, eval_obj]
    congr 1
    simp only [SWorld.eval, Array.map_setIfInBounds, SObj.eval, build_append]
  | query q => simp only [World.step, SWorld.step, eval_obj]
  | mkrev =>
    simp only [World.step, SWorld.step, eval_obj]
    congr 1
    have hk : sw.obj.eval.kind = sw.obj.k := build_kind _ _ _
    rw [hk]
    cases hd : sw.obj.k.isDirected
    · simp
    · simp only [if_true, SWorld.eval, Array.map_push, SObj.eval]
      rw [build_reverse _ hd]
  | use i =>
    simp only [World.step, SWorld.step]
    congr 1
    simp only [SWorld.eval, Array.size_map]
    split <;> rfl
  | mknew n es =>
    simp only [World.step, SWorld.step, eval_obj]
    congr 1
    have hk : sw.obj.eval.kind = sw.obj.k := build_kind _ _ _
    rw [hk]
    simp only [SWorld.eval, Array.map_push, SObj.eval]

theorem run_refines (ops : List Op) : ∀ sw : SWorld,
    sw.eval.run ops = ((sw.run ops).1.eval, (sw.run ops).2) := by
  induction ops with
  | nil => intro sw; rfl
  | cons op ops ih =>
    intro sw
    simp only [World.run, SWorld.run]
    rw [eval_step, ih]
    cases op <;> rfl

theorem init_eval (k : Kind) (n : Nat) : (SWorld.init k n).eval = World.init k n := by
  simp [SWorld.init, SWorld.eval, World.init, SObj.eval, GObj.build]

theorem srun_length (ops : List Op) : ∀ sw : SWorld, (sw.run ops).2.length = ops.length := by
  induction ops with
  | nil => intro sw; rfl
  | cons op ops ih => intro sw; simp [SWorld.run, ih]

theorem srun_answer (ops : List Op) : ∀ (sw : SWorld) (i : Nat) (q : Query), ops[i]? = some (.query q) →
    (sw.run ops).2[i]? = some ((sw.run (ops.take i)).1.obj.eval.answer q) := by
  induction ops with
  | nil => intro sw i q hi; simp at hi
  | cons op ops ih =>
    intro sw i q hi
    cases i with
    | zero =>
      obtain rfl : op = .query q := by simpa using hi
      rfl
    | succ i => exact ih (sw.step op) i q (by simpa using hi)

theorem srun_single (ops : List Op) (hs : ∀ op ∈ ops, op.single = true) : ∀ sw : SWorld,
    (sw.run ops).1 = (sw.run ((edgesOf ops).map fun e => Op.edge e.u e.v e.w)).1 := by
  induction ops with
  | nil => intro sw; rfl
  | cons op ops ih =>
    intro sw
    have hs' : ∀ op ∈ ops, op.single = true := fun o ho => hs o (by simp [ho])
    have hop := hs op (by simp)
    cases op with
    | edge u v w => exact ih hs' _
    | query q => exact ih hs' sw
    | _ => exact Bool.noConfusion hop

theorem srun_append (a b : List Op) : ∀ sw : SWorld,
    (sw.run (a ++ b)).1 = ((sw.run a).1.run b).1 := by
  induction a with
  | nil => intro sw; rfl
  | cons op a ih => intro sw; simp only [List.cons_append, SWorld.run]; rw [ih]

theorem srun_edges (es : List EdgeIn) : ∀ sw : SWorld, sw.cur < sw.objs.size →
    (sw.run (es.map fun e => Op.edge e.u e.v e.w)).1 =
      { sw with objs := sw.objs.setIfInBounds sw.cur { sw.obj with es := sw.obj.es ++ es } } := by
  induction es with
  | nil =>
    intro sw hc
    cases sw with
    | mk objs cur =>
      have hc' : cur < objs.size := hc
      simp only [List.map_nil, SWorld.run, SWorld.obj, Array.getD_eq_getD_getElem?, Array.getElem?_eq_getElem hc', Option.getD_some,
        List.append_nil, Array.setIfInBounds, hc', dite_true]
      exact congrArg (SWorld.mk · cur) (Array.set_getElem_self hc').symm
  | cons e es ih =>
    intro sw hc
    simp only [List.map_cons, SWorld.run]
    have hc' : (sw.step (.edge e.u e.v e.w)).cur < (sw.step (.edge e.u e.v e.w)).objs.size := by
      simp [SWorld.step, hc]
    rw [ih _ hc']
    simp only [SWorld.step, SWorld.obj, SWorld.mk.injEq, and_true]
    simp [hc, List.append_assoc]

theorem run_single (k : Kind) (n : Nat) (ops : List Op) (hs : ∀ op ∈ ops, op.single = true) (es0 : List EdgeIn) :
    ((⟨#[⟨k, n, es0⟩], 0⟩ : SWorld).run ops).1 = ⟨#[⟨k, n, es0 ++ edgesOf ops⟩], 0⟩ ∧
    ∀ i q, ops[i]? = some (.query q) →
      ((⟨#[⟨k, n, es0⟩], 0⟩ : SWorld).run ops).2[i]? =
        some ((GObj.build k n (es0 ++ edgesOf (ops.take i))).answer q) := by
  have h1 : ∀ ops : List Op, (∀ op ∈ ops, op.single = true) →
      ((⟨#[⟨k, n, es0⟩], 0⟩ : SWorld).run ops).1 = ⟨#[⟨k, n, es0 ++ edgesOf ops⟩], 0⟩ :=
    fun ops hs => by rw [srun_single ops hs, srun_edges _ _ (by simp)]; simp [SWorld.obj]
  refine ⟨h1 ops hs, fun i q hi => ?_⟩
  rw [srun_answer ops _ i q hi, h1 _ fun op h => hs op (List.mem_of_mem_take h)]
  rfl

end AlgoVerif.C14
