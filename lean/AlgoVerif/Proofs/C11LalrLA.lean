import AlgoVerif.Proofs.C11LalrKer
import AlgoVerif.Proofs.C11BuiltCompleteMain
/-!
# C11 — what `ComputeLALR1Kernels` computes: the lookahead table is closed under the links and under GOTO

What the loops of `ComputeLALR1Kernels` leave behind when they return (no assumption on the fuel), besides
`lalrStates_done` of `C11Lalr`: the table is closed under the links (`propagate_spec`) and under GOTO (`la_closed`; dragon book,
Algorithm 4.62/4.63, read as an invariant of the finished table: the spontaneous lookaheads were entered, the links were
recorded, and propagation stopped at a fixpoint).

The theorems about the table are stated for a `LaRun` (`C11Lalr`), `S0` its LR(0) kernel state map (`C11LalrKer`); a `LalrRun R` is used as `R.toLaRun`.
-/
namespace AlgoVerif.C11.Lalr
open AlgoVerif AlgoVerif.Gram AlgoVerif.C11 AlgoVerif.C11.Spec AlgoVerif.C11.Built AlgoVerif.C11.BuiltComplete

/-- `propagate` stops when a pass changed neither the number of lookaheads nor the number of keys; both only grow, so that is
when their sum is unchanged -/
def laM (t : LaTable) : Nat := laSize t + t.length

theorem laSize_eq (t : LaTable) : laSize t = (t.map (fun e => e.2.length)).sum := by
  unfold laSize
  suffices aux : ∀ (l : LaTable) (a : Nat), l.foldl (fun a e => a + e.2.length) a = a + (l.map (fun e => e.2.length)).sum by
    simpa using aux t 0
  intro l
  induction l with
  | nil => intro a; simp
  | cons e l ih => intro a; simp only [List.foldl_cons, ih, List.map_cons, List.sum_cons]; omega

theorem map_upd_size (k : Key) (ls : List String) : ∀ (t : LaTable),
    let t' := t.map fun e => if e.1 == k then (e.1, unionNew e.2 ls) else e
    (t.map (fun e => e.2.length)).sum ≤ (t'.map (fun e => e.2.length)).sum ∧
      ((t'.map (fun e => e.2.length)).sum = (t.map (fun e => e.2.length)).sum → t' = t)
  | [] => by simp
  | e :: t => by
    obtain ⟨h1, h2⟩ := map_upd_size k ls t
    simp only [List.map_cons, List.sum_cons] at h1 h2 ⊢
    by_cases hk : (e.1 == k) = true
    · simp only [hk, if_true]
      have hext := ext_unionNew ls e.2
      have hlen := hext.length_le
      refine ⟨by omega, ?_⟩
      intro heq
      have hl : (unionNew e.2 ls).length = e.2.length := by omega
      have := (hext.eq_of_length hl.symm).symm
      rw [this, h2 (by omega)]
    · have hk' : (e.1 == k) = false := by simpa using hk
      simp only [hk', Bool.false_eq_true, if_false]
      refine ⟨by omega, ?_⟩
      intro heq
      rw [h2 (by omega)]

theorem laAdd_measure (t : LaTable) (k : Key) (ls : List String) :
    laM t ≤ laM (laAdd t k ls) ∧ (laM (laAdd t k ls) = laM t → laAdd t k ls = t) := by
  unfold laM laAdd
  split
  · have := map_upd_size k ls t
    simp only at this
    rw [laSize_eq, laSize_eq, List.length_map]
    refine ⟨by omega, ?_⟩
    intro heq
    exact this.2 (by omega)
  · rw [laSize_eq, laSize_eq]
    simp only [List.map_append, List.sum_append, List.length_append, List.length_cons, List.length_nil]
    refine ⟨by omega, ?_⟩
    intro heq
    omega

theorem pstep_round (x : Key × Key) : Round (fun _ => True) laM (pstep · x) := by
  have h : ∀ t, laM t ≤ laM (pstep t x) ∧ (laM (pstep t x) = laM t → pstep t x = t) := fun t => by
    rcases pstep_cases t x with h | ⟨_, _, _, h⟩
    · rw [h]; exact ⟨Nat.le_refl _, fun _ => rfl⟩
    · rw [h]; exact laAdd_measure _ _ _
  exact ⟨fun _ _ => trivial, fun t _ => (h t).1, fun t _ => (h t).2⟩

/-- the lookaheads of the source of a link are lookaheads of its target -/
def LinkSat (t : LaTable) (x : Key × Key) : Prop := ∀ a, Has t x.1 a → Has t x.2 a

theorem linkSat_of_fix {t : LaTable} {x : Key × Key} (h : pstep t x = t) : LinkSat t x :=
  fun _ ha => h ▸ has_pstep.mpr (Or.inr ⟨rfl, ha⟩)

/-- the loop stops only when a whole pass added nothing: every link is satisfied -/
theorem propagate_spec (props : Links) (fuel : Nat) (t las : LaTable) (hp : propagate props fuel t = Outcome.ok las) :
    LaLe t las ∧ ∀ x ∈ props, LinkSat las x := by
  refine ⟨propagate_le hp, ?_⟩
  induction fuel generalizing t with
  | zero => simp [propagate] at hp
  | succ fuel ih =>
    unfold propagate at hp
    simp only at hp
    split at hp
    · rename_i hfix
      simp only [Outcome.ok.injEq] at hp
      subst hp
      have hM : laM (props.foldl pstep t) = laM t := by
        unfold laM
        have h1 : laSize (props.foldl pstep t) = laSize t := hfix.1
        have h2 : (props.foldl pstep t).length = t.length := hfix.2
        omega
      exact fun x hx => linkSat_of_fix ((Round.foldl (step := pstep) props fun x _ => pstep_round x).2 t trivial hM x hx)
    · exact ih _ hp

theorem next_core_mem_goto {g' : SGrammar} {fuel : Nat} {Is : List Item} {k : Item} (hk : k ∈ Is)
    (hknone : k.la = none) {a : String} {x : Item}
    (hx : CloG g' (fun i => i = withLa k a) x) {X : Sy}
    (hd : x.dotSym = some X) {nextI : List Item} (hgo : (A0 g' fuel).goto Is X = Outcome.ok nextI) :
    x.next.core ∈ nextI := by
  obtain ⟨c0, hc0, rfl⟩ := kgoto_ok (A := A0 g' fuel) rfl hgo
  refine mem_advance.mpr ⟨x.core, ?_, hd, rfl⟩
  apply (mem_auto_closure_iff hc0 _).mpr
  refine clo_mono ?_ (clo_core (g := g') (fun i (hi : i = withLa k a) => by rw [hi]; rfl) hx)
  rintro y ⟨s', hs', rfl⟩
  rw [hs', core_withLa, core_of_none hknone]
  exact hk

section
variable {g g' : SGrammar} (hv : ValidG g) (ht : TermsListed g) (ha : augment g = Outcome.ok g')
include hv ht ha

theorem goto_item_lift (hprod : Productive g) {fuel : Nat} {Is : List Item} (hIsprod : ∀ i ∈ Is, i.prod ∈ g'.prods)
    (hIsnone : ∀ i ∈ Is, i.la = none) {seed1 : Item → Prop} (hseed : ∀ i ∈ Is, ∃ a, seed1 (withLa i a)) {X : Sy}
    {J : List Item} (hgo : (A0 g' fuel).goto Is X = Outcome.ok J) {k' : Item} (hk' : k' ∈ J) :
    ∃ j0 b, j0.la = none ∧ j0.dotSym = some X ∧ k' = j0.next ∧
      CloG g' seed1 (withLa j0 b) := by
  obtain ⟨c0, hc0, rfl⟩ := kgoto_ok (A := A0 g' fuel) rfl hgo
  obtain ⟨j0, hj0, hj0d, rfl⟩ := mem_advance.mp hk'
  have hj0clo := (mem_auto_closure_iff hc0 j0).mp hj0
  obtain ⟨b, hb⟩ := clo_lift (g := g') (seed1 := seed1) hIsnone hseed
    (fun x hx => live_item hv ht ha hprod (clo_prod hIsprod hx)) hj0clo
  exact ⟨j0, b, clo_la_none (g := g') hIsnone hj0clo, hj0d, rfl, hb⟩

variable {fuel : Nat} (R : LaRun g' fuel)

theorem la_closed {s : Nat} {Is : List Item} (hIs : R.S0[s]? = some Is) {k : Item} {a : String}
    (hLA : LA R.S0 R.las s k a) {x : Item} (hx : CloG g' (fun i => i = withLa k a) x) {X : Sy} (hd : x.dotSym = some X) :
    ∃ n Kn, Succ (A0 g' fuel) R.S0 Is X n Kn ∧ ∃ b, x.la = some b ∧ LA R.S0 R.las n x.next.core b := by
  have h := augOK_of_augment hv ha
  obtain ⟨Is', i, hIs', hki, hals⟩ := hLA
  cases hIs.symm.trans hIs'
  have hkmem : k ∈ Is := List.mem_of_getElem? hki
  have hkprod : k.prod ∈ g'.prods := (statesOK_good (k0_ok h R.hK0) s Is hIs k hkmem).1
  have hknone : k.la = none := k0_la_none R.hK0 Is (List.mem_of_getElem? hIs) k hkmem
  obtain ⟨_, hdone⟩ := lalrStates_done R.hlp
  obtain ⟨J, hJ, hvis⟩ := hdone (Is, s) (List.mem_zipIdx_iff_getElem?.mpr hIs) (k, i)
    (List.mem_zipIdx_iff_getElem?.mpr hki)
  replace hvis : ∀ j ∈ J, VisitDone (A0 g' fuel) R.S0 Is s i R.lp j := hvis
  have hJmem := mem_closure_single hJ
  obtain ⟨hle, hsat⟩ := propagate_spec R.lp.2 fuel R.lp.1 R.las R.hlas
  have hne : ∀ z, CloG g' (fun i => i = withLa k endmarker) z →
      endmarker ∉ FirstG g' (z.prod.body.drop (z.dot + 1)) := by
    intro z hz
    exact first_no_end hv ht ha (clo_prod (fun i hi => by rw [hi]; exact hkprod) hz) _
  -- the item `j` of `J` that stands for `x`: the same dotted production, so the same transition and the same successor
  obtain ⟨j, hjclo, hjp, hjd, hjla⟩ := clo_dummy hne hx
  have hjdot : j.dotSym = some X := by
    unfold Item.dotSym at hd ⊢; rw [hjp, hjd]; exact hd
  have hjcore : j.next.core = x.next.core := by
    simp only [Item.next, Item.core, hjp, hjd]
  obtain ⟨n, Kn, hsucc, hrec⟩ := hvis j ((hJmem j).mpr hjclo) X hjdot
  obtain ⟨nextI, hgo, _, hKn, hsame⟩ := id hsucc
  obtain ⟨idx, hidx, hKidx⟩ := findItem_found ((hsame _).mpr (next_core_mem_goto hkmem hknone hx hd hgo))
  rw [hjcore, hidx] at hrec
  refine ⟨n, Kn, hsucc, ?_⟩
  rcases hjla with ⟨hj1, hxa⟩ | ⟨b, hj1, hxb, hbne⟩
  · -- propagated from (s, i)
    exact ⟨a, hxa, Kn, idx, hKn, hKidx, hsat _ ((hrec endmarker hj1).1 rfl) a hals⟩
  · -- generated spontaneously
    exact ⟨b, hxb, Kn, idx, hKn, hKidx, hle _ b ((hrec b hj1).2 hbne)⟩

/-- all items with `X` after the dot lead to the same LR(0) state, and `la_closed` puts each successor there with its lookahead -/
theorem ker_goto {s : Nat} {Is : List Item} (hIs : R.S0[s]? = some Is) {c : List Item}
    (hc : ∀ y ∈ c, CloG g' (Ker R.S0 R.las s) y) {X : Sy} (hne : advance c X ≠ []) :
    ∃ n Kn, Succ (A0 g' fuel) R.S0 Is X n Kn ∧ ∀ z ∈ advance c X, Ker R.S0 R.las n z := by
  have hstep : ∀ y ∈ c, y.dotSym = some X →
      ∃ n Kn, Succ (A0 g' fuel) R.S0 Is X n Kn ∧ ∃ b, y.la = some b ∧ LA R.S0 R.las n y.next.core b := by
    intro y hy hyd
    obtain ⟨_, ⟨k, a, hLA, rfl⟩, hclo⟩ := clo_single (hc y hy)
    exact la_closed hv ht ha R hIs hLA hclo hyd
  obtain ⟨y1, hy1⟩ := List.exists_mem_of_ne_nil _ hne
  obtain ⟨y0, hy0, hy0d, _⟩ := mem_advance.mp hy1
  obtain ⟨n, Kn, hsucc, _⟩ := hstep y0 hy0 hy0d
  refine ⟨n, Kn, hsucc, fun z hz => ?_⟩
  obtain ⟨y, hy, hyd, rfl⟩ := mem_advance.mp hz
  obtain ⟨n', Kn', hsucc', b, hyb, hLA'⟩ := hstep y hy hyd
  obtain ⟨rfl, rfl⟩ := hsucc.unique hsucc'
  exact ⟨y.next.core, b, hLA', (withLa_core (x := y.next) (b := b) hyb).symm⟩

/-- By induction along the way the kernel collection was found: the initial item keeps its `$`, and the lookaheads are closed
under GOTO (`la_closed`); that every item of the LR(0) closure carries a lookahead in the LR(1) closure needs FIRST(βa) ≠ ∅,
i.e. productive non-terminals. -/
theorem la_exists (hprod : Productive g) :
    ∀ (s : Nat) (Is : List Item), R.S0[s]? = some Is → ∀ k ∈ Is, ∃ a, LA R.S0 R.las s k a := by
  have hdist := stateMap_dist (start := g'.start) (canonical_dist R.hK0)
  have hzero := k0_zero (augOK_of_augment hv ha) R.hK0
  obtain ⟨I0, hI0, _, hreach⟩ := canonical_reach R.hK0
  have hI0' : I0 = [(A0 g' fuel).initialItem] := by simpa [mkAuto] using hI0.symm
  have hall : ∀ Ks ∈ R.K0, ∀ (s : Nat), R.S0[s]? = some (sortBy (cmpItem g'.start) Ks) →
      ∀ k ∈ Ks, ∃ a, LA R.S0 R.las s k a := by
    refine hreach (fun Ks => ∀ (s : Nat), R.S0[s]? = some (sortBy (cmpItem g'.start) Ks) →
      ∀ k ∈ Ks, ∃ a, LA R.S0 R.las s k a) ?_ ?_
    · intro s hs k hk
      rw [hI0'] at hs hk
      have hsort1 : sortBy (cmpItem g'.start) [(A0 g' fuel).initialItem]
          = [(A0 g' fuel).initialItem] := by simp [sortBy, insertBy]
      rw [hsort1] at hs
      rw [List.mem_singleton] at hk
      subst hk
      cases state_index_unique hdist hs hzero (fun _ => Iff.rfl)
      exact ⟨endmarker, _, 0, hzero, rfl, las_init R.hlp R.hlas⟩
    · intro Ks hKs hP X hX J hJ hJne hJK s' hs' k' hk'
      have hmemS : sortBy (cmpItem g'.start) Ks ∈ R.S0 := mem_buildStateMap.mpr ⟨Ks, hKs, rfl⟩
      obtain ⟨s, hs⟩ := List.mem_iff_getElem?.mp hmemS
      obtain ⟨j0, b, hj0none, hj0d, rfl, hb⟩ := goto_item_lift hv ht ha hprod
        (fun i hi => (statesOK_good (k0_ok (augOK_of_augment hv ha) R.hK0) s _ hs i ((mem_sortBy _ _ _).mpr hi)).1)
        (fun i hi => k0_la_none R.hK0 _ hmemS i ((mem_sortBy _ _ _).mpr hi))
        (seed1 := fun x => ∃ k a, LA R.S0 R.las s k a ∧ x = withLa k a)
        (fun i hi => (hP s hs i hi).imp fun a hLA => ⟨i, a, hLA, rfl⟩) hJ hk'
      obtain ⟨_, ⟨k, a, hLA, rfl⟩, hclo⟩ := clo_single hb
      obtain ⟨n, Kn, ⟨nextI, hgo, _, hKn, hsame⟩, b', _, hLA'⟩ := la_closed hv ht ha R hs hLA hclo hj0d
      have hJsame : ∀ x, x ∈ nextI ↔ x ∈ J := goto_congr (fun x => mem_sortBy _ Ks x) hgo hJ
      cases state_index_unique hdist hKn hs' (fun x => by rw [hsame, hJsame, mem_sortBy])
      have hcore : (withLa j0 b).next.core = j0.next := by
        show j0.next.core = j0.next
        exact core_of_none hj0none
      exact ⟨b', hcore ▸ hLA'⟩
  intro s Is hIs k hk
  obtain ⟨Ks, hKs, rfl⟩ := mem_buildStateMap.mp (List.mem_of_getElem? hIs)
  exact hall Ks hKs s hIs k ((mem_sortBy _ _ _).mp hk)

/-- a kernel is a duplicate-free list: the entry is that of its index -/
theorem entries_exist (hprod : Productive g) : ∀ (s : Nat) (Is : List Item), R.S0[s]? = some Is →
    ∀ (i : Nat) (k : Item), Is[i]? = some k → ∃ ls, laGet R.las ((s : Int), (i : Int)) = some ls := by
  intro s Is hIs i k hi
  obtain ⟨a, Is', i', hIs', hi', ls, hls, _⟩ := la_exists hv ht ha R hprod s Is hIs k (List.mem_of_getElem? hi)
  cases hIs.symm.trans hIs'
  obtain ⟨Ks, hKs, rfl⟩ := mem_buildStateMap.mp (List.mem_of_getElem? hIs)
  have hnd : (sortBy (cmpItem g'.start) Ks).Nodup :=
    (List.Perm.nodup_iff (sortBy_perm _ _)).mpr (kernel0_nodup R.hK0 Ks hKs)
  cases index_unique (R := (· ≠ ·)) hnd hi hi' (fun h => h rfl) (fun h => h rfl)
  exact ⟨ls, hls⟩

end

end AlgoVerif.C11.Lalr
