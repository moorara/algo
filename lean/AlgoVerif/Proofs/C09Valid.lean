import AlgoVerif.Proofs.C09Post
/-!
# Results pass `Verify()`; `EliminateCycles` leaves no cycle (C09)

For `Verify()`: pruning leaves no declared non-terminal (other than the start symbol) without production.
-/
namespace AlgoVerif.C08
open AlgoVerif AlgoVerif.Gram AlgoVerif.C08.Spec AlgoVerif.C09.Spec

theorem pruneStep_length {g g' : G} (h : pruneStep g = some g') : g'.nonterms.length < g.nonterms.length := by
  obtain ⟨n, hn, _, _, _, _, hnt, _⟩ := pruneStep_spec h
  rw [hnt]
  exact List.length_filter_lt_length_iff_exists.mpr ⟨n, hn, by simp⟩

theorem pruneN_done (k : Nat) : ∀ g : G, g.nonterms.length ≤ k → pruneStep (pruneN k g) = none := by
  induction k with
  | zero =>
    intro g hk
    simp only [pruneN]
    have : g.nonterms = [] := List.eq_nil_of_length_eq_zero (by omega)
    unfold pruneStep
    rw [this]
    rfl
  | succ k ih =>
    intro g hk
    simp only [pruneN]
    split
    · assumption
    · rename_i g' hg'
      exact ih g' (by have := pruneStep_length hg'; omega)

theorem prune_done (g : G) : ∀ n ∈ (prune g).nonterms, n ≠ (prune g).start → hasProd (prune g).prods n = true := by
  have h := pruneN_done g.nonterms.length g (Nat.le_refl _)
  intro n hn hne
  unfold pruneStep at h
  split at h
  · rename_i hnone
    have := List.find?_eq_none.mp hnone n hn
    simp at this
    exact this hne
  · cases h

theorem valid_of_pruned_start {g : G} (hw : WellFormed g)
    (hdone : ∀ n ∈ g.nonterms, n ≠ g.start → hasProd g.prods n = true) (hs : ∃ p ∈ g.prods, p.head = g.start) :
    Valid g := by
  refine ⟨hw.1, ?_, hw.2⟩
  intro n hn
  by_cases hns : n = g.start
  · subst hns; exact hs
  · exact hasProd_iff.mp (hdone n hn hns)

theorem valid_of_pruned {g : G} (hw : WellFormed g)
    (hdone : ∀ n ∈ g.nonterms, n ≠ g.start → hasProd g.prods n = true) (hl : ∃ w, Language g w) : Valid g :=
  let ⟨p, hp, hh, _⟩ := Derives.has_prod hl.choose_spec
  valid_of_pruned_start hw hdone ⟨p, hp, hh⟩

theorem elimSingle_valid {g g' : G} (h : elimSingle g = .ok g') (hv : Valid g) (hl : ∃ w, Language g w) : Valid g' := by
  have hwf := elimSingle_wf h hv.wellFormed
  obtain ⟨w, hw⟩ := hl
  have hl' : ∃ w, Language g' w := ⟨w, (elimSingle_language h hv.wellFormed w).mpr hw⟩
  obtain ⟨cl, _, rfl⟩ := elimSingle_ok h
  exact valid_of_pruned hwf (prune_done _) hl'

theorem elimUnreachable_valid {g g' : G} (h : elimUnreachable g = .ok g') (hv : Valid g) : Valid g' := by
  obtain ⟨_, hn, hp, _⟩ := elimUnreachable_spec h
  have hwf := elimUnreachable_wf h hv.wellFormed
  refine ⟨hwf.1, fun n hn' => ?_, hwf.2⟩
  have hr := (hn n).1 hn'
  obtain ⟨p, hpp, rfl⟩ := hv.2.1 n (reach_declared hv.wellFormed hr)
  exact ⟨p, (hp p).2 ⟨hpp, hr⟩, rfl⟩

def StartFree (g : G) : Prop := ∀ q ∈ g.prods, Sym.nonterm g.start ∉ q.body

/-- `NoEmptyExceptFreshStart` read on the result alone: what ε-elimination establishes, unit-elimination keeps, and,
with `NoUnit`, leaves no room for a cycle (no form shrinks) -/
def EpsOnlyStart (g : G) : Prop :=
  ∀ p ∈ g.prods, p.body = [] → p.head = g.start ∧ StartFree g

theorem _root_.AlgoVerif.Gram.Derives.mem_of_not_in_bodies {g : G} {S : String} (hS : ∀ q ∈ g.prods, Sym.nonterm S ∉ q.body)
    {α β : List SSym} (d : Derives g α β) (hβ : Sym.nonterm S ∈ β) : Sym.nonterm S ∈ α := by
  induction d with
  | refl => exact hβ
  | tail _ s ih =>
    apply ih
    cases s with
    | mk u v p hp =>
      simp only [List.mem_append] at hβ ⊢
      rcases hβ with (h | h) | h
      · exact Or.inl (Or.inl h)
      · exact absurd h (hS p hp)
      · exact Or.inr h

def EpsHead (g : G) (n : String) : Prop := ∃ q ∈ g.prods, q.head = n ∧ q.body = []

theorem noCycle_of_noUnit_epsOnlyStart {g : G} (hu : NoUnit g) (he : EpsOnlyStart g) : NoCycle g := by
  -- heads of ε-productions occur in no body
  have hnb : ∀ n, EpsHead g n → ∀ q ∈ g.prods, Sym.nonterm n ∉ q.body := by
    rintro n ⟨r, hr, rfl, hrb⟩ q hq
    obtain ⟨h1, h2⟩ := he r hr hrb
    rw [h1]; exact h2 q hq
  -- forms without such heads never shrink and never acquire one
  have grow : ∀ α β : List SSym, Derives g α β → (∀ n, Sym.nonterm n ∈ α → ¬ EpsHead g n) →
      α.length ≤ β.length ∧ (∀ n, Sym.nonterm n ∈ β → ¬ EpsHead g n) := by
    intro α β d
    induction d with
    | refl => intro h; exact ⟨Nat.le_refl _, h⟩
    | tail _ s ih =>
      intro h
      obtain ⟨hlen, hns⟩ := ih h
      cases s with
      | mk u v q hq =>
        have hqb : q.body ≠ [] := fun e => hns q.head (by simp) ⟨q, hq, rfl, e⟩
        refine ⟨?_, fun n hn => ?_⟩
        · have := List.length_pos_iff.2 hqb
          simp only [List.length_append, List.length_cons, List.length_nil] at hlen ⊢
          omega
        · simp only [List.mem_append] at hn
          rcases hn with (hn | hn) | hn
          · exact hns n (by simp [hn])
          · exact fun hE => hnb n hE q hq hn
          · exact hns n (by simp [hn])
  intro A ⟨γ, s, d⟩
  obtain ⟨p, hp, hh, rfl⟩ := s.of_single
  -- so the body of the first production is one symbol: a terminal is stuck, a non-terminal makes a unit production
  have hlen := (grow _ _ d fun n hn hE => hnb n hE p hp hn).1
  match hb : p.body with
  | [] => exact absurd (Derives.of_terms (w := []) (hb ▸ d)) (by simp)
  | [Sym.term t] => exact absurd (Derives.of_terms (w := [t]) (hb ▸ d)) (by simp)
  | [Sym.nonterm B] => have := hu p hp; simp [isSingle, hb] at this
  | _ :: _ :: _ => simp [hb] at hlen

theorem elimSingle_epsOnlyStart {g g' : G} (h : elimSingle g = .ok g') (he : EpsOnlyStart g) : EpsOnlyStart g' := by
  obtain ⟨cl, hc, rfl⟩ := elimSingle_ok h
  have hspec := singleProds_spec (closureOf_sound hc)
  have hbody : ∀ q ∈ (prune ({ g with prods := singleProds g cl } : G)).prods, ∃ q0 ∈ g.prods, q0.body = q.body := by
    intro q hq
    obtain ⟨_, B, _, hB⟩ := hspec q (prune_prods_subset _ q hq)
    exact ⟨_, hB, rfl⟩
  intro p hp hpb
  obtain ⟨_, B, hAB, hB⟩ := hspec p (prune_prods_subset _ p hp)
  rw [hpb] at hB
  obtain ⟨h1, h2⟩ := he _ hB rfl
  simp only at h1
  rw [prune_start]
  refine ⟨?_, ?_⟩
  · -- p.head ⇒* B = start by unit steps, and the start symbol occurs in no body
    have := hAB.mem_of_not_in_bodies h2 (by rw [h1]; simp)
    simp at this
    exact this.symm
  · intro q hq hm
    rw [prune_start] at hm
    obtain ⟨q0, hq0, hq0b⟩ := hbody q hq
    exact h2 q0 hq0 (hq0b ▸ hm)

theorem elimCycles_epsOnlyStart {g g' : G} (h : elimCycles g = .ok g') (hv : WellFormed g) : EpsOnlyStart g' := by
  obtain ⟨g1, g2, h1, h2, h3⟩ := elimCycles_ok h
  have he1 : EpsOnlyStart g1 := by
    intro p hp hpb
    obtain ⟨a, _, c⟩ := elimEmpty_noEmpty h1 hv p hp hpb
    exact ⟨a, c⟩
  have he2 := elimSingle_epsOnlyStart h2 he1
  have hsub := elimUnreachable_prods_subset h3
  obtain ⟨_, _, hs3, _, _, _⟩ := elimUnreachable_ok h3
  intro p hp hpb
  obtain ⟨a, b⟩ := he2 p (hsub p hp) hpb
  exact ⟨by rw [hs3]; exact a, fun q hq => by rw [hs3]; exact b q (hsub q hq)⟩

theorem elimCycles_noCycle {g g' : G} (h : elimCycles g = .ok g') (hv : WellFormed g) : NoCycle g' :=
  noCycle_of_noUnit_epsOnlyStart (elimCycles_noUnit h) (elimCycles_epsOnlyStart h hv)

end AlgoVerif.C08
