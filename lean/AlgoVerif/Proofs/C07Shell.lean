import AlgoVerif.Proofs.C07RIns
/-!
# C07 — insertion sort (`sort/insertion.go`) and Shell sort (`sort/shell.go`)

The inner loop of `Insertion` is the one of `radixsort.insertion` with `lo = 0` and the comparison
`cmp · · < 0` (`insInner_eq_rInsInner`), so the invariant and the loop lemma of `C07RIns` serve both.

Shell sort: every pass only swaps (so the result is a permutation); the gap sequence `1, 4, 13, …` is walked
down by `h /= 3` exactly to `1`, and the pass with `h = 1` *is* insertion sort, which sorts whatever
the earlier passes left.
-/
namespace AlgoVerif.C07
open AlgoVerif

variable {α : Type} {cmp : α → α → Int}

theorem insInner_eq_rInsInner :
    ∀ (f : Nat) (j : Int) (a : Array α),
      insInner cmp f j a = rInsInner (fun x y => decide (cmp x y < 0)) ((0 : Nat) : Int) f j a := by
  intro f
  induction f with
  | zero => intro j a; rfl
  | succ f ih =>
    intro j a
    unfold insInner rInsInner
    simp only [ih, decide_eq_true_eq, Int.natCast_zero]

theorem insLoop_spec (tp : TotalPreorder cmp) :
    ∀ (f : Nat) (i : Nat) (a : Array α), a.size - i < f → SortedSeg cmp a 0 i →
      ∃ a', insLoop cmp a.size f (i : Int) a = .ok a' ∧ a'.Perm a ∧ SortedSeg cmp a' 0 a'.size := by
  intro f
  induction f with
  | zero => intro i a h; omega
  | succ f ih =>
    intro i a hf hs
    unfold insLoop
    split
    · have inv : RInsInv cmp a 0 i i :=
        ⟨by omega, Nat.zero_le _, Nat.le_refl _, fun p q hp hpq hq _ hqi => hs p q hp hpq (by omega) (by omega),
          fun q h1 h2 => by omega⟩
      obtain ⟨a1, h1, s1, h4⟩ := rInsInner_spec tp (fun _ _ => decide_eq_true_iff) 0
        (Int.toNat (a.size : Int) + 1) i a i (by omega) inv
      rw [insInner_eq_rInsInner, h1]
      simp only [ok_bind]
      rw [← Int.natCast_add_one, ← s1.size]
      obtain ⟨a2, g1, g2, g3⟩ := ih (i+1) a1 (by have := s1.size; omega) h4
      exact ⟨a2, g1, g2.trans s1.perm, g3⟩
    · exact ⟨a, rfl, Array.Perm.refl _, fun p q hp hpq _ hq => hs p q hp hpq (by omega) hq⟩

theorem insertion_spec (tp : TotalPreorder cmp) (a : Array α) :
    ∃ out, insertion cmp a = .ok out ∧ IsSortOf cmp out a := by
  obtain ⟨out, h1, h2, h3⟩ := insLoop_spec tp (a.size + 1) 0 a (by omega)
    (by intro p q _ _ h; omega)
  exact ⟨out, by simpa [insertion] using h1, isSortOf_of h3 h2⟩

inductive IsGap : Nat → Prop where
  | one : IsGap 1
  | step {h : Nat} : IsGap h → IsGap (3*h + 1)

theorem IsGap.pos {h : Nat} (g : IsGap h) : 1 ≤ h := by
  cases g <;> omega

theorem shellGap_spec (n : Nat) :
    ∀ (f : Nat) (h : Nat), IsGap h → (h = 1 ∨ h ≤ n) → n / 3 - h < f →
      ∃ h' : Nat, shellGap (n : Int) f (h : Int) = .ok (h' : Int) ∧ IsGap h' ∧ (h' = 1 ∨ h' ≤ n) := by
  intro f
  induction f with
  | zero => intro h _ _ hf; omega
  | succ f ih =>
    intro h g hb hf
    unfold shellGap
    split
    · have e : (3 * (h : Int) + 1) = ((3 * h + 1 : Nat) : Int) := by omega
      rw [e]
      exact ih (3*h+1) (IsGap.step g) (Or.inr (by omega)) (by omega)
    · exact ⟨h, rfl, g, hb⟩

theorem shellIns_perm (h : Nat) (hh : 1 ≤ h) :
    ∀ (f : Nat) (j : Nat) (a : Array α), j < a.size → j < f →
      ∃ a', shellIns cmp (h : Int) f (j : Int) a = .ok a' ∧ a'.size = a.size ∧ a'.Perm a := by
  intro f
  induction f with
  | zero => intro j a _ hf; omega
  | succ f ih =>
    intro j a hj hf
    unfold shellIns
    split
    · have e1 : ((j : Int) - (h : Int)) = ((j - h : Nat) : Int) := by omega
      simp only [e1]
      rw [get_nat hj, get_nat (by omega : j - h < a.size)]
      simp only [ok_bind]
      split
      · rw [swap_nat (by omega) (by omega)]
        simp only [ok_bind]
        obtain ⟨a', g1, g2, g3⟩ := ih (j-h) (a.swap j (j-h) (by omega) (by omega)) (by simp; omega) (by omega)
        exact ⟨a', g1, by simpa using g2, g3.trans (Array.swap_perm _ _)⟩
      · exact ⟨a, rfl, rfl, Array.Perm.refl _⟩
    · exact ⟨a, rfl, rfl, Array.Perm.refl _⟩

theorem shellPass_perm (h : Nat) (hh : 1 ≤ h) :
    ∀ (f : Nat) (i : Nat) (a : Array α), a.size - i < f →
      ∃ a', shellPass cmp (h : Int) (a.size : Int) f (i : Int) a = .ok a' ∧ a'.size = a.size ∧ a'.Perm a := by
  intro f
  induction f with
  | zero => intro i a hf; omega
  | succ f ih =>
    intro i a hf
    unfold shellPass
    split
    · obtain ⟨a1, g1, g2, g3⟩ := shellIns_perm (cmp := cmp) h hh (Int.toNat (a.size : Int) + 1) i a (by omega) (by omega)
      rw [g1]
      simp only [ok_bind]
      rw [← Int.natCast_add_one, ← g2]
      obtain ⟨a2, k1, k2, k3⟩ := ih (i+1) a1 (by omega)
      exact ⟨a2, k1, by omega, k3.trans g3⟩
    · exact ⟨a, rfl, rfl, Array.Perm.refl _⟩

theorem shellIns_one :
    ∀ (f : Nat) (j : Int) (a : Array α), shellIns cmp 1 f j a = insInner cmp f j a := by
  intro f
  induction f with
  | zero => intro j a; rfl
  | succ f ih =>
    intro j a
    unfold shellIns insInner
    by_cases hj : j ≥ 1
    · have : j > 0 := by omega
      simp only [hj, this, ↓reduceIte, ih]
    · have : ¬ j > 0 := by omega
      simp only [hj, this, ↓reduceIte]

theorem shellPass_one (n : Int) :
    ∀ (f : Nat) (i : Int) (a : Array α), shellPass cmp 1 n f i a = insLoop cmp n f i a := by
  intro f
  induction f with
  | zero => intro i a; rfl
  | succ f ih =>
    intro i a
    unfold shellPass insLoop
    simp only [shellIns_one, ih]

theorem shellLoop_spec (tp : TotalPreorder cmp) :
    ∀ (f : Nat) (h : Nat) (a : Array α), IsGap h → h < f →
      ∃ a', shellLoop cmp (a.size : Int) f (h : Int) a = .ok a' ∧ a'.Perm a ∧ SortedSeg cmp a' 0 a'.size := by
  intro f
  induction f with
  | zero => intro h a _ hf; omega
  | succ f ih =>
    intro h a g hf
    unfold shellLoop
    have hpos := g.pos
    have h1 : (h : Int) ≥ 1 := by omega
    simp only [h1, ↓reduceIte]
    cases g with
    | one =>
      -- the last pass is insertion sort, and `1 / 3 = 0` ends the loop
      obtain ⟨a1, g1, g2, g3⟩ := insLoop_spec tp (Int.toNat (a.size : Int) + 1) 1 a (by omega)
        (by intro p q _ _ hq; omega)
      rw [Int.natCast_one] at g1 ⊢
      rw [shellPass_one, g1]
      simp only [ok_bind]
      refine ⟨a1, ?_, g2, g3⟩
      cases f with
      | zero => omega
      | succ f => unfold shellLoop; simp
    | @step h' g' =>
      obtain ⟨a1, g1, g2, g3⟩ := shellPass_perm (cmp := cmp) (3*h'+1) (by omega) (Int.toNat (a.size : Int) + 1) (3*h'+1) a (by omega)
      rw [g1]
      simp only [ok_bind]
      have e : (((3 * h' + 1 : Nat) : Int) / 3) = ((h' : Nat) : Int) := by omega
      rw [e, ← g2]
      obtain ⟨a2, k1, k2, k3⟩ := ih h' a1 g' (by omega)
      exact ⟨a2, k1, k2.trans g3, k3⟩

theorem shell_spec (tp : TotalPreorder cmp) (a : Array α) :
    ∃ out, shell cmp a = .ok out ∧ IsSortOf cmp out a := by
  unfold shell
  obtain ⟨h, g1, g2, g3⟩ := shellGap_spec a.size (a.size + 1) 1 IsGap.one (Or.inl rfl) (by omega)
  rw [Int.natCast_one] at g1
  simp only [g1, ok_bind]
  obtain ⟨out, k1, k2, k3⟩ := shellLoop_spec tp (a.size + 2) h a g2 (by omega)
  exact ⟨out, k1, isSortOf_of k3 k2⟩

end AlgoVerif.C07
