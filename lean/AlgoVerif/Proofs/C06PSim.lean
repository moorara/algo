import AlgoVerif.Proofs.C06PPut
/-!
# C06 — Patricia trie: the store invariant; Get, Put and the ordered queries answer as the Spec does

`PInv t m`: the store `t` is empty and so is `m`, or it unfolds from `root.left` into a crit-bit tree
whose in-order leaves are exactly the Spec's association list `m` (`PInvS`, which names root and tree).
-/
namespace AlgoVerif.C06
variable {V : Type}
open BitString (xbit Small)

open PT

namespace Patricia

def setVal (t : Patricia V) (li : Nat) (v : V) : Patricia V :=
  { t with nodes := t.nodes.modify li fun n => { n with val := v } }

theorem setVal_nodes (t : Patricia V) (li : Nat) (v : V) (j : Nat) :
    (setVal t li v).nodes[j]? = if li = j then (t.nodes[j]?).map (fun n => { n with val := v }) else t.nodes[j]? := by
  simp [setVal, Array.getElem?_modify]

theorem setVal_links (t : Patricia V) (li : Nat) (v : V) {j : Nat} {n : PNode V} (hn : t.nodes[j]? = some n) :
    ∃ n', (setVal t li v).nodes[j]? = some n' ∧ n'.bp = n.bp ∧ ∀ d, link n' d = link n d := by
  rw [setVal_nodes]
  by_cases h : li = j
  · simp only [h, if_true, hn, Option.map_some]
    exact ⟨_, rfl, rfl, fun _ => rfl⟩
  · simp only [h, if_false]
    exact ⟨n, hn, rfl, fun _ => rfl⟩

theorem Rep.setVal_off {t : Patricia V} {X : PT V} {b : Nat} {p : Option Nat} (h : Rep t b p X) (j : Nat) (v : V)
    (hj : j ∉ leafIdx X) : Rep (setVal t j v) b p X := by
  rw [rep_eq] at h ⊢
  refine h.frame (fun i _ n hn => (setVal_links t j v hn).imp fun _ h => ⟨h.1, h.2.1, h.2.2 false, h.2.2 true⟩)
    fun i hi n hn => ?_
  rw [setVal_nodes, if_neg fun (e : j = i) => hj (e ▸ hi)]
  exact ⟨n, hn, rfl, rfl, fun _ _ hl => hl⟩

theorem rep_setVal_plug {t : Patricia V} {C : List (Step V)} {j : Nat} {k : Key} {v' : V} (v : V) {a : Nat × Bool} {an an' : PNode V}
    (ha : t.nodes[a.1]? = some an) (h : Rep t an.bp (link an a.2) (plug C (leaf j k v')))
    (hnd : (a.1 :: C.map (·.i)).Nodup) (hndl : (leafIdx (plug C (leaf j k v'))).Nodup)
    (ha' : (setVal t j v).nodes[a.1]? = some an') : Rep (setVal t j v) an'.bp (link an' a.2) (plug C (leaf j k v)) := by
  obtain ⟨hL, en, he, hp, n, hn, hb, hk, -⟩ := (rep_plug ha).mp h
  refine (rep_plug ha').mpr ⟨hL.frame hnd (fun i _ x hx => (setVal_links t j v hx).imp fun _ h => ⟨h.1, h.2.1, fun d _ => h.2.2 d⟩)
    (fun s hs b p hO => hO.setVal_off j v fun hm => ?_), ?_⟩
  · exact (List.nodup_append.mp ((leafIdx_plug_perm C _).nodup_iff.mp hndl)).2.2 j (List.mem_singleton_self j) j
      (List.mem_flatMap.mpr ⟨s, hs, hm⟩) rfl
  · obtain ⟨en', he', h1, h2⟩ := setVal_links t j v he
    exact ⟨en', he', (h2 _).trans hp, { n with val := v }, by simp [setVal_nodes, hn], h1 ▸ hb, hk, rfl⟩

/-- The non-empty store: root `r` (stored as `rn`), tree `T` below its left link.  The first eight fields say what the store
holds; the last six, that every Patricia node is the target of exactly one thread and lies above it: `remove` rests on
them, the other operations use one or the other as said below, and all have to keep them. -/
structure PInvS (t : Patricia V) (r : Nat) (rn : PNode V) (T : PT V) (m : Spec.Map V) : Prop where
  hroot : t.root = some r
  hrn : t.nodes[r]? = some rn
  /-- this and the next field: `patricia.go:31`, "The root node's bit position is always zero and it always only has a
  left child." -/
  hbp : rn.bp = 0
  hright : rn.right = none
  rep : Rep t 0 rn.left T
  /-- sortedness of `m`, and what `search`, `_put` and the string queries know of the keys along a path -/
  crit : Crit T
  ents : ents T = m
  size : t.size = m.length
  /-- with `rootNotInner`: root and inner nodes are distinct stored nodes, so that an update of one link leaves the rest of
  the tree alone (`RepG.redirect` asks for `(r :: inners T).Nodup`) -/
  nodupI : (inners T).Nodup
  /-- follows from `leafPerm`, `rootNotInner`, `nodupI`; writing a value leaves the other threads alone by it
  (`rep_setVal_plug`), and `remove` finds the removed leaf's node on the path (`inner_on_path`) -/
  nodupL : (leafIdx T).Nodup
  /-- also what tells the traversals, which treat the root apart, that they never meet it below `root.left` -/
  rootNotInner : r ∉ inners T
  /-- follows from `leafPerm` (`topLeaf_of_perm`): a tree of one leaf is the root's own thread, so that `Select` …
  `RangeSize`, which start at `root.left`, then start at the root -/
  topLeaf : ∀ i k v, T = .leaf i k v → i = r
  /-- `WithPrefix` reads the own key of the node it stops at, which is then a key below that node; `remove` finds the
  removed leaf's node above the leaf, and `Shape.toRep` gets the condition on upward links back from it -/
  selfBelow : SelfBelow T
  /-- the threads lead to the root and the inner nodes, each once: the structural traversals, which show nodes, show the
  held pairs; after `remove` the only thread out of the tree is the root's -/
  leafPerm : (leafIdx T).Perm (r :: inners T)

def PInv (t : Patricia V) (m : Spec.Map V) : Prop :=
  (t.root = none ∧ m = [] ∧ t.size = 0) ∨ ∃ r rn T, PInvS t r rn T m

theorem PInv.new : PInv (Patricia.new : Patricia V) [] := .inl ⟨rfl, rfl, rfl⟩

theorem PInvS.sorted {t : Patricia V} {r : Nat} {rn : PNode V} {T : PT V} {m : Spec.Map V} (h : PInvS t r rn T m) :
    Sorted m := h.ents ▸ PT.sorted_ents h.crit

theorem PInv.sorted {t : Patricia V} {m : Spec.Map V} (h : PInv t m) : Sorted m := by
  rcases h with ⟨_, rfl, _⟩ | ⟨r, rn, T, h⟩
  · exact Sorted.nil
  · exact h.sorted

/-- The invariant along a history in scope.  The second part is no property of the store and no operation but
`LongestPrefixOf` needs it: that one never tries the empty prefix, which the Spec would find. -/
structure PInvN (t : Patricia V) (m : Spec.Map V) : Prop where
  inv : PInv t m
  ne : ∀ e ∈ m, e.1 ≠ []

theorem PInvN.new : PInvN (Patricia.new : Patricia V) [] := ⟨PInv.new, by simp⟩

theorem PInvN.filter {t t' : Patricia V} {m : Spec.Map V} (h : PInvN t m) {q : Key × V → Bool} (h' : PInv t' (m.filter q)) :
    PInvN t' (m.filter q) := ⟨h', fun e he => h.ne e (List.mem_filter.mp he).1⟩

theorem PInvS.nodup {t : Patricia V} {r : Nat} {rn : PNode V} {T : PT V} {m : Spec.Map V} (h : PInvS t r rn T m) :
    (r :: inners T).Nodup := List.nodup_cons.mpr ⟨h.rootNotInner, h.nodupI⟩

theorem PInvS.innerNotRoot {t : Patricia V} {r : Nat} {rn : PNode V} {T : PT V} {m : Spec.Map V} (h : PInvS t r rn T m) :
    ∀ i ∈ inners T, some i ≠ t.root := by
  intro i hi heq
  rw [h.hroot] at heq
  exact h.rootNotInner (Option.some.inj heq ▸ hi)

theorem fuel_succ (t : Patricia V) : t.fuel = t.nodes.size + 1 := rfl

theorem above_zero_lt {t : Patricia V} {r : Nat} {rn : PNode V} (hrn : t.nodes[r]? = some rn) (hbp : rn.bp = 0) :
    above t 0 < t.nodes.size := by
  unfold above
  have hmem : rn ∈ t.nodes.toList := by
    rw [← Array.getElem?_toList] at hrn
    exact List.mem_of_getElem? hrn
  have h1 := countP_lt_of_witness (fun _ => true) (fun n : PNode V => decide (n.bp > 0)) t.nodes.toList
    (fun _ _ => rfl) rn hmem rfl (by simp [hbp])
  simpa using h1

/-- the Model's text as right side (to rewrite with; it has to follow the Model) -/
theorem travAsc_some {σ : Type} (t : Patricia V) (visit : σ → PNode V → σ × Bool) (f i : Nat) (s : σ) :
    t.travAsc visit (f + 1) (some i) s = (do
      let nn ← t.node (some i)
      let l ← t.node nn.left
      let isLeftThread := l.bp ≤ nn.bp
      let isRightThread ← (if some i != t.root then do let r ← t.node nn.right; pure (decide (r.bp ≤ nn.bp)) else pure false)
      let a ← (if isLeftThread then pure (visit s l) else travAsc t visit f nn.left s)
      if !a.2 then pure (a.1, false) else
      if isRightThread then do
        let r ← t.node nn.right
        pure (visit a.1 r)
      else travAsc t visit f nn.right a.1) := rfl

theorem travAsc_none {σ : Type} (t : Patricia V) (visit : σ → PNode V → σ × Bool) (f : Nat) (s : σ) :
    t.travAsc visit (f + 1) none s = .ok (s, true) := rfl

theorem travDesc_some {σ : Type} (t : Patricia V) (visit : σ → PNode V → σ × Bool) (f i : Nat) (s : σ) :
    t.travDesc visit (f + 1) (some i) s = (do
      let nn ← t.node (some i)
      let l ← t.node nn.left
      let isLeftThread := l.bp ≤ nn.bp
      let isRightThread ← (if some i != t.root then do let r ← t.node nn.right; pure (decide (r.bp ≤ nn.bp)) else pure false)
      let a ← (if isRightThread then do
          let r ← t.node nn.right
          pure (visit s r)
        else travDesc t visit f nn.right s)
      if !a.2 then pure (a.1, false) else
      if isLeftThread then pure (visit a.1 l) else travDesc t visit f nn.left a.1) := rfl

theorem travDesc_none {σ : Type} (t : Patricia V) (visit : σ → PNode V → σ × Bool) (f : Nat) (s : σ) :
    t.travDesc visit (f + 1) none s = .ok (s, true) := rfl

section
variable {t : Patricia V} {r : Nat} {rn : PNode V} {T : PT V} {m : Spec.Map V}

theorem travAsc_root {σ : Type} (h : PInvS t r rn T m) (visit : σ → PNode V → σ × Bool) (g : σ → Key → V → σ × Bool)
    (hv : ∀ s n, visit s n = g s n.key n.val) (s : σ) :
    t.travAsc visit t.fuel t.root s = .ok (foldE g m s) := by
  have hsz := lt_size_of_getElem? h.hrn
  obtain ⟨f, hf⟩ : ∃ f, t.nodes.size = f + 1 := ⟨t.nodes.size - 1, by omega⟩
  have hfuel : t.fuel = f + 1 + 1 := by unfold fuel; omega
  obtain ⟨nl, hnl, hL⟩ := travAsc_link visit g hv T 0 rn.left (f + 1) s h.rep h.innerNotRoot
    (by have := above_le_size t 0; omega)
  rw [hfuel, h.hroot, travAsc_some]
  simp only [h.hroot, node_some h.hrn, hnl, Outcome.ok_bind, Outcome.pure_eq, bne_self_eq_false, Bool.false_eq_true, if_false,
    h.hbp, h.hright, travAsc_none]
  rw [hL, h.ents]
  simp only [Outcome.ok_bind]
  cases h2 : (foldE g m s).2 <;> simp [← h2]

theorem travAsc_rootLeft {σ : Type} (h : PInvS t r rn T m) (visit : σ → PNode V → σ × Bool) (g : σ → Key → V → σ × Bool)
    (hv : ∀ s n, visit s n = g s n.key n.val) (s : σ) :
    t.rootLeft = .ok rn.left ∧ t.travAsc visit t.fuel rn.left s = .ok (foldE g m s) := by
  refine ⟨by simp [rootLeft, h.hroot, node_some h.hrn], ?_⟩
  cases hT : T with
  | leaf i k v =>
    have hrep := h.rep
    rw [hT] at hrep
    have : rn.left = some r := by rw [hrep.1, h.topLeaf i k v hT]
    rw [this, ← h.hroot]
    exact travAsc_root h visit g hv s
  | inner i bp l r' =>
    obtain ⟨nl, hnl, hL⟩ := travAsc_link visit g hv T 0 rn.left t.fuel s h.rep h.innerNotRoot
      (by have := above_le_size t 0; unfold fuel; omega)
    have hrep := h.rep
    rw [hT] at hrep
    obtain ⟨hp, n, hn, hbp, hb, _, _⟩ := hrep
    rw [hp, node_some hn] at hnl
    cases hnl
    have : ¬ nl.bp ≤ 0 := by omega
    simp only [this, if_false] at hL
    rw [hL, h.ents]

theorem travDesc_root {σ : Type} (h : PInvS t r rn T m) (visit : σ → PNode V → σ × Bool) (g : σ → Key → V → σ × Bool)
    (hv : ∀ s n, visit s n = g s n.key n.val) (s : σ) :
    t.travDesc visit t.fuel t.root s = .ok (foldE g m.reverse s) := by
  have hsz := lt_size_of_getElem? h.hrn
  obtain ⟨f, hf⟩ : ∃ f, t.nodes.size = f + 1 := ⟨t.nodes.size - 1, by omega⟩
  have hfuel : t.fuel = f + 1 + 1 := by unfold fuel; omega
  obtain ⟨nl, hnl, hL⟩ := travDesc_link visit g hv T 0 rn.left (f + 1) s h.rep h.innerNotRoot
    (by have := above_le_size t 0; omega)
  rw [hfuel, h.hroot, travDesc_some]
  simp only [h.hroot, node_some h.hrn, hnl, Outcome.ok_bind, Outcome.pure_eq, bne_self_eq_false, Bool.false_eq_true, if_false,
    h.hbp, h.hright, Bool.not_true, travDesc_none]
  rw [hL, h.ents]

theorem min_root (h : PInvS t r rn T m) : t.min = .ok m.head? := by
  have hsz := lt_size_of_getElem? h.hrn
  obtain ⟨nl, hnl, hL⟩ := minLoop_link T 0 rn.left t.nodes.size h.rep (above_le_size t 0)
  unfold Patricia.min
  rw [fuel_succ, h.hroot]
  simp only [minLoop, node_some h.hrn, hnl, Outcome.ok_bind, Outcome.pure_eq, h.hbp]
  rw [hL, h.ents]

theorem max_root (h : PInvS t r rn T m) : t.max = .ok m.getLast? := by
  have hsz := lt_size_of_getElem? h.hrn
  obtain ⟨nl, hnl, hL⟩ := maxLoop_link T 0 rn.left t.nodes.size h.rep h.innerNotRoot (above_le_size t 0)
  unfold Patricia.max
  rw [fuel_succ]
  simp only [maxLoop, h.hroot, node_some h.hrn, beq_self_eq_true, if_true, hnl, Outcome.ok_bind, Outcome.pure_eq, h.hbp]
  rw [hL, h.ents]

end

open Spec

section
variable {t : Patricia V} {r : Nat} {rn : PNode V} {T : PT V} {m : Spec.Map V}

theorem PInvS.key_path (h : PInvS t r rn T m) (key : Key) :
    ∃ C j k v n, (∀ s ∈ C, s.d = xbit key (s.bp - 1)) ∧ T = plug C (leaf j k v) ∧ t.search key = .ok (some j) ∧
      t.nodes[j]? = some n ∧ n.key = k ∧ n.val = v ∧ (k, v) ∈ m ∧ (k ≠ key → ∀ e ∈ m, e.1 ≠ key) := by
  obtain ⟨C, j, k, v, hC, hT⟩ := exists_plug (fun bp => xbit key (bp - 1)) T
  have hrep : Rep t rn.bp (link rn false) (plug C (leaf j k v)) := by rw [← hT, h.hbp]; exact h.rep
  obtain ⟨-, -, -, -, n, hn, -, hk, hv⟩ := (rep_plug (a := (r, false)) h.hrn).mp hrep
  refine ⟨C, j, k, v, n, hC, hT, ?_, hn, hk, hv, ?_, fun hne e he heq => ?_⟩
  · unfold search
    rw [h.hroot]
    simp only [node_some h.hrn, Outcome.ok_bind]
    exact searchLoop_plug hC hrep (by rw [h.hbp]; have := above_le_size t 0; unfold fuel; omega)
  · rw [← h.ents, hT]
    exact (ents_plug_perm C _).symm.subset (List.mem_append_left _ (List.mem_singleton_self _))
  · rw [← h.ents, hT] at he
    exact hne (List.mem_singleton.mp (mem_keys_end (hT ▸ h.crit) hC (heq ▸ List.mem_map.mpr ⟨e, he, rfl⟩))).symm

theorem get_root (h : PInvS t r rn T m) (key : Key) : t.get key = .ok (Map.get m key) := by
  obtain ⟨C, j, k, v, n, -, -, hs, hn, hk, hv, hmem, habs⟩ := h.key_path key
  unfold Patricia.get
  rw [hs]
  simp only [Outcome.ok_bind, node_some hn, Outcome.pure_eq, hk, hv]
  congr 1
  by_cases he : BitString.equal k key = true
  · rw [if_pos he, ← (BitString.equal_iff _ _).mp he]
    exact ((Map.get_eq_some h.sorted _ _).mpr hmem).symm
  · rw [if_neg he]
    exact (Map.get_of_ne (habs fun e => he ((BitString.equal_iff _ _).mpr e))).symm

end

theorem put_empty (t : Patricia V) (hr : t.root = none) (key : Key) (hsk : Small key) (v : V) :
    ∃ t', t.put key v = .ok t' ∧ PInv t' (Map.put [] key v) := by
  refine ⟨Patricia.mk 1 (some t.nodes.size) (t.nodes.push (PNode.mk 0 key v (some t.nodes.size) none)),
    by simp [Patricia.put, hr], .inr ⟨t.nodes.size,
    { bp := 0, key := key, val := v, left := some t.nodes.size, right := none }, .leaf t.nodes.size key v, ?_⟩⟩
  have hnode : (t.nodes.push ({ bp := 0, key := key, val := v, left := some t.nodes.size, right := none } : PNode V))[t.nodes.size]?
      = some { bp := 0, key := key, val := v, left := some t.nodes.size, right := none } := by simp
  exact {
    hroot := rfl, hrn := hnode, hbp := rfl, hright := rfl,
    rep := ⟨rfl, _, hnode, Nat.le_refl _, rfl, rfl⟩,
    crit := hsk, ents := rfl, size := rfl,
    nodupI := by simp [inners], nodupL := by simp [leafIdx],
    rootNotInner := by simp [inners],
    topLeaf := by intro i k v' h; cases h; rfl,
    selfBelow := trivial,
    leafPerm := by simp [leafIdx, inners] }

section
variable {t : Patricia V} {r : Nat} {rn : PNode V} {T : PT V} {m : Spec.Map V}

theorem PInvS.update {C : List (Step V)} {j : Nat} {key : Key} {v' : V} (h : PInvS t r rn (plug C (leaf j key v')) m) (v : V)
    (hC : ∀ s ∈ C, s.d = xbit key (s.bp - 1)) : PInv (setVal t j v) (Map.put m key v) := by
  obtain ⟨rn', hrn', hbp', hl'⟩ := setVal_links t j v h.hrn
  have hrep := rep_setVal_plug v (a := (r, false)) h.hrn (by rw [h.hbp]; exact h.rep)
    (nodup_path h.nodup) h.nodupL hrn'
  have hcrit : Crit (plug C (leaf j key v)) :=
    crit_replug h.crit (crit_plug h.crit : Crit (leaf j key v')) fun k' hk' => ⟨k', hk', fun _ _ _ _ => rfl⟩
  obtain ⟨i1, i2, i3, i4, i5, i6⟩ := index_replug (X' := leaf j key v) (as := []) (C := C) (.refl _) (.refl _) trivial
    h.selfBelow h.leafPerm h.nodup
  have hents : PT.ents (plug C (leaf j key v)) = Map.put m key v := by
    apply Sorted.ext (PT.sorted_ents hcrit) (Map.put_sorted h.sorted _ _)
    intro e
    have hoff : e ∈ C.flatMap (fun s => PT.ents s.O) → e.1 ≠ key := fun he heq =>
      have ⟨s, hs, he⟩ := List.mem_flatMap.mp he
      crit_off_ne h.crit hC s hs (heq ▸ List.mem_map.mpr ⟨e, he, rfl⟩)
    rw [Map.put_mem h.sorted, ← h.ents, (ents_plug_perm C _).mem_iff, (ents_plug_perm C _).mem_iff]
    simp only [PT.ents, List.mem_append, List.mem_singleton]
    constructor
    · rintro (rfl | he)
      · exact .inl rfl
      · exact .inr ⟨.inr he, hoff he⟩
    · rintro (rfl | ⟨rfl | he, hne⟩)
      · exact .inl rfl
      · exact absurd rfl hne
      · exact .inr he
  exact .inr ⟨r, rn', _, {
    hroot := h.hroot, hrn := hrn', hbp := hbp'.trans h.hbp, hright := (hl' true).trans h.hright,
    rep := by rw [hbp', h.hbp] at hrep; exact hrep
    crit := hcrit, ents := hents,
    size := by
      have := (ents_plug_perm C (leaf j key v')).length_eq
      rw [← hents, (ents_plug_perm C _).length_eq]
      exact h.size.trans (by rw [← h.ents, this]; rfl)
    nodupI := i1, nodupL := i2, rootNotInner := i3, topLeaf := i6, selfBelow := i4, leafPerm := i5 }⟩

theorem PInvS.insert {C : List (Step V)} {X : PT V} (h : PInvS t r rn (plug C X) m) {key : Key} (hsk : Small key) (v : V)
    {k0 : Key} {d : Nat} (h1 : ∀ s ∈ C, s.bp < d) (hbig : ∀ i bp l r, X = .inner i bp l r → d < bp) (hk0 : k0 ∈ keys X)
    (hd : 1 ≤ d) (hdiff : xbit k0 (d - 1) ≠ xbit key (d - 1)) (hsame : ∀ j, j < d - 1 → xbit k0 j = xbit key j)
    (habs : ∀ e ∈ m, e.1 ≠ key) (hlt : ∀ en, t.nodes[(endOwner (r, false) C).1]? = some en → en.bp < d) :
    PInv { setLink (pushed t (newNode key v d (some X.idx) t.nodes.size))
      (endOwner (r, false) C).1 (endOwner (r, false) C).2 (some t.nodes.size) with size := t.size + 1 }
      (Map.put m key v) := by
  have hnd : (r :: inners (plug C X)).Nodup := h.nodup
  obtain ⟨rn', hrn', hbp', -, -, hl'⟩ := redirect_pushed t (newNode key v d (some X.idx) t.nodes.size)
    (endOwner (r, false) C).1 (endOwner (r, false) C).2 (some t.nodes.size) r rn h.hrn
  have hrep := rep_ins_plug (key := key) (v := v) (a := (r, false)) h.hrn (by rw [h.hbp]; exact h.rep) hnd hlt hbig hrn'
  rw [hbp', h.hbp] at hrep
  have hright' : rn'.right = none :=
    (hl' true).trans ((if_neg (endOwner_ne_other (a := (r, false)) (C := C) fun hm =>
      h.rootNotInner ((inners_plug_perm _ _).symm.subset (List.mem_append_left _ hm)))).trans h.hright)
  have hcrit' : Crit (plug C (graft X key v d t.nodes.size)) :=
    crit_replug h.crit (crit_graft (crit_plug h.crit) hsk v _ hd hbig hk0 hdiff hsame) fun k' hk' => by
      rcases List.mem_cons.mp (((ents_graft X key v d _).map (·.1)).subset hk') with rfl | hk'
      · exact ⟨k0, hk0, fun c hc j hj => (hsame j (by have := h1 c hc; omega)).symm⟩
      · exact ⟨k', hk', fun _ _ _ _ => rfl⟩
  have hE := ents_replug (ents_graft X key v d t.nodes.size) C
  have hents : PT.ents (plug C (graft X key v d t.nodes.size)) = Map.put m key v := by
    apply Sorted.ext (PT.sorted_ents hcrit') (Map.put_sorted h.sorted _ _)
    intro e
    rw [hE.mem_iff, Map.put_mem_of_absent h.sorted v habs, h.ents]
    exact List.mem_cons
  have hsz := lt_size_of_getElem? h.hrn
  obtain ⟨i1, i2, i3, i4, i5, i6⟩ := index_replug (C := C) (leafIdx_graft X key v d t.nodes.size)
    (inners_graft X key v d t.nodes.size)
    (selfBelow_fork.mpr ⟨by simp [leafIdx], trivial, selfBelow_plug h.selfBelow⟩)
    h.selfBelow h.leafPerm (List.nodup_cons.mpr ⟨fun hm => by
      rcases List.mem_cons.mp hm with e | hm
      · omega
      · have := h.rep.valid _ (List.mem_append_right _ hm); omega, hnd⟩)
  exact .inr ⟨r, rn', _, {
    hroot := ((setLink_root ..).1).trans h.hroot, hrn := hrn', hbp := hbp'.trans h.hbp, hright := hright',
    rep := hrep.resize _
    crit := hcrit', ents := hents,
    size := by
      show t.size + 1 = _
      rw [← hents, hE.length_eq, h.ents, h.size]; simp
    nodupI := i1, nodupL := i2, rootNotInner := i3, topLeaf := i6, selfBelow := i4, leafPerm := i5 }⟩

theorem put_root (h : PInvS t r rn T m) (key : Key) (hsk : Small key) (v : V) :
    ∃ t', t.put key v = .ok t' ∧ PInv t' (Map.put m key v) := by
  obtain ⟨P, j, k0, v', n, hP, rfl, hs, hn, hk, -, hmem, habs⟩ := h.key_path key
  unfold Patricia.put
  rw [h.hroot]
  simp only [hs, Outcome.ok_bind, node_some hn, hk]
  by_cases he : BitString.equal k0 key = true
  · obtain rfl := (BitString.equal_iff _ _).mp he
    simp only [he, if_true, Outcome.pure_eq]
    exact ⟨_, rfl, by rw [← h.hroot]; exact h.update v hP⟩
  · have hne : k0 ≠ key := fun e => he ((BitString.equal_iff _ _).mpr e)
    obtain ⟨p, hp⟩ : ∃ p, BitString.diffPos k0 key = p + 1 :=
      ⟨BitString.diffPos k0 key - 1, by have := mt (BitString.diffPos_eq_zero_iff _ _).mp hne; omega⟩
    obtain ⟨hdiff, hsame⟩ := BitString.diffPos_succ _ _ (h.crit.small _ (List.mem_map.mpr ⟨_, h.ents ▸ hmem, rfl⟩)) hsk _ hp
    -- the key's path, split where the descent of `_put` stops
    obtain ⟨C1, C2, rfl, h1, h2⟩ := split_first (fun s : Step V => s.bp < p + 1) P
    have hrep : Rep t rn.bp (link rn false) (plug (C1 ++ C2) (leaf j k0 v')) := by rw [h.hbp]; exact h.rep
    have hloop : putLoop t key (p + 1) t.fuel (some r) rn.left =
        .ok (some (endOwner (r, false) C1).1, some (plug C2 (leaf j k0 v')).idx) :=
      putLoop_plug hP h1 h2 (a := (r, false)) h.hrn hrep (by rw [h.hbp]; have := above_le_size t 0; unfold fuel; omega)
    rw [plug_append] at h hrep
    obtain ⟨ppn, hppn, hnext, hend⟩ := end_node (a := (r, false)) h.hrn hrep h.crit
    have hppbp : ∀ en, t.nodes[(endOwner (r, false) C1).1]? = some en → en.bp < p + 1 := fun en hen => by
      obtain rfl : ppn = en := Option.some.inj (hppn.symm.trans hen)
      rcases hend with ⟨-, rfl⟩ | ⟨c, hc, hb, -⟩
      · rw [h.hbp]; omega
      · rw [hb]; exact h1 c hc
    have he' : BitString.equal k0 key = false := by simpa using he
    simp only [he', Bool.false_eq_true, if_false, hp, node_some h.hrn, Outcome.ok_bind, hloop, BitString.bit_succ, Outcome.pure_eq,
      node_some hppn]
    rw [setLink_of_test hnext fun hd => by
      rcases hend with ⟨rfl, -⟩ | ⟨c, -, -, hne⟩
      · cases hd
      · exact hne hd]
    -- an inner node where the descent stops lies beyond `p + 1`: the key its path ends at agrees with `key` there
    have hbig : ∀ i bp l r', plug C2 (leaf j k0 v') = .inner i bp l r' → p + 1 < bp := by
      intro i bp l r' e
      obtain ⟨s, D, rfl, hbp⟩ := plug_eq_inner e
      have hs := (crit_steps (crit_plug h.crit) s (by simp)).2 k0 (by simp)
      rw [hP s (by simp)] at hs
      have hne : s.bp ≠ p + 1 := fun e' => hdiff (by rw [e', Nat.add_sub_cancel] at hs; exact hs)
      have := h2 s D rfl
      omega
    refine ⟨_, ?_, h.insert hsk v h1 hbig ((keys_plug_perm C2 _).symm.subset (List.mem_append_left _ (List.mem_singleton_self _)))
      (by omega) hdiff hsame (habs hne) hppbp⟩
    simp only [pushed, newNode, Nat.add_sub_cancel, h.hroot]

end

section
variable {t : Patricia V} {m : Spec.Map V}

theorem floor_sim (h : PInv t m) (key : Key) : t.floor key = .ok (m.floor key) := by
  unfold Patricia.floor
  rcases h with ⟨hr, rfl, _⟩ | ⟨r, rn, T, h⟩
  · simp [hr, fuel_succ, travAsc_none, Map.floor]
  · rw [travAsc_root h _ (fun s k v => if klt key k then (s, false) else (some (k, v), true)) (fun _ _ => rfl)]
    simp only [Outcome.ok_bind, Outcome.pure_eq, foldE_floor key m h.sorted]
    simp [Map.floor]

theorem ceiling_sim (h : PInv t m) (key : Key) : t.ceiling key = .ok (m.ceiling key) := by
  unfold Patricia.ceiling
  rcases h with ⟨hr, rfl, _⟩ | ⟨r, rn, T, h⟩
  · simp [hr, fuel_succ, travDesc_none, Map.ceiling]
  · rw [travDesc_root h _ (fun s k v => if klt k key then (s, false) else (some (k, v), true)) (fun _ _ => rfl)]
    simp only [Outcome.ok_bind, Outcome.pure_eq, (foldE_ceiling key m h.sorted none).1]
    simp [Map.ceiling]

theorem all_sim (h : PInv t m) : t.all = .ok m := by
  unfold Patricia.all
  rcases h with ⟨hr, rfl, _⟩ | ⟨r, rn, T, h⟩
  · simp [hr, fuel_succ, travAsc_none]
  · rw [travAsc_root h _ (fun kvs k v => (kvs ++ [(k, v)], true)) (fun _ _ => rfl)]
    simp [foldE_all]

theorem min_sim (h : PInv t m) : t.min = .ok m.min := by
  rcases h with ⟨hr, rfl, _⟩ | ⟨r, rn, T, h⟩
  · simp [Patricia.min, hr, fuel_succ, minLoop, Map.min]
  · exact min_root h

theorem max_sim (h : PInv t m) : t.max = .ok m.max := by
  rcases h with ⟨hr, rfl, _⟩ | ⟨r, rn, T, h⟩
  · simp [Patricia.max, hr, fuel_succ, maxLoop, Map.max]
  · exact max_root h

theorem select_sim (h : PInv t m) (rank : Int) : t.select rank = .ok (m.select rank) := by
  unfold Patricia.select Map.select
  rcases h with ⟨hr, rfl, _⟩ | ⟨r, rn, T, h⟩
  · simp [hr]
  · by_cases h1 : rank < 0
    · simp [h1]
    · by_cases h2 : rank ≥ t.size
      · have : m[rank.toNat]? = none := by
          rw [List.getElem?_eq_none_iff]; rw [h.size] at h2; omega
        simp [h1, h2, this]
      · obtain ⟨hrl, htr⟩ := travAsc_rootLeft h (fun (s : Int × Option (Key × V)) n =>
          if s.1 == rank then ((s.1, some (n.key, n.val)), false) else ((s.1 + 1, s.2), true))
          (fun (s : Int × Option (Key × V)) k v =>
            if s.1 == rank then ((s.1, some (k, v)), false) else ((s.1 + 1, s.2), true)) (fun _ _ => rfl) (0, none)
        simp only [h.hroot, Option.isNone_some, h1, h2, decide_false, Bool.or_self, Bool.false_eq_true, if_false,
          hrl, Outcome.ok_bind, htr, Outcome.pure_eq, foldE_select rank m 0 (by omega)]
        simp

theorem rank_sim (h : PInv t m) (key : Key) : t.rank key = .ok (m.rank key) := by
  unfold Patricia.rank
  rcases h with ⟨hr, rfl, _⟩ | ⟨r, rn, T, h⟩
  · simp [hr, Map.rank]
  · obtain ⟨hrl, htr⟩ := travAsc_rootLeft h (fun (i : Int) n => if kle key n.key then (i, false) else (i + 1, true))
      (fun (i : Int) k _ => if kle key k then (i, false) else (i + 1, true)) (fun _ _ => rfl) 0
    simp only [h.hroot, Option.isNone_some, Bool.false_eq_true, if_false, hrl, Outcome.ok_bind, htr, Outcome.pure_eq,
      foldE_rank key m h.sorted]
    simp [Map.rank]

theorem range_sim (h : PInv t m) (lo hi : Key) : t.range lo hi = .ok (m.range lo hi) := by
  unfold Patricia.range
  rcases h with ⟨hr, rfl, _⟩ | ⟨r, rn, T, h⟩
  · simp [hr, Map.range]
  · obtain ⟨hrl, htr⟩ := travAsc_rootLeft h (fun (kvs : List (Key × V)) n =>
        if kle lo n.key && kle n.key hi then (kvs ++ [(n.key, n.val)], true)
        else if klt hi n.key then (kvs, false) else (kvs, true))
      (fun (kvs : List (Key × V)) k v =>
        if kle lo k && kle k hi then (kvs ++ [(k, v)], true)
        else if klt hi k then (kvs, false) else (kvs, true)) (fun _ _ => rfl) []
    simp only [h.hroot, Option.isNone_some, Bool.false_eq_true, if_false, hrl, Outcome.ok_bind, htr, Outcome.pure_eq,
      foldE_range lo hi m h.sorted]
    simp [Map.range]

theorem rangeSize_sim (h : PInv t m) (lo hi : Key) : t.rangeSize lo hi = .ok (m.rangeSize lo hi) := by
  unfold Patricia.rangeSize
  rcases h with ⟨hr, rfl, _⟩ | ⟨r, rn, T, h⟩
  · simp [hr, Map.rangeSize, Map.range]
  · obtain ⟨hrl, htr⟩ := travAsc_rootLeft h (fun (i : Int) n =>
        if kle lo n.key && kle n.key hi then (i + 1, true)
        else if klt hi n.key then (i, false) else (i, true))
      (fun (i : Int) k _ =>
        if kle lo k && kle k hi then (i + 1, true)
        else if klt hi k then (i, false) else (i, true)) (fun _ _ => rfl) 0
    simp only [h.hroot, Option.isNone_some, Bool.false_eq_true, if_false, hrl, Outcome.ok_bind, htr, Outcome.pure_eq,
      foldE_rangeSize lo hi m h.sorted]
    simp [Map.rangeSize, Map.range]

theorem get_sim (h : PInv t m) (key : Key) : t.get key = .ok (Map.get m key) := by
  rcases h with ⟨hr, rfl, _⟩ | ⟨r, rn, T, h⟩
  · simp [Patricia.get, search, hr, Map.get]
  · exact get_root h key

theorem size_sim (h : PInv t m) : t.size = m.size := by
  rcases h with ⟨_, rfl, hs⟩ | ⟨r, rn, T, h⟩
  · simp [hs, Map.size]
  · exact h.size

theorem put_sim (h : PInv t m) (key : Key) (hsk : Small key) (v : V) :
    ∃ t', t.put key v = .ok t' ∧ PInv t' (Map.put m key v) := by
  rcases h with ⟨hr, rfl, _⟩ | ⟨r, rn, T, h⟩
  · exact put_empty t hr key hsk v
  · exact put_root h key hsk v

end

end Patricia
end AlgoVerif.C06
