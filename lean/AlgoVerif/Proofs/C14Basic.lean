import AlgoVerif.Spec.C14
namespace AlgoVerif.C14

theorem size_set! {α : Type} (a : Array α) (i : Nat) (v : α) : (a.set! i v).size = a.size := by
  simp [Array.set!_eq_setIfInBounds]

theorem getElem?_set! {α : Type} (a : Array α) (i j : Nat) (v : α) :
    (a.set! i v)[j]? = if i = j then (if i < a.size then some v else none) else a[j]? := by
  rw [Array.set!_eq_setIfInBounds, Array.getElem?_setIfInBounds]

theorem getElem?_set!_ne {α : Type} (a : Array α) {i j : Nat} (v : α) (h : i ≠ j) :
    (a.set! i v)[j]? = a[j]? := by
  rw [getElem?_set!]; simp [h]

theorem getElem?_set!_self {α : Type} (a : Array α) {i : Nat} (v : α) (h : i < a.size) :
    (a.set! i v)[i]? = some v := by
  rw [getElem?_set!]; simp [h]

theorem getD_of_lt {α : Type} (a : Array α) {i : Nat} (d : α) (h : i < a.size) : a[i]? = some (a.getD i d) := by
  rw [Array.getD_eq_getD_getElem?, Array.getElem?_eq_getElem h]; rfl

theorem getD_of_getElem? {α : Type} {a : Array α} {i : Nat} {x : α} (d : α) (e : a[i]? = some x) : a.getD i d = x := by
  rw [Array.getD_eq_getD_getElem?, e]; rfl

theorem getD_of_ge {α : Type} (a : Array α) {i : Nat} (d : α) (h : a.size ≤ i) : a.getD i d = d := by
  rw [Array.getD_eq_getD_getElem?, Array.getElem?_eq_none h]; rfl

theorem getD_set! {α : Type} (a : Array α) (i j : Nat) (v d : α) :
    (a.set! i v).getD j d = if i = j ∧ i < a.size then v else a.getD j d := by
  rw [Array.getD_eq_getD_getElem?, Array.getD_eq_getD_getElem?, getElem?_set!]
  by_cases hij : i = j
  · subst hij; by_cases hi : i < a.size <;> simp [hi]
  · simp [hij]

theorem getD_set!_lt {α : Type} {a : Array α} {i : Nat} (h : i < a.size) (j : Nat) (v d : α) :
    (a.set! i v).getD j d = if j = i then v else a.getD j d := by
  rw [getD_set!]
  by_cases e : j = i
  · rw [if_pos e, if_pos ⟨e.symm, h⟩]
  · rw [if_neg e, if_neg fun h' => e h'.1.symm]

theorem getD_modify {α : Type} (a : Array α) (i x : Nat) (f : α → α) (d : α) (hx : x < a.size) :
    (a.modify i f).getD x d = if i = x then f (a.getD x d) else a.getD x d := by
  rw [Array.getD_eq_getD_getElem?, Array.getD_eq_getD_getElem?, Array.getElem?_modify, Array.getElem?_eq_getElem hx]
  split <;> rfl

theorem getD_replicate {α : Type} (n i : Nat) (v : α) : (Array.replicate n v).getD i v = v := by
  rw [Array.getD_eq_getD_getElem?, Array.getElem?_replicate]; split <;> rfl

theorem upd_some {α : Type} {f f' : Nat → Option α} {w : Nat} {o : Option α}
    (h : ∀ v, f' v = if v = w then o else f v) {v : Nat} {a : α} (hv : f' v = some a) :
    (v = w ∧ o = some a) ∨ (v ≠ w ∧ f v = some a) := by
  rw [h] at hv
  split at hv
  · exact .inl ⟨‹_›, hv⟩
  · exact .inr ⟨‹_›, hv⟩

/-- `visited[x]` is in range and `true` -/
def Vis (a : Array Bool) (x : Nat) : Prop := a[x]? = some true

/-- number of unvisited vertices -/
def cntF (a : Array Bool) : Nat := a.count false

theorem vis_lt {a : Array Bool} {x : Nat} (h : Vis a x) : x < a.size :=
  (Array.getElem?_eq_some_iff.1 h).1

theorem vis_set {a : Array Bool} {i x : Nat} :
    Vis (a.set! i true) x ↔ (i = x ∧ i < a.size) ∨ Vis a x := by
  unfold Vis
  rw [Array.set!_eq_setIfInBounds, Array.getElem?_setIfInBounds]
  by_cases h : i = x
  · subst h
    by_cases h2 : i < a.size
    · simp [h2]
    · simp [h2]
  · simp [h]

theorem vis_set_cases {a : Array Bool} {i x : Nat} (h : Vis (a.set! i true) x) : x = i ∨ Vis a x :=
  (vis_set.1 h).imp (fun h => h.1.symm) id

theorem vis_set_of_vis {a : Array Bool} {i x : Nat} (h : Vis a x) : Vis (a.set! i true) x :=
  vis_set.2 (Or.inr h)

theorem vis_set_self {a : Array Bool} {i : Nat} (h : i < a.size) : Vis (a.set! i true) i :=
  vis_set.2 (Or.inl ⟨rfl, h⟩)

theorem cntF_set {a : Array Bool} {i : Nat} (h : a[i]? = some false) :
    cntF (a.set! i true) + 1 = cntF a := by
  obtain ⟨hi, hget⟩ := Array.getElem?_eq_some_iff.1 h
  unfold cntF
  rw [Array.set!_eq_setIfInBounds]
  have : a.setIfInBounds i true = a.set i true hi := by
    simp [Array.setIfInBounds, hi]
  rw [this, Array.count_set hi]
  simp [hget]
  have hpos : 0 < Array.count false a := by
    apply Array.count_pos_iff.2
    exact hget ▸ Array.getElem_mem hi
  omega

theorem cntF_le_size (a : Array Bool) : cntF a ≤ a.size := Array.count_le_size

/-- the fuel `n + 1` the Model gives every traversal is enough wherever it starts -/
theorem cntF_le_succ {a : Array Bool} {n : Nat} (h : a.size = n) : cntF a ≤ n + 1 :=
  h ▸ Nat.le_succ_of_le (cntF_le_size a)

theorem not_vis_of_false {a : Array Bool} {x : Nat} (h : a[x]? = some false) : ¬ Vis a x := by
  unfold Vis; rw [h]; simp

theorem vis_or_false {a : Array Bool} {x : Nat} (h : x < a.size) : Vis a x ∨ a[x]? = some false := by
  unfold Vis
  rw [Array.getElem?_eq_getElem h]
  cases a[x] <;> simp

theorem vis_replicate_false {n x : Nat} : ¬ Vis (Array.replicate n false) x := by
  unfold Vis
  rw [Array.getElem?_replicate]
  split <;> simp

theorem replicate_false_get {n s : Nat} (hs : s < n) : (Array.replicate n false)[s]? = some false := by
  rw [Array.getElem?_replicate]; simp [hs]

theorem Reach.single {E : Nat → Nat → Prop} {u v : Nat} (h : E u v) : Reach E u v :=
  .tail (.refl u) h

theorem Reach.closed {E : Nat → Nat → Prop} {S : Nat → Prop} (hS : ∀ a b, S a → E a b → S b)
    {u v : Nat} (h : Reach E u v) (hu : S u) : S v := by
  induction h with
  | refl => exact hu
  | tail _ e ih => exact hS _ _ ih e

theorem Reach.trans {E : Nat → Nat → Prop} {u v w : Nat} (h1 : Reach E u v) (h2 : Reach E v w) :
    Reach E u w :=
  h2.closed (fun _ _ h e => .tail h e) h1

theorem Reach.head {E : Nat → Nat → Prop} {u v w : Nat} (e : E u v) (h : Reach E v w) : Reach E u w :=
  (Reach.single e).trans h

theorem Reach.mono {E E' : Nat → Nat → Prop} (hE : ∀ a b, E a b → E' a b) {u v : Nat}
    (h : Reach E u v) : Reach E' u v :=
  h.closed (fun _ _ h e => .tail h (hE _ _ e)) (.refl u)

theorem Reach.symm {E : Nat → Nat → Prop} (hE : ∀ a b, E a b → E b a) {u v : Nat}
    (h : Reach E u v) : Reach E v u :=
  h.closed (S := fun x => Reach E x u) (fun _ _ h e => Reach.head (hE _ _ e) h) (.refl u)

theorem Reach.reverse {E : Nat → Nat → Prop} {u v : Nat} (h : Reach (fun p q => E q p) u v) :
    Reach E v u :=
  h.closed (S := fun x => Reach E x u) (fun _ _ h e => Reach.head e h) (.refl u)

theorem IsWalk.snoc {E : Nat → Nat → Prop} {p : List Nat} {y x : Nat}
    (hw : IsWalk E p) (hl : p.getLast? = some y) (e : E y x) : IsWalk E (p ++ [x]) := by
  induction p with
  | nil => simp at hl
  | cons a r ih =>
    cases r with
    | nil =>
      simp at hl; subst hl
      simp [IsWalk, e]
    | cons b r' =>
      simp only [IsWalk] at hw
      have hl' : (b :: r').getLast? = some y := by simpa [List.getLast?_cons_cons] using hl
      have := ih hw.2 hl'
      simp only [List.cons_append, IsWalk]
      exact ⟨hw.1, this⟩

theorem WalkFromTo.snoc {E : Nat → Nat → Prop} {s y x : Nat} {p : List Nat}
    (h : WalkFromTo E s y p) (e : E y x) : WalkFromTo E s x (p ++ [x]) := by
  obtain ⟨h1, h2, h3⟩ := h
  refine ⟨?_, by simp, h3.snoc h2 e⟩
  cases p with
  | nil => simp at h1
  | cons a r => simpa using h1

theorem WalkFromTo.single (E : Nat → Nat → Prop) (s : Nat) : WalkFromTo E s s [s] := by
  simp [WalkFromTo, IsWalk]

theorem WalkFromTo.reach {E : Nat → Nat → Prop} {s v : Nat} {p : List Nat}
    (h : WalkFromTo E s v p) : Reach E s v := by
  obtain ⟨h1, h2, h3⟩ := h
  induction p generalizing s with
  | nil => simp at h1
  | cons a r ih =>
    simp at h1; subst h1
    cases r with
    | nil => simp at h2; subst h2; exact .refl _
    | cons b r' =>
      simp only [IsWalk] at h3
      have h2' : (b :: r').getLast? = some v := by simpa [List.getLast?_cons_cons] using h2
      exact Reach.head h3.1 (ih (by simp) h2' h3.2)

theorem nodup_reverse {l : List Nat} (h : l.Nodup) : l.reverse.Nodup :=
  List.pairwise_reverse.2 (h.imp Ne.symm)

theorem append_cons_inj_of_not_mem {v : Nat} : ∀ {p p' s s' : List Nat}, v ∉ p → v ∉ p' →
    p ++ v :: s = p' ++ v :: s' → p = p' ∧ s = s' := by
  intro p
  induction p with
  | nil =>
    intro p' s s' _ h2 e
    cases p' with
    | nil => simpa using e
    | cons a r =>
      simp at e
      exact absurd (by simp [e.1]) h2
  | cons a r ih =>
    intro p' s s' h1 h2 e
    cases p' with
    | nil =>
      simp at e
      exact absurd (by simp [e.1]) h1
    | cons b r' =>
      simp only [List.cons_append, List.cons.injEq] at e
      have := ih (fun h => h1 (by simp [h])) (fun h => h2 (by simp [h])) e.2
      exact ⟨by rw [e.1, this.1], this.2⟩

theorem Graph.WF.adj_get {g : Graph} (hg : g.WF) {v : Nat} (hv : v < g.n) :
    g.adj[v]? = some (g.adj.getD v []) :=
  getD_of_lt _ _ (hg.size ▸ hv)

theorem Graph.HasArc.of_mem {g : Graph} {v : Nat} {x : Arc} (h : x ∈ g.adj.getD v []) :
    g.HasArc v x.to := ⟨x, h, rfl⟩

theorem Graph.WF.arc_lt {g : Graph} (hg : g.WF) {u v : Nat} (h : g.HasArc u v) : v < g.n := by
  obtain ⟨x, hx, rfl⟩ := h
  exact hg.bound u x hx

theorem Graph.WF.src_lt {g : Graph} (hg : g.WF) {u v : Nat} (h : g.HasArc u v) : u < g.n := by
  obtain ⟨x, hx, _⟩ := h
  rw [← hg.size]
  refine Nat.lt_of_not_le fun hu => ?_
  rw [getD_of_ge _ _ hu] at hx
  exact absurd hx List.not_mem_nil

theorem valid_iff {g : Graph} {v : Int} : g.isVertexValid v = true ↔ 0 ≤ v ∧ v < (g.n : Int) := by
  simp [Graph.isVertexValid]

/-- visitors that never answer `false`, i.e. never stop the traversal: those of `Paths`, `Orders` and the component numbering -/
structure Visitors.AllTrue {σ : Type} (vis : Visitors σ) : Prop where
  pre : ∀ v s, (callV vis.pre v s).2 = true
  post : ∀ v s, (callV vis.post v s).2 = true
  edge : ∀ v w wt s, (callE vis.edge v w wt s).2 = true

/-- The rule for the `for … range` loops of the Go code, which the Model writes as recursions over a list: the loops over
`adj[v]` (DFS, DFSi/BFS, Prim, Dijkstra) and the loops `for v { if !visited[v] { run(v) } }` over the vertices (components,
`Orders`, `DirectedCycle`, Prim). -/
theorem list_loop_inv {α σ τ : Type} {loop : List α → σ → Outcome τ} {ret : σ → τ} (hnil : ∀ s, loop [] s = .ok (ret s))
    {I : List α → σ → Prop} (all : List α)
    (step : ∀ done x rest s, all = done ++ x :: rest → I done s →
      ∃ s', loop (x :: rest) s = loop rest s' ∧ I (done ++ [x]) s')
    (s : σ) (h0 : I [] s) : ∃ s', loop all s = .ok (ret s') ∧ I all s' := by
  suffices h : ∀ rest done s, all = done ++ rest → I done s → ∃ s', loop rest s = .ok (ret s') ∧ I all s' from
    h all [] s rfl h0
  intro rest
  induction rest with
  | nil => intro done s h hI; exact ⟨s, hnil s, by rwa [h, List.append_nil]⟩
  | cons x rest ih =>
    intro done s h hI
    obtain ⟨s', e, hI'⟩ := step done x rest s h hI
    obtain ⟨s'', e', hI''⟩ := ih (done ++ [x]) s' (by rw [h, List.append_assoc]; rfl) hI'
    exact ⟨s'', e.trans e', hI''⟩

end AlgoVerif.C14
