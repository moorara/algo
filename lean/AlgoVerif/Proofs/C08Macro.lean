import AlgoVerif.Proofs.C08Lang
/-!
# Macro expansion of fresh non-terminals

`Derives.expand`: if `e` maps every non-terminal to a string of symbols such that every production
`A → β` of `g'` becomes a derivation `e A ⇒* e*(β)` of `g`, then `e*` maps derivations of `g'` to derivations
of `g`: the functional case of `Derives.expands`.  TERM (`aₙ ↦ a`) and BIN (`Aᵢ ↦ Xᵢ₊₁ … Xₙ`) expand in this way;
their proofs state it as a relation (`DefStands`, `Proofs/C08Ext.lean`) and do not pass through here.
-/
namespace AlgoVerif.Gram
variable {T N : Type}

def expSym (e : N → List (Sym T N)) : Sym T N → List (Sym T N)
  | .term t => [.term t]
  | .nonterm n => e n

def expand (e : N → List (Sym T N)) (l : List (Sym T N)) : List (Sym T N) := l.flatMap (expSym e)

theorem expand_cons (e : N → List (Sym T N)) (s : Sym T N) (b : List (Sym T N)) :
    expand e (s :: b) = expSym e s ++ expand e b := by
  simp [expand]

theorem expands_expand (e : N → List (Sym T N)) (α : List (Sym T N)) :
    Expands (fun s x => x = expSym e s) α (expand e α) := by
  induction α with
  | nil => exact Expands.nil
  | cons s α ih => rw [expand_cons]; exact Expands.cons rfl ih

theorem Expands.eq_expand (e : N → List (Sym T N)) {α β : List (Sym T N)}
    (h : Expands (fun s x => x = expSym e s) α β) : β = expand e α := by
  induction h with
  | nil => rfl
  | cons hr _ ih => rw [expand_cons, hr, ih]

theorem Derives.expand {g g' : Grammar T N} (e : N → List (Sym T N))
    (h : ∀ p ∈ g'.prods, Derives g (e p.head) (expand e p.body))
    {α β} (d : Derives g' α β) : Derives g (Gram.expand e α) (Gram.expand e β) := by
  obtain ⟨α₀, hα, d₀⟩ := Derives.expands (fun s x => x = expSym e s)
    (fun p hp b hb => ⟨_, rfl, hb.eq_expand e ▸ h p hp⟩) d _ (expands_expand e β)
  rwa [hα.eq_expand e] at d₀

end AlgoVerif.Gram
