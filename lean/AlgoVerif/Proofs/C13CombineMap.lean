import AlgoVerif.Proofs.C13Combine
/-! C13: the final-state map of `CombineDFA`: after reading `w` the combined DFA is in a state listed for
operand `i` iff operand `i` accepts `w`. -/
namespace AlgoVerif.C13
open AlgoVerif AlgoVerif.C13.Spec

theorem combineFinals_thread {lo : Int} (id : Nat) (fin : List Int) (r : (SM × NFA) × List Int) (hm : r.1.1.Inv lo) :
    Thread lo (fun r : (SM × NFA) × List Int => r.1.1) (fun _ => ()) (fun r y => y ∈ r.2)
      r (combineFinals id fin r.1.1 r.1.2 r.2)
      (fun M y => ∃ f ∈ fin, M.find id f = some y) (fun M => ∀ f ∈ fin, ∃ x, M.find id f = some x) := by
  unfold combineFinals
  apply Thread.foldl
  · intro acc f _ h
    obtain ⟨g1, g2, -⟩ := SM.get_spec acc.1.1 lo h id f
    exact ⟨g1, g2, rfl, fun M hM => ⟨_, (SM.find_get_iff h hM _).2 rfl⟩,
      fun M hM y => by simp [SM.find_get_iff h hM]⟩
  · exact hm

theorem combineFold_snd {lo : Int} (ns : List NFA) (k : Nat) (acc : (SM × NFA) × List (List State))
    (hm : acc.1.1.Inv lo) :
    acc.1.1.Le (foldlIdx combineStep acc ns k).1.1 ∧
    ∃ ls : List (List Int), (foldlIdx combineStep acc ns k).2 = acc.2 ++ ls ∧ ls.length = ns.length ∧
      ∀ M, (foldlIdx combineStep acc ns k).1.1.Le M → ∀ (i : Nat) (n : NFA), ns[i]? = some n →
        ∃ l : List Int, ls[i]? = some l ∧ ∀ y, y ∈ l ↔ ∃ f ∈ n.final, M.find (k + i) f = some y := by
  induction ns generalizing k acc with
  | nil => exact ⟨SM.Le.refl _, [], by simp [foldlIdx], rfl, by simp⟩
  | cons n ns ih =>
    simp only [foldlIdx]
    have h1 := copyTrans_thread k n acc.1.1 acc.1.2 hm
    have h2 := getAdd_thread _ h1.inv k n.start 0 E
    have h3 := combineFinals_thread k n.final (_, []) h2.inv
    have hl : (combineStep acc k n).2 = acc.2 ++ [_] := rfl
    obtain ⟨hle, ls, e1, e2, e3⟩ := ih (k + 1) (combineStep acc k n) h3.inv
    refine ⟨h1.le.trans (h2.le.trans (h3.le.trans hle)), _ :: ls, by rw [e1, hl, List.append_assoc]; rfl,
      by rw [List.length_cons, List.length_cons, e2], fun M hM i n' hn' => ?_⟩
    cases i with
    | zero =>
      obtain rfl : n = n' := by simpa using hn'
      exact ⟨_, rfl, fun y => (h3.grow M (hle.trans hM) y).trans (by simp only [List.not_mem_nil, false_or, Nat.add_zero])⟩
    | succ i =>
      obtain ⟨l', e1, e2⟩ := e3 M hM i n' (by simpa using hn')
      exact ⟨l', by simpa using e1, by rw [show k + (i + 1) = k + 1 + i by omega]; exact e2⟩

theorem mem_foldlIdx_cond (p : List Int → Bool) (q : List (List Int)) (x : Int) (k : Nat) (acc : List Int) :
    x ∈ foldlIdx (fun acc i S => if p S then sins (i : Int) acc else acc) acc q k ↔
      x ∈ acc ∨ ∃ (i : Nat) (S : List Int), q[i]? = some S ∧ x = ((k + i : Nat) : Int) ∧ p S = true :=
  foldlIdx_grow (fun l x => x ∈ l) (Q := fun i S x => x = (i : Int) ∧ p S = true)
    (fun acc i S x => by split <;> simp_all [or_comm]) q k acc x

theorem mem_remapOne (q : List (List Int)) (states : List Int) (acc : List Int) (x : Int) :
    x ∈ states.foldl (fun mapped f =>
        foldlIdx (fun mapped i S => if S.contains f then sins (i : Int) mapped else mapped) mapped q) acc ↔
      x ∈ acc ∨ ∃ f ∈ states, ∃ (i : Nat) (S : List Int), q[i]? = some S ∧ x = (i : Int) ∧ f ∈ S :=
  (foldl_grow (fun l x => x ∈ l) (fun acc f x => mem_foldlIdx_cond (fun S => S.contains f) q x 0 acc) states acc x).trans
    (by simp only [Nat.zero_add, List.contains_eq_mem, decide_eq_true_eq])

theorem remapSubsets_getElem? (q fm : List (List Int)) (i : Nat) (l : List Int) (h : fm[i]? = some l) :
    ∃ l', (remapSubsets q fm)[i]? = some l' ∧
      ∀ x, x ∈ l' ↔ ∃ f ∈ l, ∃ (j : Nat) (S : List Int), q[j]? = some S ∧ x = (j : Int) ∧ f ∈ S :=
  ⟨l.foldl (fun mapped f => foldlIdx (fun mapped i S => if S.contains f then sins (i : Int) mapped else mapped) mapped q) [],
    by rw [remapSubsets, List.getElem?_map, h]; rfl,
    fun x => (mem_remapOne q l [] x).trans (by simp only [List.not_mem_nil, false_or])⟩

theorem combineDFA_finalMap (ds : List DFA) (hwf : ∀ d ∈ ds, d.WF) (hne : ∀ d ∈ ds, d.NoEps)
    (D : DFA) (fm : List (List Int)) (h : combineDFA ds = .ok (D, fm)) (w : Word) (hE : E ∉ w) :
    fm.length = ds.length ∧
    ∀ (i : Nat) (d : DFA), ds[i]? = some d → ∃ l : List Int, fm[i]? = some l ∧ (∀ q ∈ l, (-1 : Int) < q) ∧
      ∀ q, dfaRun D.δ (some D.start) w = some q → (q ∈ l ↔ d.lang w) := by
  -- `D` is the subset DFA of the union NFA, without dead states, renumbered by a state manager `M`.  So `q = M.num t`
  -- for the state `t` the subset DFA reaches on `w`, which is the index of the set `S` of states the union NFA can be in
  -- after `w`; `l` numbers by `M` the indices of the sets that hold a copy of a final state of operand `i`; and the union
  -- NFA can be in the copy of `f` after `w` iff operand `i` can be in `f` (`union_zero_to_copy`)
  obtain ⟨r, combined, m, hs, he, hb, hcwf, hR⟩ := all_of_total (combineDFA_total ds) (D, fm) h
  injection hR with h1 hfm
  have hnwf : ∀ n ∈ ds.map DFA.toNFA, n.WF := List.forall_mem_map.2 fun d _ => d.toNFA_WF
  obtain ⟨-, ls0, hs1, hs2, hs3⟩ := combineFold_snd (ds.map DFA.toNFA) 0 ((SM.new 1, NFA.new 0 [1]), []) (SM.Inv_new 1)
  obtain ⟨k2, hbnd, hUstart, -, hδ⟩ := unionFold_struct (ds.map DFA.toNFA) hnwf
    (combineFold_fst (ds.map DFA.toNFA) 0 ((SM.new 1, NFA.new 0 [1]), [])).symm
  generalize foldlIdx combineStep ((SM.new 1, NFA.new 0 [1]), []) (ds.map DFA.toNFA) 0 = u at hs hfm hs1 hs3 k2 hbnd hUstart hδ
  simp only [List.nil_append] at hs1
  obtain ⟨rwf, rpr, rst, _, S0, hq0, hR0, hinv⟩ := all_of_total u.1.2.subsets_total r hs
  obtain ⟨e1, -, -, esub⟩ := r.2.elimDead_sub combined he
  -- the renumbering and the second remapping, both read with the numbering of the last state manager `M`
  obtain ⟨-, mfinv, hM1⟩ := reindexWith_numbers combined (-1) m (all_of_total combined.bfsNumbering_total m hb)
  obtain ⟨t1, t2, hM2⟩ := remapThreaded_numbers (-1) (remapSubsets r.1 u.2) [] (reindexWith combined m).1 mfinv
  obtain ⟨hD, hdomD⟩ := hM1 _ t1
  obtain ⟨hfm', hdomF⟩ := hM2 _ (SM.Le.refl _)
  rw [hfm'.trans (List.nil_append _)] at hfm
  rw [hD] at h1
  generalize (remapThreaded (remapSubsets r.1 u.2) (reindexWith combined m).1 []).1 = M at t2 hdomD hdomF hfm h1
  have hH := combined.permuted_hom hcwf (M.num 0)
    (fun s hs t ht e => (SM.num_inj t2 (hdomD 0 s ⟨rfl, hs⟩) (hdomD 0 t ⟨rfl, ht⟩) e).2)
  have hcst : combined.start ∈ combined.states := combined.mem_states_of _ (Or.inl rfl)
  have hlen1 : (remapSubsets r.1 u.2).length = ds.length := by
    simp only [remapSubsets, List.length_map, hs1, hs2]
  refine ⟨by rw [hfm, List.length_map, hlen1], ?_⟩
  intro i d hd
  have hn : (ds.map DFA.toNFA)[i]? = some d.toNFA := by simp [hd]
  obtain ⟨l0, a1, a2⟩ := hs3 _ (SM.Le.refl _) i d.toNFA hn
  obtain ⟨l1, hl1, hl1m⟩ := remapSubsets_getElem? r.1 u.2 i l0 (hs1 ▸ a1)
  have hl1F : ∀ jj ∈ l1, (M.find 0 jj).isSome := fun jj hjj => hdomF 0 jj ⟨rfl, l1, List.mem_of_getElem? hl1, hjj⟩
  refine ⟨mkSet (l1.map (M.num 0)), by rw [hfm, List.getElem?_map, hl1]; rfl, ?_, ?_⟩
  · intro q hq
    obtain ⟨jj, hjj, rfl⟩ := List.mem_map.1 (mem_mkSet.1 hq)
    exact SM.lt_num t2 (hl1F jj hjj)
  intro q hq
  rw [h1, hH.start, hH.run w hcst] at hq
  -- back through the renumbering, the dead-state elimination and the subset construction
  obtain ⟨t, ht1, rfl⟩ := Option.map_eq_some_iff.1 hq
  have htst := combined.run_mem_states w _ t hcst ht1
  rw [e1, rst] at ht1
  have ht3 := dfaRun_mono (esub rwf) w 0 t ht1
  obtain ⟨jj, S, r1, r2, r3⟩ := hinv.run w 0 S0 [] hq0 hR0 (hinv.run_syms w 0 t ht3)
  injection r1.symm.trans ht3 with ht3
  rw [mem_mkSet, List.mem_map]
  refine Iff.trans ⟨fun ⟨jj', c1, c2⟩ => (SM.num_inj t2 (hl1F jj' c1) (hdomD 0 t ⟨rfl, htst⟩) c2).2 ▸ c1,
    fun c1 => ⟨t, c1, rfl⟩⟩ ?_
  rw [hl1m]
  rw [← DFA.toNFA_lang (hwf d (List.mem_of_getElem? hd)) (hne d (List.mem_of_getElem? hd)) w]
  show _ ↔ ∃ f ∈ d.toNFA.final, Path d.toNFA.Δ d.toNFA.start w f
  simp only [Nat.zero_add] at a2
  constructor
  · rintro ⟨y, hy, i', S', c2, c1, c3⟩
    have : i' = jj := Int.ofNat.inj (ht3.trans c1).symm
    subst this
    rw [r2] at c2; injection c2 with c2; subst c2
    obtain ⟨f, hf, hfy⟩ := (a2 y).1 hy
    have hp : Path u.1.2.Δ 0 w y := by rw [← hUstart]; exact (r3 y).1 c3
    obtain ⟨n', hn', hp'⟩ := (union_zero_to_copy u.1.2.Δ u.1.1 (ds.map DFA.toNFA) k2 hδ hbnd hE hfy).1 hp
    rw [hn] at hn'; injection hn' with hn'; subst hn'
    exact ⟨f, hf, hp'⟩
  · rintro ⟨f, hf, hp⟩
    obtain ⟨y, hy⟩ := (hbnd i d.toNFA hn).final f hf
    have hp' : Path u.1.2.Δ 0 w y :=
      (union_zero_to_copy u.1.2.Δ u.1.1 (ds.map DFA.toNFA) k2 hδ hbnd hE hy).2 ⟨d.toNFA, hn, hp⟩
    refine ⟨y, (a2 y).2 ⟨f, hf, hy⟩, jj, S, r2, ht3.symm, ?_⟩
    exact (r3 y).2 (by rw [hUstart]; exact hp')

end AlgoVerif.C13
