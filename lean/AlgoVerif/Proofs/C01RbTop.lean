import AlgoVerif.Proofs.C01RbDelete
/-!
# C01 / C15: the LLRB table as a whole (`Put`, `Delete`, `DeleteMin`, `DeleteMax` with their root
recolouring) refines the abstract map and keeps the tree a left-leaning red-black tree
-/
namespace AlgoVerif.C01
open Tree

variable {K V : Type} {cmp : K → K → Int}

/-- the `Good` of `KindOK` for the LLRB table: the delete functions need the colours to return at all, so the colour
invariant cannot be shown after the refinement, only with it -/
def GoodRB (cmp : K → K → Int) (t : Tree K V) : Prop := Inv cmp t ∧ LLRB t

/-- `reddenRoot` prepares a non-empty table for the three delete functions; its cached size is enough fuel -/
theorem reddenRoot_spec {t : Tree K V} (ht : LLRB t) (hn : t.isNil = false) (hz : SizeOK t) :
    RB (reddenRoot t) ∧ ((reddenRoot t).isRed = true ∨ (reddenRoot t).lt.isRed = true) ∧
      (reddenRoot t).toList = t.toList ∧ (reddenRoot t).toList.length ≤ (reddenRoot t).sz ∧
      SizeOKc (reddenRoot t) ∧ (reddenRoot t).rt.isRed = false := by
  have hf : t.toList.length ≤ t.sz := Nat.le_of_eq (sz_eq_length hz).symm
  rcases t with _ | ⟨l, k, v, s, h, c, r⟩
  · simp at hn
  · obtain ⟨hrb, hblack⟩ := ht
    simp only [isRed_node] at hblack; subst hblack
    simp only [RB_node] at hrb
    cases hl : l.isRed <;> simp_all [reddenRoot, SizeOKc, SizeOK]

theorem goodRB_blackenIfAny {t : Tree K V} (h : RB t) (hs : Spec.Sorted cmp t.toList) (hz : SizeOK t) :
    GoodRB cmp (blackenIfAny t) ∧ (blackenIfAny t).toList = t.toList := by
  rcases t with _ | ⟨l, k, v, s, hh, c, r⟩
  · exact ⟨⟨inv_nil, llrb_nil⟩, rfl⟩
  · simp only [RB_node] at h
    exact ⟨⟨⟨hs, hz⟩, by simp [blackenIfAny, h.1, h.2.2.1, h.2.2.2.1, h.2.2.2.2], rfl⟩, rfl⟩

theorem rbDeleteRoot_ok (h : LawfulCmp cmp) (key : K) {t : Tree K V} (ht : GoodRB cmp t) :
    ∃ t', rbDeleteRoot cmp t key = .ok (t', Spec.get cmp key t.toList) ∧ GoodRB cmp t' ∧
      t'.toList = Spec.remove cmp key t.toList := by
  obtain ⟨⟨hs, hz⟩, hl⟩ := ht
  rcases t with _ | ⟨l, k, v, s, hh, c, r⟩
  · exact ⟨.nil, rfl, ⟨inv_nil, llrb_nil⟩, rfl⟩
  · simp only [rbDeleteRoot, get_eq h key hs]
    cases hg : Spec.get cmp key (Tree.node l k v s hh c r).toList with
    | none => exact ⟨_, rfl, ⟨⟨hs, hz⟩, hl⟩, (remove_of_get_none hg).symm⟩
    | some val =>
      obtain ⟨a1, a2, a3, a4, a5, a6⟩ := reddenRoot_spec hl rfl hz
      obtain ⟨out, e1, e2, e3, e4⟩ := rbDelete_ok h key _ _ a4 (preR_of_RB a1 a2) (by rw [a3]; exact hs)
        (by rw [a3]; exact get_isSome_iff.1 (by rw [hg]; rfl)) (fun hrr => by rw [a6] at hrr; cases hrr)
      rw [a3] at e1 e2
      obtain ⟨b1, b2⟩ := goodRB_blackenIfAny e4.rb (by rw [e2]; exact Sorted.filter _ hs) (e3 a5)
      refine ⟨blackenIfAny out, ?_, b1, by rw [b2, e2]⟩
      simp only [e1, Outcome.ok_bind, Outcome.pure_eq, hg]

theorem rbDeleteMinRoot_ok {t : Tree K V} (ht : GoodRB cmp t) :
    ∃ t', rbDeleteMinRoot t = .ok (t', Spec.first t.toList) ∧ GoodRB cmp t' ∧ t'.toList = t.toList.tail := by
  obtain ⟨⟨hs, hz⟩, hl⟩ := ht
  rcases t with _ | ⟨l, k, v, s, hh, c, r⟩
  · exact ⟨.nil, rfl, ⟨inv_nil, llrb_nil⟩, rfl⟩
  · obtain ⟨a1, a2, a3, a4, a5, -⟩ := reddenRoot_spec hl rfl hz
    obtain ⟨out, m, e1, e2, e3, e4⟩ := rbDeleteMin_ok _ _ a4 a1 a2
    obtain ⟨f1, f2, f3⟩ := Sorted.of_eq_cons hs (a3 ▸ e2)
    obtain ⟨b1, b2⟩ := goodRB_blackenIfAny e4.rb f2 (e3 a5)
    refine ⟨blackenIfAny out, ?_, b1, b2.trans f3⟩
    simp only [rbDeleteMinRoot, e1, Outcome.ok_bind, Outcome.pure_eq, f1]

theorem rbDeleteMaxRoot_ok {t : Tree K V} (ht : GoodRB cmp t) :
    ∃ t', rbDeleteMaxRoot t = .ok (t', Spec.last t.toList) ∧ GoodRB cmp t' ∧ t'.toList = t.toList.dropLast := by
  obtain ⟨⟨hs, hz⟩, hl⟩ := ht
  rcases t with _ | ⟨l, k, v, s, hh, c, r⟩
  · exact ⟨.nil, rfl, ⟨inv_nil, llrb_nil⟩, rfl⟩
  · obtain ⟨a1, a2, a3, a4, a5, -⟩ := reddenRoot_spec hl rfl hz
    obtain ⟨out, m, e1, e2, e3, e4⟩ := rbDeleteMax_ok _ _ a4 (preR_of_RB a1 a2)
    obtain ⟨f1, f2, f3⟩ := Sorted.of_eq_concat hs (a3 ▸ e2)
    obtain ⟨b1, b2⟩ := goodRB_blackenIfAny e4.rb f2 (e3 a5)
    refine ⟨blackenIfAny out, ?_, b1, b2.trans f3⟩
    simp only [rbDeleteMaxRoot, e1, Outcome.ok_bind, Outcome.pure_eq, f1]

theorem rb_kindOK (h : LawfulCmp cmp) : KindOK (K := K) (V := V) .rb cmp (GoodRB cmp) where
  good_nil := ⟨inv_nil, llrb_nil⟩
  inv := fun _ ht => ht.1
  put := fun t k v ht => by
    obtain ⟨t', e1, e2, e3, e4⟩ := rbPutRoot_ok h k v ht.1.1
    exact ⟨t', e1, ⟨⟨by rw [e2]; exact sorted_upsert h k v ht.1.1, e3 ht.1.2⟩, e4 ht.2⟩, e2⟩
  delete := fun t k ht => rbDeleteRoot_ok h k ht
  deleteMin := fun t ht => rbDeleteMinRoot_ok ht
  deleteMax := fun t ht => rbDeleteMaxRoot_ok ht

end AlgoVerif.C01
