import AlgoVerif.Proofs.C05BinomFibIndex
/-!
# The indexed binomial heap Model: where a node sits in the forest, `swap`, the index-map invariant

`BT.nodes` lists every node with its child chain (what `childrenOf` and `chainChild` return).  `swap(c, p)` exchanges the
contents of two nodes; for the index map that is a renaming of the two ids by the transposition `HeapOrder.tr`
(`Reg.rename`), under which nothing observable changes.
-/
namespace AlgoVerif.C05
open AlgoVerif.HeapOrder

namespace BT

theorem chainIds_sub : ∀ (t : BT) (x : Nat), x ∈ chainIds t → x ∈ ids t
  | nil, _, h => by simp [chainIds] at h
  | node id o c s, x, h => by
    simp only [chainIds, List.mem_cons] at h
    simp only [ids, List.mem_cons, List.mem_append]
    rcases h with h | h
    · exact Or.inl h
    · exact Or.inr (Or.inr (chainIds_sub s x h))

/-- every node with its child chain, in pre-order: where `n.child` of the Go code sits in the forest -/
def nodes : BT → List (Nat × BT)
  | nil => []
  | node id _ c s => (id, c) :: (nodes c ++ nodes s)

theorem ids_eq_nodes : ∀ t : BT, ids t = (nodes t).map Prod.fst
  | nil => rfl
  | node id o c s => by simp only [ids, nodes, List.map_cons, List.map_append, ids_eq_nodes c, ids_eq_nodes s]

theorem mem_ids {t : BT} {x : Nat} : x ∈ ids t ↔ ∃ c, (x, c) ∈ nodes t := by
  rw [ids_eq_nodes, List.mem_map]
  exact ⟨fun ⟨⟨_, c⟩, h, e⟩ => ⟨c, e ▸ h⟩, fun ⟨c, h⟩ => ⟨_, h, rfl⟩⟩

theorem nodes_sub : ∀ (t : BT) {n : Nat} {ch : BT}, (n, ch) ∈ nodes t → ∀ x, x ∈ nodes ch → x ∈ nodes t
  | nil, _, _, h => by simp [nodes] at h
  | node id o c s, n, ch, h => by
    simp only [nodes, List.mem_cons, List.mem_append, Prod.mk.injEq] at h ⊢
    intro x hx
    rcases h with ⟨rfl, rfl⟩ | h | h
    · exact Or.inr (Or.inl hx)
    · exact Or.inr (Or.inl (nodes_sub c h x hx))
    · exact Or.inr (Or.inr (nodes_sub s h x hx))

theorem nodes_fun {t : BT} (hnd : (ids t).Nodup) {n : Nat} {c1 c2 : BT} (h1 : (n, c1) ∈ nodes t)
    (h2 : (n, c2) ∈ nodes t) : c1 = c2 := by
  rw [ids_eq_nodes] at hnd
  generalize nodes t = l at hnd h1 h2
  induction l with
  | nil => cases h1
  | cons x l ih =>
    obtain ⟨hx, hl⟩ := List.nodup_cons.mp hnd
    rcases List.mem_cons.mp h1 with rfl | h1 <;> rcases List.mem_cons.mp h2 with e | h2
    · exact (Prod.mk.inj e).2.symm
    · exact absurd (List.mem_map.mpr ⟨_, h2, rfl⟩) hx
    · exact absurd (List.mem_map.mpr ⟨_, h1, e ▸ rfl⟩) hx
    · exact ih hl h1 h2

theorem revChain_perm : ∀ (c acc : BT), (ids (revChain c acc)).Perm (ids c ++ ids acc)
  | nil, acc => by simp [revChain, ids]
  | node id o c s, acc => by
    simp only [revChain]
    refine (revChain_perm s (node id o c acc)).trans ?_
    simp only [ids]
    perm_count

theorem childrenOf_none (target : Nat) : ∀ (t : BT), target ∉ ids t → childrenOf target t = none
  | nil, _ => rfl
  | node id o c s, h => by
    simp only [ids, List.mem_cons, List.mem_append, not_or] at h
    simp only [childrenOf]
    rw [if_neg (fun e => h.1 e.symm), childrenOf_none target c h.2.1]
    exact childrenOf_none target s h.2.2

theorem childrenOf_some (target : Nat) : ∀ (t : BT), target ∈ ids t →
    ∃ c, childrenOf target t = some c ∧ (target, c) ∈ nodes t
  | nil, h => by simp [ids] at h
  | node id o c s, h => by
    simp only [childrenOf, nodes, List.mem_cons, List.mem_append, Prod.mk.injEq]
    by_cases hid : id = target
    · exact ⟨c, by rw [if_pos hid], Or.inl ⟨hid.symm, rfl⟩⟩
    · rw [if_neg hid]
      simp only [ids, List.mem_cons, List.mem_append] at h
      by_cases hc : target ∈ ids c
      · obtain ⟨r, hr, hm⟩ := childrenOf_some target c hc
        exact ⟨r, by rw [hr], Or.inr (Or.inl hm)⟩
      · rw [childrenOf_none target c hc]
        obtain ⟨r, hr, hm⟩ := childrenOf_some target s ((h.resolve_left (fun e => hid e.symm)).resolve_left hc)
        exact ⟨r, hr, Or.inr (Or.inr hm)⟩

theorem chainChild_some (target : Nat) : ∀ (t : BT), target ∈ chainIds t →
    ∃ c, chainChild target t = some c ∧ size c < size t ∧ (target, c) ∈ nodes t
  | nil, h => by simp [chainIds] at h
  | node id o c s, h => by
    simp only [chainChild, nodes, List.mem_cons, List.mem_append, Prod.mk.injEq]
    by_cases hid : id = target
    · exact ⟨c, by rw [if_pos hid], by simp only [size]; omega, Or.inl ⟨hid.symm, rfl⟩⟩
    · rw [if_neg hid]
      simp only [chainIds, List.mem_cons] at h
      obtain ⟨r, hr, hs, hm⟩ := chainChild_some target s (h.resolve_left (Ne.symm hid))
      exact ⟨r, hr, by simp only [size]; omega, Or.inr (Or.inr hm)⟩

theorem chainIds_nil : ∀ (t : BT), t.chainIds = [] → t = .nil
  | .nil, _ => rfl
  | .node _ _ _ _, h => by simp [BT.chainIds] at h

end BT

section
variable {K V : Type}

/-- the contents follow the renaming `tr c p`, the entries of `nodes[]` its inverse (the same transposition) -/
theorem Reg.rename {cap : Nat} {S : List Nat} {nodes nodes' : Array (Option Nat)} {cells cells' : Array (Cell K V)}
    (r : Reg cap S nodes cells) {c p : Nat} (hc : c ∈ S) (hp : p ∈ S) (hsz : nodes'.size = nodes.size)
    (hcells : ∀ x : Nat, cells'[x]? = cells[tr c p x]?)
    (hnodes : ∀ i : Nat, nodes'[i]? = (nodes[i]?).map (Option.map (tr c p))) :
    Reg cap S nodes' cells' ∧ absOf nodes' cells' = absOf nodes cells := by
  have hS : ∀ x, x ∈ S → tr c p x ∈ S := by
    intro x hx; unfold tr; split
    · exact hp
    · split
      · exact hc
      · exact hx
  constructor
  · refine ⟨hsz.trans r.nsize, r.nodup, fun id hid => ?_, fun i id hi => ?_⟩
    · obtain ⟨d, hd, hn⟩ := r.reg _ (hS id hid)
      exact ⟨d, (hcells id).trans hd, by rw [hnodes, hn]; simp [tr_tr]⟩
    · rw [hnodes] at hi
      obtain ⟨o, ho, hoi⟩ := Option.map_eq_some_iff.mp hi
      obtain ⟨id0, rfl, rfl⟩ := Option.map_eq_some_iff.mp hoi
      obtain ⟨hmem, d, hd, hdi⟩ := r.back i id0 ho
      exact ⟨hS _ hmem, d, by rw [hcells, tr_tr]; exact hd, hdi⟩
  · funext j
    unfold absOf
    rw [hsz]
    split
    · rw [hnodes]
      rcases nodes[j.toNat]? with _ | _ | id0
      · rfl
      · rfl
      · simp only [Option.map_some, hcells, tr_tr]
    · rfl

end

namespace IBinomial
variable {K V : Type} {cmp : K → K → Int} {eq : V → V → Bool} {cap : Nat} {S : List Nat}

def abs (h : IBinomial K V) : Spec.Map K V := absOf h.nodes h.cells

structure Inv (cap : Nat) (h : IBinomial K V) : Prop where
  reg : Reg cap h.head.ids h.nodes h.cells
  card : h.n = (Spec.card cap (abs h) : Int)

theorem swap_spec {h : IBinomial K V} (r : Reg cap S h.nodes h.cells) {c p : Nat} (hc : c ∈ S) (hp : p ∈ S) :
    ∃ h', h.swap c p = .ok h' ∧ Reg cap S h'.nodes h'.cells ∧ abs h' = abs h ∧ h'.head = h.head ∧
      h'.n = h.n ∧ ∀ x : Nat, h'.cells[x]? = h.cells[tr c p x]? := by
  obtain ⟨cc, hcc, hncc⟩ := r.reg c hc
  obtain ⟨pc, hpc, hnpc⟩ := r.reg p hp
  have hcells : ∀ x : Nat, ((h.cells.setIfInBounds c pc).setIfInBounds p cc)[x]? = h.cells[tr c p x]? := by
    intro x
    rw [getElem?_set_set _ _ _ (lt_size_of_getElem? hcc) (lt_size_of_getElem? hpc)]
    by_cases h1 : x = p
    · rw [if_pos h1, h1, tr_right, hcc]
    · rw [if_neg h1]
      by_cases h2 : x = c
      · rw [if_pos h2, h2, tr_left, hpc]
      · rw [if_neg h2, tr_other h2 h1]
  have hnodes : ∀ i : Nat, ((h.nodes.setIfInBounds pc.index (some c)).setIfInBounds cc.index (some p))[i]? =
      (h.nodes[i]?).map (Option.map (tr c p)) := by
    intro i
    rw [getElem?_set_set _ _ _ (lt_size_of_getElem? hnpc) (lt_size_of_getElem? hncc)]
    by_cases h1 : i = cc.index
    · rw [if_pos h1, h1, hncc]; simp [tr_left]
    · rw [if_neg h1]
      by_cases h2 : i = pc.index
      · rw [if_pos h2, h2, hnpc]; simp [tr_right]
      · rw [if_neg h2]
        -- an entry elsewhere names a node other than `c`, `p`
        rcases hx : h.nodes[i]? with _ | _ | id
        · rfl
        · rfl
        · obtain ⟨_, d, hd, hdi⟩ := r.back i id hx
          have e1 : id ≠ c := by rintro rfl; rw [hcc] at hd; cases hd; exact h1 hdi.symm
          have e2 : id ≠ p := by rintro rfl; rw [hpc] at hd; cases hd; exact h2 hdi.symm
          simp [tr_other e1 e2]
  obtain ⟨r', ha⟩ := Reg.rename r hc hp (Array.size_setIfInBounds.trans Array.size_setIfInBounds) hcells hnodes
  refine ⟨{ h with cells := _, nodes := _ }, ?_, r', ha, rfl, rfl, hcells⟩
  unfold swap
  simp only [hcc, hpc, hncc, hnpc]
  rfl

theorem containsIndex_eq {h : IBinomial K V} (r : Reg cap S h.nodes h.cells) (i : Int) :
    h.containsIndex i = (abs h i).isSome :=
  r.indexHeld_eq i

theorem empty_of_head_nil {h : IBinomial K V} (r : Reg cap h.head.ids h.nodes h.cells)
    (hn : h.head = .nil) : ∀ i, abs h i = none :=
  r.nil_iff.mp (by rw [hn]; rfl)

theorem isEmpty_iff {h : IBinomial K V} (r : Reg cap h.head.ids h.nodes h.cells) :
    h.isEmpty = true ↔ ∀ i, abs h i = none := by
  refine Iff.trans ?_ r.nil_iff
  unfold isEmpty
  cases h.head <;> simp [BT.ids]

theorem inv_new (cap : Nat) : Inv cap (new cap : IBinomial K V) :=
  ⟨Reg.empty cap, card_replicate cap cap _⟩

theorem abs_new (cap : Nat) : abs (new cap : IBinomial K V) = Spec.Map.empty := absOf_replicate _ _

end IBinomial
end AlgoVerif.C05
