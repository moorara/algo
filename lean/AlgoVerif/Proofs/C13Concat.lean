import AlgoVerif.Proofs.C13Star
namespace AlgoVerif.C13
open AlgoVerif AlgoVerif.C13.Spec

/-! ### the language argument for one step, on an abstract description of what the step adds

`δ` is the automaton built so far, whose states satisfy `Old` (`hOld`); `P` are the states in
which the operands so far have been read completely (`hP`); the step adds, for the operand `n`:
copies `g t` (none of them `Old`: `hNew`; different states have different copies: `hInj`) of the states of `n` that are
targets of transitions (`hTgt`; its start state among them only if some transition leads back to it: `hBack`), the
transitions of `n` between copies and the transitions of `n`'s start state from every state of `P` (`hδ'`); `P'` is what
`P` has become after the step (`hP'`). -/

section step
variable (δ δ' : Int → Int → Int → Prop) (P P' : List Int) (Old : Int → Prop) (n : NFA) (g : Int → Option Int)
  (loop : Prop)

/-- `x` is the copy of `s` (for the start state: its own copy, which exists only if an edge leads back to it) -/
def Copy (n : NFA) (g : Int → Option Int) (loop : Prop) (s x : Int) : Prop := g s = some x ∧ (s = n.start → loop)

variable (hOld : ∀ x a y, δ x a y → Old x ∧ Old y)
  (hP : ∀ p ∈ P, Old p)
  (hNew : ∀ s x, g s = some x → ¬ Old x)
  (hInj : ∀ s s' x, g s = some x → g s' = some x → s = s')
  (hTgt : ∀ s a t, n.Δ s a t → ∃ y, g t = some y)
  (hBack : ∀ s a, n.Δ s a n.start → loop)
  (hδ' : ∀ x a y, δ' x a y ↔ δ x a y ∨
    ∃ s t, n.Δ s a t ∧ g t = some y ∧ (Copy n g loop s x ∨ (s = n.start ∧ x ∈ P)))
  (hP' : ∀ x, x ∈ P' ↔ ∃ f ∈ n.final, Copy n g loop f x ∨ (f = n.start ∧ x ∈ P))

include hTgt hBack hδ' in
theorem concat_embed {s f : Int} {v : Word} (h : Steps n.Δ s v f) :
    ∀ x, Copy n g loop s x ∨ (s = n.start ∧ x ∈ P) →
      ∃ y, (Copy n g loop f y ∨ (f = n.start ∧ y ∈ P)) ∧ Steps δ' x v y :=
  h.sim (fun s x => Copy n g loop s x ∨ (s = n.start ∧ x ∈ P)) (fun s a t x hd hx => by
    obtain ⟨y, hy⟩ := hTgt _ _ _ hd
    exact ⟨y, Or.inl ⟨hy, fun ht => hBack s a (ht ▸ hd)⟩, (hδ' _ _ _).2 (Or.inr ⟨s, t, hd, hy, hx⟩)⟩)

include hOld hP hNew hInj hBack hδ' in
theorem concat_new_run {x y : Int} {w : Word} (h : Steps δ' x w y) :
    ∀ s, Copy n g loop s x → ∃ t, Copy n g loop t y ∧ Steps n.Δ s w t :=
  h.sim (fun x s => Copy n g loop s x) (fun x a y s hd hs => by
    rcases (hδ' _ _ _).1 hd with hold | ⟨s', t, hn, hgt, hc | ⟨_, hp⟩⟩
    · exact absurd (hOld _ _ _ hold).1 (hNew _ _ hs.1)
    · obtain rfl := hInj _ _ _ hc.1 hs.1
      exact ⟨t, ⟨hgt, fun ht => hBack s' a (ht ▸ hn)⟩, hn⟩
    · exact absurd (hP _ hp) (hNew _ _ hs.1))

include hOld hP hNew hInj hBack hδ' in
theorem concat_old_run {x y : Int} {w : Word} (h : Steps δ' x w y) (hx : Old x) :
    (Old y ∧ Steps δ x w y) ∨
    ∃ u v p t, w = u ++ v ∧ Steps δ x u p ∧ p ∈ P ∧ Copy n g loop t y ∧ Steps n.Δ n.start v t := by
  induction h with
  | nil => left; exact ⟨hx, Steps.nil _⟩
  | @eps x x1 y w hd hrest ih =>
    rcases (hδ' _ _ _).1 hd with hold | ⟨s', t, hn, hgt, hsrc⟩
    · rcases ih (hOld _ _ _ hold).2 with ⟨hy, hs⟩ | ⟨u, v, p, t, e, hs, hp, hc, hv⟩
      · left; exact ⟨hy, Steps.eps hold hs⟩
      · right; exact ⟨u, v, p, t, e, Steps.eps hold hs, hp, hc, hv⟩
    · rcases hsrc with hc | ⟨hs', hp⟩
      · exact absurd hx (hNew _ _ hc.1)
      · subst hs'
        obtain ⟨t', ht', hrun⟩ := concat_new_run δ δ' P Old n g loop hOld hP hNew hInj hBack hδ' hrest t
          ⟨hgt, fun ht => hBack _ Spec.eps (ht ▸ hn)⟩
        right; exact ⟨[], w, x, t', rfl, Steps.nil _, hp, ht', Steps.eps hn hrun⟩
  | @sym x x1 y a w hd hrest ih =>
    rcases (hδ' _ _ _).1 hd with hold | ⟨s', t, hn, hgt, hsrc⟩
    · rcases ih (hOld _ _ _ hold).2 with ⟨hy, hs⟩ | ⟨u, v, p, t, e, hs, hp, hc, hv⟩
      · left; exact ⟨hy, Steps.sym hold hs⟩
      · right; exact ⟨a :: u, v, p, t, by rw [e]; rfl, Steps.sym hold hs, hp, hc, hv⟩
    · rcases hsrc with hc | ⟨hs', hp⟩
      · exact absurd hx (hNew _ _ hc.1)
      · subst hs'
        obtain ⟨t', ht', hrun⟩ := concat_new_run δ δ' P Old n g loop hOld hP hNew hInj hBack hδ' hrest t
          ⟨hgt, fun ht => hBack _ a (ht ▸ hn)⟩
        right; exact ⟨[], a :: w, x, t', rfl, Steps.nil _, hp, ht', Steps.sym hn hrun⟩

include hOld hP hNew hInj hTgt hBack hδ' hP' in
theorem concat_step_lang (x0 : Int) (hx0 : Old x0) (w : Word) :
    (∃ p' ∈ P', Steps δ' x0 w p') ↔
      ∃ u v, w = u ++ v ∧ (∃ p ∈ P, Steps δ x0 u p) ∧ n.lang v := by
  have hsub : ∀ {x y : Int} {w : Word}, Steps δ x w y → Steps δ' x w y := by
    intro x y w h
    obtain ⟨_, rfl, h'⟩ := h.sim Eq (fun s a t x hd hx => ⟨t, rfl, (hδ' _ _ _).2 (Or.inl (hx ▸ hd))⟩) x rfl
    exact h'
  constructor
  · rintro ⟨p', hp', hs⟩
    obtain ⟨f, hf, hfp⟩ := (hP' p').1 hp'
    rcases concat_old_run δ δ' P Old n g loop hOld hP hNew hInj hBack hδ' hs hx0 with ⟨hy, hold⟩ | ⟨u, v, p, t, e, hu, hp, hc, hv⟩
    · rcases hfp with hc | ⟨rfl, hpP⟩
      · exact absurd hy (hNew _ _ hc.1)
      · exact ⟨w, [], by simp, ⟨p', hpP, hold⟩, _, hf, Path.eps (EReach.refl _)⟩
    · rcases hfp with hc' | ⟨_, hpP⟩
      · obtain rfl := hInj _ _ _ hc.1 hc'.1
        exact ⟨u, v, e, ⟨p, hp, hu⟩, t, hf, Steps.to_path hv⟩
      · exact absurd (hP _ hpP) (hNew _ _ hc.1)
  · rintro ⟨u, v, rfl, ⟨p, hp, hu⟩, f, hf, hpath⟩
    obtain ⟨z, hz, hs⟩ := concat_embed δ δ' P n g loop hTgt hBack hδ' (Steps.of_path hpath) p (Or.inr ⟨rfl, hp⟩)
    exact ⟨z, (hP' z).2 ⟨f, hf, hz⟩, (hsub hu).append hs⟩

end step

/-- what the loops record about the source `s` of a transition, in terms of `Copy`: the pre-scan has put the
copy of the start state into `SL` exactly when an edge leads back to it -/
theorem copy_or_iff {n : NFA} {g : Int → Option Int} {loop : Prop} {P SL : List Int}
    (hSL : ∀ x, x ∈ SL ↔ loop ∧ g n.start = some x) (s x : Int) :
    ((s ≠ n.start ∧ g s = some x) ∨ (s = n.start ∧ (x ∈ P ∨ x ∈ SL))) ↔
      (Copy n g loop s x ∨ (s = n.start ∧ x ∈ P)) := by
  by_cases hs : s = n.start
  · subst hs
    simp only [Copy, hSL, ne_eq, not_true, false_and, false_or, true_and, true_implies]
    rw [or_comm, and_comm]
  · simp only [Copy, hs, ne_eq, not_false_eq_true, true_and, false_and, or_false, false_implies, and_true]

/-- the finals loop of `Concat` -/
def concatFinals (id : Nat) (startN : Int) (P startL : List Int) (fin : List Int) (m : SM) (acc : List Int) : SM × List Int :=
  fin.foldl (fun (a : SM × List Int) f =>
    if f = startN then (a.1, a.2 ++ P ++ startL) else ((a.1.get id f).1, a.2 ++ [(a.1.get id f).2])) (m, acc)

theorem concatFinals_thread {lo : Int} (id : Nat) (startN : Int) (P startL : List Int) (fin : List Int)
    (r : SM × List Int) (hm : r.1.Inv lo) :
    LThread lo r (concatFinals id startN P startL fin r.1 r.2)
      (fun M x => ∃ f ∈ fin, (f ≠ startN ∧ M.find id f = some x) ∨ (f = startN ∧ (x ∈ P ∨ x ∈ startL)))
      (fun M => ∀ f ∈ fin, f ≠ startN → ∃ x, M.find id f = some x) := by
  unfold concatFinals
  apply Thread.foldl
  · intro acc f _ h
    by_cases hf : f = startN
    · simp only [hf, if_true, ne_eq, not_true, false_and, true_and, false_or, false_implies]
      exact ⟨SM.Le.refl _, h, rfl, fun _ _ => trivial, fun M _ x => by simp⟩
    · simp only [hf, if_false, ne_eq, not_false_eq_true, true_and, false_and, or_false, true_implies]
      obtain ⟨g1, g2, -⟩ := SM.get_spec acc.1 lo h id f
      exact ⟨g1, g2, rfl, fun M hM => ⟨_, (SM.find_get_iff h hM _).2 rfl⟩,
        fun M hM x => by simp [SM.find_get_iff h hM]⟩
  · exact hm

theorem NFA.hasEdgeTo_iff {n : NFA} (hwf : n.WF) (q : Int) : n.hasEdgeTo q = true ↔ ∃ s a, n.Δ s a q := by
  simp only [← tblΔ_eq hwf, NFA.hasEdgeTo, List.any_eq_true, tblΔ]
  constructor
  · rintro ⟨st, h1, e, h2, h3⟩
    exact ⟨st.1, e.1, st.2, h1, e.2, h2, by simpa using h3⟩
  · rintro ⟨s, a, st, h1, nx, h2, h3⟩
    exact ⟨(s, st), h1, (a, nx), h2, by simpa using h3⟩

theorem concatStep_eq (acc : ConcatSt) (id : Nat) (nfa : NFA) :
    concatStep acc id nfa =
      let m0 := if nfa.hasEdgeTo nfa.start then (acc.m.get id nfa.start).1 else acc.m
      let startL : List State := if nfa.hasEdgeTo nfa.start then [(acc.m.get id nfa.start).2] else []
      let r := concatTransL id (· = nfa.start) (acc.final ++ startL) nfa.trans m0 acc.nfa
      let fin := concatFinals id nfa.start acc.final startL nfa.final r.1 []
      ⟨fin.1, r.2, fin.2⟩ := rfl

/-- the states of the automaton under construction: state 0 and what the state manager handed out for the operands so far -/
def OldSt (k : Nat) (m : SM) (x : Int) : Prop := x = 0 ∨ ∃ id s, id < k ∧ m.find id s = some x

/-- invariant of the `for id, nfa := range nfas` loop of `Concat` -/
structure CInv (k : Nat) (st : ConcatSt) (Acc : Lang) : Prop where
  inv : st.m.Inv 0
  start : st.nfa.start = 0
  edges : ∀ x a y, st.nfa.Δ x a y → OldSt k st.m x ∧ OldSt k st.m y
  fin : ∀ p : Int, p ∈ st.final → OldSt k st.m p
  lang : ∀ w, (∃ p ∈ st.final, Steps st.nfa.Δ 0 w p) ↔ Acc w

theorem concatStep_inv (k : Nat) (st : ConcatSt) (Acc : Lang) (n : NFA) (hwf : n.WF) (h : CInv k st Acc) :
    CInv (k + 1) (concatStep st k n) (Lang.concat Acc n.lang) := by
  rw [concatStep_eq]
  obtain ⟨m0, startL, hdef1, hdef2, hm0, hle0, hsl⟩ : ∃ (m0 : SM) (startL : List Int),
      m0 = (if n.hasEdgeTo n.start then (st.m.get k n.start).1 else st.m) ∧
      startL = (if n.hasEdgeTo n.start then [(st.m.get k n.start).2] else []) ∧
      m0.Inv 0 ∧ st.m.Le m0 ∧
      ∀ M, m0.Le M → ∀ x, x ∈ startL ↔ (n.hasEdgeTo n.start = true ∧ M.find k n.start = some x) := by
    refine ⟨_, _, rfl, rfl, ?_⟩
    by_cases hl : n.hasEdgeTo n.start = true
    · obtain ⟨g1, g2, -⟩ := SM.get_spec st.m 0 h.inv k n.start
      simp only [hl, if_true, true_and, List.mem_singleton]
      exact ⟨g2, g1, fun M hM x => (SM.find_get_iff h.inv hM x).symm⟩
    · have hl' : n.hasEdgeTo n.start = false := by simpa using hl
      simp only [hl', Bool.false_eq_true, if_false, false_and, List.not_mem_nil]
      exact ⟨h.inv, SM.Le.refl _, fun _ _ _ => trivial⟩
  simp only [← hdef1, ← hdef2]
  have ht : NThread 0 (m0, st.nfa) (concatTransL k (· = n.start) (st.final ++ startL) n.trans m0 st.nfa) _ _ :=
    concatTransL_thread k (· = n.start) (st.final ++ startL) n.trans (m0, st.nfa) hm0
  rw [tblΔ_eq hwf] at ht
  generalize concatTransL k (· = n.start) (st.final ++ startL) n.trans m0 st.nfa = r at ht
  have hf : LThread 0 (r.1, []) (concatFinals k n.start st.final startL n.final r.1 []) _ _ :=
    concatFinals_thread k n.start st.final startL n.final (r.1, []) ht.inv
  generalize concatFinals k n.start st.final startL n.final r.1 [] = fin at hf
  have f2 : fin.1.Inv 0 := hf.inv
  have hle : st.m.Le fin.1 := hle0.trans (ht.le.trans hf.le)
  -- old states stay old, copies made in this round are old from now on, and no copy made in this round was old:
  -- the state manager is injective, and state 0 is below its range
  have hold : ∀ x, OldSt k st.m x → OldSt (k + 1) fin.1 x := fun x hx =>
    hx.imp_right fun ⟨id, s, hid, hs⟩ => ⟨id, s, Nat.lt_succ_of_lt hid, hle.keep _ _ _ hs⟩
  have hcopy : ∀ s x, fin.1.find k s = some x → OldSt (k + 1) fin.1 x := fun s x hx =>
    Or.inr ⟨k, s, Nat.lt_succ_self k, hx⟩
  have hnew : ∀ s x, fin.1.find k s = some x → ¬ OldSt k st.m x := by
    rintro s x hx (rfl | ⟨id, s', hid, hs'⟩)
    · have := (SM.find_range f2 hx).1; omega
    · have := (SM.inj f2 (hle.keep _ _ _ hs') hx).1; omega
  have hloop : ∀ s a, n.Δ s a n.start → n.hasEdgeTo n.start = true := fun s a hd =>
    (NFA.hasEdgeTo_iff hwf _).2 ⟨s, a, hd⟩
  have hbound : ∀ s a t, n.Δ s a t → ∃ y, fin.1.find k t = some y := fun s a t hd =>
    (ht.bound fin.1 hf.le s a t hd).1
  have hstartL := hsl fin.1 (ht.le.trans hf.le)
  have h5 : ∀ x a y, r.2.Δ x a y ↔ st.nfa.Δ x a y ∨
      ∃ s t, n.Δ s a t ∧ fin.1.find k t = some y ∧
        (Copy n (fin.1.find k) (n.hasEdgeTo n.start = true) s x ∨ (s = n.start ∧ x ∈ st.final)) := fun x a y => by
    simp only [ht.grow fin.1 hf.le (x, a, y), List.mem_append, copy_or_iff hstartL]
  have h6 : ∀ x, x ∈ fin.2 ↔ ∃ f ∈ n.final,
      Copy n (fin.1.find k) (n.hasEdgeTo n.start = true) f x ∨ (f = n.start ∧ x ∈ st.final) := fun x => by
    simp only [hf.grow fin.1 (SM.Le.refl _) x, List.not_mem_nil, false_or, copy_or_iff hstartL]
  refine ⟨f2, ht.start.trans h.start, fun x a y hd => ?_, fun p hp => ?_, fun w => ?_⟩
  · rcases (h5 x a y).1 hd with h' | ⟨s, t, _, a2, a3⟩
    · exact ⟨hold _ (h.edges _ _ _ h').1, hold _ (h.edges _ _ _ h').2⟩
    · exact ⟨a3.elim (fun b => hcopy _ _ b.1) (fun b => hold _ (h.fin _ b.2)), hcopy _ _ a2⟩
  · obtain ⟨f, _, b | ⟨_, b⟩⟩ := (h6 p).1 hp
    · exact hcopy _ _ b.1
    · exact hold _ (h.fin _ b)
  · show (∃ p ∈ fin.2, Steps r.2.Δ 0 w p) ↔ _
    rw [concat_step_lang st.nfa.Δ r.2.Δ st.final fin.2 (OldSt k st.m) n (fin.1.find k) (n.hasEdgeTo n.start = true)
      h.edges h.fin hnew (fun s s' x a b => (SM.inj f2 a b).2) hbound hloop h5 h6 0 (Or.inl rfl) w]
    simp only [Lang.concat, h.lang]

/-- left-nested concatenation, as the loop accumulates it -/
def leftConcat (Acc : Lang) : List Lang → Lang
  | [] => Acc
  | L :: Ls => leftConcat (Lang.concat Acc L) Ls

theorem leftConcat_iff (Acc : Lang) (Ls : List Lang) (w : Word) :
    leftConcat Acc Ls w ↔ Lang.concat Acc (Lang.concatAll Ls) w := by
  induction Ls generalizing Acc w with
  | nil =>
    simp only [leftConcat, Lang.concat, Lang.concatAll]
    constructor
    · intro h; exact ⟨w, [], by simp, h, rfl⟩
    · rintro ⟨u, v, e, hu, rfl⟩; simpa [e] using hu
  | cons L Ls ih =>
    simp only [leftConcat]
    rw [ih]
    simp only [Lang.concat, Lang.concatAll]
    constructor
    · rintro ⟨u, v, e, ⟨u1, u2, e1, h1, h2⟩, hv⟩
      exact ⟨u1, u2 ++ v, by rw [e, e1]; simp, h1, u2, v, rfl, h2, hv⟩
    · rintro ⟨u, v, e, hu, v1, v2, e1, h1, h2⟩
      exact ⟨u ++ v1, v2, by rw [e, e1]; simp, ⟨u, v1, rfl, hu, h1⟩, h2⟩

theorem concatFold_inv (nfas : List NFA) (k : Nat) (st : ConcatSt) (Acc : Lang) (hwf : ∀ n ∈ nfas, n.WF)
    (h : CInv k st Acc) :
    CInv (k + nfas.length) (foldlIdx concatStep st nfas k) (leftConcat Acc (nfas.map NFA.lang)) := by
  induction nfas generalizing k st Acc with
  | nil => simpa [foldlIdx, leftConcat] using h
  | cons n nfas ih =>
    simp only [foldlIdx, List.map_cons, leftConcat, List.length_cons]
    have := ih (k + 1) (concatStep st k n) _ (fun n' hn' => hwf n' (by simp [hn']))
      (concatStep_inv k st Acc n (hwf n (by simp)) h)
    rw [show k + (nfas.length + 1) = k + 1 + nfas.length by omega]
    exact this

theorem NFA.concat_lang (nfas : List NFA) (hwf : ∀ n ∈ nfas, n.WF) (w : Word) :
    (NFA.concat nfas).lang w ↔ Lang.concatAll (nfas.map NFA.lang) w := by
  have h0 : CInv 0 ⟨SM.new 0, NFA.new 0 [0], [0]⟩ (fun w => w = []) := by
    refine ⟨SM.Inv_new 0, rfl, ?_, ?_, ?_⟩
    · intro x a y hd; exact absurd hd (by simp [NFA.new, NFA.empty_Δ])
    · intro p hp; exact Or.inl (by simpa using hp)
    · intro w
      constructor
      · rintro ⟨p, _, hs⟩
        exact (Steps.stuck (fun a y => by simp [NFA.new, NFA.empty_Δ]) hs).1
      · rintro rfl; exact ⟨0, by simp, Steps.nil _⟩
  have hinv := concatFold_inv nfas 0 _ _ hwf h0
  obtain ⟨r, hr⟩ : ∃ r, r = foldlIdx concatStep ⟨SM.new 0, NFA.new 0 [0], [0]⟩ nfas 0 := ⟨_, rfl⟩
  rw [← hr] at hinv
  have hc : NFA.concat nfas = { r.nfa with final := mkSet r.final } := by rw [hr]; rfl
  have key : (NFA.concat nfas).lang w ↔ ∃ p ∈ r.final, Steps r.nfa.Δ 0 w p := by
    rw [hc]
    simp only [NFA.lang, nfaLang]
    have hΔ : ({ r.nfa with final := mkSet r.final } : NFA).Δ = r.nfa.Δ := rfl
    rw [hΔ, show ({ r.nfa with final := mkSet r.final } : NFA).start = 0 from hinv.start]
    constructor
    · rintro ⟨f, hf, hp⟩; exact ⟨f, by simpa using hf, Steps.of_path hp⟩
    · rintro ⟨p, hp, hs⟩; exact ⟨p, by simpa using hp, Steps.to_path hs⟩
  rw [key, hinv.lang w, leftConcat_iff]
  simp only [Lang.concat]
  constructor
  · rintro ⟨u, v, e, rfl, hv⟩; simpa [e] using hv
  · intro hv; exact ⟨[], w, rfl, rfl, hv⟩

end AlgoVerif.C13
