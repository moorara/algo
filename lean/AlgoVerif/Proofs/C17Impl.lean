import AlgoVerif.Proofs.C17QU
/-!
Quick-union and weighted quick-union keep their invariant along every history and, under it, their
queries are what `Spec.Tracks` demands.
-/
namespace AlgoVerif.C17
open AlgoVerif.C17.Spec

theorem isValid_iff {n : Nat} {a : Array Int} (hs : a.size = n) (i : Int) :
    ((decide (0 ≤ i) && decide (i < (a.size : Int))) = true) ↔ Valid n i := by
  simp [Valid, hs]

/-- the three `isValid` are this test -/
theorem decide_valid {n : Nat} {a : Array Int} (hs : a.size = n) (i : Int) :
    (decide (0 ≤ i) && decide (i < (a.size : Int))) = decide (Valid n i) :=
  Bool.eq_iff_iff.2 ((isValid_iff hs i).trans decide_eq_true_iff.symm)

variable {n : Nat} {valid : Int → Bool} {p q : Int} {β : Type}

/-- the test `!u.isValid(p) || !u.isValid(q)` at the head of `Union` and `IsConnected` -/
theorem ite_invalid (hv : ∀ i, valid i = decide (Valid n i)) (h : ¬ (Valid n p ∧ Valid n q)) (x y : β) :
    (if (!valid p || !valid q) = true then x else y) = x := by
  simp only [hv, ← Bool.not_and, ← Bool.decide_and, h, decide_false, Bool.not_false, if_true]

theorem ite_valid (hv : ∀ i, valid i = decide (Valid n i)) (h : Valid n p ∧ Valid n q) (x y : β) :
    (if (!valid p || !valid q) = true then x else y) = y := by
  simp only [hv, h, decide_true, Bool.not_true, Bool.or_self, Bool.false_eq_true, if_false]

theorem run_inv {σ : Type} {union : σ → Int → Int → Outcome σ} {run : σ → List (Int × Int) → Outcome σ}
    (Inv : List (Int × Int) → σ → Prop) (hnil : ∀ u, run u [] = .ok u)
    (hcons : ∀ u p q ops, run u ((p, q) :: ops) = union u p q >>= fun u' => run u' ops)
    (hstep : ∀ {us u} p q, Inv us u → ∃ u', union u p q = .ok u' ∧ Inv (us ++ [(p, q)]) u') :
    ∀ ops {us u}, Inv us u → ∃ u', run u ops = .ok u' ∧ Inv (us ++ ops) u' := by
  intro ops
  induction ops with
  | nil => intro us u I; exact ⟨u, hnil u, by rwa [List.append_nil]⟩
  | cons x ops ih =>
    intro us u I
    obtain ⟨u1, h1, I1⟩ := hstep x.1 x.2 I
    obtain ⟨u2, h2, I2⟩ := ih I1
    exact ⟨u2, by rw [hcons, h1]; exact h2, by rwa [List.append_assoc] at I2⟩

theorem tracks_of_represents {n us rt} {find : Int → Outcome (Int × Bool)}
    {isConnected : Int → Int → Outcome Bool} {count : Int} (R : Represents n us rt)
    (hfv : ∀ p, Valid n p → find p = .ok (rt p, true))
    (hfi : ∀ p, ¬ Valid n p → find p = .ok (-1, false))
    (hcv : ∀ p q, Valid n p → Valid n q → isConnected p q = .ok (rt p == rt q))
    (hci : ∀ p q, ¬ (Valid n p ∧ Valid n q) → isConnected p q = .ok false)
    (hcount : count = ((List.range n).countP fun (i : Nat) => rt (i : Int) == (i : Int)))
    (hmerges : count + numMerges n us = n) :
    Tracks n us find isConnected count where
  connected_iff p q := by
    by_cases h : Valid n p ∧ Valid n q
    · refine ⟨_, hcv p q h.1 h.2, ?_⟩
      rw [← R.conn p q h.1 h.2]; simp
    · refine ⟨false, hci p q h, ?_⟩
      constructor
      · intro k; cases k
      · intro k; exact absurd k.valid h
  find_valid p hp := ⟨rt p, hfv p hp, R.conn_rt hp⟩
  find_same_iff p q rp rq bp bq hp hq h1 h2 := by
    rw [hfv p hp] at h1; rw [hfv q hq] at h2
    cases h1; cases h2
    exact R.conn p q hp hq
  find_invalid := hfi
  count_classes := by
    refine ⟨by omega, ?_⟩
    have := R.classCount
    rw [hcount]; simpa using this
  count_merges := by omega

namespace QuickUnion
variable {n : Nat} {us : List (Int × Int)} {u : QuickUnion} {p q r rp rq : Int} {bp bq : Bool}

theorem find_valid (I : QUInv n us u.root u.count) (h : Reaches n u.root p r) : u.find p = .ok (r, true) := by
  rw [find, isValid, decide_valid I.forest.size, decide_eq_true h.valid_left, I.findLoop_eq h]; rfl

theorem find_invalid (hs : u.root.size = n) (h : ¬ Valid n p) : u.find p = .ok (-1, false) := by
  rw [find, isValid, decide_valid hs, decide_eq_false h]; rfl

theorem union_invalid (hs : u.root.size = n) (h : ¬ (Valid n p ∧ Valid n q)) : u.union p q = .ok u := by
  rw [union, ite_invalid (valid := u.isValid) (decide_valid hs) h]

theorem isConnected_invalid (hs : u.root.size = n) (h : ¬ (Valid n p ∧ Valid n q)) :
    u.isConnected p q = .ok false := by
  rw [isConnected, ite_invalid (valid := u.isValid) (decide_valid hs) h]

theorem union_of_find (hs : u.root.size = n) (h : Valid n p ∧ Valid n q) (hp : u.find p = .ok (rp, bp))
    (hq : u.find q = .ok (rq, bq)) :
    u.union p q = if rp = rq then .ok u else
      setIdx u.root rp rq >>= fun root => .ok { count := u.count - 1, root := root } := by
  rw [union, ite_valid (valid := u.isValid) (decide_valid hs) h, hp, hq]; rfl

theorem isConnected_of_find (hs : u.root.size = n) (h : Valid n p ∧ Valid n q) (hp : u.find p = .ok (rp, bp))
    (hq : u.find q = .ok (rq, bq)) : u.isConnected p q = .ok (rp == rq) := by
  rw [isConnected, ite_valid (valid := u.isValid) (decide_valid hs) h, hp, hq]; rfl

theorem union_inv (I : QUInv n us u.root u.count) (p q : Int) :
    ∃ u', u.union p q = .ok u' ∧ QUInv n (us ++ [(p, q)]) u'.root u'.count := by
  have hs := I.forest.size
  by_cases hv : Valid n p ∧ Valid n q
  · obtain ⟨rp, hp⟩ := I.forest.reaches p hv.1
    obtain ⟨rq, hq⟩ := I.forest.reaches q hv.2
    rw [union_of_find hs hv (find_valid I hp) (find_valid I hq)]
    by_cases he : rp = rq
    · exact ⟨u, if_pos he, I.skip (.inr ((I.conn_iff hp hq).1 he))⟩
    · rw [if_neg he, setIdx_ok hs hp.is_root.1]
      exact ⟨_, rfl, I.link hp hq he (.inl rfl)⟩
  · exact ⟨u, union_invalid hs hv, I.skip (.inl hv)⟩

theorem run_inv (ops : List (Int × Int)) : ∀ {us} {u : QuickUnion}, QUInv n us u.root u.count →
    ∃ u', u.run ops = .ok u' ∧ QUInv n (us ++ ops) u'.root u'.count :=
  C17.run_inv (fun us (u : QuickUnion) => QUInv n us u.root u.count) (fun _ => rfl) (fun _ _ _ _ => rfl)
    (fun p q I => union_inv I p q) ops

theorem tracks (I : QUInv n us u.root u.count) : Tracks n us u.find u.isConnected u.getCount := by
  obtain ⟨rt, R, hre⟩ := I.repr
  have hs := I.forest.size
  have hf := fun p hp => find_valid I (hre p hp)
  refine tracks_of_represents R hf (fun p hp => find_invalid hs hp)
    (fun p q hp hq => isConnected_of_find hs ⟨hp, hq⟩ (hf p hp) (hf q hq))
    (fun p q h => isConnected_invalid hs h) ?_ I.merges
  -- the roots of the forest are the fixed points of `rt`
  show u.count = _
  rw [I.forest.roots, rootCount]
  congr 1
  apply List.countP_congr
  intro i hi
  have hv : Valid n (i : Int) := valid_cast.2 (List.mem_range.1 hi)
  simp only [beq_iff_eq]
  constructor
  · intro h; exact (hre _ hv).unique (.root hv h)
  · intro h; have := (hre _ hv).is_root.2; rwa [h] at this

end QuickUnion

/-! ## weighted quick-union: the same forest, the direction of the link chosen by `size[]`

`Find` and `IsConnected` read only `root`: they are quick-union's, by definition. -/

/-- what the size array holds only decides the direction of a link, never whether classes are merged -/
structure WQInv (n : Nat) (us : List (Int × Int)) (u : Weighted) : Prop where
  qu : QUInv n us u.root u.count
  sizes : u.size.size = n

namespace Weighted
variable {n : Nat} {us : List (Int × Int)} {u : Weighted} {p q r rp rq : Int} {bp bq : Bool}

theorem find_eq (u : Weighted) : u.find = (QuickUnion.mk u.count u.root).find := rfl

theorem find_invalid (hs : u.root.size = n) (h : ¬ Valid n p) : u.find p = .ok (-1, false) :=
  QuickUnion.find_invalid (u := ⟨u.count, u.root⟩) hs h

theorem isConnected_invalid (hs : u.root.size = n) (h : ¬ (Valid n p ∧ Valid n q)) :
    u.isConnected p q = .ok false :=
  QuickUnion.isConnected_invalid (u := ⟨u.count, u.root⟩) hs h

theorem union_invalid (hs : u.root.size = n) (h : ¬ (Valid n p ∧ Valid n q)) : u.union p q = .ok u := by
  rw [union, ite_invalid (valid := u.isValid) (decide_valid hs) h]

theorem union_inv (W : WQInv n us u) (p q : Int) :
    ∃ u', u.union p q = .ok u' ∧ WQInv n (us ++ [(p, q)]) u' := by
  have I := W.qu
  have hs := I.forest.size
  have hz := W.sizes
  by_cases hv : Valid n p ∧ Valid n q
  · obtain ⟨rp, hp⟩ := I.forest.reaches p hv.1
    obtain ⟨rq, hq⟩ := I.forest.reaches q hv.2
    rw [union, ite_valid (valid := u.isValid) (decide_valid hs) hv, find_eq, QuickUnion.find_valid I hp, QuickUnion.find_valid I hq]
    by_cases he : rp = rq
    · exact ⟨u, if_pos he, I.skip (.inr ((I.conn_iff hp hq).1 he)), hz⟩
    · have hvp := hp.is_root.1
      have hvq := hq.is_root.1
      simp only [ok_bind, if_neg he, idx_ok hz hvp, idx_ok hz hvq, setIdx_ok hs hvp, setIdx_ok hs hvq,
        setIdx_ok hz hvp, setIdx_ok hz hvq]
      split
      · exact ⟨_, rfl, I.link hp hq he (.inl rfl), by rw [Array.size_setIfInBounds, hz]⟩
      · exact ⟨_, rfl, I.link hq hp (Ne.symm he) (.inr rfl), by rw [Array.size_setIfInBounds, hz]⟩
  · exact ⟨u, union_invalid hs hv, I.skip (.inl hv), hz⟩

theorem run_inv (ops : List (Int × Int)) : ∀ {us} {u : Weighted}, WQInv n us u →
    ∃ u', u.run ops = .ok u' ∧ WQInv n (us ++ ops) u' :=
  C17.run_inv (WQInv n) (fun _ => rfl) (fun _ _ _ _ => rfl) (fun p q W => union_inv W p q) ops

theorem tracks (W : WQInv n us u) : Tracks n us u.find u.isConnected u.getCount :=
  QuickUnion.tracks (u := ⟨u.count, u.root⟩) W.qu

end Weighted

theorem WQInv.init (n : Nat) : WQInv n [] (Weighted.new n) :=
  ⟨QUInv.init n, by simp [Weighted.new]⟩

end AlgoVerif.C17
