import AlgoVerif.Model.C07Radix
import AlgoVerif.Proofs.C07Basic
/-!
# C07 — the cutoff insertion sort of the radix sorts (`radixsort/radixsort.go`, `insertion`) on a
range `[lo, hi]`, generic in the element type.  Its inner loop also serves `sort.Insertion` and the last
pass of `sort.Shell` (`C07Shell`).
-/
namespace AlgoVerif.C07
open AlgoVerif

variable {α : Type}

/-- `a[lo..i]` is sorted except that `a[j]` may be smaller than elements before it. -/
structure RInsInv (cmp : α → α → Int) (a : Array α) (lo j i : Nat) : Prop where
  i_lt : i < a.size
  lo_le : lo ≤ j
  j_le : j ≤ i
  rest : ∀ (p q : Nat), lo ≤ p → (hpq : p < q) → (hq : q ≤ i) → p ≠ j → q ≠ j →
    cmp (a[p]'(by omega)) (a[q]'(by omega)) ≤ 0
  after : ∀ (q : Nat), (hjq : j < q) → (hq : q ≤ i) → cmp (a[j]'(by omega)) (a[q]'(by omega)) ≤ 0

theorem rInsInner_spec {cmp : α → α → Int} {lt : α → α → Bool} (tp : TotalPreorder cmp)
    (hlt : ∀ x y, lt x y = true ↔ cmp x y < 0) (lo : Nat) :
    ∀ (f : Nat) (j : Nat) (a : Array α) (i : Nat), j < f → RInsInv cmp a lo j i →
      ∃ a', rInsInner lt (lo : Int) f (j : Int) a = .ok a' ∧ SegStep a a' lo (i+1) ∧
        SortedSeg cmp a' lo (i+1) := by
  intro f
  induction f with
  | zero => intro j a i h; omega
  | succ f ih =>
    intro j a i hf inv
    have hi := inv.i_lt
    have hj := inv.j_le
    have hlo := inv.lo_le
    unfold rInsInner
    by_cases hj0 : j = lo
    · subst hj0
      simp only [gt_iff_lt, Int.lt_irrefl, ↓reduceIte]
      refine ⟨a, rfl, SegStep.refl _ _ _, ?_⟩
      intro p q hp hpq hq hq'
      by_cases hp : p = j
      · subst hp; exact inv.after q hpq (by omega)
      · exact inv.rest p q (by omega) hpq (by omega) hp (by omega)
    · have hjpos : (j : Int) > lo := by omega
      have e1 : ((j : Int) - 1) = ((j - 1 : Nat) : Int) := by omega
      simp only [hjpos, ↓reduceIte, e1]
      rw [get_nat (by omega : j < a.size), get_nat (by omega : j - 1 < a.size)]
      simp only [ok_bind]
      split
      · next hc' =>
        have hc := (hlt _ _).1 hc'
        rw [swap_nat (by omega) (by omega)]
        simp only [ok_bind]
        have inv' : RInsInv cmp (a.swap j (j-1) (by omega) (by omega)) lo (j-1) i := by
          refine ⟨by rw [Array.size_swap]; exact hi, by omega, by omega, ?_, ?_⟩
          · intro p q hlp hpq hq hp hq'
            by_cases hqj : q = j
            · subst hqj
              rw [Array.getElem_swap_left, Array.getElem_swap_of_ne (by omega) (by omega)]
              exact inv.rest p (q-1) hlp (by omega) (by omega) (by omega) (by omega)
            · by_cases hpj : p = j
              · subst hpj
                rw [Array.getElem_swap_left, Array.getElem_swap_of_ne (by omega) (by omega)]
                exact inv.rest (p-1) q (by omega) (by omega) hq (by omega) hqj
              · rw [Array.getElem_swap_of_ne hpj hp, Array.getElem_swap_of_ne hqj hq']
                exact inv.rest p q hlp hpq hq hpj hqj
          · intro q hjq hq
            rw [Array.getElem_swap_right]
            by_cases hqj : q = j
            · subst hqj
              rw [Array.getElem_swap_left]
              exact Int.le_of_lt hc
            · rw [Array.getElem_swap_of_ne hqj (by omega)]
              exact inv.after q (by omega) hq
        obtain ⟨a', h1, s, h6⟩ := ih (j-1) _ i (by omega) inv'
        exact ⟨a', h1, (SegStep.swap _ _ (by omega) (by omega) (by omega) (by omega)).trans s, h6⟩
      · next hc' =>
        refine ⟨a, rfl, SegStep.refl _ _ _, ?_⟩
        have hle := tp.le_of_not_lt fun h => hc' ((hlt _ _).2 h)
        intro p q hp hpq hq hq'
        by_cases hqj : q = j
        · subst hqj
          by_cases hpj : p = q - 1
          · subst hpj; exact hle
          · exact tp.trans _ _ _ (inv.rest p (q-1) hp (by omega) (by omega) (by omega) (by omega)) hle
        · by_cases hpj : p = j
          · subst hpj; exact inv.after q hpq (by omega)
          · exact inv.rest p q hp hpq (by omega) hpj hqj

theorem rInsLoop_spec {cmp : α → α → Int} {lt : α → α → Bool} (tp : TotalPreorder cmp)
    (hlt : ∀ x y, lt x y = true ↔ cmp x y < 0) (lo n : Nat) :
    ∀ (f : Nat) (i : Nat) (a : Array α), lo ≤ i → i ≤ lo + n → lo + n ≤ a.size → lo + n < f + i →
      SortedSeg cmp a lo i →
      ∃ a', rInsLoop lt (lo : Int) (((lo + n : Nat) : Int) - 1) f (i : Int) a = .ok a' ∧
        SegStep a a' lo (lo + n) ∧ SortedSeg cmp a' lo (lo + n) := by
  intro f
  induction f with
  | zero => intro i a _ _ _ h; omega
  | succ f ih =>
    intro i a hli hi hsz hf hs
    unfold rInsLoop
    split
    · have inv : RInsInv cmp a lo i i :=
        ⟨by omega, hli, Nat.le_refl _, fun p q hp hpq hq _ hqi => hs p q hp hpq (by omega) (by omega),
          fun q h1 h2 => by omega⟩
      obtain ⟨a1, h1, s1, h6⟩ := rInsInner_spec tp hlt lo (a.size + 1) i a i (by omega) inv
      rw [h1]
      simp only [ok_bind]
      rw [← Int.natCast_add_one]
      have hsz1 := s1.size
      obtain ⟨a2, g1, s2, g6⟩ := ih (i+1) a1 (by omega) (by omega) (by omega) (by omega) h6
      exact ⟨a2, g1, (s1.widen (Nat.le_refl _) (by omega)).trans s2, g6⟩
    · have : i = lo + n := by omega
      subst this
      exact ⟨a, rfl, SegStep.refl _ _ _, hs⟩

/-- `insertion(a, lo, hi)` with `hi = lo + n - 1` (possibly `lo - 1`, even `-1`) -/
theorem rInsertion_segStep {cmp : α → α → Int} {lt : α → α → Bool} (tp : TotalPreorder cmp)
    (hlt : ∀ x y, lt x y = true ↔ cmp x y < 0) (a : Array α) (lo n : Nat) (h : lo + n ≤ a.size) :
    ∃ a', rInsertion lt a (lo : Int) (((lo + n : Nat) : Int) - 1) = .ok a' ∧
      SegStep a a' lo (lo + n) ∧ SortedSeg cmp a' lo (lo + n) :=
  rInsLoop_spec tp hlt lo n (a.size + 1) lo a (Nat.le_refl _) (by omega) h (by omega)
    (fun p q _ _ _ _ => by omega)

theorem rInsertion_spec {cmp : α → α → Int} {lt : α → α → Bool} (tp : TotalPreorder cmp)
    (hlt : ∀ x y, lt x y = true ↔ cmp x y < 0) (a : Array α) (lo n : Nat) (h : lo + n ≤ a.size) :
    ∃ a', rInsertion lt a (lo : Int) (((lo + n : Nat) : Int) - 1) = .ok a' ∧ a'.size = a.size ∧ a'.Perm a ∧
      (∀ p, (p < lo ∨ lo + n ≤ p) → a'[p]? = a[p]?) ∧ SortedSeg cmp a' lo (lo + n) ∧
      (∀ P : α → Prop, (∀ p, lo ≤ p → (hp : p < lo + n) → P (a[p]'(by omega))) →
        ∀ p, lo ≤ p → (hp : p < lo + n) → ∀ (h' : p < a'.size), P a'[p]) := by
  obtain ⟨a', h1, s, h6⟩ := rInsertion_segStep tp hlt a lo n h
  exact ⟨a', h1, s.size, s.perm, frame_getElem? s.size s.frame, h6,
    fun P hP p hp1 hp2 h' => s.pres P (fun p hp1 hp2 _ => hP p hp1 hp2) p hp1 hp2 h'⟩

end AlgoVerif.C07
