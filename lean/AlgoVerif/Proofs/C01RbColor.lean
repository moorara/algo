import AlgoVerif.Proofs.C01RbBase
/-!
# LLRB colour invariants and what the fix-up sequence does to them (used by C01 and C15)
-/
namespace AlgoVerif.C01
open Tree

variable {K V : Type}

/-- black height along the left spine -/
def bh : Tree K V → Nat
  | .nil => 0
  | .node l _ _ _ _ c _ => bh l + (if c then 0 else 1)

/-- left-leaning red-black subtree (the root may be red) -/
def RB : Tree K V → Prop
  | .nil => True
  | .node l _ _ _ _ c r => r.isRed = false ∧ (c = true → l.isRed = false) ∧ bh l = bh r ∧ RB l ∧ RB r

/-- as `RB`, except that a red root may have a red left child (what `_put` hands to its caller) -/
def ARB : Tree K V → Prop
  | .nil => True
  | .node l _ _ _ _ _ r => r.isRed = false ∧ bh l = bh r ∧ RB l ∧ RB r

@[simp] theorem bh_nil : bh (Tree.nil : Tree K V) = 0 := rfl
@[simp] theorem bh_node (l : Tree K V) (k v s h c r) :
    bh (Tree.node l k v s h c r) = bh l + (if c then 0 else 1) := rfl
@[simp] theorem RB_nil : RB (Tree.nil : Tree K V) = True := rfl
@[simp] theorem RB_node (l : Tree K V) (k v s h c r) :
    RB (Tree.node l k v s h c r) =
      (r.isRed = false ∧ (c = true → l.isRed = false) ∧ bh l = bh r ∧ RB l ∧ RB r) := rfl
@[simp] theorem ARB_nil : ARB (Tree.nil : Tree K V) = True := rfl
@[simp] theorem ARB_node (l : Tree K V) (k v s h c r) :
    ARB (Tree.node l k v s h c r) = (r.isRed = false ∧ bh l = bh r ∧ RB l ∧ RB r) := rfl

theorem RB.arb {t : Tree K V} (h : RB t) : ARB t := by
  cases t <;> simp_all

def LLRB (t : Tree K V) : Prop := RB t ∧ t.isRed = false

theorem llrb_nil : LLRB (Tree.nil : Tree K V) := ⟨trivial, rfl⟩

theorem bh_fixSizeP (n : Tree K V) : bh (fixSizeP n) = bh n := by cases n <;> simp [fixSizeP]
theorem isRed_fixSizeP (n : Tree K V) : (fixSizeP n).isRed = n.isRed := by cases n <;> simp [fixSizeP]
theorem RB_fixSizeP (n : Tree K V) : RB (fixSizeP n) = RB n := by cases n <;> simp [fixSizeP]
theorem ARB_fixSizeP (n : Tree K V) : ARB (fixSizeP n) = ARB n := by cases n <;> simp [fixSizeP]

theorem ARB.rb {t : Tree K V} (h : ARB t) (hr : (t.isRed && t.lt.isRed) = false) : RB t := by
  rcases t with _ | ⟨l, k, v, s, hh, c, r⟩
  · trivial
  · exact ⟨h.1, fun hc => by simpa [hc] using hr, h.2⟩

theorem RB.not_two_red {t : Tree K V} (h : RB t) : (t.isRed && t.lt.isRed) = false := by
  rcases t with _ | ⟨l, k, v, s, hh, c, r⟩
  · rfl
  · cases c
    · rfl
    · exact h.2.1 rfl

/-- the fix-up sequence of `_put` (`strict`) and of `balance` on a node that carries at most one violation -/
theorem fixP_spec (strict : Bool) (L : Tree K V) (k : K) (v : V) (s h : Nat) (c : Bool) (R : Tree K V)
    (hL : ARB L) (hR : RB R) (hb : bh L = bh R) (hc : c = true → RB L)
    (h4 : c = true → L.isRed = true → R.isRed = false) (hr : R.isRed = true → RB L) :
    ARB (fixP strict (.node L k v s h c R)) ∧
      bh (fixP strict (.node L k v s h c R)) = bh L + (if c then 0 else 1) ∧
      ((c = true → L.isRed = false ∧ R.isRed = false) → RB (fixP strict (.node L k v s h c R))) ∧
      (fixP strict (.node L k v s h c R)).isRed = (c || (L.isRed && (R.isRed || L.lt.isRed))) := by
  unfold fixP
  rw [RB_fixSizeP, bh_fixSizeP, ARB_fixSizeP, isRed_fixSizeP]
  cases hr' : R.isRed
  · cases h2 : L.isRed && L.lt.isRed
    · -- no violation: the three conditional steps do nothing
      have hL' := hL.rb h2
      rw [show fix3P (fix2P (fix1P strict (.node L k v s h c R))) = .node L k v s h c R by
        simp [fix1P, fix2P, fix3P, hr', h2]]
      exact ⟨⟨hr', hb, hL', hR⟩, rfl, fun hc' => ⟨hr', fun hcc => (hc' hcc).1, hb, hL', hR⟩, by simp [h2]⟩
    · -- two red links in a row (only below a black node): `rotateRight`, then `flipColors`
      rcases L with _ | ⟨_ | ⟨LLL, LLk, LLv, LLs, LLh, LLc, LLR⟩, Lk, Lv, Ls, Lh, Lc, LR⟩
      · simp at h2
      · simp at h2
      · simp only [isRed_node, lt_node, Bool.and_eq_true] at h2
        obtain ⟨rfl, rfl⟩ := h2
        cases c
        · simp only [ARB_node, RB_node, bh_node, if_true, Nat.add_zero] at hL hb
          simp [fix1P, fix2P, fix3P, rotRP, flipP, hr', hR, hL]
          omega
        · simpa using hc rfl
  · rcases R with _ | ⟨RL, Rk, Rv, Rs, Rh, Rc, RR⟩
    · simp at hr'
    · simp only [isRed_node] at hr'
      subst hr'
      have hL' := hr rfl
      simp only [RB_node, bh_node, if_true, Nat.add_zero] at hR hb
      cases hl : L.isRed
      · -- red right child, black left child: `rotateLeft`
        simp [fix1P, fix2P, fix3P, rotLP, hl, hL', hR, hb]
      · -- both children red (only below a black node): `flipColors`; `balance` gets there through a
        -- `rotateLeft` and the `rotateRight` that undoes it
        rcases L with _ | ⟨LL, Lk, Lv, Ls, Lh, Lc, LR⟩
        · simp at hl
        · simp only [isRed_node] at hl
          subst hl
          cases c
          · simp only [RB_node, bh_node, if_true, Nat.add_zero] at hL' hb
            cases strict <;> simp [fix1P, fix2P, fix3P, rotLP, rotRP, flipP, hL', hR] <;> omega
          · simpa using h4 rfl rfl

/-- what `_deleteMax` and `_delete` are entered with -/
def PreR : Tree K V → Prop
  | .nil => False
  | .node l _ _ _ _ c r =>
    RB l ∧ RB r ∧ bh l = bh r ∧ (c = true → l.isRed = false) ∧
      (c = true ∨ l.isRed = true ∨ r.isRed = true) ∧ (r.isRed = true → l.isRed = false ∧ c = false)

@[simp] theorem PreR_nil : PreR (Tree.nil : Tree K V) = False := rfl
@[simp] theorem PreR_node (l : Tree K V) (k v s h c r) :
    PreR (Tree.node l k v s h c r) =
      (RB l ∧ RB r ∧ bh l = bh r ∧ (c = true → l.isRed = false) ∧
        (c = true ∨ l.isRed = true ∨ r.isRed = true) ∧ (r.isRed = true → l.isRed = false ∧ c = false)) := rfl

theorem preR_of_RB {n : Tree K V} (h : RB n) (hr : n.isRed = true ∨ n.lt.isRed = true) : PreR n := by
  rcases n with _ | ⟨l, k, v, s, hh, c, r⟩
  · simp at hr
  · simp_all

theorem mrlP_spec {n : Tree K V} (hL : RB n.lt) (hR : RB n.rt) (hb : bh n.lt = bh n.rt)
    (hln : n.lt.isNil = false) (hc : n.isRed = true) (hl : n.lt.isRed = false) (hll : n.lt.lt.isRed = false)
    (hr : n.rt.isRed = false) :
    n.rt.isNil = false ∧ (mrlP n).isNil = false ∧ RB (mrlP n).lt ∧
    ((mrlP n).lt.isRed = true ∨ (mrlP n).lt.lt.isRed = true) ∧ RB (mrlP n).rt ∧
    bh (mrlP n).lt = bh (mrlP n).rt ∧
    ((mrlP n).isRed = true → (mrlP n).lt.isRed = false ∧ (mrlP n).rt.isRed = false) ∧
    bh (mrlP n) = bh n := by
  rcases n with _ | ⟨_ | ⟨ll, lk, lv, ls, lh, lc, lr⟩, k, v, s, h, c, r⟩
  · simp at hln
  · simp at hln
  · simp only [lt_node, rt_node, isRed_node] at hL hR hb hc hl hll hr
    subst hc hl
    rcases r with _ | ⟨rl, rk, rv, rs, rh, rc, rr⟩
    · simp at hb
    · simp only [isRed_node] at hr; subst hr
      rcases rl with _ | ⟨rll, rlk, rlv, rls, rlh, rlc, rlr⟩
      · simp_all [mrlP, flipP]; omega
      · cases rlc <;> simp_all [mrlP, flipP, rotRP, rotLP, setRightP] <;> grind

theorem mrrP_spec {n : Tree K V} (hL : RB n.lt) (hR : RB n.rt) (hb : bh n.lt = bh n.rt)
    (hrn : n.rt.isNil = false) (hc : n.isRed = true) (hl : n.lt.isRed = false) (hr : n.rt.isRed = false)
    (hrl : n.rt.lt.isRed = false) :
    n.lt.isNil = false ∧ (mrrP n).isNil = false ∧ PreR (mrrP n).rt ∧ RB (mrrP n).lt ∧
    bh (mrrP n).lt = bh (mrrP n).rt ∧
    ((mrrP n).isRed = true → (mrrP n).lt.isRed = false ∧ (mrrP n).rt.isRed = false) ∧
    bh (mrrP n) = bh n := by
  rcases n with _ | ⟨l, k, v, s, h, c, _ | ⟨rl, rk, rv, rs, rh, rc, rr⟩⟩
  · simp at hrn
  · simp at hrn
  · simp only [lt_node, rt_node, isRed_node] at hL hR hb hc hl hr hrl
    subst hc hr
    rcases l with _ | ⟨ll, lk, lv, ls, lh, lc, lr⟩
    · simp at hb
    · simp only [isRed_node] at hl; subst hl
      rcases ll with _ | ⟨lll, llk, llv, lls, llh, llc, llr⟩
      · simp_all [mrrP, flipP]; omega
      · cases llc <;> simp_all [mrrP, flipP, rotRP] <;> grind

/-- `rotateRight(n)` at the top of `_deleteMax` / `_delete` -/
theorem rotRP_spec (l : Tree K V) (k : K) (v : V) (s h : Nat) (r : Tree K V)
    (hL : RB l) (hR : RB r) (hb : bh l = bh r) (hl : l.isRed = true) (hr : r.isRed = false) :
    (rotRP (.node l k v s h false r)).isNil = false ∧
    (rotRP (.node l k v s h false r)).rt.isNil = false ∧
    (rotRP (.node l k v s h false r)).rt.isRed = true ∧
    PreR (rotRP (.node l k v s h false r)).rt ∧
    RB (rotRP (.node l k v s h false r)).lt ∧
    bh (rotRP (.node l k v s h false r)).lt = bh (rotRP (.node l k v s h false r)).rt ∧
    (rotRP (.node l k v s h false r)).isRed = false ∧
    (rotRP (.node l k v s h false r)).lt.isRed = false ∧
    bh (rotRP (.node l k v s h false r)) = bh l + 1 := by
  rcases l with _ | ⟨ll, lk, lv, ls, lh, lc, lr⟩
  · simp at hl
  · simp only [isRed_node] at hl; subst hl
    simp_all [rotRP]

theorem preR_rotRP {n : Tree K V} (hp : PreR n) (hl : n.lt.isRed = true) :
    PreR (rotRP n) ∧ (rotRP n).lt.isRed = false ∧ bh (rotRP n) = bh n ∧ n.isRed = false ∧
      (rotRP n).isRed = false ∧ (rotRP n).rt.isRed = true := by
  rcases n with _ | ⟨l, k, v, s, h, c, r⟩
  · simp at hl
  · rcases l with _ | ⟨ll, lk, lv, ls, lh, lc, lr⟩
    · simp at hl
    · simp only [lt_node, isRed_node] at hl; subst hl
      cases c <;> simp_all [rotRP] <;> omega

theorem preR_isNil {n : Tree K V} (hp : PreR n) : n.isNil = false := by
  cases n <;> simp_all

theorem mrrP_alt (l : Tree K V) (k : K) (v : V) (s h : Nat) (r : Tree K V)
    (hR : RB r) (hln : l.isNil = false) (hrn : r.isNil = false) (hr : r.isRed = false)
    (hrl : r.lt.isRed = false) :
    (RB (mrrP (.node l k v s h true r)).rt ∧ (mrrP (.node l k v s h true r)).rt.isRed = true ∧
        (mrrP (.node l k v s h true r)).rt.rt.isRed = false) ∨
      ∀ x ∈ (Tree.node l k v s h true r).rpart, x ∈ (mrrP (.node l k v s h true r)).rt.rpart := by
  rcases r with _ | ⟨rl, rk, rv, rs, rh, rc, rr⟩
  · simp at hrn
  · simp only [isRed_node] at hr; subst hr
    rcases l with _ | ⟨ll, lk, lv, ls, lh, lc, lr⟩
    · simp at hln
    · rcases ll with _ | ⟨lll, llk, llv, lls, llh, llc, llr⟩
      · exact .inl (by simp_all [mrrP, flipP])
      · cases llc
        · exact .inl (by simp_all [mrrP, flipP])
        · exact .inr (by simp [mrrP, flipP, rotRP])

theorem RB_bh_zero {t : Tree K V} (h : RB t) (hb : bh t = 0) (hr : t.isRed = false) : t = .nil := by
  rcases t with _ | ⟨l, k, v, s, hh, c, r⟩
  · rfl
  · simp only [isRed_node] at hr; subst hr
    simp at hb

end AlgoVerif.C01
