import AlgoVerif.Proofs.C02Sim
/-!
# C02/C03 — separate chaining: the Model satisfies `Correct`

Invariant: every pair sits in the bucket of its hash (`home`), no bucket holds a key twice, `n` is the sum of the bucket lengths
(`sumTo`), `(n-1)/m < maxLF`.  `Put` and `Delete` change one bucket: `Chain.replace_bucket`.
-/
set_option linter.unusedSectionVars false
namespace AlgoVerif.C02
open Spec AlgoVerif.Generated
variable {K V σ : Type} [DecidableEq K]

theorem hashIdx_lt (m : Nat) (h : UInt64) (hm : 0 < m) : Chain.hashIdx m h < m := by
  unfold Chain.hashIdx
  have := Nat.and_le_right (n := h.toNat) (m := m - 1)
  omega

def sumTo (f : Nat → Nat) : Nat → Nat
  | 0 => 0
  | n + 1 => sumTo f n + f n

theorem sumTo_congr {f f' : Nat → Nat} {n : Nat} (h : ∀ i, i < n → f' i = f i) : sumTo f' n = sumTo f n := by
  induction n with
  | zero => rfl
  | succ n ih => simp [sumTo, ih (fun i hi => h i (by omega)), h n (by omega)]

theorem sumTo_update {f f' : Nat → Nat} {n idx : Nat} (hidx : idx < n) (h : ∀ i, i ≠ idx → f' i = f i) :
    sumTo f' n + f idx = sumTo f n + f' idx := by
  induction n with
  | zero => omega
  | succ n ih =>
    simp only [sumTo]
    by_cases hn : idx = n
    · subst hn
      rw [sumTo_congr (f := f) (f' := f') (fun i hi => h i (by omega))]
      omega
    · have := ih (by omega)
      rw [h n (by omega)]
      omega

theorem sumTo_zero {f : Nat → Nat} {n : Nat} (h : ∀ i, i < n → f i = 0) : sumTo f n = 0 := by
  induction n with
  | zero => rfl
  | succ n ih => simp [sumTo, ih (fun i hi => h i (by omega)), h n (by omega)]

theorem length_flatMap_range {α : Type} (g : Nat → List α) (n : Nat) :
    ((List.range n).flatMap g).length = sumTo (fun i => (g i).length) n := by
  induction n with
  | zero => simp [sumTo]
  | succ n ih => rw [List.range_succ, List.flatMap_append, List.length_append, ih]; simp [sumTo]

theorem bucketGet_eq (key : K) (b : List (K × V)) : Chain.bucketGet key b = Map.lookup b key := by
  induction b with
  | nil => rfl
  | cons e r ih =>
    obtain ⟨k, v⟩ := e
    simp only [Chain.bucketGet, Map.lookup, ih]

theorem bucketSet_none {key : K} {val : V} {b : List (K × V)} :
    Chain.bucketSet key val b = none ↔ key ∉ b.map Prod.fst := by
  induction b with
  | nil => exact ⟨fun _ h => (nomatch h), fun _ => rfl⟩
  | cons e r ih =>
    obtain ⟨k, v⟩ := e
    unfold Chain.bucketSet
    by_cases hk : k = key
    · rw [if_pos hk]
      exact ⟨fun h => (nomatch h), fun h => absurd (List.mem_cons.2 (Or.inl hk.symm)) h⟩
    · rw [if_neg hk, List.map_cons, List.mem_cons, not_or, ← ih]
      rcases Chain.bucketSet key val r with _ | r'
      · exact ⟨fun _ => ⟨Ne.symm hk, rfl⟩, fun _ => rfl⟩
      · exact ⟨fun h => (nomatch h), fun h => nomatch h.2⟩

theorem bucketSet_some {key : K} {val : V} {b b' : List (K × V)} (hnd : NodupKeys b)
    (h : Chain.bucketSet key val b = some b') :
    b'.map Prod.fst = b.map Prod.fst ∧ b'.length = b.length ∧
      ∀ k' v', (k', v') ∈ b' ↔ (k' = key ∧ v' = val) ∨ (k' ≠ key ∧ (k', v') ∈ b) := by
  induction b generalizing b' with
  | nil => simp [Chain.bucketSet] at h
  | cons e r ih =>
    obtain ⟨k, v⟩ := e
    have hnd' := nodupKeys_cons.1 hnd
    unfold Chain.bucketSet at h
    by_cases hk : k = key
    · subst hk
      simp only [if_true, Option.some.injEq] at h
      subst h
      have hr : ∀ k' v', (k', v') ∈ r → k' ≠ k := fun k' v' hm hk' => hnd'.1 (List.mem_map.2 ⟨(k', v'), hm, hk'⟩)
      refine ⟨rfl, rfl, fun k' v' => ?_⟩
      simp only [List.mem_cons, Prod.mk.injEq]
      exact Iff.rfl.or ⟨fun hm => ⟨hr k' v' hm, Or.inr hm⟩, fun h => h.2.resolve_left fun h' => h.1 h'.1⟩
    · simp only [hk, if_false] at h
      cases hr : Chain.bucketSet key val r with
      | none => simp [hr] at h
      | some r' =>
        simp only [hr, Option.some.injEq] at h
        subst h
        obtain ⟨h1, h2, h3⟩ := ih hnd'.2 hr
        refine ⟨by simp [h1], by simp [h2], fun k' v' => ?_⟩
        simp only [List.mem_cons, Prod.mk.injEq, h3]
        rw [or_left_comm, and_or_left]
        exact Iff.rfl.or (Iff.or ⟨fun h => ⟨fun e => hk (h.1 ▸ e), h⟩, And.right⟩ Iff.rfl)

theorem bucketDelete_eq {key : K} {b : List (K × V)} (hnd : NodupKeys b) :
    Chain.bucketDelete key b = (Map.erase b key, Map.lookup b key) ∧
      (Map.erase b key).length + (if (Map.lookup b key).isSome then 1 else 0) = b.length := by
  induction b with
  | nil => exact ⟨rfl, rfl⟩
  | cons e r ih =>
    obtain ⟨k, v⟩ := e
    have hnd' := nodupKeys_cons.1 hnd
    obtain ⟨h1, h2⟩ := ih hnd'.2
    unfold Chain.bucketDelete Map.lookup
    by_cases hk : k = key
    · subst hk
      have hr : Map.erase ((k, v) :: r) k = r :=
        (List.filter_cons_of_neg (by simp)).trans (List.filter_eq_self.2 fun e he =>
          decide_eq_true fun (h : e.1 = k) => hnd'.1 (List.mem_map.2 ⟨e, he, h⟩))
      simp only [if_true, hr, true_and]
      rfl
    · have hr : Map.erase ((k, v) :: r) key = (k, v) :: Map.erase r key := List.filter_cons_of_pos (by simpa using hk)
      simp only [hk, if_false, h1, hr, List.length_cons, true_and]
      omega

def Chain.bucket (t : ChainTable K V) (i : Nat) : List (K × V) := t.buckets[i]?.getD []

def Chain.Live (t : ChainTable K V) (k : K) (v : V) : Prop := ∃ i, i < t.buckets.size ∧ (k, v) ∈ Chain.bucket t i

structure Chain.InvCore (hash : K → UInt64) (t : ChainTable K V) : Prop where
  size : t.buckets.size = t.m
  minM : symboltable_scMinM ≤ t.m
  pow2 : isPowerOf2 t.m = true
  home : ∀ i, i < t.m → ∀ e ∈ Chain.bucket t i, Chain.hashIdx t.m (mix (hash e.1)) = i
  nodup : ∀ i, i < t.m → NodupKeys (Chain.bucket t i)
  n_eq : t.n = ((sumTo (fun i => (Chain.bucket t i).length) t.m : Nat) : Int)
  lf : ValidLF scMinLF scMaxLF t.minLF t.maxLF

/-- invariant with room for `r` more insertions before `Put` would resize:
`(n + r - 1) / m < maxLF` -/
def Chain.Room (hash : K → UInt64) (r : Nat) (t : ChainTable K V) : Prop :=
  Chain.InvCore hash t ∧ (t.n + (r : Int)) * (t.maxLF.den : Int) < (t.maxLF.num : Int) * (t.m : Int) + (t.maxLF.den : Int)

abbrev Chain.Inv (hash : K → UInt64) (t : ChainTable K V) : Prop := Chain.Room hash 0 t

theorem scMinM_pos : 0 < symboltable_scMinM := by decide

theorem Chain.bucket_of_get {t : ChainTable K V} {i : Nat} {b : List (K × V)} (h : t.buckets[i]? = some b) :
    Chain.bucket t i = b := by simp [Chain.bucket, h]

theorem Chain.get_of_lt {t : ChainTable K V} {i : Nat} (h : i < t.buckets.size) :
    t.buckets[i]? = some (Chain.bucket t i) := by
  simp [Chain.bucket, h]

theorem Chain.live_iff_bucket {hash : K → UInt64} {t : ChainTable K V} (hI : Chain.InvCore hash t) (k : K) (v : V) :
    Chain.Live t k v ↔ (k, v) ∈ Chain.bucket t (Chain.hashIdx t.m (mix (hash k))) := by
  have hm : 0 < t.m := Nat.lt_of_lt_of_le scMinM_pos hI.minM
  constructor
  · rintro ⟨i, hi, hmem⟩
    rw [hI.size] at hi
    have := hI.home i hi _ hmem
    simp only at this
    rw [this]; exact hmem
  · intro hmem
    exact ⟨_, by rw [hI.size]; exact hashIdx_lt _ _ hm, hmem⟩

theorem Chain.bucket_set (t : ChainTable K V) (i : Nat) (hi : i < t.buckets.size) (b : List (K × V)) (n' : Int) (j : Nat) :
    Chain.bucket { t with buckets := t.buckets.setIfInBounds i b, n := n' } j = if j = i then b else Chain.bucket t j := by
  unfold Chain.bucket
  simp only [Array.getElem?_setIfInBounds]
  by_cases hj : i = j
  · subst hj; simp [hi]
  · simp [hj, Ne.symm hj]

/-- `P` says which values `key` has afterwards -/
theorem Chain.replace_bucket {hash : K → UInt64} {t : ChainTable K V} (hI : Chain.InvCore hash t) (key : K)
    (b : List (K × V)) (n' : Int) (P : V → Prop)
    (hb : ∀ k' v', (k', v') ∈ b ↔
      (k' = key ∧ P v') ∨ (k' ≠ key ∧ (k', v') ∈ Chain.bucket t (Chain.hashIdx t.m (mix (hash key)))))
    (hnd : NodupKeys b)
    (hn : n' + ((Chain.bucket t (Chain.hashIdx t.m (mix (hash key)))).length : Int) = t.n + (b.length : Int)) :
    Chain.InvCore hash { t with buckets := t.buckets.setIfInBounds (Chain.hashIdx t.m (mix (hash key))) b, n := n' } ∧
    ∀ k' v', Chain.Live { t with buckets := t.buckets.setIfInBounds (Chain.hashIdx t.m (mix (hash key))) b, n := n' } k' v' ↔
      (k' = key ∧ P v') ∨ (k' ≠ key ∧ Chain.Live t k' v') := by
  have hm : 0 < t.m := Nat.lt_of_lt_of_le scMinM_pos hI.minM
  have hi : Chain.hashIdx t.m (mix (hash key)) < t.buckets.size := by rw [hI.size]; exact hashIdx_lt _ _ hm
  generalize hidef : Chain.hashIdx t.m (mix (hash key)) = i at *
  have hbs := Chain.bucket_set t i hi b n'
  have hcore : Chain.InvCore hash { t with buckets := t.buckets.setIfInBounds i b, n := n' } := by
    refine ⟨by simp [hI.size], hI.minM, hI.pow2, ?_, ?_, ?_, hI.lf⟩
    · intro j hj e he
      rw [hbs] at he
      by_cases hji : j = i
      · subst hji
        simp only [if_true] at he
        rcases (hb e.1 e.2).1 he with ⟨h, _⟩ | ⟨_, h⟩
        · simp only [h, hidef]
        · exact hI.home j hj e h
      · simp only [hji, if_false] at he
        exact hI.home j hj e he
    · intro j hj
      rw [hbs]
      by_cases hji : j = i
      · simp [hji, hnd]
      · simp only [hji, if_false]; exact hI.nodup j hj
    · have hfun : (fun j => (Chain.bucket { t with buckets := t.buckets.setIfInBounds i b, n := n' } j).length) =
          fun j => (if j = i then b else Chain.bucket t j).length := by
        funext j; rw [hbs]
      show n' = ((sumTo (fun j => (Chain.bucket { t with buckets := t.buckets.setIfInBounds i b, n := n' } j).length) t.m : Nat) : Int)
      rw [hfun]
      have hupd := sumTo_update (f := fun j => (Chain.bucket t j).length)
        (f' := fun j => (if j = i then b else Chain.bucket t j).length)
        (n := t.m) (idx := i) (by rw [← hI.size]; exact hi)
        (by intro j hj; simp only [hj, if_false])
      simp only [if_true] at hupd
      have := hI.n_eq
      omega
  refine ⟨hcore, ?_⟩
  intro k' v'
  rw [Chain.live_iff_bucket hcore, hbs, Chain.live_iff_bucket hI]
  by_cases hh : Chain.hashIdx t.m (mix (hash k')) = i
  · rw [if_pos hh, hb, hh]
  · have hne : k' ≠ key := by rintro rfl; exact hh hidef
    simp [hh, hne]

/-- the load-factor bounds, which no operation changes -/
def Chain.par (t : ChainTable K V) : LF × LF := (t.minLF, t.maxLF)

theorem Chain.putBucket_spec (hash : K → UInt64) (t : ChainTable K V) (key : K) (val : V) (r : Nat)
    (h : Chain.Room hash (r + 1) t) :
    ∃ t', Chain.putBucket t (mix (hash key)) key val = .ok t' ∧ Chain.Room hash r t' ∧ PutPost Chain.par Chain.Live t key val t' := by
  obtain ⟨hI, hroom⟩ := h
  have hm : 0 < t.m := Nat.lt_of_lt_of_le scMinM_pos hI.minM
  have hi : Chain.hashIdx t.m (mix (hash key)) < t.buckets.size := by rw [hI.size]; exact hashIdx_lt _ _ hm
  have hnd := hI.nodup _ (by rw [← hI.size]; exact hi)
  unfold Chain.putBucket
  simp only [Chain.get_of_lt hi]
  cases hs : Chain.bucketSet key val (Chain.bucket t (Chain.hashIdx t.m (mix (hash key)))) with
  | some b' =>
    obtain ⟨hk, hlen, hmem⟩ := bucketSet_some hnd hs
    have hrep := Chain.replace_bucket hI key b' t.n (· = val) hmem (by unfold NodupKeys; rw [hk]; exact hnd) (by rw [hlen])
    exact ⟨_, rfl, ⟨hrep.1, Int.lt_of_le_of_lt (room_mono (Int.natCast_nonneg _) (Nat.le_succ r)) hroom⟩,
      ⟨rfl, hrep.2⟩⟩
  | none =>
    have hnot := bucketSet_none.1 hs
    have hmem : ∀ k' v', (k', v') ∈ ((key, val) :: Chain.bucket t (Chain.hashIdx t.m (mix (hash key)))) ↔
        (k' = key ∧ v' = val) ∨ (k' ≠ key ∧ (k', v') ∈ Chain.bucket t (Chain.hashIdx t.m (mix (hash key)))) := by
      intro k' v'
      simp only [List.mem_cons, Prod.mk.injEq]
      exact Iff.rfl.or ⟨fun h => ⟨fun e => hnot (List.mem_map.2 ⟨(k', v'), h, e⟩), h⟩, And.right⟩
    have hrep := Chain.replace_bucket hI key ((key, val) :: Chain.bucket t (Chain.hashIdx t.m (mix (hash key)))) (t.n + 1)
      (· = val) hmem
      (nodupKeys_cons.2 ⟨hnot, hnd⟩)
      (by simp only [List.length_cons]; push_cast; omega)
    refine ⟨_, rfl, ⟨hrep.1, ?_⟩, ⟨rfl, hrep.2⟩⟩
    show (t.n + 1 + (r : Int)) * _ < _
    rw [show t.n + 1 + (r : Int) = t.n + ((r + 1 : Nat) : Int) by omega]
    exact hroom

theorem Chain.lf_facts {minLF maxLF : LF} (h : ValidLF scMinLF scMaxLF minLF maxLF) :
    0 < minLF.num ∧ 0 < maxLF.num ∧ maxLF.den < maxLF.num := by
  obtain ⟨a, b, c⟩ := h.bounds (by decide)
  have : scMinLF.num * maxLF.den = 2 * maxLF.den ∧ maxLF.num * scMinLF.den = maxLF.num := ⟨rfl, Nat.mul_one _⟩
  exact ⟨a, b, by omega⟩

theorem Chain.bucket_replicate (m : Nat) (n : Int) (a b : LF) (j : Nat) :
    Chain.bucket ({ buckets := Array.replicate m [], m := m, n := n, minLF := a, maxLF := b } : ChainTable K V) j = [] := by
  unfold Chain.bucket
  simp only [Array.getElem?_replicate]
  split <;> rfl

theorem Chain.empty_inv (hash : K → UInt64) (m' : Nat) (minLF maxLF : LF) (hlf : ValidLF scMinLF scMaxLF minLF maxLF)
    (hm : symboltable_scMinM ≤ m') (hp : isPowerOf2 m' = true) :
    Chain.InvCore hash ({ buckets := Array.replicate m' [], m := m', n := 0, minLF := minLF, maxLF := maxLF } : ChainTable K V) ∧
    ∀ k v, ¬ Chain.Live ({ buckets := Array.replicate m' [], m := m', n := 0, minLF := minLF, maxLF := maxLF } : ChainTable K V) k v := by
  constructor
  · refine ⟨by simp, hm, hp, ?_, ?_, ?_, hlf⟩
    · intro i _ e he; rw [Chain.bucket_replicate] at he; cases he
    · intro i _; rw [Chain.bucket_replicate]; exact nodupKeys_nil
    · simp only [Chain.bucket_replicate, List.length_nil]
      rw [sumTo_zero (fun _ _ => rfl)]; rfl
  · rintro k v ⟨i, _, hmem⟩
    rw [Chain.bucket_replicate] at hmem; cases hmem

theorem Chain.new_spec (hash : K → UInt64) (m' : Nat) (minLF maxLF : LF) (hlf : ValidLF scMinLF scMaxLF minLF maxLF)
    (hm : symboltable_scMinM ≤ m') (hp : isPowerOf2 m' = true) :
    ∃ fresh : ChainTable K V, Chain.new ⟨m', minLF, maxLF⟩ = .ok fresh ∧ Chain.InvCore hash fresh ∧ fresh.m = m' ∧
      fresh.n = 0 ∧ Chain.par fresh = (minLF, maxLF) ∧ ∀ k v, ¬ Chain.Live fresh k v := by
  obtain ⟨a, b, _⟩ := Chain.lf_facts hlf
  have hm0 : m' ≠ 0 := by have := scMinM_pos; omega
  obtain ⟨hcore, hempty⟩ := Chain.empty_inv (V := V) hash m' minLF maxLF hlf hm hp
  refine ⟨_, ?_, hcore, rfl, rfl, rfl, hempty⟩
  unfold Chain.new
  simp [hm0, Nat.ne_of_gt a, Nat.ne_of_gt b, hp, Nat.not_lt.2 hm]

theorem Chain.all_spec {sh : Shuffle σ} (hsh : ShufflePerm sh) {hash : K → UInt64} {t : ChainTable K V}
    (hI : Chain.InvCore hash t) (g : σ) :
    NodupKeys (Chain.all sh t g).1 ∧ (∀ k v, (k, v) ∈ (Chain.all sh t g).1 ↔ Chain.Live t k v) ∧
      (((Chain.all sh t g).1.length : Nat) : Int) = t.n := by
  have hperm : (Chain.all sh t g).1.Perm ((List.range t.buckets.size).flatMap (Chain.bucket t)) := by
    unfold Chain.all
    exact (hsh g t.buckets.size).flatMap_right _
  refine ⟨?_, ?_, ?_⟩
  · unfold NodupKeys
    rw [(hperm.map Prod.fst).nodup_iff, List.map_flatMap, List.nodup_flatMap]
    constructor
    · intro i hi
      rw [List.mem_range, hI.size] at hi
      exact hI.nodup i hi
    · apply List.Nodup.pairwise_of_forall_ne List.nodup_range
      intro i hi j hj hij
      rw [List.mem_range, hI.size] at hi hj
      simp only [Function.onFun]
      rw [List.disjoint_left]
      intro k hk1 hk2
      rw [List.mem_map] at hk1 hk2
      obtain ⟨e1, he1, rfl⟩ := hk1
      obtain ⟨e2, he2, hk⟩ := hk2
      have h1 := hI.home i hi e1 he1
      have h2 := hI.home j hj e2 he2
      rw [hk] at h2
      exact hij (h1.symm.trans h2)
  · intro k v
    rw [hperm.mem_iff, List.mem_flatMap]
    simp only [List.mem_range, Chain.Live]
  · rw [hperm.length_eq, length_flatMap_range, hI.size, hI.n_eq]

theorem Chain.den_le {hash : K → UInt64} {t : ChainTable K V} (hI : Chain.InvCore hash t) :
    (t.maxLF.den : Int) ≤ (t.maxLF.num : Int) * (t.m : Int) :=
  den_le_of (c := 1) (by have := (Chain.lf_facts hI.lf).2.2; omega) (Nat.lt_of_lt_of_le scMinM_pos hI.minM)

theorem Chain.inv_of_empty {hash : K → UInt64} {t : ChainTable K V} (hI : Chain.InvCore hash t) (hn : t.n = 0) :
    Chain.Inv hash t := by
  refine ⟨hI, ?_⟩
  rw [hn, Int.natCast_zero, Int.add_zero, Int.zero_mul]
  exact Int.add_pos_of_nonneg_of_pos (Int.mul_nonneg (Int.natCast_nonneg _) (Int.natCast_nonneg _))
    (Int.natCast_pos.2 hI.lf.maxDen)

theorem Chain.copy_back (t nt : ChainTable K V) (h : Chain.par nt = Chain.par t) :
    ({ t with buckets := nt.buckets, m := nt.m, n := nt.n } : ChainTable K V) = nt := by
  obtain ⟨bs, m, n, a, b⟩ := nt
  obtain ⟨rfl, rfl⟩ := Prod.mk.inj h
  rfl

section
variable {sh : Shuffle σ} (hsh : ShufflePerm sh) (hash : K → UInt64) (d : Nat) (t : ChainTable K V) (g : σ)

/-- The fuel of the `Put → resize → Put` recursion, for this and the other tables.  Fuel 1 runs a `Put` that does not resize, hence
also a `resize` all of whose re-insertions have room (`resize_fits`).  Fuel 2 runs any `Put`: it resizes at most once, into a table
in which everything fits (`put_any`); hence also the `resize` after a `Delete`, whose re-insertions are arbitrary `Put`s
(`resize_any`: into the halved table they may grow it again, when `2·minLF > maxLF`).  The lemmas carry a spare `d`, and `X.correct` takes `d := depth - 2`: `depth - 2 + 2` then reduces to the Model's
`depth`.  Of `depth` only `2 ≤ depth` is used. -/
theorem Chain.put_room (key : K) (val : V) (r : Nat) (h : Chain.Room hash (r + 1) t) :
    ∃ t' g', Chain.put sh hash (d + 1) t g key val = .ok (t', g') ∧ Chain.Room hash r t' ∧ PutPost Chain.par Chain.Live t key val t' := by
  have hcheck : ratioGE t.n t.m t.maxLF = false := by
    unfold ratioGE
    rw [decide_eq_false_iff_not, Int.not_le, ← room_one_iff]
    exact Int.lt_of_le_of_lt (room_mono (Int.natCast_nonneg _) (Nat.le_add_left 1 r)) h.2
  obtain ⟨t', h1, h2⟩ := Chain.putBucket_spec hash t key val r h
  refine ⟨t', g, ?_, h2⟩
  unfold Chain.put
  simp only [hcheck, Bool.false_eq_true, if_false, h1]

include hsh

theorem Chain.resize_core (putRec : ChainTable K V → σ → K → V → Outcome (ChainTable K V × σ)) (m' : Nat)
    (hI : Chain.InvCore hash t) (hm : symboltable_scMinM ≤ m') (hp : isPowerOf2 m' = true) (Q : Nat → ChainTable K V → Prop)
    (hput : ∀ r t1 g1 k v, Q (r + 1) t1 → ∃ t2 g2, putRec t1 g1 k v = .ok (t2, g2) ∧ Q r t2 ∧ PutPost Chain.par Chain.Live t1 k v t2)
    (hfresh : ∀ (fresh : ChainTable K V) (len : Nat), Chain.InvCore hash fresh → (len : Int) = t.n → fresh.n = 0 →
      fresh.maxLF = t.maxLF → fresh.m = m' → Q len fresh) :
    ∃ t' g', Chain.resizeWith sh putRec t g m' = .ok (t', g') ∧ Q 0 t' ∧ Chain.par t' = Chain.par t ∧
      ∀ k v, Chain.Live t' k v ↔ Chain.Live t k v := by
  obtain ⟨fresh, hnew, hfI, hfm, hfn, hfpar, hfempty⟩ := Chain.new_spec (V := V) hash m' t.minLF t.maxLF hI.lf hm hp
  obtain ⟨hnd, hmem, hlen⟩ := Chain.all_spec hsh hI g
  obtain ⟨nt, g2, hf, hQ, hpar, hL⟩ := foldPut_fresh Chain.par Chain.Live Q putRec hput (Chain.all sh t g).1 fresh
    (Chain.all sh t g).2 hnd (hfresh fresh _ hfI hlen hfn (congrArg Prod.snd hfpar) hfm) hfempty
  refine ⟨nt, g2, ?_, hQ, hpar.trans hfpar, fun k v => (hL k v).trans (hmem k v)⟩
  unfold Chain.resizeWith
  simp only [Nat.not_lt.2 hm, if_false, hnew, hf, Chain.copy_back t nt (hpar.trans hfpar)]

theorem Chain.resize_fits (m' : Nat) (hI : Chain.InvCore hash t) (hm : symboltable_scMinM ≤ m') (hp : isPowerOf2 m' = true)
    (hfit : (t.n + 1) * (t.maxLF.den : Int) < (t.maxLF.num : Int) * (m' : Int) + (t.maxLF.den : Int)) :
    ∃ t' g', Chain.resizeWith sh (Chain.put sh hash (d + 1)) t g m' = .ok (t', g') ∧ Chain.Room hash 1 t' ∧
      Chain.par t' = Chain.par t ∧ ∀ k v, Chain.Live t' k v ↔ Chain.Live t k v := by
  apply Chain.resize_core hsh hash t g _ m' hI hm hp (fun r t' => Chain.Room hash (r + 1) t')
  · exact fun r t1 g1 k v h => Chain.put_room hash d t1 g1 k v (r + 1) h
  · intro fresh len hfI hlen hfn hfmax hfm
    refine ⟨hfI, ?_⟩
    rw [hfn, hfmax, hfm, show (0 : Int) + ((len + 1 : Nat) : Int) = t.n + 1 by omega]
    exact hfit

theorem Chain.put_any (key : K) (val : V) (h : Chain.Inv hash t) :
    ∃ t' g', Chain.put sh hash (d + 2) t g key val = .ok (t', g') ∧ Chain.Inv hash t' ∧ PutPost Chain.par Chain.Live t key val t' := by
  by_cases hcheck : ratioGE t.n t.m t.maxLF = true
  · -- resize(2m), then the bucket scan
    have hm : 1 ≤ t.m := Nat.lt_of_lt_of_le scMinM_pos h.1.minM
    have hroom : t.n * (t.maxLF.den : Int) < (t.maxLF.num : Int) * (t.m : Int) + (t.maxLF.den : Int) := by
      have := h.2
      rwa [Int.natCast_zero, Int.add_zero] at this
    obtain ⟨t1, g1, hr, hR1, hpar1, hL1⟩ := Chain.resize_fits hsh hash d t g (2 * t.m) h.1
      (by have := h.1.minM; omega) (isPowerOf2_double t.m hm h.1.pow2)
      (by
        rw [Int.natCast_mul, Int.mul_left_comm]
        exact fits_double_lt hroom (Chain.den_le h.1))
    obtain ⟨t2, h2, hR2, hp2⟩ := Chain.putBucket_spec hash t1 key val 0 hR1
    refine ⟨t2, g1, ?_, hR2, hp2.par.trans hpar1, ?_⟩
    · rw [Chain.put]
      simp only [hcheck, if_true, hr, h2]
    · intro k' v'
      rw [hp2.live, hL1]
  · have hroom : Chain.Room hash 1 t := by
      unfold ratioGE at hcheck
      rw [decide_eq_true_eq, Int.not_le] at hcheck
      exact ⟨h.1, room_one_iff.2 hcheck⟩
    exact Chain.put_room hash (d + 1) t g key val 0 hroom

theorem Chain.resize_any (m' : Nat) (h : Chain.Inv hash t) (hp : symboltable_scMinM ≤ m' → isPowerOf2 m' = true) :
    ∃ t' g', Chain.resizeWith sh (Chain.put sh hash (d + 2)) t g m' = .ok (t', g') ∧ Chain.Inv hash t' ∧
      ∀ k v, Chain.Live t' k v ↔ Chain.Live t k v := by
  by_cases hm : m' < symboltable_scMinM
  · exact ⟨t, g, by simp [Chain.resizeWith, hm], h, fun _ _ => Iff.rfl⟩
  · obtain ⟨t', g', hr, hinv, _, hL⟩ := Chain.resize_core hsh hash t g (Chain.put sh hash (d + 2)) m' h.1
      (Nat.not_lt.1 hm) (hp (Nat.not_lt.1 hm)) (fun _ t' => Chain.Inv hash t')
      (fun _ t1 g1 k v h => Chain.put_any hsh hash d t1 g1 k v h)
      (fun _ _ hfI _ hfn _ _ => Chain.inv_of_empty hfI hfn)
    exact ⟨t', g', hr, hinv, hL⟩

end

section
variable (hash : K → UInt64) (t : ChainTable K V) (key : K)

theorem Chain.get_spec (h : Chain.InvCore hash t) :
    ∃ o, Chain.get hash t key = .ok o ∧ ∀ v, o = some v ↔ Chain.Live t key v := by
  have hm : 0 < t.m := Nat.lt_of_lt_of_le scMinM_pos h.minM
  have hi : Chain.hashIdx t.m (mix (hash key)) < t.buckets.size := by rw [h.size]; exact hashIdx_lt _ _ hm
  refine ⟨Chain.bucketGet key (Chain.bucket t (Chain.hashIdx t.m (mix (hash key)))), ?_, ?_⟩
  · unfold Chain.get
    simp only [Chain.get_of_lt hi]
  · intro v
    rw [bucketGet_eq, lookup_eq_some_iff (h.nodup _ (hashIdx_lt _ _ hm)), Chain.live_iff_bucket h]

/-- the table right after `_delete` removed the node (before the load check) -/
def Chain.afterDelete : ChainTable K V :=
  { t with
    buckets := t.buckets.setIfInBounds (Chain.hashIdx t.m (mix (hash key)))
      (Chain.bucketDelete key (Chain.bucket t (Chain.hashIdx t.m (mix (hash key))))).1
    n := if (Chain.bucketDelete key (Chain.bucket t (Chain.hashIdx t.m (mix (hash key))))).2.isSome then t.n - 1 else t.n }

theorem Chain.delete_core (h : Chain.Inv hash t) :
    Chain.Inv hash (Chain.afterDelete hash t key) ∧
    (∀ k' v', Chain.Live (Chain.afterDelete hash t key) k' v' ↔ k' ≠ key ∧ Chain.Live t k' v') ∧
    ∀ v, (Chain.bucketDelete key (Chain.bucket t (Chain.hashIdx t.m (mix (hash key))))).2 = some v ↔ Chain.Live t key v := by
  obtain ⟨hI, hroom⟩ := h
  have hm : 0 < t.m := Nat.lt_of_lt_of_le scMinM_pos hI.minM
  have hi' : Chain.hashIdx t.m (mix (hash key)) < t.m := hashIdx_lt _ _ hm
  have hnd := hI.nodup _ hi'
  obtain ⟨hbd, hlen⟩ := bucketDelete_eq (key := key) hnd
  unfold Chain.afterDelete
  rw [hbd]
  dsimp only
  have hrep := Chain.replace_bucket hI key (Map.erase (Chain.bucket t (Chain.hashIdx t.m (mix (hash key)))) key)
    (if (Map.lookup (Chain.bucket t (Chain.hashIdx t.m (mix (hash key)))) key).isSome then t.n - 1 else t.n) (fun _ => False)
    (fun k' v' => mem_erase.trans (by simp)) (nodupKeys_erase hnd key)
    (by
      cases hlk : Map.lookup (Chain.bucket t (Chain.hashIdx t.m (mix (hash key)))) key <;>
        simp only [hlk, Option.isSome_none, Option.isSome_some, Bool.false_eq_true, if_false, if_true] at hlen ⊢ <;> omega)
  refine ⟨⟨hrep.1, ?_⟩, fun k' v' => (hrep.2 k' v').trans (by simp), fun v => ?_⟩
  · refine Int.lt_of_le_of_lt (Int.mul_le_mul_of_nonneg_right ?_ (Int.natCast_nonneg _)) hroom
    dsimp only
    split <;> omega
  · rw [lookup_eq_some_iff hnd, Chain.live_iff_bucket hI]

end

theorem Chain.delete_spec {sh : Shuffle σ} (hsh : ShufflePerm sh) (hash : K → UInt64) (d : Nat) (t : ChainTable K V) (g : σ)
    (key : K) (h : Chain.Inv hash t) :
    ∃ t' g' o, Chain.delete sh hash (d + 2) t g key = .ok (t', g', o) ∧ Chain.Inv hash t' ∧
      (∀ k' v', Chain.Live t' k' v' ↔ k' ≠ key ∧ Chain.Live t k' v') ∧ ∀ v, o = some v ↔ Chain.Live t key v := by
  obtain ⟨hR1, hL1, ho⟩ := Chain.delete_core hash t key h
  have hm : 0 < t.m := Nat.lt_of_lt_of_le scMinM_pos h.1.minM
  have hi : Chain.hashIdx t.m (mix (hash key)) < t.buckets.size := by
    have := hashIdx_lt t.m (mix (hash key)) hm
    rw [h.1.size]; exact this
  have hdel : Chain.delete sh hash (d + 2) t g key =
      (if ratioLE (Chain.afterDelete hash t key).n (Chain.afterDelete hash t key).m (Chain.afterDelete hash t key).minLF then
        match Chain.resizeWith sh (Chain.put sh hash (d + 2)) (Chain.afterDelete hash t key) g ((Chain.afterDelete hash t key).m / 2) with
        | .ok (t2, g2) => .ok (t2, g2, (Chain.bucketDelete key (Chain.bucket t (Chain.hashIdx t.m (mix (hash key))))).2)
        | .panic => .panic
        | .diverge => .diverge
      else .ok (Chain.afterDelete hash t key, g, (Chain.bucketDelete key (Chain.bucket t (Chain.hashIdx t.m (mix (hash key))))).2)) := by
    unfold Chain.delete
    simp only [Chain.get_of_lt hi]
    rfl
  rw [hdel]
  split
  · obtain ⟨t2, g2, hr, hinv, hL2⟩ := Chain.resize_any hsh hash d (Chain.afterDelete hash t key) g
      ((Chain.afterDelete hash t key).m / 2) hR1
      (by
        intro hmin
        have hmm : (Chain.afterDelete hash t key).m = t.m := rfl
        rw [hmm] at hmin ⊢
        have : 2 ≤ t.m := by have := scMinM_pos; omega
        exact (isPowerOf2_half t.m this h.1.pow2).1)
    exact ⟨t2, g2, _, by simp only [hr], hinv, fun k' v' => by rw [hL2, hL1], ho⟩
  · exact ⟨_, g, _, rfl, hR1, hL1, ho⟩

theorem Chain.deleteAll_spec (hash : K → UInt64) (t : ChainTable K V) (h : Chain.Inv hash t) :
    Chain.Inv hash (Chain.deleteAll t) ∧ ∀ k v, ¬ Chain.Live (Chain.deleteAll t) k v := by
  obtain ⟨hcore, hempty⟩ := Chain.empty_inv (V := V) hash t.m t.minLF t.maxLF h.1.lf h.1.minM h.1.pow2
  exact ⟨Chain.inv_of_empty hcore rfl, hempty⟩

theorem Chain.correct {sh : Shuffle σ} (hsh : ShufflePerm sh) (hash : K → UInt64) (eqVal : V → V → Bool) :
    Correct eqVal (Chain.impl sh hash eqVal) (Chain.Inv hash) Chain.Live where
  func := by
    intro t k v v' hI h1 h2
    rw [Chain.live_iff_bucket hI.1] at h1 h2
    have hm : 0 < t.m := Nat.lt_of_lt_of_le scMinM_pos hI.1.minM
    have hnd := hI.1.nodup _ (hashIdx_lt t.m (mix (hash k)) hm)
    have e1 := (lookup_eq_some_iff hnd).2 h1
    have e2 := (lookup_eq_some_iff hnd).2 h2
    rw [e1] at e2
    exact Option.some.inj e2
  put := by
    intro t g k v hI
    obtain ⟨t', g', h1, h2, hp⟩ := Chain.put_any hsh hash (depth - 2) t g k v hI
    exact ⟨t', g', h1, h2, hp.live⟩
  get := fun t k hI => Chain.get_spec hash t k hI.1
  delete := fun _ t g k hI => Chain.delete_spec hsh hash (depth - 2) t g k hI
  deleteAll := fun t hI => Chain.deleteAll_spec hash t hI
  all := by
    intro t g hI
    obtain ⟨h1, h2, _⟩ := Chain.all_spec hsh hI.1 g
    exact ⟨h1.nodup, h2⟩
  size := by
    intro t g hI
    obtain ⟨_, _, h3⟩ := Chain.all_spec hsh hI.1 g
    exact h3.symm
  equal := fun _ _ _ => rfl

/-- what `NewChainHashTable` accepts (capacity 0 = default, else a power of two ≥ the minimum), with
default-or-tighter load-factor bounds -/
def Chain.ValidOpts (o : Opts) : Prop :=
  (o.cap = 0 ∨ (symboltable_scMinM ≤ o.cap ∧ isPowerOf2 o.cap = true)) ∧
  ValidLF scMinLF scMaxLF (effLF o.minLF scMinLF) (effLF o.maxLF scMaxLF)

theorem Chain.new_eff (o : Opts) :
    (Chain.new o : Outcome (ChainTable K V)) =
      Chain.new ⟨if o.cap = 0 then symboltable_scMinM else o.cap, effLF o.minLF scMinLF, effLF o.maxLF scMaxLF⟩ := by
  unfold Chain.new
  simp only [effLF_idem _ _ (show scMinLF.num ≠ 0 by decide), effLF_idem _ _ (show scMaxLF.num ≠ 0 by decide),
    cap_idem _ _ (show symboltable_scMinM ≠ 0 by decide)]
  rfl

theorem Chain.init_spec (hash : K → UInt64) (o : Opts) (hv : Chain.ValidOpts o) :
    ∃ t0 : ChainTable K V, Chain.new o = .ok t0 ∧ Chain.Inv hash t0 ∧ ∀ k v, ¬ Chain.Live t0 k v := by
  obtain ⟨hcap, hlf⟩ := hv
  have hc := cap_default (by decide : 0 < symboltable_scMinM) (by decide) hcap
  obtain ⟨fresh, hnew, hfI, _, hfn, _, hfempty⟩ := Chain.new_spec (V := V) hash _ _ _ hlf hc.1 hc.2
  exact ⟨fresh, by rw [Chain.new_eff, hnew], Chain.inv_of_empty hfI hfn, hfempty⟩

theorem nodesVisited_le (key : K) (b : List (K × V)) : Chain.nodesVisited key b ≤ b.length := by
  induction b with
  | nil => simp [Chain.nodesVisited]
  | cons e r ih =>
    obtain ⟨k, v⟩ := e
    unfold Chain.nodesVisited
    simp only [List.length_cons]
    split <;> omega

theorem le_sumTo (f : Nat → Nat) (n i : Nat) (hi : i < n) : f i ≤ sumTo f n := by
  induction n with
  | zero => omega
  | succ n ih =>
    simp only [sumTo]
    by_cases h : i = n
    · subst h; omega
    · have := ih (by omega); omega

theorem Chain.nodes_bound (hash : K → UInt64) (t : ChainTable K V) (key : K) (h : Chain.Inv hash t) :
    ((Chain.nodesVisited key (Chain.bucket t (Chain.hashIdx t.m (mix (hash key)))) : Nat) : Int) ≤ t.n := by
  have hm : 0 < t.m := Nat.lt_of_lt_of_le scMinM_pos h.1.minM
  have h1 := nodesVisited_le key (Chain.bucket t (Chain.hashIdx t.m (mix (hash key))))
  have h2 := le_sumTo (fun i => (Chain.bucket t i).length) t.m _ (hashIdx_lt t.m (mix (hash key)) hm)
  rw [h.1.n_eq]
  have h3 : (Chain.bucket t (Chain.hashIdx t.m (mix (hash key)))).length ≤ sumTo (fun i => (Chain.bucket t i).length) t.m := h2
  omega

end AlgoVerif.C02
