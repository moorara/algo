import AlgoVerif.Proofs.C08Total
import AlgoVerif.Proofs.C09Cnf
/-!
# Totality of the pipelines that draw fresh names: ε-elimination, cycle elimination, START, TERM, BIN,
`ChomskyNormalForm`, `OrderNonTerminals`
-/
namespace AlgoVerif.C08
open AlgoVerif AlgoVerif.Gram AlgoVerif.C08.Spec

theorem trimSuffix_of_not {p s : String} (h : s.toList.isSuffixOf p.toList = false) : trimSuffix p s = p := by
  unfold trimSuffix
  simp [h]

theorem hyg_not_suffix {n s : String} (hn : hygienicName n = true) (hs : s ∈ reservedSuffixes) :
    s.toList.isSuffixOf n.toList = false := by
  unfold hygienicName at hn
  have := List.all_eq_true.mp hn s hs
  simpa using this

theorem foldl_trim_free {n : String} :
    ∀ sufs : List String, (∀ s ∈ sufs, s.toList.isSuffixOf n.toList = false) → sufs.foldl trimSuffix n = n := by
  intro sufs
  induction sufs with
  | nil => intro _; rfl
  | cons s sufs ih =>
    intro h
    simp only [List.foldl_cons]
    rw [trimSuffix_of_not (h s (List.mem_cons_self ..))]
    exact ih (fun s hs => h s (List.mem_cons_of_mem _ hs))

theorem foldl_trim_hyg {n : String} (hn : hygienicName n = true) :
    ∀ sufs : List String, (∀ s ∈ sufs, s ∈ reservedSuffixes) → sufs.foldl trimSuffix n = n :=
  fun sufs h => foldl_trim_free sufs fun s hs => hyg_not_suffix hn (h s hs)

theorem not_hyg_append (n : String) {s : String} (hs : s ∈ reservedSuffixes) : hygienicName (n ++ s) = false := by
  unfold hygienicName
  rw [List.all_eq_false]
  exact ⟨s, hs, by simp⟩

theorem addNew_total_of_exists {g : G} {pre : String} {sufs : List String}
    (h : ∃ s ∈ sufs, (sufs.foldl trimSuffix pre) ++ s ∉ g.nonterms) : ∃ r, addNew g pre sufs = .ok r := by
  obtain ⟨s, hs, hfree⟩ := h
  have : (freshName g.nonterms pre sufs).isSome = true :=
    List.find?_isSome.mpr ⟨_, List.mem_map.mpr ⟨s, hs, rfl⟩, by simpa using hfree⟩
  obtain ⟨n, hn⟩ := Option.isSome_iff_exists.mp this
  unfold addNew
  rw [hn]
  exact ⟨_, rfl⟩

theorem primes_reserved : ∀ s ∈ primes, s ∈ reservedSuffixes := by
  intro s hs
  unfold reservedSuffixes
  exact List.mem_append.mpr (Or.inl (List.mem_append.mpr (Or.inl hs)))

theorem alphas_reserved : ∀ s ∈ alphas, s ∈ reservedSuffixes := by
  intro s hs
  unfold reservedSuffixes
  exact List.mem_append.mpr (Or.inl (List.mem_append.mpr (Or.inr hs)))

theorem numerics_reserved : ∀ s ∈ numerics, s ∈ reservedSuffixes := by
  intro s hs
  unfold reservedSuffixes
  exact List.mem_append.mpr (Or.inr hs)

theorem hyg_candidate_free {N : List String} {pre : String} (hpre : hygienicName pre = true)
    (hnt : ∀ m ∈ N, hygienicName m = true) {sufs : List String} {s0 : String} (hs0 : s0 ∈ sufs)
    (hres : ∀ s ∈ sufs, s ∈ reservedSuffixes) : (sufs.foldl trimSuffix pre) ++ s0 ∉ N := by
  rw [foldl_trim_hyg hpre sufs hres]
  intro hm
  have := hnt _ hm
  rw [not_hyg_append pre (hres s0 hs0)] at this
  cases this

theorem elimEmpty_total_of {g : G} (h : ∃ s ∈ primes, (primes.foldl trimSuffix g.start) ++ s ∉ g.nonterms) :
    ∃ g', elimEmpty g = .ok g' := by
  obtain ⟨nul, hn⟩ := nullable_total g
  unfold elimEmpty
  simp only [hn, bind, Outcome.bind]
  split
  · obtain ⟨r, hr⟩ := addNew_total_of_exists (g := { g with prods := emptyFreeProds nul g.prods }) h
    rw [hr]
    exact ⟨_, rfl⟩
  · exact ⟨_, rfl⟩

theorem elimEmpty_total {g : G} (hv : Valid g) (hh : Hygienic g) : ∃ g', elimEmpty g = .ok g' :=
  elimEmpty_total_of ⟨"′", by decide, hyg_candidate_free (hh.1 _ hv.1) hh.1 (by decide) primes_reserved⟩

theorem elimCycles_total_of {g : G} (hv : Valid g) (h : ∃ g1, elimEmpty g = .ok g1) : ∃ g', elimCycles g = .ok g' := by
  obtain ⟨g1, h1⟩ := h
  obtain ⟨g2, h2⟩ := elimSingle_total (elimEmpty_valid h1 hv)
  obtain ⟨g3, h3⟩ := elimUnreachable_total g2
  unfold elimCycles
  simp only [h1, bind, Outcome.bind, h2]
  exact ⟨g3, h3⟩

theorem elimCycles_total {g : G} (hv : Valid g) (hh : Hygienic g) : ∃ g', elimCycles g = .ok g' :=
  elimCycles_total_of hv (elimEmpty_total hv hh)

theorem cnfStart_total {g : G} (hv : Valid g) (hh : Hygienic g) : ∃ g', cnfStart g = .ok g' := by
  unfold cnfStart
  split
  · obtain ⟨r, hr⟩ := addNew_total_of_exists (g := g)
      ⟨"′", by decide, hyg_candidate_free (hh.1 _ hv.1) hh.1 (by decide) primes_reserved⟩
    simp only [hr, bind, Outcome.bind]
    exact ⟨_, rfl⟩
  · exact ⟨_, rfl⟩

theorem append_single_cancel {a b : String} {c d : Char} (h : a.toList ++ [c] = b.toList ++ [d]) : a = b ∧ c = d := by
  have := List.append_inj' h rfl
  exact ⟨String.toList_inj.mp this.1, by simpa using this.2⟩

theorem getLast?_append_str (b s : String) {c : Char} (hs : s.toList.getLast? = some c) :
    (b ++ s).toList.getLast? = some c := by
  rw [String.toList_append, List.getLast?_append, hs]
  rfl

def AlphaFree (g : G) : Prop :=
  (∀ n ∈ g.nonterms, ∀ s ∈ alphas, s.toList.isSuffixOf n.toList = false) ∧
  (∀ t ∈ g.terms, ∀ s ∈ alphas, s.toList.isSuffixOf t.toList = false)

theorem alphas_single (s : String) (hs : s ∈ alphas) : ∃ c, s.toList = [c] :=
  List.length_eq_one_iff.mp ((by decide : ∀ s ∈ alphas, s.toList.length = 1) s hs)

theorem termSymStep_total {g : G} (hw : WellFormed g) (hA : AlphaFree g) {acc : TermSt × List SSym} {sym : SSym}
    (hc : TermCore g acc.1) (hocc : ∃ p ∈ g.prods, sym ∈ p.body) :
    ∃ acc', termSymStep acc sym = .ok acc' ∧ TermCore g acc'.1 := by
  cases sym with
  | nonterm m => exact ⟨_, rfl, hc⟩
  | term t =>
    simp only [termSymStep]
    cases hl : acc.1.2.lookup t with
    | some n =>
      exact ⟨_, rfl, hc.add_prod (Or.inr (Or.inl ⟨(t, n), store_lookup_mem hl, rfl⟩))⟩
    | none =>
      obtain ⟨p, hp, hocc'⟩ := hocc
      have ht : t ∈ g.terms := (hw.2 p hp).2 _ hocc'
      have hbase : alphas.foldl trimSuffix t = t := foldl_trim_free alphas (hA.2 t ht)
      have hfree : ∃ s ∈ alphas, (alphas.foldl trimSuffix t) ++ s ∉ acc.1.1.nonterms := by
        refine ⟨"ₙ", by decide, ?_⟩
        rw [hbase, hc.nonterms]
        intro hm
        rcases List.mem_append.mp hm with hm | hm
        · -- a declared non-terminal of g ending in ₙ
          have := hA.1 _ hm "ₙ" (by decide)
          have h2 : ("ₙ" : String).toList.isSuffixOf (t ++ "ₙ").toList = true := by
            rw [String.toList_append, List.isSuffixOf_iff_suffix]; exact List.suffix_append _ _
          rw [h2] at this; cases this
        · -- a stored name e.1 ++ s with e.1 ≠ t
          obtain ⟨e, he, hen⟩ := List.mem_map.mp hm
          obtain ⟨s, hs, hform⟩ := hc.form e he
          obtain ⟨p', hp', hocc''⟩ := hc.keyOcc e he
          have het : e.1 ∈ g.terms := (hw.2 p' hp').2 _ hocc''
          rw [foldl_trim_free alphas (hA.2 e.1 het)] at hform
          obtain ⟨c, hc'⟩ := alphas_single s hs
          have heq : e.1.toList ++ [c] = t.toList ++ ['ₙ'] := by
            have := congrArg String.toList (hform.symm.trans hen)
            rw [String.toList_append, String.toList_append, hc'] at this
            exact this
          have := (append_single_cancel heq).1
          have hk := hc.keys e he
          rw [this, hl] at hk
          cases hk
      obtain ⟨r, hr⟩ := addNew_total_of_exists hfree
      obtain ⟨g1, n⟩ := r
      simp only [hr, bind, Outcome.bind, pure]
      exact ⟨_, rfl, (hc.extend hl hr ⟨p, hp, hocc'⟩).1⟩

theorem termBody_total {g : G} (hw : WellFormed g) (hA : AlphaFree g) {st : TermSt} {p : SProd}
    (hc : TermCore g st) (hp : p ∈ g.prods) : ∃ st', termBody p.head p.body st = .ok st' := by
  rw [termBody_eq]
  obtain ⟨r, hr, _⟩ := foldlM_total termSymStep (fun acc => TermCore g acc.1) p.body (st, []) hc
    (fun s b hs hb => termSymStep_total hw hA hs ⟨p, hp, hb⟩)
  rw [hr]
  exact ⟨_, rfl⟩

theorem cnfTerm_total {g : G} (hw : WellFormed g) (hA : AlphaFree g) : ∃ g', cnfTerm g = .ok g' := by
  rw [cnfTerm_eq]
  obtain ⟨st, hst, _⟩ := foldlM_total termProdStep (fun st => TermCore g st) g.prods _ (TermCore.init g)
    (fun s b hs hb => by
      have hex : ∃ s', termProdStep s b = .ok s' := by
        unfold termProdStep
        split
        · exact ⟨_, rfl⟩
        · exact termBody_total hw hA hs hb
      obtain ⟨s', hs'⟩ := hex
      exact ⟨s', hs', (termProdStep_inv hs hb hs').1⟩)
  rw [hst]
  exact ⟨_, rfl⟩

theorem addNew_ne_diverge (g : G) (pre : String) (sufs : List String) : addNew g pre sufs ≠ .diverge := by
  unfold addNew
  split <;> simp

theorem binChain_ne_diverge (A : String) : ∀ (fuel : Nat) (head : String) (rest : List SSym) (ng : G),
    binChain A fuel head rest ng ≠ .diverge := by
  intro fuel
  induction fuel with
  | zero => intro head rest ng; simp [binChain, pure]
  | succ fuel ih =>
    intro head rest ng
    match rest with
    | [] => simp [binChain, pure]
    | [_] => simp [binChain, pure]
    | [_, _] => simp [binChain, pure]
    | x :: y :: z :: r =>
      simp only [binChain]
      exact bind_ne_diverge (addNew_ne_diverge _ _ _) fun _ => ih _ _ _

theorem cnfBin_ne_diverge (g : G) : cnfBin g ≠ .diverge := by
  rw [cnfBin_eq]
  apply foldlM_ne_diverge
  intro ng A
  unfold binHeadStep
  apply foldlM_ne_diverge
  intro ng p
  unfold binProdStep
  split
  · simp [pure]
  · exact binChain_ne_diverge _ _ _ _ _

theorem hyg_alphaFree {g : G} (hh : Hygienic g) : AlphaFree g :=
  ⟨fun n hn s hs => hyg_not_suffix (hh.1 n hn) (alphas_reserved s hs),
   fun t ht s hs => hyg_not_suffix (hh.2.1 t ht) (alphas_reserved s hs)⟩

theorem cnfStart_alphaFree {g g' : G} (h : cnfStart g = .ok g') (hh : Hygienic g) : AlphaFree g' := by
  have hA := hyg_alphaFree hh
  unfold cnfStart at h
  split at h
  · obtain ⟨⟨g1, s'⟩, hn, h⟩ := bind_eq_ok h
    cases h
    obtain ⟨s, hs, hform⟩ := addNew_form hn
    obtain ⟨_, rfl⟩ := addNew_ok hn
    refine ⟨?_, hA.2⟩
    intro n hn' a ha
    simp at hn'
    rcases hn' with hn' | rfl
    · exact hA.1 n hn' a ha
    · -- the new start symbol ends as a prime suffix does, an alphabetic suffix ends differently (`suffix_ends`)
      rw [hform]
      cases hsuf : a.toList.isSuffixOf ((primes.foldl trimSuffix g.start) ++ s).toList with
      | false => rfl
      | true =>
        obtain ⟨c, hcp, hc⟩ := suffix_ends.1 s hs
        obtain ⟨d, hda, hd⟩ := suffix_ends.2 a (List.mem_append_left _ ha)
        have hlast := getLast?_of_suffix hsuf hd
        rw [getLast?_append_str _ s hc] at hlast
        cases hlast
        exact absurd hda ((by decide : ∀ c ∈ primeEnds, c ∉ alnumEnds) c hcp)
  · cases h; exact hA

/-- the shapes of the names a grammar in the CNF pipeline declares: hygienic, one exceptional name `x`
(the start symbol START introduced), or something followed by an alphabetic / numeric suffix -/
def NameShape (x : String) (n : String) : Prop :=
  hygienicName n = true ∨ n = x ∨ ∃ b s, s ∈ alphas ++ numerics ∧ n = b ++ s

theorem prime_candidate_free {x : String} {N : List String} (hN : ∀ n ∈ N, NameShape x n) :
    ∃ sx ∈ primes, ∀ base : String, base ++ sx ∉ N := by
  have key : ∀ (sx : String) (c : Char), sx ∈ primes → sx.toList.getLast? = some c → (c = '′' ∨ c = '″') →
      x.toList.getLast? ≠ some c → ∀ base : String, base ++ sx ∉ N := by
    intro sx c hsx hc hcc hx base hm
    have hlast : (base ++ sx).toList.getLast? = some c := getLast?_append_str base sx hc
    rcases hN _ hm with hh | he | ⟨b, s, hs, he⟩
    · rw [not_hyg_append base (primes_reserved sx hsx)] at hh; cases hh
    · rw [he] at hlast; exact hx hlast
    · obtain ⟨d, hdm, hd⟩ := suffix_ends.2 s hs
      rw [he, getLast?_append_str b s hd] at hlast
      have : d = c := by simpa using hlast
      subst this
      rcases hcc with rfl | rfl <;> exact absurd hdm (by decide)
  by_cases hx : x.toList.getLast? = some '′'
  · exact ⟨"″", by decide, key "″" '″' (by decide) (by decide) (Or.inr rfl) (by rw [hx]; decide)⟩
  · exact ⟨"′", by decide, key "′" '′' (by decide) (by decide) (Or.inl rfl) hx⟩

theorem cnf_total {g : G} (hv : Valid g) (hh : Hygienic g)
    (hbin : ∀ g1 g2, cnfStart g = .ok g1 → cnfTerm g1 = .ok g2 → cnfBin g2 ≠ .panic) :
    ∃ g', cnf g = .ok g' := by
  obtain ⟨g1, h1⟩ := cnfStart_total hv hh
  have v1 := cnfStart_valid h1 hv
  obtain ⟨g2, h2⟩ := cnfTerm_total v1.wellFormed (cnfStart_alphaFree h1 hh)
  have v2 := cnfTerm_valid h2 v1
  obtain ⟨g3, h3⟩ : ∃ g3, cnfBin g2 = .ok g3 := by
    cases hb : cnfBin g2 with
    | ok g3 => exact ⟨g3, rfl⟩
    | panic => exact absurd hb (hbin g1 g2 h1 h2)
    | diverge => exact absurd hb (cnfBin_ne_diverge g2)
  have v3 := cnfBin_valid h3 v2
  obtain ⟨store, hct, _⟩ := cnfTerm_spec h2
  obtain ⟨defs, hcb, _, _⟩ := cnfBin_spec h3
  have hshape1 : ∃ x, ∀ n ∈ g1.nonterms, NameShape x n := by
    rcases cnfStart_ok h1 with rfl | ⟨s', _, rfl⟩
    · exact ⟨g1.start, fun n hn => Or.inl (hh.1 n hn)⟩
    · refine ⟨s', fun n hn => ?_⟩
      simp at hn
      rcases hn with hn | rfl
      · exact Or.inl (hh.1 n hn)
      · exact Or.inr (Or.inl rfl)
  obtain ⟨x, hx1⟩ := hshape1
  have hshape3 : ∀ n ∈ g3.nonterms, NameShape x n := by
    intro n hn
    rw [hcb.nonterms] at hn
    rcases List.mem_append.mp hn with hn | hn
    · have hnt2 : g2.nonterms = g1.nonterms ++ store.map (fun e => e.2) := hct.nonterms
      rw [hnt2] at hn
      rcases List.mem_append.mp hn with hn | hn
      · exact hx1 n hn
      · obtain ⟨e, he, rfl⟩ := List.mem_map.mp hn
        obtain ⟨s, hs, hf⟩ := hct.form e he
        exact Or.inr (Or.inr ⟨_, s, List.mem_append.mpr (Or.inl hs), hf⟩)
    · obtain ⟨d, hd, rfl⟩ := List.mem_map.mp hn
      obtain ⟨b, s, hs, hf⟩ := hcb.form d hd
      exact Or.inr (Or.inr ⟨b, s, List.mem_append.mpr (Or.inr hs), hf⟩)
  obtain ⟨sx, hsx, hfree⟩ := prime_candidate_free hshape3
  obtain ⟨g', h4⟩ := elimCycles_total_of v3 (elimEmpty_total_of ⟨sx, hsx, hfree _⟩)
  refine ⟨g', ?_⟩
  rw [cnf_eq]
  simp only [h1, bind, Outcome.bind, h2, h3]
  exact h4

/-- "BIN does not run out of numeric suffixes", as a computable condition on the input of `ChomskyNormalForm`:
START, TERM, BIN on `g` do not end in `AddNewNonTerminal`'s panic -/
def binNamesSuffice (g : G) : Bool :=
  match ((cnfStart g).bind cnfTerm).bind cnfBin with
  | .panic => false
  | _ => true

theorem binNamesSuffice_spec {g : G} (h : binNamesSuffice g = true) :
    ∀ g1 g2, cnfStart g = .ok g1 → cnfTerm g1 = .ok g2 → cnfBin g2 ≠ .panic := by
  intro g1 g2 h1 h2 hp
  unfold binNamesSuffice at h
  simp [h1, h2, hp, Outcome.bind] at h

theorem visitPass_eq_reachPass (ps : List SProd) (v : List String) : visitPass ps v = reachPass ps v := rfl

theorem bodyUniverse_cons (p : SProd) (ps : List SProd) :
    (bodyUniverse (p :: ps)).length = (bodyNTs p.body).length + (bodyUniverse ps).length := by
  simp [bodyUniverse]

theorem bodyUniverse_insertBy (lt : SProd → SProd → Bool) (x : SProd) (l : List SProd) :
    (bodyUniverse (insertBy lt x l)).length = (bodyNTs x.body).length + (bodyUniverse l).length := by
  induction l with
  | nil => simp [insertBy, bodyUniverse]
  | cons a l ih =>
    simp only [insertBy]
    split
    · rw [bodyUniverse_cons]
    · rw [bodyUniverse_cons, ih, bodyUniverse_cons]; omega

theorem bodyUniverse_sortBy (lt : SProd → SProd → Bool) (l : List SProd) :
    (bodyUniverse (sortBy lt l)).length = (bodyUniverse l).length := by
  unfold sortBy
  have : ∀ (l acc : List SProd), (bodyUniverse (l.foldl (fun acc x => insertBy lt x acc) acc)).length
      = (bodyUniverse acc).length + (bodyUniverse l).length := by
    intro l
    induction l with
    | nil => intro acc; simp [bodyUniverse]
    | cons a l ih =>
      intro acc
      simp only [List.foldl_cons]
      rw [ih, bodyUniverse_insertBy, bodyUniverse_cons]; omega
  have h := this l []
  simpa [bodyUniverse] using h

theorem orderNT_total (g : G) : ∃ nts, orderNT g = .ok nts := by
  have hb := bodyUniverse_le_sizeOf g
  obtain ⟨y, hy⟩ := reachLike_total (sortBy prodLt g.prods) g.start (sizeOf g + 2)
    (by rw [bodyUniverse_sortBy]; omega)
  unfold orderNT
  have : iterFix (visitPass (sortBy prodLt g.prods)) (sizeOf g + 2) [g.start] = some y := hy
  simp only [this, ofOpt, bind, Outcome.bind, pure]
  exact ⟨_, rfl⟩

end AlgoVerif.C08
