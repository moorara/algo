import AlgoVerif.Model.C04Run
/-!
# C04: from per-operation refinement lemmas to "every history on a family of heaps is admitted"
-/
namespace AlgoVerif.C04
variable {K V : Type}

theorem update_all {α : Type} {P : α → Prop} {f : Nat → α} {i : Nat} {a : α} (hf : ∀ r, P (f r)) (ha : P a) :
    ∀ r, P (update f i a r) := by
  intro r; unfold update; split
  · exact ha
  · exact hf r

/-- what has to be shown about a mergeable heap Model -/
structure Refines (I : Impl K V) (cmp : K → K → Int) (eqV : V → V → Bool) where
  Inv : I.σ → Prop
  abs : I.σ → Bag K V
  init_inv : Inv I.init
  init_abs : abs I.init = []
  step_ok : ∀ s op, Inv s → ∃ s' out, I.step s op = .ok (s', out) ∧ Inv s' ∧ Step cmp eqV (abs s) op out (abs s')
  merge_ok : ∀ a b, Inv a → Inv b → ∃ c c', I.merge a b = .ok (c, c') ∧ Inv c ∧ Inv c' ∧
    (abs c).Perm (abs a ++ abs b) ∧ abs c' = []

theorem Refines.mstep_ok {I : Impl K V} {cmp : K → K → Int} {eqV : V → V → Bool} (R : Refines I cmp eqV)
    (regs : Nat → I.σ) (hinv : ∀ r, R.Inv (regs r)) (op : MOp K V) :
    ∃ regs' out, I.mstep regs op = .ok (regs', out) ∧ (∀ r, R.Inv (regs' r)) ∧
      MStep cmp eqV (fun r => R.abs (regs r)) op out (fun r => R.abs (regs' r)) := by
  cases op with
  | on r o =>
    obtain ⟨s', out, hrun, hinv', hstep⟩ := R.step_ok (regs r) o (hinv r)
    refine ⟨update regs r s', out, by simp [Impl.mstep, hrun], update_all hinv hinv', ?_, ?_⟩
    · simpa [update] using hstep
    · intro r' hr'; simp [update, hr']
  | mergeOther d => exact ⟨regs, .unit, rfl, hinv, rfl⟩
  | merge d s =>
    by_cases hds : d = s
    · exact ⟨regs, .unit, by simp [Impl.mstep, hds], hinv, fun _ => rfl, fun h => absurd hds h⟩
    · obtain ⟨c, c', hrun, hc, hc', hperm, hempty⟩ := R.merge_ok (regs d) (regs s) (hinv d) (hinv s)
      refine ⟨update (update regs d c) s c', .unit, by simp [Impl.mstep, hds, hrun],
        update_all (update_all hinv hc) hc', fun h => absurd h hds, fun _ => ⟨?_, ?_, ?_⟩⟩
      · simpa [update, hds] using hperm
      · simp [update, hempty]
      · intro r' h1 h2; simp [update, h1, h2]

theorem Refines.admittedFrom {I : Impl K V} {cmp : K → K → Int} {eqV : V → V → Bool} (R : Refines I cmp eqV) :
    ∀ (ops : List (MOp K V)) (regs : Nat → I.σ), (∀ r, R.Inv (regs r)) →
      Admitted cmp eqV (fun r => R.abs (regs r)) ops (I.runFrom regs ops)
  | [], _, _ => trivial
  | op :: ops, regs, hinv => by
    obtain ⟨regs', out, hrun, hinv', hstep⟩ := R.mstep_ok regs hinv op
    simp only [Impl.runFrom, hrun, Admitted]
    exact ⟨_, hstep, R.admittedFrom ops regs' hinv'⟩

theorem Refines.stateAfter_inv {I : Impl K V} {cmp : K → K → Int} {eqV : V → V → Bool} (R : Refines I cmp eqV) :
    ∀ (ops : List (MOp K V)) (regs regs' : Nat → I.σ), (∀ r, R.Inv (regs r)) →
      I.stateAfter regs ops = .ok regs' → ∀ r, R.Inv (regs' r)
  | [], _, _, hinv, h => by cases h; exact hinv
  | op :: ops, regs, regs', hinv, h => by
    obtain ⟨regs₁, out, hrun, hinv₁, _⟩ := R.mstep_ok regs hinv op
    rw [Impl.stateAfter, hrun, obind_ok] at h
    exact R.stateAfter_inv ops regs₁ regs' hinv₁ h

theorem Refines.admitted {I : Impl K V} {cmp : K → K → Int} {eqV : V → V → Bool} (R : Refines I cmp eqV)
    (ops : List (MOp K V)) :
    Admitted cmp eqV (fun _ => []) ops (I.run ops) := by
  have := R.admittedFrom ops (fun _ => I.init) (fun _ => R.init_inv)
  simpa [R.init_abs, Impl.run] using this

end AlgoVerif.C04
