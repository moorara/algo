import AlgoVerif.Proofs.C02Lists
import Mathlib.Data.Nat.Bitwise
/-!
# C02/C03 — generic refinement argument

If an implementation satisfies the per-operation specifications `Correct` with respect to an invariant
`Inv` and an abstraction `Live t k v` ("`t` holds the pair `(k, v)`"), then every history's trace agrees
with the Spec's (`sim`), and in particular no operation of any history panics or diverges.
The arithmetic of the load-factor hypotheses, of the capacities and the re-insertion fold of `resize` (`foldPut_spec`) are
here too, since the tables share them.
-/
namespace AlgoVerif.C02
open Spec
variable {K V σ T : Type} [DecidableEq K]

/-- all that is assumed of the shuffle behind `All()` -/
def ShufflePerm (sh : Shuffle σ) : Prop := ∀ g n, (sh g n).1.Perm (List.range n)

theorem listing_spec {sh : Shuffle σ} (hsh : ShufflePerm sh) (g : σ) (n : Nat) (liveAt : Nat → Option (K × V))
    (huniq : ∀ i j k v v', liveAt i = some (k, v) → liveAt j = some (k, v') → i = j) :
    NodupKeys ((sh g n).1.filterMap liveAt) ∧
      (∀ e, e ∈ (sh g n).1.filterMap liveAt ↔ ∃ i, i < n ∧ liveAt i = some e) ∧
      ((sh g n).1.filterMap liveAt).length = cnt (fun i => (liveAt i).isSome) n := by
  have hperm : ((sh g n).1.filterMap liveAt).Perm ((List.range n).filterMap liveAt) := (hsh g n).filterMap _
  refine ⟨?_, fun e => ?_, ?_⟩
  · unfold NodupKeys
    rw [(hperm.map Prod.fst).nodup_iff, List.map_filterMap]
    apply List.Nodup.filterMap _ List.nodup_range
    intro i j k hi hj
    simp only [Option.mem_def, Option.map_eq_some_iff] at hi hj
    obtain ⟨⟨k1, v1⟩, h1, rfl⟩ := hi
    obtain ⟨⟨k2, v2⟩, h2, hk2⟩ := hj
    simp only at hk2
    subst hk2
    exact huniq i j _ _ _ h1 h2
  · rw [hperm.mem_iff, List.mem_filterMap]
    simp only [List.mem_range]
  · rw [hperm.length_eq, length_filterMap_range]

/-- per-operation specification of an implementation; the specification of `Delete` is only required
(and only used) when `D` holds.  All four tables (`OA`, `Lin`, `Chain`, `Tab`) prove it with `D := True`, and every
caller of the lemmas below that ask `D ∨ … notDelete` gives `D`. -/
structure CorrectD (D : Prop) (eqVal : V → V → Bool) (I : Impl K V σ T) (Inv : T → Prop) (Live : T → K → V → Prop) : Prop where
  func : ∀ t k v v', Inv t → Live t k v → Live t k v' → v = v'
  put : ∀ t g k v, Inv t → ∃ t' g', I.put t g k v = .ok (t', g') ∧ Inv t' ∧
    ∀ k' v', Live t' k' v' ↔ (k' = k ∧ v' = v) ∨ (k' ≠ k ∧ Live t k' v')
  get : ∀ t k, Inv t → ∃ o, I.get t k = .ok o ∧ ∀ v, o = some v ↔ Live t k v
  delete : D → ∀ t g k, Inv t → ∃ t' g' o, I.delete t g k = .ok (t', g', o) ∧ Inv t' ∧
    (∀ k' v', Live t' k' v' ↔ k' ≠ k ∧ Live t k' v') ∧ ∀ v, o = some v ↔ Live t k v
  deleteAll : ∀ t, Inv t → Inv (I.deleteAll t) ∧ ∀ k v, ¬ Live (I.deleteAll t) k v
  all : ∀ t g, Inv t → (I.all t g).1.Nodup ∧ ∀ k v, (k, v) ∈ (I.all t g).1 ↔ Live t k v
  size : ∀ t g, Inv t → I.size t = ((I.all t g).1.length : Int)
  equal : ∀ t1 t2 g, I.equal t1 t2 g = equalWith eqVal (I.get t1) (I.get t2) (I.all t1) (I.all t2) g

abbrev Correct (eqVal : V → V → Bool) (I : Impl K V σ T) (Inv : T → Prop) (Live : T → K → V → Prop) : Prop :=
  CorrectD True eqVal I Inv Live

/-- default-or-tighter load-factor bounds: `dmin ≤ minLF < maxLF ≤ dmax` (as exact rationals) -/
structure ValidLF (dmin dmax minLF maxLF : LF) : Prop where
  minDen : 0 < minLF.den
  maxDen : 0 < maxLF.den
  minGe : dmin.num * minLF.den ≤ minLF.num * dmin.den
  lt : minLF.num * maxLF.den < maxLF.num * minLF.den
  maxLe : maxLF.num * dmax.den ≤ dmax.num * maxLF.den

theorem ValidLF.bounds {dmin dmax minLF maxLF : LF} (h : ValidLF dmin dmax minLF maxLF) (hd : 0 < dmin.num) :
    0 < minLF.num ∧ 0 < maxLF.num ∧ dmin.num * maxLF.den < maxLF.num * dmin.den := by
  have hmin : 0 < minLF.num * dmin.den := Nat.lt_of_lt_of_le (Nat.mul_pos hd h.minDen) h.minGe
  have hmax : 0 < maxLF.num * minLF.den := Nat.lt_of_le_of_lt (Nat.zero_le _) h.lt
  refine ⟨Nat.pos_of_mul_pos_right hmin, Nat.pos_of_mul_pos_right hmax, ?_⟩
  have e1 := Nat.mul_le_mul_right maxLF.den h.minGe
  have e2 := Nat.mul_lt_mul_of_pos_right h.lt (Nat.pos_of_mul_pos_left hmin)
  apply Nat.lt_of_mul_lt_mul_left (a := minLF.den)
  calc minLF.den * (dmin.num * maxLF.den) = dmin.num * minLF.den * maxLF.den := by ac_rfl
    _ ≤ minLF.num * dmin.den * maxLF.den := e1
    _ = minLF.num * maxLF.den * dmin.den := by ac_rfl
    _ < maxLF.num * minLF.den * dmin.den := e2
    _ = minLF.den * (maxLF.num * dmin.den) := by ac_rfl

/-- the default bounds of the three open-addressing tables: `1/8 ≤ minLF < maxLF ≤ 1/2` -/
theorem ValidLF.open_facts {minLF maxLF : LF} (h : ValidLF ⟨1, 8⟩ ⟨1, 2⟩ minLF maxLF) :
    0 < minLF.num ∧ 0 < maxLF.num ∧ maxLF.den < 8 * maxLF.num ∧ 2 * maxLF.num ≤ maxLF.den := by
  obtain ⟨a, b, c⟩ := h.bounds (by decide)
  have d := h.maxLe
  dsimp only at c d
  omega

theorem room_mono {u d : Int} {s r : Nat} (hd : 0 ≤ d) (hsr : s ≤ r) : (u + (s : Int)) * d ≤ (u + (r : Int)) * d :=
  Int.mul_le_mul_of_nonneg_right (by omega) hd

theorem half_load {u num den m : Int} (hu : 0 ≤ u) (hnum : 0 < num) (h2 : 2 * num ≤ den) (h : u * den ≤ num * m) :
    2 * u ≤ m := by
  have e : num * (2 * u) ≤ num * m := by
    rw [Int.mul_left_comm, Int.mul_comm num u, ← Int.mul_assoc, Int.mul_comm 2 u, Int.mul_assoc]
    exact Int.le_trans (Int.mul_le_mul_of_nonneg_left h2 hu) h
  exact Int.le_of_mul_le_mul_left e hnum

theorem fits_double {n u den X : Int} (hd : 0 ≤ den) (hnu : n ≤ u) (hroom : u * den ≤ X) (hden : den ≤ X) :
    (n + 1) * den ≤ 2 * X := by
  have := Int.mul_le_mul_of_nonneg_right hnu hd
  rw [Int.add_mul, Int.one_mul]
  omega

theorem lt_of_load {n num den m : Int} (hden : 0 < den) (h2 : 2 * num ≤ den) (hm : 2 ≤ m)
    (h : n * den < num * m + den) : n < m := by
  by_contra hc
  have e1 := Int.mul_le_mul_of_nonneg_right (Int.not_lt.1 hc) (Int.le_of_lt hden)
  have e2 : 2 * (num * m) ≤ m * den := by
    rw [← Int.mul_assoc, Int.mul_comm m den]
    exact Int.mul_le_mul_of_nonneg_right h2 (by omega)
  have e3 := Int.mul_le_mul_of_nonneg_right hm (Int.le_of_lt hden)
  omega

/-- the load check `n/m ≥ num/den` of `Put` fails iff there is room for one more: `(n+1-1)/m < num/den` -/
theorem room_one_iff {n den X : Int} : (n + ((1 : Nat) : Int)) * den < X + den ↔ n * den < X := by
  rw [show n + ((1 : Nat) : Int) = n + 1 from rfl, Int.add_mul, Int.one_mul]
  omega

theorem fits_double_lt {n den X : Int} (hroom : n * den < X + den) (hden : den ≤ X) : (n + 1) * den < 2 * X + den := by
  rw [Int.add_mul, Int.one_mul]
  omega

theorem den_le_of {num den m c : Nat} (h : den ≤ num * c) (hm : c ≤ m) : (den : Int) ≤ (num : Int) * (m : Int) := by
  have : den ≤ num * m := Nat.le_trans h (Nat.mul_le_mul_left num hm)
  exact_mod_cast this

/-- a zero load factor in `HashOpts` selects the default -/
def effLF (lf dflt : LF) : LF := if lf.num = 0 then dflt else lf

theorem effLF_idem (a d : LF) (hd : d.num ≠ 0) : (if (effLF a d).num = 0 then d else effLF a d) = effLF a d := by
  unfold effLF
  by_cases h : a.num = 0 <;> simp [h, hd]

theorem cap_idem (c d : Nat) (hd : d ≠ 0) :
    (if (if c = 0 then d else c) = 0 then d else (if c = 0 then d else c)) = if c = 0 then d else c := by
  by_cases h : c = 0 <;> simp [h, hd]

/-- `2n = bit false n` and `2n - 1 = bit true (n - 1)`: the lowest bits cancel -/
theorem land_double (n : Nat) (hn : 1 ≤ n) : (2 * n) &&& (2 * n - 1) = 2 * (n &&& (n - 1)) := by
  have h := Nat.land_bit false n true (n - 1)
  simp only [Nat.bit_val, Bool.false_and, Bool.toNat_false, Bool.toNat_true, Nat.add_zero] at h
  rwa [show 2 * (n - 1) + 1 = 2 * n - 1 by omega] at h

theorem land_odd (k : Nat) : (2 * k + 1) &&& (2 * k + 1 - 1) = 2 * k := by
  have h := Nat.land_bit true k false k
  simp only [Nat.bit_val, Bool.and_false, Bool.toNat_false, Bool.toNat_true, Nat.add_zero, Nat.and_self] at h
  exact h

theorem isPowerOf2_iff (n : Nat) : isPowerOf2 n = true ↔ n &&& (n - 1) = 0 := by
  simp [isPowerOf2]

theorem isPowerOf2_double (n : Nat) (hn : 1 ≤ n) (h : isPowerOf2 n = true) : isPowerOf2 (2 * n) = true := by
  rw [isPowerOf2_iff] at *
  rw [land_double n hn, h]

theorem isPowerOf2_half (n : Nat) (hn : 2 ≤ n) (h : isPowerOf2 n = true) :
    isPowerOf2 (n / 2) = true ∧ 2 * (n / 2) = n := by
  rw [isPowerOf2_iff] at *
  rcases Nat.even_or_odd' n with ⟨k, rfl | rfl⟩
  · have hk : 1 ≤ k := by omega
    rw [land_double k hk] at h
    have : 2 * k / 2 = k := by omega
    rw [this]
    exact ⟨by omega, rfl⟩
  · rw [land_odd] at h
    omega

theorem cap_default {minM cap : Nat} (hpos : 0 < minM) (hp : isPowerOf2 minM = true)
    (h : cap = 0 ∨ (minM ≤ cap ∧ isPowerOf2 cap = true)) :
    minM ≤ (if cap = 0 then minM else cap) ∧ isPowerOf2 (if cap = 0 then minM else cap) = true := by
  rcases h with h | ⟨h1, h2⟩
  · rw [if_pos h]; exact ⟨Nat.le_refl _, hp⟩
  · rw [if_neg (by omega)]; exact ⟨h1, h2⟩

/-- `P r` is a predicate on tables that still has room for `r` insertions -/
theorem foldPut_spec (Live : T → K → V → Prop) (P : Nat → T → Prop)
    (putRec : T → σ → K → V → Outcome (T × σ))
    (hput : ∀ r t g k v, P (r + 1) t → ∃ t' g', putRec t g k v = .ok (t', g') ∧ P r t' ∧
      ∀ k' v', Live t' k' v' ↔ (k' = k ∧ v' = v) ∨ (k' ≠ k ∧ Live t k' v')) :
    ∀ (l : List (K × V)) (t : T) (g : σ), NodupKeys l → P l.length t →
      ∃ t' g', foldPut putRec l t g = .ok (t', g') ∧ P 0 t' ∧
        ∀ k v, Live t' k v ↔ ((k, v) ∈ l ∨ (Live t k v ∧ k ∉ l.map Prod.fst)) := by
  intro l
  induction l with
  | nil =>
    intro t g _ hP
    exact ⟨t, g, rfl, hP, by simp⟩
  | cons e r ih =>
    obtain ⟨k0, v0⟩ := e
    intro t g hnd hP
    have hnd' := nodupKeys_cons.1 hnd
    obtain ⟨t1, g1, h1, hP1, hL1⟩ := hput r.length t g k0 v0 hP
    obtain ⟨t2, g2, h2, hP2, hL2⟩ := ih t1 g1 hnd'.2 hP1
    refine ⟨t2, g2, by simp [foldPut, h1, h2], hP2, ?_⟩
    intro k v
    rw [hL2, hL1]
    simp only [List.mem_cons, Prod.mk.injEq, List.map_cons, not_or]
    constructor
    · rintro (h | ⟨(⟨rfl, rfl⟩ | ⟨hne, hl⟩), hk⟩)
      · exact Or.inl (Or.inr h)
      · exact Or.inl (Or.inl ⟨rfl, rfl⟩)
      · exact Or.inr ⟨hl, hne, hk⟩
    · rintro ((⟨rfl, rfl⟩ | h) | ⟨hl, hne, hk⟩)
      · exact Or.inr ⟨Or.inl ⟨rfl, rfl⟩, hnd'.1⟩
      · exact Or.inl h
      · exact Or.inr ⟨Or.inr ⟨hne, hl⟩, hk⟩

/-- `t'` is `t` after `Put(key, val)`; `par`: load-factor bounds, kind -/
structure PutPost {P : Type} (par : T → P) (Live : T → K → V → Prop) (t : T) (key : K) (val : V) (t' : T) : Prop where
  par : par t' = par t
  live : ∀ k' v', Live t' k' v' ↔ (k' = key ∧ v' = val) ∨ (k' ≠ key ∧ Live t k' v')

/-- `resize`'s re-insertion of a duplicate-free listing into an empty table; `Q r` is what the re-insertion maintains while
`r` pairs are still to come -/
theorem foldPut_fresh {P : Type} (par : T → P) (Live : T → K → V → Prop) (Q : Nat → T → Prop)
    (putRec : T → σ → K → V → Outcome (T × σ))
    (hput : ∀ r t g k v, Q (r + 1) t → ∃ t' g', putRec t g k v = .ok (t', g') ∧ Q r t' ∧ PutPost par Live t k v t')
    (l : List (K × V)) (fresh : T) (g : σ) (hnd : NodupKeys l) (hQ : Q l.length fresh)
    (hempty : ∀ k v, ¬ Live fresh k v) :
    ∃ nt g', foldPut putRec l fresh g = .ok (nt, g') ∧ Q 0 nt ∧ par nt = par fresh ∧ ∀ k v, Live nt k v ↔ (k, v) ∈ l := by
  obtain ⟨nt, g2, hf, ⟨hQ0, hp⟩, hL⟩ := foldPut_spec Live (fun r t' => Q r t' ∧ par t' = par fresh) putRec
    (fun r t1 g1 k v hP => by
      obtain ⟨t2, g2, h1, h2, hp⟩ := hput r t1 g1 k v hP.1
      exact ⟨t2, g2, h1, ⟨h2, hp.par.trans hP.2⟩, hp.live⟩)
    l fresh g hnd ⟨hQ, rfl⟩
  exact ⟨nt, g2, hf, hQ0, hp, fun k v => (hL k v).trans ⟨fun h => h.elim id fun h => absurd h.1 (hempty k v), Or.inl⟩⟩

/-- `Delete` of a key the table does not hold changes nothing and answers `none`: what `CorrectD.delete` asks in that case -/
theorem delete_absent {Live : T → K → V → Prop} {t : T} {key : K} (hno : ∀ v, ¬ Live t key v) :
    (∀ k' v', Live t k' v' ↔ k' ≠ key ∧ Live t k' v') ∧ ∀ v, (none : Option V) = some v ↔ Live t key v :=
  ⟨fun k' v' => ⟨fun hl => ⟨fun hk => hno v' (hk ▸ hl), hl⟩, And.right⟩, fun v => ⟨nofun, fun hl => absurd hl (hno v)⟩⟩

def Op.notDelete : Op K V → Prop
  | .delete _ _ => False
  | _ => True

/-- the refinement relation -/
def Rel (Inv : T → Prop) (Live : T → K → V → Prop) (t : T) (s : Map K V) : Prop :=
  Inv t ∧ NodupKeys s ∧ ∀ k v, (k, v) ∈ s ↔ Live t k v

theorem allMatchGet_eq (eqVal : V → V → Bool) (get : K → Outcome (Option V)) (f : K → Option V)
    (hget : ∀ k, get k = .ok (f k)) (l : List (K × V)) :
    allMatchGet eqVal get l = .ok (l.all fun e => match f e.1 with
      | some v2 => eqVal e.2 v2
      | none => false) := by
  induction l with
  | nil => simp [allMatchGet]
  | cons e r ih =>
    obtain ⟨k, v⟩ := e
    unfold allMatchGet
    rw [hget k]
    cases hf : f k with
    | none => simp [hf]
    | some v2 =>
      by_cases he : eqVal v v2 = true
      · simp [hf, he, ih]
      · simp [hf, he]

section
variable {D : Prop} {eqVal : V → V → Bool} {I : Impl K V σ T} {Inv : T → Prop} {Live : T → K → V → Prop}

theorem Rel.empty {t0 : T} (hinv : Inv t0) (hempty : ∀ k v, ¬ Live t0 k v) : Rel Inv Live t0 ([] : Map K V) :=
  ⟨hinv, nodupKeys_nil, fun k v => by simp [hempty k v]⟩

def reach (I : Impl K V σ T) : State T σ → List (Op K V) → Option (State T σ)
  | s, [] => some s
  | s, op :: ops =>
    match step I s op with
    | .ok (s', _) => reach I s' ops
    | _ => none

variable (hC : CorrectD D eqVal I Inv Live)

section
variable {t : T} {s : Map K V} (h : Rel Inv Live t s)
include h

theorem Rel.lookup_eq {k : K} {o : Option V} (ho : ∀ v, o = some v ↔ Live t k v) : Map.lookup s k = o := by
  cases o with
  | none =>
    rw [lookup_eq_none_iff]
    intro v hv
    exact absurd ((ho v).2 ((h.2.2 k v).1 hv)) nofun
  | some v =>
    rw [lookup_eq_some_iff h.2.1, h.2.2]
    exact (ho v).1 rfl

include hC

theorem Rel.get_eq (k : K) : I.get t k = .ok (Map.lookup s k) := by
  obtain ⟨o, ho, hspec⟩ := hC.get t k h.1
  rw [ho, h.lookup_eq hspec]

theorem Rel.all_perm (g : σ) : (I.all t g).1.Perm s := by
  obtain ⟨hnd, hmem⟩ := hC.all t g h.1
  rw [List.perm_ext_iff_of_nodup hnd h.2.1.nodup]
  rintro ⟨k, v⟩
  rw [hmem, h.2.2]

theorem Rel.put (g : σ) (k : K) (v : V) :
    ∃ t' g', I.put t g k v = .ok (t', g') ∧ Rel Inv Live t' (Map.insert s k v) := by
  obtain ⟨t', g', hp, hinv, hlive⟩ := hC.put t g k v h.1
  exact ⟨t', g', hp, hinv, nodupKeys_insert h.2.1 k v, fun k' v' => by rw [mem_insert, hlive, h.2.2]⟩

theorem Rel.delete (hD : D) (g : σ) (k : K) :
    ∃ t' g', I.delete t g k = .ok (t', g', Map.lookup s k) ∧ Rel Inv Live t' (Map.erase s k) := by
  obtain ⟨t', g', o, hd, hinv, hlive, ho⟩ := hC.delete hD t g k h.1
  exact ⟨t', g', h.lookup_eq ho ▸ hd, hinv, nodupKeys_erase h.2.1 k, fun k' v' => by rw [mem_erase, hlive, h.2.2]⟩

theorem Rel.deleteAll : Rel Inv Live (I.deleteAll t) ([] : Map K V) :=
  Rel.empty (hC.deleteAll t h.1).1 (hC.deleteAll t h.1).2

theorem Rel.size_eq (g : σ) : I.size t = Map.size s := by
  rw [hC.size t g h.1, (Rel.all_perm hC h g).length_eq]
  rfl

end

section
variable {T1 T2 : Type} {D1 D2 : Prop} {e1 e2 : V → V → Bool} {I1 : Impl K V σ T1} {I2 : Impl K V σ T2}
  {Inv1 : T1 → Prop} {Live1 : T1 → K → V → Prop} {Inv2 : T2 → Prop} {Live2 : T2 → K → V → Prop}
  (hC1 : CorrectD D1 e1 I1 Inv1 Live1) (hC2 : CorrectD D2 e2 I2 Inv2 Live2) {t1 : T1} {t2 : T2} {s1 s2 : Map K V}
  (h1 : Rel Inv1 Live1 t1 s1) (h2 : Rel Inv2 Live2 t2 s2) (eqVal : V → V → Bool) (g : σ)
include hC1 hC2 h1 h2

/-- `ht ⊂ ht2` for two tables that may differ in implementation, hash function and options: the first is listed, the
second searched -/
theorem sub_eq : allMatchGet eqVal (I2.get t2) (I1.all t1 g).1 = .ok (Map.sub eqVal s1 s2) := by
  rw [allMatchGet_eq eqVal (I2.get t2) (Map.lookup s2) (Rel.get_eq hC2 h2)]
  congr 1
  unfold Map.sub
  exact (Rel.all_perm hC1 h1 g).all_eq

/-- the body of every `Equal`, on two such tables -/
theorem equalWith_eq :
    ∃ g', equalWith eqVal (I1.get t1) (I2.get t2) (I1.all t1) (I2.all t2) g = .ok (Map.equal eqVal s1 s2, g') := by
  unfold equalWith Map.equal
  rw [sub_eq hC1 hC2 h1 h2 eqVal g]
  cases hb : Map.sub eqVal s1 s2 with
  | false => exact ⟨_, rfl⟩
  | true =>
    simp only
    rw [sub_eq hC2 hC1 h2 h1]
    exact ⟨(I2.all t2 (I1.all t1 g).2).2, by simp⟩

end

section
include hC

theorem equal_eq {t1 t2 : T} {s1 s2 : Map K V}
    (h1 : Rel Inv Live t1 s1) (h2 : Rel Inv Live t2 s2) (g : σ) :
    ∃ g', I.equal t1 t2 g = .ok (Map.equal eqVal s1 s2, g') := by
  rw [hC.equal]
  exact equalWith_eq hC hC h1 h2 eqVal g

theorem step_sim (st : State T σ) (ss : SState K V)
    (ha : Rel Inv Live st.a ss.a) (hb : Rel Inv Live st.b ss.b) (op : Op K V) (hD : D ∨ op.notDelete) :
    ∃ st' o, step I st op = .ok (st', o) ∧ OutEquiv o (Spec.step eqVal ss op).2 ∧
      Rel Inv Live st'.a (Spec.step eqVal ss op).1.a ∧ Rel Inv Live st'.b (Spec.step eqVal ss op).1.b := by
  have hsel : ∀ b, Rel Inv Live (st.sel b) (ss.sel b) := by
    intro b; cases b <;> simp [State.sel, SState.sel, ha, hb]
  have hupd : ∀ (b : Bool) (t : T) (g : σ) (m : Map K V), Rel Inv Live t m →
      Rel Inv Live (st.upd b t g).a (ss.upd b m).a ∧ Rel Inv Live (st.upd b t g).b (ss.upd b m).b := by
    intro b t g m h
    cases b <;> simp [State.upd, SState.upd, ha, hb, h]
  cases op with
  | put b k v =>
    obtain ⟨t', g', hp, hrel⟩ := (hsel b).put hC st.g k v
    exact ⟨st.upd b t' g', .unit, by simp only [step, hp], trivial, hupd b t' g' _ hrel⟩
  | get b k =>
    refine ⟨st, .val (Map.lookup (ss.sel b) k), ?_, rfl, ha, hb⟩
    simp [step, Rel.get_eq hC (hsel b) k]
  | delete b k =>
    have hD' : D := hD.elim id (fun h => absurd h (by simp [Op.notDelete]))
    obtain ⟨t', g', hd, hrel⟩ := (hsel b).delete hC hD' st.g k
    exact ⟨st.upd b t' g', .val (Map.lookup (ss.sel b) k), by simp only [step, hd], by simp [Spec.step, OutEquiv],
      hupd b t' g' _ hrel⟩
  | deleteAll b =>
    exact ⟨st.upd b (I.deleteAll (st.sel b)) st.g, .unit, by simp only [step], trivial, hupd b _ _ _ ((hsel b).deleteAll hC)⟩
  | size b =>
    refine ⟨st, .int (I.size (st.sel b)), by simp only [step], ?_, ha, hb⟩
    simp only [Spec.step, OutEquiv]
    exact (hsel b).size_eq hC st.g
  | isEmpty b =>
    refine ⟨st, .bool (I.size (st.sel b) == 0), by simp only [step], ?_, ha, hb⟩
    simp only [Spec.step, OutEquiv]
    rw [(hsel b).size_eq hC st.g]
  | all b =>
    refine ⟨{ st with g := (I.all (st.sel b) st.g).2 }, .list (I.all (st.sel b) st.g).1, by simp only [step], ?_, ha, hb⟩
    exact Rel.all_perm hC (hsel b) st.g
  | equal =>
    obtain ⟨g', he⟩ := equal_eq hC ha hb st.g
    refine ⟨{ st with g := g' }, .bool (Map.equal eqVal ss.a ss.b), by simp only [step, he], rfl, ha, hb⟩

theorem reach_sim : ∀ (ops : List (Op K V)) (st : State T σ) (ss : SState K V),
    (D ∨ ∀ op ∈ ops, op.notDelete) → Rel Inv Live st.a ss.a → Rel Inv Live st.b ss.b →
    Agree (run I st ops) (Spec.run eqVal ss ops) ∧
      ∃ (st' : State T σ) (ss' : SState K V), reach I st ops = some st' ∧ Rel Inv Live st'.a ss'.a ∧ Rel Inv Live st'.b ss'.b := by
  intro ops
  induction ops with
  | nil => intro st ss _ ha hb; exact ⟨by simp [run, runTrace, Spec.run, Agree], st, ss, rfl, ha, hb⟩
  | cons op ops ih =>
    intro st ss hD ha hb
    obtain ⟨st', o, hstep, hout, ha', hb'⟩ := step_sim hC st ss ha hb op
      (hD.imp id (fun h => h op (List.mem_cons_self ..)))
    obtain ⟨hagree, hreach⟩ := ih st' _ (hD.imp id (fun h o ho => h o (List.mem_cons_of_mem _ ho))) ha' hb'
    simp only [run, runTrace, reach, hstep, Spec.run, Agree]
    exact ⟨⟨hout, hagree⟩, hreach⟩

theorem sim : ∀ (ops : List (Op K V)) (st : State T σ) (ss : SState K V),
    (D ∨ ∀ op ∈ ops, op.notDelete) →
    Rel Inv Live st.a ss.a → Rel Inv Live st.b ss.b → Agree (run I st ops) (Spec.run eqVal ss ops) :=
  fun ops st ss hD ha hb => (reach_sim hC ops st ss hD ha hb).1

theorem reach_ok (ops : List (Op K V)) (st : State T σ) (ss : SState K V)
    (ha : Rel Inv Live st.a ss.a) (hb : Rel Inv Live st.b ss.b) (op : Op K V)
    (hD : D ∨ ((∀ o ∈ ops, o.notDelete) ∧ op.notDelete)) :
    ∃ st' r, reach I st ops = some st' ∧ step I st' op = .ok r ∧ Inv st'.a ∧ Inv st'.b := by
  obtain ⟨_, st', ss', hr, ha', hb'⟩ := reach_sim hC ops st ss (hD.imp id (fun h => h.1)) ha hb
  obtain ⟨st'', o, hstep, _⟩ := step_sim hC st' ss' ha' hb' op (hD.imp id (fun h => h.2))
  exact ⟨st', (st'', o), hr, hstep, ha'.1, hb'.1⟩

theorem reach_inv : ∀ (ops : List (Op K V)) (st : State T σ) (ss : SState K V),
    (D ∨ ∀ op ∈ ops, op.notDelete) →
    Rel Inv Live st.a ss.a → Rel Inv Live st.b ss.b →
    ∃ st', reach I st ops = some st' ∧ Inv st'.a ∧ Inv st'.b := fun ops st ss hD ha hb =>
  have ⟨_, st', _, hr, ha', hb'⟩ := reach_sim hC ops st ss hD ha hb
  ⟨st', hr, ha'.1, hb'.1⟩

theorem step_ok_of_reach (ops : List (Op K V)) (st : State T σ) (ss : SState K V)
    (ha : Rel Inv Live st.a ss.a) (hb : Rel Inv Live st.b ss.b) (op : Op K V)
    (hD : D ∨ ((∀ o ∈ ops, o.notDelete) ∧ op.notDelete)) :
    ∃ st' r, reach I st ops = some st' ∧ step I st' op = .ok r :=
  have ⟨st', r, hr, hs, _⟩ := reach_ok hC ops st ss ha hb op hD
  ⟨st', r, hr, hs⟩

end

theorem sim_of_empty (hC : Correct eqVal I Inv Live) {new : Outcome T}
    (hnew : ∃ t0, new = .ok t0 ∧ Inv t0 ∧ ∀ k v, ¬ Live t0 k v) (g : σ) (ops : List (Op K V)) :
    ∃ t0, new = .ok t0 ∧ Agree (run I ⟨t0, t0, g⟩ ops) (Spec.run eqVal ⟨[], []⟩ ops) := by
  obtain ⟨t0, h0, hinv, hempty⟩ := hnew
  exact ⟨t0, h0, sim hC ops ⟨t0, t0, g⟩ ⟨[], []⟩ (Or.inl trivial) (Rel.empty hinv hempty) (Rel.empty hinv hempty)⟩

theorem reach_ok_of_empty (hC : Correct eqVal I Inv Live) {new : Outcome T}
    (hnew : ∃ t0, new = .ok t0 ∧ Inv t0 ∧ ∀ k v, ¬ Live t0 k v) (g : σ) (ops : List (Op K V)) (op : Op K V) :
    ∃ t0, new = .ok t0 ∧
      ∃ st r, reach I ⟨t0, t0, g⟩ ops = some st ∧ step I st op = .ok r ∧ ∀ b, Inv (st.sel b) := by
  obtain ⟨t0, h0, hinv, hempty⟩ := hnew
  obtain ⟨st, r, hr, hs, ha, hb⟩ :=
    reach_ok hC ops ⟨t0, t0, g⟩ ⟨[], []⟩ (Rel.empty hinv hempty) (Rel.empty hinv hempty) op (Or.inl trivial)
  exact ⟨t0, h0, st, r, hr, hs, fun b => by cases b <;> assumption⟩

theorem step_ok_of_empty (hC : Correct eqVal I Inv Live) {new : Outcome T}
    (hnew : ∃ t0, new = .ok t0 ∧ Inv t0 ∧ ∀ k v, ¬ Live t0 k v) (g : σ) (ops : List (Op K V)) (op : Op K V) :
    ∃ t0, new = .ok t0 ∧ ∃ st r, reach I ⟨t0, t0, g⟩ ops = some st ∧ step I st op = .ok r := by
  obtain ⟨t0, h0, hinv, hempty⟩ := hnew
  exact ⟨t0, h0, step_ok_of_reach hC ops ⟨t0, t0, g⟩ ⟨[], []⟩ (Rel.empty hinv hempty) (Rel.empty hinv hempty) op (Or.inl trivial)⟩

end
end AlgoVerif.C02
