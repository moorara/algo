import AlgoVerif.Proofs.C08Model
/-!
# Fresh non-terminals (`AddNewNonTerminal`), hygiene of a name by its last character, and START with the two
language lemmas for a new start symbol
-/
namespace AlgoVerif.C08
open AlgoVerif AlgoVerif.Gram AlgoVerif.C08.Spec

theorem addNew_ok {g g1 : G} {pre n : String} {sufs : List String} (h : addNew g pre sufs = .ok (g1, n)) :
    n ∉ g.nonterms ∧ g1 = { g with nonterms := g.nonterms ++ [n] } := by
  unfold addNew at h
  split at h
  · rename_i m hm
    cases h
    have := List.find?_some hm
    exact ⟨by simpa using this, rfl⟩
  · cases h

theorem addNew_form {g g1 : G} {pre n : String} {sufs : List String} (h : addNew g pre sufs = .ok (g1, n)) :
    ∃ s ∈ sufs, n = (sufs.foldl trimSuffix pre) ++ s := by
  unfold addNew at h
  split at h
  · rename_i m hm
    cases h
    unfold freshName at hm
    have := List.mem_of_find?_eq_some hm
    obtain ⟨s, hs, rfl⟩ := List.mem_map.mp this
    exact ⟨s, hs, rfl⟩
  · cases h

def primeEnds : List Char := ['′', '″', '‴', '⁗']
def alnumEnds : List Char := ['ₙ', 'ⁿ', 'ᴺ', '₀', '₁', '₂', '₃', '₄', '₅', '₆', '₇', '₈', '₉']

/-- the last characters of the suffix tables of `/repo/grammar/cfg.go`; prime suffixes and alphabetic / numeric
suffixes end differently -/
theorem suffix_ends : (∀ s ∈ primes, ∃ c ∈ primeEnds, s.toList.getLast? = some c) ∧
    ∀ s ∈ alphas ++ numerics, ∃ c ∈ alnumEnds, s.toList.getLast? = some c := by
  decide +kernel

theorem reserved_ends {s : String} (hs : s ∈ reservedSuffixes) :
    ∃ c ∈ primeEnds ++ alnumEnds, s.toList.getLast? = some c := by
  rw [reservedSuffixes, List.append_assoc, List.mem_append] at hs
  rcases hs with hs | hs
  · obtain ⟨c, hc, h⟩ := suffix_ends.1 s hs
    exact ⟨c, List.mem_append_left _ hc, h⟩
  · obtain ⟨c, hc, h⟩ := suffix_ends.2 s hs
    exact ⟨c, List.mem_append_right _ hc, h⟩

theorem getLast?_of_suffix {s n : String} {c : Char} (h : s.toList.isSuffixOf n.toList = true)
    (hc : s.toList.getLast? = some c) : n.toList.getLast? = some c := by
  obtain ⟨t, ht⟩ := List.isSuffixOf_iff_suffix.1 h
  rw [← ht, List.getLast?_append, hc]
  rfl

/-- one character of a concrete name decides what `hygienicName` computes by comparing with all 106 suffixes -/
theorem hygienicName_of_last {n : String} (h : ∀ c ∈ primeEnds ++ alnumEnds, n.toList.getLast? ≠ some c) :
    hygienicName n = true := by
  unfold hygienicName
  rw [List.all_eq_true]
  intro s hs
  obtain ⟨c, hc, hl⟩ := reserved_ends hs
  rw [Bool.not_eq_true', ← Bool.not_eq_true]
  exact fun hsuf => h c hc (getLast?_of_suffix hsuf hl)

theorem hygienic_of_last {g : G}
    (h : ∀ n ∈ g.nonterms ++ g.terms, ∀ c ∈ primeEnds ++ alnumEnds, n.toList.getLast? ≠ some c)
    (hd : ∀ t ∈ g.terms, t ∉ g.nonterms) : Hygienic g :=
  ⟨fun n hn => hygienicName_of_last (h n (List.mem_append_left _ hn)),
   fun t ht => hygienicName_of_last (h t (List.mem_append_right _ ht)), hd⟩

def Free (s : String) (α : List SSym) : Prop := Sym.nonterm s ∉ α

theorem Spec.WellFormed.fresh_not_in {g : G} (hv : WellFormed g) {s : String} (hs : s ∉ g.nonterms) :
    ∀ p ∈ g.prods, p.head ≠ s ∧ Free s p.body := by
  intro p hp
  obtain ⟨_, h3⟩ := hv
  obtain ⟨hh, hb⟩ := h3 p hp
  refine ⟨fun e => hs (e ▸ hh), fun hm => hs ?_⟩
  exact hb _ hm

theorem _root_.AlgoVerif.Gram.Language.of_fresh_start {g g' : G} {s' : String}
    (hstart : g'.start = s')
    (hprods : ∀ p ∈ g'.prods, Sym.nonterm s' ∉ p.body ∧
        ((p.head ≠ s' ∧ Derives g [Sym.nonterm p.head] p.body) ∨
         (p.head = s' ∧ Derives g [Sym.nonterm g.start] p.body)))
    {w : List String} (hw : Language g' w) : Language g w := by
  -- `s'` stands for the start symbol of `g`, every other symbol for itself
  refine Language.of_expands (fun s x => x = [if s = Sym.nonterm s' then Sym.nonterm g.start else s])
    (fun t => by simp) (fun x hx => by simpa [hstart] using hx) ?_ hw
  intro p hp b hb
  obtain ⟨hns, hcase⟩ := hprods p hp
  obtain rfl : b = p.body := hb.eq_of_id fun s hs x hx => by rw [hx, if_neg fun e : s = Sym.nonterm s' => hns (e ▸ hs)]
  refine ⟨_, rfl, ?_⟩
  rcases hcase with ⟨hh, hd⟩ | ⟨hh, hd⟩
  · rwa [if_neg (by simpa using hh)]
  · rwa [if_pos (by rw [hh])]

theorem cnfStart_ok {g g' : G} (h : cnfStart g = .ok g') :
    g' = g ∨ ∃ s', s' ∉ g.nonterms ∧
      g' = { terms := g.terms, nonterms := g.nonterms ++ [s'], start := s',
             prods := ins g.prods { head := s', body := [Sym.nonterm g.start] } } := by
  unfold cnfStart at h
  split at h
  · obtain ⟨⟨g1, s'⟩, hn, h⟩ := bind_eq_ok h
    cases h
    obtain ⟨hf, rfl⟩ := addNew_ok hn
    exact Or.inr ⟨s', hf, rfl⟩
  · cases h; exact Or.inl rfl

theorem _root_.AlgoVerif.Gram.Language.of_start_prod {g g' : G} (hsub : ∀ p ∈ g.prods, p ∈ g'.prods)
    (hs : ({ head := g'.start, body := [Sym.nonterm g.start] } : SProd) ∈ g'.prods) {w : List String}
    (hw : Language g w) : Language g' w :=
  (Derives.of_prod hs).trans (Derives.mono hsub hw)

theorem cnfStart_language {g g' : G} (h : cnfStart g = .ok g') (hv : WellFormed g) (w : List String) :
    Language g' w ↔ Language g w := by
  rcases cnfStart_ok h with rfl | ⟨s', hfresh, rfl⟩
  · exact Iff.rfl
  · refine ⟨fun hw => hw.of_fresh_start (g := g) rfl fun p hp => ?_,
      Language.of_start_prod (fun p hp => mem_ins.mpr (.inl hp)) (mem_ins.mpr (.inr rfl))⟩
    rcases mem_ins.mp hp with hp | rfl
    · obtain ⟨h1, h2⟩ := hv.fresh_not_in hfresh p hp
      exact ⟨h2, Or.inl ⟨h1, Derives.of_prod hp⟩⟩
    · exact ⟨by simpa using fun e : s' = g.start => hfresh (e ▸ hv.1), Or.inr ⟨rfl, Derives.refl _⟩⟩

theorem cnfStart_wf {g g' : G} (h : cnfStart g = .ok g') (hw : WellFormed g) : WellFormed g' := by
  rcases cnfStart_ok h with rfl | ⟨s', _, rfl⟩
  · exact hw
  · refine ⟨by simp, ?_⟩
    intro p hp
    rcases mem_ins.mp hp with hp | rfl
    · obtain ⟨h1, h2⟩ := hw.2 p hp
      refine ⟨by simp; exact Or.inl h1, fun s hs => ?_⟩
      exact (h2 s hs).mono (fun _ h => by exact h) (fun _ h => List.mem_append_left _ h)
    · refine ⟨by simp, fun s hs => ?_⟩
      simp at hs; subst hs
      unfold SymDeclared; simp; exact Or.inl hw.1

end AlgoVerif.C08
