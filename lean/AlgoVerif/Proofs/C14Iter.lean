import AlgoVerif.Proofs.C14Paths
/-!
# C14 proofs — `traverseDFSi` / `traverseBFS` (one loop, two containers) as used by `Paths`

`iterLoop_paths`: with a container whose `push` adds exactly one element, the loop returns `ok`, keeps the
`edgeTo` invariant, and ends with a visited set closed under the arcs.  A client invariant `J` (used for
the BFS level argument) can be threaded through; while the adjacency list of the popped vertex `v` is scanned it
is stated with `v` still at the head of the container.
-/
namespace AlgoVerif.C14

/-- what the two containers have in common -/
structure PushOK (push : Nat → List Nat → List Nat) : Prop where
  mem : ∀ w l x, x ∈ push w l ↔ x = w ∨ x ∈ l
  len : ∀ w l, (push w l).length = l.length + 1

theorem pushStack_ok : PushOK pushStack := ⟨by simp [pushStack], by simp [pushStack]⟩
theorem pushQueue_ok : PushOK pushQueue :=
  ⟨by intro w l x; simp [pushQueue, or_comm], by simp [pushQueue]⟩

/-- invariant between two iterations of the outer loop (`fr` = stack/queue content) -/
structure IterInv (g : Graph) (s : Nat) (a : Array Bool) (et : Array Nat) (fr : List Nat) : Prop where
  size : a.size = g.n
  pinv : PInv g s a et
  front : ∀ x ∈ fr, Vis a x
  closed : ∀ x, Vis a x → x ∉ fr → ∀ y, g.HasArc x y → Vis a y

/-- invariant inside the adjacency loop of the popped vertex `v` -/
structure IterIn (g : Graph) (s v : Nat) (a : Array Bool) (et : Array Nat) (fr : List Nat) : Prop where
  size : a.size = g.n
  pinv : PInv g s a et
  self : Vis a v
  front : ∀ x ∈ fr, Vis a x
  closed : ∀ x, Vis a x → x ∉ fr → x ≠ v → ∀ y, g.HasArc x y → Vis a y

theorem iterIn_iff {g : Graph} {s v : Nat} {a : Array Bool} {et : Array Nat} {fr : List Nat} :
    IterIn g s v a et fr ↔ IterInv g s a et (v :: fr) :=
  ⟨fun h => ⟨h.size, h.pinv, List.forall_mem_cons.2 ⟨h.self, h.front⟩, fun x hx hnf =>
      h.closed x hx (fun m => hnf (List.mem_cons_of_mem _ m)) fun e => hnf (e ▸ List.mem_cons_self ..)⟩,
    fun h => ⟨h.size, h.pinv, h.front v (List.mem_cons_self ..), fun x hx => h.front x (List.mem_cons_of_mem _ hx),
      fun x hx hnf hxv => h.closed x hx fun m => (List.mem_cons.1 m).elim hxv hnf⟩⟩

/-- what a finished `Paths` value satisfies -/
structure PathsOK (g : Graph) (s : Nat) (p : Paths) : Prop where
  src : p.s = (s : Int)
  size : p.visited.size = g.n
  pinv : PInv g s p.visited p.edgeTo
  vis_iff : ∀ v, Vis p.visited v ↔ Reach g.HasArc s v

theorem pinv_init (g : Graph) (s : Nat) :
    PInv g s (Array.replicate g.n false) (Array.replicate g.n 0) :=
  ⟨by simp, fun x hx => absurd hx vis_replicate_false⟩

theorem vis_iff_of_closed {g : Graph} {s : Nat} {a : Array Bool} {et : Array Nat}
    (hinv : PInv g s a et) (hs : Vis a s) (hcl : ∀ x, Vis a x → ∀ y, g.HasArc x y → Vis a y) (v : Nat) :
    Vis a v ↔ Reach g.HasArc s v := by
  constructor
  · intro hv
    obtain ⟨k, hc, _⟩ := hinv.2 v hv
    exact hc.reach
  · intro hr
    exact Reach.closed (S := Vis a) (fun x y hx e => hcl x hx y e) hr hs

theorem iterIn_disc {push : Nat → List Nat → List Nat} (hp : PushOK push) {g : Graph} {s v w : Nat} {a : Array Bool}
    {et : Array Nat} {fr : List Nat} (hin : IterIn g s v a et fr) (hunv : a[w]? = some false) (harc : g.HasArc v w)
    (hw : w < g.n) : IterIn g s v (a.set! w true) (et.set! w v) (push w fr) :=
  have hwlt : w < a.size := hin.size ▸ hw
  { size := by rw [size_set!]; exact hin.size
    pinv := (hin.pinv.setEdge hunv).enter hin.size hunv
      (Or.inr ⟨v, getElem?_set!_self _ _ (hin.pinv.1 ▸ hw), hin.self, harc⟩)
    self := vis_set_of_vis hin.self
    front := by
      intro y hy
      rcases (hp.mem _ _ _).1 hy with rfl | h
      · exact vis_set_self hwlt
      · exact vis_set_of_vis (hin.front y h)
    closed := by
      intro y hy hnf hyv z hz
      rcases vis_set.1 hy with ⟨h, _⟩ | h
      · exact absurd ((hp.mem _ _ _).2 (Or.inl h.symm)) hnf
      · exact vis_set_of_vis (hin.closed y h (fun h' => hnf ((hp.mem _ _ _).2 (Or.inr h'))) hyv z hz) }

section

variable (push : Nat → List Nat → List Nat) (hp : PushOK push) (g : Graph) (hg : g.WF) (s : Nat)
  (J : Array Bool → Array Nat → List Nat → Prop)

include hp hg

theorem iterInner_paths (v : Nat)
    (h_disc : ∀ a et fr w, IterIn g s v a et fr → J a et (v :: fr) → a[w]? = some false → g.HasArc v w →
      J (a.set! w true) (et.set! w v) (v :: push w fr))
    (st : TState (Array Nat)) (fr : List Nat) (hin : IterIn g s v st.visited st.s fr) (hj : J st.visited st.s (v :: fr)) :
    ∃ cur' fr', iterInner push pathsVisitors v (g.adj.getD v []) st fr = .ok (cur', fr', true) ∧
      IterIn g s v cur'.visited cur'.s fr' ∧ (∀ x ∈ g.adj.getD v [], Vis cur'.visited x.to) ∧
      J cur'.visited cur'.s (v :: fr') ∧
      fr'.length + cntF cur'.visited = fr.length + cntF st.visited ∧
      (∀ x, Vis st.visited x → Vis cur'.visited x) := by
  have key := list_loop_inv
    (loop := fun rest (p : TState (Array Nat) × List Nat) => iterInner push pathsVisitors v rest p.1 p.2)
    (ret := fun p => (p.1, p.2, true))
    (I := fun done p => IterIn g s v p.1.visited p.1.s p.2 ∧ (∀ x ∈ done, Vis p.1.visited x.to) ∧
      J p.1.visited p.1.s (v :: p.2) ∧ p.2.length + cntF p.1.visited = fr.length + cntF st.visited ∧
      ∀ x, Vis st.visited x → Vis p.1.visited x)
    (fun _ => rfl) (g.adj.getD v []) (fun done x rest ⟨cur, fr1⟩ hadj ⟨hin, hdone, hj, hm, hgr⟩ => ?_) (st, fr)
    ⟨hin, by simp, hj, rfl, fun _ h => h⟩
  · obtain ⟨⟨cur', fr'⟩, h⟩ := key
    exact ⟨cur', fr', h⟩
  · have hxmem : x ∈ g.adj.getD v [] := by rw [hadj]; simp
    have hxn : x.to < g.n := hg.bound v x hxmem
    have hxlt : x.to < cur.visited.size := by rw [hin.size]; exact hxn
    have harc : g.HasArc v x.to := Graph.HasArc.of_mem hxmem
    rcases vis_or_false hxlt with hvis | hunv
    · exact ⟨(cur, fr1), by simp only [iterInner, show cur.visited[x.to]? = some true from hvis], hin,
        List.forall_mem_append.2 ⟨hdone, List.forall_mem_singleton.2 hvis⟩, hj, hm, hgr⟩
    · have hgrow : ∀ y, Vis cur.visited y → Vis (cur.visited.set! x.to true) y := fun y hy => vis_set_of_vis hy
      refine ⟨(⟨cur.visited.set! x.to true, cur.s.set! x.to v⟩, push x.to fr1), by simp only [iterInner, hunv]; rfl,
        iterIn_disc hp hin hunv harc hxn,
        List.forall_mem_append.2 ⟨fun y h => hgrow _ (hdone y h), List.forall_mem_singleton.2 (vis_set_self hxlt)⟩,
        h_disc cur.visited cur.s fr1 x.to hin hj hunv harc, ?_, fun y hy => hgrow y (hgr y hy)⟩
      -- the push lengthens the container by one, the mark lowers the count of unvisited vertices by one
      have hc := cntF_set hunv
      have hl := hp.len x.to fr1
      show (push x.to fr1).length + cntF (cur.visited.set! x.to true) = _
      have hm' : fr1.length + cntF cur.visited = fr.length + cntF st.visited := hm
      omega

variable (h_disc : ∀ v a et fr w, IterIn g s v a et fr → J a et (v :: fr) → a[w]? = some false → g.HasArc v w →
    J (a.set! w true) (et.set! w v) (v :: push w fr))
  (h_fin : ∀ v a et fr, IterIn g s v a et fr → J a et (v :: fr) → (∀ y, g.HasArc v y → Vis a y) → J a et fr)

include h_disc h_fin

/-- `fr.length + cntF st.visited` is the measure behind the fuel `n + 1` that `iter` gives the loop: a pop shortens the
container, a push marks a vertex -/
theorem iterLoop_paths :
    ∀ fuel (st : TState (Array Nat)) fr, IterInv g s st.visited st.s fr → J st.visited st.s fr →
      fr.length + cntF st.visited ≤ fuel →
      ∃ st', iterLoop push g pathsVisitors fuel st fr = .ok st' ∧ IterInv g s st'.visited st'.s [] ∧
        J st'.visited st'.s [] ∧ (∀ x, Vis st.visited x → Vis st'.visited x) := by
  intro fuel
  induction fuel with
  | zero =>
    intro st fr hinv hj hf
    cases fr with
    | nil => exact ⟨st, by simp [iterLoop], hinv, hj, fun _ h => h⟩
    | cons v fr => simp at hf
  | succ fuel ih =>
    intro st fr hinv hj hf
    cases fr with
    | nil => exact ⟨st, by simp [iterLoop], hinv, hj, fun _ h => h⟩
    | cons v fr =>
      have hin := iterIn_iff.2 hinv
      have hvn : v < g.n := hinv.size ▸ vis_lt hin.self
      obtain ⟨cur', fr', h1, h2, h3, h4, h5, h6⟩ :=
        iterInner_paths push hp g hg s J v (h_disc v) st fr hin hj
      have hall : ∀ y, g.HasArc v y → Vis cur'.visited y := by
        intro y hy
        obtain ⟨x, hx, rfl⟩ := hy
        exact h3 x hx
      have hinv' : IterInv g s cur'.visited cur'.s fr' :=
        { size := h2.size
          pinv := h2.pinv
          front := h2.front
          closed := by
            intro x hx hnf y hy
            by_cases hxv : x = v
            · subst hxv; exact hall y hy
            · exact h2.closed x hx hnf hxv y hy }
      have hj' := h_fin v cur'.visited cur'.s fr' h2 h4 hall
      have hf' : fr'.length + cntF cur'.visited ≤ fuel := by
        simp only [List.length_cons] at hf
        omega
      obtain ⟨st', k1, k2, k3, k4⟩ := ih cur' fr' hinv' hj' hf'
      refine ⟨st', ?_, k2, k3, fun x hx => k4 x (h6 x hx)⟩
      show iterLoop push g pathsVisitors (fuel + 1) st (v :: fr) = .ok st'
      unfold iterLoop
      have hpost : callV pathsVisitors.post v st.s = (st.s, true) := rfl
      simp only [hpost, if_true]
      rw [hg.adj_get hvn]
      simp only [h1]
      exact k1

theorem iter_paths_top (hs : s < g.n)
    (hj0 : J ((Array.replicate g.n false).set! s true) (Array.replicate g.n 0) (push s [])) :
    ∃ st, iter push g pathsVisitors s ⟨Array.replicate g.n false, Array.replicate g.n 0⟩ = .ok st ∧
      PathsOK g s ⟨(s : Int), st.visited, st.s⟩ ∧ J st.visited st.s [] := by
  let a0 := Array.replicate g.n false
  have hunv : a0[s]? = some false := replicate_false_get hs
  have hslt : s < a0.size := by simp [a0, hs]
  have hinv0 : IterInv g s (a0.set! s true) (Array.replicate g.n 0) (push s []) :=
    { size := by rw [size_set!]; simp [a0]
      pinv := (pinv_init g s).enter (by simp) hunv (Or.inl rfl)
      front := by
        intro x hx
        rcases (hp.mem _ _ _).1 hx with rfl | h
        · exact vis_set_self hslt
        · simp at h
      closed := by
        intro x hx hnf
        rcases vis_set.1 hx with ⟨rfl, _⟩ | h
        · exact absurd ((hp.mem _ _ _).2 (Or.inl rfl)) hnf
        · exact absurd h vis_replicate_false }
  have hfuel : (push s []).length + cntF (a0.set! s true) ≤ g.n + 1 := by
    have h1 := cntF_set hunv
    have h2 : cntF a0 ≤ g.n := by
      have := cntF_le_size a0
      simpa [a0] using this
    have h3 := hp.len s []
    simp at h3
    omega
  obtain ⟨st, h1, h2, h3, h4⟩ :=
    iterLoop_paths push hp g hg s J h_disc h_fin (g.n + 1) ⟨a0.set! s true, _⟩ (push s []) hinv0 hj0 hfuel
  refine ⟨st, ?_, ⟨rfl, h2.size, h2.pinv, ?_⟩, h3⟩
  · unfold iter
    have : s < (Array.replicate g.n false).size := hslt
    simp only [this, if_true]
    exact h1
  · apply vis_iff_of_closed h2.pinv (h4 s (vis_set_self hslt))
    intro x hx y hy
    exact h2.closed x hx (by simp) y hy

end

end AlgoVerif.C14
