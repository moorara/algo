import AlgoVerif.Spec.C14S
import AlgoVerif.Proofs.C14Basic
/-!
# C14 proofs — graphs built by `NewX(V)` + `AddEdge`

The graph built from a call list is known exactly: its adjacency lists are `adjSpec` (`theGraph_closed`).  Everything else
said about built graphs — the arc relation, symmetry, what the stored edges are — is membership in those lists
(`mem_adj_theGraph`), for the four kinds at once.
-/
namespace AlgoVerif.C14

theorem adj_new (n v : Nat) : (Graph.new n).adj.getD v [] = [] := by
  rw [Array.getD_eq_getD_getElem?]; simp [Graph.new, Array.getElem?_replicate]
  split <;> simp

theorem wf_new (n : Nat) : (Graph.new n).WF :=
  ⟨by simp [Graph.new], by intro u x hx; rw [adj_new] at hx; simp at hx⟩

theorem adj_addArc (g : Graph) (hg : g.WF) (v : Nat) (hv : v < g.n) (x : Arc) (u : Nat) :
    (g.addArc v x).adj.getD u [] = if u = v then g.adj.getD u [] ++ [x] else g.adj.getD u [] := by
  rw [Array.getD_eq_getD_getElem?, Array.getD_eq_getD_getElem?]
  simp only [Graph.addArc, Array.getElem?_modify]
  by_cases h : v = u
  · subst h
    have : v < g.adj.size := hg.size ▸ hv
    simp [this]
  · have h' : ¬ u = v := fun e => h e.symm
    simp [h, h']

theorem mem_adj_addArc (g : Graph) (hg : g.WF) (v : Nat) (hv : v < g.n) (x : Arc) (u : Nat) (y : Arc) :
    y ∈ (g.addArc v x).adj.getD u [] ↔ y ∈ g.adj.getD u [] ∨ (u = v ∧ y = x) := by
  rw [adj_addArc g hg v hv]
  by_cases h : u = v
  · simp [h]
  · simp [h]

theorem wf_addArc (g : Graph) (hg : g.WF) (v : Nat) (hv : v < g.n) (x : Arc) (hx : x.to < g.n) :
    (g.addArc v x).WF := by
  refine ⟨by simp [Graph.addArc, hg.size], ?_⟩
  intro u y hy
  rcases (mem_adj_addArc g hg v hv x u y).1 hy with h | ⟨-, rfl⟩
  · exact hg.bound u y h
  · exact hx

theorem n_addEdgeDirected (g : Graph) (v w wt : Int) : (g.addEdgeDirected v w wt).n = g.n := by
  unfold Graph.addEdgeDirected; split <;> rfl

theorem n_addEdgeUndirected (g : Graph) (v w wt : Int) : (g.addEdgeUndirected v w wt).n = g.n := by
  unfold Graph.addEdgeUndirected; split <;> rfl

/-- both ends are vertices: what `AddEdge` tests -/
abbrev Graph.ValidEnds (g : Graph) (v w : Int) : Prop := (0 ≤ v ∧ v < (g.n : Int)) ∧ (0 ≤ w ∧ w < (g.n : Int))

theorem validEnds_lt {g : Graph} {v w : Int} (h : g.ValidEnds v w) : v.toNat < g.n ∧ w.toNat < g.n :=
  ⟨(Int.toNat_lt h.1.1).2 h.1.2, (Int.toNat_lt h.2.1).2 h.2.2⟩

theorem addEdgeDirected_cases (g : Graph) (v w wt : Int) :
    g.ValidEnds v w ∧ g.addEdgeDirected v w wt = g.addArc v.toNat ⟨w.toNat, ⟨v.toNat, w.toNat, wt⟩⟩ ∨
      ¬ g.ValidEnds v w ∧ g.addEdgeDirected v w wt = g := by
  unfold Graph.addEdgeDirected
  split <;> rename_i h <;> simp only [Bool.and_eq_true, valid_iff] at h
  · exact .inl ⟨h, rfl⟩
  · exact .inr ⟨h, rfl⟩

theorem addEdgeUndirected_cases (g : Graph) (v w wt : Int) :
    g.ValidEnds v w ∧ g.addEdgeUndirected v w wt =
        (g.addArc v.toNat ⟨w.toNat, ⟨v.toNat, w.toNat, wt⟩⟩).addArc w.toNat ⟨v.toNat, ⟨v.toNat, w.toNat, wt⟩⟩ ∨
      ¬ g.ValidEnds v w ∧ g.addEdgeUndirected v w wt = g := by
  unfold Graph.addEdgeUndirected
  split <;> rename_i h <;> simp only [Bool.and_eq_true, valid_iff] at h
  · exact .inl ⟨h, rfl⟩
  · exact .inr ⟨h, rfl⟩

theorem wf_addEdgeDirected (g : Graph) (hg : g.WF) (v w wt : Int) : (g.addEdgeDirected v w wt).WF := by
  rcases addEdgeDirected_cases g v w wt with ⟨h, e⟩ | ⟨-, e⟩ <;> rw [e]
  · exact wf_addArc g hg _ (validEnds_lt h).1 _ (validEnds_lt h).2
  · exact hg

theorem wf_addEdgeUndirected (g : Graph) (hg : g.WF) (v w wt : Int) : (g.addEdgeUndirected v w wt).WF := by
  rcases addEdgeUndirected_cases g v w wt with ⟨h, e⟩ | ⟨-, e⟩ <;> rw [e]
  · exact wf_addArc _ (wf_addArc g hg v.toNat (validEnds_lt h).1 ⟨w.toNat, ⟨v.toNat, w.toNat, wt⟩⟩ (validEnds_lt h).2) w.toNat (validEnds_lt h).2 _ (validEnds_lt h).1
  · exact hg

theorem validE_iff (g : Graph) (u v w : Int) :
    validE g.n ⟨u, v, w⟩ = (g.isVertexValid u && g.isVertexValid v) := by
  simp [validE, Graph.isVertexValid]

theorem validE_validEnds (g : Graph) (u v w : Int) : validE g.n ⟨u, v, w⟩ = true ↔ g.ValidEnds u v := by
  rw [validE_iff, Bool.and_eq_true, valid_iff, valid_iff]

theorem validE_nonneg {n : Nat} {e : EdgeIn} (h : validE n e = true) :
    0 ≤ e.u ∧ e.u < (n : Int) ∧ 0 ≤ e.v ∧ e.v < (n : Int) := by
  simpa [validE, and_assoc] using h

theorem adj_addEdgeDirected (k : Kind) (hk : k.isDirected = true) (g : Graph) (hg : g.WF) (u v w : Int) (x : Nat) :
    (g.addEdgeDirected u v w).adj.getD x [] = g.adj.getD x [] ++ arcsOf k g.n ⟨u, v, w⟩ x := by
  unfold arcsOf
  rcases addEdgeDirected_cases g u v w with ⟨h, e⟩ | ⟨h, e⟩ <;> rw [e]
  · rw [if_pos ((validE_validEnds g u v w).2 h), adj_addArc g hg _ (validEnds_lt h).1]
    simp only [hk, Bool.not_true, Bool.false_and, Bool.false_eq_true, if_false, List.append_nil, eq_comm (a := x)]
    split <;> simp only [List.append_nil]
  · rw [if_neg (fun hv => h ((validE_validEnds g u v w).1 hv)), List.append_nil]

theorem adj_addEdgeUndirected (k : Kind) (hk : k.isDirected = false) (g : Graph) (hg : g.WF) (u v w : Int) (x : Nat) :
    (g.addEdgeUndirected u v w).adj.getD x [] = g.adj.getD x [] ++ arcsOf k g.n ⟨u, v, w⟩ x := by
  unfold arcsOf
  rcases addEdgeUndirected_cases g u v w with ⟨h, e⟩ | ⟨h, e⟩ <;> rw [e]
  · have h1 := wf_addArc g hg u.toNat (validEnds_lt h).1 ⟨v.toNat, ⟨u.toNat, v.toNat, w⟩⟩ (validEnds_lt h).2
    rw [if_pos ((validE_validEnds g u v w).2 h), adj_addArc _ h1 _ (validEnds_lt h).2, adj_addArc g hg _ (validEnds_lt h).1]
    simp only [hk, Bool.not_false, Bool.true_and, decide_eq_true_eq, eq_comm (a := x)]
    by_cases h1 : u.toNat = x <;> by_cases h2 : v.toNat = x <;>
      simp only [h1, h2, if_true, if_false, List.append_assoc, List.append_nil, List.nil_append]
  · rw [if_neg (fun hv => h ((validE_validEnds g u v w).1 hv)), List.append_nil]

theorem addEdge_closed (k : Kind) (g : Graph) (hg : g.WF) (e : EdgeIn) :
    let g' := if k.isDirected then g.addEdgeDirected e.u e.v e.w else g.addEdgeUndirected e.u e.v e.w
    g'.WF ∧ g'.n = g.n ∧ ∀ x, g'.adj.getD x [] = g.adj.getD x [] ++ arcsOf k g.n e x := by
  cases hk : k.isDirected
  · exact ⟨wf_addEdgeUndirected g hg _ _ _, n_addEdgeUndirected g _ _ _, adj_addEdgeUndirected k hk g hg _ _ _⟩
  · exact ⟨wf_addEdgeDirected g hg _ _ _, n_addEdgeDirected g _ _ _, adj_addEdgeDirected k hk g hg _ _ _⟩

theorem foldl_addEdge_closed (k : Kind) (es : List EdgeIn) : ∀ g : Graph, g.WF →
    let g' := es.foldl (fun g e => if k.isDirected then g.addEdgeDirected e.u e.v e.w
      else g.addEdgeUndirected e.u e.v e.w) g
    g'.WF ∧ g'.n = g.n ∧ ∀ x, g'.adj.getD x [] = g.adj.getD x [] ++ adjSpec k g.n es x := by
  induction es with
  | nil => intro g hg; exact ⟨hg, rfl, fun x => by simp [adjSpec]⟩
  | cons e es ih =>
    intro g hg
    obtain ⟨hw, hn, hadj⟩ := addEdge_closed k g hg e
    obtain ⟨h1, h2, h3⟩ := ih _ hw
    refine ⟨h1, h2.trans hn, fun x => ?_⟩
    rw [List.foldl_cons, h3, hn, hadj]
    simp [adjSpec, List.append_assoc]

theorem theGraph_closed (k : Kind) (n : Nat) (es : List EdgeIn) :
    (theGraph k n es).WF ∧ (theGraph k n es).n = n ∧ ∀ x, (theGraph k n es).adj.getD x [] = adjSpec k n es x := by
  have h : theGraph k n es = es.foldl (fun g e => if k.isDirected then g.addEdgeDirected e.u e.v e.w
      else g.addEdgeUndirected e.u e.v e.w) (Graph.new n) := by
    unfold theGraph buildDirected buildUndirected
    cases k.isDirected <;> rfl
  obtain ⟨h1, h2, h3⟩ := foldl_addEdge_closed k es _ (wf_new n)
  rw [h]
  exact ⟨h1, h2, fun x => by rw [h3, adj_new]; rfl⟩

theorem theGraph_wf (k : Kind) (n : Nat) (es : List EdgeIn) : (theGraph k n es).WF := (theGraph_closed k n es).1

theorem theGraph_n (k : Kind) (n : Nat) (es : List EdgeIn) : (theGraph k n es).n = n := (theGraph_closed k n es).2.1

theorem theGraph_adj (k : Kind) (n : Nat) (es : List EdgeIn) (x : Nat) :
    (theGraph k n es).adj.getD x [] = adjSpec k n es x := (theGraph_closed k n es).2.2 x

/-- the entry a valid call stores under its tail -/
abbrev fwd (e : EdgeIn) : Arc := ⟨e.v.toNat, ⟨e.u.toNat, e.v.toNat, e.w⟩⟩
/-- the entry a valid call on an undirected graph also stores under its head -/
abbrev bwd (e : EdgeIn) : Arc := ⟨e.u.toNat, ⟨e.u.toNat, e.v.toNat, e.w⟩⟩

theorem mem_arcsOf {k : Kind} {n : Nat} {e : EdgeIn} {v : Nat} {x : Arc} :
    x ∈ arcsOf k n e v ↔ validE n e = true ∧
      ((e.u.toNat = v ∧ x = fwd e) ∨ (k.isDirected = false ∧ e.v.toNat = v ∧ x = bwd e)) := by
  unfold arcsOf
  by_cases hv : validE n e = true
  · by_cases h1 : e.u.toNat = v <;> by_cases h2 : e.v.toNat = v <;> cases k.isDirected <;> simp [hv, h1, h2, fwd, bwd]
  · simp [hv]

theorem mem_adj_theGraph (k : Kind) (n : Nat) (es : List EdgeIn) (u : Nat) (x : Arc) :
    x ∈ (theGraph k n es).adj.getD u [] ↔ ∃ e ∈ es, validE n e = true ∧
      ((e.u.toNat = u ∧ x = fwd e) ∨ (k.isDirected = false ∧ e.v.toNat = u ∧ x = bwd e)) := by
  rw [theGraph_adj]
  simp only [adjSpec, List.mem_flatMap, mem_arcsOf]

theorem dirE_iff (n : Nat) (es : List EdgeIn) (a b : Nat) :
    DirE n es a b ↔ ∃ e ∈ es, validE n e = true ∧ e.u.toNat = a ∧ e.v.toNat = b := by
  unfold DirE
  refine exists_congr fun e => and_congr_right fun _ => ?_
  simp only [validE, Bool.and_eq_true, decide_eq_true_eq]
  constructor
  · rintro ⟨h1, h2, h3, h4, h5, h6⟩
    exact ⟨⟨⟨h1, h2⟩, h3, h4⟩, by rw [← h5, Int.toNat_natCast], by rw [← h6, Int.toNat_natCast]⟩
  · rintro ⟨⟨⟨h1, h2⟩, h3, h4⟩, rfl, rfl⟩
    exact ⟨h1, h2, h3, h4, Int.toNat_of_nonneg h1, Int.toNat_of_nonneg h3⟩

theorem theGraph_hasArc_iff (k : Kind) (n : Nat) (es : List EdgeIn) (a b : Nat) :
    (theGraph k n es).HasArc a b ↔ EdgeRel k n es a b := by
  have key : (theGraph k n es).HasArc a b ↔ DirE n es a b ∨ (k.isDirected = false ∧ DirE n es b a) := by
    simp only [Graph.HasArc, mem_adj_theGraph, dirE_iff]
    constructor
    · rintro ⟨x, ⟨e, he, hv, ⟨h1, rfl⟩ | ⟨hk, h1, rfl⟩⟩, rfl⟩
      · exact .inl ⟨e, he, hv, h1, rfl⟩
      · exact .inr ⟨hk, e, he, hv, rfl, h1⟩
    · rintro (⟨e, he, hv, h1, rfl⟩ | ⟨hk, e, he, hv, rfl, h1⟩)
      · exact ⟨_, ⟨e, he, hv, .inl ⟨h1, rfl⟩⟩, rfl⟩
      · exact ⟨_, ⟨e, he, hv, .inr ⟨hk, h1, rfl⟩⟩, rfl⟩
  rw [key]
  unfold EdgeRel UndirE
  cases k.isDirected <;> simp

theorem theGraph_hasArc (k : Kind) (n : Nat) (es : List EdgeIn) : (theGraph k n es).HasArc = EdgeRel k n es :=
  funext fun a => funext fun b => propext (theGraph_hasArc_iff k n es a b)

theorem buildDirected_spec (n : Nat) (es : List EdgeIn) :
    (buildDirected n es).WF ∧ (buildDirected n es).n = n ∧
      ∀ a b, (buildDirected n es).HasArc a b ↔ DirE n es a b :=
  ⟨theGraph_wf .directed n es, theGraph_n .directed n es, theGraph_hasArc_iff .directed n es⟩

theorem buildUndirected_spec (n : Nat) (es : List EdgeIn) :
    (buildUndirected n es).WF ∧ (buildUndirected n es).Symmetric ∧ (buildUndirected n es).n = n ∧
      ∀ a b, (buildUndirected n es).HasArc a b ↔ UndirE n es a b :=
  have h : ∀ a b, (buildUndirected n es).HasArc a b ↔ UndirE n es a b := theGraph_hasArc_iff .undirected n es
  ⟨theGraph_wf .undirected n es, fun a b hab => (h b a).2 ((h a b).1 hab).symm, theGraph_n .undirected n es, h⟩

theorem reverse_eq_build (g : Graph) :
    g.reverse = buildDirected g.n ((List.range g.n).flatMap fun v =>
      (g.adj.getD v []).map fun x => ⟨(x.to : Int), (v : Int), x.e.w⟩) := by
  simp only [Graph.reverse, buildDirected, List.foldl_flatMap, List.foldl_map]

theorem reverse_spec (g : Graph) (hg : g.WF) :
    g.reverse.WF ∧ g.reverse.n = g.n ∧ ∀ a b, g.reverse.HasArc a b ↔ g.HasArc b a := by
  rw [reverse_eq_build]
  obtain ⟨h1, h2, h3⟩ := buildDirected_spec g.n ((List.range g.n).flatMap fun v =>
      (g.adj.getD v []).map fun x => (⟨(x.to : Int), (v : Int), x.e.w⟩ : EdgeIn))
  refine ⟨h1, h2, fun a b => (h3 a b).trans ?_⟩
  simp only [DirE, List.mem_flatMap, List.mem_range, List.mem_map]
  constructor
  · rintro ⟨_, ⟨v, _, x, hx, rfl⟩, _, _, _, _, h5, h6⟩
    obtain rfl : b = v := Int.ofNat.inj h6
    exact ⟨x, hx, (Int.ofNat.inj h5).symm⟩
  · rintro ⟨x, hx, rfl⟩
    have hb := hg.src_lt (Graph.HasArc.of_mem hx)
    exact ⟨_, ⟨b, hb, x, hx, rfl⟩, Int.natCast_nonneg _, Int.ofNat_lt.2 (hg.bound b x hx), Int.natCast_nonneg _,
      Int.ofNat_lt.2 hb, rfl, rfl⟩

theorem buildDirected_dwf (n : Nat) (es : List EdgeIn) :
    (buildDirected n es).DWF ∧ ((∀ e ∈ es, 0 ≤ e.w) → (buildDirected n es).NonNeg) := by
  refine ⟨fun u x hx => ?_, fun hw u x hx => ?_⟩ <;>
    obtain ⟨e, he, _, ⟨rfl, rfl⟩ | ⟨hk, _⟩⟩ := (mem_adj_theGraph .directed n es u x).1 hx
  · exact ⟨rfl, rfl⟩
  · exact Bool.noConfusion hk
  · exact hw e he
  · exact Bool.noConfusion hk

theorem buildDirected_hasEdge (n : Nat) (es : List EdgeIn) (a b : Nat) (e : Edge) :
    (buildDirected n es).HasEdge a b e ↔
      ∃ x ∈ es, 0 ≤ x.u ∧ x.u < (n : Int) ∧ 0 ≤ x.v ∧ x.v < (n : Int) ∧
        (a : Int) = x.u ∧ (b : Int) = x.v ∧ e = ⟨a, b, x.w⟩ := by
  unfold Graph.HasEdge
  rw [show buildDirected n es = theGraph .directed n es from rfl, mem_adj_theGraph]
  refine exists_congr fun x => and_congr_right fun _ => ⟨?_, ?_⟩
  · rintro ⟨hv, ⟨rfl, h⟩ | ⟨hk, _⟩⟩
    · obtain ⟨h1, h2, h3, h4⟩ := validE_nonneg hv
      cases h
      exact ⟨h1, h2, h3, h4, Int.toNat_of_nonneg h1, Int.toNat_of_nonneg h3, rfl⟩
    · exact Bool.noConfusion hk
  · rintro ⟨h1, h2, h3, h4, h5, h6, rfl⟩
    obtain rfl : x.u.toNat = a := by rw [← h5, Int.toNat_natCast]
    obtain rfl : x.v.toNat = b := by rw [← h6, Int.toNat_natCast]
    exact ⟨by simp [validE, *], .inl ⟨rfl, rfl⟩⟩

theorem buildUndirected_uwf (n : Nat) (es : List EdgeIn) : (buildUndirected n es).UWF := by
  intro u x hx
  obtain ⟨e, _, _, ⟨rfl, rfl⟩ | ⟨_, rfl, rfl⟩⟩ := (mem_adj_theGraph .undirected n es u x).1 hx
  · exact .inl ⟨rfl, rfl⟩
  · exact .inr ⟨rfl, rfl⟩

theorem buildUndirected_ustored (n : Nat) (es : List EdgeIn) : (buildUndirected n es).UStored := by
  intro u x hx
  obtain ⟨e, he, hv, h⟩ := (mem_adj_theGraph .undirected n es u x).1 hx
  -- whichever of its two entries `x` is, the edge of the call sits in both
  have hst : (buildUndirected n es).StoredEdge ⟨e.u.toNat, e.v.toNat, e.w⟩ :=
    ⟨(mem_adj_theGraph .undirected n es _ _).2 ⟨e, he, hv, .inl ⟨rfl, rfl⟩⟩,
     (mem_adj_theGraph .undirected n es _ _).2 ⟨e, he, hv, .inr ⟨rfl, rfl, rfl⟩⟩⟩
  rcases h with ⟨_, rfl⟩ | ⟨_, _, rfl⟩ <;> exact hst

end AlgoVerif.C14
