import AlgoVerif.Proofs.C08Cycles
/-!
# Extension of a grammar by definitions (what TERM and BIN share)

Both transformations rebuild the grammar production by production while drawing fresh names, each of which stands for
one string of symbols of the input `g` (`defs`; TERM: `aₙ` for `a`, BIN: `Aᵢ` for `Xᵢ₊₁ … Xₙ`).

* Soundness side: `Folded g g' defs` — every production of `g'`, with the names in its body unfolded (`DefStands`, an
  expansion relation for `Derives.expands`), is a production of `g` or one of the definitions.  Then `L(g') ⊆ L(g)`,
  `g'` is well-formed, and a start symbol that occurs in no body still occurs in none.  The two transformations
  differ only in how a body folds.  The other transformations that draw fresh names read them through a relation of
  the same kind: `Stands` (`Proofs/C08LeftFactorLang.lean`; a name for any of several strings, so `Factoring` is
  `Folded` without uniqueness of the unfolding) and `ImmStands` (`Proofs/C08LeftRecImm.lean`; `A′` for any `α₁ … αₖ`).
* Completeness side: `Covers g' A β` — `A` has a production in `g'` and `A ⇒* β` there; kept when productions are
  added, so a loop that covers the element it serves covers all of them at the end (`foldlM_all`).  With every
  production of `g` covered the languages are equal, and with every name having a production `g'` is valid.
-/
namespace AlgoVerif.Gram
variable {T N : Type}

namespace Expands
variable {R : Sym T N → List (Sym T N) → Prop}

theorem of_mem {α β s} (h : Expands R α β) (hs : s ∈ α) : ∃ x, R s x ∧ ∀ y ∈ x, y ∈ β := by
  induction h with
  | nil => cases hs
  | cons hr _ ih =>
    rcases List.mem_cons.1 hs with rfl | hs
    · exact ⟨_, hr, fun y hy => List.mem_append_left _ hy⟩
    · obtain ⟨x, hx, hsub⟩ := ih hs
      exact ⟨x, hx, fun y hy => List.mem_append_right _ (hsub y hy)⟩

theorem unique {α β β'} (h : Expands R α β) (h' : Expands R α β')
    (hR : ∀ s ∈ α, ∀ x y, R s x → R s y → x = y) : β = β' := by
  induction h generalizing β' with
  | nil => cases h'; rfl
  | cons hr _ ih =>
    cases h' with
    | cons hr' h' =>
      rw [hR _ (List.mem_cons_self ..) _ _ hr hr', ih h' fun s hs => hR s (List.mem_cons_of_mem _ hs)]

end Expands
end AlgoVerif.Gram

namespace AlgoVerif.C08
open AlgoVerif AlgoVerif.Gram AlgoVerif.C08.Spec

abbrev Defs := List (String × List SSym)

theorem forall_mem_snoc {α : Type} {p : α → Prop} {l : List α} {a : α} (h : ∀ x ∈ l, p x) (ha : p a) :
    ∀ x ∈ l ++ [a], p x :=
  List.forall_mem_append.2 ⟨h, List.forall_mem_singleton.2 ha⟩

theorem inj_snoc {α κ : Type} (key : α → κ) {l : List α} {a : α}
    (h : ∀ d ∈ l, ∀ d' ∈ l, key d = key d' → d = d') (hn : ∀ d ∈ l, key d ≠ key a) :
    ∀ d ∈ l ++ [a], ∀ d' ∈ l ++ [a], key d = key d' → d = d' := by
  intro d hd d' hd' hdd
  rcases List.mem_append.1 hd with hd | hd <;> rcases List.mem_append.1 hd' with hd' | hd'
  · exact h d hd d' hd' hdd
  · cases List.mem_singleton.1 hd'; exact absurd hdd (hn d hd)
  · cases List.mem_singleton.1 hd; exact absurd hdd.symm (hn d' hd')
  · rw [List.mem_singleton.1 hd, List.mem_singleton.1 hd']

/-- what a symbol of a grammar that extends `g` by the definitions `defs` stands for in `g`: a defined name for its
string, a terminal or a non-terminal of `g` for itself -/
def DefStands (g : G) (defs : Defs) : SSym → List SSym → Prop
  | .term t, x => x = [.term t]
  | .nonterm n, x => (n ∈ g.nonterms ∧ x = [.nonterm n]) ∨ (n, x) ∈ defs

/-- `g'` is `g` extended by definitions: `defs` lists new names with the strings of symbols of `g` they stand for -/
structure Folded (g g' : G) (defs : Defs) : Prop where
  terms : g'.terms = g.terms
  start : g'.start = g.start
  nonterms : g'.nonterms = g.nonterms ++ defs.map (fun d => d.1)
  fresh : ∀ d ∈ defs, d.1 ∉ g.nonterms
  inj : ∀ d ∈ defs, ∀ d' ∈ defs, d.1 = d'.1 → d = d'
  old : ∀ d ∈ defs, ∀ s ∈ d.2, ∃ p ∈ g.prods, s ∈ p.body
  prods : ∀ p' ∈ g'.prods, ∃ β, Expands (DefStands g defs) p'.body β ∧
    ((⟨p'.head, β⟩ : SProd) ∈ g.prods ∨ (p'.head, β) ∈ defs)

theorem DefStands.of_decl {g : G} {defs : Defs} {s : SSym} (h : SymDeclared g s) : DefStands g defs s [s] := by
  cases s with
  | term t => rfl
  | nonterm n => exact Or.inl ⟨h, rfl⟩

theorem DefStands.refl_of {g : G} (hw : WellFormed g) (defs : Defs) {p : SProd} (hp : p ∈ g.prods) :
    Expands (DefStands g defs) p.body p.body :=
  Expands.refl_of fun s hs => DefStands.of_decl ((hw.2 p hp).2 s hs)

namespace Folded
variable {g g' : G} {defs : Defs}

theorem stands_old (h : Folded g g' defs) {n : String} (hn : n ∈ g.nonterms) {x : List SSym}
    (hx : DefStands g defs (.nonterm n) x) : x = [.nonterm n] := by
  rcases hx with ⟨_, rfl⟩ | hd
  · rfl
  · exact absurd hn (h.fresh _ hd)

theorem stands_unique (h : Folded g g' defs) (s : SSym) (x y : List SSym) (hx : DefStands g defs s x)
    (hy : DefStands g defs s y) : x = y := by
  cases s with
  | term t => exact hx.trans hy.symm
  | nonterm n =>
    rcases hx with ⟨hn, rfl⟩ | hx
    · exact (h.stands_old hn hy).symm
    · rcases hy with ⟨hn, rfl⟩ | hy
      · exact h.stands_old hn (Or.inr hx)
      · exact congrArg Prod.snd (h.inj _ hx _ hy rfl)

theorem sound (h : Folded g g' defs) (hw : WellFormed g) {w : List String} (hl : Language g' w) : Language g w := by
  refine Language.of_expands (DefStands g defs) (fun _ => rfl) (fun x hx => ?_) ?_ hl
  · rw [h.start] at hx
    exact h.stands_old hw.1 hx
  · intro p' hp' b hb
    obtain ⟨β, hβ, hst⟩ := h.prods p' hp'
    obtain rfl := hb.unique hβ fun s _ => h.stands_unique s
    rcases hst with hp | hd
    · exact ⟨_, Or.inl ⟨(hw.2 _ hp).1, rfl⟩, Derives.of_prod hp⟩
    · exact ⟨b, Or.inr hd, Derives.refl _⟩

theorem old_sub (h : Folded g g' defs) {n : String} (hn : n ∈ g.nonterms) : n ∈ g'.nonterms := by
  rw [h.nonterms]; exact List.mem_append_left _ hn

theorem new_sub (h : Folded g g' defs) {d : String × List SSym} (hd : d ∈ defs) : d.1 ∈ g'.nonterms := by
  rw [h.nonterms]; exact List.mem_append_right _ (List.mem_map.2 ⟨d, hd, rfl⟩)

theorem body_sym (h : Folded g g' defs) {p' : SProd} (hp' : p' ∈ g'.prods) {s : SSym} (hs : s ∈ p'.body) :
    (∃ d ∈ defs, s = .nonterm d.1) ∨ ∃ p ∈ g.prods, s ∈ p.body := by
  obtain ⟨β, hβ, hst⟩ := h.prods p' hp'
  obtain ⟨x, hx, hsub⟩ := hβ.of_mem hs
  have hβg : ∀ y ∈ β, ∃ p ∈ g.prods, y ∈ p.body := by
    rcases hst with hp | hd
    · exact fun y hy => ⟨_, hp, hy⟩
    · exact h.old _ hd
  cases s with
  | term t => exact Or.inr (hβg _ (hsub _ (by rw [show x = _ from hx]; simp)))
  | nonterm n =>
    rcases hx with ⟨_, rfl⟩ | hd
    · exact Or.inr (hβg _ (hsub _ (by simp)))
    · exact Or.inl ⟨_, hd, rfl⟩

theorem wf (h : Folded g g' defs) (hw : WellFormed g) : WellFormed g' := by
  refine ⟨h.start ▸ h.old_sub hw.1, fun p' hp' => ⟨?_, fun s hs => ?_⟩⟩
  · obtain ⟨β, _, hp | hd⟩ := h.prods p' hp'
    · exact h.old_sub (hw.2 _ hp).1
    · exact h.new_sub hd
  · rcases h.body_sym hp' hs with ⟨d, hd, rfl⟩ | ⟨p, hp, hsp⟩
    · exact h.new_sub hd
    · exact ((hw.2 p hp).2 s hsp).mono (fun _ ht => h.terms ▸ ht) fun _ => h.old_sub

theorem start_notin (h : Folded g g' defs) (hs : g.start ∈ g.nonterms)
    (hg : ∀ q ∈ g.prods, Sym.nonterm g.start ∉ q.body) : ∀ q ∈ g'.prods, Sym.nonterm g'.start ∉ q.body := by
  intro q hq hm
  rw [h.start] at hm
  rcases h.body_sym hq hm with ⟨d, hd, e⟩ | ⟨p, hp, hsp⟩
  · exact h.fresh d hd (Sym.nonterm.inj e ▸ hs)
  · exact hg p hp hsp

end Folded

def Covers (ng : G) (h : String) (β : List SSym) : Prop :=
  (∃ p' ∈ ng.prods, p'.head = h) ∧ Derives ng [Sym.nonterm h] β

theorem Covers.mono {ng ng' : G} (hp : ∀ p ∈ ng.prods, p ∈ ng'.prods) {h : String} {β : List SSym}
    (hc : Covers ng h β) : Covers ng' h β :=
  ⟨hc.1.imp fun _ hp' => ⟨hp _ hp'.1, hp'.2⟩, hc.2.mono hp⟩

theorem Covers.of_prod {ng : G} {p : SProd} (hp : p ∈ ng.prods) : Covers ng p.head p.body :=
  ⟨⟨p, hp, rfl⟩, Derives.of_prod hp⟩

theorem Folded.language {g g' : G} {defs : Defs} (h : Folded g g' defs) (hw : WellFormed g)
    (hc : ∀ p ∈ g.prods, Covers g' p.head p.body) (w : List String) : Language g' w ↔ Language g w :=
  ⟨h.sound hw, Language.of_derivable h.start fun p hp => (hc p hp).2⟩

theorem Folded.valid {g g' : G} {defs : Defs} (h : Folded g g' defs) (hv : Valid g)
    (hc : ∀ p ∈ g.prods, Covers g' p.head p.body) (hd : ∀ d ∈ defs, ∃ p' ∈ g'.prods, p'.head = d.1) : Valid g' := by
  have hwf := h.wf hv.wellFormed
  refine ⟨hwf.1, fun n hn => ?_, hwf.2⟩
  rw [h.nonterms] at hn
  rcases List.mem_append.1 hn with hn | hn
  · obtain ⟨p, hp, rfl⟩ := hv.2.1 n hn
    exact (hc p hp).1
  · obtain ⟨d, hd', rfl⟩ := List.mem_map.1 hn
    exact hd d hd'

theorem foldlM_all {σ β : Type} {f : σ → β → Outcome σ} {Inv : σ → Prop} {C : σ → β → Prop} {l : List β}
    (hstep : ∀ s b s', Inv s → b ∈ l → f s b = .ok s' → Inv s' ∧ (∀ b', C s b' → C s' b') ∧ C s' b)
    {s s' : σ} (hs : Inv s) (h : l.foldlM f s = .ok s') : Inv s' ∧ (∀ b', C s b' → C s' b') ∧ ∀ b ∈ l, C s' b := by
  have := Outcome.All.foldlM_prefix (P := fun pre t => Inv t ∧ (∀ b', C s b' → C t b') ∧ ∀ b ∈ pre, C t b) l [] s
    ⟨hs, fun _ hb => hb, fun _ hb => nomatch hb⟩
    (fun pre t b hb ⟨hi, hm, hc⟩ t' hf => by
      obtain ⟨hi', hm', hc'⟩ := hstep t b t' hi hb hf
      refine ⟨hi', fun b' hb' => hm' b' (hm b' hb'), fun b' hb' => ?_⟩
      rcases List.mem_append.1 hb' with hb' | hb'
      · exact hm' b' (hc b' hb')
      · rw [List.mem_singleton.1 hb']; exact hc') s' h
  simpa only [List.nil_append] using this

end AlgoVerif.C08
