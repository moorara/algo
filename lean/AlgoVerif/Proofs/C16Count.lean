import AlgoVerif.Spec.C16
/-!
# C16 helper lemmas: counting a list by the value of a bounded function; `stirling2 n k = 0` for `n < k`
-/
namespace AlgoVerif.C16
open AlgoVerif.C16.Spec

theorem sumTo_zero : ∀ N, sumTo (fun _ => 0) N = 0
  | 0 => rfl
  | N + 1 => by simp [sumTo, sumTo_zero N]

theorem sumTo_add (f g : Nat → Nat) : ∀ N, sumTo (fun k => f k + g k) N = sumTo f N + sumTo g N
  | 0 => rfl
  | N + 1 => by simp only [sumTo, sumTo_add f g N]; omega

theorem sumTo_indicator (v : Nat) : ∀ N, sumTo (fun k => if v = k then 1 else 0) N = if v < N then 1 else 0
  | 0 => by simp [sumTo]
  | N + 1 => by
    simp only [sumTo, sumTo_indicator v N]
    by_cases h : v = N
    · subst h; simp
    · have : v < N + 1 ↔ v < N := by omega
      simp [h, this]

theorem sumTo_congr {f g : Nat → Nat} : ∀ N, (∀ k, k < N → f k = g k) → sumTo f N = sumTo g N
  | 0, _ => rfl
  | N + 1, h => by
    simp only [sumTo]
    rw [sumTo_congr N (fun k hk => h k (by omega)), h N (by omega)]

theorem length_eq_sumTo {β : Type} (f : β → Nat) (N : Nat) : ∀ (l : List β), (∀ a ∈ l, f a < N) →
    l.length = sumTo (fun k => l.countP (fun a => f a == k)) N
  | [], _ => by simp [sumTo_zero]
  | a :: l, h => by
    have ih := length_eq_sumTo f N l (fun b hb => h b (List.mem_cons_of_mem _ hb))
    have hc : ∀ k, (a :: l).countP (fun a => f a == k) =
        l.countP (fun a => f a == k) + (if f a = k then 1 else 0) := by
      intro k
      rw [List.countP_cons]
      simp
    simp only [hc, sumTo_add, sumTo_indicator, h a (List.mem_cons_self ..), ↓reduceIte, List.length_cons]
    omega

theorem countP_const {β : Type} (f : β → Nat) (m k : Nat) : ∀ (l : List β), (∀ a ∈ l, f a = m) →
    l.countP (fun a => f a == k) = if m = k then l.length else 0
  | [], _ => by simp
  | a :: l, h => by
    have ih := countP_const f m k l (fun b hb => h b (List.mem_cons_of_mem _ hb))
    rw [List.countP_cons, ih, h a (List.mem_cons_self ..)]
    by_cases hmk : m = k <;> simp [hmk]

theorem stirling2_eq_zero : ∀ {n k : Nat}, n < k → stirling2 n k = 0
  | _, 0, h => absurd h (Nat.not_lt_zero _)
  | 0, _ + 1, _ => rfl
  | n + 1, k + 1, h => by
    simp [stirling2, stirling2_eq_zero (n := n) (k := k) (by omega), stirling2_eq_zero (n := n) (k := k + 1) (by omega)]

end AlgoVerif.C16
