import AlgoVerif.Proofs.C10First
/-! `ComputeFOLLOW`: the table it returns is the least family closed under the FOLLOW rules (relative
to the FIRST function it is given), for every iteration order; when that FIRST function is exact and
every production head is reachable, this least family is "what can follow A in a sentential form".
The body loop is a fold over the occurrences `… B β` of the body (`followBody_eq_foldl`); honesty, soundness
and progress are statements about one occurrence (`followOcc`), i.e. about one or two `addTo`. -/
set_option linter.unusedSectionVars false
namespace AlgoVerif.C10
open AlgoVerif AlgoVerif.Gram
variable {T N : Type} [DecidableEq T] [DecidableEq N]
variable {g : Grammar T N} {Fo : N → T → Prop} {En : N → Prop} {first : List (Sym T N) → TE T}

/-- `FS β a` / `ES β` say `a ∈ FIRST(β)` / `ε ∈ FIRST(β)` -/
def FollowClosed (g : Grammar T N) (FS : List (Sym T N) → T → Prop) (ES : List (Sym T N) → Prop)
    (Fo : N → T → Prop) (En : N → Prop) : Prop :=
  En g.start ∧
  ∀ p, p ∈ g.prods → ∀ (α : List (Sym T N)) (B : N) (β : List (Sym T N)),
    p.body = α ++ Sym.nonterm B :: β →
      (∀ a, FS β a → Fo B a) ∧ (ES β → (∀ a, Fo p.head a → Fo B a) ∧ (En p.head → En B))

theorem spec_first_unfold {p : GProd T N} (hp : p ∈ g.prods) (x v : List (Sym T N))
    {a : T} (h : Spec.First g (x ++ (p.body ++ v)) a) : Spec.First g (x ++ Sym.nonterm p.head :: v) a := by
  obtain ⟨β, hβ⟩ := h
  exact ⟨β, (Derives.of_prod_in hp x v).trans hβ⟩

theorem spec_follow_least_aux (hc : FollowClosed g (Spec.First g) (Spec.Eps g) Fo En) {γ : List (Sym T N)}
    (h : Derives g [Sym.nonterm g.start] γ) :
    ∀ (l : List (Sym T N)) (B : N) (ρ : List (Sym T N)), γ = l ++ Sym.nonterm B :: ρ →
      (∀ a, Spec.First g ρ a → Fo B a) ∧ (Spec.Eps g ρ → En B) := by
  induction h with
  | refl =>
    intro l B ρ e
    cases l with
    | nil =>
      simp at e
      obtain ⟨e1, e2⟩ := e
      subst e1; subst e2
      refine ⟨?_, fun _ => hc.1⟩
      intro a ⟨β, hβ⟩
      have := (Derives.of_terms (w := []) hβ)
      simp at this
    | cons c l => simp at e
  | @tail γ₀ γ₁ _ st ih =>
    intro l B ρ e
    obtain ⟨u, v, p, hp, hx, hy⟩ := step_iff.1 st
    subst hx; subst hy
    rw [List.append_assoc] at e
    rcases append_eq_split e with ⟨u₂, hu, hρ⟩ | ⟨y₁, hl, hy⟩
    · -- B sits in u: the old occurrence, the rest got rewritten
      subst hu; subst hρ
      obtain ⟨i1, i2⟩ := ih l B (u₂ ++ Sym.nonterm p.head :: v) (by simp only [List.append_assoc, List.cons_append, List.nil_append])
      exact ⟨fun a ha => i1 a (spec_first_unfold hp u₂ v ha), fun ha => i2 ((Derives.of_prod_in hp u₂ v).trans ha)⟩
    · rcases append_eq_split hy with ⟨b₂, hb, hρ⟩ | ⟨v₁, hy1, hv⟩
      · -- B sits in the body of the production just applied
        subst hρ
        obtain ⟨c1, c2⟩ := hc.2 p hp y₁ B b₂ hb
        obtain ⟨i1, i2⟩ := ih u p.head v (by simp only [List.append_assoc, List.cons_append, List.nil_append])
        constructor
        · intro a ⟨β, hβ⟩
          obtain ⟨γ₁, γ₂, hγ, d₁, d₂⟩ := Derives.split hβ
          cases γ₁ with
          | nil =>
            simp at hγ; subst hγ
            exact (c2 d₁).1 a (i1 a ⟨β, d₂⟩)
          | cons c γ₁' =>
            simp at hγ
            obtain ⟨hc1, _⟩ := hγ
            subst hc1
            exact c1 a ⟨γ₁', d₁⟩
        · intro ha
          obtain ⟨γ₁, γ₂, hγ, d₁, d₂⟩ := Derives.split ha
          obtain ⟨h1, h2⟩ := List.append_eq_nil_iff.1 hγ.symm
          subst h1; subst h2
          exact (c2 d₁).2 (i2 d₂)
      · -- B sits in v: untouched
        subst hv
        exact ih (u ++ [Sym.nonterm p.head] ++ v₁) B ρ (by simp only [List.append_assoc, List.cons_append, List.nil_append])

theorem spec_follow_least (hc : FollowClosed g (Spec.First g) (Spec.Eps g) Fo En) (A : N) :
    (∀ a, Spec.Follow g A a → Fo A a) ∧ (Spec.FollowEnd g A → En A) := by
  constructor
  · intro a ⟨α, β, h⟩
    have := (spec_follow_least_aux hc h α A (Sym.term a :: β) (by simp)).1 a
    exact this ⟨β, Derives.refl _⟩
  · intro ⟨α, h⟩
    exact (spec_follow_least_aux hc h α A [] rfl).2 (Derives.refl _)

theorem derives_occ {p : GProd T N} (hp : p ∈ g.prods) {α β β' : List (Sym T N)} {B : N}
    (hb : p.body = α ++ Sym.nonterm B :: β) (hβ : Derives g β β') (x y : List (Sym T N)) :
    Derives g (x ++ [Sym.nonterm p.head] ++ y) (x ++ α ++ [Sym.nonterm B] ++ (β' ++ y)) := by
  have h1 := Derives.single (Step.mk (g := g) x y p hp)
  have h2 := (hβ.append_left (x ++ α ++ [Sym.nonterm B])).append_right y
  rw [hb] at h1
  refine h1.trans ?_
  simpa only [List.append_assoc, List.cons_append, List.nil_append] using h2

theorem spec_follow_closed
    (hreach : ∀ p, p ∈ g.prods → ∃ x y, Derives g [Sym.nonterm g.start] (x ++ [Sym.nonterm p.head] ++ y)) :
    FollowClosed g (Spec.First g) (Spec.Eps g) (Spec.Follow g) (Spec.FollowEnd g) := by
  refine ⟨⟨[], Derives.refl _⟩, fun p hp α B β hb => ⟨?_, fun hε => ⟨?_, ?_⟩⟩⟩
  · rintro a ⟨β', hβ'⟩
    obtain ⟨x, y, hxy⟩ := hreach p hp
    refine ⟨x ++ α, β' ++ y, ?_⟩
    simpa only [List.append_assoc, List.cons_append, List.nil_append] using
      hxy.trans (derives_occ hp hb hβ' x y)
  · rintro a ⟨x, y, hxy⟩
    refine ⟨x ++ α, y, ?_⟩
    have h0 : Derives g [Sym.nonterm g.start] (x ++ [Sym.nonterm p.head] ++ Sym.term a :: y) := by
      simpa only [List.append_assoc, List.cons_append, List.nil_append] using hxy
    simpa only [List.append_assoc, List.cons_append, List.nil_append] using
      h0.trans (derives_occ hp hb hε x (Sym.term a :: y))
  · rintro ⟨x, hx⟩
    refine ⟨x ++ α, ?_⟩
    have h0 : Derives g [Sym.nonterm g.start] (x ++ [Sym.nonterm p.head] ++ []) := by
      rwa [List.append_nil]
    simpa only [List.append_assoc, List.cons_append, List.nil_append, List.append_nil] using
      h0.trans (derives_occ hp hb hε x [])

theorem followLoop_eq_gen (g : Grammar T N) (o : IterOrder T N) (first : List (Sym T N) → TE T)
    (fuel i : Nat) (fo : N → TEnd T) :
    followLoop g o first fuel i fo =
      genLoop (fun i fo => followPass first (passProds g o i) (fo, false)) fuel i fo := by
  induction fuel generalizing i fo with
  | zero => rfl
  | succ fuel ih => simp only [followLoop, genLoop, ih]

/-- the one update `followBody` makes (twice per occurrence) -/
def addTo (B : N) (extra : List T) (e : Bool) (s : (N → TEnd T) × Bool) : (N → TEnd T) × Bool :=
  (upd s.1 B ⟨union (s.1 B).terms extra, (s.1 B).endm || e⟩,
   (s.2 || decide ((union (s.1 B).terms extra).length > (s.1 B).terms.length)) || (e && !(s.1 B).endm))

/-- a FOLLOW table read as a FIRST table, the flag being the endmarker: `addTo` is then `addF` (`asTE_addTo`), and
what holds of updates of FIRST tables (`addF_honest`, `Below.addF`, `addF_prog`) holds of `addTo`.  The sets a FOLLOW
table stands for are `Fst (asTE fo)` and `Est (asTE fo)`. -/
def asTE (fo : N → TEnd T) : N → TE T := fun n => ⟨(fo n).terms, (fo n).endm⟩

theorem asTE_inj {fo fo' : N → TEnd T} (h : asTE fo = asTE fo') : fo = fo' := by
  funext n
  have := congrFun h n
  cases hn : fo n
  cases hn' : fo' n
  simpa [asTE, hn, hn'] using this

theorem asTE_addTo (B : N) (extra : List T) (e : Bool) (s : (N → TEnd T) × Bool) :
    asTE (addTo B extra e s).1 = (addF B ⟨extra, e⟩ (asTE s.1, s.2)).1 := by
  funext n
  unfold asTE addTo addF upd
  dsimp only
  split <;> rfl

theorem addTo_honest (B : N) (extra : List T) (e : Bool) :
    Honest (addTo B extra e) fun fo =>
      (∀ a, a ∈ extra → a ∈ (fo B).terms) ∧ (e = true → (fo B).endm = true) := by
  intro s h
  obtain ⟨h1, h2, h3⟩ := addF_honest B (fun _ => ⟨extra, e⟩) (asTE s.1, s.2) h
  exact ⟨h1, asTE_inj ((asTE_addTo ..).trans h2), h3⟩

def occs : List (Sym T N) → List (N × List (Sym T N))
  | [] => []
  | .term _ :: β => occs β
  | .nonterm B :: β => (B, β) :: occs β

theorem mem_occs {body : List (Sym T N)} {B : N} {β : List (Sym T N)} :
    (B, β) ∈ occs body ↔ Sym.nonterm B :: β <:+ body := by
  induction body with
  | nil => simp [occs]
  | cons s rest ih =>
    rw [List.suffix_cons_iff, ← ih]
    cases s <;> simp [occs]

/-- what `followBody` does for one occurrence `… B β` in a production of `A`; the second update reads
`FOLLOW(A)` from the table the first one left (so `A = B` sees it) -/
def followOcc (first : List (Sym T N) → TE T) (A : N) (s : (N → TEnd T) × Bool) (x : N × List (Sym T N)) :
    (N → TEnd T) × Bool :=
  let s1 := addTo x.1 (first x.2).terms false s
  if (first x.2).eps then addTo x.1 (s1.1 A).terms (s1.1 A).endm s1 else s1

theorem followBody_eq_foldl (first : List (Sym T N) → TE T) (A : N) (body : List (Sym T N))
    (s : (N → TEnd T) × Bool) :
    followBody first A body s.1 s.2 = (occs body).foldl (followOcc first A) s := by
  induction body generalizing s with
  | nil => rfl
  | cons x rest ih =>
    cases x with
    | term t => exact ih s
    | nonterm B =>
      rw [occs, List.foldl_cons, ← ih]
      simp only [followBody, followOcc, addTo, upd_same, Bool.or_false, Bool.false_and]
      split <;> rfl

theorem followPass_eq_foldl (first : List (Sym T N) → TE T) (ps : List (GProd T N)) (s : (N → TEnd T) × Bool) :
    followPass first ps s = ps.foldl (fun s p => (occs p.body).foldl (followOcc first p.head) s) s := by
  induction ps generalizing s with
  | nil => rfl
  | cons p ps ih => rw [List.foldl_cons, ← ih, ← followBody_eq_foldl]; rfl

/-- what one occurrence `… B β` in a production of `A` asks of the table -/
def OccOK (first : List (Sym T N) → TE T) (fo : N → TEnd T) (A B : N) (β : List (Sym T N)) : Prop :=
  (∀ a, a ∈ (first β).terms → a ∈ (fo B).terms) ∧
  ((first β).eps = true → (∀ a, a ∈ (fo A).terms → a ∈ (fo B).terms) ∧ ((fo A).endm = true → (fo B).endm = true))

theorem followOcc_honest (first : List (Sym T N) → TE T) (A : N) (x : N × List (Sym T N)) :
    Honest (fun s => followOcc first A s x) fun fo => OccOK first fo A x.1 x.2 := by
  intro s h
  unfold followOcc at h ⊢
  dsimp only at h ⊢
  -- the flag was down after each update, so each left the table as it was
  by_cases he : (first x.2).eps = true
  · rw [if_pos he] at h ⊢
    obtain ⟨k1, k2, k3⟩ := addTo_honest _ _ _ _ h
    obtain ⟨l1, l2, l3⟩ := addTo_honest _ _ _ _ k1
    rw [l2] at k3
    exact ⟨l1, k2.trans l2, l3.1, fun _ => k3⟩
  · rw [if_neg he] at h ⊢
    obtain ⟨l1, l2, l3⟩ := addTo_honest _ _ _ _ h
    exact ⟨l1, l2, l3.1, fun h => absurd h he⟩

abbrev BelowFo (fo : N → TEnd T) (Fo : N → T → Prop) (En : N → Prop) : Prop := Below (asTE fo) Fo En

theorem BelowFo.addTo {s : (N → TEnd T) × Bool} (hb : BelowFo s.1 Fo En)
    {B : N} {extra : List T} {e : Bool} (h1 : ∀ a, a ∈ extra → Fo B a) (h2 : e = true → En B) :
    BelowFo (C10.addTo B extra e s).1 Fo En := by
  unfold BelowFo
  rw [asTE_addTo]
  exact Below.addF (s := (asTE s.1, s.2)) hb h1 h2

theorem followOcc_sound {A : N} {x : N × List (Sym T N)} {s : (N → TEnd T) × Bool} (hb : BelowFo s.1 Fo En)
    (o1 : ∀ a, a ∈ (first x.2).terms → Fo x.1 a)
    (o2 : (first x.2).eps = true → (∀ a, Fo A a → Fo x.1 a) ∧ (En A → En x.1)) :
    BelowFo (followOcc first A s x).1 Fo En := by
  have hb1 : BelowFo (addTo x.1 (first x.2).terms false s).1 Fo En := hb.addTo o1 (fun h => nomatch h)
  unfold followOcc
  split
  · rename_i he
    exact hb1.addTo (fun a ha => (o2 he).1 a (hb1.1 A a ha)) fun h => (o2 he).2 (hb1.2 A h)
  · exact hb1

section
variable {g : Grammar T N} {first : List (Sym T N) → TE T}
  {FS : List (Sym T N) → T → Prop} {ES : List (Sym T N) → Prop}
  (hF : ∀ β a, a ∈ (first β).terms → FS β a) (hE : ∀ β, (first β).eps = true → ES β)
  {Fo : N → T → Prop} {En : N → Prop} (hc : FollowClosed g FS ES Fo En)
include hF hE hc

theorem followPass_sound {ps : List (GProd T N)} (hps : ∀ p, p ∈ ps → p ∈ g.prods)
    {s : (N → TEnd T) × Bool} (hb : BelowFo s.1 Fo En) : BelowFo (followPass first ps s).1 Fo En := by
  rw [followPass_eq_foldl]
  refine List.foldlRecOn _ _ (motive := fun s : (N → TEnd T) × Bool => BelowFo s.1 Fo En) hb fun s hs p hp => ?_
  refine List.foldlRecOn _ _ (motive := fun s : (N → TEnd T) × Bool => BelowFo s.1 Fo En) hs fun s hs x hx => ?_
  obtain ⟨α, e⟩ := mem_occs.1 hx
  obtain ⟨c1, c2⟩ := hc.2 p (hps p hp) α x.1 x.2 e.symm
  exact followOcc_sound hs (fun a ha => c1 a (hF _ a ha)) fun he => c2 (hE _ he)

end

def followView (fo : N → TEnd T) : (N × T) ⊕ N → Bool := firstView (asTE fo)

theorem addTo_prog (B : N) (extra : List T) (e : Bool) (s : (N → TEnd T) × Bool) :
    Prog followView s (addTo B extra e s) := by
  have h : Prog firstView (asTE s.1, s.2) ((addF B ⟨extra, e⟩ (asTE s.1, s.2)).1, (addTo B extra e s).2) :=
    addF_prog ..
  rw [← asTE_addTo] at h
  exact ⟨h.mono, h.flag⟩

theorem followOcc_prog (first : List (Sym T N) → TE T) (A : N) (x : N × List (Sym T N))
    (s : (N → TEnd T) × Bool) : Prog followView s (followOcc first A s x) := by
  have step1 := addTo_prog x.1 (first x.2).terms false s
  unfold followOcc
  split
  · exact step1.trans (addTo_prog ..)
  · exact step1

theorem followPass_prog (first : List (Sym T N) → TE T) (ps : List (GProd T N)) (s : (N → TEnd T) × Bool) :
    Prog followView s (followPass first ps s) := by
  rw [followPass_eq_foldl]
  exact Prog.foldl (fun p _ t => Prog.foldl (fun x _ t => followOcc_prog first p.head x t) t) s

theorem computeFollow_closed {o : IterOrder T N} (ho : o.Fair)
    {FS : List (Sym T N) → T → Prop} {ES : List (Sym T N) → Prop}
    (hF : ∀ β a, FS β a → a ∈ (first β).terms) (hE : ∀ β, ES β → (first β).eps = true)
    {R : N → TEnd T} (h : computeFollow g o first = .ok R) :
    FollowClosed g FS ES (Fst (asTE R)) (Est (asTE R)) := by
  rw [computeFollow, followLoop_eq_gen] at h
  constructor
  · -- the endmarker stays in FOLLOW(S): a pass loses nothing
    exact genLoop_inv (P := fun fo => (fo g.start).endm = true)
      (fun i fo => (followPass_prog first _ (fo, false)).mono (.inr g.start)) _ _ _ _ (decide_eq_true rfl) h
  · obtain ⟨j, fo, hj⟩ := genLoop_last _ _ _ _ h
    obtain ⟨_, hs, hq⟩ := Honest.of_foldl (followPass_eq_foldl first _)
      (fun p _ => Honest.of_foldl (fun _ => rfl) fun x _ => followOcc_honest first p.head x)
      (fo, false) (congrArg Prod.snd hj)
    cases hs.symm.trans (congrArg Prod.fst hj)
    intro p hp α B β e
    obtain ⟨o1, o2⟩ := hq p ((mem_passProds_iff ho j).2 hp) (B, β) (mem_occs.2 ⟨α, e.symm⟩)
    exact ⟨fun a ha => o1 a (hF β a ha), fun he => o2 (hE β he)⟩

theorem computeFollow_least {o : IterOrder T N} (ho : o.Fair)
    {FS : List (Sym T N) → T → Prop} {ES : List (Sym T N) → Prop}
    (hF : ∀ β a, a ∈ (first β).terms → FS β a) (hE : ∀ β, (first β).eps = true → ES β)
    (hc : FollowClosed g FS ES Fo En)
    {R : N → TEnd T} (h : computeFollow g o first = .ok R) : BelowFo R Fo En := by
  rw [computeFollow, followLoop_eq_gen] at h
  have h0 : BelowFo (followInit g) Fo En :=
    ⟨fun _ _ ha => (List.not_mem_nil ha).elim, fun n hn => of_decide_eq_true hn ▸ hc.1⟩
  refine genLoop_inv (P := fun fo => BelowFo fo Fo En) (fun i fo hb => ?_) _ _ _ _ h0 h
  exact followPass_sound (s := (fo, false)) hF hE hc (fun p hp => (mem_passProds_iff ho i).1 hp) hb

end AlgoVerif.C10
