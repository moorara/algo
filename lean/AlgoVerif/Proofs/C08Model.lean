import AlgoVerif.Proofs.Outcome
import AlgoVerif.Proofs.C08Lang
import AlgoVerif.Spec.C09
/-!
# Facts about the Model of the CFG transformations (`Model/C08.lean`) used by the C08 and C09 theorems
-/
namespace AlgoVerif.C08
open AlgoVerif AlgoVerif.Gram

theorem mem_ins {α : Type} [DecidableEq α] {l : List α} {x y : α} : y ∈ ins l x ↔ y ∈ l ∨ y = x := by
  unfold ins
  split
  · constructor
    · exact Or.inl
    · rintro (h | rfl) <;> assumption
  · simp

theorem mem_foldl_iff {α β : Type} {F : List α → β → List α} {S : β → α → Prop}
    (hF : ∀ acc b x, x ∈ F acc b ↔ x ∈ acc ∨ S b x) (l : List β) (acc : List α) (x : α) :
    x ∈ l.foldl F acc ↔ x ∈ acc ∨ ∃ b ∈ l, S b x := by
  induction l generalizing acc with
  | nil => simp
  | cons b l ih => simp [ih, hF, or_assoc]

theorem mem_insAll {α : Type} [DecidableEq α] {xs l : List α} {y : α} : y ∈ insAll l xs ↔ y ∈ l ∨ y ∈ xs :=
  (mem_foldl_iff (S := fun x y => y = x) (fun _ _ _ => mem_ins) xs l y).trans (by simp)

theorem ins_prefix {α : Type} [DecidableEq α] (l : List α) (x : α) : l <+: ins l x := by
  unfold ins
  split
  · exact List.prefix_refl _
  · exact List.prefix_append _ _

theorem insAll_prefix {α : Type} [DecidableEq α] (xs l : List α) : l <+: insAll l xs := by
  unfold insAll
  induction xs generalizing l with
  | nil => exact List.prefix_refl _
  | cons x xs ih => exact (ins_prefix l x).trans (ih _)

theorem ins_nodup {α : Type} [DecidableEq α] {l : List α} (h : l.Nodup) (x : α) : (ins l x).Nodup := by
  unfold ins
  split
  · exact h
  · rename_i hx
    exact List.nodup_append.mpr ⟨h, by simp, by
      intro a ha b hb
      simp at hb
      subst hb
      exact fun e => hx (e ▸ ha)⟩

theorem insAll_nodup {α : Type} [DecidableEq α] {l : List α} (h : l.Nodup) (xs : List α) : (insAll l xs).Nodup := by
  unfold insAll
  induction xs generalizing l with
  | nil => exact h
  | cons x xs ih => exact ih (ins_nodup h x)

theorem insertBy_perm {α : Type} (lt : α → α → Bool) (x : α) : ∀ l : List α, (insertBy lt x l).Perm (x :: l)
  | [] => .refl _
  | y :: l => by
    simp only [insertBy]
    split
    · exact .refl _
    · exact ((insertBy_perm lt x l).cons y).trans (.swap x y l)

theorem sortBy_perm {α : Type} (lt : α → α → Bool) (l : List α) : (sortBy lt l).Perm l := by
  have key : ∀ (l acc : List α), (l.foldl (fun acc x => insertBy lt x acc) acc).Perm (acc ++ l) := by
    intro l
    induction l with
    | nil => intro acc; simp
    | cons x l ih =>
      intro acc
      exact (ih _).trans (((insertBy_perm lt x acc).append_right l).trans List.perm_middle.symm)
  simpa [sortBy] using key l []

theorem mem_insertBy {α : Type} (lt : α → α → Bool) (x y : α) (l : List α) : y ∈ insertBy lt x l ↔ y = x ∨ y ∈ l :=
  (insertBy_perm lt x l).mem_iff.trans List.mem_cons

theorem mem_sortBy {α : Type} (lt : α → α → Bool) (l : List α) (y : α) : y ∈ sortBy lt l ↔ y ∈ l :=
  (sortBy_perm lt l).mem_iff

theorem nodup_insertBy {α : Type} (lt : α → α → Bool) (x : α) : ∀ l : List α, l.Nodup → x ∉ l →
    (insertBy lt x l).Nodup :=
  fun l h hx => (insertBy_perm lt x l).nodup_iff.2 (List.nodup_cons.2 ⟨hx, h⟩)

theorem nodup_sortBy {α : Type} (lt : α → α → Bool) (l : List α) (h : l.Nodup) : (sortBy lt l).Nodup :=
  (sortBy_perm lt l).nodup_iff.2 h

theorem foldl_prefix {α β : Type} (f : List α → β → List α) (hf : ∀ l b, l <+: f l b) (bs : List β) (l : List α) :
    l <+: bs.foldl f l := by
  induction bs generalizing l with
  | nil => exact List.prefix_refl _
  | cons b bs ih => exact (hf l b).trans (ih _)

theorem mem_foldl_of_step {α β : Type} (f : List α → β → List α) (hf : ∀ l b, l <+: f l b)
    {x : α} {b : β} : ∀ (bs : List β), b ∈ bs → (∀ a, x ∈ f a b) → ∀ a0, x ∈ bs.foldl f a0 := by
  intro bs
  induction bs with
  | nil => intro hb; cases hb
  | cons c bs ih =>
    intro hb hx a0
    simp only [List.foldl_cons]
    rcases List.mem_cons.mp hb with rfl | hb
    · exact (foldl_prefix f hf bs _).subset (hx a0)
    · exact ih hb hx _

theorem foldl_fix_of_prefix {α β : Type} (f : List α → β → List α) (hf : ∀ l b, l <+: f l b) :
    ∀ (bs : List β) (l : List α), bs.foldl f l = l → ∀ b ∈ bs, f l b = l := by
  intro bs
  induction bs with
  | nil => intro l _ b hb; cases hb
  | cons b bs ih =>
    intro l h c hc
    have h1 : l <+: f l b := hf l b
    have h2 : f l b <+: bs.foldl f (f l b) := foldl_prefix f hf bs _
    simp only [List.foldl_cons] at h
    rw [h] at h2
    have hlen : (f l b).length = l.length := Nat.le_antisymm h2.length_le h1.length_le
    have hb : f l b = l := (h1.eq_of_length hlen.symm).symm
    rcases List.mem_cons.mp hc with rfl | hc
    · exact hb
    · rw [hb] at h
      exact ih l h c hc

theorem iterFix_fix {α : Type} [DecidableEq α] (f : α → α) : ∀ (n : Nat) (x y : α), iterFix f n x = some y → f y = y := by
  intro n
  induction n with
  | zero => intro x y h; simp [iterFix] at h
  | succ n ih =>
    intro x y h
    simp only [iterFix] at h
    split at h
    · cases h; assumption
    · exact ih _ _ h

theorem iterFix_inv {α : Type} [DecidableEq α] (f : α → α) (P : α → Prop) (hP : ∀ a, P a → P (f a)) :
    ∀ (n : Nat) (x y : α), P x → iterFix f n x = some y → P y := by
  intro n
  induction n with
  | zero => intro x y _ h; simp [iterFix] at h
  | succ n ih =>
    intro x y hx h
    simp only [iterFix] at h
    split at h
    · cases h; exact hx
    · exact ih _ _ (hP _ hx) h

theorem ofOpt_ok {α : Type} {o : Option α} {a : α} (h : ofOpt o = .ok a) : o = some a := by
  cases o <;> simp [ofOpt] at h
  exact h ▸ rfl

theorem Spec.SymDeclared.mono {g g' : G} (ht : ∀ t ∈ g.terms, t ∈ g'.terms) (hn : ∀ n ∈ g.nonterms, n ∈ g'.nonterms)
    {s : SSym} (h : SymDeclared g s) : SymDeclared g' s := by
  cases s with
  | term t => exact ht t h
  | nonterm n => exact hn n h

theorem prod_eq {p : SProd} {A : String} {b : List SSym} (hh : p.head = A) (hb : p.body = b) : p = ⟨A, b⟩ := by
  cases p
  cases hh
  cases hb
  rfl

theorem mem_bodyNTs {b : List SSym} {n : String} : n ∈ bodyNTs b ↔ Sym.nonterm n ∈ b := by
  refine List.mem_filterMap.trans ⟨?_, fun h => ⟨_, h, rfl⟩⟩
  rintro ⟨s, hs, h⟩
  cases s with
  | term t => cases h
  | nonterm m => cases h; exact hs

theorem foldlM_inv {σ β : Type} (f : σ → β → Outcome σ) (P : σ → Prop) (l : List β) (s : σ) (h : P s)
    (hstep : ∀ s b s', P s → f s b = .ok s' → b ∈ l → P s') :
    ∀ s', List.foldlM f s l = .ok s' → P s' :=
  Outcome.All.foldlM l s h fun s b hm hp s' hf => hstep s b s' hp hf hm

theorem foldlM_total {σ β : Type} (f : σ → β → Outcome σ) (P : σ → Prop) :
    ∀ (l : List β) (s : σ), P s → (∀ s b, P s → b ∈ l → ∃ s', f s b = .ok s' ∧ P s') →
      ∃ s', List.foldlM f s l = .ok s' ∧ P s' := by
  intro l
  induction l with
  | nil => intro s h _; exact ⟨s, rfl, h⟩
  | cons b l ih =>
    intro s h hstep
    obtain ⟨s1, h1, hp1⟩ := hstep s b h (List.mem_cons_self ..)
    obtain ⟨s', h2, hp2⟩ := ih s1 hp1 (fun s b hp hm => hstep s b hp (List.mem_cons_of_mem _ hm))
    refine ⟨s', ?_, hp2⟩
    rw [List.foldlM_cons, h1]
    exact h2

theorem foldlM_ne_diverge {σ β : Type} (f : σ → β → Outcome σ) (hf : ∀ s b, f s b ≠ .diverge) :
    ∀ (l : List β) (s : σ), List.foldlM f s l ≠ .diverge := by
  intro l
  induction l with
  | nil => intro s; simp
  | cons b l ih =>
    intro s
    rw [List.foldlM_cons]
    exact bind_ne_diverge (hf s b) ih

/-- the shape shared by `nullablePass` and `productivePass` -/
def headPass (test : List String → List SSym → Bool) (ps : List SProd) (l : List String) : List String :=
  ps.foldl (fun l p => if p.head ∈ l then l else if test l p.body then l ++ [p.head] else l) l

theorem headPass_step_prefix (test : List String → List SSym → Bool) (l : List String) (p : SProd) :
    l <+: (if p.head ∈ l then l else if test l p.body then l ++ [p.head] else l) := by
  split
  · exact List.prefix_refl _
  · split
    · exact List.prefix_append _ _
    · exact List.prefix_refl _

theorem headPass_prefix (test : List String → List SSym → Bool) (ps : List SProd) (l : List String) :
    l <+: headPass test ps l :=
  foldl_prefix _ (headPass_step_prefix test) ps l

theorem headPass_forall {test : List String → List SSym → Bool} {ps : List SProd} {Q : String → Prop}
    (hstep : ∀ acc : List String, (∀ n ∈ acc, Q n) → ∀ p ∈ ps, test acc p.body = true → Q p.head)
    {l : List String} (hl : ∀ n ∈ l, Q n) : ∀ n ∈ headPass test ps l, Q n := by
  refine List.foldlRecOn ps _ (motive := fun l => ∀ n ∈ l, Q n) hl fun acc hacc p hp => ?_
  split
  · exact hacc
  · split
    · rename_i hb
      intro n hn
      rcases List.mem_append.mp hn with hn | hn
      · exact hacc n hn
      · rw [List.mem_singleton.mp hn]
        exact hstep acc hacc p hp hb
    · exact hacc

theorem headPass_closed {test : List String → List SSym → Bool} {ps : List SProd} {l : List String}
    (h : headPass test ps l = l) : ∀ p ∈ ps, test l p.body = true → p.head ∈ l := by
  intro p hp hb
  have hstep := foldl_fix_of_prefix _ (headPass_step_prefix test) ps l h p hp
  by_cases hh : p.head ∈ l
  · exact hh
  · simp only [hh, if_false, hb, if_true] at hstep
    have := congrArg List.length hstep
    simp at this

/-! `nullablePass` and `productivePass` are `headPass (bodyOver ok)` for the empty resp. the full alphabet `ok`, by `rfl`
(the Model's tests `bodyAllIn`, `bodyProductive` unfold to `bodyOver`): `nullable_exact` and `nonEmptyB_iff` pass their
hypothesis about the Model to `headFix_exact` as it stands. -/

def bodyOver (ok : String → Bool) (l : List String) (b : List SSym) : Bool :=
  b.all fun s => match s with
    | .nonterm n => decide (n ∈ l)
    | .term t => ok t

def DerivesOver (g : G) (ok : String → Bool) (α : List SSym) : Prop :=
  ∃ w : List String, w.all ok = true ∧ Derives g α (w.map Sym.term)

theorem bodyOver_cons_nonterm {ok : String → Bool} {l : List String} {X : String} {β : List SSym} :
    bodyOver ok l (Sym.nonterm X :: β) = true ↔ X ∈ l ∧ bodyOver ok l β = true := by
  simp [bodyOver]

theorem bodyOver_derives {g : G} {ok : String → Bool} {l : List String}
    (hl : ∀ n ∈ l, DerivesOver g ok [Sym.nonterm n]) : ∀ b : List SSym, bodyOver ok l b = true → DerivesOver g ok b
  | [], _ => ⟨[], rfl, .refl _⟩
  | .term t :: b, h => by
    simp only [bodyOver, List.all_cons, Bool.and_eq_true] at h
    obtain ⟨w, hw, d⟩ := bodyOver_derives hl b h.2
    exact ⟨t :: w, by simp [h.1, hw], d.append_left [Sym.term t]⟩
  | .nonterm n :: b, h => by
    obtain ⟨hn, hb⟩ := bodyOver_cons_nonterm.1 h
    obtain ⟨w₁, hw₁, d₁⟩ := hl n hn
    obtain ⟨w₂, hw₂, d₂⟩ := bodyOver_derives hl b hb
    exact ⟨w₁ ++ w₂, by simp [hw₁, hw₂], by simpa using d₁.append d₂⟩

theorem headFix_exact {g : G} {ok : String → Bool} {fuel : Nat} {l : List String}
    (h : iterFix (headPass (bodyOver ok) g.prods) fuel [] = some l) (X : String) :
    X ∈ l ↔ DerivesOver g ok [Sym.nonterm X] := by
  constructor
  · refine iterFix_inv _ (fun l => ∀ n ∈ l, DerivesOver g ok [Sym.nonterm n]) (fun _ hl => ?_) _ _ _
      (fun _ hn => by cases hn) h X
    refine headPass_forall (fun _ hacc p hp hb => ?_) hl
    obtain ⟨w, hw, d⟩ := bodyOver_derives hacc _ hb
    exact ⟨w, hw, (Derives.of_prod hp).trans d⟩
  · rintro ⟨w, hw, d⟩
    -- a form that derives a string over `ok` passes the test
    have key := Derives.tree_induction (g := g) (Q := fun α w => w.all ok = true → bodyOver ok l α = true)
      (fun _ => rfl) (fun t β w hβ hw => by simp_all [bodyOver])
      (fun p hp β w₁ w₂ _ hb hβ hw => by
        rw [List.all_append, Bool.and_eq_true] at hw
        exact bodyOver_cons_nonterm.2 ⟨headPass_closed (iterFix_fix _ _ _ _ h) p hp (hb hw.1), hβ hw.2⟩) d hw
    exact (bodyOver_cons_nonterm.1 key).1

open AlgoVerif.C09.Spec (Reach)

theorem reachStep_prefix (r : List String) (p : SProd) :
    r <+: (if p.head ∈ r then insAll r (bodyNTs p.body) else r) := by
  split
  · exact insAll_prefix _ _
  · exact List.prefix_refl _

theorem reachPass_prefix (ps : List SProd) (r : List String) : r <+: reachPass ps r :=
  foldl_prefix _ reachStep_prefix ps r

theorem reachPass_closed {ps : List SProd} {r : List String} (h : reachPass ps r = r) :
    ∀ p ∈ ps, p.head ∈ r → ∀ n, Sym.nonterm n ∈ p.body → n ∈ r := by
  intro p hp hh n hn
  have hstep := foldl_fix_of_prefix _ reachStep_prefix ps r h p hp
  simp only [hh, if_true] at hstep
  exact hstep ▸ mem_insAll.mpr (Or.inr (mem_bodyNTs.mpr hn))

theorem reachPass_forall {ps : List SProd} {Q : String → Prop}
    (hstep : ∀ p ∈ ps, Q p.head → ∀ n, Sym.nonterm n ∈ p.body → Q n)
    {r : List String} (hr : ∀ n ∈ r, Q n) : ∀ n ∈ reachPass ps r, Q n := by
  refine List.foldlRecOn ps _ (motive := fun r => ∀ n ∈ r, Q n) hr fun acc hacc p hp => ?_
  split
  · rename_i hh
    intro n hn
    rcases mem_insAll.mp hn with hn | hn
    · exact hacc n hn
    · exact hstep p hp (hacc _ hh) n (mem_bodyNTs.mp hn)
  · exact hacc

theorem reachPass_nodup (ps : List SProd) {r : List String} (h : r.Nodup) : (reachPass ps r).Nodup := by
  refine List.foldlRecOn ps _ h fun acc hacc p _ => ?_
  split
  · exact insAll_nodup hacc _
  · exact hacc

theorem reachable_exact {g : G} {r : List String} (h : reachable g = .ok r) : ∀ n, n ∈ r ↔ Reach g n := by
  have h' := ofOpt_ok h
  refine fun n => ⟨?_, fun hn => ?_⟩
  · refine iterFix_inv (reachPass g.prods) (fun r => ∀ n ∈ r, Reach g n)
      (fun _ => reachPass_forall fun p hp hh n hn => .step p n hp hh hn) _ _ _ ?_ h' n
    intro n hn
    rw [List.mem_singleton.1 hn]
    exact Reach.start
  · induction hn with
    | start =>
      exact iterFix_inv (reachPass g.prods) (fun r => g.start ∈ r) (fun a ha => (reachPass_prefix g.prods a).subset ha)
        _ _ _ (List.mem_singleton_self _) h'
    | step p n hp _ hn ih => exact reachPass_closed (iterFix_fix _ _ _ _ h') p hp ih n hn

theorem elimUnreachable_ok {g g' : G} (h : elimUnreachable g = .ok g') :
    ∃ r, reachable g = .ok r ∧ g'.start = g.start ∧ g'.nonterms = r ∧
      g'.prods = g.prods.filter (fun p => decide (p.head ∈ r)) ∧
      g'.terms = g.terms.filter (fun t => (g.prods.filter (fun p => decide (p.head ∈ r))).any (fun p => p.body.contains (.term t))) := by
  unfold elimUnreachable at h
  obtain ⟨r, hr, h⟩ := bind_eq_ok h
  cases h
  exact ⟨r, hr, rfl, rfl, rfl, rfl⟩

theorem elimUnreachable_spec {g g' : G} (h : elimUnreachable g = .ok g') :
    g'.start = g.start ∧ (∀ n, n ∈ g'.nonterms ↔ Reach g n) ∧ (∀ p, p ∈ g'.prods ↔ p ∈ g.prods ∧ Reach g p.head) ∧
      ∀ t, t ∈ g'.terms ↔ t ∈ g.terms ∧ ∃ p ∈ g'.prods, Sym.term t ∈ p.body := by
  obtain ⟨r, hr, hs, rfl, hp, ht⟩ := elimUnreachable_ok h
  have hex := reachable_exact hr
  refine ⟨hs, hex, fun p => ?_, fun t => ?_⟩
  · simp [hp, hex]
  · simp [ht, ← hp]

theorem elimUnreachable_language {g g' : G} (h : elimUnreachable g = .ok g') (w : List String) :
    Language g' w ↔ Language g w := by
  obtain ⟨hs, _, hp, _⟩ := elimUnreachable_spec h
  unfold Language
  rw [hs]
  refine ⟨Derives.mono fun p hp' => ((hp p).1 hp').1, fun hw => ?_⟩
  -- a form of reachable non-terminals is rewritten by productions with reachable heads only
  refine Derives.tree_induction (g := g)
    (Q := fun α w => (∀ n, Sym.nonterm n ∈ α → Reach g n) → Derives g' α (w.map Sym.term))
    (fun _ => .refl _)
    (fun t β w hβ hα => by
      simpa using (hβ fun n hn => hα n (List.mem_cons_of_mem _ hn)).append_left [Sym.term t])
    ?_ hw (by simpa using Reach.start)
  intro p hpp β w₁ w₂ _ hb hβ hα
  have hh : Reach g p.head := hα _ (List.mem_cons_self ..)
  simpa using ((Derives.of_prod ((hp p).2 ⟨hpp, hh⟩)).trans (hb fun n hn => .step p n hpp hh hn)).append
    (hβ fun n hn => hα n (List.mem_cons_of_mem _ hn))

/-! ## `OrderNonTerminals`: `visitPass` is `reachPass` by `rfl`, so the lemmas about `reachPass` apply as they stand -/

theorem orderNT_mem {g : G} {nts : List String} (h : orderNT g = .ok nts) : ∀ n ∈ g.nonterms, n ∈ nts := by
  unfold orderNT at h
  obtain ⟨visited, _, h'⟩ := bind_eq_ok h
  cases h'
  intro n hn
  by_cases hv : n ∈ visited
  · exact List.mem_append_left _ hv
  · refine List.mem_append_right _ ((mem_sortBy _ _ _).2 (List.mem_filter.2 ⟨hn, by simpa using hv⟩))

theorem orderNT_spec {g : G} {nts : List String} (h : orderNT g = .ok nts) (hw : Spec.WellFormed g)
    (hnd : g.nonterms.Nodup) :
    nts.Nodup ∧ (∀ X, X ∈ nts ↔ X ∈ g.nonterms) := by
  have hmem := orderNT_mem h
  unfold orderNT at h
  obtain ⟨visited, hv, h⟩ := bind_eq_ok h
  cases h
  have hvis : visited.Nodup ∧ ∀ X, X ∈ visited → X ∈ g.nonterms := by
    refine iterFix_inv (visitPass (sortBy prodLt g.prods))
      (fun v : List String => v.Nodup ∧ ∀ X, X ∈ v → X ∈ g.nonterms) (fun a ha => ?_) _ _ _ ?_ (ofOpt_ok hv)
    · exact ⟨reachPass_nodup _ ha.1, reachPass_forall
        (fun p hp _ n hn => (hw.2 p ((mem_sortBy prodLt g.prods p).1 hp)).2 (Sym.nonterm n) hn) ha.2⟩
    · exact ⟨by simp, by intro X hX; simp at hX; subst hX; exact hw.1⟩
  refine ⟨List.nodup_append.2 ⟨hvis.1, nodup_sortBy _ _ (hnd.filter _), ?_⟩, fun X => ⟨fun hX => ?_, hmem X⟩⟩
  · intro a ha b hb e
    subst e
    have := (List.mem_filter.1 ((mem_sortBy _ _ a).1 hb)).2
    simp at this
    exact this ha
  · rcases List.mem_append.1 hX with hX | hX
    · exact hvis.2 X hX
    · exact (List.mem_filter.1 ((mem_sortBy _ _ X).1 hX)).1

theorem hasProd_iff {ps : List SProd} {n : String} : hasProd ps n = true ↔ ∃ p ∈ ps, p.head = n := by
  simp [hasProd]

theorem pruneStep_spec {g g' : G} (h : pruneStep g = some g') :
    ∃ n, n ∈ g.nonterms ∧ n ≠ g.start ∧ hasProd g.prods n = false ∧ g'.start = g.start ∧ g'.terms = g.terms ∧
      g'.nonterms = g.nonterms.filter (fun m => m ≠ n) ∧
      g'.prods = g.prods.filter (fun p => !(p.body.contains (.nonterm n))) := by
  unfold pruneStep at h
  split at h
  · cases h
  · rename_i n hn
    cases h
    have h1 := List.find?_some hn
    have h2 := List.mem_of_find?_eq_some hn
    simp at h1
    exact ⟨n, h2, h1.1, by simpa [hasProd] using h1.2, rfl, rfl, rfl, rfl⟩

theorem prune_induction {P : G → Prop} (hstep : ∀ g g', pruneStep g = some g' → P g → P g') {g : G} (h : P g) :
    P (prune g) := by
  have key : ∀ (k : Nat) (g : G), P g → P (pruneN k g) := by
    intro k
    induction k with
    | zero => intro g h; exact h
    | succ k ih =>
      intro g h
      simp only [pruneN]
      split
      · exact h
      · rename_i g' hg'
        exact ih g' (hstep g g' hg' h)
  exact key _ g h

theorem prune_prods_subset (g : G) : ∀ p ∈ (prune g).prods, p ∈ g.prods := by
  refine prune_induction (P := fun g' => ∀ p ∈ g'.prods, p ∈ g.prods) (fun g₁ g₂ h ih p hp => ?_) (fun _ hp => hp)
  obtain ⟨n, _, _, _, _, _, _, hpr⟩ := pruneStep_spec h
  exact ih p (List.mem_filter.mp (hpr ▸ hp)).1

theorem prune_nonterms_subset (g : G) : ∀ n ∈ (prune g).nonterms, n ∈ g.nonterms := by
  refine prune_induction (P := fun g' => ∀ n ∈ g'.nonterms, n ∈ g.nonterms) (fun g₁ g₂ h ih n hn => ?_) (fun _ hn => hn)
  obtain ⟨m, _, _, _, _, _, hnt, _⟩ := pruneStep_spec h
  exact ih n (List.mem_filter.mp (hnt ▸ hn)).1

theorem prune_start (g : G) : (prune g).start = g.start := by
  refine prune_induction (P := fun g' => g'.start = g.start) (fun g₁ g₂ h ih => ?_) rfl
  obtain ⟨n, _, _, _, hs, _⟩ := pruneStep_spec h
  exact hs.trans ih

/-- a set of productions that supports itself — every non-terminal in a body of the set has a production in the set —
survives pruning -/
theorem prune_survives {g : G} {K : SProd → Prop}
    (hK : ∀ p ∈ g.prods, K p → ∀ n, Sym.nonterm n ∈ p.body → ∃ q ∈ g.prods, K q ∧ q.head = n) :
    ∀ p ∈ g.prods, K p → p ∈ (prune g).prods := by
  refine prune_induction (P := fun g' => ∀ p ∈ g.prods, K p → p ∈ g'.prods) (fun g₁ g₂ h ih p hp hk => ?_) (fun _ hp _ => hp)
  obtain ⟨n, _, _, hnp, _, _, _, hpr⟩ := pruneStep_spec h
  rw [hpr]
  refine List.mem_filter.mpr ⟨ih p hp hk, ?_⟩
  -- a body of the set that mentions `n` would give `n` a production
  cases hc : p.body.contains (Sym.nonterm n) with
  | false => rfl
  | true =>
    obtain ⟨q, hq, hkq, hqh⟩ := hK p hp hk n (by simpa using hc)
    rw [hasProd_iff.mpr ⟨q, ih q hq hkq, hqh⟩] at hnp
    cases hnp

theorem prune_language (g : G) (w : List String) : Language (prune g) w ↔ Language g w := by
  unfold Language
  rw [prune_start]
  refine ⟨Derives.mono (prune_prods_subset g), fun hw => ?_⟩
  -- the productions whose body derives a terminal string support themselves
  have hsurv := prune_survives (g := g) (K := fun p => ∃ w : List String, Derives g p.body (w.map Sym.term)) (by
    rintro p _ ⟨w, dw⟩ n hn
    obtain ⟨b₁, b₂, hb⟩ := List.append_of_mem hn
    obtain ⟨w', dw'⟩ := Derives.nonterm_productive (u := b₁) (v := b₂) (by simpa [hb] using dw)
    obtain ⟨q, hq, hh, d⟩ := dw'.has_prod
    exact ⟨q, hq, ⟨w', d⟩, hh⟩)
  refine Derives.tree_induction (g := g) (Q := fun α w => Derives (prune g) α (w.map Sym.term)) (.refl _)
    (fun t β w hβ => by simpa using hβ.append_left [Sym.term t]) ?_ hw
  intro p hp β w₁ w₂ db hb hβ
  simpa using ((Derives.of_prod (hsurv p hp ⟨w₁, db⟩)).trans hb).append hβ

end AlgoVerif.C08
