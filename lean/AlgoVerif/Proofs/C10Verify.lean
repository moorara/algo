import AlgoVerif.Model.C10Ext
/-! `Verify()`'s error list (`verifyErrors`, `Model/C10Ext.lean`) is empty exactly when `validB` holds. -/
namespace AlgoVerif.C10
open AlgoVerif AlgoVerif.Gram

set_option linter.unusedSectionVars false

section
variable {T N : Type} [DecidableEq T] [DecidableEq N]

theorem bodyErrs_nil_iff (g : Grammar T N) (body : List (Sym T N)) :
    bodyErrs g body = [] ↔ body.all (symDeclared g) = true := by
  induction body with
  | nil => simp [bodyErrs]
  | cons s rest ih =>
    unfold bodyErrs at ih ⊢
    cases s with
    | term t =>
      by_cases h : t ∈ g.terms
      · simp [h, symDeclared, ih]
      · simp [h, symDeclared]
    | nonterm n =>
      by_cases h : n ∈ g.nonterms
      · simp [h, symDeclared, ih]
      · simp [h, symDeclared]

theorem prodErrs_nil_iff (g : Grammar T N) (p : GProd T N) :
    prodErrs g p = [] ↔ (decide (p.head ∈ g.nonterms) && p.body.all (symDeclared g)) = true := by
  unfold prodErrs
  by_cases h : p.head ∈ g.nonterms
  · simp [h, bodyErrs_nil_iff]
  · simp [h]

theorem verifyErrors_nil_iff (g : Grammar T N) : verifyErrors g = [] ↔ validB g = true := by
  unfold verifyErrors validB
  simp only [List.append_eq_nil_iff, Bool.and_eq_true, decide_eq_true_eq]
  constructor
  · rintro ⟨⟨⟨h1, h2⟩, h3⟩, h4⟩
    refine ⟨⟨⟨?_, ?_⟩, ?_⟩, ?_⟩
    · by_cases h : g.start ∈ g.nonterms
      · exact h
      · simp [h] at h1
    · cases h : g.prods.any (fun p => decide (p.head = g.start)) with
      | true => rfl
      | false => simp [h] at h2
    · rw [List.all_eq_true]
      intro n hn
      cases h : g.prods.any (fun p => decide (p.head = n)) with
      | true => rfl
      | false =>
        have := List.filterMap_eq_nil_iff.1 h3 n hn
        simp [h] at this
    · rw [List.all_eq_true]
      intro p hp
      have := List.flatMap_eq_nil_iff.1 h4 p hp
      exact (prodErrs_nil_iff g p).1 this
  · rintro ⟨⟨⟨h1, h2⟩, h3⟩, h4⟩
    refine ⟨⟨⟨?_, ?_⟩, ?_⟩, ?_⟩
    · simp [h1]
    · simp [h2]
    · rw [List.filterMap_eq_nil_iff]
      intro n hn
      have := List.all_eq_true.1 h3 n hn
      simp [this]
    · rw [List.flatMap_eq_nil_iff]
      intro p hp
      exact (prodErrs_nil_iff g p).2 (List.all_eq_true.1 h4 p hp)

end

end AlgoVerif.C10
