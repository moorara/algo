import AlgoVerif.Proofs.C19Next
/-!
# C19 — `Next` alone: the decoded source, then `io.EOF` or the report of ill-formed UTF-8

For every NUL-free list of runes, every buffer size `n ≥ 1` and every reader without I/O errors (any finite
script of chunk caps, half reads, zero-length reads, `io.EOF` together with data or afterwards), `New` followed
by `Next` × (number of runes + k) returns exactly the runes and then `io.EOF` k times (`next_delivers_source`); with
an ill-formed tail after the runes, the next `Next` reports it (`invalid_reported`).

A history of `Next`s needs the buffer invariant `Inv` only: `Next` moves forward only, so there is no pending lexeme
to keep inside the buffer and `n` may be smaller than a rune.  That is why `run_nexts_then` is an
induction of its own over `Inv`, beside the simulation `run_sim` of `C19Refine`, whose relation `Rel` carries `LexOK`
and so asks for `Spec.Keeps`.
-/
namespace AlgoVerif.C19
open AlgoVerif AlgoVerif.Generated

theorem run_eofs {S : List UInt8} {n : Nat} (hnul : NulFree S) {i : Input} {p B cnt s : Nat}
    (hinv : Inv S n i p B cnt s) (hd : S.drop p = []) (k : Nat) :
    i.run (List.replicate k .next) = List.replicate k (.ok (.err .eof)) := by
  induction k with
  | zero => rfl
  | succ k ih =>
    have h := Next_spec hinv hnul
    rw [hd] at h
    obtain ⟨i', B', cnt', s', hN, _, _, hi⟩ := h
    have := hi hd
    subst this
    simp only [List.replicate_succ, Input.run, step_next_of hN, ih]

theorem drop_encode_cons {S : List UInt8} {p : Nat} {c : Char} {cs : List Char} {tail : List UInt8}
    (hd : S.drop p = Spec.encode (c :: cs) ++ tail) : S.drop (p + c.utf8Size) = Spec.encode cs ++ tail := by
  rw [← List.drop_drop, hd, encode_cons, List.append_assoc, ← String.length_utf8EncodeChar, List.drop_left]

theorem run_nexts_then {S : List UInt8} {n : Nat} (hnul : NulFree S) (tail : List UInt8) :
    ∀ (cs : List Char) (i : Input) (p B cnt s : Nat),
    Inv S n i p B cnt s → S.drop p = Spec.encode cs ++ tail →
    ∃ i' p' B' cnt' s', Inv S n i' p' B' cnt' s' ∧ S.drop p' = tail ∧
      ∀ ops', i.run (List.replicate cs.length .next ++ ops')
        = cs.map (fun c => .ok (.rune c.toNat)) ++ i'.run ops' := by
  intro cs
  induction cs with
  | nil =>
    intro i p B cnt s hinv hd
    exact ⟨i, p, B, cnt, s, hinv, by simpa [Spec.encode] using hd, fun _ => rfl⟩
  | cons c cs ih =>
    intro i p B cnt s hinv hd
    have h := Next_spec hinv hnul
    have hdec : decodeRune (S.drop p) = .rune c.toNat c.utf8Size := by
      rw [hd, encode_cons, List.append_assoc]; exact decodeRune_encode c _
    rw [hdec] at h
    obtain ⟨i1, B1, cnt1, s1, hN, hinv1, _, _, _⟩ := h
    obtain ⟨i', p', B', cnt', s', hinv', hd', hrun⟩ := ih i1 _ B1 cnt1 s1 hinv1 (drop_encode_cons hd)
    refine ⟨i', p', B', cnt', s', hinv', hd', ?_⟩
    intro ops'
    simp only [List.length_cons, List.replicate_succ, List.cons_append, Input.run, step_next_of hN,
      List.map_cons]
    rw [hrun]

theorem next_delivers_source (cs : List Char) (hnul : ∀ c ∈ cs, c.toNat ≠ 0) (n : Nat) (hn : 0 < n)
    (script : List Answer) (tailEof : Bool) (hio : ∀ a ∈ script, a.flag ≠ .ioerr) (k : Nat) :
    runNew ⟨Spec.encode cs, script, tailEof⟩ n (List.replicate (cs.length + k) .next) =
      if cs = [] then .failed .eof
      else .ran (cs.map (fun c => .ok (.rune c.toNat)) ++ List.replicate k (.ok (.err .eof))) := by
  rcases new_spec (Spec.encode cs) script tailEof n hn hio with ⟨hS, hnew⟩ | ⟨hS, i, hnew, hinv, _⟩
  · have : cs = [] := (encode_eq_nil_iff cs).mp hS
    subst this
    simp only [runNew, hnew, if_true]
  · have : cs ≠ [] := fun h => hS ((encode_eq_nil_iff cs).mpr h)
    simp only [runNew, hnew, this, if_false]
    obtain ⟨i', p', B', cnt', s', hinv', hd', hrun⟩ :=
      run_nexts_then (nulFree_encode cs hnul) [] cs i 0 0 _ 0 hinv (by simp)
    rw [← List.replicate_append_replicate, hrun, run_eofs (nulFree_encode cs hnul) hinv' hd']

theorem invalid_reported (cs : List Char) (tail : List UInt8) (k : Nat) (hbad : decodeRune tail = .invalid k)
    (hnul : NulFree (Spec.encode cs ++ tail)) (n : Nat) (hn : 0 < n)
    (script : List Answer) (tailEof : Bool) (hio : ∀ a ∈ script, a.flag ≠ .ioerr) :
    ∃ pos, runNew ⟨Spec.encode cs ++ tail, script, tailEof⟩ n (List.replicate cs.length .next ++ [.next])
      = .ran (cs.map (fun c => .ok (.rune c.toNat)) ++ [.ok (.invalid pos)]) := by
  have hne : Spec.encode cs ++ tail ≠ [] := fun h => ne_nil_of_invalid hbad (List.append_eq_nil_iff.mp h).2
  rcases new_spec (Spec.encode cs ++ tail) script tailEof n hn hio with ⟨hS, _⟩ | ⟨_, i, hnew, hinv, _⟩
  · exact absurd hS hne
  · obtain ⟨i', p', B', cnt', s', hinv', hd', hrun⟩ :=
      run_nexts_then hnul tail cs i 0 0 _ 0 hinv (by simp)
    have h := Next_spec hinv' hnul
    rw [hd', hbad] at h
    obtain ⟨i2, _, _, _, hN, _, _⟩ := h
    refine ⟨i'.forwardPos, ?_⟩
    simp only [runNew, hnew, hrun, Input.run, step_next_of hN]

end AlgoVerif.C19
