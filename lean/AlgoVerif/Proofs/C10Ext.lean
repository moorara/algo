import AlgoVerif.Model.C10Ext
import AlgoVerif.Proofs.C10Term
/-! About `Model/C10Ext.lean`: on a valid grammar the analyses "on any grammar" (`analyseP`, with their panic predicates)
are the analyses of the theorems; the memo table of the FIRST closure over any history of calls; the accessors of the
parsing table. -/
namespace AlgoVerif.C10
open AlgoVerif AlgoVerif.Gram

set_option linter.unusedSectionVars false

section
variable {T N : Type} [DecidableEq T] [DecidableEq N]
variable {g : Grammar T N}

theorem reachesUndeclared_false (g : Grammar T N) (fi : N → TE T) :
    ∀ body : List (Sym T N), (∀ s, s ∈ body → symDeclared g s = true) → reachesUndeclared g fi body = false := by
  intro body
  induction body with
  | nil => intro _; rfl
  | cons s rest ih =>
    intro h
    have hs := h s (List.mem_cons_self ..)
    have hr := ih (fun x hx => h x (List.mem_cons_of_mem _ hx))
    simp only [reachesUndeclared, hs, if_true, hr]
    split <;> rfl

theorem followBodyPanicB_false (g : Grammar T N) (fi : N → TE T) :
    ∀ body : List (Sym T N), (∀ s, s ∈ body → symDeclared g s = true) → followBodyPanicB g fi body = false := by
  intro body
  induction body with
  | nil => intro _; rfl
  | cons s rest ih =>
    intro h
    have hs := h s (List.mem_cons_self ..)
    have hrest : ∀ x, x ∈ rest → symDeclared g x = true := fun x hx => h x (List.mem_cons_of_mem _ hx)
    cases s with
    | term t => simpa [followBodyPanicB] using ih hrest
    | nonterm B =>
      have hB : B ∈ g.nonterms := by simpa [symDeclared] using hs
      simp [followBodyPanicB, reachesUndeclared_false g fi rest hrest, hB, ih hrest]

theorem firstPanicB_false (hv : validB g = true) (fi : N → TE T) : firstPanicB g fi = false := by
  unfold firstPanicB
  rw [List.any_eq_false]
  intro p hp
  have := valid_prod hv hp
  simp [this.1, reachesUndeclared_false g fi p.body this.2]

theorem followPanicB_false (hv : validB g = true) (fi : N → TE T) : followPanicB g fi = false := by
  unfold followPanicB
  have hs := valid_start hv
  simp only [hs, decide_true, Bool.not_true, Bool.false_or]
  rw [List.any_eq_false]
  intro p hp
  simp [followBodyPanicB_false g fi p.body (valid_prod hv hp).2]

theorem analyseP_eq_analyse (hv : validB g = true) {o₁ o₂ : IterOrder T N}
    (h₁ : o₁.Fair) (h₂ : o₂.Fair) : analyseP g o₁ o₂ = analyse g o₁ o₂ := by
  obtain ⟨fi, hfi⟩ := computeFirst_terminates hv h₁
  have hinv := computeFirst_inv hv h₁ hfi
  obtain ⟨fo, hfo⟩ := computeFollow_terminates hv h₂ (first := firstStr fi) (firstStr_declared hinv)
  -- `fixFuelP g` is `fixFuel g` plus something, and more passes change nothing
  have h1 : firstLoop g o₁ (fixFuelP g) 0 (fun _ => ⟨[], false⟩) = .ok fi := by
    rw [fixFuelP, firstLoop_eq_gen]; exact genLoop_mono _ _ _ _ _ (by rw [← firstLoop_eq_gen]; exact hfi)
  have h2 : followLoop g o₂ (firstStr fi) (fixFuelP g) 0 (followInit g) = .ok fo := by
    rw [fixFuelP, followLoop_eq_gen]; exact genLoop_mono _ _ _ _ _ (by rw [← followLoop_eq_gen]; exact hfo)
  simp [analyseP, computeFirstP, computeFollowP, analyse, h1, h2, hfi, hfo, firstPanicB_false hv, followPanicB_false hv]

theorem nullableP_eq_nullable (hv : validB g = true) {o : IterOrder T N} (ho : o.Fair) :
    nullableP g o = nullable g o := by
  obtain ⟨R, hR⟩ := nullable_terminates hv ho
  rw [hR, nullableP, fixFuelP, nullableLoop_eq_gen]
  exact genLoop_mono _ _ _ _ _ (by rw [← nullableLoop_eq_gen]; exact hR)

def MemoGood (fi : N → TE T) (memo : FirstMemo T N) : Prop :=
  ∀ s r, (s, r) ∈ memo → r = firstStr fi s

theorem lookup_mem {α β : Type} [BEq α] [LawfulBEq α] (k : α) (v : β) (l : List (α × β))
    (h : l.lookup k = some v) : (k, v) ∈ l := by
  obtain ⟨l₁, l₂, rfl, _⟩ := List.lookup_eq_some_iff.1 h
  exact List.mem_append_right _ (List.mem_cons_self ..)

theorem firstWalk_declared (g : Grammar T N) (st : N → TE T) :
    ∀ (s : List (Sym T N)) (acc : List T), (∀ X, X ∈ s → symDeclared g X = true) →
      firstWalk g st s acc = (firstStrAux st s acc, false) := by
  intro s
  induction s with
  | nil => intro acc _; rfl
  | cons X rest ih =>
    intro acc h
    have hX := h X (List.mem_cons_self ..)
    simp only [firstWalk, firstStrAux, hX, if_true]
    split
    · exact ih _ (fun Y hY => h Y (List.mem_cons_of_mem _ hY))
    · rfl

section memo
variable (g : Grammar T N) (fi : N → TE T)

/-! ## any history of calls of one closure

`MemoGood` asks every stored value to be right; a call that panics on an undeclared symbol stores a partial value, so
after such a call only the weaker `MemoGoodD` holds: the values stored for strings of DECLARED symbols are right.  That
is an invariant of every call, and it is all a call with a string of declared symbols needs. -/

def MemoGoodD (g : Grammar T N) (fi : N → TE T) (memo : FirstMemo T N) : Prop :=
  ∀ s r, (s, r) ∈ memo → (∀ X, X ∈ s → symDeclared g X = true) → r = firstStr fi s

theorem MemoGood.toD {g : Grammar T N} {fi : N → TE T} {memo : FirstMemo T N} (h : MemoGood fi memo) :
    MemoGoodD g fi memo := fun s r hm _ => h s r hm

/-- `P` = all strings is `MemoGood`, `P` = the declared ones `MemoGoodD`. -/
theorem firstCall_keeps (P : List (Sym T N) → Prop) (memo : FirstMemo T N) (s : List (Sym T N))
    (hs : P s → ∀ X, X ∈ s → symDeclared g X = true)
    (hm : ∀ s' r, (s', r) ∈ memo → P s' → r = firstStr fi s') :
    ∀ s' r, (s', r) ∈ (firstCall g fi memo s).2 → P s' → r = firstStr fi s' := by
  unfold firstCall
  cases memo.lookup s with
  | some r => exact hm
  | none =>
    intro s' r' hmem hs'
    rcases List.mem_append.1 hmem with h | h
    · exact hm s' r' h hs'
    · simp only [List.mem_singleton, Prod.mk.injEq] at h
      obtain ⟨rfl, rfl⟩ := h
      simp only [firstWalk_declared g fi s' [] (hs hs')]
      rfl

theorem firstCall_goodD (memo : FirstMemo T N) (s : List (Sym T N))
    (hm : MemoGoodD g fi memo) :
    MemoGoodD g fi (firstCall g fi memo s).2 ∧
    ((∀ X, X ∈ s → symDeclared g X = true) → (firstCall g fi memo s).1 = .ok (firstStr fi s)) := by
  refine ⟨firstCall_keeps g fi (fun s => ∀ X, X ∈ s → symDeclared g X = true) memo s id hm, fun hs => ?_⟩
  unfold firstCall
  cases hl : memo.lookup s with
  | some r =>
    have := hm s r (lookup_mem s r memo hl) hs
    subst this
    rfl
  | none =>
    simp only [firstWalk_declared g fi s [] hs, Bool.false_eq_true, if_false]
    rfl

theorem firstCall_good (memo : FirstMemo T N) (s : List (Sym T N))
    (hm : MemoGood fi memo) (hs : ∀ X, X ∈ s → symDeclared g X = true) :
    (firstCall g fi memo s).1 = .ok (firstStr fi s) ∧ MemoGood fi (firstCall g fi memo s).2 :=
  ⟨(firstCall_goodD g fi memo s hm.toD).2 hs, fun s' r h =>
    firstCall_keeps g fi (fun _ => True) memo s (fun _ => hs) (fun s' r h _ => hm s' r h) s' r h trivial⟩

theorem firstCalls_length :
    ∀ (qs : List (List (Sym T N))) (memo : FirstMemo T N), (firstCalls g fi memo qs).1.length = qs.length := by
  intro qs
  induction qs with
  | nil => intro memo; rfl
  | cons s rest ih => intro memo; simp only [firstCalls, List.length_cons, ih]

theorem firstCalls_good :
    ∀ (qs : List (List (Sym T N))) (memo : FirstMemo T N), MemoGoodD g fi memo →
      MemoGoodD g fi (firstCalls g fi memo qs).2 ∧
      ∀ p, p ∈ qs.zip (firstCalls g fi memo qs).1 → (∀ X, X ∈ p.1 → symDeclared g X = true) →
        p.2 = .ok (firstStr fi p.1) := by
  intro qs
  induction qs with
  | nil => intro memo hm; exact ⟨hm, fun p hp => by simp [firstCalls] at hp⟩
  | cons s rest ih =>
    intro memo hm
    have h1 := firstCall_goodD g fi memo s hm
    have h2 := ih (firstCall g fi memo s).2 h1.1
    refine ⟨h2.1, ?_⟩
    intro p hp hd
    simp only [firstCalls, List.zip_cons_cons, List.mem_cons] at hp
    rcases hp with rfl | hp
    · exact h1.2 hd
    · exact h2.2 p hp hd

theorem firstCalls_declared :
    ∀ (qs : List (List (Sym T N))) (memo : FirstMemo T N), MemoGoodD g fi memo →
      (∀ s, s ∈ qs → ∀ X, X ∈ s → symDeclared g X = true) →
      (firstCalls g fi memo qs).1 = qs.map (fun s => .ok (firstStr fi s)) := by
  intro qs
  induction qs with
  | nil => intro memo _ _; rfl
  | cons s rest ih =>
    intro memo hm hd
    have h1 := firstCall_goodD g fi memo s hm
    simp only [firstCalls, List.map_cons]
    rw [h1.2 (hd s (List.mem_cons_self ..)), ih _ h1.1 (fun s' hs' => hd s' (List.mem_cons_of_mem _ hs'))]

end memo

/-- the strings `ComputeFOLLOW` (`β` of `A → α B β`), `IsLL1` and `BuildParsingTable` (whole bodies) hand to the
closure are pieces of production bodies; in a grammar that passes `Verify()` their symbols are declared -/
theorem infix_declared (hv : validB g = true) {p : GProd T N} (hp : p ∈ g.prods)
    {pre s suf : List (Sym T N)} (hb : p.body = pre ++ s ++ suf) : ∀ X, X ∈ s → symDeclared g X = true := by
  intro X hX
  apply (valid_prod hv hp).2 X
  rw [hb]
  exact List.mem_append_left _ (List.mem_append_right _ hX)

theorem cellInfo_isEmpty (t : PTable T N) (A : N) (a : Option T) :
    (cellInfo t A a).1 = (tcell t A a).isEmpty := by
  unfold cellInfo tcell
  cases t.get A a <;> rfl

theorem cellInfo_getProduction (t : PTable T N) (A : N) (a : Option T) :
    (cellInfo t A a).2.2 = (match tcell t A a with
      | [p] => some p
      | _ => none) := by
  unfold cellInfo tcell
  cases t.get A a <;> rfl

end

end AlgoVerif.C10
