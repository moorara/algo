import AlgoVerif.Proofs.C14Cycle
import AlgoVerif.Proofs.C14Dfs
/-!
# C14 proofs — `Orders(DFS)` on any graph, and `Topological`

Client of the DFS rule with the `Orders` visitors.  The post-order `P` lists every vertex
once, and two things are recorded about it.  For Kosaraju (`Proofs/C14Scc.lean`): every entry `r` carries a record
`Rec h P r`, `P = Pe ++ blk ++ r :: rest`, where `blk` are the proper descendants of `r` (all reachable from `r`) and from a
vertex of `Pe` (finished before `r` was entered) everything reachable is again in `Pe` — or the way there leads through a
vertex outside `Pe ++ blk ++ [r]`.  For `Topological`: an arc out of an entry leads to an earlier entry, or back to a vertex
that was still in progress and therefore reaches it (`PostArcs`); on an acyclic graph there is no way back, so the reverse
post-order is a topological order.
-/
namespace AlgoVerif.C14

theorem ordersVisitors_allTrue : ordersVisitors.AllTrue :=
  ⟨fun _ _ => rfl, fun _ _ => rfl, fun _ _ _ _ => rfl⟩

def Before (l : List Nat) (y x : Nat) : Prop := ∃ l1 l2, l = l1 ++ x :: l2 ∧ y ∈ l1

theorem Before.append {l : List Nat} {y x : Nat} (h : Before l y x) (m : List Nat) : Before (l ++ m) y x := by
  obtain ⟨l1, l2, rfl, hy⟩ := h
  exact ⟨l1, l2 ++ m, by simp, hy⟩

def postL (st : TState Orders) : List Nat := st.s.postOrder.toList

def InProg (st : TState Orders) (x : Nat) : Prop := Vis st.visited x ∧ x ∉ postL st

theorem postL_enter (st : TState Orders) (v : Nat) :
    postL (⟨st.visited.set! v true, (callV ordersVisitors.pre v st.s).1⟩ : TState Orders) = postL st := rfl

theorem postL_exit (cur : TState Orders) (v : Nat) :
    postL (⟨cur.visited, (callV ordersVisitors.post v cur.s).1⟩ : TState Orders) = postL cur ++ [v] := by
  show (cur.s.postOrder.push v).toList = _
  simp [postL]

theorem inProg_enter {st : TState Orders} {v : Nat} (hvis : ∀ x ∈ postL st, Vis st.visited x)
    (hunv : st.visited[v]? = some false) (a : Nat) :
    InProg (⟨st.visited.set! v true, (callV ordersVisitors.pre v st.s).1⟩ : TState Orders) a ↔
      (InProg st a ∨ a = v) := by
  have hvlt : v < st.visited.size := (Array.getElem?_eq_some_iff.1 hunv).1
  unfold InProg
  rw [postL_enter]
  show (Vis (st.visited.set! v true) a ∧ a ∉ postL st) ↔ _
  rw [vis_set]
  constructor
  · rintro ⟨⟨rfl, _⟩ | h1, h2⟩
    · exact Or.inr rfl
    · exact Or.inl ⟨h1, h2⟩
  · rintro (⟨h1, h2⟩ | rfl)
    · exact ⟨Or.inr h1, h2⟩
    · exact ⟨Or.inl ⟨rfl, hvlt⟩, fun h => not_vis_of_false hunv (hvis _ h)⟩

theorem inProg_exit {st cur : TState Orders} {v : Nat} (hprog : ∀ a, InProg cur a ↔ (InProg st a ∨ a = v))
    (hunv : ¬ Vis st.visited v) (a : Nat) :
    InProg (⟨cur.visited, (callV ordersVisitors.post v cur.s).1⟩ : TState Orders) a ↔ InProg st a := by
  unfold InProg
  rw [postL_exit]
  show (Vis cur.visited a ∧ a ∉ postL cur ++ [v]) ↔ _
  rw [List.mem_append, List.mem_singleton, not_or, ← and_assoc]
  exact (and_congr_left' (hprog a)).trans
    ⟨fun ⟨h, hne⟩ => h.resolve_right hne, fun h => ⟨Or.inl h, fun e => hunv (e ▸ h.1)⟩⟩

theorem nodup_exit {cur : TState Orders} {v : Nat} (hnd : (postL cur).Nodup) (hv : InProg cur v) :
    (postL cur ++ [v]).Nodup := by
  rw [List.nodup_append]
  refine ⟨hnd, by simp, ?_⟩
  intro a ha b hb
  have : b = v := List.mem_singleton.1 hb
  subst this
  intro e; subst e; exact hv.2 ha

/-- the record of the entry `r` of the post-order `P` (module header) -/
def Rec (h : Graph) (P : List Nat) (r : Nat) : Prop :=
  ∃ Pe blk rest, P = Pe ++ blk ++ r :: rest ∧ (∀ y ∈ blk, Reach h.HasArc r y) ∧
    ∀ x ∈ Pe, ∀ z, Reach h.HasArc x z →
      z ∈ Pe ∨ ∃ a, a ∉ Pe ∧ a ∉ blk ∧ a ≠ r ∧ Reach h.HasArc x a

theorem Rec.append {h : Graph} {P : List Nat} {r : Nat} (hr : Rec h P r) (m : List Nat) : Rec h (P ++ m) r := by
  obtain ⟨Pe, blk, rest, rfl, h1, h2⟩ := hr
  exact ⟨Pe, blk, rest ++ m, by simp, h1, h2⟩

/-- what holds of the post-order at every point of `Orders(DFS)` (`K`: Kosaraju's proof is the one that needs `recs`) -/
structure KInv (h : Graph) (st : TState Orders) : Prop where
  vis : ∀ x ∈ postL st, Vis st.visited x
  nodup : (postL st).Nodup
  closed : ∀ x ∈ postL st, ∀ y, h.HasArc x y → Vis st.visited y
  recs : ∀ r ∈ postL st, Rec h (postL st) r

theorem KInv.reach {h : Graph} {st : TState Orders} (hk : KInv h st) {x z : Nat} (hx : x ∈ postL st)
    (hr : Reach h.HasArc x z) : z ∈ postL st ∨ ∃ a, InProg st a ∧ Reach h.HasArc x a := by
  induction hr with
  | refl => exact Or.inl hx
  | @tail p q hxp e ih =>
    rcases ih with hp | ⟨a, ha, hxa⟩
    · have hv := hk.closed p hp q e
      by_cases hq : q ∈ postL st
      · exact Or.inl hq
      · exact Or.inr ⟨q, ⟨hv, hq⟩, .tail hxp e⟩
    · exact Or.inr ⟨a, ha, hxa⟩

def PostArcs (h : Graph) (P : List Nat) : Prop :=
  ∀ x ∈ P, ∀ y, h.HasArc x y → Before P y x ∨ Reach h.HasArc y x

theorem PostArcs.snoc {h : Graph} {P : List Nat} {v : Nat} (hp : PostArcs h P)
    (hv : ∀ y, h.HasArc v y → y ∈ P ∨ Reach h.HasArc y v) : PostArcs h (P ++ [v]) :=
  List.forall_mem_append.2 ⟨fun x hx y e => (hp x hx y e).imp_left (·.append [v]),
    List.forall_mem_singleton.2 fun y e => (hv y e).imp_left fun hy => ⟨P, [], rfl, hy⟩⟩

/-- inside `dfs(v)`, entered at `st`, now at `cur` -/
structure KMid (h : Graph) (v : Nat) (st : TState Orders) (cur : TState Orders) : Prop where
  inv : KInv h cur
  inv0 : KInv h st
  arcs : PostArcs h (postL cur)
  anc : ∀ a, InProg st a → Reach h.HasArc a v
  unv : ¬ Vis st.visited v
  prog : ∀ a, InProg cur a ↔ (InProg st a ∨ a = v)
  ext : ∃ m, postL cur = postL st ++ m

/-- `dfs(v)`, entered at `st`, has returned with `st'` -/
structure KPost (h : Graph) (v : Nat) (st st' : TState Orders) : Prop where
  inv : KInv h st'
  arcs : PostArcs h (postL st')
  prog : ∀ a, InProg st' a ↔ InProg st a
  ext : ∃ blk, postL st' = postL st ++ blk ++ [v]

theorem dfs_orders {h : Graph} (hh : h.WF) :
    ∀ fuel v (st : TState Orders),
      (KInv h st ∧ PostArcs h (postL st) ∧ ∀ a, InProg st a → Reach h.HasArc a v) →
      st.visited.size = h.n → st.visited[v]? = some false → cntF st.visited ≤ fuel →
      ∃ st', dfs h ordersVisitors fuel v st = .ok st' ∧ KPost h v st st' ∧
        StdPost h v st.visited st'.visited := by
  apply dfs_rule h hh ordersVisitors ordersVisitors_allTrue
    (fun v st => KInv h st ∧ PostArcs h (postL st) ∧ ∀ a, InProg st a → Reach h.HasArc a v)
    (fun v st st' => KPost h v st st')
    (fun v st _ _ cur => KMid h v st cur)
  · intro v st ⟨hpre, harcs, hanc⟩ hsize hunv
    have hpl := postL_enter st v
    refine ⟨⟨?_, ?_, ?_, ?_⟩, hpre, harcs, hanc, not_vis_of_false hunv, inProg_enter hpre.vis hunv,
      ⟨[], by rw [hpl]; simp⟩⟩
    · intro x hx; rw [hpl] at hx; exact vis_set_of_vis (hpre.vis x hx)
    · rw [hpl]; exact hpre.nodup
    · intro x hx y hy; rw [hpl] at hx; exact vis_set_of_vis (hpre.closed x hx y hy)
    · intro r hr; rw [hpl] at hr ⊢; exact hpre.recs r hr
  · intro v st done x rest cur hm _ _
    exact hm
  · -- the vertices in progress reach `x.to` through `v`
    intro v st done x rest cur hm hs hunv
    have harc : h.HasArc v x.to := Graph.HasArc.of_mem (by rw [hs.adj]; simp)
    have hce : (callE ordersVisitors.edge v x.to x.e.w cur.s).1 = cur.s := rfl
    rw [hce]
    refine ⟨⟨hm.inv, hm.arcs, fun a ha => ?_⟩, ?_⟩
    · rcases (hm.prog a).1 ha with h1 | rfl
      · exact .tail (hm.anc a h1) harc
      · exact Reach.single harc
    · intro cur' hp _
      obtain ⟨m1, hm1⟩ := hm.ext
      obtain ⟨blk, hb⟩ := hp.ext
      exact
        { inv := hp.inv
          inv0 := hm.inv0
          arcs := hp.arcs
          anc := hm.anc
          unv := hm.unv
          prog := fun a => (hp.prog a).trans (hm.prog a)
          ext := ⟨m1 ++ blk ++ [x.to], by rw [hb]; show postL cur ++ blk ++ [x.to] = _; rw [hm1]; simp⟩ }
  · intro v st done cur hm hs
    have hpl := postL_exit cur v
    have hvprog : InProg cur v := (hm.prog v).2 (Or.inr rfl)
    obtain ⟨m1, hm1⟩ := hm.ext
    have hsucc : ∀ y, h.HasArc v y → Vis cur.visited y := by
      rintro y ⟨a, ha, rfl⟩
      rw [hs.adj] at ha
      exact hs.done a (by simpa using ha)
    have hm1_new : ∀ y ∈ m1, ¬ Vis st.visited y := by
      intro y hy hvis
      have hyc : y ∈ postL cur := by rw [hm1]; exact List.mem_append_right _ hy
      have hnd' := hm.inv.nodup
      rw [hm1, List.nodup_append] at hnd'
      have hyp : y ∉ postL st := fun h => hnd'.2.2 y h y hy rfl
      have : InProg cur y := (hm.prog y).2 (Or.inl ⟨hvis, hyp⟩)
      exact this.2 hyc
    have hrecv : Rec h (postL cur ++ [v]) v := by
      refine ⟨postL st, m1, [], by rw [hm1], ?_, ?_⟩
      · intro y hy
        have hyc : y ∈ postL cur := by rw [hm1]; exact List.mem_append_right _ hy
        exact (hs.reach y (hm.inv.vis y hyc) (hm1_new y hy)).of_white
      · intro x hx z hz
        rcases hm.inv0.reach hx hz with h1 | ⟨a, ha, hxa⟩
        · exact Or.inl h1
        · refine Or.inr ⟨a, ha.2, fun h => hm1_new a h ha.1, ?_, hxa⟩
          intro e; subst e; exact hm.unv ha.1
    refine ⟨⟨?_, ?_, ?_, ?_⟩, ?_, inProg_exit hm.prog hm.unv, ⟨m1, by rw [hpl, hm1]⟩⟩
    · rw [hpl]
      exact List.forall_mem_append.2 ⟨hm.inv.vis, List.forall_mem_singleton.2 hvprog.1⟩
    · rw [hpl]; exact nodup_exit hm.inv.nodup hvprog
    · rw [hpl]
      exact List.forall_mem_append.2 ⟨hm.inv.closed, List.forall_mem_singleton.2 hsucc⟩
    · rw [hpl]
      exact List.forall_mem_append.2 ⟨fun r h1 => (hm.inv.recs r h1).append [v], List.forall_mem_singleton.2 hrecv⟩
    · -- a successor of `v` is finished, or still in progress: `v` itself or one of its ancestors
      rw [hpl]
      refine hm.arcs.snoc fun y e => ?_
      by_cases hy : y ∈ postL cur
      · exact .inl hy
      · rcases (hm.prog y).1 ⟨hsucc y e, hy⟩ with h1 | rfl
        · exact .inr (hm.anc y h1)
        · exact .inr (.refl _)

theorem orders_dfs_spec {h : Graph} (hh : h.WF) :
    ∃ o, h.orders .dfs = .ok o ∧ IsPermOfRange h.n o.postOrder.toList ∧
      (∀ r, r < h.n → Rec h o.postOrder.toList r) ∧ PostArcs h o.postOrder.toList := by
  -- the loop over the vertices: between two traversals no vertex is in progress
  have key := list_loop_inv (loop := ordersLoop h .dfs)
    (I := fun done st => st.visited.size = h.n ∧ KInv h st ∧ PostArcs h (postL st) ∧ (∀ a, ¬ InProg st a) ∧
      ∀ v ∈ done, Vis st.visited v)
    (fun _ => rfl) (List.range h.n) (fun done v rest st hall ⟨hsz, hk, harcs, hnp, hd⟩ => ?_)
    ⟨Array.replicate h.n false, { preRank := Array.replicate h.n 0, postRank := Array.replicate h.n 0,
                                  preOrder := #[], postOrder := #[] }⟩
    ⟨by simp, ⟨by intro x hx; simp [postL] at hx, by simp [postL], by intro x hx; simp [postL] at hx,
      by intro x hx; simp [postL] at hx⟩, fun _ hx => absurd hx List.not_mem_nil,
      fun a ha => vis_replicate_false ha.1, by simp⟩
  · obtain ⟨st, h1, hsz, hk, harcs, hnp, hall⟩ := key
    have hmem : ∀ v, v < h.n → v ∈ postL st := fun v hv =>
      Classical.not_not.1 fun hn => hnp v ⟨hall v (List.mem_range.2 hv), hn⟩
    exact ⟨st.s, by simp only [Graph.orders, h1],
      ⟨hk.nodup, fun v => ⟨fun hv => by rw [← hsz]; exact vis_lt (hk.vis v hv), hmem v⟩⟩,
      fun r hr => hk.recs r (hmem r hr), harcs⟩
  · have hvn : v < h.n := List.mem_range.1 (by rw [hall]; simp)
    rcases vis_or_false (by rw [hsz]; exact hvn : v < st.visited.size) with h1 | h1
    · exact ⟨st, by simp only [ordersLoop, show st.visited[v]? = some true from h1], hsz, hk, harcs, hnp,
        List.forall_mem_append.2 ⟨hd, List.forall_mem_singleton.2 h1⟩⟩
    · obtain ⟨st1, hd1, hp, hstd⟩ :=
        dfs_orders hh _ v st ⟨hk, harcs, fun a ha => absurd ha (hnp a)⟩ hsz h1 (cntF_le_succ hsz)
      exact ⟨st1, by simp only [ordersLoop, h1, traverse, hd1], hstd.size, hp.inv, hp.arcs,
        fun a ha => hnp a ((hp.prog a).1 ha),
        List.forall_mem_append.2 ⟨fun x hx => hstd.grows x (hd x hx), List.forall_mem_singleton.2 hstd.self⟩⟩

theorem orders_dfs_acyclic {g : Graph} (hg : g.WF) (hac : Acyclic g.HasArc) :
    ∃ o, g.orders .dfs = .ok o ∧ IsPermOfRange g.n o.reversePostOrder ∧
      RespectsArcs g.HasArc o.reversePostOrder := by
  obtain ⟨o, h1, hperm, _, harcs⟩ := orders_dfs_spec hg
  refine ⟨o, h1, ⟨nodup_reverse hperm.1, fun v => List.mem_reverse.trans (hperm.2 v)⟩, fun u v e => ?_⟩
  obtain ⟨l1, l2, hl, hv⟩ := (harcs u ((hperm.2 u).2 (hg.src_lt e)) v e).resolve_right (hac u v e)
  obtain ⟨a, b, rfl⟩ := List.append_of_mem hv
  exact ⟨l2.reverse, b.reverse, a.reverse, by show o.postOrder.toList.reverse = _; rw [hl]; simp⟩

theorem rankLoop_spec : ∀ (vs : List Nat) (i : Nat) (rank : Array Nat), (∀ v ∈ vs, v < rank.size) → vs.Nodup →
    ∃ r, rankLoop vs i rank = .ok r ∧ r.size = rank.size ∧
      (∀ j v, vs[j]? = some v → r[v]? = some (i + j)) ∧ (∀ v, v ∉ vs → r[v]? = rank[v]?) := by
  intro vs
  induction vs with
  | nil => intro i rank _ _; exact ⟨rank, rfl, rfl, by simp, fun _ _ => rfl⟩
  | cons v vs ih =>
    intro i rank hlt hnd
    have hv : v < rank.size := hlt v (by simp)
    have hnd' := List.nodup_cons.1 hnd
    obtain ⟨r, k1, k2, k3, k4⟩ := ih (i + 1) (rank.set! v i)
      (fun w hw => by rw [size_set!]; exact hlt w (by simp [hw])) hnd'.2
    refine ⟨r, by simp only [rankLoop, hv, if_true]; exact k1, by rw [k2, size_set!], ?_, ?_⟩
    · intro j w hj
      cases j with
      | zero =>
        simp at hj; subst hj
        rw [k4 v hnd'.1, getElem?_set!_self _ _ hv]; simp
      | succ j =>
        have := k3 j w (by simpa using hj)
        rw [this]; congr 1; omega
    · intro w hw
      have hw' : w ∉ vs := fun h => hw (by simp [h])
      have hne : v ≠ w := fun e => hw (by simp [e])
      rw [k4 w hw', getElem?_set!_ne _ _ hne]

/-- **Topological**: returns for every graph; an order is reported iff the graph is acyclic; the reported
order lists every vertex once, every arc goes forward in it, and `rank` is its inverse. -/
theorem topological_spec {g : Graph} (hg : g.WF) :
    ∃ t, g.topological = .ok t ∧
      (t.order.isSome ↔ Acyclic g.HasArc) ∧ (t.rank.isSome ↔ t.order.isSome) ∧
      ∀ order, t.order = some order →
        IsPermOfRange g.n order ∧ RespectsArcs g.HasArc order ∧
        ∃ rank : Array Nat, t.rank = some rank ∧ rank.size = g.n ∧
          ∀ (j v : Nat), order[j]? = some v → rank[v]? = some j := by
  obtain ⟨c, hc, _, hiff⟩ := directedCycle_spec hg
  cases hcl : c.cycleList with
  | some cyc =>
    refine ⟨⟨none, none⟩, by simp [Graph.topological, hc, hcl], ?_, by simp, by simp⟩
    have : ¬ Acyclic g.HasArc := fun h => by rw [← hiff, hcl] at h; simp at h
    simp [this]
  | none =>
    have hac : Acyclic g.HasArc := hiff.1 hcl
    obtain ⟨o, ho, hperm, hresp⟩ := orders_dfs_acyclic hg hac
    obtain ⟨r, k1, k2, k3, _⟩ := rankLoop_spec o.reversePostOrder 0 (Array.replicate g.n 0)
      (by intro v hv; simp; exact (hperm.2 v).1 hv) hperm.1
    refine ⟨⟨some o.reversePostOrder, some r⟩, by simp [Graph.topological, hc, hcl, ho, k1], by simp [hac],
      by simp, ?_⟩
    intro order ho'
    have : o.reversePostOrder = order := by simpa using ho'
    subst this
    exact ⟨hperm, hresp, r, rfl, by simpa using k2, fun j v hj => by simpa using k3 j v hj⟩

end AlgoVerif.C14
