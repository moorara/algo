import AlgoVerif.Proofs.C12Sound
import AlgoVerif.Proofs.C10Cells
import AlgoVerif.Proofs.C10Valid
/-! The predictive parser accepts every sentence (and says so after finitely many steps) when the table
is conflict-free.

`ends_derives` is the one place where the table meets a derivation: a run follows any derivation from the stack whose
result begins as the input does, up to the first match.  Completeness is the case where the result is the input;
`Proofs/C12Term.lean` uses the same lemma for halting.

All of it is about any table `M` with the properties `TableLL1`; that the conflict-free table built from FIRST/FOLLOW has
them (`cell_tableLL1`) is shown in `Proofs/C12Term.lean`, which has the invariants of the analyses at hand. -/
set_option linter.unusedSectionVars false
namespace AlgoVerif.C10
open AlgoVerif AlgoVerif.Gram
variable {T N : Type} [DecidableEq T] [DecidableEq N]
variable {g : Grammar T N}

theorem DerivesN.append {g : Grammar T N} {a b : Nat} {α β γ δ : List (Sym T N)}
    (h₁ : DerivesN g a α β) (h₂ : DerivesN g b γ δ) : DerivesN g (a + b) (α ++ γ) (β ++ δ) :=
  (h₁.append_right γ).trans (h₂.append_left β)

theorem cell_tableSound (g : Grammar T N) (fi : List (Sym T N) → TE T) (fo : N → TEnd T) :
    TableSound g (cell g fi fo) := by
  intro A col p h
  obtain ⟨h1, h2, _⟩ := mem_cell.1 (by rw [h]; exact List.mem_singleton.2 rfl)
  exact ⟨h1, h2⟩

theorem cell_singleton {fi : List (Sym T N) → TE T}
    {fo : N → TEnd T} (hcf : conflicts g fi fo = []) {p : GProd T N} {col : Option T}
    (hp : p ∈ g.prods) (hA : p.head ∈ g.nonterms) (hcol : col ∈ columns g) (hin : InCellP fi fo p col) :
    cell g fi fo p.head col = [p] := by
  have hmem : p ∈ cell g fi fo p.head col := mem_cell.2 ⟨hp, rfl, hin⟩
  have hlen := conflictList_eq_nil_iff.1 hcf p.head hA col hcol
  match hc : cell g fi fo p.head col, hmem, hlen with
  | [x], hmem, _ =>
    simp at hmem; subst hmem; rfl
  | [], hmem, _ => cases hmem
  | _ :: _ :: _, _, hlen => simp at hlen

/-- everything the completeness and termination arguments use about the table; `Fo A col` reads "column `col` is in the
computed FOLLOW(A)" (the computed set may exceed the semantic one when not every non-terminal is reachable) -/
structure TableLL1 (g : Grammar T N) (M : N → Option T → List (GProd T N)) (Fo : N → Option T → Prop) : Prop where
  followT : ∀ A a, Spec.Follow g A a → Fo A (some a)
  followE : ∀ A, Spec.FollowEnd g A → Fo A none
  pick : ∀ (p : GProd T N) (col : Option T), p ∈ g.prods → p.head ∈ g.nonterms → col ∈ columns g →
    ((∃ a, col = some a ∧ Spec.First g p.body a) ∨ (Spec.Eps g p.body ∧ Fo p.head col)) →
    M p.head col = [p]
  shape : ∀ (A : N) (col : Option T), A ∈ g.nonterms →
    M A col = [] ∨ ∃ p, M A col = [p] ∧ p ∈ g.prods ∧ p.head = A ∧ col ∈ columns g ∧
      ((∃ a, col = some a ∧ Spec.First g p.body a) ∨ (Spec.Eps g p.body ∧ Fo A col))

theorem map_term_injective {a b : List T} (h : a.map (Sym.term (N := N)) = b.map Sym.term) : a = b :=
  (List.map_inj_right fun _ _ e => Sym.term.inj e).1 h

section
variable {g : Grammar T N}

/-- the sentential-form invariant of a run: consumed input followed by the stack derives from `S` -/
def Ctx (g : Grammar T N) (u : List T) (stack : List (Sym T N)) : Prop :=
  Derives g [Sym.nonterm g.start] (u.map Sym.term ++ stack)

theorem Ctx.declared (hv : validB g = true) {u : List T} {stack : List (Sym T N)} (h : Ctx g u stack) :
    ∀ s, s ∈ stack → symDeclared g s = true :=
  fun s hs => sentential_declared hv h s (List.mem_append_right _ hs)

theorem Ctx.head_nonterm (hv : validB g = true) {u : List T} {A : N} {σ : List (Sym T N)}
    (h : Ctx g u (Sym.nonterm A :: σ)) : A ∈ g.nonterms := by
  simpa [symDeclared] using h.declared hv _ (List.mem_cons_self ..)

theorem Ctx.expand {u : List T} {σ : List (Sym T N)} {p : GProd T N} (hp : p ∈ g.prods)
    (h : Ctx g u (Sym.nonterm p.head :: σ)) : Ctx g u (p.body ++ σ) :=
  h.trans (Derives.of_prod_in hp _ σ)

theorem Ctx.shift {u : List T} {σ : List (Sym T N)} {t : T} (h : Ctx g u (Sym.term t :: σ)) :
    Ctx g (u ++ [t]) σ := by
  unfold Ctx at h ⊢
  simpa [List.append_assoc] using h

end

section run
variable {g : Grammar T N} {M : N → Option T → List (GProd T N)} {Fo : N → Option T → Prop}
variable {P : PResult T N → Prop}

/-- from this stack and input the loop returns, whatever the position and the callbacks so far, with an answer in `P` -/
def Ends (M : N → Option T → List (GProd T N)) (P : PResult T N → Prop) (stack : List (Sym T N)) (input : List T) : Prop :=
  ∀ (pos : Nat) (evs : List (Event T N)), ∃ fuel r, parseLoop M fuel stack input pos evs = .ok r ∧ P r

theorem Ends.expand {A : N} {σ : List (Sym T N)} {input : List T} {p : GProd T N}
    (hM : M A input.head? = [p]) (h : Ends M P (p.body ++ σ) input) : Ends M P (Sym.nonterm A :: σ) input := by
  intro pos evs
  obtain ⟨fuel, r, hr, hP⟩ := h pos (Event.prod p :: evs)
  exact ⟨fuel + 1, r, by simp [parseLoop, hM, hr], hP⟩

theorem Ends.shift {t : T} {σ : List (Sym T N)} {rest : List T}
    (h : Ends M P σ rest) : Ends M P (Sym.term t :: σ) (t :: rest) := by
  intro pos evs
  obtain ⟨fuel, r, hr, hP⟩ := h (pos + 1) (Event.tok t pos :: evs)
  exact ⟨fuel + 1, r, by simp [parseLoop, hr], hP⟩

theorem Ends.nil (h : ∀ E, P (.accept E)) : Ends M P ([] : List (Sym T N)) [] :=
  fun _ evs => ⟨1, .accept evs.reverse, rfl, h _⟩

variable (hv : validB g = true) (hM : TableLL1 g M Fo)
include hv hM

/-- the production that rewrites the top non-terminal in the derivation is the one in the cell -/
theorem ends_derives {input : List T} {γ : List (Sym T N)}
    (hγ : γ.head? = input.head?.map Sym.term)
    (hnil : input = [] → ∀ E, P (.accept E))
    (hshort : ∀ a rest β, input = a :: rest → γ = Sym.term a :: β →
      ∀ (σ : List (Sym T N)) (u : List T), Ctx g u σ → Derives g σ β → Ends M P σ rest) :
    ∀ (n : Nat) (stack : List (Sym T N)) (u : List T),
      DerivesN g n stack γ → Ctx g u stack → Ends M P stack input := by
  intro n
  induction n using Nat.strongRecOn with
  | _ n ihn =>
    intro stack u hd hctx
    match stack with
    | [] =>
      obtain rfl := hd.of_nil.1
      cases input with
      | nil => exact Ends.nil (hnil rfl)
      | cons _ _ => cases hγ
    | .term t :: σ =>
      obtain ⟨γ', rfl, hd'⟩ := hd.of_term_cons
      cases input with
      | nil => cases hγ
      | cons a rest =>
        cases hγ
        exact (hshort t rest γ' rfl rfl σ (u ++ [t]) hctx.shift hd'.toDerives).shift
    | .nonterm A :: σ =>
      obtain ⟨q, k, n₂, γ₁, γ₂, hq, rfl, rfl, rfl, dq, d₂⟩ :=
        hd.of_nonterm_cons (by rw [hγ]; cases input <;> simp)
      have hfull : Ctx g u (γ₁ ++ γ₂) := hctx.trans (hd.toDerives.append_left _)
      have hcol : input.head? ∈ columns g := by
        cases input with
        | nil => exact mem_columns_none
        | cons a _ =>
          have hm : Sym.term a ∈ γ₁ ++ γ₂ := List.mem_of_mem_head? (by rw [hγ]; rfl)
          exact mem_columns_some (by simpa [symDeclared] using hfull.declared hv _ hm)
      have hpick : M q.head input.head? = [q] := by
        apply hM.pick q _ hq (hctx.head_nonterm hv) hcol
        cases γ₁ with
        | cons c γ₁' =>
          -- the body of `q` produces the lookahead
          cases input with
          | nil => cases hγ
          | cons a _ =>
            cases hγ
            exact Or.inl ⟨a, rfl, γ₁', dq.toDerives⟩
        | nil =>
          -- the body of `q` vanishes, and what follows `A` in `S ⇒* u A σ ⇒* u A γ₂` is the lookahead
          refine Or.inr ⟨dq.toDerives, ?_⟩
          have hA : Derives g [Sym.nonterm g.start] (u.map Sym.term ++ [Sym.nonterm q.head] ++ γ₂) := by
            simpa [Ctx] using hctx.trans ((d₂.toDerives.append_left [Sym.nonterm q.head]).append_left (u.map Sym.term))
          cases input with
          | nil =>
            obtain rfl : γ₂ = [] := List.head?_eq_none_iff.1 hγ
            exact hM.followE _ ⟨u.map Sym.term, by simpa using hA⟩
          | cons a _ =>
            obtain ⟨β, rfl⟩ : ∃ β, γ₂ = Sym.term a :: β := by
              cases γ₂ with
              | nil => cases hγ
              | cons c β => cases hγ; exact ⟨β, rfl⟩
            exact hM.followT _ a ⟨u.map Sym.term, β, by simpa using hA⟩
      exact Ends.expand hpick (ihn (k + n₂) (by omega) _ u (DerivesN.append dq d₂) (hctx.expand hq))

theorem accepts_of_derives : ∀ (input : List T) (stack : List (Sym T N)) (u : List T),
    Derives g stack (input.map Sym.term) → Ctx g u stack → Ends M (fun r => ∃ E, r = .accept E) stack input := by
  intro input
  induction input with
  | nil =>
    intro stack u hd hctx
    obtain ⟨n, hn⟩ := hd.toDerivesN
    exact ends_derives hv hM (input := []) rfl (fun _ E => ⟨E, rfl⟩) (fun _ _ _ h => nomatch h) n stack u hn hctx
  | cons a rest ih =>
    intro stack u hd hctx
    obtain ⟨n, hn⟩ := hd.toDerivesN
    refine ends_derives hv hM rfl nofun (fun a' rest' β hi hγ σ u' hc hσ => ?_) n stack u hn hctx
    cases hi; cases hγ
    exact ih σ u' hσ hc

end run

end AlgoVerif.C10
