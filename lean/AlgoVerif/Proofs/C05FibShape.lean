import AlgoVerif.Proofs.C05Fibonacci
import AlgoVerif.Proofs.C04MaxDegree
/-!
# Shape invariant of the indexed Fibonacci heap Model (degree bound under toggled marks)

`WFc` for a child list read from `parent.child` (newest child first): every node's `degree` field is the length
of its child list and, for a child `c` followed by `r` older siblings, `r ≤ c.degree + 1`, and even
`r ≤ c.degree` while `c.mark = false`.  The code toggles `mark` on every lost child and cuts the node when the
mark becomes false again, and never clears a mark on link or cut: a child with `mark = false` has lost no child
since it was linked, a child with `mark = true` at most one — which is all the classical size argument needs.
-/
namespace AlgoVerif.C05

/-! ## The Model's integer `⌊log_φ n⌋`

Only what the index-safety of `consolidate` needs: a tree whose root has degree `d` has at least `fibn (d+2)`
nodes (`C04.fibn`, the Fibonacci numbers), and `fibn (d+2) ≤ n` implies `d ≤ logPhi n`, i.e. `d < maxDegree n`.
The loop of this Model is the loop of the Model of the plain Fibonacci heap (`heap/fibonacci.go` has the same
`maxDegree`), so the bound is the one of `Proofs/C04MaxDegree`.
-/

/-- the loop is the loop of `Model/C04` with the arguments in another order and the exponent shifted by one -/
theorem logPhiLoop_eq (n : Nat) : ∀ (fuel k : Nat),
    logPhiLoop fuel k (C04.lucas k) (C04.lucas (k + 1)) n =
      C04.logPhiLoop n fuel (k + 1) (C04.lucas (k + 1)) (C04.lucas k) := by
  intro fuel
  induction fuel with
  | zero => intro k; rfl
  | succ fuel ih =>
    intro k
    have := ih (k + 1)
    rw [C04.lucas_add_two] at this
    simp only [logPhiLoop, C04.logPhiLoop, C04.phiPowLe, Nat.add_comm (C04.lucas k), this]
    split <;> simp

theorem degree_lt_maxDegree {d n : Nat} (h : C04.fibn (d + 2) ≤ n) : d < logPhi n + 1 := by
  have e : logPhi n = C04.logPhiLoop n n 1 1 2 := logPhiLoop_eq n n 0
  rw [e]
  exact Nat.lt_succ_of_le (C04.le_logPhiLoop n d n (Nat.le_refl _) h)

namespace FT

def len : FT → Nat
  | nil => 0
  | node _ _ _ _ nx => len nx + 1

def WFc : FT → Prop
  | nil => True
  | node _ d m c nx =>
    d = (len c : Int) ∧ WFc c ∧ WFc nx ∧ (len nx : Int) ≤ d + 1 ∧ (m = false → (len nx : Int) ≤ d)

theorem ids_length : ∀ t : FT, (ids t).length = size t
  | nil => rfl
  | node _ _ _ c nx => by
    simp only [ids, size, List.length_cons, List.length_append, ids_length c, ids_length nx]

theorem WFc.size_bound : ∀ t : FT, WFc t → C04.fibn (len t + 2) ≤ size t + 1
  | nil, _ => by simp [len, size, C04.fibn]
  | node _ d m c nx, h => by
    obtain ⟨hd, hc, hn, hle, _⟩ := h
    have ihc := WFc.size_bound c hc
    have ihn := WFc.size_bound nx hn
    simp only [len, size]
    have e : C04.fibn (len nx + 3) = C04.fibn (len nx + 2) + C04.fibn (len nx + 1) := C04.fibn_add_two (len nx + 1)
    have hm : C04.fibn (len nx + 1) ≤ C04.fibn (len c + 2) := C04.fibn_mono (by omega)
    show C04.fibn (len nx + 3) ≤ size c + size nx + 1 + 1
    omega

theorem toList_length : ∀ t : FT, (toList t).length = len t
  | nil => rfl
  | node _ _ _ _ nx => by simp [toList, len, toList_length nx]

end FT

namespace FN

def OK (r : FN) : Prop := r.degree = (r.child.len : Int) ∧ r.child.WFc

theorem OK.size_bound {r : FN} (h : r.OK) : C04.fibn (r.child.len + 2) ≤ (FN.ids r).length := by
  have := FT.WFc.size_bound r.child h.2
  simp only [FN.ids, List.length_cons, FT.ids_length]
  omega

end FN

namespace FT

theorem WFc.toList_ok : ∀ t : FT, WFc t → ∀ f, f ∈ toList t → f.OK
  | nil, _, f, hf => by simp [toList] at hf
  | node id d m c nx, h, f, hf => by
    simp only [toList, List.mem_cons] at hf
    rcases hf with rfl | hf
    · exact ⟨h.1, h.2.1⟩
    · exact WFc.toList_ok nx h.2.2.1 f hf

theorem cutIn_wf (target : Nat) : ∀ (t t' : FT) (cuts : List FN) (b : Bool), WFc t →
    cutIn target t = some (t', cuts, b) →
    WFc t' ∧ (∀ f, f ∈ cuts → f.OK) ∧ len t' + (if b then 1 else 0) = len t
  | nil, _, _, _, _, h => by simp [cutIn] at h
  | node id d m c nx, t', cuts, b, hw, h => by
    obtain ⟨hd, hc, hn, hle, hm⟩ := hw
    rcases cutIn_node h with ⟨-, rfl, rfl, rfl⟩ | ⟨c', cuts', hcut, ⟨rfl, rfl, rfl, rfl⟩ | ⟨rfl, rfl, rfl, rfl⟩⟩ |
      ⟨c', hcut, rfl, rfl⟩ | ⟨nx', hcut, rfl⟩
    · refine ⟨hn, ?_, by simp [len]⟩
      intro f hf
      simp only [List.mem_singleton] at hf
      subst hf
      exact ⟨hd, hc⟩
    · obtain ⟨hc', hok, hlen⟩ := cutIn_wf target c c' _ true hc hcut
      simp only [if_true] at hlen
      refine ⟨⟨by omega, hc', hn, ?_, fun h => by cases h⟩, hok, by simp [len]⟩
      have := hm rfl
      omega
    · obtain ⟨hc', hok, hlen⟩ := cutIn_wf target c c' cuts' true hc hcut
      simp only [if_true] at hlen
      refine ⟨hn, ?_, by simp [len]⟩
      intro f hf
      rcases List.mem_append.mp hf with hf | hf
      · exact hok f hf
      · simp only [List.mem_singleton] at hf
        subst hf
        exact ⟨by show d - 1 = (FT.len c' : Int); omega, hc'⟩
    · obtain ⟨hc', hok, hlen⟩ := cutIn_wf target c c' _ false hc hcut
      simp at hlen
      exact ⟨⟨by omega, hc', hn, hle, hm⟩, hok, by simp [len]⟩
    · obtain ⟨hn', hok, hlen⟩ := cutIn_wf target nx nx' _ _ hn hcut
      have hl : len nx' ≤ len nx := by split at hlen <;> omega
      refine ⟨⟨hd, hc, hn', by omega, fun h => by have := hm h; omega⟩, hok, ?_⟩
      simp only [len]; split at hlen <;> simp_all <;> omega

end FT

namespace IFib

theorem linked_ok {ch r : FN} (hch : ch.OK) (hr : r.OK) (hd : r.degree = ch.degree) : (linked ch r).OK := by
  refine ⟨?_, hch.1, hch.2, hr.2, ?_, ?_⟩
  · show r.degree + 1 = ((FT.len r.child + 1 : Nat) : Int)
    rw [hr.1]; omega
  · rw [← hd, hr.1]; omega
  · intro _; rw [← hd, hr.1]; omega

theorem meldChildren_ok {rest ch : List FN} (hr : ∀ f, f ∈ rest → f.OK) (hc : ∀ f, f ∈ ch → f.OK) :
    ∀ f, f ∈ meldChildren rest ch → f.OK := by
  intro f hf
  have := (meldChildren_perm rest ch).mem_iff.mp hf
  rcases List.mem_append.mp this with h | h
  · exact hr f h
  · exact hc f h

end IFib
end AlgoVerif.C05
