import AlgoVerif.Proofs.Outcome
import AlgoVerif.Proofs.C05FibCons
/-!
# The operations of the indexed Fibonacci heap Model, each in one statement for every comparator

An operation is a composition of steps on the store (`Reg.insert/remove/setKey`) and of regroupings of the roots
(`cutAndCascade_spec`, `Trees.meld`, `consolidate_spec`, a rotation), which keep `Trees` over the same node set;
`Mid.of_trees` puts the two together.  Every routine and every operation returns and keeps `InvS` whatever the
comparator is; the order facts are stated under `LawfulCmp cmp →`.  The one exception is a key decrease:
`finishDecrease` may ask for a non-root entry when `cmp` is not transitive, which the Model answers with `panic`, so
`finishDecrease_spec`, `decreaseKey_spec`, `changeKey_spec`, `step_spec` say "what is returned keeps `InvS` and is
admitted" and "under a lawful comparator the call returns" separately.
-/
namespace AlgoVerif.C05
open AlgoVerif.C05.Hole

namespace FT

theorem parentIn_spec (target : Nat) : ∀ (t : FT) (par p : Nat), parentIn target t par = some p →
    (p = par ∧ target ∈ chainIds t) ∨ (p, target) ∈ pairs t
  | nil, _, _, h => by simp [parentIn] at h
  | node id d m c nx, par, p, h => by
    simp only [parentIn] at h
    split at h
    · rename_i hid
      cases h
      exact Or.inl ⟨rfl, by simp [chainIds, hid]⟩
    · split at h
      · rename_i r hr
        cases h
        refine Or.inr (mem_pairs_node.mpr ?_)
        rcases parentIn_spec target c id _ hr with ⟨e, hch⟩ | hex
        · exact Or.inl ⟨e, hch⟩
        · exact Or.inr (Or.inl hex)
      · rcases parentIn_spec target nx par p h with ⟨e, hch⟩ | hex
        · exact Or.inl ⟨e, by simp [chainIds, hch]⟩
        · exact Or.inr (mem_pairs_node.mpr (Or.inr (Or.inr hex)))

theorem parentIn_some (target : Nat) : ∀ (t : FT) (par : Nat), target ∈ ids t → ∃ p, parentIn target t par = some p
  | nil, _, h => by simp [ids] at h
  | node id d m c nx, par, h => by
    simp only [parentIn]
    by_cases hid : id = target
    · exact ⟨par, by rw [if_pos hid]⟩
    · rw [if_neg hid]
      simp only [ids, List.mem_cons, List.mem_append] at h
      cases hc : parentIn target c id with
      | some r => exact ⟨r, rfl⟩
      | none =>
        simp only []
        rcases h with h | h | h
        · exact absurd h.symm hid
        · obtain ⟨p, hp⟩ := parentIn_some target c id h
          rw [hp] at hc; cases hc
        · exact parentIn_some target nx par h

end FT

namespace IFib
variable {K V : Type} {cmp : K → K → Int} {eq : V → V → Bool} {cap : Nat} {S : List Nat}
  {P : Spec.Map K V → K → Prop}

theorem parentOf_spec (target : Nat) : ∀ (l : List FN), (rootsIds l).Nodup → target ∈ rootsIds l →
    ∃ par, parentOf target l = some par ∧
      (par = none → target ∈ topIds l) ∧
      (∀ p, par = some p → (p, target) ∈ rootsPairs l ∧ ∀ a, (a, target) ∈ rootsPairs l → a = p) := by
  have found : ∀ (l : List FN), target ∈ rootsIds l → ∃ par, parentOf target l = some par ∧
      (par = none → target ∈ topIds l) ∧ (∀ p, par = some p → (p, target) ∈ rootsPairs l) := by
    intro l
    induction l with
    | nil => intro h; simp [rootsIds] at h
    | cons r rs ih =>
      intro h
      simp only [parentOf]
      by_cases hid : r.id = target
      · rw [if_pos hid]
        exact ⟨none, rfl, fun _ => by simp [topIds, hid], fun p hp => by cases hp⟩
      · rw [if_neg hid]
        rw [rootsIds_cons, List.mem_append] at h
        cases hc : r.child.parentIn target r.id with
        | some p =>
          simp only []
          refine ⟨some p, rfl, (fun e => by cases e), fun p' hp' => ?_⟩
          cases hp'
          rw [rootsPairs_cons, List.mem_append]
          exact Or.inl (FN.mem_pairs.mpr (FT.parentIn_spec target _ _ _ hc))
        | none =>
          simp only []
          have hrs : target ∈ rootsIds rs := by
            rcases h with h | h
            · simp only [FN.ids, List.mem_cons] at h
              rcases h with h | h
              · exact absurd h.symm hid
              · obtain ⟨q, hq⟩ := FT.parentIn_some target _ r.id h
                rw [hq] at hc; cases hc
            · exact h
          obtain ⟨par, he, h1, h2⟩ := ih hrs
          refine ⟨par, he, fun e => ?_, fun p hp => ?_⟩
          · simp only [topIds, List.map_cons, List.mem_cons]
            exact Or.inr (h1 e)
          · rw [rootsPairs_cons, List.mem_append]
            exact Or.inr (h2 p hp)
  intro l hnd h
  obtain ⟨par, he, h1, h2⟩ := found l h
  rw [← rootsIds_skel] at hnd
  exact ⟨par, he, h1, fun p hp => ⟨h2 p hp, fun a ha => BT.parent_unique _ hnd a p target
    ((rootsPairs_skel l _).mpr ha) ((rootsPairs_skel l _).mpr (h2 p hp))⟩⟩

structure Extra (cmp : K → K → Int) (h : IFib K V) : Prop where
  nlen : h.n = ((rootsIds h.roots).length : Int)
  ok : ∀ f, f ∈ h.roots → f.OK
  ho : HO cmp (kf h) h.roots
  ext : ExtAll cmp (kf h) h.roots

/-- `InvS` with the order facts outright (`InvS.invF`, `InvS.of_invF`): the invariant `C05_ifibonacci_invariant` states
for a lawful comparator -/
structure InvF (cmp : K → K → Int) (cap : Nat) (h : IFib K V) : Prop where
  inv : Inv cap h
  extra : Extra cmp h

theorem InvS.invF {h : IFib K V} (iv : InvS cmp cap h) (hc : LawfulCmp cmp) : InvF cmp cap h :=
  ⟨iv.inv, iv.nlen, iv.trees.ok, iv.trees.ho hc, iv.ext hc⟩

theorem InvS.of_invF {h : IFib K V} (iv : InvF cmp cap h) : InvS cmp cap h :=
  ⟨⟨iv.inv, iv.extra.nlen, .refl _, iv.extra.ok, fun _ => iv.extra.ho⟩, fun _ => iv.extra.ext⟩

theorem removeRoot_spec {h : IFib K V} (m : Mid cmp cap h) {x : Nat} (hx : x ∈ topIds h.roots) :
    ∃ h' c, removeRoot cmp h x = .ok (h', c) ∧ h.cells[x]? = some c ∧ InvS cmp cap h' ∧
      abs h' = (abs h).set (c.index : Int) none ∧ abs h (c.index : Int) = some (c.key, c.val) := by
  have r := m.inv.reg
  obtain ⟨rn, hrn⟩ := (findRoot_some_iff h.roots x).mpr hx
  obtain ⟨c, hc', hnc⟩ := r.reg x (topIds_sub _ _ hx)
  have hperm := removeRoot_perm hrn
  have hlen := hperm.length_eq
  simp only [List.length_cons] at hlen
  obtain ⟨r', habs, hheld, hlt⟩ := r.remove hperm hc'
  have m1 : Mid cmp cap { h with roots := meldChildren (eraseRoot x h.roots) rn.child.toList,
                                 nodes := h.nodes.setIfInBounds c.index none, n := h.n - 1 } :=
    Mid.of_trees r' (by
        show h.n - 1 = ((Spec.card cap (absOf _ _) : Nat) : Int)
        rw [habs]; exact Spec.card_remove m.inv.card ⟨Int.natCast_nonneg _, Int.ofNat_lt.mpr hlt⟩ hheld)
      (by show h.n - 1 = _; have := m.nlen; omega) (m.trees.meld hrn)
  unfold removeRoot
  simp only [hrn, hc']
  rw [if_pos (lt_size_of_getElem? hnc)]
  split
  · rename_i hemp
    refine ⟨_, c, rfl, rfl, ⟨m1, fun _ e he => ?_⟩, habs, hheld⟩
    have : (meldChildren (eraseRoot x h.roots) rn.child.toList) = [] := by simpa using hemp
    rw [show _ = ([] : List FN).head? from congrArg List.head? this] at he; cases he
  · rename_i hemp
    obtain ⟨l, hcons, iv⟩ := consolidate_spec m1 (fun e => hemp (by simpa using e))
    rw [hcons]
    exact ⟨_, c, rfl, rfl, iv, habs, hheld⟩

theorem deleteNode_spec {h : IFib K V} (m : Mid cmp cap h) {id : Nat} (hid : id ∈ rootsIds h.roots) :
    ∃ h' c, deleteNode cmp h id = .ok (h', c) ∧ h.cells[id]? = some c ∧ InvS cmp cap h' ∧
      abs h' = (abs h).set (c.index : Int) none ∧ abs h (c.index : Int) = some (c.key, c.val) := by
  obtain ⟨l, hcut, F, htop, _⟩ := cutAndCascade_spec m.trees hid
  unfold deleteNode
  rw [hcut]
  exact removeRoot_spec (m.roots F) htop

/-- `h.ext = pickExt(h.ext, x)` -/
theorem pickExt_le (hc : LawfulCmp cmp) {f : Nat → Option K} {e x : Nat} {ke kx : K} (hke : f e = some ke)
    (hkx : f x = some kx) (hrest : ∀ y, y ∈ S → y ≠ x → LeP cmp f e y) :
    (cmp ke kx ≤ 0 → ∀ y, y ∈ S → LeP cmp f e y) ∧ (¬ cmp ke kx ≤ 0 → ∀ y, y ∈ S → LeP cmp f x y) := by
  refine ⟨fun hle y hy => ?_, fun hle y hy => ?_⟩ <;> by_cases hyx : y = x
  · subst hyx; exact ⟨ke, kx, hke, hkx, hle⟩
  · exact hrest y hy hyx
  · subst hyx; exact LeP.refl hc hkx
  · exact leP_trans hc _ _ _ ⟨kx, ke, hkx, hke, hc.anti _ _ (by omega)⟩ (hrest y hy hyx)

theorem insertRoots_spec {h : IFib K V} (rd : Readable h.cells (rootsIds h.roots)) (key : K) (nd : FN) :
    ∃ R, insertRoots cmp h key nd = .ok R ∧ R.Perm (nd :: h.roots) ∧
      ∀ e, h.roots.head? = some e → ∃ ke, kf h e.id = some ke ∧ R.head? = some (if cmp ke key ≤ 0 then e else nd) := by
  unfold insertRoots
  cases hroots : h.roots with
  | nil => exact ⟨[nd], rfl, List.Perm.refl _, fun e he => by cases he⟩
  | cons e rest =>
    simp only []
    obtain ⟨ke, hke⟩ := kf_some rd (id := e.id) (topIds_sub _ _ (by rw [hroots]; simp [topIds]))
    rw [keyOf_of_kf hke]
    simp only []
    have hke' : ∀ e', (e :: rest).head? = some e' → kf h e'.id = some ke := fun e' he' => by cases he'; exact hke
    by_cases hle : cmp ke key ≤ 0
    · rw [if_pos hle]
      exact ⟨_, rfl, List.perm_append_comm, fun e' he' => ⟨ke, hke' e' he', by cases he'; rw [if_pos hle]; rfl⟩⟩
    · rw [if_neg hle]
      exact ⟨_, rfl, List.Perm.refl _, fun e' he' => ⟨ke, hke' e' he', by rw [if_neg hle]; rfl⟩⟩

theorem insert_spec {h : IFib K V} (iv : InvS cmp cap h) (i : Int) (key : K) (val : V) :
    ∃ h' b, h.insert cmp i key val = .ok (h', b) ∧
      ((b = false ∧ h' = h ∧ ¬ (Spec.InRange cap i ∧ abs h i = none)) ∨
       (b = true ∧ Spec.InRange cap i ∧ abs h i = none ∧ InvS cmp cap h' ∧
         abs h' = (abs h).set i (some (key, val)))) := by
  have r := iv.inv.reg
  unfold insert
  rw [containsIndex_eq r]
  split
  · rename_i hcond
    exact ⟨h, false, rfl, Or.inl ⟨rfl, rfl, r.insert_refused hcond⟩⟩
  · rename_i hcond
    obtain ⟨hr, hnone, hlt, r', habs'⟩ := r.insert_free hcond key val
    obtain ⟨R, hR, hperm, hhead⟩ := insertRoots_spec (cmp := cmp) r.readable key
      (⟨h.cells.size, 0, false, .nil⟩ : FN)
    simp only []
    rw [hR]
    simp only []
    rw [if_pos hlt]
    have hk1 : ∀ y, y ∈ rootsIds h.roots → kf (⟨h.n + 1, R, h.nodes.setIfInBounds i.toNat (some h.cells.size),
        h.cells.push ⟨i.toNat, key, val⟩⟩ : IFib K V) y = kf h y := by
      intro y hy
      obtain ⟨c, hc', _⟩ := r.reg y hy
      have := lt_size_of_getElem? hc'
      unfold kf; rw [Array.getElem?_push, if_neg (by omega)]
    have hk2 : kf (⟨h.n + 1, R, h.nodes.setIfInBounds i.toNat (some h.cells.size),
        h.cells.push ⟨i.toNat, key, val⟩⟩ : IFib K V) h.cells.size = some key := by
      unfold kf; rw [Array.getElem?_push, if_pos rfl]; rfl
    have F := ((iv.trees.congr hk1).cons_leaf h.cells.size).of_perm hperm
    refine ⟨_, true, rfl, Or.inr ⟨rfl, hr, hnone, ⟨Mid.of_trees r' ?_ ?_ F, fun hc e0 he0 y hy => ?_⟩, habs'⟩⟩
    · show h.n + 1 = ((Spec.card cap (absOf _ _) : Nat) : Int)
      rw [habs']; exact Spec.card_insert iv.inv.card hr hnone _
    · show h.n + 1 = _
      rw [iv.nlen]; simp
    · have hy' := F.perm.mem_iff.mp hy
      cases hroots : h.roots with
      | nil =>
        rw [hroots] at hperm hy'
        have : R = [_] := List.perm_singleton.mp hperm
        rw [show _ = R.head? from rfl, this] at he0; cases he0
        simp only [rootsIds_nil, List.mem_singleton] at hy'
        rw [hy']; exact LeP.refl hc hk2
      | cons e rest =>
        have he : h.roots.head? = some e := by rw [hroots]; rfl
        obtain ⟨ke, hke, hRh⟩ := hhead e he
        have hemem : e.id ∈ rootsIds h.roots := topIds_sub _ _ (by rw [hroots]; simp [topIds])
        have pick := pickExt_le hc ((hk1 _ hemem).trans hke) hk2 (S := h.cells.size :: rootsIds h.roots)
          fun y hy hne => LeP.congr (hk1 _ hemem) (hk1 y ((List.mem_cons.mp hy).resolve_left hne))
            (iv.ext hc e he y ((List.mem_cons.mp hy).resolve_left hne))
        rw [show _ = R.head? from rfl, hRh] at he0; cases he0
        split
        · rename_i hle; exact pick.1 hle y hy'
        · rename_i hle; exact pick.2 hle y hy'

/-- the last line of a key decrease: it returns unless `id` is not a root, and a non-root `id` with a parent before it is
not asked for under a lawful comparator -/
theorem finishDecrease_spec {h : IFib K V} (m : Mid cmp cap h) {id : Nat} {key : K} (hmem : id ∈ rootsIds h.roots)
    (hkid : kf h id = some key)
    (hrest : LawfulCmp cmp → ∀ e, h.roots.head? = some e → ∀ y, y ∈ rootsIds h.roots → y ≠ id → LeP cmp (kf h) e.id y)
    (hor : id ∈ topIds h.roots ∨ ∃ p, p ≠ id ∧ p ∈ rootsIds h.roots ∧ LeP cmp (kf h) p id) :
    (∀ hb, finishDecrease cmp h id key = .ok hb → hb.2 = true ∧ InvS cmp cap hb.1 ∧ abs hb.1 = abs h) ∧
    (LawfulCmp cmp → ∃ hb, finishDecrease cmp h id key = .ok hb) := by
  unfold finishDecrease
  cases hr : h.roots with
  | nil => rw [hr] at hmem; simp [rootsIds] at hmem
  | cons e rest =>
    simp only []
    have hhead : h.roots.head? = some e := by rw [hr]; rfl
    obtain ⟨ke, hke⟩ := kf_some m.inv.reg.readable (id := e.id) (topIds_sub _ _ (by rw [hr]; simp [topIds]))
    rw [keyOf_of_kf hke]
    simp only []
    have pick := fun hc => pickExt_le hc hke hkid (hrest hc e hhead)
    by_cases hle : cmp ke key ≤ 0
    · rw [if_pos hle]
      refine Outcome.of_forward _ ⟨(h, true), rfl, rfl, ⟨m, fun hc e' he' => ?_⟩, rfl⟩
      rw [hhead] at he'; cases he'
      exact (pick hc).1 hle
    · rw [if_neg hle, ← hr]
      by_cases hidtop : id ∈ topIds h.roots
      · obtain ⟨l', hrot, hperm', e'', hhead', hid'⟩ := rotateTo_spec h.roots id hidtop
        rw [hrot]
        refine Outcome.of_forward _ ⟨(_, true), rfl, rfl, ⟨m.roots (m.trees.of_perm hperm'), fun hc e' he' y hy => ?_⟩, rfl⟩
        rw [show _ = some e'' from hhead'] at he'; cases he'
        rw [hid']
        exact (pick hc).2 hle y ((rootsIds_perm hperm').mem_iff.mp hy)
      · -- the Model refuses to make a non-root the entry
        rw [rotateTo_none _ _ hidtop]
        simp only []
        refine ⟨fun _ he => (by cases he), fun hc => ?_⟩
        exfalso
        obtain ⟨p, hpid, hpmem, hple⟩ := hor.resolve_left hidtop
        obtain ⟨ka, kb, hka, hkb, hab⟩ := leP_trans hc _ _ _ (hrest hc e hhead p hpmem hpid) hple
        rw [hke] at hka; rw [hkid] at hkb; cases hka; cases hkb; exact hle hab

theorem decreaseKey_spec {h h1 : IFib K V} (iv : InvS cmp cap h) {id : Nat} {c : Cell K V} {key : K}
    (hmem : id ∈ rootsIds h.roots) (hcell : h.cells[id]? = some c) (hlt : cmp key c.key < 0)
    (hh1 : h1 = { h with cells := h.cells.setIfInBounds id { c with key := key } })
    (hcard : h1.n = (Spec.card cap (abs h1) : Int)) :
    (∀ hb, decreaseKey cmp h1 id key = .ok hb → hb.2 = true ∧ InvS cmp cap hb.1 ∧ abs hb.1 = abs h1) ∧
    (LawfulCmp cmp → ∃ hb, decreaseKey cmp h1 id key = .ok hb) := by
  have r := iv.inv.reg
  have hnd := r.nodup
  obtain ⟨r1, _⟩ := r.setKey hmem hcell key
  have hidlt := lt_size_of_getElem? hcell
  have hcells1 : h1.cells = h.cells.setIfInBounds id { c with key := key } := by rw [hh1]
  have hkid : kf h1 id = some key := by
    unfold kf; rw [hcells1, Array.getElem?_setIfInBounds, if_pos rfl, if_pos hidlt]; rfl
  have hkoth : ∀ y, y ≠ id → kf h1 y = kf h y := by
    intro y hy
    unfold kf; rw [hcells1, Array.getElem?_setIfInBounds, if_neg (fun e => hy e.symm)]
  have hkold : kf h id = some c.key := by unfold kf; rw [hcell]; rfl
  -- the key of `id` only went down: what was before a node other than `id` still is
  have hdec : LawfulCmp cmp → ∀ a b, b ≠ id → LeP cmp (kf h) a b → LeP cmp (kf h1) a b := by
    intro hc a b hb ⟨ka, kb, hka, hkb, hle⟩
    by_cases ha : a = id
    · subst ha
      rw [hkold] at hka; cases hka
      exact ⟨key, kb, hkid, by rw [hkoth b hb]; exact hkb, hc.trans _ _ _ (by omega) hle⟩
    · exact ⟨ka, kb, by rw [hkoth a ha]; exact hka, by rw [hkoth b hb]; exact hkb, hle⟩
  -- so a regrouped root list is a forest for the new keys as soon as the pairs into `id` are in order
  have hfor : ∀ {l}, Trees cmp (kf h) (rootsIds h.roots) l →
      (∀ a, (a, id) ∈ rootsPairs l → LeP cmp (kf h1) a id) → Trees cmp (kf h1) (rootsIds h.roots) l :=
    fun F hid => ⟨F.perm, F.ok, fun hc a b hab =>
      if hb : b = id then hb ▸ hid a (hb ▸ hab) else hdec hc a b hb (F.ho hc a b hab)⟩
  obtain ⟨par, hpar, hparroot, hparsome⟩ := parentOf_spec id h.roots hnd hmem
  have hmid : ∃ b l2, needsCut cmp h1 par key = .ok b ∧
      (if b = true then cutAndCascade h1 id else .ok h1) = .ok { h1 with roots := l2 } ∧
      Trees cmp (kf h1) (rootsIds h.roots) l2 ∧ l2.head?.map (·.id) = h.roots.head?.map (·.id) ∧
      (id ∈ topIds l2 ∨ ∃ p, p ≠ id ∧ p ∈ rootsIds h.roots ∧ LeP cmp (kf h1) p id) := by
    cases par with
    | none =>
      have hroot := hparroot rfl
      exact ⟨false, h.roots, rfl, by rw [hh1]; rfl,
        hfor iv.trees fun a hab => absurd hab (root_no_parent h.roots hnd id a hroot), rfl, Or.inl hroot⟩
    | some p =>
      obtain ⟨hpair, huniq⟩ := hparsome p rfl
      have hpmem := (rootsPairs_mem_ids hpair).1
      have hpid : p ≠ id := fun e => rootsPairs_irrefl h.roots hnd id (e ▸ hpair)
      obtain ⟨kp, hkp⟩ := kf_some r.readable hpmem
      have hkp1 : kf h1 p = some kp := by rw [hkoth p hpid]; exact hkp
      have hnc : needsCut cmp h1 (some p) key = .ok (decide (0 < cmp kp key)) := by
        simp only [needsCut, keyOf_of_kf hkp1]
      rw [hnc]
      by_cases hgt : 0 < cmp kp key
      ·
        obtain ⟨l2, hcut, F2, htop, hhead⟩ := cutAndCascade_spec (h := h1) (by rw [hh1]; exact iv.trees) hmem
        refine ⟨true, l2, by simp [hgt], by simpa using hcut,
          hfor F2 fun a hab => absurd hab (root_no_parent l2 (F2.perm.nodup_iff.mpr hnd) id a htop),
          by rw [hhead, hh1], Or.inl htop⟩
      · exact ⟨false, h.roots, by simp [hgt], by rw [hh1]; rfl,
          hfor iv.trees fun a hab => huniq a hab ▸ ⟨kp, key, hkp1, hkid, by omega⟩, rfl,
          Or.inr ⟨p, hpid, hpmem, kp, key, hkp1, hkid, by omega⟩⟩
  obtain ⟨b, l2, hb, hcutres, F2, hhead2, hor⟩ := hmid
  have m2 : Mid cmp cap { h1 with roots := l2 } :=
    Mid.of_trees (h := { h1 with roots := l2 }) (by rw [hh1]; exact r1) hcard (by rw [hh1]; exact iv.nlen) F2
  unfold decreaseKey
  rw [show h1.roots = h.roots by rw [hh1], hpar]
  simp only []
  rw [hb]
  simp only []
  rw [hcutres]
  refine finishDecrease_spec m2 (F2.perm.mem_iff.mpr hmem) hkid (fun hc e he y hy hyid => ?_)
    (hor.imp_right fun ⟨p, h1, h2, h3⟩ => ⟨p, h1, F2.perm.mem_iff.mpr h2, h3⟩)
  obtain ⟨e0, he0, he0id⟩ : ∃ e0, h.roots.head? = some e0 ∧ e0.id = e.id := by
    have : l2.head? = some e := he
    rw [this] at hhead2
    exact Option.map_eq_some_iff.mp hhead2.symm
  rw [← he0id]
  exact hdec hc _ y hyid (iv.ext hc e0 he0 y (F2.perm.mem_iff.mp hy))

theorem changeKey_spec {h : IFib K V} (iv : InvS cmp cap h) (i : Int) (key : K) :
    (∀ hb : IFib K V × Bool, h.changeKey cmp i key = .ok hb →
      InvS cmp cap hb.1 ∧ Spec.AdmitG P cmp eq cap (abs h) (.changeKey i key) (.bool hb.2) (abs hb.1)) ∧
    (LawfulCmp cmp → ∃ hb, h.changeKey cmp i key = .ok hb) := by
  have r := iv.inv.reg
  unfold changeKey
  split
  · rename_i hcond
    exact Outcome.of_forward _ ⟨(h, false), rfl, iv, .changeKey_fail (r.not_held hcond)⟩
  · rename_i hcond
    obtain ⟨hr, id, c, hnode, hmem, hcell, hci, habs⟩ := r.held (Bool.of_not_eq_false hcond)
    have hji : ((i.toNat : Nat) : Int) = i := by unfold Spec.InRange at hr; omega
    simp only [hnode, hcell]
    by_cases hlt : cmp key c.key < 0
    ·
      rw [if_pos hlt]
      have habs1 : abs { h with cells := h.cells.setIfInBounds id { c with key := key } } =
          (abs h).set i (some (key, c.val)) := by
        show absOf h.nodes _ = _; rw [(r.setKey hmem hcell key).2, hci, hji]; rfl
      obtain ⟨hret, htot⟩ := decreaseKey_spec iv hmem hcell hlt rfl
        (by rw [habs1]; exact Spec.card_update iv.inv.card hr habs _)
      refine ⟨fun hb he => ?_, htot⟩
      obtain ⟨hb2, iv2, habs2⟩ := hret hb he
      rw [hb2, habs2, habs1]
      exact ⟨iv2, .changeKey_ok habs (Or.inl rfl)⟩
    · rw [if_neg hlt]
      by_cases hgt : 0 < cmp key c.key
      · -- increase key: DeleteIndex, then Insert
        rw [if_pos hgt]
        obtain ⟨h1, c1, hdn, hc1, iv1, habs1, _⟩ := deleteNode_spec iv.toMid hmem
        have : c1 = c := by rw [hcell] at hc1; exact (Option.some.inj hc1).symm
        subst this
        rw [hci, hji] at habs1
        obtain ⟨h2, b2, hins, hor⟩ := insert_spec iv1 i key c1.val
        rw [hdn]; simp only []; rw [hins]
        refine Outcome.of_forward _ ⟨(h2, true), rfl, ?_⟩
        rcases hor with ⟨_, _, hno⟩ | ⟨_, _, _, iv2, habs2⟩
        · exact absurd ⟨hr, by rw [habs1]; exact Spec.set_same _ _ _⟩ hno
        · refine ⟨iv2, ?_⟩
          show Spec.AdmitG P cmp eq cap (abs h) _ _ (abs h2)
          rw [habs2, habs1, Spec.set_set]; exact .changeKey_ok habs (Or.inl rfl)
      · -- the comparator identifies the keys: nothing changes, the old key object stays
        rw [if_neg hgt]
        refine Outcome.of_forward _ ⟨(h, true), rfl, iv, ?_⟩
        have adm := Spec.AdmitG.changeKey_ok (P := P) (cmp := cmp) (eq := eq) (cap := cap)
          (m := abs h) (i := i) (k := key) (k' := c.key) habs (Or.inr ⟨rfl, by omega⟩)
        have e : (abs h).set i (some (c.key, c.val)) = abs h := Spec.set_self _ _ _ habs
        rw [e] at adm; exact adm

theorem delete_spec {h : IFib K V} (iv : InvS cmp cap h) :
    ∃ h' res, h.delete cmp = .ok (h', res) ∧ InvS cmp cap h' ∧
      Spec.AdmitG (fun m k => LawfulCmp cmp → Spec.Extremal cmp m k) cmp eq cap (abs h) .delete (.ikv res) (abs h') := by
  have r := iv.inv.reg
  unfold delete
  cases hroots : h.roots with
  | nil => exact ⟨h, none, rfl, iv, .delete_none (empty_of_roots_nil r hroots)⟩
  | cons e rest =>
    obtain ⟨h', c, hrm, hce, iv', habs', hheld⟩ := removeRoot_spec iv.toMid (x := e.id) (by rw [hroots]; simp [topIds])
    refine ⟨h', some ((c.index : Int), c.key, c.val), by simp only [hrm], iv', ?_⟩
    rw [habs']
    exact .delete_some hheld fun hc => r.extremal hce (iv.ext hc _ (by rw [hroots]; rfl))

theorem deleteIndex_spec {h : IFib K V} (iv : InvS cmp cap h) (i : Int) :
    ∃ h' res, h.deleteIndex cmp i = .ok (h', res) ∧ InvS cmp cap h' ∧
      Spec.AdmitG P cmp eq cap (abs h) (.deleteIndex i) (.kv res) (abs h') := by
  have r := iv.inv.reg
  unfold deleteIndex
  split
  · rename_i hcond
    exact ⟨h, none, rfl, iv, .deleteIndex_none (r.not_held hcond)⟩
  · rename_i hcond
    obtain ⟨hr, id, c, hnode, hmem, hcell, hci, habs⟩ := r.held (Bool.of_not_eq_false hcond)
    have hji : ((i.toNat : Nat) : Int) = i := by unfold Spec.InRange at hr; omega
    obtain ⟨h', c', hdn, hc', iv', habs', _⟩ := deleteNode_spec iv.toMid hmem
    have : c' = c := by rw [hcell] at hc'; exact (Option.some.inj hc').symm
    subst this
    refine ⟨h', some (c'.key, c'.val), by simp only [hnode, hdn], iv', ?_⟩
    rw [habs', hci, hji]; exact .deleteIndex_some habs

theorem peek_spec {h : IFib K V} (iv : InvS cmp cap h) :
    ∃ res, h.peek = .ok res ∧
      Spec.AdmitG (fun m k => LawfulCmp cmp → Spec.Extremal cmp m k) cmp eq cap (abs h) .peek (.ikv res) (abs h) := by
  have r := iv.inv.reg
  unfold peek
  cases hroots : h.roots with
  | nil => exact ⟨none, rfl, .peek_none (empty_of_roots_nil r hroots)⟩
  | cons e rest =>
    obtain ⟨c, hce, hn⟩ := r.reg e.id (topIds_sub _ _ (by rw [hroots]; simp [topIds]))
    exact ⟨some ((c.index : Int), c.key, c.val), by simp only [hce],
      .peek_some (absOf_held hn hce) fun hc => r.extremal hce (iv.ext hc _ (by rw [hroots]; rfl))⟩

theorem peekIndex_spec {h : IFib K V} (iv : InvS cmp cap h) (i : Int) :
    ∃ res, h.peekIndex i = .ok res ∧ Spec.AdmitG P cmp eq cap (abs h) (.peekIndex i) (.kv res) (abs h) := by
  have r := iv.inv.reg
  unfold peekIndex
  split
  · rename_i hcond
    exact ⟨none, rfl, by rw [← r.not_held hcond]; exact .peekIndex⟩
  · rename_i hcond
    obtain ⟨_, id, c, hnode, _, hcell, _, habs⟩ := r.held (Bool.of_not_eq_false hcond)
    exact ⟨some (c.key, c.val), by simp only [hnode, hcell], by rw [← habs]; exact .peekIndex⟩

theorem step_spec (eq : V → V → Bool) (h : IFib K V) (op : Op K V) (iv : InvS cmp cap h) :
    (∀ hr, step cmp eq h op = .ok hr → InvS cmp cap hr.1 ∧
      Spec.AdmitG (fun m k => LawfulCmp cmp → Spec.Extremal cmp m k) cmp eq cap (abs h) op hr.2 (abs hr.1)) ∧
    (LawfulCmp cmp → ∃ hr, step cmp eq h op = .ok hr) := by
  cases op with
  | insert i k v =>
    obtain ⟨h', b, he, hor⟩ := insert_spec (cmp := cmp) iv i k v
    refine Outcome.of_forward _ ⟨(h', .bool b), by simp only [step, he, Outcome.map], ?_⟩
    rcases hor with ⟨rfl, rfl, hno⟩ | ⟨rfl, hr, hnone, iv', habs⟩
    · exact ⟨iv, .insert_fail hno⟩
    · exact ⟨iv', by show Spec.AdmitG _ cmp eq cap _ _ _ (abs h'); rw [habs]; exact .insert_ok hr hnone⟩
  | changeKey i k =>
    obtain ⟨h1, h2⟩ := changeKey_spec (cmp := cmp) (eq := eq) (P := (fun m k => LawfulCmp cmp → Spec.Extremal cmp m k)) iv i k
    refine ⟨fun hr he => ?_, fun hc => ?_⟩
    · obtain ⟨⟨h', b⟩, hp, hy⟩ := Outcome.map_eq_ok he
      cases hy
      exact h1 _ hp
    · obtain ⟨⟨h', b⟩, he⟩ := h2 hc
      exact ⟨(h', .bool b), by simp only [step, he, Outcome.map]⟩
  | delete =>
    obtain ⟨h', res, he, iv', adm⟩ := delete_spec (cmp := cmp) (eq := eq) iv
    exact Outcome.of_forward _ ⟨(h', .ikv res), by simp only [step, he, Outcome.map], iv', adm⟩
  | deleteIndex i =>
    obtain ⟨h', res, he, iv', adm⟩ := deleteIndex_spec (cmp := cmp) (eq := eq) iv i
    exact Outcome.of_forward _ ⟨(h', .kv res), by simp only [step, he, Outcome.map], iv', adm⟩
  | deleteAll =>
    refine Outcome.of_forward _ ⟨(h.deleteAll, .unit), rfl,
      ⟨⟨⟨iv.inv.reg.clear, card_replicate cap _ _⟩, rfl, .refl _, ?_, fun _ => ?_⟩, fun _ => ?_⟩, ?_⟩
    · intro f hf; cases hf
    · intro a b hab; simp [deleteAll, rootsPairs] at hab
    · intro e he; cases he
    · show Spec.AdmitG _ cmp eq cap _ _ _ (abs h.deleteAll)
      rw [show abs h.deleteAll = Spec.Map.empty from absOf_replicate _ _]; exact .deleteAll
  | peek =>
    obtain ⟨res, he, adm⟩ := peek_spec (cmp := cmp) (eq := eq) iv
    exact Outcome.of_forward _ ⟨(h, .ikv res), by simp only [step, he, Outcome.map], iv, adm⟩
  | peekIndex i =>
    obtain ⟨res, he, adm⟩ := peekIndex_spec (cmp := cmp) (eq := eq) iv i
    exact Outcome.of_forward _ ⟨(h, .kv res), by simp only [step, he, Outcome.map], iv, adm⟩
  | containsIndex i =>
    exact Outcome.of_forward _ ⟨(h, _), rfl, iv, by rw [containsIndex_eq iv.inv.reg]; exact .containsIndex⟩
  | containsKey k =>
    obtain ⟨b, hb⟩ := anyCell_total iv.inv.reg (fun c => cmp c.key k == 0)
    exact Outcome.of_forward _ ⟨(h, .bool b), by simp only [step, containsKey, hb, Outcome.map], iv,
      iv.inv.reg.containsKey_admit hb⟩
  | containsValue v =>
    obtain ⟨b, hb⟩ := anyCell_total iv.inv.reg (fun c => eq c.val v)
    exact Outcome.of_forward _ ⟨(h, .bool b), by simp only [step, containsValue, hb, Outcome.map], iv,
      iv.inv.reg.containsValue_admit hb⟩
  | size =>
    exact Outcome.of_forward _ ⟨(h, _), rfl, iv, by rw [iv.inv.card]; exact .size⟩
  | isEmpty =>
    exact Outcome.of_forward _ ⟨(h, _), rfl, iv, .isEmpty (isEmpty_iff iv.inv.reg)⟩

theorem step_full (hc : LawfulCmp cmp) (eq : V → V → Bool) (h : IFib K V) (op : Op K V)
    (iv : InvF cmp cap h) :
    ∃ h' res, step cmp eq h op = .ok (h', res) ∧ InvF cmp cap h' ∧ Spec.Admit cmp eq cap (abs h) op res (abs h') := by
  obtain ⟨hret, htot⟩ := step_spec eq h op (InvS.of_invF iv)
  obtain ⟨⟨h', res⟩, he⟩ := htot hc
  obtain ⟨iv', adm⟩ := hret _ he
  exact ⟨h', res, he, iv'.invF hc, adm.imp fun _ _ _ _ h => h hc⟩

theorem invF_new (cmp : K → K → Int) (cap : Nat) : InvF cmp cap (new cap : IFib K V) := by
  refine ⟨inv_new cap, rfl, ?_, ?_, ?_⟩
  · intro f hf; cases hf
  · intro a b hab; simp [new, rootsPairs] at hab
  · intro e he; cases he

theorem invS_new (cmp : K → K → Int) (cap : Nat) : InvS cmp cap (new cap : IFib K V) :=
  InvS.of_invF (invF_new cmp cap)

end IFib
end AlgoVerif.C05
