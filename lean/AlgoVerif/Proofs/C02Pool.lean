import AlgoVerif.Model.C02Pool
import AlgoVerif.Proofs.C02Chain
import AlgoVerif.Proofs.C02OA
import AlgoVerif.Proofs.C02LinDel
/-!
# C02/C03 — a pool of tables refines a pool of finite maps

The relation every operation of the pool (`Model/C02Pool.lean`) keeps: table `i` refines map `i`, same Go type, same `eqVal`,
same iterator values.  `Spec.prun` / `Spec.ChoicesOK` / `Spec.pouts` run the Spec on given listings (where `Spec.Admits` chooses them).
`Tab.ProbesBounded`: the probe bounds of the three developments as one predicate on a table of the pool, for `C03_pool`.
-/
namespace AlgoVerif.C02
open Spec
variable {K V σ : Type} [DecidableEq K]

def Tab.Inv (hash : K → UInt64) : Tab K V → Prop
  | .chain t => Chain.Inv hash t
  | .lin t => Lin.Inv hash t
  | .oa t => OA.Inv hash t

def Tab.Live : Tab K V → K → V → Prop
  | .chain t => Chain.Live t
  | .lin t => Lin.Live t
  | .oa t => OA.Live t

theorem Tab.correct {sh : Shuffle σ} (hsh : ShufflePerm sh) (hash : K → UInt64) (eqVal : V → V → Bool) :
    Correct eqVal (Tab.impl sh hash eqVal) (Tab.Inv hash) Tab.Live where
  func := fun t k v v' => match t with
    | .chain t => (Chain.correct hsh hash eqVal).func t k v v'
    | .lin t => (Lin.correct hsh hash eqVal).func t k v v'
    | .oa t => (OA.correct hsh hash eqVal).func t k v v'
  put := by
    intro t g k v hI
    cases t with
    | chain t =>
      obtain ⟨t', g', h, hI', hl⟩ := (Chain.correct hsh hash eqVal).put t g k v hI
      have h' : Chain.put sh hash depth t g k v = .ok (t', g') := h
      exact ⟨.chain t', g', by simp only [Tab.impl, Tab.put, h'], hI', hl⟩
    | lin t =>
      obtain ⟨t', g', h, hI', hl⟩ := (Lin.correct hsh hash eqVal).put t g k v hI
      have h' : Lin.put sh hash depth t g k v = .ok (t', g') := h
      exact ⟨.lin t', g', by simp only [Tab.impl, Tab.put, h'], hI', hl⟩
    | oa t =>
      obtain ⟨t', g', h, hI', hl⟩ := (OA.correct hsh hash eqVal).put t g k v hI
      have h' : OA.put sh hash depth t g k v = .ok (t', g') := h
      exact ⟨.oa t', g', by simp only [Tab.impl, Tab.put, h'], hI', hl⟩
  get := fun t k => match t with
    | .chain t => (Chain.correct hsh hash eqVal).get t k
    | .lin t => (Lin.correct hsh hash eqVal).get t k
    | .oa t => (OA.correct hsh hash eqVal).get t k
  delete := by
    intro _ t g k hI
    cases t with
    | chain t =>
      obtain ⟨t', g', o, h, hI', hl, ho⟩ := (Chain.correct hsh hash eqVal).delete trivial t g k hI
      have h' : Chain.delete sh hash depth t g k = .ok (t', g', o) := h
      exact ⟨.chain t', g', o, by simp only [Tab.impl, Tab.delete, h'], hI', hl, ho⟩
    | lin t =>
      obtain ⟨t', g', o, h, hI', hl, ho⟩ := (Lin.correct hsh hash eqVal).delete trivial t g k hI
      have h' : Lin.delete sh hash depth t g k = .ok (t', g', o) := h
      exact ⟨.lin t', g', o, by simp only [Tab.impl, Tab.delete, h'], hI', hl, ho⟩
    | oa t =>
      obtain ⟨t', g', o, h, hI', hl, ho⟩ := (OA.correct hsh hash eqVal).delete trivial t g k hI
      have h' : OA.delete sh hash depth t g k = .ok (t', g', o) := h
      exact ⟨.oa t', g', o, by simp only [Tab.impl, Tab.delete, h'], hI', hl, ho⟩
  deleteAll := fun t => match t with
    | .chain t => (Chain.correct hsh hash eqVal).deleteAll t
    | .lin t => (Lin.correct hsh hash eqVal).deleteAll t
    | .oa t => (OA.correct hsh hash eqVal).deleteAll t
  all := fun t g => match t with
    | .chain t => (Chain.correct hsh hash eqVal).all t g
    | .lin t => (Lin.correct hsh hash eqVal).all t g
    | .oa t => (OA.correct hsh hash eqVal).all t g
  size := fun t g => match t with
    | .chain t => (Chain.correct hsh hash eqVal).size t g
    | .lin t => (Lin.correct hsh hash eqVal).size t g
    | .oa t => (OA.correct hsh hash eqVal).size t g
  equal := fun _ _ _ => rfl

/-- what the four constructors accept, with default-or-tighter load-factor bounds -/
def Tab.ValidOpts (ty : GoType) (o : Opts) : Prop :=
  match ty with
  | .chain => Chain.ValidOpts o
  | .linear => Lin.ValidOpts o
  | .quadratic => OA.ValidOpts .quad o
  | .double => OA.ValidOpts .dbl o

theorem Tab.init_spec (hash : K → UInt64) (ty : GoType) (o : Opts) (hv : Tab.ValidOpts ty o) :
    ∃ t0 : Tab K V, Tab.new ty o = .ok t0 ∧ Tab.Inv hash t0 ∧ ∀ k v, ¬ Tab.Live t0 k v := by
  cases ty with
  | chain =>
    obtain ⟨t0, h, hI, he⟩ := Chain.init_spec (V := V) hash o hv
    exact ⟨.chain t0, by simp [Tab.new, h], hI, he⟩
  | linear =>
    obtain ⟨t0, h, hI, he⟩ := Lin.init_spec (V := V) hash o hv
    exact ⟨.lin t0, by simp [Tab.new, h], hI, he⟩
  | quadratic =>
    obtain ⟨t0, h, hI, he⟩ := OA.init_spec (V := V) hash .quad o hv
    exact ⟨.oa t0, by simp [Tab.new, h], hI, he⟩
  | double =>
    obtain ⟨t0, h, hI, he⟩ := OA.init_spec (V := V) hash .dbl o hv
    exact ⟨.oa t0, by simp [Tab.new, h], hI, he⟩

theorem modifyAt_eq {β : Type} (f : Obj K V → Outcome (Obj K V × β)) :
    ∀ (objs : List (Obj K V)) (i : Nat),
      modifyAt objs i f =
        match objs[i]? with
        | none => .ok (objs, none)
        | some o =>
          match f o with
          | .ok (o', b) => .ok (objs.set i o', some b)
          | .panic => .panic
          | .diverge => .diverge := by
  intro objs
  induction objs with
  | nil => intro i; simp [modifyAt]
  | cons o r ih =>
    intro i
    cases i with
    | zero =>
      simp only [modifyAt, List.getElem?_cons_zero, List.set_cons_zero]
      rcases f o with ⟨o', b⟩ | _ | _ <;> rfl
    | succ i =>
      simp only [modifyAt, List.getElem?_cons_succ, List.set_cons_succ]
      rw [ih i]
      cases r[i]? with
      | none => rfl
      | some o2 =>
        simp only
        rcases f o2 with ⟨o', b⟩ | _ | _ <;> rfl

def ObjRel (o : Obj K V) (ts : STab K V) : Prop :=
  o.ty = ts.ty ∧ o.eqVal = ts.eqVal ∧ Rel (Tab.Inv o.hash) Tab.Live o.tab ts.map

structure PoolRel (ps : PState K V σ) (ss : PSState K V) : Prop where
  len : ps.objs.length = ss.tabs.length
  rel : ∀ (i : Nat) (o : Obj K V) (ts : STab K V), ps.objs[i]? = some o → ss.tabs[i]? = some ts → ObjRel o ts
  it : ps.it = ss.it

theorem PoolRel.none {ps : PState K V σ} {ss : PSState K V} (h : PoolRel ps ss) {i : Nat} (hi : ps.objs[i]? = none) :
    ss.tabs[i]? = none := by
  rw [List.getElem?_eq_none_iff] at hi ⊢
  rw [← h.len]; exact hi

theorem PoolRel.some {ps : PState K V σ} {ss : PSState K V} (h : PoolRel ps ss) {i : Nat} {o : Obj K V}
    (hi : ps.objs[i]? = some o) : ∃ ts, ss.tabs[i]? = some ts ∧ ObjRel o ts := by
  have hlt : i < ps.objs.length := (List.getElem?_eq_some_iff.1 hi).1
  have hlt' : i < ss.tabs.length := h.len ▸ hlt
  exact ⟨ss.tabs[i], List.getElem?_eq_getElem hlt', h.rel i o _ hi (List.getElem?_eq_getElem hlt')⟩

theorem PoolRel.set {objs : List (Obj K V)} {g : σ} {it : Iters K V} {ss : PSState K V} (h : PoolRel ⟨objs, g, it⟩ ss)
    (i : Nat) (o' : Obj K V) (ts' : STab K V) (g' : σ) (it' : Iters K V) (ho : ObjRel o' ts') :
    PoolRel ⟨objs.set i o', g', it'⟩ ⟨ss.tabs.set i ts', it'⟩ where
  len := by simp [h.len]
  rel := by
    intro j o ts hj1 hj2
    simp only [List.getElem?_set] at hj1 hj2
    by_cases hij : i = j
    · subst hij
      simp only [if_true] at hj1 hj2
      split at hj1
      · split at hj2
        · cases hj1; cases hj2; exact ho
        · cases hj2
      · cases hj1
    · simp only [hij, if_false] at hj1 hj2
      exact h.rel j o ts hj1 hj2
  it := rfl

/-- `sub_eq` for two `Correct` tables (`D1 = D2 = True`) -/
theorem sub_eq2 {T1 T2 : Type} {e1 e2 : V → V → Bool} {I1 : Impl K V σ T1} {I2 : Impl K V σ T2}
    {Inv1 : T1 → Prop} {Live1 : T1 → K → V → Prop} {Inv2 : T2 → Prop} {Live2 : T2 → K → V → Prop}
    (hC1 : Correct e1 I1 Inv1 Live1) (hC2 : Correct e2 I2 Inv2 Live2) {t1 : T1} {t2 : T2} {s1 s2 : Map K V}
    (h1 : Rel Inv1 Live1 t1 s1) (h2 : Rel Inv2 Live2 t2 s2) (eqVal : V → V → Bool) (g : σ) :
    allMatchGet eqVal (I2.get t2) (I1.all t1 g).1 = .ok (Map.sub eqVal s1 s2) :=
  sub_eq hC1 hC2 h1 h2 eqVal g

theorem Obj.equal_eq {sh : Shuffle σ} (hsh : ShufflePerm sh) {o1 o2 : Obj K V} {a b : STab K V}
    (h1 : ObjRel o1 a) (h2 : ObjRel o2 b) (g : σ) :
    ∃ g', Obj.equal sh o1 o2 g = .ok (STab.equal a b, g') := by
  obtain ⟨ht1, he1, hr1⟩ := h1
  obtain ⟨ht2, _, hr2⟩ := h2
  unfold Obj.equal STab.equal
  rw [ht1, ht2, he1]
  by_cases hty : a.ty = b.ty
  · simp only [hty, if_true]
    exact equalWith_eq (Tab.correct hsh o1.hash o1.eqVal) (Tab.correct hsh o2.hash o2.eqVal) hr1 hr2 a.eqVal g
  · simp only [hty, if_false]
    exact ⟨g, rfl⟩

theorem pool_step_sim {sh : Shuffle σ} (hsh : ShufflePerm sh) (ps : PState K V σ) (ss : PSState K V)
    (h : PoolRel ps ss) (op : POp K V) :
    ∃ ps' o choice, Pool.step sh ps op = .ok (ps', o) ∧ choiceOK ss op choice ∧ (pstep ss op choice).2 = o ∧
      PoolRel ps' (pstep ss op choice).1 := by
  obtain ⟨objs, g, it⟩ := ps
  obtain rfl : it = ss.it := h.it
  have hC := fun o : Obj K V => Tab.correct hsh o.hash o.eqVal
  cases op with
  | put i k v =>
    simp only [Pool.step, pstep, choiceOK]
    rw [modifyAt_eq]
    cases hoi : objs[i]? with
    | none => rw [h.none hoi]; exact ⟨_, _, [], rfl, trivial, rfl, h⟩
    | some o =>
      obtain ⟨ts, hts, hty, heq, hrel⟩ := h.some hoi
      obtain ⟨t', g', hp, hrel'⟩ := hrel.put (hC o) g k v
      have hp' : Tab.put sh o.hash o.tab g k v = .ok (t', g') := hp
      simp only [hts, Obj.put, hp']
      exact ⟨_, _, [], rfl, trivial, rfl, h.set _ _ _ _ _ ⟨hty, heq, hrel'⟩⟩
  | delete i k =>
    simp only [Pool.step, pstep, choiceOK]
    rw [modifyAt_eq]
    cases hoi : objs[i]? with
    | none => rw [h.none hoi]; exact ⟨_, _, [], rfl, trivial, rfl, h⟩
    | some o =>
      obtain ⟨ts, hts, hty, heq, hrel⟩ := h.some hoi
      obtain ⟨t', g', hd, hrel'⟩ := hrel.delete (hC o) trivial g k
      have hd' : Tab.delete sh o.hash o.tab g k = .ok (t', g', Map.lookup ts.map k) := hd
      simp only [hts, Obj.delete, hd']
      exact ⟨_, _, [], rfl, trivial, rfl, h.set _ _ _ _ _ ⟨hty, heq, hrel'⟩⟩
  | deleteAll i =>
    simp only [Pool.step, pstep, choiceOK]
    rw [modifyAt_eq]
    cases hoi : objs[i]? with
    | none => rw [h.none hoi]; exact ⟨_, _, [], rfl, trivial, rfl, h⟩
    | some o =>
      obtain ⟨ts, hts, hty, heq, hrel⟩ := h.some hoi
      simp only [hts, Obj.deleteAll]
      exact ⟨_, _, [], rfl, trivial, rfl, h.set _ _ _ _ _ ⟨hty, heq, hrel.deleteAll (hC o)⟩⟩
  | get i k =>
    simp only [Pool.step, pstep, choiceOK]
    cases hoi : objs[i]? with
    | none => rw [h.none hoi]; exact ⟨_, _, [], rfl, trivial, rfl, h⟩
    | some o =>
      obtain ⟨ts, hts, _, _, hrel⟩ := h.some hoi
      have hg : Tab.get o.hash o.tab k = .ok (Map.lookup ts.map k) := Rel.get_eq (hC o) hrel k
      simp only [hts, hg]
      exact ⟨_, _, [], rfl, trivial, rfl, h⟩
  | size i | isEmpty i =>
    simp only [Pool.step, pstep, choiceOK]
    cases hoi : objs[i]? with
    | none => rw [h.none hoi]; exact ⟨_, _, [], rfl, trivial, rfl, h⟩
    | some o =>
      obtain ⟨ts, hts, _, _, hrel⟩ := h.some hoi
      have hs : Tab.size o.tab = Map.size ts.map := hrel.size_eq (hC o) g
      simp only [hts, hs]
      exact ⟨_, _, [], rfl, trivial, rfl, h⟩
  | all i =>
    simp only [Pool.step, pstep, choiceOK]
    cases hoi : objs[i]? with
    | none => rw [h.none hoi]; exact ⟨_, _, [], rfl, trivial, rfl, h⟩
    | some o =>
      obtain ⟨ts, hts, _, _, hrel⟩ := h.some hoi
      simp only [hts]
      exact ⟨_, _, _, rfl, Rel.all_perm (hC o) hrel g, rfl, h.len, h.rel, rfl⟩
  | equal i j =>
    simp only [Pool.step, pstep, choiceOK]
    cases hoi : objs[i]? with
    | none => rw [h.none hoi]; exact ⟨_, _, [], rfl, trivial, rfl, h⟩
    | some o1 =>
      obtain ⟨a, hta, hra⟩ := h.some hoi
      cases hoj : objs[j]? with
      | none => rw [hta, h.none hoj]; exact ⟨_, _, [], rfl, trivial, rfl, h⟩
      | some o2 =>
        obtain ⟨b, htb, hrb⟩ := h.some hoj
        obtain ⟨g', he⟩ := Obj.equal_eq hsh hra hrb g
        simp only [hta, htb, he]
        exact ⟨_, _, [], rfl, trivial, rfl, h.len, h.rel, rfl⟩
  | seq i =>
    simp only [Pool.step, pstep, choiceOK]
    cases hoi : objs[i]? with
    | none => rw [h.none hoi]; exact ⟨_, _, [], rfl, trivial, rfl, h⟩
    | some o =>
      obtain ⟨ts, hts, _⟩ := h.some hoi
      simp only [hts]
      exact ⟨_, _, [], rfl, trivial, rfl, h.len, h.rel, rfl⟩
  | pull sq | stop p => exact ⟨_, _, [], rfl, trivial, rfl, h.len, h.rel, rfl⟩
  | next p =>
    simp only [Pool.step, pstep, choiceOK]
    cases hf : ss.it.freshTid p with
    | none => exact ⟨_, _, [], rfl, rfl, rfl, h.len, h.rel, rfl⟩
    | some tid =>
      simp only [Option.bind_some]
      cases hoi : objs[tid]? with
      | none => rw [h.none hoi]; exact ⟨_, _, [], rfl, rfl, rfl, h.len, h.rel, rfl⟩
      | some o =>
        obtain ⟨ts, hts, _, _, hrel⟩ := h.some hoi
        simp only [hts]
        exact ⟨_, _, _, rfl, Rel.all_perm (hC o) hrel g, rfl, h.len, h.rel, rfl⟩

theorem pool_reach_sim {sh : Shuffle σ} (hsh : ShufflePerm sh) :
    ∀ (ops : List (POp K V)) (ps : PState K V σ) (ss : PSState K V), PoolRel ps ss →
      Admits ss ops (Pool.run sh ps ops) ∧ ∃ ps' ss', Pool.reach sh ps ops = some ps' ∧ PoolRel ps' ss'
  | [], ps, ss, h => ⟨by simp [Pool.run, runTrace, Admits], ps, ss, rfl, h⟩
  | op :: ops, ps, ss, h => by
    obtain ⟨ps', o, choice, hstep, hch, hout, hrel⟩ := pool_step_sim hsh ps ss h op
    obtain ⟨hadm, hreach⟩ := pool_reach_sim hsh ops ps' _ hrel
    simp only [Pool.run, runTrace, Pool.reach, hstep, Admits]
    exact ⟨⟨choice, hch, hout, hadm⟩, hreach⟩

theorem pool_sim {sh : Shuffle σ} (hsh : ShufflePerm sh) :
    ∀ (ops : List (POp K V)) (ps : PState K V σ) (ss : PSState K V), PoolRel ps ss → Admits ss ops (Pool.run sh ps ops) :=
  fun ops ps ss h => (pool_reach_sim hsh ops ps ss h).1

theorem pool_reach {sh : Shuffle σ} (hsh : ShufflePerm sh) :
    ∀ (ops : List (POp K V)) (ps : PState K V σ) (ss : PSState K V), PoolRel ps ss →
      ∃ ps' ss', Pool.reach sh ps ops = some ps' ∧ PoolRel ps' ss' :=
  fun ops ps ss h => (pool_reach_sim hsh ops ps ss h).2

def specInit (cfgs : List (Cfg K V)) : PSState K V := ⟨cfgs.map fun c => ⟨c.ty, c.eqVal, []⟩, {}⟩

theorem Pool.new_spec (cfgs : List (Cfg K V)) (hv : ∀ c ∈ cfgs, Tab.ValidOpts c.ty c.opts) :
    ∃ objs : List (Obj K V), Pool.new cfgs = .ok objs ∧ objs.length = cfgs.length ∧
      ∀ (i : Nat) (o : Obj K V) (c : Cfg K V), objs[i]? = some o → cfgs[i]? = some c → ObjRel o ⟨c.ty, c.eqVal, []⟩ := by
  induction cfgs with
  | nil => exact ⟨[], rfl, rfl, by intro i o c h; simp at h⟩
  | cons c r ih =>
    obtain ⟨os, hos, hlen, hrel⟩ := ih (fun c' hc' => hv c' (List.mem_cons_of_mem _ hc'))
    obtain ⟨t0, hnew, hinv, hempty⟩ := Tab.init_spec (V := V) c.hash c.ty c.opts (hv c (List.mem_cons_self ..))
    refine ⟨⟨c.ty, c.hash, c.eqVal, t0⟩ :: os, by simp [Pool.new, Obj.new, hnew, hos], by simp [hlen], ?_⟩
    intro i o c' h1 h2
    cases i with
    | zero =>
      simp only [List.getElem?_cons_zero, Option.some.injEq] at h1 h2
      subst h1; subst h2
      exact ⟨rfl, rfl, hinv, nodupKeys_nil, fun k v => by simp [hempty k v]⟩
    | succ i =>
      simp only [List.getElem?_cons_succ] at h1 h2
      exact hrel i o c' h1 h2

theorem Pool.init_rel (cfgs : List (Cfg K V)) (hv : ∀ c ∈ cfgs, Tab.ValidOpts c.ty c.opts) :
    ∃ objs : List (Obj K V), Pool.new cfgs = .ok objs ∧ ∀ g : σ, PoolRel ⟨objs, g, {}⟩ (specInit cfgs) := by
  obtain ⟨objs, hnew, hlen, hrel⟩ := Pool.new_spec cfgs hv
  refine ⟨objs, hnew, fun g => ⟨by simp [specInit, hlen], ?_, rfl⟩⟩
  intro i o ts h1 h2
  simp only [specInit, List.getElem?_map] at h2
  cases hc : cfgs[i]? with
  | none => simp [hc] at h2
  | some c =>
    simp only [hc, Option.map_some, Option.some.injEq] at h2
    subst h2
    exact hrel i o c h1 hc

theorem Spec.itersOK_init (cfgs : List (Cfg K V)) : ItersOK (specInit cfgs) := by
  constructor
  · intro sq hsq; simp [specInit] at hsq
  · intro pl hpl; simp [specInit] at hpl

theorem getElem?_set_of_some {α : Type} (l : List α) (i j : Nat) (a x : α) (h : l[j]? = some x) :
    ∃ y, (l.set i a)[j]? = some y ∧ (i ≠ j → y = x) := by
  rw [List.getElem?_set]
  by_cases hij : i = j
  · subst hij
    have : i < l.length := (List.getElem?_eq_some_iff.1 h).1
    exact ⟨a, by simp [this], fun hne => absurd rfl hne⟩
  · exact ⟨x, by simp [hij, h], fun _ => rfl⟩

theorem itersOK_set {s : PSState K V} (h : ItersOK s) (i : Nat) (t' : STab K V) :
    ItersOK ⟨s.tabs.set i t', s.it.invalidate i⟩ := by
  obtain ⟨hA, hB⟩ := h
  constructor
  · intro sq hsq
    obtain ⟨t, ht⟩ := hA sq hsq
    obtain ⟨y, hy, _⟩ := getElem?_set_of_some s.tabs i sq.tid t' t ht
    exact ⟨y, hy⟩
  · intro pl' hpl'
    simp only [Iters.invalidate, List.mem_map] at hpl'
    obtain ⟨pl, hpl, rfl⟩ := hpl'
    obtain ⟨t, ht, hrun⟩ := hB pl hpl
    obtain ⟨y, hy, hyx⟩ := getElem?_set_of_some s.tabs i pl.tid t' t ht
    by_cases hc : pl.tid = i ∧ pl.phase = .running
    · simp only [hc, and_self, if_true]
      exact ⟨y, by simpa [hc.1] using hy, fun hr => by simp at hr⟩
    · simp only [hc, if_false]
      refine ⟨y, hy, fun hr => ?_⟩
      have hne : i ≠ pl.tid := fun e => hc ⟨e.symm, hr⟩
      rw [hyx hne]
      exact hrun hr

theorem itersOK_setPull {s : PSState K V} (h : ItersOK s) (p : Nat) (pl' : PullV K V)
    (hpl' : ∃ t, s.tabs[pl'.tid]? = some t ∧ (pl'.phase = .running → ∃ l : List (K × V), l.Perm t.map ∧ pl'.rest <:+ l)) :
    ItersOK { s with it := { s.it with pulls := s.it.pulls.set p pl' } } := by
  refine ⟨h.1, ?_⟩
  intro x hx
  rcases List.mem_or_eq_of_mem_set hx with hx | rfl
  · exact h.2 x hx
  · exact hpl'

theorem itersOK_advance {s : PSState K V} (h : ItersOK s) (p : Nat) (pl : PullV K V)
    (hpl : ∃ t, s.tabs[pl.tid]? = some t ∧ ∃ l : List (K × V), l.Perm t.map ∧ pl.rest <:+ l) :
    ItersOK { s with it := (s.it.advance p pl).1 } := by
  obtain ⟨t, ht, l, hl, hsuf⟩ := hpl
  unfold Iters.advance
  cases hr : pl.rest with
  | nil => exact itersOK_setPull h p _ ⟨t, ht, fun hrun => ⟨l, hl, by simpa [hr] using hsuf⟩⟩
  | cons e r =>
    refine itersOK_setPull h p _ ⟨t, ht, fun _ => ⟨l, hl, ?_⟩⟩
    rw [hr] at hsuf
    exact (List.suffix_cons e r).trans hsuf

theorem Spec.itersOK_step (s : PSState K V) (op : POp K V) (choice : List (K × V)) (hc : choiceOK s op choice)
    (h : ItersOK s) : ItersOK (pstep s op choice).1 := by
  cases op with
  | put i k v | delete i k | deleteAll i =>
    simp only [pstep]
    cases hi : s.tabs[i]? with
    | none => exact h
    | some t => exact itersOK_set h i _
  | get i k | size i | isEmpty i | all i => simp only [pstep]; cases s.tabs[i]? <;> exact h
  | equal i j => simp only [pstep]; cases s.tabs[i]? <;> cases s.tabs[j]? <;> exact h
  | seq i =>
    simp only [pstep]
    cases hi : s.tabs[i]? with
    | none => exact h
    | some t =>
      refine ⟨?_, h.2⟩
      intro sq hsq
      simp only [Iters.addSeq, List.mem_append, List.mem_singleton] at hsq
      rcases hsq with hsq | rfl
      · exact h.1 sq hsq
      · exact ⟨t, hi⟩
  | pull sq =>
    simp only [pstep, Iters.pull]
    cases hq : s.it.seqs[sq]? with
    | none => exact h
    | some q =>
      refine ⟨h.1, ?_⟩
      intro pl hpl
      simp only [List.mem_append, List.mem_singleton] at hpl
      rcases hpl with hpl | rfl
      · exact h.2 pl hpl
      · obtain ⟨t, ht⟩ := h.1 q (List.mem_of_getElem? hq)
        exact ⟨t, ht, fun hr => by simp at hr⟩
  | next p =>
    simp only [pstep, Iters.next]
    cases hp : s.it.pulls[p]? with
    | none => exact h
    | some pl =>
      obtain ⟨t, ht, hrun⟩ := h.2 pl (List.mem_of_getElem? hp)
      cases hph : pl.phase with
      | broken | done => simp only [hph]; exact h
      | running =>
        simp only [hph]
        obtain ⟨l, hl, hsuf⟩ := hrun hph
        exact itersOK_advance h p pl ⟨t, ht, l, hl, hsuf⟩
      | fresh =>
        simp only [hph]
        have hperm : choice.Perm t.map := by
          simp only [choiceOK, Iters.freshTid, hp, hph, if_true, Option.bind_some, ht] at hc
          exact hc
        exact itersOK_advance h p { pl with phase := .running, rest := choice } ⟨t, ht, choice, hperm, List.suffix_refl _⟩
  | stop p =>
    simp only [pstep, Iters.stop]
    cases hp : s.it.pulls[p]? with
    | none => exact h
    | some pl =>
      obtain ⟨t, ht, _⟩ := h.2 pl (List.mem_of_getElem? hp)
      by_cases hb : pl.phase = .broken
      · simp only [hb, if_true]; exact h
      · simp only [hb, if_false]
        exact itersOK_setPull h p _ ⟨t, ht, fun hr => by simp at hr⟩

def Spec.prun : PSState K V → List (POp K V × List (K × V)) → PSState K V
  | s, [] => s
  | s, (op, ch) :: r => Spec.prun (pstep s op ch).1 r

def Spec.ChoicesOK : PSState K V → List (POp K V × List (K × V)) → Prop
  | _, [] => True
  | s, (op, ch) :: r => choiceOK s op ch ∧ Spec.ChoicesOK (pstep s op ch).1 r

theorem Spec.iters_ok : ∀ (steps : List (POp K V × List (K × V))) (s : PSState K V), Spec.ChoicesOK s steps →
    ItersOK s → ItersOK (Spec.prun s steps)
  | [], _, _, h => h
  | (op, ch) :: r, s, hc, h => Spec.iters_ok r _ hc.2 (Spec.itersOK_step s op ch hc.1 h)

def Spec.pouts : PSState K V → List (POp K V × List (K × V)) → List (POut K V)
  | _, [] => []
  | s, (op, ch) :: r => (pstep s op ch).2 :: Spec.pouts (pstep s op ch).1 r

theorem Spec.drain_running : ∀ (rest : List (K × V)) (s : PSState K V) (p : Nat) (pl : PullV K V),
    s.it.pulls[p]? = some pl → pl.phase = .running → pl.rest = rest →
    ∀ chs : List (List (K × V)), chs.length = rest.length + 1 →
      Spec.pouts s (chs.map fun ch => (POp.next p, ch)) = rest.map POut.pair ++ [POut.done]
  | [], s, p, pl, hp, hph, hr, chs, hlen => by
    match chs, hlen with
    | [ch], _ =>
      simp [Spec.pouts, pstep, Iters.next, hp, hph, Iters.advance, hr]
  | e :: r, s, p, pl, hp, hph, hr, chs, hlen => by
    match chs, hlen with
    | ch :: chs', hlen' =>
      have hlt : p < s.it.pulls.length := (List.getElem?_eq_some_iff.1 hp).1
      have hstep : pstep s (.next p) ch =
          ({ s with it := { s.it with pulls := s.it.pulls.set p { pl with rest := r } } }, .pair e) := by
        simp [pstep, Iters.next, hp, hph, Iters.advance, hr]
      simp only [List.map_cons, Spec.pouts, hstep, List.cons_append, List.cons.injEq, true_and]
      apply Spec.drain_running r _ p { pl with rest := r }
      · simp [hlt]
      · exact hph
      · rfl
      · simpa using hlen'

/-- a traversal that has not started yields exactly the listing chosen at its first `next` — a permutation of the map
as it is THEN, whatever happened to the table since the sequence and the traversal were obtained -/
theorem Spec.drain_fresh (s : PSState K V) (p : Nat) (pl : PullV K V) (hp : s.it.pulls[p]? = some pl)
    (hph : pl.phase = .fresh) (ch : List (K × V)) (chs : List (List (K × V))) (hlen : chs.length = ch.length) :
    Spec.pouts s ((ch :: chs).map fun c => (POp.next p, c)) = ch.map POut.pair ++ [POut.done] := by
  have hlt : p < s.it.pulls.length := (List.getElem?_eq_some_iff.1 hp).1
  cases ch with
  | nil =>
    cases chs with
    | nil => simp [Spec.pouts, pstep, Iters.next, hp, hph, Iters.advance]
    | cons _ _ => simp at hlen
  | cons e r =>
    have hstep : pstep s (.next p) (e :: r) =
        ({ s with it := { s.it with pulls := s.it.pulls.set p { pl with phase := .running, rest := r } } }, .pair e) := by
      simp [pstep, Iters.next, hp, hph, Iters.advance]
    simp only [List.map_cons, Spec.pouts, hstep, List.cons_append, List.cons.injEq, true_and]
    have := Spec.drain_running r { s with it := { s.it with pulls := s.it.pulls.set p { pl with phase := .running, rest := r } } } p
      { pl with phase := .running, rest := r } (by simp [hlt]) rfl rfl chs (by simpa using hlen)
    simpa using this

/-- the probe walk of every key — held, deleted or never seen — stays within the bound of its implementation -/
def Tab.ProbesBounded (hash : K → UInt64) : Tab K V → Prop
  | .chain t => ∀ key : K,
      ((Chain.nodesVisited key (Chain.bucket t (Chain.hashIdx t.m (mix (hash key)))) : Nat) : Int) ≤ t.n
  | .lin t => ∀ key : K, ∃ c, Lin.probes t (mix (hash key)) key t.m 0 = some c ∧ c ≤ t.m
  | .oa t => ∀ key : K, ∃ cg cf,
      OA.probesGet t (mix (hash key)) key t.m 0 = some cg ∧ OA.probesFind t (mix (hash key)) key t.m 0 = some cf ∧
      cg ≤ cover t.kind t.m ∧ cf ≤ cover t.kind t.m ∧ cover t.kind t.m ≤ t.m

theorem Tab.probes_bounded (hash : K → UInt64) (t : Tab K V) (h : Tab.Inv hash t) : Tab.ProbesBounded hash t := by
  cases t with
  | chain t => exact fun key => Chain.nodes_bound hash t key h
  | lin t => exact fun key => Lin.probes_bound hash t key h
  | oa t =>
    intro key
    obtain ⟨cg, cf, h1, h2, h3, h4⟩ := OA.probes_bound hash t key h
    exact ⟨cg, cf, h1, h2, h3, h4, cover_le _ _⟩

theorem PoolRel.inv {ps : PState K V σ} {ss : PSState K V} (h : PoolRel ps ss) (o : Obj K V) (ho : o ∈ ps.objs) :
    Tab.Inv o.hash o.tab := by
  obtain ⟨i, hi, hget⟩ := List.getElem_of_mem ho
  have : ps.objs[i]? = Option.some o := by rw [List.getElem?_eq_getElem hi, hget]
  obtain ⟨ts, _, _, _, hrel⟩ := h.some this
  exact hrel.1

end AlgoVerif.C02
