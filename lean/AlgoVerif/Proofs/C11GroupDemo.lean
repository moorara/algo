import AlgoVerif.Proofs.C11GroupMain
import AlgoVerif.Proofs.C11Demo
/-!
# C11 — whole-expression grouping: the resolved tables of `E → E + E | E * E | E ^ E | id` pass the validator
(kernel-evaluated), hence their parsers compute `Spec.climb` on EVERY token string
-/
namespace AlgoVerif.C11.Group
open AlgoVerif AlgoVerif.Gram AlgoVerif.C11 AlgoVerif.C11.Spec AlgoVerif.C11.Demo

/-- the table `BuildParsingTable(G, precedences)` returns when every conflict is resolved -/
def resolvedTable (k : Kind) (g : SGrammar) (ls : List Level) (fuel : Nat) : Option Table :=
  match build k g fuel with
  | .ok b =>
    match resolveAll ls (fun _ _ acts => acts) b.table with
    | .ok (T, .table) => some T
    | _ => none
  | _ => none

/-- The resolved table of `gExpr`: state 1 follows `E`, states 5, 6, 7 follow `E *`, `E +`, `E ^`, states 2, 3, 4 follow
`E * E`, `E + E`, `E ^ E`, state 8 follows `id`.  The three constructions differ only in the order in which the rows of the
complete items list their lookaheads, `cols`. -/
def exprTable (cols : List String) : Table :=
  { nstates := 9,
    actions :=
      [((0, "id"), [.shift 8]),
       ((1, endmarker), [.accept]), ((1, "*"), [.shift 5]), ((1, "+"), [.shift 6]), ((1, "^"), [.shift 7])] ++
      cols.map (fun a => ((2, a), [if a = "^" then .shift 7 else .reduce (pb "*")])) ++
      cols.map (fun a => ((3, a), [if a = "^" then .shift 7 else if a = "*" then .shift 5 else .reduce (pb "+")])) ++
      cols.map (fun a => ((4, a), [if a = "^" then .shift 7 else .reduce (pb "^")])) ++
      [((5, "id"), [.shift 8]), ((6, "id"), [.shift 8]), ((7, "id"), [.shift 8])] ++
      cols.map (fun a => ((8, a), [.reduce pid])),
    gotos := [((0, "E"), 1), ((5, "E"), 2), ((6, "E"), 3), ((7, "E"), 4)] }

/-- the one evaluation of the three builders and of `resolveAll` on `gExpr` -/
theorem resolvedTable_gExpr :
    resolvedTable .slr gExpr exprLevels 60 = some (exprTable ["+", "*", "^", endmarker]) ∧
    resolvedTable .lalr gExpr exprLevels 60 = some (exprTable ["*", "+", "^", endmarker]) ∧
    resolvedTable .lr1 gExpr exprLevels 60 = some (exprTable ["*", "+", "^", endmarker]) := by
  decide +kernel

theorem gExpr_opTable (k : Kind) (T : Table) (hT : resolvedTable k gExpr exprLevels 60 = some T) :
    opTableOK ["+", "*", "^"] exprLevels T = true := by
  obtain ⟨hS, hL, hC⟩ := resolvedTable_gExpr
  have hcols : T = exprTable ["+", "*", "^", endmarker] ∨ T = exprTable ["*", "+", "^", endmarker] := by
    cases k
    · exact .inl (Option.some.inj (hT.symm.trans hS))
    · exact .inr (Option.some.inj (hT.symm.trans hL))
    · exact .inr (Option.some.inj (hT.symm.trans hC))
  rcases hcols with rfl | rfl <;> decide +kernel

theorem resolvedAst_eq {k : Kind} {T : Table} (hT : resolvedTable k gExpr exprLevels 60 = some T) (w : List String) :
    resolvedAst k w =
      (match parse T.toTbl 400 w with
       | .ok (.accept _ root) => treeToExpr root
       | _ => none) := by
  unfold resolvedTable at hT
  unfold resolvedAst
  generalize build k gExpr 60 = o at hT ⊢
  split at hT
  · split at hT
    · cases hT
      simp only [*]
      rfl
    · cases hT
  · cases hT

theorem exprLevels_for : LevelsFor ["+", "*", "^"] exprLevels := by
  apply levelsFor_of
  · intro o
    simp only [exprLevels, List.mem_cons, List.not_mem_nil, or_false, exists_eq_or_imp, exists_eq_left,
      Handle.term.injEq]
    constructor
    · rintro (h | h | h) <;> simp [h]
    · rintro (h | h | h) <;> simp [h]
  · intro l hl
    simp only [exprLevels, List.mem_cons, List.not_mem_nil, or_false] at hl
    rcases hl with rfl | rfl | rfl <;> decide
  · decide
  · decide

theorem gExpr_is_gOps : gExpr = gOps ["+", "*", "^"] := rfl

/-- for the operator grammar `E → E + E | E * E | E ^ E | id` with `^` right > `*` left > `+` left, the resolved SLR(1),
LALR(1) and LR(1) parsers of the Model accept a token string iff the precedence-climbing reference returns an expression,
and then return exactly its tree — for EVERY token string -/
theorem gExpr_groups (k : Kind) (T : Table) (hT : resolvedTable k gExpr exprLevels 60 = some T) (w : List String)
    (hw : endmarker ∉ w) :
    (∀ e, climb exprLevels w = some e → ∃ fuel π, parse T.toTbl fuel w = Outcome.ok (PResult.accept π (treeOf e))) ∧
    (climb exprLevels w = none → ∃ fuel pos, parse T.toTbl fuel w = Outcome.ok (PResult.reject pos)) := by
  obtain ⟨C⟩ := opTable_of_ok (gExpr_opTable k T hT)
  exact group_correct C exprLevels_for (by decide) w hw

end AlgoVerif.C11.Group
