import AlgoVerif.Proofs.C14World
import AlgoVerif.Proofs.C14PathsTop
import AlgoVerif.Proofs.C14Bfs
import AlgoVerif.Proofs.C14Comp
import AlgoVerif.Proofs.C14Cycle
import AlgoVerif.Proofs.C14Topo
import AlgoVerif.Proofs.C14Scc
import AlgoVerif.Proofs.C14Dijkstra
import AlgoVerif.Proofs.C14Prim
/-!
# C14 proofs — every query on the graph built from an edge list returns what the property demands
(`Admits`), by instantiating the per-graph theorems at `theGraph k n es`

The per-graph theorems speak of vertices as naturals.  The two constructors that take a vertex and are asked about another
one later (`Paths`/`To`, `ShortestPathTree`/`PathTo`) are first restated for every pair of `int`s, in the Spec's terms
(`paths_spec` with `PathOK`, `spt_top` with `SptOK`).
-/
namespace AlgoVerif.C14

/-- **`Paths(s, strategy)` and every `To(v)`** on a well-formed graph: `To` panics exactly outside `[0, n)` (the Go code
indexes `visited[v]`), and otherwise answers what the Spec demands (`PathOK`: a walk from `s` iff `v` is reachable from a
valid `s`, with the fewest edges for BFS) -/
theorem paths_spec {g : Graph} (hg : g.WF) (s : Int) (strat : Strategy) :
    ∃ p, g.paths s strat = .ok p ∧
      (∀ v : Int, ¬ (0 ≤ v ∧ v < (g.n : Int)) → p.to v = .panic) ∧
      ∀ v : Int, 0 ≤ v ∧ v < (g.n : Int) → ∃ r, p.to v = .ok r ∧ PathOK g.HasArc g.n strat s v.toNat r := by
  by_cases hs : g.isVertexValid s = true
  · have hs' := valid_iff.1 hs
    obtain ⟨s', rfl⟩ := Int.eq_ofNat_of_zero_le hs'.1
    have hsn : s' < g.n := Int.ofNat_lt.1 hs'.2
    obtain ⟨p, h1, h2⟩ := paths_ok hg s' hsn strat
    refine ⟨p, h1, to_out_of_range p h2.size, fun v hv => ?_⟩
    obtain ⟨v, rfl⟩ := Int.eq_ofNat_of_zero_le hv.1
    rw [Int.toNat_natCast]
    have hto := to_spec p h2.src h2.size h2.pinv v (Int.ofNat_lt.1 hv.2)
    by_cases hvis : Vis p.visited v
    · obtain ⟨path, k1, k2⟩ := hto.1 hvis
      refine ⟨some path, k1, hs'.1, hs'.2, by simpa using k2, ?_⟩
      rintro rfl m hw
      exact bfs_fewest hg s' hsn p h1 v path k1 m (by simpa using hw)
    · exact ⟨none, hto.2 hvis, fun ⟨_, _, hr⟩ => hvis ((h2.vis_iff v).2 (by simpa using hr))⟩
  · have hs' : ¬ (0 ≤ s ∧ s < (g.n : Int)) := fun h => hs (valid_iff.2 h)
    refine ⟨_, paths_invalid s (by simpa using hs) strat, fun v hv => by rw [to_blank, if_neg hv],
      fun v hv => ⟨none, by rw [to_blank, if_pos hv], fun h => hs' ⟨h.1, h.2.1⟩⟩⟩

theorem paths_to_ok {g : Graph} (hg : g.WF) {s v : Int} {strat : Strategy} {p : Paths} {r : Option (List Nat)}
    (hp : g.paths s strat = .ok p) (hto : p.to v = .ok r) :
    (0 ≤ v ∧ v < (g.n : Int)) ∧ PathOK g.HasArc g.n strat s v.toNat r := by
  obtain ⟨p', h1, hout, hin⟩ := paths_spec hg s strat
  obtain rfl : p' = p := Outcome.ok.inj (h1.symm.trans hp)
  by_cases hv : 0 ≤ v ∧ v < (g.n : Int)
  · obtain ⟨r', hr, hok⟩ := hin v hv
    obtain rfl : r' = r := Outcome.ok.inj (hr.symm.trans hto)
    exact ⟨hv, hok⟩
  · rw [hout v hv] at hto; cases hto

/-- **`ShortestPathTree(s)` and every `PathTo(v)`** on a well-formed graph with non-negative weights, for every pair of `int`s:
the constructor panics exactly for a source outside `[0, n)` (the Go code indexes `distTo[s]`), `PathTo` exactly for a target
outside it, and otherwise it answers what the Spec demands (`SptOK`) -/
theorem spt_top {g : Graph} (hg : g.WF) (hd : g.DWF) (hnn : g.NonNeg) (s : Int) :
    (0 ≤ s ∧ s < (g.n : Int) →
      ∃ t, g.shortestPathTree s = .ok t ∧ (∀ v : Int, ¬ (0 ≤ v ∧ v < (g.n : Int)) → t.pathTo v = .panic) ∧
        ∀ v : Int, 0 ≤ v ∧ v < (g.n : Int) → ∃ r, t.pathTo v = .ok r ∧ SptOK g s.toNat v.toNat r) ∧
    (¬ (0 ≤ s ∧ s < (g.n : Int)) → g.shortestPathTree s = .panic) := by
  refine ⟨fun hs => ?_, fun hs => ?_⟩
  · obtain ⟨s', rfl⟩ := Int.eq_ofNat_of_zero_le hs.1
    obtain ⟨t, h1, hsz, h2⟩ := spt_spec_sz hg hd hnn s' (Int.ofNat_lt.1 hs.2)
    refine ⟨t, h1, pathTo_out_of_range t g.n hsz, fun v hv => ?_⟩
    obtain ⟨v, rfl⟩ := Int.eq_ofNat_of_zero_le hv.1
    rcases h2 v (Int.ofNat_lt.1 hv.2) with ⟨k1, k2⟩ | ⟨p, d, k1, k2, k3, k4⟩
    · exact ⟨none, k1, k2⟩
    · exact ⟨some (p, d), k1, k2, k3, k4⟩
  · unfold Graph.shortestPathTree Graph.shortestPathTreeFuel
    simp only [Array.size_replicate]
    rw [if_neg]
    intro ⟨h1, h2⟩
    exact hs ⟨h1, by omega⟩

/-- **Every query on the graph with exactly the edges `es` returns what C14 demands.** -/
theorem answer_admitted (k : Kind) (n : Nat) (es : List EdgeIn) (q : Query) (hq : q.applies k = true) :
    Admits k n es q ((GObj.build k n es).answer q) := by
  have hg := theGraph_wf k n es
  have hn := theGraph_n k n es
  have hE := theGraph_hasArc k n es
  cases q
  all_goals simp only [Admits, GObj.answer]
  all_goals try rw [build_g]
  case path strat s v =>
    obtain ⟨p, h1, hout, hin⟩ := paths_spec hg s strat
    rw [hn, hE] at hin
    rw [hn] at hout
    rw [h1]
    simp only [Outcome.bind]
    split
    · rename_i hv
      obtain ⟨r, hr, hok⟩ := hin v hv
      exact ⟨r, by rw [hr]; rfl, hok⟩
    · rename_i hv
      rw [hout v hv]; rfl
  case paths strat s =>
    obtain ⟨p, h1, _, hin⟩ := paths_spec hg s strat
    rw [hn, hE] at hin
    rw [h1, hn]
    refine ⟨_, rfl, by simp, fun v hv => ?_⟩
    obtain ⟨r, hr, hok⟩ := hin v ⟨Int.natCast_nonneg v, Int.ofNat_lt.2 hv⟩
    exact ⟨r, by simp [hv, hr], by simpa using hok⟩
  case cc =>
    have hsym : (theGraph k n es).Symmetric := by
      have : k.isDirected = false := by simpa [Query.applies] using hq
      unfold theGraph; rw [this]; exact (buildUndirected_spec n es).2.1
    obtain ⟨cc, h1, h2, h3, h4, h5⟩ := cc_spec hg hsym
    rw [hn, hE] at *
    exact ⟨cc, by rw [h1]; rfl, h2, h3, h4, h5⟩
  case scc =>
    obtain ⟨cc, h1, h2, h3, h4, h5⟩ := scc_spec hg
    rw [hn, hE] at *
    exact ⟨cc, by rw [h1]; rfl, h2, h3, h4, h5⟩
  case cycle =>
    obtain ⟨c, h1, h2, h3⟩ := directedCycle_spec hg
    rw [hE] at *
    exact ⟨c.cycleList, by rw [h1]; rfl, h2, h3⟩
  case topo =>
    obtain ⟨t, h1, h2, h3, h4⟩ := topological_spec hg
    rw [hn, hE] at *
    exact ⟨t, by rw [h1]; rfl, h2, h3, h4⟩
  case mst =>
    obtain rfl : k = .wundirected := by simpa [Query.applies] using hq
    obtain ⟨m, h1, h2, h3⟩ := mst_minimum hg (g := theGraph .wundirected n es) (buildUndirected_uwf n es)
      (buildUndirected_spec n es).2.1 (buildUndirected_ustored n es)
    exact ⟨m, by rw [h1]; rfl, h2, wsum_edges m, h3⟩
  case spt s =>
    intro hnn
    obtain rfl : k = .wdirected := by simpa [Query.applies] using hq
    have h := spt_top hg (buildDirected_dwf n es).1 ((buildDirected_dwf n es).2 hnn) s
    rw [hn] at h
    split
    · rename_i hs
      obtain ⟨t, h1, _, hin⟩ := h.1 hs
      rw [h1, hn]
      refine ⟨t, _, rfl, by simp, fun v hv => ?_⟩
      obtain ⟨r, hr, hok⟩ := hin v ⟨Int.natCast_nonneg v, Int.ofNat_lt.2 hv⟩
      exact ⟨r, by simp [hv, hr], by simpa using hok⟩
    · rename_i hs
      rw [h.2 hs]; rfl
  case sptto s v =>
    intro hnn
    obtain rfl : k = .wdirected := by simpa [Query.applies] using hq
    have h := spt_top hg (buildDirected_dwf n es).1 ((buildDirected_dwf n es).2 hnn) s
    rw [hn] at h
    split
    · rename_i hs
      obtain ⟨t, h1, hout, hin⟩ := h.1 hs
      rw [h1]
      simp only [Outcome.bind]
      split
      · rename_i hv
        obtain ⟨r, hr, hok⟩ := hin v hv
        exact ⟨t, r, by rw [hr]; rfl, hok⟩
      · rename_i hv
        rw [hout v hv]; rfl
    · rename_i hs
      rw [h.2 hs]; rfl

end AlgoVerif.C14
