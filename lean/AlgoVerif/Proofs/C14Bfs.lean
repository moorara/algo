import AlgoVerif.Proofs.C14PathsTop
/-!
# C14 proofs — BFS paths have the fewest edges

Level of a visited vertex = length of its `edgeTo` chain.  Invariant of the queue loop: the queue is sorted
by level, every visited vertex is at most one level above any queued vertex, and every arc out of a
processed vertex climbs at most one level.  At the end every arc climbs at most one level, so the level
is at most the length of any walk from the source.
-/
namespace AlgoVerif.C14

theorem Chain.vis_src {g : Graph} {s : Nat} {a : Array Bool} {et : Array Nat} {x k : Nat}
    (h : Chain g s a et x k) : Vis a s := by
  induction h with
  | base h => exact h
  | step _ _ _ _ _ ih => exact ih

theorem Chain.unique {g : Graph} {s : Nat} {a : Array Bool} {et : Array Nat} {x k k' : Nat}
    (h : Chain g s a et x k) (h' : Chain g s a et x k') : k = k' := by
  induction h generalizing k' with
  | base _ =>
    cases h' with
    | base _ => rfl
    | step hne _ _ _ _ => exact absurd rfl hne
  | step hne _ het _ _ ih =>
    cases h' with
    | base _ => exact absurd rfl hne
    | step _ _ het' _ hc' =>
      rw [het] at het'
      cases het'
      rw [ih hc']

section

variable {g : Graph} {s : Nat}

/-- the queue is sorted by level; a level is read off a chain, hence the quantifiers -/
def QSorted (g : Graph) (s : Nat) (a : Array Bool) (et : Array Nat) (fr : List Nat) : Prop :=
  fr.Pairwise (fun x y => ∀ kx ky, Chain g s a et x kx → Chain g s a et y ky → kx ≤ ky)

/-- the invariant of the queue loop (module header); `fr` is the queue -/
structure BfsJ (g : Graph) (s : Nat) (a : Array Bool) (et : Array Nat) (fr : List Nat) : Prop where
  arcs : ∀ x y kx ky, Vis a x → x ∉ fr → g.HasArc x y → Chain g s a et x kx → Chain g s a et y ky → ky ≤ kx + 1
  near : ∀ x ∈ fr, ∀ y kx ky, Chain g s a et x kx → Chain g s a et y ky → ky ≤ kx + 1
  sorted : QSorted g s a et fr

/-- the same while the adjacency list of the popped `v` is scanned (`bfsJIn_iff`) -/
structure BfsJIn (g : Graph) (s v : Nat) (a : Array Bool) (et : Array Nat) (fr : List Nat) : Prop where
  arcs : ∀ x y kx ky, Vis a x → x ∉ fr → x ≠ v → g.HasArc x y → Chain g s a et x kx → Chain g s a et y ky → ky ≤ kx + 1
  near : ∀ y kv ky, Chain g s a et v kv → Chain g s a et y ky → ky ≤ kv + 1
  above : ∀ x ∈ fr, ∀ kv kx, Chain g s a et v kv → Chain g s a et x kx → kv ≤ kx
  sorted : QSorted g s a et fr

variable {v w : Nat} {a : Array Bool} {et : Array Nat}

theorem bfsJIn_iff {fr : List Nat} (hv : ∃ kv, Chain g s a et v kv) :
    BfsJIn g s v a et fr ↔ BfsJ g s a et (v :: fr) := by
  obtain ⟨kv, hcv⟩ := hv
  constructor
  · intro h
    refine ⟨fun x y kx ky hx hnf => h.arcs x y kx ky hx (fun m => hnf (List.mem_cons_of_mem _ m))
      fun e => hnf (e ▸ List.mem_cons_self ..), ?_, List.pairwise_cons.2 ⟨h.above, h.sorted⟩⟩
    intro x hx y kx ky hcx hcy
    rcases List.mem_cons.1 hx with rfl | hx
    · exact h.near y kx ky hcx hcy
    · have := h.above x hx kv kx hcv hcx
      have := h.near y kv ky hcv hcy
      omega
  · intro h
    have hs := List.pairwise_cons.1 h.sorted
    exact ⟨fun x y kx ky hx hnf hxv => h.arcs x y kx ky hx fun m => (List.mem_cons.1 m).elim hxv hnf,
      h.near v (List.mem_cons_self ..), hs.1, hs.2⟩

theorem Chain.disc (hunv : a[w]? = some false) {x k : Nat} (h : Chain g s a et x k) :
    Chain g s (a.set! w true) (et.set! w v) x k :=
  h.mono (fun _ hz => vis_set_of_vis hz) fun z hz =>
    getElem?_set!_ne _ _ fun (e : w = z) => not_vis_of_false hunv (e ▸ hz)

theorem Chain.of_disc (hp : PInv g s a et) (hunv : a[w]? = some false) {x k : Nat} (hx : Vis a x)
    (h : Chain g s (a.set! w true) (et.set! w v) x k) : Chain g s a et x k := by
  obtain ⟨k0, hc0, _⟩ := hp.2 x hx
  rw [← (hc0.disc hunv).unique h]
  exact hc0

theorem Chain.disc_new {kv k : Nat} (hcv : Chain g s a et v kv) (hunv : a[w]? = some false) (hw : w < et.size)
    (h : Chain g s (a.set! w true) (et.set! w v) w k) : k = kv + 1 := by
  cases h with
  | base _ => exact absurd hcv.vis_src (not_vis_of_false hunv)
  | step _ _ het _ hc =>
    rw [getElem?_set!_self _ _ hw] at het
    cases het
    rw [(hcv.disc hunv).unique hc]

end

theorem bfs_levels {g : Graph} (hg : g.WF) (s : Nat) (hs : s < g.n) :
    ∃ st, iter pushQueue g pathsVisitors s ⟨Array.replicate g.n false, Array.replicate g.n 0⟩ = .ok st ∧
      PathsOK g s ⟨(s : Int), st.visited, st.s⟩ ∧
      ∀ x y kx ky, Vis st.visited x → g.HasArc x y → Chain g s st.visited st.s x kx →
        Chain g s st.visited st.s y ky → ky ≤ kx + 1 := by
  let a0 := Array.replicate g.n false
  let et0 := Array.replicate g.n 0
  have hp := pushQueue_ok
  have honly : ∀ x, Vis (a0.set! s true) x → x = s := by
    intro x hx
    rcases vis_set.1 hx with ⟨e, _⟩ | h
    · exact e.symm
    · exact absurd h vis_replicate_false
  have hj0 : BfsJ g s (a0.set! s true) et0 (pushQueue s []) :=
    { arcs := by
        intro x y kx ky hx hnf
        have := honly x hx
        subst this
        exact absurd ((hp.mem _ _ _).2 (Or.inl rfl)) hnf
      near := by
        intro x _ y kx ky hcx hcy
        have e1 := honly x hcx.vis
        have e2 := honly y hcy.vis
        subst e1; subst e2
        rw [hcx.unique hcy]; omega
      sorted := by simp [QSorted, pushQueue] }
  obtain ⟨st, h1, h2, h3⟩ :=
    iter_paths_top pushQueue hp g hg s (BfsJ g s)
      (by
        -- the vertices visited before keep their levels (`old`), `w` is one level above `v`
        intro v a et fr w hin hj hunv harc
        have hw : w < et.size := hin.pinv.1 ▸ hg.arc_lt harc
        obtain ⟨kv0, hcv0, _⟩ := hin.pinv.2 v hin.self
        replace hj := (bfsJIn_iff ⟨kv0, hcv0⟩).2 hj
        refine (bfsJIn_iff ⟨kv0, hcv0.disc hunv⟩).1 ?_
        have old : ∀ {x k}, Vis a x → Chain g s (a.set! w true) (et.set! w v) x k → Chain g s a et x k :=
          fun hx h => h.of_disc hin.pinv hunv hx
        exact
          { arcs := by
              intro x y kx ky hx hnf hxv hxy hcx hcy
              have hxf : x ∉ fr := fun e => hnf ((hp.mem _ _ _).2 (Or.inr e))
              have hxa : Vis a x := (vis_set_cases hx).resolve_left fun e => hnf ((hp.mem _ _ _).2 (Or.inl e))
              exact hj.arcs x y kx ky hxa hxf hxv hxy (old hxa hcx) (old (hin.closed x hxa hxf hxv y hxy) hcy)
            near := by
              intro y kv ky hcv hcy
              have hcv' := old hin.self hcv
              rcases vis_set_cases hcy.vis with rfl | hy
              · exact Nat.le_of_eq (hcv'.disc_new hunv hw hcy)
              · exact hj.near y kv ky hcv' (old hy hcy)
            above := by
              intro x hx kv kx hcv hcx
              have hcv' := old hin.self hcv
              rcases (hp.mem _ _ _).1 hx with rfl | hxf
              · rw [hcv'.disc_new hunv hw hcx]; exact Nat.le_succ _
              · exact hj.above x hxf kv kx hcv' (old (hin.front x hxf) hcx)
            sorted := List.pairwise_append.2 ⟨hj.sorted.imp_of_mem fun hx hy hxy kx ky hcx hcy =>
                hxy kx ky (old (hin.front _ hx) hcx) (old (hin.front _ hy) hcy), List.pairwise_singleton ..,
              fun x hx y hy kx ky hcx hcy => by
                obtain rfl := List.mem_singleton.1 hy
                rw [hcv0.disc_new hunv hw hcy]
                exact hj.near x kv0 kx hcv0 (old (hin.front x hx) hcx)⟩ })
      (fun v a et fr _ hj _ =>
        { arcs := fun x y kx ky hx hnf hxy hcx hcy => by
            by_cases hxv : x = v
            · exact hj.near x (hxv ▸ List.mem_cons_self ..) y kx ky hcx hcy
            · exact hj.arcs x y kx ky hx (fun m => (List.mem_cons.1 m).elim hxv hnf) hxy hcx hcy
          near := fun x hx => hj.near x (List.mem_cons_of_mem _ hx)
          sorted := (List.pairwise_cons.1 hj.sorted).2 })
      hs hj0
  exact ⟨st, h1, h2, fun x y kx ky hx hxy hcx hcy => h3.arcs x y kx ky hx (by simp) hxy hcx hcy⟩

theorem WalkLen.reach {E : Nat → Nat → Prop} {u v m : Nat} (h : WalkLen E u m v) : Reach E u v := by
  induction h with
  | zero => exact .refl _
  | succ _ e ih => exact .tail ih e

theorem level_le_walk {g : Graph} {s : Nat} {a : Array Bool} {et : Array Nat}
    (hinv : PInv g s a et) (hvis : ∀ v, Vis a v ↔ Reach g.HasArc s v)
    (harcs : ∀ x y kx ky, Vis a x → g.HasArc x y → Chain g s a et x kx → Chain g s a et y ky → ky ≤ kx + 1)
    {m x : Nat} (hw : WalkLen g.HasArc s m x) : ∀ k, Chain g s a et x k → k ≤ m := by
  induction hw with
  | zero =>
    intro k hc
    have := hc.unique (.base hc.vis_src)
    omega
  | @succ m y x hwy e ih =>
    intro k hc
    have hry : Reach g.HasArc s y := hwy.reach
    have hvy := (hvis y).2 hry
    obtain ⟨ky, hcy, _⟩ := hinv.2 y hvy
    have := ih ky hcy
    have := harcs y x ky k hvy e hcy hc
    omega

theorem bfs_fewest {g : Graph} (hg : g.WF) (s : Nat) (hs : s < g.n) (p : Paths)
    (hp : g.paths (s : Int) .bfs = .ok p) (v : Nat) (path : List Nat)
    (hto : p.to (v : Int) = .ok (some path)) (m : Nat) (hw : WalkLen g.HasArc s m v) :
    path.length ≤ m + 1 := by
  obtain ⟨st, h1, h2, h3⟩ := bfs_levels hg s hs
  have hvalid : g.isVertexValid (s : Int) = true := valid_iff.2 ⟨Int.natCast_nonneg s, Int.ofNat_lt.2 hs⟩
  have hpe : p = ⟨(s : Int), st.visited, st.s⟩ := by
    have : g.paths (s : Int) .bfs = .ok ⟨(s : Int), st.visited, st.s⟩ := by
      simp only [Graph.paths, hvalid, if_true, Int.toNat_natCast, traverse, h1]
    rw [this] at hp
    exact (Outcome.ok.inj hp).symm
  subst hpe
  have hr : Reach g.HasArc s v := hw.reach
  have hvis := (h2.vis_iff v).2 hr
  obtain ⟨path', k, k1, k2, k3, _⟩ := to_spec_len _ h2.src h2.size h2.pinv v hvis
  rw [k1] at hto
  have : path' = path := by simpa using hto
  subst this
  have := level_le_walk h2.pinv h2.vis_iff h3 hw k k2
  omega

end AlgoVerif.C14
