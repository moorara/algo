import AlgoVerif.Proofs.C11BuiltCompleteSets
/-!
# C11 — the Model's FOLLOW computation reaches its fixpoint

A pass of the FOLLOW loop is a fold of `envAdd`s, one per occurrence of a non-terminal in a body (`followProd_eq`), and
`Spec.followClosedBody` is a conjunction over the same occurrences (`followClosedBody_eq`).  Each `envAdd` is a `Round`, so the
loop stops (the fuel `|N|·(|T|+2)+1` exceeds the total size of the sets) on an environment that every one of them maps
to itself: what the occurrence contributes is there already.  Hence the result passes `Spec.chkFollowClosed`; FOLLOW of the
start symbol contains the endmarker.
-/
namespace AlgoVerif.C11.BuiltComplete
open AlgoVerif AlgoVerif.Gram AlgoVerif.C11 AlgoVerif.C11.Spec AlgoVerif.C11.Built

/-- what `followProd` adds to FOLLOW(B) for an occurrence of `B` followed by `rest` in a body of `head` -/
def followAdd (nl : List String) (fe env : Env) (head : String) (rest : List Sy) : List String :=
  if rest.all (symNullable nl) then unionNew (firstOfStr nl fe rest) (envGet env head) else firstOfStr nl fe rest

/-- `followProd`'s update for one occurrence of `b` -/
def envAdd (b : String) (add : List String) (env : Env) : Env :=
  env.map fun (n, s) => if n = b then (n, unionNew s add) else (n, s)

theorem envAdd_round {N Tm : List String} (b : String) {add : List String} (hadd : ∀ t ∈ add, t ∈ Tm) :
    Round (EnvForm N Tm) envSize (envAdd b add) ∧ ∀ env, EnvForm N Tm env →
      (∀ m, ∀ t ∈ envGet env m, t ∈ envGet (envAdd b add env) m) ∧
      (envAdd b add env = env → b ∈ N → ∀ t ∈ add, t ∈ envGet env b) := by
  obtain ⟨h1, h2⟩ := round_union (N := N) (Tm := Tm) (f := envAdd b add) (D := fun _ n => if n = b then add else [])
    (fun F => by
      unfold envAdd
      rw [List.map_map]
      refine List.map_congr_left fun n _ => ?_
      simp only [Function.comp]
      split <;> rfl)
    (fun _ _ n t ht => by split at ht; exact hadd t ht; simp at ht)
  exact ⟨h1, fun env henv => ⟨(h2 env henv).1, fun he hb t ht => (h2 env henv).2 he b hb t (by simpa using ht)⟩⟩

def occs : List Sy → List (String × List Sy)
  | [] => []
  | .term _ :: rest => occs rest
  | .nonterm b :: rest => (b, rest) :: occs rest

theorem mem_occs {o : String × List Sy} : ∀ (body : List Sy), o ∈ occs body → (Sym.nonterm o.1 :: o.2) <:+ body
  | [], h => nomatch h
  | .term _ :: rest, h => (mem_occs rest h).trans (List.suffix_cons _ _)
  | .nonterm _ :: rest, h => by
    rcases List.mem_cons.mp h with rfl | h
    · exact List.suffix_refl _
    · exact (mem_occs rest h).trans (List.suffix_cons _ _)

theorem followProd_eq (nl : List String) (fe env : Env) (head : String) : ∀ (body : List Sy) (acc : Env),
    followProd nl fe env head body acc =
      (occs body).foldl (fun acc o => envAdd o.1 (followAdd nl fe env head o.2) acc) acc
  | [], _ => rfl
  | .term _ :: rest, acc => followProd_eq nl fe env head rest acc
  | .nonterm _ :: rest, _ => followProd_eq nl fe env head rest _

theorem followClosedBody_eq (nl : List String) (fe fo : Env) (head : String) : ∀ (body : List Sy),
    followClosedBody nl fe fo head body = (occs body).all fun o =>
      (firstOfStr nl fe o.2).all (fun c => (envGet fo o.1).contains c) &&
        (!(o.2.all (symNullable nl)) || (envGet fo head).all (fun c => (envGet fo o.1).contains c))
  | [] => rfl
  | .term _ :: rest => followClosedBody_eq nl fe fo head rest
  | .nonterm _ :: rest => by rw [followClosedBody, followClosedBody_eq nl fe fo head rest]; rfl

/-- the loop invariant of `followEnv` -/
def FollowInv (g : SGrammar) (env : Env) : Prop :=
  EnvForm g.nonterms g.terms env ∧ endmarker ∈ envGet env g.start

theorem followAdd_terms {g : SGrammar} (hg : Listed g) (nl : List String) {env : Env}
    (henv : EnvForm g.nonterms g.terms env) {p : Pr} (hp : p ∈ g.prods) {o : String × List Sy} (ho : o ∈ occs p.body) :
    ∀ c ∈ followAdd nl (firstEnv g nl) env p.head o.2, c ∈ g.terms := by
  have h1 : ∀ c ∈ firstOfStr nl (firstEnv g nl) o.2, c ∈ g.terms :=
    firstOfStr_sub nl _ g.terms (fun m => (envForm_get (firstEnv_fix g hg nl).1 m).2) o.2 fun t ht =>
      hg.terms p hp t ((mem_occs _ ho).subset (List.mem_cons_of_mem _ ht))
  intro c hc
  unfold followAdd at hc
  split at hc
  · exact (mem_unionNew.mp hc).elim (h1 c) ((envForm_get henv p.head).2 c)
  · exact h1 c hc

theorem followStep_round (g : SGrammar) (hg : Listed g) (nl : List String) :
    Round (FollowInv g) envSize (followStep g nl (firstEnv g nl)) ∧ ∀ env, FollowInv g env →
      followStep g nl (firstEnv g nl) env = env → ∀ p ∈ g.prods, ∀ o ∈ occs p.body, o.1 ∈ g.nonterms →
        ∀ t ∈ followAdd nl (firstEnv g nl) env p.head o.2, t ∈ envGet env o.1 := by
  -- the pass reads the environment `e` it started from and folds `envAdd`s over an accumulator
  have key : ∀ e, FollowInv g e →
      Round (FollowInv g) envSize (g.prods.foldl (fun acc p => followProd nl (firstEnv g nl) e p.head p.body acc) ·) ∧
      ∀ x, FollowInv g x →
        envSize (g.prods.foldl (fun acc p => followProd nl (firstEnv g nl) e p.head p.body acc) x) = envSize x →
        ∀ p ∈ g.prods, ∀ o ∈ occs p.body, o.1 ∈ g.nonterms →
          ∀ t ∈ followAdd nl (firstEnv g nl) e p.head o.2, t ∈ envGet x o.1 := by
    intro e he
    have hprim := fun p hp o ho =>
      envAdd_round (N := g.nonterms) o.1 (followAdd_terms hg nl he.1 (p := p) hp (o := o) ho)
    have hin := fun p hp => Round.foldl (occs p.body) fun o ho =>
      (hprim p hp o ho).1.and (P := fun x => endmarker ∈ envGet x g.start) fun x hx => ((hprim p hp o ho).2 x hx).1 _ _
    obtain ⟨h1, h2⟩ := Round.foldl (step := fun acc p => followProd nl (firstEnv g nl) e p.head p.body acc) g.prods
      fun p hp => by simp only [followProd_eq]; exact (hin p hp).1
    refine ⟨h1, fun x hx heq p hp o ho => ?_⟩
    have := h2 x hx heq p hp
    rw [followProd_eq] at this
    exact ((hprim p hp o ho).2 x hx.1).2 ((hin p hp).2 x hx (congrArg envSize this) o ho)
  -- the pass starts from the environment it reads
  exact ⟨⟨fun x hx => (key x hx).1.inv x hx, fun x hx => (key x hx).1.le x hx, fun x hx => (key x hx).1.fix x hx⟩,
    fun x hx he => (key x hx).2 x hx (congrArg envSize he)⟩

theorem follow_closed (g : SGrammar) (hg : Listed g) (hend : endmarker ∈ g.terms) (nl : List String)
    (hbody : ∀ p ∈ g.prods, ∀ B, Sym.nonterm B ∈ p.body → B ∈ g.nonterms) (hstart : g.start ∈ g.nonterms) :
    chkFollowClosed g.prods nl (firstEnv g nl) (followEnv g nl (firstEnv g nl)) = true ∧
      endmarker ∈ envGet (followEnv g nl (firstEnv g nl)) g.start := by
  obtain ⟨hr, hcl⟩ := followStep_round g hg nl
  obtain ⟨hinv, hfix⟩ := hr.loop (B := g.nonterms.length * g.terms.length) (fun env h => envForm_size h.1)
    (loop := envFix (followStep g nl (firstEnv g nl))) (fun _ _ => rfl) (g.nonterms.length * (g.terms.length + 2) + 1)
    (g.nonterms.map fun n => (n, if n = g.start then [endmarker] else []))
    ⟨⟨fun n => if n = g.start then [endmarker] else [], rfl, fun n => by
        dsimp only
        split
        · exact ⟨by simp, by simpa using hend⟩
        · exact ⟨List.nodup_nil, by simp⟩⟩, by rw [envGet_map]; simp [hstart]⟩
    (by rw [Nat.mul_succ, Nat.mul_succ]; omega)
  refine ⟨?_, hinv.2⟩
  unfold chkFollowClosed
  rw [List.all_eq_true]
  intro p hp
  rw [followClosedBody_eq, List.all_eq_true]
  intro o ho
  have hsub := hcl _ hinv hfix p hp o ho (hbody p hp _ ((mem_occs _ ho).subset (List.mem_cons_self ..)))
  unfold followAdd at hsub
  simp only [Bool.and_eq_true, List.all_eq_true, Bool.or_eq_true, Bool.not_eq_true', List.contains_eq_mem,
    decide_eq_true_eq]
  by_cases hall : o.2.all (symNullable nl) = true
  · rw [if_pos hall] at hsub
    exact ⟨fun c hc => hsub c (mem_unionNew.mpr (Or.inl hc)), Or.inr fun c hc => hsub c (mem_unionNew.mpr (Or.inr hc))⟩
  · rw [if_neg hall] at hsub
    exact ⟨hsub, Or.inl (by simpa using hall)⟩

end AlgoVerif.C11.BuiltComplete
