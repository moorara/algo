import AlgoVerif.Proofs.C11Valid
/-!
# C11 — the LALR(1) construction of the Model: kernel automata and the lookahead table of `ComputeLALR1Kernels`

The finished lookahead table is described from two sides.  From above, `las_sound`: every relation between kernel items
and terminals that holds of the initial item and `$`, passes along the links and contains the spontaneous lookaheads
holds of every entry (`P` = "an item of `S′` only gets `$`" in `C11LalrKer`, `P` = "lies in FOLLOW" in `C11LalrFollow`).
From below: the first loop entered every spontaneous lookahead and recorded every link (`lalrStates_done`), the table only
grows (`LaLe`), so the `$` of the initial item survives (`las_init`); that propagation stops at a fixpoint of the links is
`propagate_spec` in `C11LalrLA`.
`LaRun`: the intermediate values of a run up to the finished table (the LR(0) kernel collection `K0`, the table and links
`lp` after the first loop, the table `las` after propagation); `LalrRun`: of a run that returned kernels `K1`.
-/
namespace AlgoVerif.C11.Built
open AlgoVerif AlgoVerif.Gram AlgoVerif.C11 AlgoVerif.C11.Spec AlgoVerif.C11.BuiltComplete

section
variable {g g' : SGrammar} (h : AugOK g g') {A : Auto} (hAg : A.g = g')
include h hAg

theorem auto_closure_spec {I K : List Item} (hc : A.closure I = Outcome.ok K) (hI : ∀ i ∈ I, Good g' i) :
    (∀ it ∈ K, it ∈ I ∨ (Good g' it ∧ Fresh0 g' it)) ∧ (∀ i ∈ I, i ∈ K) ∧ (∀ it ∈ K, Good g' it) := by
  unfold Auto.closure at hc
  rw [hAg] at hc
  obtain ⟨h1, h2⟩ := closure_spec h A.nl A.fe A.fuel I K hc hI
  refine ⟨h1, h2, fun it hit => ?_⟩
  rcases h1 it hit with h3 | h3
  · exact hI it h3
  · exact h3.1

variable (hAk : A.kernel = true)
include hAk

theorem kgoto_other : GotoOther g' A := by
  intro I J X hg hI
  obtain ⟨c, hc, rfl⟩ := kgoto_ok hAk hg
  obtain ⟨_, _, hgood⟩ := auto_closure_spec h hAg hc hI
  intro it hit
  obtain ⟨i0, hi0, _, rfl⟩ := mem_advance.mp hit
  exact ⟨good_next (hgood i0 hi0), by rintro ⟨_, hd⟩; simp [Item.next] at hd⟩

theorem kcanonical_spec {C : List (List Item)} (hc : A.canonical = Outcome.ok C) : Cinv g' A.initialItem C := by
  refine grows_spec (kgoto_other h hAg hAk) (kcanonical_grows hAk hc)
    ⟨[A.initialItem], [], rfl, ⟨by simp, ?_⟩, by simp⟩
  intro it hit
  cases List.mem_singleton.mp hit
  refine ⟨initialItem_good h hAg, ?_, fun hne => absurd rfl hne⟩
  rw [initialItem_eq h hAg]

end


/-- the LR(0) kernel item a key `(state, index)` of the lookahead table denotes -/
def keyItem (S0 : StateMap) (k : Key) : Option Item :=
  if k.1 < 0 ∨ k.2 < 0 then none else (S0.getD k.1.toNat [])[k.2.toNat]?

theorem laGet_laAdd (t : LaTable) (k : Key) (ls : List String) (k0 : Key) :
    laGet (laAdd t k ls) k0 = if k0 = k then some (unionNew ((laGet t k).getD []) ls) else laGet t k0 := by
  unfold laAdd laGet
  rw [lookup_upsert k (fun v => unionNew v ls) (unionNew [] ls) k0 t]
  by_cases h : k0 = k
  · subst h
    cases t.lookup k0 <;> simp
  · simp [h]

def Has (t : LaTable) (k : Key) (a : String) : Prop := ∃ ls, laGet t k = some ls ∧ a ∈ ls

theorem has_laAdd {t : LaTable} {k k0 : Key} {ls : List String} {a : String} :
    Has (laAdd t k ls) k0 a ↔ Has t k0 a ∨ (k0 = k ∧ a ∈ ls) := by
  unfold Has
  rw [laGet_laAdd]
  by_cases hk : k0 = k
  · subst hk
    cases laGet t k0 <;> simp [mem_unionNew]
  · simp [hk]

theorem findItem_spec (K : List Item) (x : Item) :
    findItem K x = -1 ∨ ∃ n : Nat, findItem K x = (n : Int) ∧ K[n]? = some x := by
  unfold findItem
  cases hf : K.findIdx? (fun y => decide (y = x)) with
  | none => exact Or.inl rfl
  | some n =>
    obtain ⟨y, hy, hp⟩ := findIdx?_some _ K n hf
    have : y = x := by simpa using hp
    exact Or.inr ⟨n, rfl, this ▸ hy⟩

theorem findItem_found {K : List Item} {x : Item} (hx : x ∈ K) :
    ∃ n : Nat, findItem K x = (n : Int) ∧ K[n]? = some x := by
  obtain ⟨n, y, hf, hy, hp⟩ := findIdx?_of_mem (p := fun y => decide (y = x)) hx (by simp)
  have hyx : y = x := by simpa using hp
  exact ⟨n, by unfold findItem; rw [hf], hyx ▸ hy⟩

theorem keyItem_nat {S0 : StateMap} {s i : Nat} {it : Item} :
    keyItem S0 ((s : Int), (i : Int)) = some it ↔ ∃ I, S0[s]? = some I ∧ I[i]? = some it := by
  unfold keyItem
  have : ¬ (((s : Nat) : Int) < 0 ∨ ((i : Nat) : Int) < 0) := by omega
  simp only [this, if_false, Int.toNat_natCast, List.getD_eq_getElem?_getD]
  cases S0[s]? <;> simp

theorem keyItem_target {S0 : StateMap} {n : Nat} {Kn : List Item} (hKn : S0[n]? = some Kn) {x it : Item}
    (hat : keyItem S0 ((n : Int), findItem Kn x) = some it) : it = x := by
  rcases findItem_spec Kn x with hneg | ⟨m, hm, hK⟩
  · rw [hneg] at hat; simp [keyItem] at hat
  · rw [hm] at hat
    obtain ⟨I, hI, hit⟩ := keyItem_nat.mp hat
    cases hKn.symm.trans hI
    exact Option.some.inj (hit.symm.trans hK)

end AlgoVerif.C11.Built

namespace AlgoVerif.C11.Lalr
open AlgoVerif AlgoVerif.Gram AlgoVerif.C11 AlgoVerif.C11.Spec AlgoVerif.C11.Built

/-- `a` is a lookahead of kernel item `k` of LR(0) state `s` -/
def LA (S0 : StateMap) (las : LaTable) (s : Nat) (k : Item) (a : String) : Prop :=
  ∃ (Is : List Item) (i : Nat), S0[s]? = some Is ∧ Is[i]? = some k ∧ Has las ((s : Int), (i : Int)) a

theorem la_mem {S0 : StateMap} {las : LaTable} {s : Nat} {Is : List Item} {k : Item} {a : String} (hIs : S0[s]? = some Is)
    (h : LA S0 las s k a) : k ∈ Is := by
  obtain ⟨Is', i, hIs', hki, _⟩ := h
  cases hIs.symm.trans hIs'
  exact List.mem_of_getElem? hki

/-- The successor of the state with items `Is` on `X`, as `lalrVisit` looks it up: `FindItemSet(GOTO(Is, X))` is the
state `n` of `S0`, with items `Kn`. -/
def Succ (A0 : Auto) (S0 : StateMap) (Is : List Item) (X : Sy) (n : Nat) (Kn : List Item) : Prop :=
  ∃ nextI, A0.goto Is X = Outcome.ok nextI ∧ findItemSet S0 nextI = (n : Int) ∧ S0[n]? = some Kn ∧
    ∀ y, y ∈ Kn ↔ y ∈ nextI

theorem Succ.unique {A0 : Auto} {S0 : StateMap} {Is : List Item} {X : Sy} {n n' : Nat} {Kn Kn' : List Item}
    (h : Succ A0 S0 Is X n Kn) (h' : Succ A0 S0 Is X n' Kn') : n' = n ∧ Kn' = Kn := by
  obtain ⟨nextI, hgo, hn, hKn, _⟩ := h
  obtain ⟨nextI', hgo', hn', hKn', _⟩ := h'
  cases hgo.symm.trans hgo'
  obtain rfl : n' = n := by rw [hn] at hn'; omega
  exact ⟨rfl, Option.some.inj (hKn'.symm.trans hKn)⟩

/-- `P` holds of every entry of the table, by keys: the form in which the two loops preserve it (`las_sound` hands it out by
state and item, as `LA`) -/
def LasP (P : Item → String → Prop) (S0 : StateMap) (t : LaTable) : Prop :=
  ∀ k it a, keyItem S0 k = some it → Has t k a → P it a

theorem lasP_laAdd {P : Item → String → Prop} {S0 : StateMap} {t : LaTable} {k : Key} {ls : List String}
    (ht : LasP P S0 t) (hk : ∀ it, keyItem S0 k = some it → ∀ a ∈ ls, P it a) : LasP P S0 (laAdd t k ls) := by
  intro k0 it a hit ha
  rcases has_laAdd.mp ha with h | ⟨rfl, h⟩
  · exact ht k0 it a hit h
  · exact hk it hit a h

/-- a link hands lookaheads on to an item for which they are admissible too -/
def LinkP (P : Item → String → Prop) (S0 : StateMap) (links : Links) : Prop :=
  ∀ l ∈ links, ∀ it', keyItem S0 l.2 = some it' → ∃ it, keyItem S0 l.1 = some it ∧ ∀ a, P it a → P it' a

/-- one step of a propagation pass -/
def pstep (t : LaTable) (x : Key × Key) : LaTable :=
  match laGet t x.1 with
  | some ls => if ls.isEmpty then t else laAdd t x.2 ls
  | none => t

theorem pstep_of_get {t : LaTable} {x : Key × Key} {ls : List String} (hg : laGet t x.1 = some ls) (hne : ls ≠ []) :
    pstep t x = laAdd t x.2 ls := by
  unfold pstep
  rw [hg]
  simp [hne]

theorem pstep_cases (t : LaTable) (x : Key × Key) :
    pstep t x = t ∨ ∃ ls, laGet t x.1 = some ls ∧ ls ≠ [] ∧ pstep t x = laAdd t x.2 ls := by
  cases hg : laGet t x.1 with
  | none => left; unfold pstep; rw [hg]
  | some ls =>
    by_cases hne : ls = []
    · left; unfold pstep; rw [hg, hne]; rfl
    · exact Or.inr ⟨ls, rfl, hne, pstep_of_get hg hne⟩

theorem has_pstep {t : LaTable} {x : Key × Key} {k0 : Key} {a : String} :
    Has (pstep t x) k0 a ↔ Has t k0 a ∨ (k0 = x.2 ∧ Has t x.1 a) := by
  rcases pstep_cases t x with h | ⟨ls, hg, _, h⟩
  · rw [h]
    refine ⟨Or.inl, fun h' => h'.elim id ?_⟩
    rintro ⟨rfl, ls, hls, ha⟩
    rw [pstep_of_get hls (List.ne_nil_of_mem ha)] at h
    exact h ▸ has_laAdd.mpr (Or.inr ⟨rfl, ha⟩)
  · rw [h, has_laAdd]
    simp [Has, hg]

theorem pstep_lasP {P : Item → String → Prop} {S0 : StateMap} {t : LaTable} {x : Key × Key}
    (hx : ∀ it', keyItem S0 x.2 = some it' → ∃ it, keyItem S0 x.1 = some it ∧ ∀ a, P it a → P it' a)
    (ht : LasP P S0 t) : LasP P S0 (pstep t x) := by
  intro k0 it' a hit' ha
  rcases has_pstep.mp ha with h | ⟨rfl, h⟩
  · exact ht k0 it' a hit' h
  · obtain ⟨it, hit, himp⟩ := hx it' hit'
    exact himp a (ht _ it a hit h)


theorem pass_pres {Q : LaTable → Prop} : ∀ (props : Links) (t : LaTable),
    (∀ t, ∀ x ∈ props, Q t → Q (pstep t x)) → Q t → Q (props.foldl pstep t)
  | [], _, _, h => h
  | x :: props, t, hstep, h => by
    simp only [List.foldl_cons]
    exact pass_pres props _ (fun t y hy => hstep t y (List.mem_cons_of_mem _ hy)) (hstep t x (by simp) h)

theorem propagate_pres {Q : LaTable → Prop} (props : Links) (hstep : ∀ t, ∀ x ∈ props, Q t → Q (pstep t x)) :
    ∀ (fuel : Nat) (t las : LaTable), Q t → propagate props fuel t = Outcome.ok las → Q las
  | 0, _, _, _, hp => by simp [propagate] at hp
  | fuel + 1, t, las, h, hp => by
    unfold propagate at hp
    simp only at hp
    split at hp
    · simp only [Outcome.ok.injEq] at hp
      subst hp
      exact h
    · exact propagate_pres props hstep fuel _ las (pass_pres props t hstep h) hp

/-- the LR(0) and the LR(1) kernel automaton of `ComputeLALR1Kernels` -/
abbrev A0 (g' : SGrammar) (fuel : Nat) : Auto := mkAuto g' false true fuel
@[inherit_doc A0] abbrev A1 (g' : SGrammar) (fuel : Nat) : Auto := mkAuto g' true true fuel

/-- the intermediate values of a run of `lalrKernels g' fuel` up to the finished lookahead table -/
structure LaRun (g' : SGrammar) (fuel : Nat) where
  K0 : List (List Item)
  lp : LaTable × Links
  las : LaTable
  hK0 : (A0 g' fuel).canonical = Outcome.ok K0
  hlp : ((buildStateMap g'.start K0).zipIdx).foldlM
      (lalrState (A0 g' fuel) (A1 g' fuel) (buildStateMap g'.start K0)) ([((0, 0), [endmarker])], []) = Outcome.ok lp
  hlas : propagate lp.2 fuel lp.1 = Outcome.ok las

def LaRun.S0 {g' : SGrammar} {fuel : Nat} (R : LaRun g' fuel) : StateMap :=
  buildStateMap g'.start R.K0

/-- the same for a run that returned: `lalrKernels g' fuel = .ok K1` -/
structure LalrRun (g' : SGrammar) (fuel : Nat) (K1 : List (List Item)) extends LaRun g' fuel where
  hK1 : ((buildStateMap g'.start K0).zipIdx).foldlM (fun (K1 : List (List Item)) Is => do
      let J ← lalrKernelOf las Is
      pure (if containsSet K1 J then K1 else K1 ++ [J])) [] = Outcome.ok K1

theorem lalrRun_of_ok {g' : SGrammar} {fuel : Nat} {K1 : List (List Item)}
    (hk : lalrKernels g' fuel = Outcome.ok K1) : Nonempty (LalrRun g' fuel K1) := by
  unfold lalrKernels at hk
  obtain ⟨K0, hK0, hk1⟩ := bind_eq_ok hk
  obtain ⟨lp, hlp, hk2⟩ := bind_eq_ok hk1
  obtain ⟨las, hlas, hk3⟩ := bind_eq_ok hk2
  exact ⟨⟨⟨K0, lp, las, hK0, hlp, hlas⟩, hk3⟩⟩

theorem lalrVisit_ok {A0 : Auto} {S0 : StateMap} {I : List Item} {src : Key} {acc acc' : LaTable × Links} {j : Item}
    (hv : lalrVisit A0 S0 I src acc j = Outcome.ok acc') :
    (j.dotSym = none ∧ acc' = acc) ∨
    ∃ X n Kn, j.dotSym = some X ∧ Succ A0 S0 I X n Kn ∧
      ∃ tgt : Key, tgt = ((n : Int), findItem Kn j.next.core) ∧
        ((j.la = none ∧ acc' = acc) ∨ (j.la = some endmarker ∧ acc' = (acc.1, acc.2 ++ [(src, tgt)])) ∨
          ∃ a, j.la = some a ∧ a ≠ endmarker ∧ acc' = (laAdd acc.1 tgt [a], acc.2)) := by
  unfold lalrVisit at hv
  split at hv
  · rename_i hd
    exact Or.inl ⟨hd, (pure_eq_ok hv).symm⟩
  · rename_i X hd
    obtain ⟨nextI, hgo, hrest⟩ := bind_eq_ok hv
    simp only at hrest
    split at hrest
    · cases hrest
    · rename_i hts
      rcases findItemSet_spec S0 nextI with hneg | ⟨n, Kn, hn, hKn, hsame⟩
      · rw [hneg] at hts; exact absurd (by decide) hts
      · rw [hn] at hrest
        simp only [Int.toNat_natCast, List.getD_eq_getElem?_getD, hKn, Option.getD_some] at hrest
        refine Or.inr ⟨X, n, Kn, hd, ⟨nextI, hgo, hn, hKn, hsame⟩, _, rfl, ?_⟩
        split at hrest
        · rename_i a hla
          split at hrest
          · rename_i hae
            exact Or.inr (Or.inl ⟨hae ▸ hla, (pure_eq_ok hrest).symm⟩)
          · rename_i hae
            exact Or.inr (Or.inr ⟨a, hla, hae, (pure_eq_ok hrest).symm⟩)
        · rename_i hla
          exact Or.inl ⟨hla, (pure_eq_ok hrest).symm⟩

theorem lalrVisit_lasP {P : Item → String → Prop} {S0 : StateMap} {A0 : Auto} {I : List Item} {src : Key}
    {acc acc' : LaTable × Links} {j k : Item} (hsrc : keyItem S0 src = some k)
    (hlink : j.la = some endmarker → ∀ a, P k a → P j.next.core a)
    (hspont : ∀ a, j.la = some a → a ≠ endmarker → P j.next.core a)
    (hinv : LasP P S0 acc.1 ∧ LinkP P S0 acc.2) (hv : lalrVisit A0 S0 I src acc j = Outcome.ok acc') :
    LasP P S0 acc'.1 ∧ LinkP P S0 acc'.2 := by
  rcases lalrVisit_ok hv with ⟨_, rfl⟩ | ⟨X, n, Kn, _, ⟨_, _, _, hKn, _⟩, tgt, rfl, ⟨_, rfl⟩ | ⟨hla, rfl⟩ | ⟨a, hla, hae, rfl⟩⟩
  · exact hinv
  · exact hinv
  · refine ⟨hinv.1, fun l hl it hit => ?_⟩
    rcases List.mem_append.mp hl with h1 | h1
    · exact hinv.2 l h1 it hit
    · rw [List.mem_singleton] at h1
      subst h1
      cases keyItem_target hKn hit
      exact ⟨k, hsrc, hlink hla⟩
  · refine ⟨lasP_laAdd hinv.1 fun it hit b hb => ?_, hinv.2⟩
    cases keyItem_target hKn hit
    rw [List.mem_singleton] at hb
    subst hb
    exact hspont b hla hae

theorem lalrState_pres {Q : LaTable × Links → Prop} {A0 A1 : Auto} {S0 : StateMap} {I : List Item} {s : Nat}
    (hvisit : ∀ ii ∈ I.zipIdx, ∀ J, A1.closure [{ ii.1 with la := some endmarker }] = Outcome.ok J → ∀ j ∈ J, ∀ c c',
      Q c → lalrVisit A0 S0 I ((s : Int), (ii.2 : Int)) c j = Outcome.ok c' → Q c')
    {acc acc' : LaTable × Links} (h : Q acc) (hr : lalrState A0 A1 S0 acc (I, s) = Outcome.ok acc') : Q acc' := by
  unfold lalrState at hr
  refine Outcome.All.foldlM _ acc h ?_ acc' hr
  intro b ii hii hb b' hstep
  obtain ⟨J, hJ, hrest⟩ := bind_eq_ok hstep
  exact Outcome.All.foldlM J b hb (fun c j hj hc c' hv => hvisit ii hii J hJ j hj c c' hc hv) b' hrest

theorem las_sound {A0 A1 : Auto} {S0 : StateMap} {lp : LaTable × Links} {fuel : Nat} {las : LaTable}
    (hlp : (S0.zipIdx).foldlM (lalrState A0 A1 S0) ([((0, 0), [endmarker])], []) = Outcome.ok lp)
    (hlas : propagate lp.2 fuel lp.1 = Outcome.ok las) {P : Item → String → Prop}
    (h0 : ∀ I0 it, S0[0]? = some I0 → I0[0]? = some it → P it endmarker)
    (hclo : ∀ (s : Nat) Is, S0[s]? = some Is → ∀ k ∈ Is, ∀ J,
      A1.closure [{ k with la := some endmarker }] = Outcome.ok J → ∀ j ∈ J,
      (j.la = some endmarker → ∀ a, P k a → P j.next.core a) ∧
        ∀ a, j.la = some a → a ≠ endmarker → P j.next.core a)
    {s : Nat} {k : Item} {a : String} (hLA : LA S0 las s k a) : P k a := by
  have h1 : LasP P S0 lp.1 ∧ LinkP P S0 lp.2 := by
    refine Outcome.All.foldlM (P := fun acc => LasP P S0 acc.1 ∧ LinkP P S0 acc.2) _ _ ⟨?_, by intro l hl; simp at hl⟩ ?_ lp hlp
    · rintro k it a hit ⟨ls, hls, ha⟩
      simp only [laGet, List.lookup] at hls
      split at hls
      · next hk =>
        cases hls
        cases List.mem_singleton.mp ha
        rw [beq_iff_eq.mp hk] at hit
        obtain ⟨I0, hI0, hit0⟩ := (keyItem_nat (s := 0) (i := 0)).mp hit
        exact h0 I0 it hI0 hit0
      · cases hls
    · intro b Is hIs hb b' hstep
      have hget : S0[Is.2]? = some Is.1 := List.mem_zipIdx_iff_getElem?.mp hIs
      refine lalrState_pres (Q := fun acc => LasP P S0 acc.1 ∧ LinkP P S0 acc.2)
        (fun ii hii J hJ j hj c c' hc hv => ?_) hb hstep
      have hget' : Is.1[ii.2]? = some ii.1 := List.mem_zipIdx_iff_getElem?.mp hii
      have := hclo Is.2 Is.1 hget ii.1 (List.mem_of_getElem? hget') J hJ j hj
      exact lalrVisit_lasP (keyItem_nat.mpr ⟨_, hget, hget'⟩) this.1 this.2 hc hv
  obtain ⟨Is, i, hIs, hki, ha⟩ := hLA
  exact propagate_pres lp.2 (fun _ x hx h => pstep_lasP (h1.2 x hx) h) fuel lp.1 las h1.1 hlas _ k a
    (keyItem_nat.mpr ⟨Is, hIs, hki⟩) ha

def LaLe (t t' : LaTable) : Prop := ∀ k a, Has t k a → Has t' k a

theorem laLe_refl (t : LaTable) : LaLe t t := fun _ _ h => h

theorem laLe_trans {a b c : LaTable} (h1 : LaLe a b) (h2 : LaLe b c) : LaLe a c := fun k x h => h2 k x (h1 k x h)

theorem laLe_laAdd (t : LaTable) (k : Key) (ls : List String) : LaLe t (laAdd t k ls) :=
  fun _ _ h => has_laAdd.mpr (Or.inl h)

/-- the accumulator of the first loop only grows -/
def AccLe (acc acc' : LaTable × Links) : Prop := LaLe acc.1 acc'.1 ∧ ∀ l ∈ acc.2, l ∈ acc'.2

theorem accLe_refl (acc : LaTable × Links) : AccLe acc acc := ⟨laLe_refl _, fun _ h => h⟩

theorem accLe_trans (a b c : LaTable × Links) (h1 : AccLe a b) (h2 : AccLe b c) : AccLe a c :=
  ⟨laLe_trans h1.1 h2.1, fun l hl => h2.2 l (h1.2 l hl)⟩

/-- what the visit of the closure item `j` of kernel item `(s, ki)` must have left in the accumulator -/
def VisitDone (A0 : Auto) (S0 : StateMap) (Is : List Item) (s ki : Nat) (acc : LaTable × Links) (j : Item) : Prop :=
  ∀ X, j.dotSym = some X → ∃ n Kn, Succ A0 S0 Is X n Kn ∧
    ∀ b, j.la = some b →
      (b = endmarker → ((((s : Int), (ki : Int)), ((n : Int), findItem Kn j.next.core)) : Key × Key) ∈ acc.2) ∧
      (b ≠ endmarker → Has acc.1 ((n : Int), findItem Kn j.next.core) b)

theorem visitDone_mono {A0 : Auto} {S0 : StateMap} {Is : List Item} {s ki : Nat} (j : Item)
    (acc acc' : LaTable × Links) (hle : AccLe acc acc') (h : VisitDone A0 S0 Is s ki acc j) :
    VisitDone A0 S0 Is s ki acc' j := by
  intro X hd
  obtain ⟨n, Kn, hsucc, hb⟩ := h X hd
  refine ⟨n, Kn, hsucc, fun b hla => ?_⟩
  obtain ⟨h1, h2⟩ := hb b hla
  exact ⟨fun he => hle.2 _ (h1 he), fun hne => hle.1 _ b (h2 hne)⟩

theorem lalrVisit_done {A0 : Auto} {S0 : StateMap} {Is : List Item} {s ki : Nat} {acc acc' : LaTable × Links}
    {j : Item} (hv : lalrVisit A0 S0 Is ((s : Int), (ki : Int)) acc j = Outcome.ok acc') :
    AccLe acc acc' ∧ VisitDone A0 S0 Is s ki acc' j := by
  rcases lalrVisit_ok hv with ⟨hd, rfl⟩ | ⟨X, n, Kn, hd, hsucc, tgt, rfl, hcase⟩
  · exact ⟨accLe_refl _, fun X hX => by rw [hd] at hX; cases hX⟩
  · -- the successor is the one `lalrVisit` took; what remains is the entry for the lookahead `b` of `j`
    suffices h : AccLe acc acc' ∧ ∀ b, j.la = some b →
        (b = endmarker → (((s : Int), (ki : Int)), ((n : Int), findItem Kn j.next.core)) ∈ acc'.2) ∧
        (b ≠ endmarker → Has acc'.1 ((n : Int), findItem Kn j.next.core) b) by
      refine ⟨h.1, fun X' hX' => ?_⟩
      cases hd.symm.trans hX'
      exact ⟨n, Kn, hsucc, h.2⟩
    rcases hcase with ⟨hla, rfl⟩ | ⟨hla, rfl⟩ | ⟨a, hla, hae, rfl⟩
    · exact ⟨accLe_refl _, fun b hb => by rw [hla] at hb; cases hb⟩
    · refine ⟨⟨laLe_refl _, fun l hl => List.mem_append_left _ hl⟩, fun b hb => ?_⟩
      cases hla.symm.trans hb
      exact ⟨fun _ => List.mem_append_right _ (by simp), fun hne => absurd rfl hne⟩
    · refine ⟨⟨laLe_laAdd _ _ _, fun l hl => hl⟩, fun b hb => ?_⟩
      cases hla.symm.trans hb
      exact ⟨fun he => absurd he hae, fun _ => has_laAdd.mpr (Or.inr ⟨rfl, by simp⟩)⟩

/-- what the processing of kernel item `k` (index `ki`) of state `s` must have left -/
def KItemDone (A0 A1 : Auto) (S0 : StateMap) (Is : List Item) (s : Nat) (kk : Item × Nat) (acc : LaTable × Links) : Prop :=
  ∃ J, A1.closure [{ kk.1 with la := some endmarker }] = Outcome.ok J ∧ ∀ j ∈ J, VisitDone A0 S0 Is s kk.2 acc j

theorem lalrState_done {A0 A1 : Auto} {S0 : StateMap} {Is : List Item} {s : Nat} {acc acc' : LaTable × Links}
    (hr : lalrState A0 A1 S0 acc (Is, s) = Outcome.ok acc') :
    AccLe acc acc' ∧ ∀ kk ∈ Is.zipIdx, KItemDone A0 A1 S0 Is s kk acc' := by
  unfold lalrState at hr
  refine foldlM_done _ AccLe accLe_refl accLe_trans (KItemDone A0 A1 S0 Is s) ?_ _ acc acc' ?_ hr
  · intro kk b b' hle ⟨J, hJ, hall⟩
    exact ⟨J, hJ, fun j hj => visitDone_mono j b b' hle (hall j hj)⟩
  · intro b kk b' _ hstep
    obtain ⟨J, hJ, hrest⟩ := bind_eq_ok hstep
    obtain ⟨h1, h2⟩ := foldlM_done _ AccLe accLe_refl accLe_trans (fun j acc => VisitDone A0 S0 Is s kk.2 acc j)
      visitDone_mono J b b'
      (fun c j c' _ hv => lalrVisit_done hv) hrest
    exact ⟨h1, J, hJ, h2⟩

theorem lalrStates_done {A0 A1 : Auto} {S0 : StateMap} {init lp : LaTable × Links}
    (hlp : (S0.zipIdx).foldlM (lalrState A0 A1 S0) init = Outcome.ok lp) :
    AccLe init lp ∧ ∀ Is ∈ S0.zipIdx, ∀ kk ∈ Is.1.zipIdx, KItemDone A0 A1 S0 Is.1 Is.2 kk lp := by
  refine foldlM_done _ AccLe accLe_refl accLe_trans
    (fun (Is : List Item × Nat) acc => ∀ kk ∈ Is.1.zipIdx, KItemDone A0 A1 S0 Is.1 Is.2 kk acc) ?_ _ init lp ?_ hlp
  · intro Is b b' hle h kk hkk
    obtain ⟨J, hJ, hall⟩ := h kk hkk
    exact ⟨J, hJ, fun j hj => visitDone_mono j b b' hle (hall j hj)⟩
  · intro b Is b' _ hstep
    exact lalrState_done hstep


theorem pstep_le (t : LaTable) (x : Key × Key) : LaLe t (pstep t x) := fun _ _ h => has_pstep.mpr (Or.inl h)

theorem propagate_le {props : Links} {fuel : Nat} {t las : LaTable} (h : propagate props fuel t = Outcome.ok las) :
    LaLe t las :=
  propagate_pres (Q := LaLe t) props (fun t' x _ h' => laLe_trans h' (pstep_le t' x)) fuel t las (laLe_refl t) h

theorem las_init {A0 A1 : Auto} {S0 : StateMap} {lp : LaTable × Links} {fuel : Nat} {las : LaTable}
    (hlp : (S0.zipIdx).foldlM (lalrState A0 A1 S0) ([((0, 0), [endmarker])], []) = Outcome.ok lp)
    (hlas : propagate lp.2 fuel lp.1 = Outcome.ok las) : Has las (0, 0) endmarker :=
  propagate_le hlas _ _ ((lalrStates_done hlp).1.1 _ _ ⟨[endmarker], by simp [laGet, List.lookup], by simp⟩)

end AlgoVerif.C11.Lalr
