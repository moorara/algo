import AlgoVerif.Proofs.C13SM
/-! C13: what a loop that threads the state manager computes.  The numbers `GetOrCreateState` hands out are never
changed later, so a computation that only asks for numbers returns what the *pure* computation returns that reads
them off the state manager it ends with — or off any later one.  `Numbers` says this of a computation; `pure`,
`get`, `bind`, `foldl` build it for the loops of the Model, which are compositions of these by
definitional unfolding.  `Thread` (`C13SM`) says of such a loop that what is observed of its result grows, which is what
the users of loops over `NFA.add` consume (it joins target sets); `Numbers` says that the result equals the pure loop,
which is what is needed where `DFA.add` overwrites. -/
namespace AlgoVerif.C13
open AlgoVerif

def SM.num (M : SM) (id : Nat) (s : Int) : Int := (M.find id s).getD 0

theorem SM.num_of_find {M : SM} {id : Nat} {s v : Int} (h : M.find id s = some v) : M.num id s = v := by
  simp only [SM.num, h, Option.getD_some]

theorem SM.find_num {M : SM} {id : Nat} {s : Int} (h : (M.find id s).isSome) : M.find id s = some (M.num id s) := by
  obtain ⟨v, hv⟩ := Option.isSome_iff_exists.1 h
  rw [hv, SM.num_of_find hv]

theorem SM.num_inj {M : SM} {lo : Int} (h : M.Inv lo) {id id' : Nat} {s t : Int} (hs : (M.find id s).isSome)
    (ht : (M.find id' t).isSome) (e : M.num id s = M.num id' t) : id = id' ∧ s = t :=
  SM.inj h (SM.find_num hs) (e ▸ SM.find_num ht)

theorem SM.lt_num {M : SM} {lo : Int} (h : M.Inv lo) {id : Nat} {s : Int} (hs : (M.find id s).isSome) :
    lo < M.num id s :=
  (SM.find_range h (SM.find_num hs)).1

/-- the computation `c` only adds bindings to the state manager; its result is `g` of the numbering of any later
state manager, and there the keys in `dom` are bound -/
def Numbers (lo : Int) {α : Type} (c : SM → SM × α) (g : (Nat → Int → Int) → α) (dom : Nat → Int → Prop) : Prop :=
  ∀ m, m.Inv lo → m.Le (c m).1 ∧ (c m).1.Inv lo ∧
    ∀ M, (c m).1.Le M → (c m).2 = g M.num ∧ ∀ i s, dom i s → (M.find i s).isSome

namespace Numbers
variable {lo : Int} {α β σ : Type}

theorem pure (a : α) : Numbers lo (fun m => (m, a)) (fun _ => a) (fun _ _ => False) :=
  fun m hm => ⟨SM.Le.refl m, hm, fun _ _ => ⟨rfl, fun _ _ h => h.elim⟩⟩

theorem get (id : Nat) (s : Int) : Numbers lo (fun m => m.get id s) (fun ν => ν id s) (fun i t => i = id ∧ t = s) :=
  fun m hm =>
  have ⟨h1, h2, h3⟩ := SM.get_spec m lo hm id s
  ⟨h1, h2, fun M hM => ⟨(SM.num_of_find (hM.keep _ _ _ h3)).symm,
    fun i t ⟨hi, ht⟩ => by rw [hi, ht, hM.keep _ _ _ h3]; rfl⟩⟩

theorem bind {c : SM → SM × α} {g : (Nat → Int → Int) → α} {k : α → SM → SM × β} {g' : α → (Nat → Int → Int) → β}
    {dom dom' : Nat → Int → Prop} (h : Numbers lo c g dom) (hk : ∀ a, Numbers lo (k a) (g' a) dom') :
    Numbers lo (fun m => k (c m).2 (c m).1) (fun ν => g' (g ν) ν) (fun i s => dom i s ∨ dom' i s) := fun m hm =>
  have ⟨h1, h2, h3⟩ := h m hm
  have ⟨k1, k2, k3⟩ := hk (c m).2 (c m).1 h2
  ⟨h1.trans k1, k2, fun M hM => ⟨by rw [(k3 M hM).1, (h3 M (k1.trans hM)).1],
    fun i s hd => hd.elim ((h3 M (k1.trans hM)).2 i s) ((k3 M hM).2 i s)⟩⟩

theorem foldl (xs : List α) (a0 : σ) {step : σ → α → SM → SM × σ} {g : σ → α → (Nat → Int → Int) → σ}
    {dom : α → Nat → Int → Prop} (h : ∀ a x, Numbers lo (step a x) (g a x) (dom x)) :
    Numbers lo (fun m => xs.foldl (fun p x => step p.2 x p.1) (m, a0)) (fun ν => xs.foldl (fun a x => g a x ν) a0)
      (fun i s => ∃ x ∈ xs, dom x i s) := by
  induction xs generalizing a0 with
  | nil => exact fun m hm => ⟨SM.Le.refl m, hm, fun _ _ => ⟨rfl, fun _ _ ⟨_, h, _⟩ => (List.not_mem_nil h).elim⟩⟩
  | cons x xs ih =>
    intro m hm
    obtain ⟨h1, h2, h3⟩ := bind (h a0 x) (fun a => ih a) m hm
    exact ⟨h1, h2, fun M hM => ⟨(h3 M hM).1, fun i s ⟨y, hy, hd⟩ => (h3 M hM).2 i s
      ((List.mem_cons.1 hy).elim (fun e => Or.inl (e ▸ hd)) (fun hy => Or.inr ⟨y, hy, hd⟩))⟩⟩

end Numbers

end AlgoVerif.C13
