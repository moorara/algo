import AlgoVerif.Proofs.C06Bits
/-!
# C06 — Patricia trie: `search` always returns

`Closed t`: every link of the store points into the store, only the root has a nil right link, and
the root's bit position is 0.  `search` then terminates within the fuel the Model gives it and never
dereferences nil: the loop only continues over a link whose target has a strictly larger bit
position, so the number of stored nodes with a larger bit position strictly decreases.
A side result: `Closed` asks far less than the invariant of the simulation (`PInvS`, which gives termination of `search`
again, with its answer: `searchLoop_plug`), and nothing relates the two; the simulation takes from this file the measure
`above` and `node_some` only.
-/
namespace AlgoVerif.C06
variable {V : Type}
open BitString (xbit Small)

namespace Patricia

structure Closed (t : Patricia V) : Prop where
  root : ∀ r, t.root = some r → ∃ n : PNode V, t.nodes[r]? = some n ∧ n.bp = 0
  left : ∀ (i : Nat) (n : PNode V), t.nodes[i]? = some n → ∃ j, n.left = some j ∧ j < t.nodes.size
  right : ∀ (i : Nat) (n : PNode V), t.nodes[i]? = some n → (∀ j, n.right = some j → j < t.nodes.size) ∧ (n.right = none → t.root = some i)

def above (t : Patricia V) (b : Nat) : Nat := t.nodes.toList.countP (fun n => decide (n.bp > b))

theorem countP_lt_of_witness {α : Type} (p q : α → Bool) (l : List α) (himp : ∀ x, q x = true → p x = true)
    (x : α) (hx : x ∈ l) (hp : p x = true) (hq : q x = false) : l.countP q < l.countP p := by
  induction l with
  | nil => simp at hx
  | cons y ys ih =>
    have hle : ys.countP q ≤ ys.countP p := List.countP_mono_left (fun a _ => himp a)
    rcases List.mem_cons.mp hx with rfl | hx
    · simp only [List.countP_cons, hp, hq, if_true]
      simp; omega
    · have := ih hx
      simp only [List.countP_cons]
      by_cases hqy : q y = true
      · simp [hqy, himp y hqy]; omega
      · simp [hqy]; split <;> omega

theorem above_le_size (t : Patricia V) (b : Nat) : above t b ≤ t.nodes.size := by
  unfold above
  calc _ ≤ t.nodes.toList.length := List.countP_le_length
    _ = t.nodes.size := by simp

theorem above_lt {t : Patricia V} {i : Nat} {n : PNode V} (hn : t.nodes[i]? = some n) {b : Nat} (hb : n.bp > b) :
    above t n.bp < above t b := by
  unfold above
  apply countP_lt_of_witness _ _ _ _ n
  · rw [← Array.getElem?_toList] at hn
    exact List.mem_of_getElem? hn
  · simpa using hb
  · simp
  · intro x hx; simp at hx ⊢; omega

theorem node_some {t : Patricia V} {i : Nat} {n : PNode V} (h : t.nodes[i]? = some n) : t.node (some i) = .ok n := by
  simp [node, h]

theorem searchLoop_total {t : Patricia V} (hc : Closed t) (key : BitString) (f prevBp j : Nat)
    (hj : j < t.nodes.size) (hf : above t prevBp < f) :
    ∃ r, r < t.nodes.size ∧ searchLoop t key f prevBp (some j) = .ok (some r) := by
  induction f generalizing prevBp j with
  | zero => omega
  | succ f ih =>
    have hn : t.nodes[j]? = some t.nodes[j] := Array.getElem?_eq_getElem hj
    simp only [searchLoop, node, hn, bind, Outcome.bind]
    by_cases hgt : t.nodes[j].bp > prevBp
    · simp only [hgt, if_true]
      rw [BitString.bit_ok_of_pos _ (by omega)]
      simp only
      have hlt := above_lt hn hgt
      obtain ⟨l, hl, hl2⟩ := hc.left j _ hn
      obtain ⟨hr1, hr2⟩ := hc.right j _ hn
      cases hb : xbit key (t.nodes[j].bp - 1)
      · simp only [Bool.false_eq_true, if_false, hl]
        exact ih _ l hl2 (by omega)
      · simp only [if_true]
        cases hr : t.nodes[j].right with
        | none =>
          obtain ⟨n', h1, h2⟩ := hc.root j (hr2 hr)
          rw [hn] at h1
          have : t.nodes[j].bp = 0 := by rw [Option.some.inj h1]; exact h2
          omega
        | some r => exact ih _ r (hr1 r hr) (by omega)
    · simp only [hgt, if_false]
      exact ⟨j, hj, rfl⟩

theorem search_total {t : Patricia V} (hc : Closed t) (key : BitString) :
    (t.root = none ∧ t.search key = .ok none) ∨ ∃ r, r < t.nodes.size ∧ t.search key = .ok (some r) := by
  unfold search
  cases hr : t.root with
  | none => exact .inl ⟨rfl, rfl⟩
  | some r =>
    right
    obtain ⟨n, hn, hbp⟩ := hc.root r hr
    obtain ⟨l, hl, hl2⟩ := hc.left r n hn
    simp only [node, hn, bind, Outcome.bind, hl]
    exact searchLoop_total hc key _ _ l hl2 (by have := above_le_size t n.bp; unfold fuel; omega)

theorem Closed.new : Closed (Patricia.new : Patricia V) :=
  ⟨by simp [Patricia.new], by simp [Patricia.new], by simp [Patricia.new]⟩

end Patricia
end AlgoVerif.C06
