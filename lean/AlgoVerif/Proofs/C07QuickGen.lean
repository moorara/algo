import AlgoVerif.Generated.C07QuickGen
import AlgoVerif.Proofs.C07Gen
import AlgoVerif.Spec.C07
/-!
# The GENERATED model of `sort/quick.go` and `sort/shuffle.go` and the hand-written Model

As in `Proofs/C07Gen.lean` the hand Model (`Model/C07.lean`) is related to the generated
definitions by `x ≼ y`.

Two things go beyond `Proofs/C07Gen.lean`.

* **Fuel of a recursive function.**  The generated `quick` / `quick3Way` recurse structurally on their fuel and
  hand the *remaining* fuel to `partition` and to their loops, whereas the hand Model gives every loop
  `len(a) + 1` at every depth.  The statements therefore ask for `f + (len(a) + 1)` units where `f` is the hand
  Model's recursion fuel; that none of the functions changes the length of the slice is part of the relation
  of each `Sim` statement (`b.size = a.size`), so what follows a call is given it.
* **The random generator.**  A `*rand.Rand` is a `Go.Rand` (stream of future draws + number consumed) and
  `r.Intn(n)` is the next draw reduced into `[0, n)`.  The hand Model's `choice i` (value of the `i`-th
  `Intn(n - i)` of `Shuffle`) is then `choiceOf r n i = r.stream (r.pos + i) % (n - i)`, which satisfies
  `IntnContract` for EVERY stream (`choiceOf_contract`) — so the generated statements need no hypothesis about
  the generator at all.
-/
namespace AlgoVerif.C07.Gen
open AlgoVerif AlgoVerif.Outcome AlgoVerif.C07 AlgoVerif.Generated.Sort
variable {α : Type} [Inhabited α]

/-- the hand Model's `choice` that a generator `r` induces on a `Shuffle` of `n` elements -/
def choiceOf (r : Go.Rand) (n : Int) : Nat → Int := fun i => r.stream (r.pos + i) % (n - (i : Int))

theorem choiceOf_contract (r : Go.Rand) (n : Nat) : IntnContract (choiceOf r (n : Int)) n := by
  intro i hi
  have hp : (0 : Int) < (n : Int) - (i : Int) := by omega
  exact ⟨Int.emod_nonneg _ (by omega), Int.emod_lt_of_pos _ hp⟩

/-- `for i := 0; i < n; i++ { r := i + r.Intn(n-i); a[i], a[r] = a[r], a[i] }` (counted: no fuel on the generated
side); at index `i` the generator has produced `i` draws -/
theorem shuffle_loop1 (r : Go.Rand) (n : Int) : ∀ (f : Nat) (i : Nat) (a : Array α),
    Sim (fun b c => b = c.1 ∧ b.size = a.size) (shuffleLoop (choiceOf r n) n f (i : Int) a)
      (Shuffle.loop1 n (n - (i : Int)).toNat (i : Int) a { r with pos := r.pos + i }) := by
  intro f
  induction f with
  | zero => intro i a; exact .diverge
  | succ f ih =>
    intro i a
    simp only [shuffleLoop]
    split
    · rename_i hlt
      have hn : ¬ (n - (i : Int) ≤ 0) := by omega
      rw [show (n - (i : Int)).toNat = (n - ((i : Int) + 1)).toNat + 1 by omega]
      simp only [Shuffle.loop1, Go.Rand.intn, hn, if_false, Outcome.ok_bind,
        swap_bind, Int.toNat_natCast, choiceOf]
      refine .bind_same fun a1 h1 => ?_
      have := swap_size h1 ▸ ih (i + 1) a1
      simpa [Nat.add_assoc, choiceOf] using this
    · rw [show (n - (i : Int)).toNat = 0 by omega]
      exact .ok ⟨rfl, rfl⟩

theorem shuffle_sim (r : Go.Rand) (a : Array α) :
    Sim (fun b c => b = c.1 ∧ b.size = a.size) (shuffle (choiceOf r a.size) a) (Shuffle a r) := by
  obtain ⟨s, p⟩ := r
  have := shuffle_loop1 ⟨s, p⟩ (a.size : Int) (a.size + 1) 0 a
  simp only [Int.natCast_zero, Nat.add_zero] at this
  simp only [shuffle, Shuffle, Outcome.pure_eq]
  exact this.ret fun _ _ h => h

theorem shuffle_le (r : Go.Rand) (a : Array α) :
    shuffle (choiceOf r a.size) a ≼ (Shuffle a r).map Prod.fst :=
  ((sim_map_right _).2 ((shuffle_sim r a).mono fun _ _ h => h.1)).le

/-- `for i++; i < hi && cmp(a[i], v) < 0; i++ {}` -/
theorem partition_loop2 (cmp : α → α → Int) (a : Array α) (v : α) (hi : Int) (F : Nat) : ∀ (f d : Nat) (i : Int),
    scanUp cmp a v hi f i ≼ partition.loop2 F a hi cmp v (f + d) i := by
  intro f
  induction f with
  | zero => intro d i; exact diverge_le _
  | succ f ih =>
    intro d i
    rw [show f + 1 + d = (f + d) + 1 by omega, scanUp, partition.loop2]
    outcome_norm [get_eq]
    exact ite_le (fun _ => bind_mono fun x _ => ite_le (fun _ => ih d _) fun _ => le_refl _) fun _ => le_refl _

/-- `for j--; j > lo && cmp(a[j], v) > 0; j-- {}` -/
theorem partition_loop3 (cmp : α → α → Int) (a : Array α) (v : α) (lo : Int) (F : Nat) : ∀ (f d : Nat) (j : Int),
    scanDown cmp a v lo f j ≼ partition.loop3 F a lo cmp v (f + d) j := by
  intro f
  induction f with
  | zero => intro d j; exact diverge_le _
  | succ f ih =>
    intro d j
    rw [show f + 1 + d = (f + d) + 1 by omega, scanDown, partition.loop3]
    outcome_norm [get_eq]
    exact ite_le (fun _ => bind_mono fun x _ => ite_le (fun _ => ih d _) fun _ => le_refl _) fun _ => le_refl _

/-- the `for { … if i >= j { break }; swap }` loop -/
theorem partition_loop1 (cmp : α → α → Int) (v : α) (lo hi : Int) (F : Nat) : ∀ (f d : Nat) (i j : Int) (a : Array α),
    a.size + 1 ≤ F →
    Sim (fun b c => b = (c.1, c.2.2) ∧ b.1.size = a.size) (partLoop cmp v lo hi f i j a)
      (partition.loop1 F lo hi cmp v (f + d) a i j) := by
  intro f
  induction f with
  | zero => intro d i j a _; exact .diverge
  | succ f ih =>
    intro d i j a hF
    rw [show f + 1 + d = (f + d) + 1 by omega]
    obtain ⟨e, rfl⟩ : ∃ e, F = a.size + 1 + e := ⟨F - (a.size + 1), by omega⟩
    simp only [partLoop, partition.loop1, Outcome.pure_eq]
    refine (partition_loop2 cmp a v hi _ (a.size + 1) e (i + 1)).bind_sim fun i1 _ => ?_
    refine (partition_loop3 cmp a v lo _ (a.size + 1) e (j - 1)).bind_sim fun j1 _ => ?_
    by_cases hij : i1 ≥ j1
    · simp only [hij, decide_true, if_true]
      exact .ok ⟨rfl, rfl⟩
    · simp only [hij, decide_false, if_false, Bool.false_eq_true, swap_bind]
      exact .bind_same fun a1 h1 => swap_size h1 ▸ ih d i1 j1 a1 (by rw [swap_size h1]; omega)

theorem partition_sim (cmp : α → α → Int) (a : Array α) (lo hi : Int) (F : Nat) (hF : a.size + 1 ≤ F) :
    Sim (fun b c => b = c ∧ b.1.size = a.size) (C07.partition cmp a lo hi) (Generated.Sort.partition F a lo hi cmp) := by
  obtain ⟨e, rfl⟩ : ∃ e, F = a.size + 1 + e := ⟨F - (a.size + 1), by omega⟩
  simp only [C07.partition, Generated.Sort.partition, get_eq, Outcome.pure_eq]
  refine .bind_same fun v _ =>
    (partition_loop1 cmp v lo hi (a.size + 1 + e) (a.size + 1) e lo (hi + 1) a (by omega)).bind fun r c ⟨e1, s1⟩ => ?_
  subst e1
  simp only [swap_bind]
  exact .bind_same fun a2 h2 => .ok ⟨rfl, (swap_size h2).trans s1⟩

theorem partition_le (cmp : α → α → Int) (a : Array α) (lo hi : Int) (F : Nat) (hF : a.size + 1 ≤ F) :
    C07.partition cmp a lo hi ≼ Generated.Sort.partition F a lo hi cmp :=
  ((partition_sim cmp a lo hi F hF).mono fun _ _ h => h.1).le

theorem quick_sim (cmp : α → α → Int) : ∀ (f : Nat) (a : Array α) (lo hi : Int) (F : Nat), f + (a.size + 1) ≤ F →
    Sim (fun b c => b = c ∧ b.size = a.size) (quickAux cmp f a lo hi) (Generated.Sort.quick F a lo hi cmp) := by
  intro f
  induction f with
  | zero => intros; exact .diverge
  | succ f ih =>
    intro a lo hi F hF
    obtain ⟨F, rfl⟩ : ∃ F', F = F' + 1 := ⟨F - 1, by omega⟩
    rw [quickAux, Generated.Sort.quick]
    outcome_norm
    refine .ite (fun _ => .ok ⟨rfl, rfl⟩) fun _ => (partition_sim cmp a lo hi _ (by omega)).bind fun r _ ⟨e, s1⟩ => ?_
    subst e
    refine (s1 ▸ ih r.1 lo (r.2 - 1) F (by omega)).bind fun a2 _ ⟨e, s2⟩ => ?_
    subst e
    exact (s2 ▸ ih a2 (r.2 + 1) hi F (by omega)).ret fun _ _ h => h

theorem quickCore_le (cmp : α → α → Int) (a : Array α) (fuel : Nat) (hf : 2 * a.size + 2 ≤ fuel) :
    quickCore cmp a ≼ Generated.Sort.quick fuel a 0 ((a.size : Int) - 1) cmp :=
  ((quick_sim cmp (a.size + 1) a 0 ((a.size : Int) - 1) fuel (by omega)).mono fun _ _ h => h.1).le

/-- `rand`: any stream of the clock-seeded generator -/
theorem quick_pub_le (cmp : α → α → Int) (rand : Nat → Int) (a : Array α) (fuel : Nat) (hf : 2 * a.size + 2 ≤ fuel) :
    C07.quick (choiceOf (Go.Rand.new rand) a.size) cmp a ≼ Generated.Sort.Quick fuel rand a cmp := by
  simp only [C07.quick, Generated.Sort.Quick, Outcome.pure_eq]
  refine ((shuffle_sim (Go.Rand.new rand) a).bind (S := Eq) fun a1 c ⟨e, s1⟩ => ?_).le
  obtain ⟨c1, r1⟩ := c
  obtain rfl : a1 = c1 := e
  simpa using (quickCore_le cmp a1 fuel (by omega)).sim

/-- what `Select` does with the result of its loop: a `return a[k]` inside the loop is the function's result,
otherwise `a[k]` is read after the loop -/
def selectExit (k : Int) : Go.Ctl (Array α × Int × Int) (Array α × α) → Outcome (Array α × α)
  | .ret r => .ok r
  | .next s => Go.idx s.1 k >>= fun t => .ok (s.1, t)

/-- the `for lo < hi { j := partition(…); switch … }` loop -/
theorem select_loop1 (cmp : α → α → Int) (k : Int) (F : Nat) : ∀ (f d : Nat) (lo hi : Int) (a : Array α),
    a.size + 1 ≤ F →
    Sim Eq (selectLoop cmp k f lo hi a) (Select.loop1 F k cmp (f + d) a lo hi >>= selectExit k) := by
  intro f
  induction f with
  | zero => intro d lo hi a _; exact .diverge
  | succ f ih =>
    intro d lo hi a hF
    rw [show f + 1 + d = (f + d) + 1 by omega, selectLoop, Select.loop1]
    outcome_norm [get_eq, selectExit]
    refine .ite (fun _ => (partition_sim cmp a lo hi F hF).bind fun r _ ⟨e, s1⟩ => ?_) fun _ => .refl _
    subst e
    exact .ite (fun _ => ih d _ hi r.1 (by omega)) fun _ => .ite (fun _ => ih d lo _ r.1 (by omega)) fun _ => .refl _

theorem select_le (cmp : α → α → Int) (rand : Nat → Int) (a : Array α) (k : Int) (fuel : Nat) (hf : a.size + 1 ≤ fuel) :
    C07.select (choiceOf (Go.Rand.new rand) a.size) cmp a k ≼ Generated.Sort.Select fuel rand a k cmp := by
  simp only [C07.select, Generated.Sort.Select, Outcome.pure_eq]
  refine ((shuffle_sim (Go.Rand.new rand) a).bind (S := Eq) fun a1 c ⟨e, s1⟩ => ?_).le
  obtain ⟨c1, r1⟩ := c
  obtain rfl : a1 = c1 := e
  have := select_loop1 cmp k fuel (a1.size + 1) (fuel - (a1.size + 1)) 0 ((a1.size : Int) - 1) a1 (by omega)
  rw [show a1.size + 1 + (fuel - (a1.size + 1)) = fuel by omega] at this
  refine sim_eq.2 (this.le.trans_eq ?_)
  congr 1 <;> (funext c; cases c <;> simp [selectExit])

/-- the `for i <= gt { c := cmp(a[i], v); switch … }` loop -/
theorem quick3Way_loop1 (cmp : α → α → Int) (v : α) (F : Nat) : ∀ (f d : Nat) (lt i gt : Int) (a : Array α),
    Sim (fun b c => b = (c.1, c.2.1, c.2.2.2) ∧ b.1.size = a.size) (q3Loop cmp v f lt i gt a)
      (quick3Way.loop1 F cmp v (f + d) a lt i gt) := by
  intro f
  induction f with
  | zero => intro d lt i gt a; exact .diverge
  | succ f ih =>
    intro d lt i gt a
    rw [show f + 1 + d = (f + d) + 1 by omega, q3Loop, quick3Way.loop1]
    outcome_norm [get_eq, swap_bind]
    exact .ite (fun _ => .bind_same fun x _ =>
      .ite (fun _ => .bind_same fun a1 h1 => swap_size h1 ▸ ih d _ _ _ a1) fun _ =>
        .ite (fun _ => .bind_same fun a1 h1 => swap_size h1 ▸ ih d _ _ _ a1) fun _ => ih d _ _ _ a)
      fun _ => .ok ⟨rfl, rfl⟩

theorem quick3Way_sim (cmp : α → α → Int) : ∀ (f : Nat) (a : Array α) (lo hi : Int) (F : Nat), f + (a.size + 1) ≤ F →
    Sim (fun b c => b = c ∧ b.size = a.size) (quick3WayAux cmp f a lo hi) (Generated.Sort.quick3Way F a lo hi cmp) := by
  intro f
  induction f with
  | zero => intros; exact .diverge
  | succ f ih =>
    intro a lo hi F hF
    obtain ⟨F, rfl⟩ : ∃ F', F = F' + 1 := ⟨F - 1, by omega⟩
    rw [quick3WayAux, Generated.Sort.quick3Way]
    outcome_norm [get_eq]
    refine .ite (fun _ => .ok ⟨rfl, rfl⟩) fun _ => .bind_same fun v _ => ?_
    have hl := quick3Way_loop1 cmp v F (a.size + 1) (F - (a.size + 1)) lo (lo + 1) hi a
    rw [show a.size + 1 + (F - (a.size + 1)) = F by omega] at hl
    refine hl.bind fun r c ⟨e, (s1 : r.1.size = a.size)⟩ => ?_
    subst e
    refine (s1 ▸ ih _ lo _ F (by omega)).bind fun a2 _ ⟨e, s2⟩ => ?_
    subst e
    exact (s2 ▸ ih a2 _ hi F (by omega)).ret fun _ _ h => h

theorem quick3Way_pub_le (cmp : α → α → Int) (a : Array α) (fuel : Nat) (hf : 2 * a.size + 2 ≤ fuel) :
    C07.quick3Way cmp a ≼ Generated.Sort.Quick3Way fuel a cmp :=
  ((quick3Way_sim cmp (a.size + 1) a 0 ((a.size : Int) - 1) fuel (by omega)).ret (S := Eq) fun _ _ h => h.1).le

end AlgoVerif.C07.Gen
