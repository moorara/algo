import AlgoVerif.Proofs.C04Tree
/-!
# C04, binomial heap: the entries, and any property of trees that `link` keeps, through `merge` and `consolidate`;
what `findExt` returns
-/
namespace AlgoVerif.C04
variable {K V : Type} {cmp : K → K → Int}
open Tree

theorem bmerge_perm (a b : List (Tree K V)) : (Binomial.merge a b).Perm (a ++ b) := by
  fun_induction Binomial.merge a b with
  | case1 h2 => simp
  | case2 h1 hne => simp
  | case3 a r1 b r2 hlt ih => exact (List.perm_cons a).mpr ih
  | case4 a r1 b r2 hlt ih =>
    exact ((List.perm_cons b).mpr ih).trans (by c04_perm)

theorem consLoop_spec (hc : LawfulCmp cmp) {P : Tree K V → Prop}
    (hlink : ∀ c p, P c → P p → c.deg = p.deg → cmp p.key c.key ≤ 0 → P (link c p)) :
    ∀ (rest pre : List (Tree K V)) (curr : Tree K V), (∀ t ∈ pre, P t) → P curr → (∀ t ∈ rest, P t) →
      (nodesF (Binomial.consLoop cmp pre curr rest)).Perm (nodesF pre ++ (nodes curr ++ nodesF rest)) ∧
      ∀ t ∈ Binomial.consLoop cmp pre curr rest, P t := by
  intro rest
  induction rest with
  | nil =>
    intro pre curr hpre hcurr _
    simp only [Binomial.consLoop, nodesF_append, nodesF_cons, nodesF_nil, List.append_nil]
    refine ⟨List.Perm.append_right _ (nodesF_reverse pre), fun t ht => ?_⟩
    rcases List.mem_append.mp ht with h | h
    · exact hpre t (List.mem_reverse.mp h)
    · exact List.mem_singleton.mp h ▸ hcurr
  | cons next rest ih =>
    intro pre curr hpre hcurr hrest
    rw [List.forall_mem_cons] at hrest
    unfold Binomial.consLoop
    by_cases hcond : (curr.deg != next.deg || Binomial.sibSameOrder rest curr) = true
    · rw [if_pos hcond]
      obtain ⟨h1, h2⟩ := ih (curr :: pre) next (List.forall_mem_cons.mpr ⟨hcurr, hpre⟩) hrest.1 hrest.2
      refine ⟨h1.trans ?_, h2⟩
      simp only [nodesF_cons]
      c04_perm
    · rw [if_neg hcond]
      have hdeg : curr.deg = next.deg := by
        have : curr.deg = next.deg ∧ Binomial.sibSameOrder rest curr = false := by simpa using hcond
        exact this.1
      by_cases hgt : cmp next.key curr.key > 0
      · rw [if_pos hgt]
        have hle : cmp curr.key next.key ≤ 0 := hc.sign _ _ (by omega)
        obtain ⟨h1, h2⟩ := ih pre (link next curr) hpre (hlink next curr hrest.1 hcurr hdeg.symm hle) hrest.2
        refine ⟨h1.trans ?_, h2⟩
        simp only [nodesF_cons]
        exact (List.Perm.append_left _ (List.Perm.append_right _ (nodes_link next curr))).trans (by c04_perm)
      · rw [if_neg hgt]
        obtain ⟨h1, h2⟩ := ih pre (link curr next) hpre (hlink curr next hcurr hrest.1 hdeg (by omega)) hrest.2
        refine ⟨h1.trans ?_, h2⟩
        simp only [nodesF_cons]
        exact (List.Perm.append_left _ (List.Perm.append_right _ (nodes_link curr next))).trans (by c04_perm)

theorem union_all (hc : LawfulCmp cmp) {P : Tree K V → Prop}
    (hlink : ∀ c p, P c → P p → c.deg = p.deg → cmp p.key c.key ≤ 0 → P (link c p)) (a b : List (Tree K V))
    (ha : ∀ t ∈ a, P t) (hb : ∀ t ∈ b, P t) :
    (nodesF (Binomial.union cmp a b)).Perm (nodesF a ++ nodesF b) ∧ ∀ t ∈ Binomial.union cmp a b, P t := by
  unfold Binomial.union Binomial.consolidate
  have hp := bmerge_perm a b
  have hm := (nodesF_perm hp).trans (by rw [nodesF_append])
  have ho : ∀ t ∈ Binomial.merge a b, P t := fun t ht => (List.mem_append.mp (hp.mem_iff.mp ht)).elim (ha t) (hb t)
  cases hmerge : Binomial.merge a b with
  | nil => rw [hmerge] at hm; exact ⟨hm, fun _ h => nomatch h⟩
  | cons t ts =>
    rw [hmerge] at hm ho
    rw [List.forall_mem_cons] at ho
    obtain ⟨h1, h2⟩ := consLoop_spec hc hlink ts [] t (fun _ h => nomatch h) ho.1 ho.2
    exact ⟨(h1.trans (by simp)).trans hm, h2⟩

theorem findExtLoop_spec (hc : LawfulCmp cmp) :
    ∀ (rest pre : List (Tree K V)) (ext : Tree K V) (mid : List (Tree K V)),
      (∀ t ∈ pre, cmp ext.key t.key ≤ 0) → (∀ t ∈ mid, cmp ext.key t.key ≤ 0) →
      let r := Binomial.findExtLoop cmp pre ext mid rest
      r.1 ++ r.2.1 :: r.2.2 = pre.reverse ++ ext :: (mid.reverse ++ rest) ∧
      ∀ t ∈ pre.reverse ++ ext :: (mid.reverse ++ rest), cmp r.2.1.key t.key ≤ 0 := by
  intro rest
  induction rest with
  | nil =>
    intro pre ext mid hpre hmid
    simp only [Binomial.findExtLoop, List.append_nil, true_and]
    intro t ht
    simp only [List.mem_append, List.mem_reverse, List.mem_cons] at ht
    rcases ht with ht | rfl | ht
    · exact hpre t ht
    · exact hc.refl _
    · exact hmid t ht
  | cons s rest ih =>
    intro pre ext mid hpre hmid
    unfold Binomial.findExtLoop
    split
    · rename_i hlt
      have hse : cmp s.key ext.key ≤ 0 := by omega
      obtain ⟨h1, h2⟩ := ih (mid ++ ext :: pre) s [] (by
        intro t ht
        simp only [List.mem_append, List.mem_cons] at ht
        rcases ht with ht | rfl | ht
        · exact hc.trans _ _ _ hse (hmid t ht)
        · exact hse
        · exact hc.trans _ _ _ hse (hpre t ht)) (by intro t ht; cases ht)
      simp only [List.reverse_append, List.reverse_cons, List.reverse_nil, List.nil_append, List.append_assoc,
        List.cons_append] at h1 h2 ⊢
      exact ⟨h1, h2⟩
    · rename_i hlt
      have hes : cmp ext.key s.key ≤ 0 := hc.sign _ _ (by omega)
      obtain ⟨h1, h2⟩ := ih pre ext (s :: mid) hpre (by
        intro t ht
        rcases List.mem_cons.mp ht with rfl | ht
        · exact hes
        · exact hmid t ht)
      simp only [List.reverse_cons, List.append_assoc, List.cons_append, List.nil_append] at h1 h2 ⊢
      exact ⟨h1, h2⟩

theorem findExt_spec (hc : LawfulCmp cmp) (head : List (Tree K V)) (hne : head ≠ []) :
    ∃ b e a, Binomial.findExt cmp head = some (b, e, a) ∧ head = b ++ e :: a ∧ ∀ t ∈ head, cmp e.key t.key ≤ 0 := by
  cases head with
  | nil => exact absurd rfl hne
  | cons n rest =>
    obtain ⟨h1, h2⟩ := findExtLoop_spec hc rest [] n [] (by intro t ht; cases ht) (by intro t ht; cases ht)
    simp only [List.reverse_nil, List.nil_append] at h1 h2
    exact ⟨_, _, _, rfl, h1.symm, h2⟩

end AlgoVerif.C04
