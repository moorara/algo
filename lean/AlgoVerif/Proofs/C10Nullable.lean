import AlgoVerif.Model.C10
import AlgoVerif.Spec.C10
import AlgoVerif.Proofs.C10Sets
import AlgoVerif.Proofs.C10Derives
/-! `NullableNonTerminals`: the result is the least set closed under the nullable rule, for every
iteration order; the set of non-terminals deriving ε is that least set too.  The rule is worded with
`strE`, the ε-half of FIRST of a string, so that the ε-half of a family closed under the FIRST rules is
closed under the nullable rule by definition (`FirstClosed.nul`). -/
set_option linter.unusedSectionVars false
namespace AlgoVerif.C10
open AlgoVerif AlgoVerif.Gram
variable {T N : Type} [DecidableEq T] [DecidableEq N]
variable {g : Grammar T N} {o : IterOrder T N}

def symE (E : N → Prop) : Sym T N → Prop
  | .term _ => False
  | .nonterm n => E n

def strE (E : N → Prop) : List (Sym T N) → Prop
  | [] => True
  | s :: rest => symE E s ∧ strE E rest

theorem symE_mono {E E' : N → Prop} (hE : ∀ n, E n → E' n) {s : Sym T N} (h : symE E s) : symE E' s := by
  cases s with
  | term t => exact h
  | nonterm n => exact hE n h

theorem strE_mono {E E' : N → Prop} (hE : ∀ n, E n → E' n) {α : List (Sym T N)} (h : strE E α) :
    strE E' α := by
  induction α with
  | nil => trivial
  | cons s rest ih => exact ⟨symE_mono hE h.1, ih h.2⟩

def NulClosed (g : Grammar T N) (S : N → Prop) : Prop :=
  ∀ p, p ∈ g.prods → strE S p.body → S p.head

theorem bodyAllIn_iff {nul : List N} {body : List (Sym T N)} :
    bodyAllIn nul body = true ↔ strE (· ∈ nul) body := by
  induction body with
  | nil => simp [bodyAllIn, strE]
  | cons s rest ih =>
    rw [strE, ← ih]
    cases s <;> simp [bodyAllIn, symE]

theorem spec_strE {α : List (Sym T N)} (h : strE (Spec.Nullable g) α) : Spec.Eps g α := by
  induction α with
  | nil => exact Derives.refl _
  | cons s rest ih =>
    cases s with
    | term t => cases h.1
    | nonterm n => exact (by simpa using Derives.append (h.1 : Spec.Nullable g n) (ih h.2) : Derives g _ [])

theorem spec_nullable_closed (g : Grammar T N) : NulClosed g (Spec.Nullable g) :=
  fun _ hp hall => (Derives.of_prod hp).trans (spec_strE hall)

theorem spec_eps_least {S : N → Prop} (hS : NulClosed g S) :
    ∀ n (α : List (Sym T N)), DerivesN g n α [] → strE S α := by
  intro n
  induction n using Nat.strongRecOn with
  | _ n ih =>
    intro α h
    cases α with
    | nil => trivial
    | cons s α' =>
      cases s with
      | term t =>
        obtain ⟨_, hγ, _⟩ := h.of_term_cons
        cases hγ
      | nonterm A =>
        obtain ⟨p, k, n₂, γ₁, γ₂, hp, rfl, rfl, hγ, dp, d₂⟩ := h.of_nonterm_cons nofun
        obtain ⟨rfl, rfl⟩ := List.append_eq_nil_iff.1 hγ.symm
        exact ⟨hS p hp (ih k (by omega) _ dp), ih n₂ (by omega) _ d₂⟩

theorem spec_nullable_least {S : N → Prop} (hS : NulClosed g S) {A : N}
    (h : Spec.Nullable g A) : S A := by
  obtain ⟨n, hn⟩ := Derives.toDerivesN h
  exact (spec_eps_least hS n _ hn).1

theorem bodyAllIn_of_isEmpty {nul : List N} {body : List (Sym T N)} (h : body.isEmpty = true) :
    bodyAllIn nul body = true := by
  rw [List.isEmpty_iff.1 h]; rfl

/-- an empty body passes the `bodyAllIn` test, so the `isEmpty` branch of `nullableGroup` needs no case of its own -/
theorem nullableGroup_eq_foldl (ps : List (GProd T N)) (s : List N × Bool) :
    nullableGroup ps s =
      ps.foldl (fun s p => if bodyAllIn s.1 p.body then (insertNew p.head s.1, true) else s) s := by
  induction ps generalizing s with
  | nil => rfl
  | cons p ps ih =>
    obtain ⟨nul, u⟩ := s
    rw [List.foldl_cons, ← ih, nullableGroup, apply_ite (nullableGroup ps)]
    split
    · rw [if_pos (bodyAllIn_of_isEmpty ‹_›)]
    · rfl

theorem nullablePass_eq_foldl (gs : List (N × List (GProd T N))) (s : List N × Bool) :
    nullablePass gs s = gs.foldl (fun s hp => if hp.1 ∈ s.1 then s else nullableGroup hp.2 s) s := by
  induction gs generalizing s with
  | nil => rfl
  | cons hp gs ih =>
    obtain ⟨nul, u⟩ := s
    obtain ⟨h, ps⟩ := hp
    rw [List.foldl_cons, ← ih, nullablePass, apply_ite (nullablePass gs)]

theorem nullableGroup_honest (ps : List (GProd T N)) :
    Honest (nullableGroup ps) fun nul => ∀ p, p ∈ ps → bodyAllIn nul p.body = false := by
  refine Honest.of_foldl (nullableGroup_eq_foldl ps) fun p _ s h => ?_
  dsimp only at h ⊢
  by_cases hb : bodyAllIn s.1 p.body = true
  · rw [if_pos hb] at h; cases h
  · rw [if_neg hb] at h ⊢
    exact ⟨h, rfl, Bool.eq_false_iff.2 hb⟩

theorem nullablePass_honest (gs : List (N × List (GProd T N))) :
    Honest (nullablePass gs) fun nul =>
      ∀ hp, hp ∈ gs → hp.1 ∈ nul ∨ ∀ p, p ∈ hp.2 → bodyAllIn nul p.body = false := by
  refine Honest.of_foldl (nullablePass_eq_foldl gs) fun hp _ s h => ?_
  dsimp only at h ⊢
  by_cases hin : hp.1 ∈ s.1
  · rw [if_pos hin] at h ⊢
    exact ⟨h, rfl, Or.inl hin⟩
  · rw [if_neg hin] at h ⊢
    exact (nullableGroup_honest hp.2 s h).imp id (.imp id .inr)

theorem nullableGroup_sound {S : N → Prop} (hS : NulClosed g S)
    {ps : List (GProd T N)} (hps : ∀ p, p ∈ ps → p ∈ g.prods) {s : List N × Bool}
    (hnul : ∀ x, x ∈ s.1 → S x) : ∀ x, x ∈ (nullableGroup ps s).1 → S x := by
  rw [nullableGroup_eq_foldl]
  refine List.foldlRecOn _ _ (motive := fun s : List N × Bool => ∀ x, x ∈ s.1 → S x) hnul fun s hs p hp => ?_
  split
  · rename_i hb
    intro x hx
    rcases mem_insertNew.1 hx with rfl | hx
    · exact hS p (hps p hp) (strE_mono hs (bodyAllIn_iff.1 hb))
    · exact hs x hx
  · exact hs

theorem nullablePass_sound {S : N → Prop} (hS : NulClosed g S)
    {gs : List (N × List (GProd T N))} (hgs : ∀ hp, hp ∈ gs → ∀ p, p ∈ hp.2 → p ∈ g.prods)
    {s : List N × Bool} (hnul : ∀ x, x ∈ s.1 → S x) : ∀ x, x ∈ (nullablePass gs s).1 → S x := by
  rw [nullablePass_eq_foldl]
  refine List.foldlRecOn _ _ (motive := fun s : List N × Bool => ∀ x, x ∈ s.1 → S x) hnul fun s hs hp hmem => ?_
  split
  · exact hs
  · exact nullableGroup_sound hS (hgs hp hmem) hs

theorem nullableLoop_eq_gen (g : Grammar T N) (o : IterOrder T N) (fuel i : Nat) (nul : List N) :
    nullableLoop g o fuel i nul = genLoop (fun i nul => nullablePass (groups g o i) (nul, false)) fuel i nul := by
  induction fuel generalizing i nul with
  | zero => rfl
  | succ fuel ih => simp only [nullableLoop, genLoop, ih]

theorem nullable_exact {g : Grammar T N} {o : IterOrder T N} (ho : o.Fair) {R : List N}
    (h : nullable g o = .ok R) (A : N) : A ∈ R ↔ Spec.Nullable g A := by
  rw [nullable, nullableLoop_eq_gen] at h
  constructor
  · refine genLoop_inv (P := fun nul : List N => ∀ x, x ∈ nul → Spec.Nullable g x) ?_ _ _ _ _
      (fun _ hx => (List.not_mem_nil hx).elim) h A
    exact fun i s => nullablePass_sound (s := (s, false)) (spec_nullable_closed g)
      fun _ hp p hpm => (mem_groups_prods ho hp p hpm).1
  · obtain ⟨j, s, hj⟩ := genLoop_last _ _ _ _ h
    obtain ⟨_, hs, hq⟩ := nullablePass_honest _ (s, false) (congrArg Prod.snd hj)
    cases hs.symm.trans (congrArg Prod.fst hj)
    apply spec_nullable_least
    intro p hp hall
    obtain ⟨ps, hg, hpps⟩ := mem_groups_of_prod ho j hp
    rcases hq _ hg with h1 | h1
    · exact h1
    · exact absurd (bodyAllIn_iff.2 hall) (Bool.eq_false_iff.1 (h1 p hpps))

end AlgoVerif.C10
