import AlgoVerif.Generated.C18Gen
import AlgoVerif.Proofs.GoRt
import AlgoVerif.Model.C18Run
/-!
# The GENERATED model of `list/soft_queue.go` equals the hand-written Model

Every generated definition is proved equal, for all arguments, to the definition of
`Model/C18.lean` (`SoftQueue.*`) the C18 theorems are about, through the reading `sq` of the generated structure
(the Model keeps the cells in a `List`, the generated structure in an `Array`) and `valIdx` of Go's `(T, int)`
results (index `-1` = nothing).

`list/stack.go` and `list/queue.go` are outside the translator's subset (pointer-linked blocks, and in the queue
two pointers into one chain with stores through one of them): for them the hand Model + correspondence stand alone.
-/
set_option linter.unusedSectionVars false
namespace AlgoVerif.C18.Gen
open AlgoVerif AlgoVerif.C18 AlgoVerif.Generated.List
variable {α : Type} [Inhabited α]

def sq (q : softQueue α) : SoftQueue α := ⟨q.front, q.rear, q.list.toList⟩

/-- Go's `(T, int)` result of `Dequeue` / `Peek`: index `-1` means "empty" -/
def valIdx (r : α × Int) : Option (α × Int) := if r.2 = -1 then none else some r

theorem New_eq (eq : α → α → Bool) : (NewSoftQueue eq).map sq = .ok SoftQueue.new := by
  simp [NewSoftQueue, Go.make, sq, SoftQueue.new]

theorem New_equal (eq : α → α → Bool) : ∃ q, NewSoftQueue eq = .ok q ∧ q.equal = eq := by
  simp [NewSoftQueue, Go.make]

theorem Size_eq (q : softQueue α) : softQueue.Size q = (sq q).size := rfl
theorem IsEmpty_eq (q : softQueue α) : softQueue.IsEmpty q = (sq q).isEmpty := rfl

theorem Enqueue_eq (q : softQueue α) (v : α) :
    ((softQueue.Enqueue q v).1 |> sq, (softQueue.Enqueue q v).2) = (sq q).enqueue v := by
  simp only [softQueue.Enqueue, SoftQueue.enqueue, sq, Id.run]
  by_cases h : q.list.size + 1 = 1
  · simp [h, pure]
  · have h2 : ¬ q.list = #[] := fun e => h (by simp [e])
    have h3 : ¬ ((q.list.size : Int) + 1 = 1) := by omega
    simp [h2, h3, pure]

theorem cell_eq (q : softQueue α) : Go.idx q.list q.front = (sq q).cell := by
  simp only [Go.idx, SoftQueue.cell, sq]
  by_cases h0 : 0 ≤ q.front
  · by_cases h1 : q.front < q.list.size
    · have : q.front.toNat < q.list.size := by omega
      simp [h0, h1, this]
    · have : ¬ q.front.toNat < q.list.size := by omega
      simp [h0, h1, this]
  · simp [h0]

theorem valIdx_front {q : softQueue α} {v : α} (h : Go.idx q.list q.front = .ok v) :
    valIdx (v, q.front) = some (v, q.front) := by
  unfold Go.idx at h
  split at h
  · exact if_neg (by show ¬ q.front = -1; omega)
  · cases h

/-- `if q.IsEmpty() { return …, -1 }; val := q.list[q.front]; …` of `Dequeue` and `Peek`, read through `g` -/
theorem front_read {β γ : Type} (q : softQueue α) (d : β) (f : α → β) (g : β → γ) (f' : α → γ) (n : γ)
    (hd : g d = n) (hf : ∀ v, Go.idx q.list q.front = .ok v → g (f v) = f' v) :
    (if softQueue.IsEmpty q then pure d else Go.idx q.list q.front >>= fun v => pure (f v)).map g =
      if (sq q).isEmpty then .ok n else (sq q).cell.map f' := by
  rw [Outcome.map_ite, IsEmpty_eq, ← cell_eq]
  refine ite_congr rfl (fun _ => congrArg Outcome.ok hd) fun _ => ?_
  cases hv : Go.idx q.list q.front with
  | ok v => exact congrArg Outcome.ok (hf v hv)
  | panic => rfl
  | diverge => rfl

theorem Dequeue_eq (q : softQueue α) :
    (softQueue.Dequeue q).map (fun r => (sq r.1, valIdx r.2)) = (sq q).dequeue :=
  front_read q _ _ _ _ _ rfl fun _ hv => by rw [valIdx_front hv]; rfl

theorem Peek_eq (q : softQueue α) : (softQueue.Peek q).map valIdx = (sq q).peek :=
  front_read q _ _ _ _ _ rfl fun _ hv => valIdx_front hv

/-- `for i, v := range q.list { if q.equal(v, val) { return i } }; return -1`; the `spec` handed to `search_scan`
is the first match counted from the index `i` the scan is at -/
theorem Contains_eq (q : softQueue α) (v : α) :
    softQueue.Contains q v = .ok ((sq q).contains q.equal v) := by
  rw [softQueue.Contains, Go.ret_or _ (-1) _ (fun _ => rfl) (fun _ => rfl),
    Go.search_scan q.list (q.equal · v) (fun i _ => i) (-1) _ (fun _ => rfl) (fun _ _ => rfl)
      (fun ms i => .ok (match ms.findIdx? (q.equal · v) with | some k => i + k | none => -1)) (fun _ => rfl)]
  · cases h : q.list.toList.findIdx? (q.equal · v) <;> simp [SoftQueue.contains, sq, h]
  · intro m ms i
    rw [List.findIdx?_cons]
    cases q.equal m v
    · cases ms.findIdx? (q.equal · v) <;> simp <;> omega
    · simp

theorem Values_eq (q : softQueue α) : (softQueue.Values q).map Array.toList = .ok (sq q).values := by
  simp [softQueue.Values, Go.make_nat, Go.copy_all, SoftQueue.values, sq]

def step (q : softQueue α) : SoftOp α → Outcome (softQueue α × Out α)
  | .enq v => .ok ((softQueue.Enqueue q v).1, .int (softQueue.Enqueue q v).2)
  | .deq => (softQueue.Dequeue q).map fun r => (r.1, .valIdx (valIdx r.2))
  | .peek => (softQueue.Peek q).map fun r => (q, .valIdx (valIdx r))
  | .contains v => (softQueue.Contains q v).map fun i => (q, .int i)
  | .size => .ok (q, .int (softQueue.Size q))
  | .isEmpty => .ok (q, .bool (softQueue.IsEmpty q))
  | .values => (softQueue.Values q).map fun l => (q, .list l.toList)

def run : softQueue α → List (SoftOp α) → List (Outcome (Out α)) := runTrace step

theorem step_eq (q : softQueue α) (op : SoftOp α) :
    (step q op).map (fun r => (sq r.1, r.2)) = SoftQueue.step q.equal (sq q) op := by
  cases op with
  | enq v =>
    have := Enqueue_eq q v
    simp only [step, SoftQueue.step, Outcome.map_ok, ← this]
  | deq =>
    simp only [step, SoftQueue.step, ← Dequeue_eq]
    cases softQueue.Dequeue q <;> simp
  | peek =>
    simp only [step, SoftQueue.step, ← Peek_eq]
    cases softQueue.Peek q <;> simp
  | contains v => simp [step, SoftQueue.step, Contains_eq]
  | size => simp [step, SoftQueue.step, Size_eq]
  | isEmpty => simp [step, SoftQueue.step, IsEmpty_eq]
  | values =>
    have := Values_eq q
    simp only [step, SoftQueue.step]
    revert this
    cases softQueue.Values q <;> simp

theorem step_equal (q q' : softQueue α) (op : SoftOp α) (o : Out α) (h : step q op = .ok (q', o)) :
    q'.equal = q.equal := by
  cases op with
  | enq v =>
    simp only [step, Outcome.ok.injEq, Prod.mk.injEq] at h
    rw [← h.1]
    simp only [softQueue.Enqueue, Id.run]
    split <;> rfl
  | deq =>
    simp only [step, softQueue.Dequeue] at h
    split at h
    · simp [Outcome.map] at h; rw [← h.1]
    · cases hc : Go.idx q.list q.front <;> simp [hc, Outcome.map] at h
      rw [← h.1]
  | peek => cases hp : softQueue.Peek q <;> simp [step, hp] at h; rw [← h.1]
  | contains v => cases hp : softQueue.Contains q v <;> simp [step, hp] at h; rw [← h.1]
  | size => simp [step] at h; rw [← h.1]
  | isEmpty => simp [step] at h; rw [← h.1]
  | values => cases hp : softQueue.Values q <;> simp [step, hp] at h; rw [← h.1]

theorem run_eq (ops : List (SoftOp α)) : ∀ q : softQueue α, run q ops = SoftQueue.run q.equal (sq q) ops := by
  induction ops with
  | nil => intro q; rfl
  | cons op ops ih =>
    intro q
    have hs := step_eq q op
    simp only [run, SoftQueue.run, runTrace]
    cases h : step q op with
    | ok r =>
      obtain ⟨q', o⟩ := r
      rw [h] at hs
      simp only [Outcome.map_ok] at hs
      rw [← hs]
      have := ih q'
      simp only [run, SoftQueue.run, step_equal q q' op o h] at this
      simp [this]
    | panic => rw [h] at hs; simp only [Outcome.map_panic] at hs; rw [← hs]
    | diverge => rw [h] at hs; simp only [Outcome.map_diverge] at hs; rw [← hs]
end AlgoVerif.C18.Gen
