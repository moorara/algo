import AlgoVerif.Generated.C16Gen
import AlgoVerif.Proofs.GoRt
import AlgoVerif.Proofs.C16Ops
/-!
# The GENERATED model of `set/{set,stable,sorted}.go` and the hand-written Model

Dynamic dispatch through `Set[T]` is
resolved by `extract/go2lean/devirt.go`: results that are always the receiver's type are typed so, the iterator `All`
of `stable` / `sorted` is inlined, and — the one ASSUMPTION, option `-self Set` — a parameter of type `Set[T]` holds
the receiver's own implementation.  The hand Model (`Model/C16.lean`) keeps the members as a `List`, the callback as a
function that may itself fail, and one `MSet` for the three implementations; `toM` / `toM_st` / `toM_so` read the
generated structures (members an `Array`, the callback a pure function, as the translator assumes of every function
value) as the Model's.

* `set`, `stable`: every statement is an EQUALITY of outcomes for every object, callback and argument (same result, same
  panic); all loops are counted, no fuel.
* `sorted`: binary search (`find`, `add`) is a fuel loop; the hand Model gives each search `len(members) + 1`, which it
  never exhausts (the interval shrinks every round), the generated methods pass the caller's fuel down.  Statements are
  equalities for every fuel that covers the longest member list that can occur during the call
  (`Add`: `len + len(vals) + 1`; `Union`: `len + Σ len(operands) + 1`; the others `len + 1` of the searched set).

The three Go files repeat each other's loops, and so do the three generated structures.  Each loop is therefore
treated ONCE, as a statement about any function that satisfies the loop's two defining equations (`*_scan` here,
`Go.fold_scan` and `Go.search_scan` in `Proofs/GoRt.lean`; the generated `loop1` satisfies them by `rfl`, for `Add` /
`Remove` after re-associating the binds), with the methods it calls as variables and their agreement with the hand
Model's as hypotheses; `Inv` is what `sorted` needs of the fuel, and `True` for `set` / `stable`.
-/
set_option linter.unusedSectionVars false
namespace AlgoVerif.C16.Gen
open AlgoVerif AlgoVerif.Outcome AlgoVerif.C16 AlgoVerif.Generated

variable {α : Type} [Inhabited α] {σ : Type}

/-- a Go callback `func(T, T) bool` (a pure total function for the translator) as the hand Model's callback -/
def liftEq (eq : α → α → Bool) : EqualFunc α := fun a b => .ok (eq a b)

section scans
variable (a : Array α)

/-- `for i, m := range s.members { if s.equal(m, v) { return i } }` -/
theorem find_scan (eq : α → α → Bool) (v : α) (loop : Nat → Int → Outcome (Go.Ctl Unit Int))
    (h0 : ∀ i, loop 0 i = .ok (.next ()))
    (hS : ∀ k i, loop (k + 1) i = Go.idx a i >>= fun m => if eq m v then .ok (.ret i) else loop k (i + 1)) :
    (loop a.size 0).map (Go.found (-1)) = linFind (liftEq eq) v a.toList 0 :=
  Go.search_scan a (eq · v) (fun i _ => i) (-1) loop h0 hS (linFind (liftEq eq) v) (fun _ => rfl) (fun _ _ _ => rfl)

/-- Go's `(T, bool)` as the hand Model's `Option` -/
def optOf (r : α × Bool) : Option α := if r.2 then some r.1 else none

theorem first_scan (p : α → Bool) (loop : Nat → Int → Outcome (Go.Ctl Unit (α × Bool)))
    (h0 : ∀ i, loop 0 i = .ok (.next ()))
    (hS : ∀ k i, loop (k + 1) i = Go.idx a i >>= fun m => if p m then .ok (.ret (m, true)) else loop k (i + 1)) :
    ((loop a.size 0).map (Go.found (default, false))).map optOf = .ok (a.toList.find? p) := by
  rw [Go.search_scan a p (fun _ m => (m, true)) (default, false) loop h0 hS
    (fun ms _ => .ok ((ms.find? p).elim (default, false) (·, true))) (fun _ => rfl)
    (fun m ms _ => by cases h : p m <;> simp [h])]
  cases a.toList.find? p <;> rfl
end scans

section folds
variable {ε S M ρ τ : Type}

/-- `for _, m := range a { if bad(call(m)) { return false } }; return true` -/
theorem pass_scan (a : Array ε) (call call' : ε → Outcome τ) (bad : τ → Bool) (hcall : ∀ m, call' m = call m)
    (loop : Nat → Int → Outcome (Go.Ctl Unit Bool)) (h0 : ∀ i, loop 0 i = .ok (.next ()))
    (hS : ∀ k i, loop (k + 1) i =
      Go.idx a i >>= fun m => call m >>= fun t => if bad t then .ok (.ret false) else loop k (i + 1))
    (spec : List ε → Outcome Bool) (hs0 : spec [] = .ok true)
    (hsS : ∀ m ms, spec (m :: ms) = call' m >>= fun t => if bad t then .ok false else spec ms) :
    spec a.toList = (loop a.size 0).map (Go.found true) :=
  Go.range_ind a (P := fun k i ms => spec ms = (loop k i).map (Go.found true))
    (fun i => by rw [h0, hs0]; rfl)
    (fun k i m ms hm ih => by
      simp only [hS, hm, hsS, hcall, Outcome.ok_bind, Outcome.map_bind]
      refine congrArg _ (funext fun t => ?_)
      cases bad t
      · exact ih
      · rfl)

/-- `for _, m := range ms { if !b.Contains(m) { return false } }`: the loops of `Equal`, `IsSubset`, `IsSuperset`; `B` is
the hand Model's `b` and `C` its generated `Contains` -/
theorem containsEach_scan {α : Type} (ms : Array α) (B : MSet α) (C : Array α → Outcome Bool)
    (hC : ∀ m, B.contains [m] = C #[m]) (loop : Nat → Int → Outcome (Go.Ctl Unit Bool))
    (h0 : ∀ i, loop 0 i = .ok (.next ()))
    (hS : ∀ k i, loop (k + 1) i =
      Go.idx ms i >>= fun m => C #[m] >>= fun t => if !t then .ok (.ret false) else loop k (i + 1)) :
    containsEach B ms.toList = (loop ms.size 0).map (Go.found true) :=
  pass_scan ms (fun m => C #[m]) (fun m => B.contains [m]) (!·) hC loop h0 hS (containsEach B) rfl (fun _ _ => rfl)

variable (view : S → MSet α) (a : Array α) (p : α → Bool) (Inv : List α → S → Prop) (add : S → Array α → Outcome S)
  (hadd : ∀ m ms x, Inv (m :: ms) x → (view x).add [m] = (add x #[m]).map view)
  (hinv : ∀ m ms x x', Inv (m :: ms) x → (view x).add [m] = .ok (view x') → Inv ms x')
  (hskip : ∀ m ms x, Inv (m :: ms) x → Inv ms x)
include hadd hinv hskip

/-- `for _, m := range a { if p(m) { matched.Add(m) } }` -/
theorem select_scan (loop : Nat → Int → S → Outcome S) (h0 : ∀ i x, loop 0 i x = .ok x)
    (hS : ∀ k i x, loop (k + 1) i x =
      Go.idx a i >>= fun m => if p m then add x #[m] >>= loop k (i + 1) else loop k (i + 1) x)
    (x : S) (hI : Inv a.toList x) : selectLoop p (view x) a.toList = (loop a.size 0 x).map view :=
  Go.range_ind a (P := fun k i ms => ∀ x, Inv ms x → selectLoop p (view x) ms = (loop k i x).map view)
    (fun i x _ => by rw [h0]; rfl)
    (fun k i m ms hm ih x hI => by
      simp only [hS, hm, selectLoop, Outcome.ok_bind]
      cases p m
      · exact ih x (hskip m ms x hI)
      · simp only [if_true, Outcome.map_bind]
        exact bind_map_congr (hadd m ms x hI) fun x' hx => ih x' (hinv m ms x x' hI hx)) x hI

/-- `for _, m := range a { if p(m) { matched.Add(m) } else { unmatched.Add(m) } }` -/
theorem partition_scan (loop : Nat → Int → S → S → Outcome (S × S)) (h0 : ∀ i x y, loop 0 i x y = .ok (x, y))
    (hS : ∀ k i x y, loop (k + 1) i x y = Go.idx a i >>= fun m =>
      if p m then add x #[m] >>= fun x => loop k (i + 1) x y else add y #[m] >>= fun y => loop k (i + 1) x y)
    (x y : S) (hx : Inv a.toList x) (hy : Inv a.toList y) :
    partitionLoop p (view x) (view y) a.toList = (loop a.size 0 x y).map fun r => (view r.1, view r.2) :=
  Go.range_ind a (P := fun k i ms => ∀ x y, Inv ms x → Inv ms y →
      partitionLoop p (view x) (view y) ms = (loop k i x y).map fun r => (view r.1, view r.2))
    (fun i x y _ _ => by rw [h0]; rfl)
    (fun k i m ms hm ih x y hx hy => by
      simp only [hS, hm, partitionLoop, Outcome.ok_bind]
      cases p m
      · simp only [Bool.false_eq_true, if_false, Outcome.map_bind]
        exact bind_map_congr (hadd m ms y hy) fun y' h => ih x y' (hskip m ms x hx) (hinv m ms y y' hy h)
      · simp only [if_true, Outcome.map_bind]
        exact bind_map_congr (hadd m ms x hx) fun x' h => ih x' y (hinv m ms x x' hx h) (hskip m ms y hy)) x y hx hy
end folds

theorem contains_cons (M : MSet α) (v : α) (vs : List α) :
    M.contains (v :: vs) = M.find v >>= fun t => if t == -1 then .ok false else M.contains vs := by
  simp only [MSet.contains, beq_iff_eq]; rfl

/-- `if s.Size() != rhs.Size() { return false }` in front of the loop of `Equal` -/
theorem equal_of_loop (n n' : Int) (X : Outcome (Go.Ctl Unit Bool)) (M rhs : MSet α) (hn : n = M.size)
    (hn' : n' = rhs.size) (h : containsEach rhs M.members = X.map (Go.found true))
    (f : Go.Ctl Unit Bool → Outcome Bool) (h1 : ∀ r, f (.ret r) = .ok r) (h2 : ∀ u, f (.next u) = .ok true) :
    M.equal rhs = if n != n' then .ok false else X >>= f := by
  subst hn hn'
  rw [Go.ret_or X true f h1 h2, MSet.equal]
  by_cases hs : M.size = rhs.size
  · simpa [hs] using h
  · simp [hs]

/-- `IsSubset` / `IsSuperset` of `stable` and `sorted`, which iterate in stored order and hand the generator state on -/
theorem subset_of_loop (X : Outcome (Go.Ctl Unit Bool)) (c : Outcome Bool) (h : c = X.map (Go.found true))
    (f : Go.Ctl Unit Bool → Outcome Bool) (h1 : ∀ r, f (.ret r) = .ok r) (h2 : ∀ u, f (.next u) = .ok true) (g : σ) :
    (c >>= fun b => .ok (b, g)) = (X >>= f).map fun b => (b, g) := by
  rw [Go.ret_or X true f h1 h2, h]
  cases X.map (Go.found true) <;> rfl

/-- `append(m[:i], m[i+1:]...)` -/
theorem removeAt {β : Type} (f : List α → β) (m : Array α) (i : Int) :
    (Go.slice m 0 i >>= fun t2 => Go.slice m (i + 1) m.size >>= fun t3 => Outcome.ok (f (t2 ++ t3).toList)) =
      if 0 ≤ i ∧ i + 1 ≤ (m.toList.length : Int) then .ok (f (m.toList.take i.toNat ++ m.toList.drop (i.toNat + 1)))
      else .panic := by
  simp only [Go.slice, Array.length_toList]
  by_cases h : 0 ≤ i ∧ i + 1 ≤ (m.size : Int)
  · have c1 : (0 : Int) ≤ 0 ∧ 0 ≤ i ∧ i ≤ (m.size : Int) := ⟨Int.le_refl _, h.1, Int.le_trans (Int.le_add_one (Int.le_refl _)) h.2⟩
    have c2 : 0 ≤ i + 1 ∧ i + 1 ≤ (m.size : Int) ∧ (m.size : Int) ≤ m.size := ⟨Int.le_add_one h.1, h.2, Int.le_refl _⟩
    rw [if_pos c1, if_pos c2, if_pos h, Int.toNat_add h.1 (by decide)]
    simp only [Outcome.ok_bind, Array.toList_append, Array.toList_extract, List.extract_eq_take_drop, Nat.sub_zero,
      List.drop_zero, Int.toNat_zero, Int.toNat_natCast]
    rw [List.take_of_length_le (l := List.drop _ _) (by simp)]
    rfl
  · rw [if_neg h]
    by_cases c1 : (0 : Int) ≤ 0 ∧ 0 ≤ i ∧ i ≤ (m.size : Int)
    · rw [if_pos c1, if_neg fun c => h ⟨c1.2.1, c.2.1⟩]; rfl
    · rw [if_neg c1]; rfl

/-- `append(m[:i], append([]T{v}, m[i:]...)...)` -/
theorem insertAt {β : Type} (f : List α → β) (m : Array α) (v : α) (i : Int) :
    (Go.slice m 0 i >>= fun t4 => Go.slice m i m.size >>= fun t5 => Outcome.ok (f (t4 ++ (#[v] ++ t5)).toList)) =
      if 0 ≤ i ∧ i ≤ (m.toList.length : Int) then .ok (f (m.toList.take i.toNat ++ v :: m.toList.drop i.toNat))
      else .panic := by
  simp only [Go.slice, Array.length_toList]
  by_cases h : 0 ≤ i ∧ i ≤ (m.size : Int)
  · rw [if_pos ⟨Int.le_refl _, h⟩, if_pos ⟨h.1, h.2, Int.le_refl _⟩, if_pos h]
    simp only [Outcome.ok_bind, Array.toList_append, Array.toList_extract, List.extract_eq_take_drop, Nat.sub_zero,
      List.drop_zero, Int.toNat_zero, Int.toNat_natCast]
    rw [List.take_of_length_le (l := List.drop _ _) (by simp)]
    rfl
  · rw [if_neg h, if_neg fun c => h c.2]; rfl

section remove
variable {S : Type} (view : S → MSet α) (M : MSet α) (mem : Array α) (hmem : M.members = mem.toList)
  (upd : Array α → S) (hupd : ∀ m, view (upd m) = { M with members := m.toList }) (s : S) (hs : view s = M)
include hmem hupd hs

/-- one round of `Remove`, for a receiver `s` with the member array `mem`, read as `M`:
`if i := s.find(v); i != -1 { s.members = append(s.members[:i], s.members[i+1:]...) }` -/
theorem remove_round (v : α) (find : Outcome Int) (hfind : M.find v = find) :
    M.remove1 v = (find >>= fun i =>
      if i != -1 then
        Go.slice mem 0 i >>= fun t2 => Go.slice mem (i + 1) mem.size >>= fun t3 => .ok (upd (t2 ++ t3))
      else .ok s).map view := by
  rw [MSet.remove1, Outcome.map_bind, hfind]
  refine congrArg _ (funext fun i => ?_)
  by_cases hi : i = -1
  · simp [hi, hs]
  · simp only [hi, bne_iff_ne, ne_eq, not_false_eq_true, if_true, Outcome.map_bind, Outcome.map_ok, hupd, hmem]
    exact (removeAt (fun l => { M with members := l }) mem i).symm
end remove

def toM (s : Set.set α) : MSet α := ⟨.unordered (liftEq s.equal), s.members.toList⟩

theorem find_eq (s : Set.set α) (v : α) : Set.set.find s v = (toM s).find v :=
  (Go.ret_or _ _ _ (fun _ => rfl) (fun _ => rfl)).trans
    (find_scan s.members s.equal v (Set.set.find.loop1 s v) (fun _ => rfl) (fun _ _ => rfl))

theorem Contains_eq (s : Set.set α) (vals : Array α) : Set.set.Contains s vals = (toM s).contains vals.toList :=
  (Go.ret_or _ _ _ (fun _ => rfl) (fun _ => rfl)).trans
    (pass_scan vals (Set.set.find s) (toM s).find (· == -1) (fun v => (find_eq s v).symm)
      (Set.set.Contains.loop1 s vals) (fun _ => rfl) (fun _ _ => rfl) _ rfl (contains_cons _)).symm

theorem toM_members (s : Set.set α) (m : Array α) : toM { s with members := m } = { toM s with members := m.toList } := rfl

/-- one round of `Add`: `if !s.Contains(v) { s.members = append(s.members, v) }` -/
theorem add_round (s : Set.set α) (v : α) :
    (Set.set.Contains s #[v] >>= fun t =>
      if !t then .ok { s with members := s.members.push v } else .ok s).map toM = (toM s).add1 v := by
  rw [Contains_eq, Outcome.map_bind]
  refine congrArg _ (funext fun t => ?_)
  cases t
  · exact congrArg (fun l => Outcome.ok (⟨_, l⟩ : MSet α)) (Array.toList_push ..)
  · rfl

-- the arguments of `Go.fold_scan`: `view out a Inv step step' hstep hinv`, `loop h0 hS`, `spec hs0 hsS`, `s hI`
theorem Add_eq (s : Set.set α) (vals : Array α) : (Set.set.Add s vals).map toM = (toM s).add vals.toList :=
  (Go.fold_scan toM id vals (fun _ _ => True) _ MSet.add1 (fun v _ s _ => (add_round s v).symm)
    (fun _ _ _ _ _ _ => trivial) (Set.set.Add.loop1 vals) (fun _ _ => rfl)
    (fun k i s => by
      simp only [Set.set.Add.loop1, Outcome.bind_assoc, Outcome.ite_bind, Outcome.ok_bind])
    MSet.add (fun _ => rfl) (fun _ _ _ => rfl) s trivial).symm

theorem Remove_eq (s : Set.set α) (vals : Array α) : (Set.set.Remove s vals).map toM = (toM s).remove vals.toList :=
  (Go.fold_scan toM id vals (fun _ _ => True) _ MSet.remove1
    (fun v _ s _ => remove_round toM (toM s) s.members rfl (fun m => { s with members := m }) (fun _ => rfl) s rfl v _
      ((find_eq s v).symm))
    (fun _ _ _ _ _ _ => trivial) (Set.set.Remove.loop1 vals) (fun _ _ => rfl)
    (fun k i s => by
      simp only [Set.set.Remove.loop1, Outcome.bind_assoc, Outcome.ite_bind, Outcome.ok_bind])
    MSet.remove (fun _ => rfl) (fun _ _ _ => rfl) s trivial).symm

theorem Clone_ok (s : Set.set α) : Set.set.Clone s = .ok s := by
  simp only [Set.set.Clone, Go.make_nat, Go.copy_all, Outcome.ok_bind, Outcome.pure_eq]

theorem AnyMatch_eq (s : Set.set α) (p : α → Bool) : Set.set.AnyMatch s p = .ok ((toM s).anyMatch p) :=
  (Go.ret_or _ _ _ (fun _ => rfl) (fun _ => rfl)).trans
    (Go.any_scan s.members p (Set.set.AnyMatch.loop1 s p) (fun _ => rfl) (fun _ _ => rfl))

theorem AllMatch_eq (s : Set.set α) (p : α → Bool) : Set.set.AllMatch s p = .ok ((toM s).allMatch p) :=
  (Go.ret_or _ _ _ (fun _ => rfl) (fun _ => rfl)).trans
    (Go.all_scan s.members p (Set.set.AllMatch.loop1 s p) (fun _ => rfl) (fun _ _ => rfl))

theorem FirstMatch_eq (s : Set.set α) (p : α → Bool) :
    (Set.set.FirstMatch s p).map optOf = .ok ((toM s).firstMatch p) := by
  rw [Set.set.FirstMatch, Go.ret_or _ (default, false) _ (fun _ => rfl) (fun _ => rfl)]
  exact first_scan s.members p (Set.set.FirstMatch.loop1 s p) (fun _ => rfl) (fun _ _ => rfl)

theorem Equal_eq (s rhs : Set.set α) : Set.set.Equal s rhs = (toM s).equal (toM rhs) :=
  (equal_of_loop _ _ _ (toM s) (toM rhs) rfl rfl
    (containsEach_scan s.members (toM rhs) (Set.set.Contains rhs) (fun m => (Contains_eq rhs #[m]).symm)
      (Set.set.Equal.loop1 s rhs) (fun _ => rfl) (fun _ _ => rfl)) _ (fun _ => rfl) (fun _ => rfl)).symm

theorem SelectMatch_eq (s : Set.set α) (p : α → Bool) :
    (Set.set.SelectMatch s p).map toM = (toM s).selectMatch p :=
  (select_scan toM s.members p (fun _ _ => True) Set.set.Add (fun m _ x _ => (Add_eq x #[m]).symm)
    (fun _ _ _ _ _ _ => trivial) (fun _ _ _ _ => trivial) (Set.set.SelectMatch.loop1 s p) (fun _ _ => rfl)
    (fun _ _ _ => rfl) { s with members := #[] } trivial).symm

def toM2 (r : Set.set α × Set.set α) : MSet α × MSet α := (toM r.1, toM r.2)

theorem PartitionMatch_eq (s : Set.set α) (p : α → Bool) :
    (Set.set.PartitionMatch s p).map toM2 = (toM s).partitionMatch p := by
  have := (partition_scan toM s.members p (fun _ _ => True) Set.set.Add (fun m _ x _ => (Add_eq x #[m]).symm)
    (fun _ _ _ _ _ _ => trivial) (fun _ _ _ _ => trivial) (Set.set.PartitionMatch.loop1 s p) (fun _ _ _ => rfl)
    (fun _ _ _ _ => rfl) { s with members := #[] } { s with members := #[] } trivial trivial).symm
  rw [← Outcome.bind_ok (Set.set.PartitionMatch.loop1 ..)] at this
  exact this

def toM_st (s : Set.stable α) : MSet α := ⟨.stable (liftEq s.equal), s.members.toList⟩

theorem find_eq_st (s : Set.stable α) (v : α) : Set.stable.find s v = (toM_st s).find v :=
  (Go.ret_or _ _ _ (fun _ => rfl) (fun _ => rfl)).trans
    (find_scan s.members s.equal v (Set.stable.find.loop1 s v) (fun _ => rfl) (fun _ _ => rfl))

theorem Contains_eq_st (s : Set.stable α) (vals : Array α) : Set.stable.Contains s vals = (toM_st s).contains vals.toList :=
  (Go.ret_or _ _ _ (fun _ => rfl) (fun _ => rfl)).trans
    (pass_scan vals (Set.stable.find s) (toM_st s).find (· == -1) (fun v => (find_eq_st s v).symm)
      (Set.stable.Contains.loop1 s vals) (fun _ => rfl) (fun _ _ => rfl) _ rfl (contains_cons _)).symm

theorem toM_members_st (s : Set.stable α) (m : Array α) : toM_st { s with members := m } = { toM_st s with members := m.toList } := rfl

/-- one round of `Add`: `if !s.Contains(v) { s.members = append(s.members, v) }` -/
theorem add_round_st (s : Set.stable α) (v : α) :
    (Set.stable.Contains s #[v] >>= fun t =>
      if !t then .ok { s with members := s.members.push v } else .ok s).map toM_st = (toM_st s).add1 v := by
  rw [Contains_eq_st, Outcome.map_bind]
  refine congrArg _ (funext fun t => ?_)
  cases t
  · exact congrArg (fun l => Outcome.ok (⟨_, l⟩ : MSet α)) (Array.toList_push ..)
  · rfl

theorem Add_eq_st (s : Set.stable α) (vals : Array α) : (Set.stable.Add s vals).map toM_st = (toM_st s).add vals.toList :=
  (Go.fold_scan toM_st id vals (fun _ _ => True) _ MSet.add1 (fun v _ s _ => (add_round_st s v).symm)
    (fun _ _ _ _ _ _ => trivial) (Set.stable.Add.loop1 vals) (fun _ _ => rfl)
    (fun k i s => by
      simp only [Set.stable.Add.loop1, Outcome.bind_assoc, Outcome.ite_bind, Outcome.ok_bind])
    MSet.add (fun _ => rfl) (fun _ _ _ => rfl) s trivial).symm

theorem Remove_eq_st (s : Set.stable α) (vals : Array α) : (Set.stable.Remove s vals).map toM_st = (toM_st s).remove vals.toList :=
  (Go.fold_scan toM_st id vals (fun _ _ => True) _ MSet.remove1
    (fun v _ s _ => remove_round toM_st (toM_st s) s.members rfl (fun m => { s with members := m }) (fun _ => rfl) s rfl v _
      ((find_eq_st s v).symm))
    (fun _ _ _ _ _ _ => trivial) (Set.stable.Remove.loop1 vals) (fun _ _ => rfl)
    (fun k i s => by
      simp only [Set.stable.Remove.loop1, Outcome.bind_assoc, Outcome.ite_bind, Outcome.ok_bind])
    MSet.remove (fun _ => rfl) (fun _ _ _ => rfl) s trivial).symm

theorem Clone_ok_st (s : Set.stable α) : Set.stable.Clone s = .ok s := by
  simp only [Set.stable.Clone, Go.make_nat, Go.copy_all, Outcome.ok_bind, Outcome.pure_eq]

theorem AnyMatch_eq_st (s : Set.stable α) (p : α → Bool) : Set.stable.AnyMatch s p = .ok ((toM_st s).anyMatch p) :=
  (Go.ret_or _ _ _ (fun _ => rfl) (fun _ => rfl)).trans
    (Go.any_scan s.members p (Set.stable.AnyMatch.loop1 s p) (fun _ => rfl) (fun _ _ => rfl))

theorem AllMatch_eq_st (s : Set.stable α) (p : α → Bool) : Set.stable.AllMatch s p = .ok ((toM_st s).allMatch p) :=
  (Go.ret_or _ _ _ (fun _ => rfl) (fun _ => rfl)).trans
    (Go.all_scan s.members p (Set.stable.AllMatch.loop1 s p) (fun _ => rfl) (fun _ _ => rfl))

theorem FirstMatch_eq_st (s : Set.stable α) (p : α → Bool) :
    (Set.stable.FirstMatch s p).map optOf = .ok ((toM_st s).firstMatch p) := by
  rw [Set.stable.FirstMatch, Go.ret_or _ (default, false) _ (fun _ => rfl) (fun _ => rfl)]
  exact first_scan s.members p (Set.stable.FirstMatch.loop1 s p) (fun _ => rfl) (fun _ _ => rfl)

theorem Equal_eq_st (s rhs : Set.stable α) : Set.stable.Equal s rhs = (toM_st s).equal (toM_st rhs) :=
  (equal_of_loop _ _ _ (toM_st s) (toM_st rhs) rfl rfl
    (containsEach_scan s.members (toM_st rhs) (Set.stable.Contains rhs) (fun m => (Contains_eq_st rhs #[m]).symm)
      (Set.stable.Equal.loop1 s rhs) (fun _ => rfl) (fun _ _ => rfl)) _ (fun _ => rfl) (fun _ => rfl)).symm

theorem SelectMatch_eq_st (s : Set.stable α) (p : α → Bool) :
    (Set.stable.SelectMatch s p).map toM_st = (toM_st s).selectMatch p :=
  (select_scan toM_st s.members p (fun _ _ => True) Set.stable.Add (fun m _ x _ => (Add_eq_st x #[m]).symm)
    (fun _ _ _ _ _ _ => trivial) (fun _ _ _ _ => trivial) (Set.stable.SelectMatch.loop1 s p) (fun _ _ => rfl)
    (fun _ _ _ => rfl) { s with members := #[] } trivial).symm

def toM2_st (r : Set.stable α × Set.stable α) : MSet α × MSet α := (toM_st r.1, toM_st r.2)

theorem PartitionMatch_eq_st (s : Set.stable α) (p : α → Bool) :
    (Set.stable.PartitionMatch s p).map toM2_st = (toM_st s).partitionMatch p := by
  have := (partition_scan toM_st s.members p (fun _ _ => True) Set.stable.Add (fun m _ x _ => (Add_eq_st x #[m]).symm)
    (fun _ _ _ _ _ _ => trivial) (fun _ _ _ _ => trivial) (Set.stable.PartitionMatch.loop1 s p) (fun _ _ _ => rfl)
    (fun _ _ _ _ => rfl) { s with members := #[] } { s with members := #[] } trivial trivial).symm
  rw [← Outcome.bind_ok (Set.stable.PartitionMatch.loop1 ..)] at this
  exact this

/-! methods of `stable` that take or return other sets (devirtualised: same implementation on both sides; the
unordered `set` iterates over a shuffled index list there: not translated) -/

theorem all_st (sh : Shuffle σ) (s : Set.stable α) (g : σ) : (toM_st s).all sh g = .ok (s.members.toList, g) := rfl

theorem IsSubset_eq_st (sh : Shuffle σ) (s superset : Set.stable α) (g : σ) :
    (toM_st s).isSubset sh (toM_st superset) g = (Set.stable.IsSubset s superset).map (fun b => (b, g)) :=
  (subset_of_loop _ _
    (containsEach_scan s.members (toM_st superset) (Set.stable.Contains superset)
      (fun m => (Contains_eq_st superset #[m]).symm) (Set.stable.IsSubset.loop1 s superset) (fun _ => rfl)
      (fun _ _ => rfl)) _ (fun _ => rfl) (fun _ => rfl) g)

theorem IsSuperset_eq_st (sh : Shuffle σ) (s subset : Set.stable α) (g : σ) :
    (toM_st s).isSuperset sh (toM_st subset) g = (Set.stable.IsSuperset s subset).map (fun b => (b, g)) :=
  (subset_of_loop _ _
    (containsEach_scan subset.members (toM_st s) (Set.stable.Contains s) (fun m => (Contains_eq_st s #[m]).symm)
      (Set.stable.IsSuperset.loop1 s subset) (fun _ => rfl) (fun _ _ => rfl)) _ (fun _ => rfl) (fun _ => rfl) g)

/-- `for m := range set.All() { t.Add(m) }` -/
theorem addEach_eq_st (set t : Set.stable α) :
    (Set.stable.Union.loop2 set set.members.size 0 t).map toM_st = addEach (toM_st t) set.members.toList :=
  (Go.fold_scan toM_st id set.members (fun _ _ => True) (fun t m => Set.stable.Add t #[m]) (fun t m => t.add [m])
    (fun m _ t _ => (Add_eq_st t #[m]).symm) (fun _ _ _ _ _ _ => trivial) (Set.stable.Union.loop2 set)
    (fun _ _ => rfl) (fun _ _ _ => rfl) addEach (fun _ => rfl) (fun _ _ _ => rfl) t trivial).symm

theorem Union_eq_st (sh : Shuffle σ) (s : Set.stable α) (sets : Array (Set.stable α)) (g : σ) :
    (toM_st s).union sh (sets.toList.map toM_st) g = (Set.stable.Union s sets).map (fun t => (toM_st t, g)) := by
  rw [Set.stable.Union, Clone_ok_st]
  exact (Go.fold_scan toM_st (fun t => (t, g)) sets (fun _ _ => True)
    (fun t set => Set.stable.Union.loop2 set set.members.size 0 t) (fun t set => addEach t set.members.toList)
    (fun set _ t _ => (addEach_eq_st set t).symm) (fun _ _ _ _ _ _ => trivial) (Set.stable.Union.loop1 sets)
    (fun _ _ => rfl) (fun _ _ _ => rfl) (fun t sets => unionLoop sh t (sets.map toM_st) g) (fun _ => rfl)
    (fun _ _ _ => rfl) s trivial)

/-- `for m := range set.All() { t.Remove(m) }` -/
theorem removeEach_eq_st (set t : Set.stable α) :
    (Set.stable.Difference.loop2 set set.members.size 0 t).map toM_st = removeEach (toM_st t) set.members.toList :=
  (Go.fold_scan toM_st id set.members (fun _ _ => True) (fun t m => Set.stable.Remove t #[m]) (fun t m => t.remove [m])
    (fun m _ t _ => (Remove_eq_st t #[m]).symm) (fun _ _ _ _ _ _ => trivial) (Set.stable.Difference.loop2 set)
    (fun _ _ => rfl) (fun _ _ _ => rfl) removeEach (fun _ => rfl) (fun _ _ _ => rfl) t trivial).symm

theorem Difference_eq_st (sh : Shuffle σ) (s : Set.stable α) (sets : Array (Set.stable α)) (g : σ) :
    (toM_st s).difference sh (sets.toList.map toM_st) g = (Set.stable.Difference s sets).map (fun t => (toM_st t, g)) := by
  rw [Set.stable.Difference, Clone_ok_st]
  exact (Go.fold_scan toM_st (fun t => (t, g)) sets (fun _ _ => True)
    (fun t set => Set.stable.Difference.loop2 set set.members.size 0 t) (fun t set => removeEach t set.members.toList)
    (fun set _ t _ => (removeEach_eq_st set t).symm) (fun _ _ _ _ _ _ => trivial) (Set.stable.Difference.loop1 sets)
    (fun _ _ => rfl) (fun _ _ _ => rfl) (fun t sets => diffLoop sh t (sets.map toM_st) g) (fun _ => rfl)
    (fun _ _ _ => rfl) s trivial)

def liftCmp (cmp : α → α → Int) : CompareFunc α := fun a b => .ok (cmp a b)

def toM_so (s : Set.sorted α) : MSet α := ⟨.sorted (liftCmp s.compare), s.members.toList⟩

/-- The binary searches of `find` and `add` run the same loop, in the hand Model (`spec`: `binFind`, `binAddPos`) and
in the generated code (`loop`), and differ in what they hand to the rest of the method (`k'`, `k`): `hit mid` /
`.ret (r mid)` at a member comparing equal, `miss low` / `.next (low, high)` when the interval is empty.  The generated
loop may be given more fuel (`d`).  Neither runs out: the interval shrinks every round. -/
theorem bsearch_scan {β ρ γ : Type} (a : Array α) (cmp : α → α → Int) (v : α) (hit miss : Int → β)
    (spec : Nat → Int → Int → Outcome β)
    (hsS : ∀ fuel low high, spec (fuel + 1) low high =
      if low ≤ high then
        let mid := (low + high).tdiv 2
        if 0 ≤ mid then
          match a.toList[mid.toNat]? with
          | none => .panic
          | some m => do
            let c ← liftCmp cmp v m
            if c < 0 then spec fuel low (mid - 1)
            else if c > 0 then spec fuel (mid + 1) high
            else return hit mid
        else .panic
      else .ok (miss low))
    (r : Int → ρ) (loop : Nat → Int → Int → Outcome (Go.Ctl (Int × Int) ρ))
    (hS : ∀ k low high, loop (k + 1) low high =
      if !decide (low ≤ high) then .ok (.next (low, high))
      else Go.idx a ((low + high).tdiv 2) >>= fun m =>
        if decide (cmp v m < 0) then loop k low ((low + high).tdiv 2 - 1)
        else if decide (cmp v m > 0) then loop k ((low + high).tdiv 2 + 1) high
        else .ok (.ret (r ((low + high).tdiv 2))))
    (k' : β → Outcome γ) (k : Go.Ctl (Int × Int) ρ → Outcome γ) (hret : ∀ mid, k (.ret (r mid)) = k' (hit mid))
    (hnext : ∀ low high, k (.next (low, high)) = k' (miss low)) :
    ∀ (f d : Nat) (low high : Int), 0 ≤ low → low ≤ high + 1 → high - low + 1 < f →
      (spec f low high >>= k') = (loop (f + d) low high >>= k) := by
  intro f
  induction f with
  | zero => intro d low high _ _ _; omega
  | succ f ih =>
    intro d low high h0 hlh hf
    rw [hsS, show f + 1 + d = (f + d) + 1 by omega, hS]
    by_cases hle : low ≤ high
    · simp only [hle, ↓reduceIte, decide_true, Bool.not_true, Bool.false_eq_true]
      have hmid : low ≤ (low + high).tdiv 2 ∧ (low + high).tdiv 2 ≤ high := by
        rw [Int.tdiv_eq_ediv_of_nonneg (Int.add_nonneg h0 (Int.le_trans h0 hle))]; omega
      generalize (low + high).tdiv 2 = mid at hmid ⊢
      obtain ⟨hm0, hlo, hhi⟩ : 0 ≤ mid ∧ (low ≤ mid - 1 + 1 ∧ mid - 1 - low + 1 < f) ∧
          (0 ≤ mid + 1 ∧ mid + 1 ≤ high + 1 ∧ high - (mid + 1) + 1 < f) := by omega
      by_cases hm : mid < a.size
      · have hl : a.toList[mid.toNat]? = some (a[mid.toNat]'(by omega)) := by
          rw [Array.getElem?_toList]; exact Array.getElem?_eq_getElem _
        simp only [Go.idx_of_valid ⟨hm0, hm⟩, hm0, ↓reduceIte, hl, liftCmp, Outcome.ok_bind, decide_eq_true_eq]
        split
        · exact ih d _ _ h0 hlo.1 hlo.2
        · split
          · exact ih d _ _ hhi.1 hhi.2.1 hhi.2.2
          · rw [Outcome.pure_eq, Outcome.ok_bind, Outcome.ok_bind, hret]
      · have hl : a.toList[mid.toNat]? = none := by
          rw [Array.getElem?_toList]; exact Array.getElem?_eq_none (by omega)
        rw [Go.idx_of_invalid (fun h => hm h.2)]
        simp only [hm0, ↓reduceIte, hl]
        rfl
    · simp only [hle, ↓reduceIte, decide_false, Bool.not_false, Outcome.ok_bind, hnext]

theorem find_eq_so (s : Set.sorted α) (v : α) (F : Nat) (hF : s.members.size + 1 ≤ F) :
    (toM_so s).find v = Set.sorted.find F s v := by
  obtain ⟨d, rfl⟩ : ∃ d, F = s.members.size + 1 + d := ⟨F - (s.members.size + 1), by omega⟩
  rw [← Outcome.bind_ok ((toM_so s).find v)]
  exact bsearch_scan s.members s.compare v id (fun _ => -1) (binFind (liftCmp s.compare) s.members.toList v)
    (fun _ _ _ => rfl) id (Set.sorted.find.loop1 _ s v) (fun _ _ _ => rfl) .ok _ (fun _ => rfl)
    (fun _ _ => rfl) (s.members.size + 1) d 0 ((s.members.size : Int) - 1) (by omega) (by omega) (by omega)

theorem add_eq_so (s : Set.sorted α) (v : α) (F : Nat) (hF : s.members.size + 1 ≤ F) :
    (toM_so s).add1 v = (Set.sorted.add F s v).map toM_so := by
  obtain ⟨d, rfl⟩ : ∃ d, F = s.members.size + 1 + d := ⟨F - (s.members.size + 1), by omega⟩
  simp only [Set.sorted.add, Outcome.map_bind]
  refine bsearch_scan s.members s.compare v (fun _ => none) some (binAddPos (liftCmp s.compare) s.members.toList v)
    (fun _ _ _ => rfl) (fun _ => s) (Set.sorted.add.loop1 _ s v) (fun _ _ _ => rfl) _ _ (fun _ => rfl)
    (fun low _ => ?_) (s.members.size + 1) d 0 ((s.members.size : Int) - 1) (by omega) (by omega) (by omega)
  simp only [Outcome.map_bind, Outcome.pure_eq, Outcome.map_ok]
  exact insertAt (fun l => ({ toM_so s with members := l } : MSet α)) s.members v low

theorem add1_len {s s' : MSet α} {v : α} (h : s.add1 v = .ok s') : s'.members.length ≤ s.members.length + 1 := by
  rcases (MSet.add1_shape h).2 with rfl | e <;> omega

theorem fold_len {ε : Type} (g : Nat) (step : MSet α → ε → Outcome (MSet α))
    (hstep : ∀ {t m t'}, step t m = .ok t' → t'.members.length ≤ t.members.length + g)
    (spec : MSet α → List ε → Outcome (MSet α)) (hs0 : ∀ t, spec t [] = .ok t)
    (hsS : ∀ t m ms, spec t (m :: ms) = step t m >>= fun t' => spec t' ms) :
    ∀ (ms : List ε) (t t' : MSet α), spec t ms = .ok t' → t'.members.length ≤ t.members.length + g * ms.length := by
  intro ms
  induction ms with
  | nil => intro t t' h; rw [hs0] at h; cases h; exact Nat.le_refl _
  | cons m ms ih =>
    intro t t' h
    rw [hsS] at h
    obtain ⟨t1, h1, h2⟩ := Outcome.bind_eq_ok h
    have l1 := hstep h1
    have l2 := ih t1 t' h2
    rw [List.length_cons, Nat.mul_succ]; omega

theorem add_len {vs : List α} {s s' : MSet α} (h : s.add vs = .ok s') :
    s'.members.length ≤ s.members.length + vs.length := by
  simpa using fold_len 1 MSet.add1 add1_len MSet.add (fun _ => rfl) (fun _ _ _ => rfl) vs s s' h

theorem remove1_len {s s' : MSet α} {v : α} (h : s.remove1 v = .ok s') : s'.members.length ≤ s.members.length := by
  rcases (MSet.remove1_shape h).2 with rfl | e <;> omega

theorem remove_len {vs : List α} {s s' : MSet α} (h : s.remove vs = .ok s') :
    s'.members.length ≤ s.members.length := by
  simpa using fold_len 0 MSet.remove1 remove1_len MSet.remove (fun _ => rfl) (fun _ _ _ => rfl) vs s s' h

theorem addEach_len {ms : List α} {t t' : MSet α} (h : addEach t ms = .ok t') :
    t'.members.length ≤ t.members.length + ms.length := by
  simpa using fold_len 1 (fun t m => t.add [m]) add_len addEach (fun _ => rfl) (fun _ _ _ => rfl) ms t t' h

theorem removeEach_len {ms : List α} {t t' : MSet α} (h : removeEach t ms = .ok t') :
    t'.members.length ≤ t.members.length := by
  simpa using fold_len 0 (fun t m => t.remove [m]) remove_len removeEach (fun _ => rfl) (fun _ _ _ => rfl) ms t t' h

theorem Contains_eq_so (s : Set.sorted α) (vals : Array α) (F : Nat) (hF : s.members.size + 1 ≤ F) :
    (toM_so s).contains vals.toList = Set.sorted.Contains F s vals :=
  (pass_scan vals (Set.sorted.find F s) (toM_so s).find (· == -1) (fun v => find_eq_so s v F hF)
    (Set.sorted.Contains.loop1 F s vals) (fun _ => rfl) (fun _ _ => rfl) _ rfl (contains_cons _)).trans
    (Go.ret_or _ _ _ (fun _ => rfl) (fun _ => rfl)).symm

theorem Add_eq_so (s : Set.sorted α) (vals : Array α) (F : Nat) (hF : s.members.size + vals.size + 1 ≤ F) :
    (toM_so s).add vals.toList = (Set.sorted.Add F s vals).map toM_so :=
  Go.fold_scan toM_so id vals (fun vs s => s.members.size + vs.length + 1 ≤ F) (Set.sorted.add F) MSet.add1
    (fun v vs s h => add_eq_so s v F (by simp only [List.length_cons] at h; omega))
    (fun v vs s s' h hx => by
      have l : s'.members.size ≤ s.members.size + 1 := add1_len hx
      simp only [List.length_cons] at h; omega)
    (Set.sorted.Add.loop1 F vals) (fun _ _ => rfl) (fun _ _ _ => rfl) MSet.add (fun _ => rfl) (fun _ _ _ => rfl) s hF

theorem Remove_eq_so (s : Set.sorted α) (vals : Array α) (F : Nat) (hF : s.members.size + 1 ≤ F) :
    (toM_so s).remove vals.toList = (Set.sorted.Remove F s vals).map toM_so :=
  Go.fold_scan toM_so id vals (fun _ s => s.members.size + 1 ≤ F) _ MSet.remove1
    (fun v _ s h => remove_round toM_so (toM_so s) s.members rfl (fun m => { s with members := m }) (fun _ => rfl) s rfl
      v _ (find_eq_so s v F h))
    (fun v _ s s' h hx => by
      have l : s'.members.size ≤ s.members.size := remove1_len hx
      omega)
    (Set.sorted.Remove.loop1 F vals) (fun _ _ => rfl)
    (fun k i s => by
      simp only [Set.sorted.Remove.loop1, Outcome.bind_assoc, Outcome.ite_bind, Outcome.ok_bind])
    MSet.remove (fun _ => rfl) (fun _ _ _ => rfl) s hF

theorem Clone_ok_so (s : Set.sorted α) : Set.sorted.Clone s = .ok s := by
  simp only [Set.sorted.Clone, Go.make_nat, Go.copy_all, Outcome.ok_bind, Outcome.pure_eq]

theorem AnyMatch_eq_so (s : Set.sorted α) (p : α → Bool) : Set.sorted.AnyMatch s p = .ok ((toM_so s).anyMatch p) :=
  (Go.ret_or _ _ _ (fun _ => rfl) (fun _ => rfl)).trans
    (Go.any_scan s.members p (Set.sorted.AnyMatch.loop1 s p) (fun _ => rfl) (fun _ _ => rfl))

theorem AllMatch_eq_so (s : Set.sorted α) (p : α → Bool) : Set.sorted.AllMatch s p = .ok ((toM_so s).allMatch p) :=
  (Go.ret_or _ _ _ (fun _ => rfl) (fun _ => rfl)).trans
    (Go.all_scan s.members p (Set.sorted.AllMatch.loop1 s p) (fun _ => rfl) (fun _ _ => rfl))

theorem FirstMatch_eq_so (s : Set.sorted α) (p : α → Bool) :
    (Set.sorted.FirstMatch s p).map optOf = .ok ((toM_so s).firstMatch p) := by
  rw [Set.sorted.FirstMatch, Go.ret_or _ (default, false) _ (fun _ => rfl) (fun _ => rfl)]
  exact first_scan s.members p (Set.sorted.FirstMatch.loop1 s p) (fun _ => rfl) (fun _ _ => rfl)

theorem all_so (sh : Shuffle σ) (s : Set.sorted α) (g : σ) : (toM_so s).all sh g = .ok (s.members.toList, g) := rfl

theorem Equal_eq_so (s rhs : Set.sorted α) (F : Nat) (hF : rhs.members.size + 1 ≤ F) :
    (toM_so s).equal (toM_so rhs) = Set.sorted.Equal F s rhs :=
  equal_of_loop _ _ _ (toM_so s) (toM_so rhs) rfl rfl
    (containsEach_scan s.members (toM_so rhs) (Set.sorted.Contains F rhs) (fun m => Contains_eq_so rhs #[m] F hF)
      (Set.sorted.Equal.loop1 F s rhs) (fun _ => rfl) (fun _ _ => rfl))
    _ (fun _ => rfl) (fun _ => rfl)

theorem IsSubset_eq_so (sh : Shuffle σ) (s superset : Set.sorted α) (g : σ) (F : Nat) (hF : superset.members.size + 1 ≤ F) :
    (toM_so s).isSubset sh (toM_so superset) g = (Set.sorted.IsSubset F s superset).map (fun b => (b, g)) :=
  subset_of_loop _ _
    (containsEach_scan s.members (toM_so superset) (Set.sorted.Contains F superset)
      (fun m => Contains_eq_so superset #[m] F hF) (Set.sorted.IsSubset.loop1 F s superset) (fun _ => rfl) (fun _ _ => rfl))
    _ (fun _ => rfl) (fun _ => rfl) g

theorem IsSuperset_eq_so (sh : Shuffle σ) (s subset : Set.sorted α) (g : σ) (F : Nat) (hF : s.members.size + 1 ≤ F) :
    (toM_so s).isSuperset sh (toM_so subset) g = (Set.sorted.IsSuperset F s subset).map (fun b => (b, g)) :=
  subset_of_loop _ _
    (containsEach_scan subset.members (toM_so s) (Set.sorted.Contains F s) (fun m => Contains_eq_so s #[m] F hF)
      (Set.sorted.IsSuperset.loop1 F s subset) (fun _ => rfl) (fun _ _ => rfl))
    _ (fun _ => rfl) (fun _ => rfl) g

/-- what `SelectMatch`, `PartitionMatch`, `Union` need of the set they `Add` to, one member at a time: the fuel covers
it with the members still to come -/
def Fits (F : Nat) (ms : List α) (t : Set.sorted α) : Prop := t.members.size + ms.length + 1 ≤ F

theorem Fits.add {F : Nat} {m : α} {ms : List α} {t : Set.sorted α} (h : Fits F (m :: ms) t) :
    (toM_so t).add [m] = (Set.sorted.Add F t #[m]).map toM_so :=
  Add_eq_so t #[m] F (by
    simp only [Fits, List.length_cons] at h
    show t.members.size + 1 + 1 ≤ F
    omega)

theorem Fits.added {F : Nat} {m : α} {ms : List α} {t t' : Set.sorted α} (h : Fits F (m :: ms) t)
    (hx : (toM_so t).add [m] = .ok (toM_so t')) : Fits F ms t' := by
  have l : t'.members.size ≤ t.members.size + 1 := add_len hx
  simp only [Fits, List.length_cons] at h ⊢; omega

theorem Fits.skip {F : Nat} {m : α} {ms : List α} {t : Set.sorted α} (h : Fits F (m :: ms) t) : Fits F ms t := by
  simp only [Fits, List.length_cons] at h ⊢; omega

theorem SelectMatch_eq_so (s : Set.sorted α) (p : α → Bool) (F : Nat) (hF : s.members.size + 1 ≤ F) :
    (toM_so s).selectMatch p = (Set.sorted.SelectMatch F s p).map toM_so :=
  select_scan toM_so s.members p (Fits F) (Set.sorted.Add F) (fun _ _ _ h => h.add) (fun _ _ _ _ h hx => h.added hx)
    (fun _ _ _ h => h.skip) (Set.sorted.SelectMatch.loop1 F s p) (fun _ _ => rfl) (fun _ _ _ => rfl)
    { s with members := #[] } (by simpa [Fits] using hF)

def toM2_so (r : Set.sorted α × Set.sorted α) : MSet α × MSet α := (toM_so r.1, toM_so r.2)

theorem PartitionMatch_eq_so (s : Set.sorted α) (p : α → Bool) (F : Nat) (hF : s.members.size + 1 ≤ F) :
    (toM_so s).partitionMatch p = (Set.sorted.PartitionMatch F s p).map toM2_so := by
  have hI : Fits F s.members.toList { s with members := #[] } := by simpa [Fits] using hF
  have := partition_scan toM_so s.members p (Fits F) (Set.sorted.Add F) (fun _ _ _ h => h.add)
    (fun _ _ _ _ h hx => h.added hx) (fun _ _ _ h => h.skip) (Set.sorted.PartitionMatch.loop1 F s p) (fun _ _ _ => rfl)
    (fun _ _ _ _ => rfl) { s with members := #[] } { s with members := #[] } hI hI
  rw [← Outcome.bind_ok (Set.sorted.PartitionMatch.loop1 ..)] at this
  exact this

/-- `for m := range set.All() { t.Add(m) }` -/
theorem addEach_eq_so (F : Nat) (set t : Set.sorted α) (hF : t.members.size + set.members.size + 1 ≤ F) :
    addEach (toM_so t) set.members.toList = (Set.sorted.Union.loop2 F set set.members.size 0 t).map toM_so :=
  Go.fold_scan toM_so id set.members (Fits F) (fun t m => Set.sorted.Add F t #[m]) (fun t m => t.add [m])
    (fun _ _ _ h => h.add) (fun _ _ _ _ h hx => h.added hx) (Set.sorted.Union.loop2 F set)
    (fun _ _ => rfl) (fun _ _ _ => rfl) addEach (fun _ => rfl) (fun _ _ _ => rfl) t hF

def total (sets : Array (Set.sorted α)) (i : Nat) : Nat := ((sets.toList.drop i).map (fun x => x.members.size)).sum

theorem Union_eq_so (sh : Shuffle σ) (s : Set.sorted α) (sets : Array (Set.sorted α)) (g : σ) (F : Nat)
    (hF : s.members.size + total sets 0 + 1 ≤ F) :
    (toM_so s).union sh (sets.toList.map toM_so) g = (Set.sorted.Union F s sets).map (fun t => (toM_so t, g)) := by
  rw [Set.sorted.Union, Clone_ok_so]
  exact Go.fold_scan toM_so (fun t => (t, g)) sets
    (fun rest t => t.members.size + (rest.map (fun x => x.members.size)).sum + 1 ≤ F)
    (fun t set => Set.sorted.Union.loop2 F set set.members.size 0 t) (fun t set => addEach t set.members.toList)
    (fun set _ t h => addEach_eq_so F set t (by simp only [List.map_cons, List.sum_cons] at h; omega))
    (fun set _ t t' h hx => by
      have l : t'.members.size ≤ t.members.size + set.members.size := addEach_len hx
      simp only [List.map_cons, List.sum_cons] at h; omega)
    (Set.sorted.Union.loop1 F sets) (fun _ _ => rfl) (fun _ _ _ => rfl)
    (fun t sets => unionLoop sh t (sets.map toM_so) g) (fun _ => rfl) (fun _ _ _ => rfl) s hF

/-- `for m := range set.All() { t.Remove(m) }` -/
theorem removeEach_eq_so (F : Nat) (set t : Set.sorted α) (hF : t.members.size + 1 ≤ F) :
    removeEach (toM_so t) set.members.toList = (Set.sorted.Difference.loop2 F set set.members.size 0 t).map toM_so :=
  Go.fold_scan toM_so id set.members (fun _ t => t.members.size + 1 ≤ F) (fun t m => Set.sorted.Remove F t #[m])
    (fun t m => t.remove [m]) (fun m _ t h => Remove_eq_so t #[m] F h)
    (fun m _ t t' h hx => by
      have l : t'.members.size ≤ t.members.size := remove_len hx
      omega)
    (Set.sorted.Difference.loop2 F set) (fun _ _ => rfl) (fun _ _ _ => rfl) removeEach (fun _ => rfl)
    (fun _ _ _ => rfl) t hF

theorem Difference_eq_so (sh : Shuffle σ) (s : Set.sorted α) (sets : Array (Set.sorted α)) (g : σ) (F : Nat)
    (hF : s.members.size + 1 ≤ F) :
    (toM_so s).difference sh (sets.toList.map toM_so) g = (Set.sorted.Difference F s sets).map (fun t => (toM_so t, g)) := by
  rw [Set.sorted.Difference, Clone_ok_so]
  exact Go.fold_scan toM_so (fun t => (t, g)) sets (fun _ t => t.members.size + 1 ≤ F)
    (fun t set => Set.sorted.Difference.loop2 F set set.members.size 0 t) (fun t set => removeEach t set.members.toList)
    (fun set _ t h => removeEach_eq_so F set t h)
    (fun set _ t t' h hx => by
      have l : t'.members.size ≤ t.members.size := removeEach_len hx
      omega)
    (Set.sorted.Difference.loop1 F sets) (fun _ _ => rfl) (fun _ _ _ => rfl)
    (fun t sets => diffLoop sh t (sets.map toM_so) g) (fun _ => rfl) (fun _ _ _ => rfl) s hF

end AlgoVerif.C16.Gen
