import AlgoVerif.Proofs.C11Complete
/-!
# C11 — termination of the driver: runs, halting, the target of a transition

* a configuration reached from a halting one halts, and the height of its stack is bounded by the fuel (`halts_stack_bound`);
* on a conflict-free table the state the driver pushed on `X` above `s` (`Link`) is the one the table names (`Target`):
  `link_unique`.
-/
namespace AlgoVerif.C11.Term
open AlgoVerif AlgoVerif.Gram AlgoVerif.C11 AlgoVerif.C11.Spec AlgoVerif.C11.Complete

def Halts (T : Tbl) (st : PState) : Prop := ∃ n r, prun T n st = Outcome.ok r

theorem iter_succ_right {T : Tbl} : ∀ (n : Nat) (a b c : PState), iter T n a = some b → pstep T b = .inl c →
    iter T (n + 1) a = some c := by
  intro n a b c h1 h2
  rw [iter_add, h1, Option.bind_some, iter_one, h2]

variable {T : Tbl}

theorem iter_le_of_last {n k : Nat} {a b c : PState} {r : PResult} (hn : iter T n a = some b) (hk : iter T k a = some c)
    (hr : pstep T c = .inr r) : n ≤ k := by
  apply Nat.le_of_not_lt
  intro hlt
  rw [show n = k + (1 + (n - k - 1)) by omega, iter_add, hk, Option.bind_some, iter_add, iter_one, hr] at hn
  cases hn

theorem fuel_gt_of_iter (n F : Nat) (a b : PState) (r : PResult) (hi : iter T n a = some b)
    (hp : prun T F a = Outcome.ok r) : n < F := by
  obtain ⟨k, c, hk, hc, hr⟩ := prun_eq_ok_iff.mp hp
  have := iter_le_of_last hi hc hr
  omega

theorem pstep_stack_le {a b : PState} (h : pstep T a = .inl b) : b.stack.length ≤ a.stack.length + 1 := by
  rcases pstep_inl h with ⟨t, _, rfl⟩ | ⟨p, _, rfl⟩ <;> simp <;> omega

theorem iter_stack_le : ∀ (n : Nat) (a b : PState), iter T n a = some b → b.stack.length ≤ a.stack.length + n
  | 0, a, b, h => by simp [iter] at h; subst h; omega
  | n + 1, a, b, h => by
    unfold iter at h
    cases hs : pstep T a with
    | inl a' =>
      rw [hs] at h
      simp only at h
      have h1 := iter_stack_le n a' b h
      have h2 := pstep_stack_le hs
      omega
    | inr r => rw [hs] at h; simp at h

theorem halts_stack_bound {a : PState} (h : Halts T a) :
    ∃ B, ∀ b, Reaches T a b → b.stack.length < B := by
  obtain ⟨F, r, hF⟩ := h
  refine ⟨a.stack.length + F, ?_⟩
  rintro b ⟨n, hn⟩
  have h1 := fuel_gt_of_iter n F a b r hn hF
  have h2 := iter_stack_le n a b hn
  omega

theorem halts_of_reaches {a b : PState} (h : Halts T a) (hr : Reaches T a b) : Halts T b := by
  obtain ⟨F, r, hF⟩ := h
  obtain ⟨n, hn⟩ := hr
  obtain ⟨k, c, hk, hc, hcr⟩ := prun_eq_ok_iff.mp hF
  have hle := iter_le_of_last hn hc hcr
  rw [show k = n + (k - n) by omega, iter_add, hn, Option.bind_some] at hc
  exact ⟨k - n + 1, r, prun_eq_ok_iff.mpr ⟨k - n, c, by omega, hc, hcr⟩⟩

theorem halts_of_iter_none : ∀ (n : Nat) (a : PState), iter T n a = none → Halts T a
  | 0, a, h => by simp [iter] at h
  | n + 1, a, h => by
    unfold iter at h
    cases hs : pstep T a with
    | inl a' =>
      rw [hs] at h
      simp only at h
      obtain ⟨k, r, hk⟩ := halts_of_iter_none n a' h
      exact ⟨k + 1, r, by unfold prun; rw [hs]; exact hk⟩
    | inr r => exact ⟨1, r, by unfold prun; rw [hs]⟩

theorem link_unique (hcf : ∀ s a, (T.cell s a).length ≤ 1) {s : Int} {X : Sy} {s1 s2 : Int}
    (h1 : Target T s X s1) (h2 : Link T s X s2) : s1 = s2 := by
  cases X with
  | term a =>
    simp only [Target] at h1
    simp only [Link, cell_single (hcf s a) h1, List.mem_singleton, Action.shift.injEq] at h2
    exact h2.symm
  | nonterm A =>
    simp only [Target] at h1
    simp only [Link, h1, Option.getD_some] at h2
    exact h2.symm

end AlgoVerif.C11.Term
