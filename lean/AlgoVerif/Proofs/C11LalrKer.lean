import AlgoVerif.Proofs.C11Lalr
import AlgoVerif.Proofs.C11LalrClo
/-!
# C11 — the LALR(1) kernels `ComputeLALR1Kernels` returns

The LR(0) kernel state map `S0` of a run: a state is determined by its items (`state_index_unique`: no two
sets of a canonical collection are equal as sets) and an item of a state by its index (`kernel0_nodup`), so the numbers
`FindItemSet`/`FindItem` return are the keys of the lookahead table.

* `ker_zero`, `ker_other`: `Ker 0` is `[S′ → •S, $]`, and `Ker s` for a later state consists of items of `G′` none of which is
  `S′ → •S` — because an item of `S′` only ever receives the endmarker (`la_start`, an instance of `las_sound`) and the initial
  kernel item keeps it (`las_init`);
* `kernels_shape`: the list `K1` starts with the kernel of state 0 and goes on with kernels of later states (a set-equal
  copy of a kernel already listed is dropped); `kernel_src`, `kernels_all`: up to set equality the states of the LALR(1)
  state map are the kernels of the LR(0) states;
* `lalrKernels_spec`: so `K1` has the shape of a collection (`Cinv`), as the kernel collections of the automata have.
-/
namespace AlgoVerif.C11.Lalr
open AlgoVerif AlgoVerif.Gram AlgoVerif.C11 AlgoVerif.C11.Spec AlgoVerif.C11.Built AlgoVerif.C11.BuiltComplete

/-- the LALR(1) kernel of LR(0) state `s`: its kernel items, each with each of its lookaheads -/
abbrev Ker (S0 : StateMap) (las : LaTable) (s : Nat) (x : Item) : Prop := ∃ k a, LA S0 las s k a ∧ x = withLa k a

theorem mem_foldl_decorate (item : Item) (ls : List String) (J : List Item) (it : Item) :
    it ∈ ls.foldl (fun J a => addNew J { item with la := some a }) J ↔
      it ∈ J ∨ ∃ a ∈ ls, it = { item with la := some a } := by
  rw [← List.foldl_map (f := fun a => ({ item with la := some a } : Item)) (g := addNew), mem_foldl_addNew]
  simp [eq_comm]

theorem mem_lalrKernelOf {S0 : StateMap} {las : LaTable} {Is : List Item} {s : Nat} {J : List Item}
    (hIs : S0[s]? = some Is) (hk : lalrKernelOf las (Is, s) = Outcome.ok J) (x : Item) :
    x ∈ J ↔ Ker S0 las s x := by
  unfold lalrKernelOf at hk
  rw [foldlM_mem_iff (Q := fun ii x => ∃ a, Has las ((s : Int), (ii.2 : Int)) a ∧ x = withLa ii.1 a) _ _ _ ?_ hk x]
  · simp only [List.not_mem_nil, false_or, Prod.exists, List.mem_zipIdx_iff_getElem?]
    constructor
    · rintro ⟨k, i, hki, a, ha, rfl⟩
      exact ⟨k, a, ⟨Is, i, hIs, hki, ha⟩, rfl⟩
    · rintro ⟨k, a, ⟨Is', i, hIs', hki, ha⟩, rfl⟩
      cases hIs.symm.trans hIs'
      exact ⟨k, i, hki, a, ha, rfl⟩
  · intro b ii b' _ hstep x
    split at hstep
    · next ls hls =>
      rw [← pure_eq_ok hstep, mem_foldl_decorate]
      simp [Has, hls, withLa]
    · simp at hstep

theorem dist_symm {I J : List Item} (h : Dist I J) : Dist J I := fun h' => h (fun x => (h' x).symm)

theorem canonical_dist {A : Auto} {C : List (List Item)} (hc : A.canonical = Outcome.ok C) : C.Pairwise Dist := by
  obtain ⟨I0, _, hg⟩ := canonical_grows hc
  exact grows_dist hg (List.pairwise_singleton _ _)

theorem stateMap_dist {start : String} {C : List (List Item)} (h : C.Pairwise Dist) :
    (buildStateMap start C).Pairwise Dist := by
  unfold buildStateMap
  have hmap : (C.map (sortBy (cmpItem start))).Pairwise Dist := by
    rw [List.pairwise_map]
    refine List.Pairwise.imp ?_ h
    intro I J hd hs
    apply hd
    intro x
    have := hs x
    rwa [mem_sortBy, mem_sortBy] at this
  exact hmap.perm (sortBy_perm _ _).symm (fun h => dist_symm h)

theorem index_unique {α} {R : α → α → Prop} {l : List α} (hl : l.Pairwise R) {i j : Nat} {a b : α}
    (hi : l[i]? = some a) (hj : l[j]? = some b) (hab : ¬ R a b) (hba : ¬ R b a) : i = j := by
  obtain ⟨hlt, hget⟩ := List.getElem?_eq_some_iff.mp hi
  obtain ⟨hlt', hget'⟩ := List.getElem?_eq_some_iff.mp hj
  have hpw := List.pairwise_iff_getElem.mp hl
  rcases Nat.lt_trichotomy i j with h | h | h
  · have := hpw i j hlt hlt' h
    rw [hget, hget'] at this
    exact absurd this hab
  · exact h
  · have := hpw j i hlt' hlt h
    rw [hget, hget'] at this
    exact absurd this hba

theorem state_index_unique {S : StateMap} (hS : S.Pairwise Dist) {s s' : Nat} {I I' : List Item}
    (hI : S[s]? = some I) (hI' : S[s']? = some I') (hs : ∀ x, x ∈ I ↔ x ∈ I') : s = s' :=
  index_unique hS hI hI' (fun h => h hs) (fun h => h fun x => (hs x).symm)

theorem advance_nodup (I : List Item) (X : Sy) : (advance I X).Nodup := by
  rw [advance_eq]
  exact nodup_unionNew _ List.nodup_nil

section
variable {g' : SGrammar} {fuel : Nat} {K0 : List (List Item)}
  (hK0 : (A0 g' fuel).canonical = Outcome.ok K0)
include hK0

theorem k0_all {P : List Item → Prop} (h0 : P [(A0 g' fuel).initialItem])
    (hgo : ∀ I c X, P I → (A0 g' fuel).closure I = Outcome.ok c → P (advance c X)) : ∀ I ∈ K0, P I := by
  refine grows_all P ?_ (kcanonical_grows (A := A0 g' fuel) rfl hK0) (List.forall_mem_singleton.mpr h0)
  intro I J X hI hg
  obtain ⟨c, hc, rfl⟩ := kgoto_ok (A := A0 g' fuel) rfl hg
  exact hgo I c X hI hc

theorem k0_items {Q : Item → Prop} (h0 : Q (A0 g' fuel).initialItem)
    (hgo : ∀ I c, (∀ it ∈ I, Q it) → (A0 g' fuel).closure I = Outcome.ok c → ∀ it ∈ c, Q it.next) :
    ∀ I ∈ buildStateMap g'.start K0, ∀ it ∈ I, Q it := by
  have hall := k0_all hK0 (P := fun I => ∀ it ∈ I, Q it) (List.forall_mem_singleton.mpr h0) fun I c X hI hc it hit => by
    obtain ⟨i0, hi0, _, rfl⟩ := mem_advance.mp hit
    exact hgo I c hI hc i0 hi0
  intro I hI it hit
  obtain ⟨I', hI', rfl⟩ := mem_buildStateMap.mp hI
  exact hall I' hI' it ((mem_sortBy _ _ _).mp hit)

theorem k0_la_none : ∀ I ∈ buildStateMap g'.start K0, ∀ it ∈ I, it.la = none :=
  k0_items hK0 (by simp [Auto.initialItem, mkAuto]) fun _ _ hI hc => closure_all (itemProp_none _ _ _) _ _ _ hc hI

theorem kernel0_nodup : ∀ I ∈ K0, I.Nodup :=
  k0_all hK0 (P := List.Nodup) (by simp) (fun _ c X _ _ => advance_nodup c X)

end

section
variable {g g' : SGrammar} (h : AugOK g g') {fuel : Nat}
include h

theorem k0_shape {K0 : List (List Item)} (hK0 : (A0 g' fuel).canonical = Outcome.ok K0) :
    StatesOK g' (buildStateMap g'.start K0) ∧
      ∃ tail0, buildStateMap g'.start K0 = [(A0 g' fuel).initialItem] :: tail0 := by
  have hA0g : (A0 g' fuel).g = g' := rfl
  obtain ⟨I0', rest0', rfl, h0, hr0⟩ := kcanonical_spec h hA0g rfl hK0
  have hI0 : I0' = [(A0 g' fuel).initialItem] := by
    obtain ⟨r, hr⟩ := grows_sub (kcanonical_grows (A := A0 g' fuel) rfl hK0)
    exact (List.cons.inj hr).1
  subst hI0
  obtain ⟨hS0ok, tail0, hS0eq, _⟩ :=
    stateMap_spec' (isInitial_initialItem h hA0g) h0 hr0
  refine ⟨hS0ok, tail0, ?_⟩
  rw [hS0eq]
  simp [sortBy, insertBy]

theorem k0_ok {K0 : List (List Item)} (hK0 : (A0 g' fuel).canonical = Outcome.ok K0) :
    StatesOK g' (buildStateMap g'.start K0) :=
  (k0_shape h hK0).1

/-- this is why the Model may key the `$` of the initial item by `(0, 0)` where `ComputeLALR1Kernels` looks the item up -/
theorem k0_zero {K0 : List (List Item)} (hK0 : (A0 g' fuel).canonical = Outcome.ok K0) :
    (buildStateMap g'.start K0)[0]? = some [(A0 g' fuel).initialItem] := by
  obtain ⟨tail0, heq⟩ := (k0_shape h hK0).2
  rw [heq]
  rfl

/-- CLOSURE(`[k, $]`) adds only items of `G`, so an item of `S′` never receives a lookahead other than `$` -/
theorem la_start (R : LaRun g' fuel) {s : Nat} {k : Item} {a : String} (hLA : LA R.S0 R.las s k a)
    (hh : k.prod.head = g'.start) : a = endmarker := by
  refine las_sound R.hlp R.hlas (P := fun it a => it.prod.head = g'.start → a = endmarker) (fun _ _ _ _ _ => rfl) ?_
    hLA hh
  intro s Is hIs k hk J hJ j hj
  obtain ⟨h1, _, _⟩ := auto_closure_spec h (A := A1 g' fuel) rfl hJ
    (List.forall_mem_singleton.mpr ⟨(statesOK_good (k0_ok h R.hK0) s Is hIs k hk).1, fun _ => by simp [laIsEnd]⟩)
  rcases h1 j hj with h2 | h2
  · rw [List.mem_singleton] at h2
    subst h2
    exact ⟨fun _ a hP => hP, fun a hla hae => absurd (Option.some.inj hla).symm hae⟩
  · exact ⟨fun _ a _ hh => absurd hh h2.2.2, fun a _ _ hh => absurd hh h2.2.2⟩

theorem ker_zero (R : LaRun g' fuel) (x : Item) :
    Ker R.S0 R.las 0 x ↔ x = (A1 g' fuel).initialItem := by
  have h0 : R.S0[0]? = some [(A0 g' fuel).initialItem] := k0_zero h R.hK0
  have hii : (A1 g' fuel).initialItem = withLa (A0 g' fuel).initialItem endmarker := by
    rw [initialItem_eq h (A := A1 g' fuel) rfl, initialItem_eq h (A := A0 g' fuel) rfl]
    rfl
  constructor
  · rintro ⟨k, a, hLA, rfl⟩
    cases List.mem_singleton.mp (la_mem h0 hLA)
    rw [la_start h R hLA (by rw [initialItem_eq h (A := A0 g' fuel) rfl]; rfl), hii]
  · rintro rfl
    exact ⟨_, _, ⟨_, 0, h0, rfl, las_init R.hlp R.hlas⟩, hii⟩

theorem ker_other (R : LaRun g' fuel) {s : Nat} (hs : 0 < s) {x : Item} (hx : Ker R.S0 R.las s x) :
    Good g' x ∧ ¬ (x.prod.head = g'.start ∧ x.dot = 0) := by
  obtain ⟨k, a, hLA, rfl⟩ := hx
  obtain ⟨Is, _, hIs, _⟩ := id hLA
  have hoth := (k0_ok h R.hK0).others s Is hs hIs k (la_mem hIs hLA)
  refine ⟨⟨hoth.1.1, fun hh => ?_⟩, hoth.2⟩
  show laIsEnd (some a) = true
  rw [la_start h R hLA hh]; simp [laIsEnd]

variable {K1 : List (List Item)} (R : LalrRun g' fuel K1)

theorem kernels_shape : ∃ J0 rest, K1 = J0 :: rest ∧ (∀ x, x ∈ J0 ↔ Ker R.S0 R.las 0 x) ∧
    ∀ K ∈ rest, ∃ s Is, 0 < s ∧ R.S0[s]? = some Is ∧ ∀ x, x ∈ K ↔ Ker R.S0 R.las s x := by
  obtain ⟨_, tail0, hS0⟩ := k0_shape h R.hK0
  have hget : ∀ Is ∈ R.S0.zipIdx, R.S0[Is.2]? = some Is.1 := fun Is hIs => List.mem_zipIdx_iff_getElem?.mp hIs
  have hK1 := R.hK1
  change (R.S0.zipIdx).foldlM _ [] = _ at hK1
  -- the first step of the fold puts the kernel of state 0 in front …
  rw [show R.S0 = _ from hS0, List.zipIdx_cons, List.foldlM_cons] at hK1
  obtain ⟨K1a, hK1a, hk4⟩ := bind_eq_ok hK1
  obtain ⟨J0, hJ0, hK1a'⟩ := bind_eq_ok hK1a
  obtain rfl : [J0] = K1a := by simpa [containsSet] using pure_eq_ok hK1a'
  refine ⟨J0, ?_⟩
  -- … and the later steps append kernels of the states they come to
  refine Outcome.All.foldlM (P := fun K => ∃ rest, K = J0 :: rest ∧ (∀ x, x ∈ J0 ↔ Ker R.S0 R.las 0 x) ∧
      ∀ K ∈ rest, ∃ s Is, 0 < s ∧ R.S0[s]? = some Is ∧ ∀ x, x ∈ K ↔ Ker R.S0 R.las s x)
    _ [J0] ⟨[], rfl, mem_lalrKernelOf (s := 0) (k0_zero h R.hK0) hJ0, by simp⟩ ?_ K1 hk4
  rintro b Is hIs ⟨rest, rfl, h0, hrest⟩ b' hstep
  obtain ⟨J, hJ, hstep'⟩ := bind_eq_ok hstep
  have hb' := pure_eq_ok hstep'
  split at hb'
  · exact ⟨rest, hb'.symm, h0, hrest⟩
  · refine ⟨rest ++ [J], by rw [← hb']; simp, h0, List.forall_mem_append.mpr ⟨hrest, List.forall_mem_singleton.mpr ?_⟩⟩
    have hIs' := hget Is (by rw [show R.S0 = _ from hS0, List.zipIdx_cons]; exact List.mem_cons_of_mem _ hIs)
    exact ⟨Is.2, Is.1, (List.mem_zipIdx_iff_le_and_getElem?_sub.mp hIs).1, hIs', mem_lalrKernelOf hIs' hJ⟩

theorem kernel_src {I : List Item} (hI : I ∈ buildStateMap g'.start K1) :
    ∃ (s : Nat) (Is : List Item), R.S0[s]? = some Is ∧ ∀ x, x ∈ I ↔ Ker R.S0 R.las s x := by
  obtain ⟨K, hK, rfl⟩ := mem_buildStateMap.mp hI
  obtain ⟨J0, rest, rfl, hJ0, hrest⟩ := kernels_shape h R
  rcases List.mem_cons.mp hK with rfl | hK
  · exact ⟨0, _, k0_zero h R.hK0, fun x => (mem_sortBy _ _ x).trans (hJ0 x)⟩
  · obtain ⟨s, Is, _, hIs, hKs⟩ := hrest K hK
    exact ⟨s, Is, hIs, fun x => (mem_sortBy _ _ x).trans (hKs x)⟩

omit h in
theorem kernels_all : ∀ (s : Nat) (Is : List Item), R.S0[s]? = some Is →
    ∃ I ∈ buildStateMap g'.start K1, ∀ x, x ∈ I ↔ Ker R.S0 R.las s x := by
  have := foldlM_done _ (fun (K K' : List (List Item)) => ∀ x ∈ K, x ∈ K') (fun _ _ h => h)
    (fun _ _ _ h1 h2 x hx => h2 x (h1 x hx))
    (fun (Is : List Item × Nat) (K : List (List Item)) =>
      ∃ J, lalrKernelOf R.las Is = Outcome.ok J ∧ ∃ K' ∈ K, ∀ x, x ∈ K' ↔ x ∈ J)
    (fun Is b b' hle ⟨J, hJ, K', hK', hs⟩ => ⟨J, hJ, K', hle _ hK', hs⟩) _ [] K1 ?_ R.hK1
  · intro s Is hIs
    obtain ⟨J, hJ, K, hK, hKJ⟩ := this.2 (Is, s) (List.mem_zipIdx_iff_getElem?.mpr hIs)
    exact ⟨_, mem_buildStateMap.mpr ⟨K, hK, rfl⟩,
      fun x => (mem_sortBy _ _ x).trans ((hKJ x).trans (mem_lalrKernelOf hIs hJ x))⟩
  · intro b Is b' _ hstep
    obtain ⟨J, hJ, hrest⟩ := bind_eq_ok hstep
    have hb' := pure_eq_ok hrest
    split at hb'
    · rename_i hc
      subst hb'
      exact ⟨fun _ h => h, J, hJ, containsSet_iff.mp hc⟩
    · subst hb'
      exact ⟨fun x hx => List.mem_append_left _ hx, J, hJ, J, by simp, fun _ => Iff.rfl⟩

omit R in
theorem lalrKernels_spec (hk : lalrKernels g' fuel = Outcome.ok K1) :
    Cinv g' (A1 g' fuel).initialItem K1 := by
  obtain ⟨R⟩ := lalrRun_of_ok hk
  obtain ⟨J0, rest, rfl, hJ0, hrest⟩ := kernels_shape h R
  refine ⟨J0, rest, rfl, ⟨(hJ0 _).mpr ((ker_zero h R.toLaRun _).mpr rfl), fun it hit => ?_⟩, fun K hK it hit => ?_⟩
  · cases (ker_zero h R.toLaRun it).mp ((hJ0 it).mp hit)
    exact ⟨initialItem_good h rfl, by rw [initialItem_eq h (A := A1 g' fuel) rfl], fun hne => absurd rfl hne⟩
  · obtain ⟨s, _, hs, _, hK'⟩ := hrest K hK
    exact ker_other h R.toLaRun hs ((hK' it).mp hit)

end

end AlgoVerif.C11.Lalr
