import AlgoVerif.Proofs.C06Fold
import AlgoVerif.Model.C06X
/-!
# C06 — the rest of `trie.Trie`: what does not depend on the kind of trie

`SelectMatch` / `PartitionMatch` are folds of `Put` over whatever list a traversal shows, proved for any `put` that
keeps an invariant.
-/
namespace AlgoVerif.C06
variable {V σ : Type}

/-- `Equal` of either trie: one inclusion and, if it holds, the other -/
theorem equal_of_subsets {x y : Bool} {A B : Outcome Bool} (hA : A = .ok x) (hB : B = .ok y) :
    (do if !(← A) then pure false else B) = .ok (x && y) := by
  subst hA hB
  cases x <;> rfl

namespace Spec

def insAll (acc : Map V) : List (Key × V) → Map V
  | [] => acc
  | e :: xs => insAll (Map.put acc e.1 e.2) xs

theorem insAll_spec (xs : List (Key × V)) (acc : Map V) (hs : Sorted acc)
    (hd : (acc ++ xs).Pairwise fun a b => a.1 ≠ b.1) :
    Sorted (insAll acc xs) ∧ ∀ e, e ∈ insAll acc xs ↔ e ∈ acc ∨ e ∈ xs := by
  induction xs generalizing acc with
  | nil => exact ⟨hs, fun e => by simp [insAll]⟩
  | cons x xs ih =>
    obtain ⟨k, v⟩ := x
    have hp := List.pairwise_append.mp hd
    have hacc : ∀ e ∈ acc, e.1 ≠ k := fun e he => hp.2.2 e he (k, v) (List.mem_cons_self ..)
    have hmem := Map.put_mem_of_absent hs v hacc
    have hs' := Map.put_sorted hs k v
    have hd' : (Map.put acc k v ++ xs).Pairwise fun a b => a.1 ≠ b.1 := by
      refine List.pairwise_append.mpr ⟨hs'.imp (fun h => klt_ne h), (List.pairwise_cons.mp hp.2.1).2, ?_⟩
      intro a ha b hb
      rcases (hmem a).mp ha with rfl | ha
      · exact (List.pairwise_cons.mp hp.2.1).1 b hb
      · exact hp.2.2 a ha b (List.mem_cons_of_mem _ hb)
    obtain ⟨h1, h2⟩ := ih (Map.put acc k v) hs' hd'
    refine ⟨h1, fun e => ?_⟩
    simp only [insAll]
    rw [h2 e, hmem e, List.mem_cons, or_comm (a := e = (k, v)), or_assoc]

theorem insAll_filter_perm {m L : Map V} (hs : Sorted m) (hL : L.Perm m) (q : Key × V → Bool) :
    insAll [] (L.filter q) = m.filter q := by
  have hd : (L.filter q).Pairwise fun a b => a.1 ≠ b.1 := by
    have h1 : (m.filter q).Pairwise fun a b => a.1 ≠ b.1 := (hs.filter q).imp (fun h => klt_ne h)
    exact ((hL.filter q).pairwise_iff (fun h => Ne.symm h)).mpr h1
  obtain ⟨h1, h2⟩ := insAll_spec (L.filter q) [] Sorted.nil (by simpa using hd)
  apply Sorted.ext h1 (hs.filter q)
  intro e
  rw [h2 e, (hL.filter q).mem_iff]
  simp

end Spec

section PutFold
variable {T : Type} (put : T → Key → V → Outcome T)

/-- the visitor of `SelectMatch` -/
def selVisit (p : Key → V → Bool) (s : Outcome T) (k : Key) (v : V) : Outcome T × Bool :=
  if p k v then
    match s with
    | .ok n => (match put n k v with
      | .ok n' => (.ok n', true)
      | .panic => (.panic, false)
      | .diverge => (.diverge, false))
    | e => (e, false)
  else (s, true)

/-- the visitor of `PartitionMatch` -/
def partVisit (p : Key → V → Bool) (s : Outcome (T × T)) (k : Key) (v : V) : Outcome (T × T) × Bool :=
  match s with
  | .ok (m, u) =>
    (match (if p k v then (put m k v).map (fun m' => (m', u)) else (put u k v).map (fun u' => (m, u'))) with
    | .ok x => (.ok x, true)
    | .panic => (.panic, false)
    | .diverge => (.diverge, false))
  | e => (e, false)

variable {put} {Inv : T → Spec.Map V → Prop} {ok : Key → Prop}
  (hput : ∀ {n : T} {acc : Spec.Map V} (k : Key) (v : V), Inv n acc → ok k →
    ∃ n', put n k v = .ok n' ∧ Inv n' (Spec.Map.put acc k v))
include hput

theorem foldE_selVisit (p : Key → V → Bool) (xs : List (Key × V)) (acc : Spec.Map V) (n : T) (hn : Inv n acc)
    (hok : ∀ e ∈ xs, ok e.1) :
    ∃ n', foldE (selVisit put p) xs (.ok n) = (.ok n', true) ∧
      Inv n' (Spec.insAll acc (xs.filter fun e => p e.1 e.2)) := by
  induction xs generalizing acc n with
  | nil => exact ⟨n, rfl, hn⟩
  | cons x xs ih =>
    obtain ⟨k, v⟩ := x
    simp only [foldE, List.filter_cons, selVisit]
    by_cases hp : p k v = true
    · obtain ⟨n1, hput1, hinv⟩ := hput k v hn (hok (k, v) (List.mem_cons_self ..))
      obtain ⟨n', h1, h2⟩ := ih (Spec.Map.put acc k v) n1 hinv (fun e he => hok e (List.mem_cons_of_mem _ he))
      refine ⟨n', ?_, by simpa [hp, Spec.insAll] using h2⟩
      simp only [hp, if_true, hput1, Bool.not_true, Bool.false_eq_true, if_false]
      exact h1
    · have hp' : p k v = false := by simpa using hp
      obtain ⟨n', h1, h2⟩ := ih acc n hn (fun e he => hok e (List.mem_cons_of_mem _ he))
      refine ⟨n', ?_, by simpa [hp'] using h2⟩
      simp only [hp', Bool.false_eq_true, if_false, Bool.not_true]
      exact h1

theorem foldE_partVisit (p : Key → V → Bool) (xs : List (Key × V)) (am au : Spec.Map V) (nm nu : T)
    (hm : Inv nm am) (hu : Inv nu au) (hok : ∀ e ∈ xs, ok e.1) :
    ∃ nm' nu', foldE (partVisit put p) xs (.ok (nm, nu)) = (.ok (nm', nu'), true) ∧
      Inv nm' (Spec.insAll am (xs.filter fun e => p e.1 e.2)) ∧ Inv nu' (Spec.insAll au (xs.filter fun e => !p e.1 e.2)) := by
  induction xs generalizing am au nm nu with
  | nil => exact ⟨nm, nu, rfl, hm, hu⟩
  | cons x xs ih =>
    obtain ⟨k, v⟩ := x
    simp only [foldE, List.filter_cons, partVisit]
    by_cases hp : p k v = true
    · obtain ⟨n1, hput1, hinv⟩ := hput k v hm (hok (k, v) (List.mem_cons_self ..))
      obtain ⟨nm', nu', h1, h2, h3⟩ := ih (Spec.Map.put am k v) au n1 nu hinv hu (fun e he => hok e (List.mem_cons_of_mem _ he))
      refine ⟨nm', nu', ?_, by simpa [hp, Spec.insAll] using h2, by simpa [hp] using h3⟩
      simp only [hp, if_true, hput1, Outcome.map, Bool.not_true, Bool.false_eq_true, if_false]
      exact h1
    · have hp' : p k v = false := by simpa using hp
      obtain ⟨n1, hput1, hinv⟩ := hput k v hu (hok (k, v) (List.mem_cons_self ..))
      obtain ⟨nm', nu', h1, h2, h3⟩ := ih am (Spec.Map.put au k v) nm n1 hm hinv (fun e he => hok e (List.mem_cons_of_mem _ he))
      refine ⟨nm', nu', ?_, by simpa [hp'] using h2, by simpa [hp', Spec.insAll] using h3⟩
      simp only [hp', Bool.false_eq_true, if_false, hput1, Outcome.map, Bool.not_true]
      exact h1

end PutFold

namespace Spec

theorem Map.equal_iff (eqv : V → V → Bool) (heq : ∀ a b, eqv a b = true ↔ a = b) {m m2 : Map V}
    (hs : Sorted m) (hs2 : Sorted m2) : Map.equal eqv m m2 = true ↔ m = m2 := by
  constructor
  · intro h
    simp only [Map.equal, Bool.and_eq_true, List.all_eq_true] at h
    apply Sorted.ext hs hs2
    intro e
    constructor
    · intro he
      have := h.1 e he
      cases hg : Map.get m2 e.1 with
      | none => simp [hg] at this
      | some v2 =>
        simp only [hg] at this
        have hv : e.2 = v2 := (heq _ _).mp this
        have := (Map.get_eq_some hs2 e.1 v2).mp hg
        rw [← hv] at this
        exact this
    · intro he
      have := h.2 e he
      cases hg : Map.get m e.1 with
      | none => simp [hg] at this
      | some v =>
        simp only [hg] at this
        have hv : e.2 = v := (heq _ _).mp this
        have := (Map.get_eq_some hs e.1 v).mp hg
        rw [← hv] at this
        exact this
  · rintro rfl
    simp only [Map.equal, Bool.and_self, List.all_eq_true]
    intro e he
    have : Map.get m e.1 = some e.2 := (Map.get_eq_some hs e.1 e.2).mpr he
    simp only [this]
    exact (heq _ _).mpr rfl

end Spec

theorem Spec.find?_admitted {L m : Spec.Map V} (hL : L.Perm m) (p : Key → V → Bool) :
    match L.find? fun e => p e.1 e.2 with
    | some e => e ∈ m ∧ p e.1 e.2 = true
    | none => m.anyMatch p = false := by
  cases hf : L.find? fun e => p e.1 e.2 with
  | none =>
    simp only [Spec.Map.anyMatch, ← hL.any_eq]
    rw [List.find?_eq_none] at hf
    simpa using hf
  | some e =>
    have := List.find?_some hf
    exact ⟨hL.mem_iff.mp (List.mem_of_find?_eq_some hf), this⟩

theorem foldE_record (stop : Int) (L : List (Key × V)) (acc : List (Key × V))
    (hacc : stop ≤ 0 ∨ (acc.length : Int) < stop) :
    (foldE (recordVisit stop) L acc).1 = acc ++ (if stop ≥ 1 then L.take (stop.toNat - acc.length) else L) := by
  induction L generalizing acc with
  | nil => simp [foldE]
  | cons e L ih =>
    simp only [foldE, recordVisit, List.length_append, List.length_cons, List.length_nil]
    by_cases hstop : ((acc.length + 0 + 1 : Nat) : Int) = stop
    · have h1 : stop ≥ 1 := by omega
      have h2 : stop.toNat - acc.length = 1 := by omega
      simp [hstop, h1, h2]
    · have hne : (((acc.length + 0 + 1 : Nat) : Int) == stop) = false := by simpa using hstop
      simp only [hne, Bool.not_false, Bool.not_true, Bool.false_eq_true, if_false]
      rw [ih (acc ++ [e]) (by simp; omega)]
      by_cases h1 : stop ≥ 1
      · have h2 : stop.toNat - acc.length = (stop.toNat - (acc.length + 1)) + 1 := by omega
        simp [h1, h2, List.take_succ_cons]
      · simp [h1]

theorem foldE_record_nil (stop : Int) (L : List (Key × V)) : (foldE (recordVisit stop) L []).1 = Spec.cut stop L := by
  rw [foldE_record stop L [] (by simp; omega)]
  simp [Spec.cut]

end AlgoVerif.C06
