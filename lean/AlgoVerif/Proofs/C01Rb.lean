import AlgoVerif.Proofs.C01RbColor
/-!
# C01 / C15: the LLRB mutators refine the abstract map and keep the colour invariants
-/
namespace AlgoVerif.C01
open Tree

variable {K V : Type} {cmp : K → K → Int}

theorem rbPut_ok (h : LawfulCmp cmp) (key : K) (val : V) : ∀ {t : Tree K V}, Spec.Sorted cmp t.toList →
    ∃ t', rbPut cmp t key val = .ok t' ∧ t'.toList = Spec.upsert cmp key val t.toList ∧
      (SizeOK t → SizeOK t') ∧ t'.isNil = false ∧
      (RB t → ARB t' ∧ bh t' = bh t ∧ (t.isRed = false → RB t'))
  | .nil, _ => ⟨_, rfl, rfl, fun _ => ⟨rfl, trivial, trivial⟩, rfl, fun _ => by simp⟩
  | .node l k v s hh c r, hs => by
    obtain ⟨hsl, hsr, hl, hr, -⟩ := sorted_node.1 hs
    simp only [rbPut, toList_node]
    split
    · rename_i hlt
      obtain ⟨l', e1, e2, e3, e4, e5⟩ := rbPut_ok h key val hsl
      refine ⟨fixP true (.node l' k v s hh c r), ?_, ?_, ?_, ?_, ?_⟩
      · simp only [e1, Outcome.ok_bind]; exact rbFixUp_eq true rfl
      · rw [toList_fixP, toList_node, e2, upsert_node_lt hlt]
      · exact fun hz => sizeOK_fixP true ⟨e3 hz.2.1, hz.2.2⟩
      · rw [isNil_fixP]; rfl
      · intro ⟨hrr, hcl, hb, hL, hR⟩
        obtain ⟨a1, a2, a3⟩ := e5 hL
        have := fixP_spec true l' k v s hh c r a1 hR (a2.trans hb) (fun hc => a3 (hcl hc))
          (fun _ _ => hrr) (fun hr => by simp [hrr] at hr)
        exact ⟨this.1, by rw [this.2.1, a2]; rfl, fun (hc : c = false) => this.2.2.1 (by simp [hc])⟩
    · rename_i hnlt
      split
      · rename_i hgt
        obtain ⟨r', e1, e2, e3, e4, e5⟩ := rbPut_ok h key val hsr
        refine ⟨fixP true (.node l k v s hh c r'), ?_, ?_, ?_, ?_, ?_⟩
        · simp only [e1, Outcome.ok_bind]; exact rbFixUp_eq true rfl
        · rw [toList_fixP, toList_node, e2, upsert_node_gt h hl hgt]
        · exact fun hz => sizeOK_fixP true ⟨hz.2.1, e3 hz.2.2⟩
        · rw [isNil_fixP]; rfl
        · intro ⟨hrr, hcl, hb, hL, hR⟩
          obtain ⟨a1, a2, a3⟩ := e5 hR
          have := fixP_spec true l k v s hh c r' hL.arb (a3 hrr) (hb.trans a2.symm)
            (fun _ => hL) (fun hc hl => absurd (hcl hc) (by simp [hl])) (fun _ => hL)
          exact ⟨this.1, this.2.1, fun (hc : c = false) => this.2.2.1 (by simp [hc])⟩
      · rename_i hngt
        refine ⟨fixP true (.node l k val s hh c r), ?_, ?_, ?_, ?_, ?_⟩
        · exact rbFixUp_eq true rfl
        · rw [toList_fixP, toList_node, upsert_node_eq h hl hnlt hngt]
        · exact fun hz => sizeOK_fixP true ⟨hz.2.1, hz.2.2⟩
        · rw [isNil_fixP]; rfl
        · intro ⟨hrr, hcl, hb, hL, hR⟩
          have := fixP_spec true l k val s hh c r hL.arb hR hb (fun _ => hL) (fun _ _ => hrr) (fun _ => hL)
          exact ⟨this.1, this.2.1, fun (hc : c = false) => this.2.2.1 (by simp [hc])⟩

theorem blacken_ok {t : Tree K V} (hn : t.isNil = false) :
    ∃ t', blacken t = .ok t' ∧ t'.toList = t.toList ∧ (SizeOK t → SizeOK t') ∧ (ARB t → LLRB t') := by
  rcases t with _ | ⟨l, k, v, s, hh, c, r⟩
  · simp at hn
  · refine ⟨_, rfl, rfl, fun hz => hz, ?_⟩
    intro ha
    simp only [ARB_node] at ha
    exact ⟨by simp [ha.1, ha.2.1, ha.2.2.1, ha.2.2.2], rfl⟩

theorem rbPutRoot_ok (h : LawfulCmp cmp) (key : K) (val : V) {t : Tree K V} (hs : Spec.Sorted cmp t.toList) :
    ∃ t', rbPutRoot cmp t key val = .ok t' ∧ t'.toList = Spec.upsert cmp key val t.toList ∧
      (SizeOK t → SizeOK t') ∧ (LLRB t → LLRB t') := by
  obtain ⟨t1, e1, e2, e3, e4, e5⟩ := rbPut_ok h key val hs
  obtain ⟨t2, f1, f2, f3, f4⟩ := blacken_ok e4
  refine ⟨t2, by simp [rbPutRoot, e1, f1], by rw [f2, e2], fun hz => f3 (e3 hz), ?_⟩
  intro hl
  exact f4 (e5 hl.1).1

theorem needMoveLeft_eq (l : Tree K V) (k : K) (v : V) (s h : Nat) (c : Bool) (r : Tree K V)
    (hl : l.isNil = false) :
    needMoveLeft (.node l k v s h c r) = .ok (!l.isRed && !l.lt.isRed) := by
  rcases l with _ | ⟨ll, lk, lv, ls, lh, lc, lr⟩
  · simp at hl
  · cases lc <;> simp [needMoveLeft, leftOf]

theorem needMoveRight_eq (l : Tree K V) (k : K) (v : V) (s h : Nat) (c : Bool) (r : Tree K V)
    (hr : r.isNil = false) :
    needMoveRight (.node l k v s h c r) = .ok (!r.isRed && !r.lt.isRed) := by
  rcases r with _ | ⟨rl, rk, rv, rs, rh, rc, rr⟩
  · simp at hr
  · cases rc <;> simp [needMoveRight, rightOf, leftOf]

/-- a node at which a delete function descends.  Whatever valid subtree of the same black height comes back in
place of a child, `balance` restores `RB` (`Mid.balance_left`, `Mid.balance_right`). -/
structure Mid (n : Tree K V) : Prop where
  ne : n.isNil = false
  bal : bh n.lt = bh n.rt
  red : n.isRed = true → n.lt.isRed = false ∧ n.rt.isRed = false

theorem PreR.mid {n : Tree K V} (hp : PreR n) : Mid n := by
  rcases n with _ | ⟨l, k, v, s, hh, c, r⟩
  · cases hp
  · obtain ⟨-, -, hb, hcl, -, hrr⟩ := (PreR_node ..).mp hp
    refine ⟨rfl, hb, fun hc => ⟨hcl hc, ?_⟩⟩
    cases hrc : r.isRed
    · exact hrc
    · rw [show c = true from hc] at hrr; cases (hrr hrc).2

/-- what a delete function promises about the subtree `out` it returns in place of `n` -/
structure Post (n out : Tree K V) : Prop where
  rb : RB out
  height : bh out = bh n
  black : n.isRed = false → out.isRed = false

/-- what the common tail of a delete function (`set…`, `balance`) returns in place of the node `n` it descended at,
`sib` being the child it left alone: as `Post`, but black only if `sib` is black too -/
structure Tail (n sib out : Tree K V) : Prop where
  rb : RB out
  height : bh out = bh n
  black : n.isRed = false → sib.isRed = false → out.isRed = false

theorem Tail.post {n0 n sib out : Tree K V} (h : Tail n sib out) (hb : bh n = bh n0)
    (blk : n0.isRed = false → n.isRed = false ∧ sib.isRed = false) : Post n0 out :=
  ⟨h.rb, h.height.trans hb, fun hc => h.black (blk hc).1 (blk hc).2⟩

/-- the common tail of the three delete functions when the recursion went left.  Stated for every continuation
`f`, as are `moveLeft_ok`, `moveRight_ok`, `rotRight_ok` below and `del_*` of `Proofs/C01RbDelete.lean`: in this form the
step rewrites inside the `do` block of its caller as it stands, without reassociating binds. -/
theorem Mid.balance_left {n l' : Tree K V} (hm : Mid n) (hR : RB n.rt) (hp : Post n.lt l') :
    ∃ out, (∀ {β : Type} (f : Tree K V → Outcome β), (setLeft n l' >>= fun x => rbBalance x >>= f) = f out) ∧
      out.toList = (setLeftP n l').toList ∧ (SizeOK l' → SizeOK n.rt → SizeOK out) ∧ Tail n n.rt out := by
  rcases n with _ | ⟨l, k, v, s, hh, c, r⟩
  · cases hm.ne
  · have := fixP_spec false l' k v s hh c r hp.rb.arb hR (hp.height.trans hm.bal)
      (fun _ => hp.rb) (fun hc _ => (hm.red hc).2) (fun _ => hp.rb)
    refine ⟨fixP false (.node l' k v s hh c r), fun f => ?_, toList_fixP _ _, fun a b => sizeOK_fixP false ⟨a, b⟩,
      this.2.2.1 fun hc => ⟨hp.black (hm.red hc).1, (hm.red hc).2⟩, by rw [this.2.1, hp.height]; rfl,
      fun h1 h2 => ?_⟩
    · simp only [setLeft, Outcome.ok_bind, rbBalance]
      rw [rbFixUp_eq false rfl]
      rfl
    · rw [this.2.2.2, show c = false from h1, show r.isRed = false from h2]; simpa using hp.rb.not_two_red

theorem Mid.balance_right {n r' : Tree K V} (hm : Mid n) (hL : RB n.lt) (hp : Post n.rt r') :
    ∃ out, (∀ {β : Type} (f : Tree K V → Outcome β), (setRight n r' >>= fun x => rbBalance x >>= f) = f out) ∧
      out.toList = (setRightP n r').toList ∧ (SizeOK n.lt → SizeOK r' → SizeOK out) ∧ Tail n n.lt out := by
  rcases n with _ | ⟨l, k, v, s, hh, c, r⟩
  · cases hm.ne
  · have := fixP_spec false l k v s hh c r' hL.arb hp.rb (hm.bal.trans hp.height.symm)
      (fun _ => hL) (fun hc _ => hp.black (hm.red hc).2) (fun _ => hL)
    refine ⟨fixP false (.node l k v s hh c r'), fun f => ?_, toList_fixP _ _, fun a b => sizeOK_fixP false ⟨a, b⟩,
      this.2.2.1 fun hc => ⟨(hm.red hc).1, hp.black (hm.red hc).2⟩, this.2.1, fun h1 h2 => ?_⟩
    · simp only [setRight, Outcome.ok_bind, rbBalance]
      rw [rbFixUp_eq false rfl]
      rfl
    · rw [this.2.2.2, show c = false from h1, show l.isRed = false from h2]; rfl

theorem toList_setLeftP_cons {n x : Tree K V} {m : K × V} (hn : n.isNil = false)
    (h : n.lt.toList = m :: x.toList) : n.toList = m :: (setLeftP n x).toList := by
  cases n with
  | nil => simp at hn
  | node => simp only [lt_node] at h; simp [setLeftP, h]

theorem toList_setRightP_concat {n x : Tree K V} {m : K × V} (hn : n.isNil = false)
    (h : n.rt.toList = x.toList ++ [m]) : n.toList = (setRightP n x).toList ++ [m] := by
  cases n with
  | nil => simp at hn
  | node => simp only [rt_node] at h; simp [setRightP, h]

theorem RB_rt_black {t : Tree K V} (h : RB t) : t.rt.isRed = false := by
  cases t with
  | nil => rfl
  | node => exact h.1

theorem moveLeft_ok {n : Tree K V} (hp : PreR n) (hln : n.lt.isNil = false) (hr : n.rt.isRed = false) :
    ∃ n1, (∀ {β : Type} (f : Tree K V → Outcome β),
        (needMoveLeft n >>= fun mv => if mv then rbMoveRedLeft n >>= f else pure n >>= f) = f n1) ∧
      Reshape n n1 ∧ Mid n1 ∧ RB n1.lt ∧ (n1.lt.isRed = true ∨ n1.lt.lt.isRed = true) ∧ RB n1.rt ∧
      bh n1 = bh n ∧ (n.isRed = false → n1.isRed = false ∧ n1.rt.isRed = false) ∧
      ∀ x ∈ n.lt.toList, x ∈ n1.lt.toList := by
  have hm := hp.mid
  rcases n with _ | ⟨l, k, v, s, hh, c, r⟩
  · simp at hln
  obtain ⟨hL, hR, -, -, hsome, -⟩ := (PreR_node ..).mp hp
  simp only [lt_node, rt_node] at hln hr
  rw [needMoveLeft_eq l k v s hh c r hln]
  simp only [Outcome.ok_bind]
  cases hmv : (!l.isRed && !l.lt.isRed)
  · exact ⟨_, fun f => rfl, .refl _, hm, hL, or_of_not_and_not hmv, hR, rfl, fun hc => ⟨hc, hr⟩, fun _ => id⟩
  · simp only [Bool.and_eq_true, Bool.not_eq_true'] at hmv
    have hc : c = true := by simpa [hmv.1, hr] using hsome
    subst hc
    obtain ⟨g0, g1, g2, g3, g4, g5, g6, g7⟩ :=
      mrlP_spec (n := .node l k v s hh true r) hL hR hm.bal hln rfl hmv.1 hmv.2 hr
    refine ⟨mrlP (.node l k v s hh true r), fun f => ?_, reshape_mrlP _, ⟨g1, g5, g6⟩, g2, g3, g4, g7,
      fun hc => absurd hc (by simp), lt_sub_mrlP l k v s hh true r hln⟩
    rw [if_pos rfl, rbMoveRedLeft_eq (by simpa using hln) (by simpa using g0)]
    rfl

theorem moveRight_ok {n : Tree K V} (hp : PreR n) (hrn : n.rt.isNil = false) (hl : n.lt.isRed = false) :
    ∃ n2, (∀ {β : Type} (f : Tree K V → Outcome β),
        (needMoveRight n >>= fun mv => if mv then rbMoveRedRight n >>= f else pure n >>= f) = f n2) ∧
      Reshape n n2 ∧ Mid n2 ∧ RB n2.lt ∧ PreR n2.rt ∧
      bh n2 = bh n ∧ (n.isRed = false → n2.isRed = false ∧ n2.lt.isRed = false) ∧
      (∀ x ∈ n.rpart, x ∈ n2.rpart) ∧
      ((RB n2.rt ∧ (n2.rt.isRed = true ∨ n2.rt.lt.isRed = true) ∧ n2.rt.rt.isRed = false) ∨
        ∀ x ∈ n.rpart, x ∈ n2.rt.rpart) := by
  have hm := hp.mid
  rcases n with _ | ⟨l, k, v, s, hh, c, r⟩
  · simp at hrn
  obtain ⟨hL, hR, -, -, hsome, -⟩ := (PreR_node ..).mp hp
  simp only [lt_node, rt_node] at hrn hl
  rw [needMoveRight_eq l k v s hh c r hrn]
  simp only [Outcome.ok_bind]
  cases hmv : (!r.isRed && !r.lt.isRed)
  · have hred := or_of_not_and_not hmv
    exact ⟨_, fun f => rfl, .refl _, hm, hL, preR_of_RB hR hred, rfl, fun hc => ⟨hc, hl⟩, fun _ => id,
      .inl ⟨hR, hred, RB_rt_black hR⟩⟩
  · simp only [Bool.and_eq_true, Bool.not_eq_true'] at hmv
    have hc : c = true := by simpa [hmv.1, hl] using hsome
    subst hc
    obtain ⟨q0, q1, q2, q3, q4, q5, q6⟩ :=
      mrrP_spec (n := .node l k v s hh true r) hL hR hm.bal hrn rfl hl hmv.1 hmv.2
    refine ⟨mrrP (.node l k v s hh true r), fun f => ?_, reshape_mrrP _, ⟨q1, q4, q5⟩, q3, q2, q6,
      fun hc => absurd hc (by simp), rpart_sub_mrrP _,
      (mrrP_alt l k v s hh r hR q0 hrn hmv.1 hmv.2).imp_left fun ⟨a1, a2, a3⟩ => ⟨a1, .inl a2, a3⟩⟩
    rw [if_pos rfl, rbMoveRedRight_eq (by simpa using q0) (by simpa using hrn)]
    rfl

theorem rbDeleteMin_ok : ∀ (fuel : Nat) (n : Tree K V), n.toList.length ≤ fuel → RB n →
    (n.isRed = true ∨ n.lt.isRed = true) →
    ∃ out m, rbDeleteMin fuel n = .ok (out, m) ∧ n.toList = m :: out.toList ∧
      (SizeOKc n → SizeOK out) ∧ Post n out
  | 0, n, hf, _, hred => by
    cases n with
    | nil => simp at hred
    | node l k v s hh c r => simp at hf
  | fuel + 1, .nil, _, _, hred => by simp at hred
  | fuel + 1, .node l k v s hh c r, hf, hrb, hred => by
    obtain ⟨hr, -, hb, -, hR⟩ := (RB_node ..).mp hrb
    rw [rbDeleteMin]
    simp only [leftOf_node, Outcome.ok_bind]
    cases hnil : l.isNil
    · simp only [Bool.false_eq_true, if_false]
      obtain ⟨n1, hm, sh, mid, rL, rd, rR, b1, blk, -⟩ :=
        moveLeft_ok (n := .node l k v s hh c r) (preR_of_RB hrb hred) hnil hr
      rw [hm, leftOf_eq mid.ne]
      have hlen : n1.lt.toList.length ≤ fuel := by
        have := length_lt_lt mid.ne
        rw [sh.toList] at this
        omega
      obtain ⟨l', m, e1, e2, e3, e4⟩ := rbDeleteMin_ok fuel n1.lt hlen rL rd
      simp only [e1, Outcome.ok_bind]
      obtain ⟨out, f1, f2, f3, f4⟩ := mid.balance_left rR e4
      refine ⟨out, m, by rw [f1]; rfl, ?_, fun hz => f3 (e3 (sizeOKc_of_sizeOK (sh.size hz).1)) (sh.size hz).2,
        f4.post b1 blk⟩
      rw [f2, ← sh.toList]; exact toList_setLeftP_cons mid.ne e2
    · cases l with
      | node => simp at hnil
      | nil =>
        simp only [if_true, rightOf_node, kvOf_node, Outcome.ok_bind, Outcome.pure_eq]
        have hc : c = true := by simpa using hred
        subst hc
        refine ⟨r, (k, v), rfl, by simp, fun hz => hz.2, hR, ?_, by simp⟩
        simp at hb ⊢
        omega

theorem rotRight_ok {n : Tree K V} (hp : PreR n) :
    ∃ n1, (∀ {β : Type} (f : Tree K V → Outcome β),
        (leftOf n >>= fun l => if l.isRed then rbRotateRight n >>= f else pure n >>= f) = f n1) ∧
      Reshape n n1 ∧ PreR n1 ∧ n1.lt.isRed = false ∧ bh n1 = bh n ∧ (n.isRed = false → n1.isRed = false) ∧
      ∀ x ∈ n.rpart, x ∈ n1.rpart := by
  rw [leftOf_eq (preR_isNil hp)]
  simp only [Outcome.ok_bind]
  cases hlr : n.lt.isRed
  · exact ⟨n, fun f => rfl, .refl n, hp, hlr, rfl, id, fun _ => id⟩
  · obtain ⟨q1, q2, q3, -, q5, -⟩ := preR_rotRP hp hlr
    refine ⟨rotRP n, fun f => ?_, reshape_rotRP n, q1, q2, q3, fun _ => q5, rpart_sub_rotRP n⟩
    rw [if_pos rfl, rbRotateRight_eq hlr]
    rfl

theorem sizeOKc_rotRP' {n : Tree K V} (h : SizeOKc n) : SizeOKc (rotRP n) := sizeOKc_rotRP h

theorem rbDeleteMax_ok : ∀ (fuel : Nat) (n : Tree K V), n.toList.length ≤ fuel → PreR n →
    ∃ out m, rbDeleteMax fuel n = .ok (out, m) ∧ n.toList = out.toList ++ [m] ∧
      (SizeOKc n → SizeOK out) ∧ Post n out
  | 0, n, hf, hp => by
    cases n with
    | nil => simp at hp
    | node l k v s hh c r => simp at hf
  | fuel + 1, n, hf, hp => by
    obtain ⟨n1, hm, sh1, hp1, hl1, b1, blk1, -⟩ := rotRight_ok hp
    simp only [rbDeleteMax]
    rw [hm, ← sh1.toList]
    rw [← sh1.toList] at hf
    rcases n1 with _ | ⟨l, k, v, s, hh, c, r⟩
    · simp at hp1
    · obtain ⟨hL, -, -, -, hsome, -⟩ := (PreR_node ..).mp hp1
      simp only [lt_node] at hl1
      simp only [rightOf_node, Outcome.ok_bind]
      cases hnil : r.isNil
      · simp only [Bool.false_eq_true, if_false]
        obtain ⟨n2, hm, sh2, mid, rL, rP, b2, blk, -⟩ := moveRight_ok hp1 hnil hl1
        rw [hm, rightOf_eq mid.ne]
        have sh := sh1.trans sh2
        have hlen : n2.rt.toList.length ≤ fuel := by
          have := length_rt_lt mid.ne
          rw [sh2.toList] at this
          omega
        obtain ⟨r', m, e1, e2, e3, e4⟩ := rbDeleteMax_ok fuel n2.rt hlen rP
        simp only [e1, Outcome.ok_bind]
        obtain ⟨out, f1, f2, f3, f4⟩ := mid.balance_right rL e4
        refine ⟨out, m, by rw [f1]; rfl, ?_,
          fun hz => f3 (sh.size hz).1 (e3 (sizeOKc_of_sizeOK (sh.size hz).2)),
          f4.post (b2.trans b1) fun hc => blk (blk1 hc)⟩
        rw [f2, ← sh2.toList]; exact toList_setRightP_concat mid.ne e2
      · cases r with
        | node => simp at hnil
        | nil =>
          simp only [if_true, leftOf_node, kvOf_node, Outcome.ok_bind, Outcome.pure_eq]
          have hc : c = true := by simpa [hl1] using hsome
          subst hc
          exact ⟨l, (k, v), rfl, by simp, fun hz => (sh1.size hz).1, hL, by rw [← b1]; simp,
            fun hc => absurd (blk1 hc) (by simp)⟩

end AlgoVerif.C01
