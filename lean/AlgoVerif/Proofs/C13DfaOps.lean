import AlgoVerif.Proofs.C13Numbers
import AlgoVerif.Proofs.C13DfaTerm
/-! C13: `EliminateDeadStates` and `ReindexStates` always return and preserve the language; maps that commute with a
DFA (`DFA.Hom`) and the copy renamed by such a map, which is what `ReindexStates` builds. -/
namespace AlgoVerif.C13
open AlgoVerif AlgoVerif.C13.Spec

/-- `s` can reach a final state -/
inductive CoReach (d : DFA) : Int → Prop
  | final {s : Int} : s ∈ d.final → CoReach d s
  | step {s a t : Int} : d.δ s a = some t → CoReach d t → CoReach d s

/-- the keys of `visited` that are still false -/
def deadsOf (d : DFA) (vis : List Int) : List Int :=
  ((aput (-1) d.final d.revAdj).map (·.1)).filter (fun s => !vis.contains s)

theorem DFA.elimDead_total (d : DFA) : ∃ d', d.elimDead = .ok d' ∧
    ∃ vis, ((-1 : Int) ∈ vis ∧ ∀ x ∈ vis, ClosedAt (aput (-1) d.final d.revAdj) vis x) ∧
      d' = DFA.ofEntries d.start d.final ((entries d.trans).filter (fun e =>
        !(deadsOf d vis).contains e.1 && !(deadsOf d vis).contains e.2.2)) := by
  obtain ⟨vis, hdfs, hvis⟩ := d.elimDead_dfs_total
  refine ⟨_, by simp only [DFA.elimDead, hdfs]; rfl, vis, hvis, ?_⟩
  rw [DFA.ofEntries, List.foldl_filter]
  exact foldl_nested (γ := DFA) d.trans (fun dfa s a t =>
    if (!(deadsOf d vis).contains s && !(deadsOf d vis).contains t) = true
    then dfa.add s a t else dfa) ⟨d.start, d.final, []⟩

theorem DFA.elimDead_sub (d d' : DFA) (h : d.elimDead = .ok d') :
    d'.start = d.start ∧ d'.final = d.final ∧ d'.WF ∧ (d.WF → ∀ s a t, d'.δ s a = some t → d.δ s a = some t) := by
  obtain ⟨vis, -, rfl⟩ := all_of_total d.elimDead_total d' h
  refine ⟨(DFA.ofEntries_start_final _ _ _).1, (DFA.ofEntries_start_final _ _ _).2, DFA.ofEntries_WF _ _ _,
    fun hwf s a t hδ => ?_⟩
  rcases DFA.fold_sound _ _ s a t hδ with h' | h'
  · simp [DFA.δ, aget] at h'
  · exact (mem_entries_DFA hwf _ _ _).1 (List.mem_filter.1 h').1

theorem DFA.elimDead_lang (d d' : DFA) (hwf : d.WF) (hp : d.Proper) (h : d.elimDead = .ok d') (w : Word) :
    d'.lang w ↔ d.lang w := by
  obtain ⟨vis, ⟨hroot, hcl⟩, rfl⟩ := all_of_total d.elimDead_total d' h
  -- `deadsOf d vis` hides the graph: its unfolding is put on record first, so that naming the graph `adj` reaches it too
  have hdeads0 : deadsOf d vis = ((aput (-1) d.final d.revAdj).map (·.1)).filter (fun s => !vis.contains s) := rfl
  generalize hadj : aput (-1) d.final d.revAdj = adj at hcl hdeads0
  generalize deadsOf d vis = deads at hdeads0
  have hdeads := hdeads0.symm
  have hvis : ∀ s, CoReach d s → s ∈ vis := by
    intro s hs
    induction hs with
    | final hf =>
      rename_i s
      exact hcl (-1) hroot d.final (by rw [← hadj]; exact aget_aput_self _ _ _) s hf
    | step hd hco ih =>
      rename_i s a t
      obtain ⟨ts, h1, h2⟩ := (mem_revAdj d s t).2 ⟨a, DFA.δ_entry hd⟩
      have hne : t ≠ -1 := by
        intro ht; subst ht
        cases hco with
        | final hf => exact hp.1 hf
        | step hd' _ => rw [hp.2] at hd'; simp at hd'
      exact hcl t ih ts (by rw [← hadj, aget_aput_ne _ _ hne]; exact h1) s h2
  have hnd : ∀ s, CoReach d s → deads.contains s = false := by
    intro s hs
    rw [← hdeads]
    simp only [List.contains_eq_mem, List.mem_filter, decide_eq_false_iff_not]
    intro hh; have := hvis s hs; simp [this] at hh
  have hδ : ∀ s a t, (DFA.ofEntries d.start d.final
      ((entries d.trans).filter (fun e => !deads.contains e.1 && !deads.contains e.2.2))).δ s a = some t ↔
      (d.δ s a = some t ∧ deads.contains s = false ∧ deads.contains t = false) := by
    intro s a t
    rw [DFA.ofEntries_δ]
    · simp only [List.mem_filter, mem_entries_DFA hwf]; simp
    · intro y y' h1 h2
      exact entries_fun hwf (List.mem_filter.1 h1).1 (List.mem_filter.1 h2).1
  have hsf := DFA.ofEntries_start_final d.start d.final ((entries d.trans).filter (fun e => !deads.contains e.1 && !deads.contains e.2.2))
  simp only [DFA.lang, dfaLang, hsf.1, hsf.2]
  generalize hres : (DFA.ofEntries d.start d.final
      ((entries d.trans).filter (fun e => !deads.contains e.1 && !deads.contains e.2.2))) = res at hδ
  constructor
  · rintro ⟨f, hrun, hf⟩
    exact ⟨f, dfaRun_mono (fun q a t hq => ((hδ q a t).1 hq).1) w _ f hrun, hf⟩
  · rintro ⟨f, hrun, hf⟩
    refine ⟨f, ?_, hf⟩
    have : ∀ (w : Word) (q : Int), dfaRun d.δ (some q) w = some f → dfaRun res.δ (some q) w = some f ∧ CoReach d q := by
      intro w
      induction w with
      | nil =>
        intro q h
        cases h
        exact ⟨rfl, CoReach.final hf⟩
      | cons a w ih =>
        intro q h
        obtain ⟨t, hq, h'⟩ := dfaRun_cons_eq_some.1 h
        obtain ⟨h1, h2⟩ := ih t h'
        have hco : CoReach d q := CoReach.step hq h2
        exact ⟨dfaRun_cons_eq_some.2 ⟨t, (hδ q a t).2 ⟨hq, hnd q hco, hnd t h2⟩, h1⟩, hco⟩
    exact (this w _ hrun).1

theorem DFA.step_mem_states (d : DFA) {s a t : Int} (h : d.δ s a = some t) :
    s ∈ d.states ∧ t ∈ d.states :=
  d.entry_states (DFA.δ_entry h)

theorem DFA.run_mem_states (d : DFA) (w : Word) (s t : Int) (hs : s ∈ d.states)
    (h : dfaRun d.δ (some s) w = some t) : t ∈ d.states := by
  induction w generalizing s with
  | nil => cases h; exact hs
  | cons a w ih =>
    obtain ⟨t2, hd, h⟩ := dfaRun_cons_eq_some.1 h
    exact ih t2 (d.step_mem_states hd).2 h

/-- `h` maps the automaton `d` onto (part of) `d'`: on the states of `d` it commutes with the start state, the
transition function and finality.  The quotient of `Minimize` (`P.rep`) and the renamed copy that `ReindexStates`
builds, in `CombineDFA` too (`permuted_hom`), are such images. -/
structure DFA.Hom (d d' : DFA) (h : Int → Int) : Prop where
  start : d'.start = h d.start
  step : ∀ s ∈ d.states, ∀ a, d'.δ (h s) a = (d.δ s a).map h
  fin : ∀ s ∈ d.states, (h s ∈ d'.final ↔ s ∈ d.final)

namespace DFA.Hom
variable {d d' : DFA} {h : Int → Int} (H : d.Hom d' h)
include H

theorem run (w : Word) {s : Int} (hs : s ∈ d.states) :
    dfaRun d'.δ (some (h s)) w = (dfaRun d.δ (some s) w).map h := by
  induction w generalizing s with
  | nil => rfl
  | cons a w ih =>
    simp only [dfaRun, H.step s hs a]
    cases hd : d.δ s a with
    | none => simp only [Option.map_none, dfaRun_none]
    | some t => exact ih (d.step_mem_states hd).2

theorem acc {s : Int} (hs : s ∈ d.states) (v : Word) :
    accFrom d'.δ (fun f => f ∈ d'.final) (h s) v ↔ accFrom d.δ (fun f => f ∈ d.final) s v := by
  simp only [accFrom, H.run v hs]
  cases hr : dfaRun d.δ (some s) v with
  | none => simp
  | some q => simpa using H.fin q (d.run_mem_states v s q hs hr)

theorem lang (w : Word) : d'.lang w ↔ d.lang w := by
  have := H.acc (d.mem_states_of _ (Or.inl rfl)) w
  rwa [← H.start] at this

end DFA.Hom

def mapE (f : Int → Int) (e : Int × Int × Int) : Int × Int × Int := (f e.1, e.2.1, f e.2.2)

theorem DFA.permuted_eq (d : DFA) (f : Int → Int) :
    d.permuted f = DFA.ofEntries (f d.start) (mkSet (d.final.map f)) ((entries d.trans).map (mapE f)) := by
  simp only [DFA.permuted, DFA.ofEntries, DFA.new]
  have h := foldl_nested (γ := DFA) d.trans (fun acc s a t => acc.add (f s) a (f t)) ⟨f d.start, mkSet (d.final.map f), []⟩
  rw [h, List.foldl_map]
  rfl

theorem DFA.permuted_δ_iff (d : DFA) (hwf : d.WF) (f : Int → Int)
    (hinj : ∀ s ∈ d.states, ∀ t ∈ d.states, f s = f t → s = t) (x a y : Int) :
    (d.permuted f).δ x a = some y ↔ (x, a, y) ∈ (entries d.trans).map (mapE f) := by
  rw [d.permuted_eq]
  refine DFA.ofEntries_δ _ _ _ _ _ _ fun y y' h1 h2 => ?_
  obtain ⟨⟨s1, a1, t1⟩, he1, heq1⟩ := List.mem_map.1 h1
  obtain ⟨⟨s2, a2, t2⟩, he2, heq2⟩ := List.mem_map.1 h2
  simp only [mapE, Prod.mk.injEq] at heq1 heq2
  obtain ⟨rfl, rfl, rfl⟩ := heq1
  obtain ⟨h3, rfl, rfl⟩ := heq2
  cases hinj s2 (d.entry_states he2).1 s1 (d.entry_states he1).1 h3
  rw [entries_fun hwf he1 he2]

theorem DFA.permuted_hom (d : DFA) (hwf : d.WF) (f : Int → Int)
    (hinj : ∀ s ∈ d.states, ∀ t ∈ d.states, f s = f t → s = t) : d.Hom (d.permuted f) f := by
  have hsf := DFA.ofEntries_start_final (f d.start) (mkSet (d.final.map f)) ((entries d.trans).map (mapE f))
  rw [← d.permuted_eq] at hsf
  refine ⟨hsf.1, fun s hs a => Option.ext fun y => ?_, fun s hs => ?_⟩
  · rw [d.permuted_δ_iff hwf f hinj, List.mem_map]
    constructor
    · rintro ⟨⟨s1, a1, t1⟩, he, heq⟩
      simp only [mapE, Prod.mk.injEq] at heq
      obtain ⟨h1, rfl, rfl⟩ := heq
      cases hinj s1 (d.entry_states he).1 s hs h1
      rw [(mem_entries_DFA hwf _ _ _).1 he]; rfl
    · intro hy
      obtain ⟨t, ht, rfl⟩ := Option.map_eq_some_iff.1 hy
      exact ⟨(s, a, t), (mem_entries_DFA hwf _ _ _).2 ht, rfl⟩
  · rw [hsf.2, mem_mkSet, List.mem_map]
    exact ⟨fun ⟨t, ht, he⟩ => hinj t (d.mem_states_of t (Or.inr (Or.inl ht))) s hs he ▸ ht, fun hm => ⟨s, hm, rfl⟩⟩

theorem reindexWith_numbers (d : DFA) (lo : Int) :
    Numbers lo (reindexWith d) (fun ν => d.permuted (ν 0)) (fun i s => i = 0 ∧ s ∈ d.states) := by
  have h := Numbers.bind (Numbers.get (lo := lo) 0 d.start) (fun start =>
    Numbers.bind (Numbers.foldl d.final ([] : List Int) (fun l f =>
        Numbers.bind (Numbers.get 0 f) (fun y => Numbers.pure (sins y l))))
      (fun fin => Numbers.foldl d.trans (DFA.mk start fin []) (fun dfa st =>
        Numbers.bind (Numbers.get 0 st.1) (fun ss => Numbers.foldl st.2 dfa (fun dfa e =>
          Numbers.bind (Numbers.get 0 e.2) (fun y => Numbers.pure (dfa.add ss e.1 y)))))))
  -- `reindexWith d` unfolds to this composition; its pure side is `permuted` with `mkSet` written as a fold
  intro m hm
  obtain ⟨h1, h2, h3⟩ := h m hm
  refine ⟨h1, h2, fun M hM => ⟨((h3 M hM).1).trans ?_, fun i s ⟨hi, hs⟩ => (h3 M hM).2 i s ?_⟩⟩
  · simp only [DFA.permuted, DFA.new, mkSet, saddAll, List.foldl_map]
  · subst hi
    rcases (d.mem_states_iff s).1 hs with h | h | ⟨x, a, t, he, h⟩
    · exact Or.inl ⟨rfl, h⟩
    · exact Or.inr (Or.inl ⟨s, h, Or.inl ⟨rfl, rfl⟩⟩)
    · obtain ⟨st, hst, hm⟩ := List.mem_flatMap.1 he
      obtain ⟨e, he', heq⟩ := List.mem_map.1 hm
      cases heq
      exact Or.inr (Or.inr ⟨st, hst, h.imp (fun h => ⟨rfl, h⟩) (fun h => ⟨e, he', Or.inl ⟨rfl, h⟩⟩)⟩)

theorem reindexWith_permuted (d : DFA) (m : SM) (lo : Int) (hm : m.Inv lo) :
    ∃ ν : Int → Int, (reindexWith d m).2 = d.permuted ν ∧ (∀ s ∈ d.states, ∀ t ∈ d.states, ν s = ν t → s = t) ∧
      ∀ s ∈ d.states, lo < ν s := by
  obtain ⟨-, hinv, hM⟩ := reindexWith_numbers d lo m hm
  obtain ⟨heq, hdom⟩ := hM _ (SM.Le.refl _)
  exact ⟨_, heq, fun s hs t ht e => (SM.num_inj hinv (hdom 0 s ⟨rfl, hs⟩) (hdom 0 t ⟨rfl, ht⟩) e).2,
    fun s hs => SM.lt_num hinv (hdom 0 s ⟨rfl, hs⟩)⟩

theorem DFA.reindex_total (d : DFA) : ∃ d', d.reindex = .ok d' ∧
    ∃ m, d.bfsNumbering = .ok m ∧ m.Inv (-1) ∧ (reindexWith d m).2 = d' := by
  obtain ⟨m, hm, hinv⟩ := d.bfsNumbering_total
  exact ⟨_, by simp only [DFA.reindex, hm], m, hm, hinv, rfl⟩

theorem DFA.reindex_lang (d d' : DFA) (hwf : d.WF) (h : d.reindex = .ok d') (w : Word) : d'.lang w ↔ d.lang w := by
  obtain ⟨m, -, hm, rfl⟩ := all_of_total d.reindex_total d' h
  obtain ⟨ν, heq, hinj, -⟩ := reindexWith_permuted d m (-1) hm
  rw [heq]
  exact (d.permuted_hom hwf ν hinj).lang w

end AlgoVerif.C13
