import AlgoVerif.Proofs.C01Run
/-!
# C01 / C15: the AVL mutators refine the abstract map (and never dereference nil); what `balance` does
to cached heights and the AVL shape
-/
namespace AlgoVerif.C01
open Tree
variable {K V : Type} {cmp : K → K → Int}

@[simp] theorem ht_nil : (Tree.nil : Tree K V).ht = 0 := rfl
@[simp] theorem ht_node (l : Tree K V) (k v s h c r) : (Tree.node l k v s h c r).ht = h := rfl

def AVL : Tree K V → Prop
  | .nil => True
  | .node l _ _ _ h _ r => h = 1 + max l.ht r.ht ∧ l.ht ≤ r.ht + 1 ∧ r.ht ≤ l.ht + 1 ∧ AVL l ∧ AVL r

@[simp] theorem AVL_nil : AVL (Tree.nil : Tree K V) = True := rfl
@[simp] theorem AVL_node (l : Tree K V) (k v s h c r) :
    AVL (Tree.node l k v s h c r) =
      (h = 1 + max l.ht r.ht ∧ l.ht ≤ r.ht + 1 ∧ r.ht ≤ l.ht + 1 ∧ AVL l ∧ AVL r) := rfl

/-- the cached height `n` of `balance` applied to a node with subtrees of cached heights `a` and `b`: one
more than the higher subtree, or (only after a rotation) the same -/
def HtAfter (a b n : Nat) : Prop :=
  max a b ≤ n ∧ n ≤ 1 + max a b ∧ (a ≤ b + 1 → b ≤ a + 1 → n = 1 + max a b)

namespace HtAfter

theorem symm {a b n : Nat} (h : HtAfter a b n) : HtAfter b a n := by
  unfold HtAfter at *; omega

theorem of_left {a b n : Nat} (h : a = b + 2) (hn : n = a ∨ n = a + 1) : HtAfter a b n := by
  unfold HtAfter; omega

theorem of_right {a b n : Nat} (h : b = a + 2) (hn : n = b ∨ n = b + 1) : HtAfter a b n :=
  (of_left h hn).symm

theorem grow {a a' b n H : Nat} (h : HtAfter a' b n) (hH : H = 1 + max a b) (h1 : a ≤ b + 1)
    (h2 : b ≤ a + 1) (ha : a' = a ∨ a' = a + 1) : n = H ∨ n = H + 1 := by
  unfold HtAfter at h; omega

theorem shrink {a a' b n H : Nat} (h : HtAfter a' b n) (hH : H = 1 + max a b) (h1 : a ≤ b + 1)
    (h2 : b ≤ a + 1) (ha : a' = a ∨ a' + 1 = a) : n = H ∨ n + 1 = H := by
  unfold HtAfter at h; omega

end HtAfter

/-- `balance` after `n.size = …; n.height = …`.  In each rotation case the heights involved are first
expressed by that of the lower subtree.  One lemma for C01 (which drops the last conjunct) and C15
(`avlBalance_avl`, which keeps only it), so that the five cases of `balance` are walked once. -/
theorem avlBalance_ok (l : Tree K V) (k : K) (v : V) (c : Bool) (r : Tree K V) :
    ∃ n', avlBalance (avlFix l k v c r) = .ok n' ∧ n'.toList = l.toList ++ (k, v) :: r.toList ∧
      (SizeOK l → SizeOK r → SizeOK n') ∧
      (AVL l → AVL r → l.ht ≤ r.ht + 2 → r.ht ≤ l.ht + 2 → AVL n' ∧ HtAfter l.ht r.ht n'.ht) := by
  unfold avlFix avlBalance
  simp only [balanceFactor, Outcome.ok_bind]
  by_cases hb2 : (l.ht : Int) - r.ht = 2
  · rw [if_pos hb2]
    cases l with
    | nil => rw [ht_nil] at hb2; omega
    | node ll lk lv ls lh lc lr =>
      simp only [Outcome.ok_bind]
      simp only [ht_node] at hb2 ⊢
      by_cases hb1 : (ll.ht : Int) - lr.ht = -1
      · rw [if_pos hb1]
        cases lr with
        | nil => rw [ht_nil] at hb1; omega
        | node a bk bv bs bh bc b =>
          refine ⟨_, rfl, by simp, by simp only [SizeOK, sz_node]; grind, fun hl hr _ _ => ?_⟩
          simp only [AVL_node, ht_node] at hl hb1
          obtain ⟨h0, h3, h4, hll, h5, h6, h7, ha, hb⟩ := hl
          have e : lh = r.ht + 2 ∧ ll.ht = r.ht ∧ bh = r.ht + 1 := by omega
          clear h0 h3 h4 hb1 hb2
          refine ⟨?_, .of_left e.1 ?_⟩
          · simp only [AVL_node, ht_node, hll, ha, hb, hr, true_and, and_true]; omega
          · simp only [ht_node]; omega
      · rw [if_neg hb1]
        refine ⟨_, rfl, by simp, by simp only [SizeOK, sz_node]; grind, fun hl hr _ _ => ?_⟩
        simp only [AVL_node] at hl
        obtain ⟨h0, h3, h4, hll, hlr⟩ := hl
        have e : lh = r.ht + 2 ∧ ll.ht = r.ht + 1 ∧ r.ht ≤ lr.ht ∧ lr.ht ≤ r.ht + 1 := by omega
        clear h0 h3 h4 hb1 hb2
        refine ⟨?_, .of_left e.1 ?_⟩
        · simp only [AVL_node, ht_node, hll, hlr, hr, true_and, and_true]; omega
        · simp only [ht_node]; omega
  · rw [if_neg hb2]
    by_cases hb3 : (l.ht : Int) - r.ht = -2
    · rw [if_pos hb3]
      cases r with
      | nil => rw [ht_nil] at hb3; omega
      | node rl rk rv rs rh rc rr =>
        simp only [Outcome.ok_bind]
        simp only [ht_node] at hb3 ⊢
        clear hb2
        by_cases hb1 : (rl.ht : Int) - rr.ht = 1
        · rw [if_pos hb1]
          cases rl with
          | nil => rw [ht_nil] at hb1; omega
          | node a bk bv bs bh bc b =>
            refine ⟨_, rfl, by simp, by simp only [SizeOK, sz_node]; grind, fun hl hr _ _ => ?_⟩
            simp only [AVL_node, ht_node] at hr hb1
            obtain ⟨h0, h3, h4, ⟨h5, h6, h7, ha, hb⟩, hrr⟩ := hr
            have e : rh = l.ht + 2 ∧ rr.ht = l.ht ∧ bh = l.ht + 1 := by omega
            clear h0 h3 h4 hb1 hb3
            refine ⟨?_, .of_right e.1 ?_⟩
            · simp only [AVL_node, ht_node, hl, ha, hb, hrr, true_and, and_true]; omega
            · simp only [ht_node]; omega
        · rw [if_neg hb1]
          refine ⟨_, rfl, by simp, by simp only [SizeOK, sz_node]; grind, fun hl hr _ _ => ?_⟩
          simp only [AVL_node] at hr
          obtain ⟨h0, h3, h4, hrl, hrr⟩ := hr
          have e : rh = l.ht + 2 ∧ rr.ht = l.ht + 1 ∧ l.ht ≤ rl.ht ∧ rl.ht ≤ l.ht + 1 := by omega
          clear h0 h3 h4 hb1 hb3
          refine ⟨?_, .of_right e.1 ?_⟩
          · simp only [AVL_node, ht_node, hl, hrl, hrr, true_and, and_true]; omega
          · simp only [ht_node]; omega
    · rw [if_neg hb3]
      refine ⟨_, rfl, rfl, fun h1 h2 => ⟨rfl, h1, h2⟩, fun hl hr h1 h2 => ⟨?_, ?_⟩⟩
      · simp only [AVL_node, hl, hr, true_and, and_true]; exact ⟨by omega, by omega⟩
      · exact ⟨by simp only [ht_node]; omega, Nat.le_refl _, fun _ _ => rfl⟩

theorem avlPut_ok (h : LawfulCmp cmp) (key : K) (val : V) : ∀ {t : Tree K V}, Spec.Sorted cmp t.toList →
    ∃ t', avlPut cmp t key val = .ok t' ∧ t'.toList = Spec.upsert cmp key val t.toList ∧
      (SizeOK t → SizeOK t')
  | .nil, _ => ⟨_, rfl, rfl, fun _ => ⟨rfl, trivial, trivial⟩⟩
  | .node l k v s hh c r, hs => by
    obtain ⟨hsl, hsr, hl, hr, -⟩ := sorted_node.1 hs
    simp only [avlPut, toList_node]
    split
    · rename_i hlt
      obtain ⟨l', e1, e2, e3⟩ := avlPut_ok h key val hsl
      obtain ⟨n', e4, e5, e6, -⟩ := avlBalance_ok l' k v c r
      refine ⟨n', by simp [e1, e4], ?_, fun hz => e6 (e3 hz.2.1) hz.2.2⟩
      rw [e5, e2, upsert_node_lt hlt]
    · rename_i hnlt
      split
      · rename_i hgt
        obtain ⟨r', e1, e2, e3⟩ := avlPut_ok h key val hsr
        obtain ⟨n', e4, e5, e6, -⟩ := avlBalance_ok l k v c r'
        refine ⟨n', by simp [e1, e4], ?_, fun hz => e6 hz.2.1 (e3 hz.2.2)⟩
        rw [e5, e2, upsert_node_gt h hl hgt]
      · rename_i hngt
        refine ⟨_, rfl, ?_, fun hz => hz⟩
        rw [toList_node, upsert_node_eq h hl hnlt hngt]

theorem avlDeleteMin_ok : ∀ (l : Tree K V) (k : K) (v : V) (s hh : Nat) (c : Bool) (r : Tree K V),
    ∃ t' m, avlDeleteMin (.node l k v s hh c r) = .ok (t', m) ∧
      l.toList ++ (k, v) :: r.toList = m :: t'.toList ∧ (SizeOK l → SizeOK r → SizeOK t')
  | .nil, k, v, s, hh, c, r => ⟨r, (k, v), rfl, rfl, fun _ hr => hr⟩
  | .node ll lk lv ls lh lc lr, k, v, s, hh, c, r => by
    obtain ⟨l', m, e1, e2, e3⟩ := avlDeleteMin_ok ll lk lv ls lh lc lr
    obtain ⟨n', e4, e5, e6, -⟩ := avlBalance_ok l' k v c r
    refine ⟨n', m, ?_, ?_, fun hl hr => e6 (e3 hl.2.1 hl.2.2) hr⟩
    · rw [avlDeleteMin]; simp [e1, e4]
    · rw [e5, toList_node, e2]; rfl

theorem avlDeleteMax_ok : ∀ (r : Tree K V) (l : Tree K V) (k : K) (v : V) (s hh : Nat) (c : Bool),
    ∃ t' m, avlDeleteMax (.node l k v s hh c r) = .ok (t', m) ∧
      l.toList ++ (k, v) :: r.toList = t'.toList ++ [m] ∧ (SizeOK l → SizeOK r → SizeOK t')
  | .nil, l, k, v, s, hh, c => ⟨l, (k, v), rfl, rfl, fun hl _ => hl⟩
  | .node rl rk rv rs rh rc rr, l, k, v, s, hh, c => by
    obtain ⟨r', m, e1, e2, e3⟩ := avlDeleteMax_ok rr rl rk rv rs rh rc
    obtain ⟨n', e4, e5, e6, -⟩ := avlBalance_ok l k v c r'
    refine ⟨n', m, ?_, ?_, fun hl hr => e6 hl (e3 hr.2.1 hr.2.2)⟩
    · rw [avlDeleteMax]; simp [e1, e4]
    · rw [e5, toList_node, e2]; simp

theorem avlDelete_ok (h : LawfulCmp cmp) (key : K) : ∀ {t : Tree K V}, Spec.Sorted cmp t.toList →
    ∃ t', avlDelete cmp t key = .ok (t', get cmp t key) ∧ t'.toList = Spec.remove cmp key t.toList ∧
      (SizeOK t → SizeOK t')
  | .nil, _ => ⟨.nil, rfl, rfl, fun hz => hz⟩
  | .node l k v s hh c r, hs => by
    obtain ⟨hsl, hsr, hl, hr, -⟩ := sorted_node.1 hs
    simp only [avlDelete, get, toList_node]
    split
    · rename_i hlt
      obtain ⟨l', e1, e2, e3⟩ := avlDelete_ok h key hsl
      obtain ⟨n', e4, e5, e6, -⟩ := avlBalance_ok l' k v c r
      refine ⟨n', by simp [e1, e4], ?_, fun hz => e6 (e3 hz.2.1) hz.2.2⟩
      rw [e5, e2, remove_node_lt h hr hlt]
    · rename_i hnlt
      split
      · rename_i hgt
        obtain ⟨r', e1, e2, e3⟩ := avlDelete_ok h key hsr
        obtain ⟨n', e4, e5, e6, -⟩ := avlBalance_ok l k v c r'
        refine ⟨n', by simp [e1, e4], ?_, fun hz => e6 hz.2.1 (e3 hz.2.2)⟩
        rw [e5, e2, remove_node_gt h hl hgt]
      · rename_i hngt
        rw [remove_node_eq h hl hr hnlt hngt]
        cases l with
        | nil => exact ⟨r, rfl, by simp, fun hz => hz.2.2⟩
        | node ll lk lv ls lh lc lr =>
          cases r with
          | nil => exact ⟨_, rfl, by simp, fun hz => hz.2.1⟩
          | node rl rk rv rs rh rc rr =>
            obtain ⟨r', m, e1, e2, e3⟩ := avlDeleteMin_ok rl rk rv rs rh rc rr
            have hm : minOf rl rk rv = m := by
              have := head_minOf rl rk rv rr.toList
              rw [e2] at this
              simpa using this.symm
            obtain ⟨n', e4, e5, e6, -⟩ := avlBalance_ok (.node ll lk lv ls lh lc lr) m.1 m.2 false r'
            refine ⟨n', ?_, ?_, fun hz => e6 hz.2.1 (e3 hz.2.2.2.1 hz.2.2.2.2)⟩
            · simp [e1, hm, e4]
            · rw [e5, toList_node (l := rl), e2]

theorem avl_kindOK (h : LawfulCmp cmp) : KindOK (K := K) (V := V) .avl cmp (Inv cmp) where
  good_nil := inv_nil
  inv := fun _ ht => ht
  put := fun t k v ht => by
    obtain ⟨t', e1, e2, e3⟩ := avlPut_ok h k v ht.1
    exact ⟨t', e1, ⟨by rw [e2]; exact sorted_upsert h k v ht.1, e3 ht.2⟩, e2⟩
  delete := fun t k ht => by
    obtain ⟨t', e1, e2, e3⟩ := avlDelete_ok h k ht.1
    refine ⟨t', ?_, ⟨by rw [e2]; exact Sorted.filter _ ht.1, e3 ht.2⟩, e2⟩
    simp only [delete]; rw [e1, get_eq h k ht.1]
  deleteMin := fun t ht => by
    cases t with
    | nil => exact ⟨.nil, rfl, inv_nil, rfl⟩
    | node l k v s hh c r =>
      obtain ⟨t', m, e1, e2, e3⟩ := avlDeleteMin_ok l k v s hh c r
      obtain ⟨f1, f2, f3⟩ := Sorted.of_eq_cons ht.1 e2
      exact ⟨t', by rw [f1]; simp [deleteMin, e1], ⟨f2, e3 ht.2.2.1 ht.2.2.2⟩, f3⟩
  deleteMax := fun t ht => by
    cases t with
    | nil => exact ⟨.nil, rfl, inv_nil, rfl⟩
    | node l k v s hh c r =>
      obtain ⟨t', m, e1, e2, e3⟩ := avlDeleteMax_ok r l k v s hh c
      obtain ⟨f1, f2, f3⟩ := Sorted.of_eq_concat ht.1 e2
      exact ⟨t', by rw [f1]; simp [deleteMax, e1], ⟨f2, e3 ht.2.2.1 ht.2.2.2⟩, f3⟩

end AlgoVerif.C01
