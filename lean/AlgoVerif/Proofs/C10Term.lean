import AlgoVerif.Proofs.C10Follow
import AlgoVerif.Proofs.C10Valid
/-! The three fixpoint loops return within `fixFuel g` passes on every grammar that passes `Verify()`:
a pass that reports `updated` makes a Boolean family true at a new point and never makes it false
anywhere (`Prog`), and on such a grammar the family lives on a finite universe: non-terminals ×
terminals, plus one flag per non-terminal ("declared symbols only" is closed under the rules). -/
set_option linter.unusedSectionVars false
namespace AlgoVerif.C10
open AlgoVerif AlgoVerif.Gram
variable {T N : Type} [DecidableEq T] [DecidableEq N]
variable {g : Grammar T N} {o : IterOrder T N}

/-- the nullable list as a Boolean family on the non-terminals: what `Prog` counts for `NullableNonTerminals` -/
def nulView (nul : List N) (n : N) : Bool := decide (n ∈ nul)

theorem nullableGroup_prog {h : N} {ps : List (GProd T N)}
    (hps : ∀ p, p ∈ ps → p.head = h) {s : List N × Bool} (hpre : h ∉ s.1 ∨ s.2 = true) :
    Prog nulView s (nullableGroup ps s) := by
  rw [nullableGroup_eq_foldl]
  -- after the first insertion the flag is up, so later (vacuous) insertions of `h` need no new point
  refine (List.foldlRecOn _ _ (motive := fun t : List N × Bool => (h ∉ t.1 ∨ t.2 = true) ∧ Prog nulView s t)
    ⟨hpre, Prog.refl s⟩ fun t ht p hp => ?_).2
  split
  · refine ⟨Or.inr rfl, ht.2.trans ⟨fun x hx => ?_, fun _ => ?_⟩⟩
    · rw [nulView, decide_eq_true_eq] at hx ⊢
      exact mem_insertNew.2 (Or.inr hx)
    · refine ht.1.symm.imp_right fun hn => ⟨h, ?_, decide_eq_false hn⟩
      exact decide_eq_true (mem_insertNew.2 (Or.inl (hps p hp).symm))
  · exact ht

theorem nullablePass_prog {gs : List (N × List (GProd T N))}
    (hgs : ∀ hp, hp ∈ gs → ∀ p, p ∈ hp.2 → p.head = hp.1) (s : List N × Bool) :
    Prog nulView s (nullablePass gs s) := by
  rw [nullablePass_eq_foldl]
  refine Prog.foldl (fun hp hmem t => ?_) s
  split
  · exact Prog.refl t
  · exact nullableGroup_prog (hgs hp hmem) (Or.inl ‹_›)

theorem nullable_terminates (hv : validB g = true) (ho : o.Fair) :
    ∃ R, nullable g o = .ok R := by
  unfold nullable
  rw [nullableLoop_eq_gen]
  apply genLoop_terminates (Inv := fun nul => ∀ x, x ∈ nul → x ∈ g.nonterms) (view := nulView)
    (univ := g.nonterms)
  · exact fun s hs u hu => hs u (of_decide_eq_true hu)
  · intro i s hs
    refine ⟨?_, nullablePass_prog (fun _ hp p hpm => (mem_groups_prods ho hp p hpm).2) (s, false)⟩
    exact nullablePass_sound (s := (s, false)) (S := (· ∈ g.nonterms)) (fun p hp _ => (valid_prod hv hp).1)
      (fun _ hp p hpm => (mem_groups_prods ho hp p hpm).1) hs
  · exact fun _ hx => nomatch hx
  · unfold fixFuel
    rw [Nat.mul_succ]
    omega

def univOf (g : Grammar T N) : List ((N × T) ⊕ N) :=
  (g.nonterms.flatMap fun n => g.terms.map fun a => Sum.inl (n, a)) ++ g.nonterms.map Sum.inr

/-- the loops start with `fixFuel g` passes and an empty family -/
theorem fixFuel_enough (g : Grammar T N) (c : Nat) : fixFuel g + c > (univOf g).length := by
  unfold univOf fixFuel
  simp only [List.length_append, List.length_map, List.length_flatMap, List.map_const',
    List.sum_replicate_nat, Nat.mul_succ]
  omega

def FirstInv (g : Grammar T N) (st : N → TE T) : Prop :=
  Below st (fun n a => n ∈ g.nonterms ∧ a ∈ g.terms) (· ∈ g.nonterms)

theorem FirstInv.mem_univ {st : N → TE T} (h : FirstInv g st) :
    ∀ u, firstView st u = true → u ∈ univOf g
  | .inl (n, a), hu =>
    have ⟨hn, ha⟩ := h.1 n a (of_decide_eq_true hu)
    List.mem_append_left _ (List.mem_flatMap.2 ⟨n, hn, List.mem_map.2 ⟨a, ha, rfl⟩⟩)
  | .inr n, hu => List.mem_append_right _ (List.mem_map.2 ⟨n, h.2 n hu, rfl⟩)

theorem strF_declared {F : N → T → Prop} {E : N → Prop} (hF : ∀ n a, F n a → a ∈ g.terms)
    {β : List (Sym T N)} (hβ : ∀ s, s ∈ β → symDeclared g s = true) {a : T} (h : strF F E β a) :
    a ∈ g.terms := by
  induction β with
  | nil => cases h
  | cons s rest ih =>
    rcases h with h | ⟨_, h⟩
    · cases s with
      | term t =>
        have := hβ _ (List.mem_cons_self ..)
        rw [show a = t from h]
        simpa [symDeclared] using this
      | nonterm n => exact hF n a h
    · exact ih (fun x hx => hβ x (List.mem_cons_of_mem _ hx)) h

theorem declared_firstClosed (hv : validB g = true) :
    FirstClosed g (fun n a => n ∈ g.nonterms ∧ a ∈ g.terms) (· ∈ g.nonterms) := fun _ hp =>
  have ⟨hX, hbody⟩ := valid_prod hv hp
  ⟨fun _ h => ⟨hX, strF_declared (fun _ _ h => h.2) hbody h⟩, fun _ => hX⟩

theorem firstStr_declared {st : N → TE T} (hinv : FirstInv g st)
    (β : List (Sym T N)) (hβ : ∀ s, s ∈ β → symDeclared g s = true) (a : T)
    (ha : a ∈ (firstStr st β).terms) : a ∈ g.terms :=
  strF_declared (fun n a h => (hinv.1 n a h).2) hβ (mem_firstStr.1 ha)

theorem computeFirst_terminates (hv : validB g = true) (ho : o.Fair) :
    ∃ R, computeFirst g o = .ok R := by
  unfold computeFirst
  rw [firstLoop_eq_gen]
  have h0 : FirstInv g fun _ => ⟨[], false⟩ := ⟨fun _ _ => nofun, fun _ => nofun⟩
  refine genLoop_terminates (Inv := FirstInv g) (fun _ => FirstInv.mem_univ)
    (fun i s hinv => ⟨?_, firstPass_prog _ _⟩) _ _ _ h0 (fixFuel_enough g _)
  exact firstPass_sound (s := (s, false)) (declared_firstClosed hv) (fun p hp => (mem_passProds_iff ho i).1 hp) hinv

theorem computeFirst_inv (hv : validB g = true) (ho : o.Fair)
    {R : N → TE T} (h : computeFirst g o = .ok R) : FirstInv g R :=
  computeFirst_least ho h (declared_firstClosed hv)

def FollowInv (g : Grammar T N) (fo : N → TEnd T) : Prop := FirstInv g (asTE fo)

section
variable {g : Grammar T N} (hv : validB g = true) {o : IterOrder T N} (ho : o.Fair)
  {first : List (Sym T N) → TE T}
  (hfirst : ∀ β, (∀ s, s ∈ β → symDeclared g s = true) → ∀ a, a ∈ (first β).terms → a ∈ g.terms)
include hv

theorem declared_followClosed :
    FollowClosed g (fun β a => (∀ s, s ∈ β → symDeclared g s = true) → a ∈ g.terms) (fun _ => True)
      (fun n a => n ∈ g.nonterms ∧ a ∈ g.terms) (· ∈ g.nonterms) := by
  refine ⟨valid_start hv, fun p hp α B β e => ?_⟩
  have hbody : ∀ s, s ∈ Sym.nonterm B :: β → symDeclared g s = true :=
    fun s hs => (valid_prod hv hp).2 s (e ▸ List.mem_append_right _ hs)
  have hB : B ∈ g.nonterms := by simpa [symDeclared] using hbody _ (List.mem_cons_self ..)
  exact ⟨fun a ha => ⟨hB, ha fun s hs => hbody s (List.mem_cons_of_mem _ hs)⟩,
    fun _ => ⟨fun a h => ⟨hB, h.2⟩, fun _ => hB⟩⟩

include ho hfirst

theorem computeFollow_terminates : ∃ R, computeFollow g o first = .ok R := by
  unfold computeFollow
  rw [followLoop_eq_gen]
  have h0 : FollowInv g (followInit g) :=
    ⟨fun _ _ => nofun, fun n hn => of_decide_eq_true hn ▸ valid_start hv⟩
  refine genLoop_terminates (Inv := FollowInv g) (view := followView) (fun _ => FirstInv.mem_univ)
    (fun i s hinv => ⟨?_, followPass_prog first _ _⟩) _ _ _ h0 (fixFuel_enough g _)
  exact followPass_sound (s := (s, false)) (fun β a ha hβ => hfirst β hβ a ha) (fun _ _ => trivial)
    (declared_followClosed hv) (fun p hp => (mem_passProds_iff ho i).1 hp) hinv

theorem computeFollow_inv {R : N → TEnd T} (h : computeFollow g o first = .ok R) : FollowInv g R :=
  computeFollow_least ho (fun β a ha hβ => hfirst β hβ a ha) (fun _ _ => trivial)
    (declared_followClosed hv) h

end

theorem analyse_terminates (hv : validB g = true) {o₁ o₂ : IterOrder T N}
    (h₁ : o₁.Fair) (h₂ : o₂.Fair) : ∃ an, analyse g o₁ o₂ = .ok an := by
  obtain ⟨fi, hfi⟩ := computeFirst_terminates hv h₁
  have hinv := computeFirst_inv hv h₁ hfi
  obtain ⟨fo, hfo⟩ := computeFollow_terminates hv h₂ (first := firstStr fi) (firstStr_declared hinv)
  exact ⟨⟨fi, fo⟩, by simp [analyse, hfi, hfo]⟩

end AlgoVerif.C10
