import AlgoVerif.Model.C05
/-!
# What the three indexed heaps share
-/
namespace AlgoVerif.C05

theorem lt_size_of_getElem? {α : Type} {xs : Array α} {i : Nat} {a : α} (h : xs[i]? = some a) : i < xs.size :=
  (Array.getElem?_eq_some_iff.mp h).1

theorem getElem?_set_one {α : Type} (xs : Array α) {i : Nat} (x : α) (hi : i < xs.size) (p : Nat) :
    (xs.setIfInBounds i x)[p]? = if p = i then some x else xs[p]? := by
  simp only [Array.getElem?_setIfInBounds, hi, if_true, eq_comm (a := p)]

theorem getElem?_set_set {α : Type} (xs : Array α) {i j : Nat} (x y : α) (hi : i < xs.size) (hj : j < xs.size)
    (p : Nat) : ((xs.setIfInBounds i x).setIfInBounds j y)[p]? =
      if p = j then some y else if p = i then some x else xs[p]? := by
  simp only [Array.getElem?_setIfInBounds, Array.size_setIfInBounds, hi, hj, if_true, eq_comm (a := p)]

end AlgoVerif.C05

namespace AlgoVerif.C05.Spec
variable {K V : Type}

theorem card_succ (cap : Nat) (m : Map K V) :
    card (cap + 1) m = card cap m + (if (m (cap : Int)).isSome then 1 else 0) := by
  unfold card
  rw [List.range_succ, List.filter_append, List.length_append]
  by_cases h : (m (cap : Int)).isSome <;> simp [h]

theorem card_zero (m : Map K V) : card 0 m = 0 := by simp [card]

theorem card_le (cap : Nat) (m : Map K V) : card cap m ≤ cap := by
  induction cap with
  | zero => simp [card_zero]
  | succ n ih => rw [card_succ]; split <;> omega

theorem card_set_out (cap : Nat) (m : Map K V) (i : Int) (e : Option (K × V)) (h : ¬ InRange cap i) :
    card cap (m.set i e) = card cap m := by
  induction cap with
  | zero => simp [card_zero]
  | succ n ih =>
    have hn : ¬ InRange n i := by unfold InRange at *; omega
    have hne : ((n : Nat) : Int) ≠ i := by unfold InRange at h; omega
    rw [card_succ, card_succ, ih hn]
    simp [Map.set, hne]

theorem card_set_in (cap : Nat) (m : Map K V) (i : Int) (e : Option (K × V)) (h : InRange cap i) :
    card cap (m.set i e) + (if (m i).isSome then 1 else 0) = card cap m + (if e.isSome then 1 else 0) := by
  induction cap with
  | zero => unfold InRange at h; omega
  | succ n ih =>
    rw [card_succ, card_succ]
    by_cases hi : i = (n : Int)
    · subst hi
      have hn : ¬ InRange n (n : Int) := by unfold InRange; omega
      rw [card_set_out n m _ e hn]
      simp [Map.set]
      omega
    · have hn : InRange n i := by unfold InRange at *; omega
      have := ih hn
      have hne : ((n : Nat) : Int) ≠ i := fun h => hi h.symm
      simp [Map.set, hne]
      omega

theorem card_set_some_new {cap : Nat} {m : Map K V} {i : Int} (e : K × V) (h : InRange cap i)
    (hm : m i = none) : card cap (m.set i (some e)) = card cap m + 1 := by
  have := card_set_in cap m i (some e) h
  simp [hm] at this
  exact this

theorem card_set_some_old {cap : Nat} {m : Map K V} {i : Int} (e e0 : K × V) (h : InRange cap i)
    (hm : m i = some e0) : card cap (m.set i (some e)) = card cap m := by
  have := card_set_in cap m i (some e) h
  simp [hm] at this
  exact this

theorem card_set_none {cap : Nat} {m : Map K V} {i : Int} (e0 : K × V) (h : InRange cap i)
    (hm : m i = some e0) : card cap (m.set i none) + 1 = card cap m := by
  have := card_set_in cap m i none h
  simp [hm] at this
  exact this

theorem card_lt_of_free {cap : Nat} {m : Map K V} {i : Int} (h : InRange cap i) (hm : m i = none) :
    card cap m < cap := by
  induction cap with
  | zero => unfold InRange at h; omega
  | succ n ih =>
    rw [card_succ]
    by_cases hi : i = (n : Int)
    · subst hi
      have := card_le n m
      simp [hm]; omega
    · have hn : InRange n i := by unfold InRange at *; omega
      have := ih hn
      split <;> omega

theorem card_eq_zero {cap : Nat} {m : Map K V} (h : ∀ i, m i = none) : card cap m = 0 := by
  induction cap with
  | zero => exact card_zero _
  | succ n ih => rw [card_succ, ih]; simp [h]

theorem card_empty (cap : Nat) : card cap (Map.empty : Map K V) = 0 := card_eq_zero fun _ => rfl

theorem set_same (m : Map K V) (i : Int) (e : Option (K × V)) : (m.set i e) i = e := by simp [Map.set]
theorem set_other (m : Map K V) {i j : Int} (e : Option (K × V)) (h : j ≠ i) : (m.set i e) j = m j := by
  simp [Map.set, h]

theorem set_set (m : Map K V) (i : Int) (a b : Option (K × V)) : (m.set i a).set i b = m.set i b := by
  funext j; unfold Map.set; split <;> rfl

theorem set_self (m : Map K V) (i : Int) (a : Option (K × V)) (h : m i = a) : m.set i a = m := by
  funext j; unfold Map.set; split
  · rename_i hj; rw [hj, h]
  · rfl

end AlgoVerif.C05.Spec

namespace AlgoVerif.C05
open Spec
variable {K V σ : Type}

theorem admitted_of_sim {P : Map K V → K → Prop} {cmp : K → K → Int} {eq : V → V → Bool} {cap : Nat}
    (step : σ → Op K V → Outcome (σ × Res K V)) (Inv : σ → Prop) (abs : σ → Map K V)
    (sim : ∀ s op, Inv s → ∃ s' r, step s op = .ok (s', r) ∧ Inv s' ∧ AdmitG P cmp eq cap (abs s) op r (abs s')) :
    ∀ (ops : List (Op K V)) (s : σ), Inv s → AdmittedG P cmp eq cap (abs s) ops (runWith step s ops) := by
  intro ops
  induction ops with
  | nil => intro s _; exact .nil
  | cons op ops ih =>
    intro s hs
    obtain ⟨s', r, hstep, hinv, hadm⟩ := sim s op hs
    simp only [runWith, hstep]
    exact .cons hadm (ih s' hinv)

theorem exec_of_sim (step : σ → Op K V → Outcome (σ × Res K V)) (Inv : σ → Prop)
    {Q : σ → Op K V → Res K V → σ → Prop}
    (sim : ∀ s op, Inv s → ∃ s' r, step s op = .ok (s', r) ∧ Inv s' ∧ Q s op r s') :
    ∀ (ops : List (Op K V)) (s : σ), Inv s → ∃ s', execWith step s ops = .ok s' ∧ Inv s' := by
  intro ops
  induction ops with
  | nil => intro s hs; exact ⟨s, rfl, hs⟩
  | cons op ops ih =>
    intro s hs
    obtain ⟨s', r, hstep, hinv, -⟩ := sim s op hs
    simp only [execWith, hstep]
    exact ih s' hinv

theorem exec_of_sim_ok (step : σ → Op K V → Outcome (σ × Res K V)) (Inv : σ → Prop)
    (sim : ∀ s op s' r, Inv s → step s op = .ok (s', r) → Inv s') :
    ∀ (ops : List (Op K V)) (s s' : σ), Inv s → execWith step s ops = .ok s' → Inv s' := by
  intro ops
  induction ops with
  | nil => intro s s' hs he; simp only [execWith] at he; cases he; exact hs
  | cons op ops ih =>
    intro s s' hs he
    simp only [execWith] at he
    cases hstep : step s op with
    | ok p =>
      obtain ⟨s1, r⟩ := p
      rw [hstep] at he
      exact ih s1 s' (sim s op s1 r hs hstep) he
    | panic => rw [hstep] at he; cases he
    | diverge => rw [hstep] at he; cases he

theorem admittedWhileOk_of_sim {P : Map K V → K → Prop} {cmp : K → K → Int} {eq : V → V → Bool} {cap : Nat}
    (step : σ → Op K V → Outcome (σ × Res K V)) (Inv : σ → Prop) (abs : σ → Map K V)
    (sim : ∀ s op s' r, Inv s → step s op = .ok (s', r) → Inv s' ∧ AdmitG P cmp eq cap (abs s) op r (abs s')) :
    ∀ (ops : List (Op K V)) (s : σ), Inv s → AdmittedWhileOk P cmp eq cap (abs s) ops (runWith step s ops) := by
  intro ops
  induction ops with
  | nil => intro s _; exact .nil
  | cons op ops ih =>
    intro s hs
    simp only [runWith]
    cases hstep : step s op with
    | ok p =>
      obtain ⟨s', r⟩ := p
      obtain ⟨hinv, hadm⟩ := sim s op s' r hs hstep
      exact .cons hadm (ih s' hinv)
    | panic => exact .stop (by intro r h; cases h)
    | diverge => exact .stop (by intro r h; cases h)

end AlgoVerif.C05

namespace AlgoVerif.C05.Spec
variable {K V : Type}

theorem AdmitG.imp {P Q : Map K V → K → Prop} {cmp : K → K → Int} {eq : V → V → Bool} {cap : Nat}
    {m m' : Map K V} {op : Op K V} {r : Res K V} (h : AdmitG P cmp eq cap m op r m')
    (hPQ : ∀ i k v, r = .ikv (some (i, k, v)) → P m k → Q m k) : AdmitG Q cmp eq cap m op r m' := by
  cases h with
  | delete_some h1 h2 => exact .delete_some h1 (hPQ _ _ _ rfl h2)
  | peek_some h1 h2 => exact .peek_some h1 (hPQ _ _ _ rfl h2)
  | _ => constructor <;> assumption

end AlgoVerif.C05.Spec
