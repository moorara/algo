import AlgoVerif.Proofs.C02Probe
/-!
# C02/C03 — linear probing: `Put`, `Get`, `DeleteAll`, `resize`, `All`

The invariant is the one of open addressing without soft deletion: no key occupies two slots; every
occupied slot is reached by the probe sequence of its key through occupied slots only; `n` = number of
occupied slots; `(n-1)/m < maxLF ≤ 1/2`, so at least one slot is nil.
`Stores` is the part of the invariant that does not speak of probe sequences (size, counter, no key twice, contents).
-/
set_option linter.unusedSectionVars false
namespace AlgoVerif.C02
open Spec AlgoVerif.Generated
variable {K V σ : Type} [DecidableEq K]

abbrev LSlots (K V : Type) := Array (Option (K × V))

def keyAtL (s : LSlots K V) (i : Nat) : Option K :=
  match s[i]? with
  | some (some e) => some e.1
  | _ => none

def isUsedL (s : LSlots K V) (i : Nat) : Bool := (keyAtL s i).isSome

theorem keyAtL_eq_some {s : LSlots K V} {i : Nat} {k : K} :
    keyAtL s i = some k ↔ ∃ v, s[i]? = some (some (k, v)) := by
  unfold keyAtL
  cases hx : s[i]? with
  | none => exact ⟨fun h => (nomatch h), fun ⟨_, h⟩ => nomatch h⟩
  | some x =>
    cases x with
    | none => exact ⟨fun h => (nomatch h), fun ⟨_, h⟩ => nomatch h⟩
    | some e => exact ⟨fun h => ⟨e.2, by cases h; rfl⟩, fun ⟨v, h⟩ => by cases h; rfl⟩

theorem isUsedL_false_of_none {s : LSlots K V} {i : Nat} (h : s[i]? = some none) : isUsedL s i = false := by
  rw [isUsedL, keyAtL, h]
  rfl

theorem isUsedL_true_of_some {s : LSlots K V} {i : Nat} {e : K × V} (h : s[i]? = some (some e)) : isUsedL s i = true := by
  rw [isUsedL, keyAtL, h]
  rfl

theorem none_of_not_usedL {s : LSlots K V} {i : Nat} (hi : i < s.size) (h : isUsedL s i = false) : s[i]? = some none := by
  have hs : s[i]? = some s[i] := by simp [hi]
  cases hx : s[i] with
  | none => rw [hs, hx]
  | some e =>
    rw [hx] at hs
    rw [isUsedL_true_of_some hs] at h; cases h

theorem keyAtL_set (s : LSlots K V) (idx : Nat) (hidx : idx < s.size) (e : K × V) (j : Nat) :
    keyAtL (s.setIfInBounds idx (some e)) j = if j = idx then some e.1 else keyAtL s j := by
  unfold keyAtL
  rw [get_set s idx hidx]
  by_cases h : j = idx
  · rw [if_pos h, if_pos h]
  · rw [if_neg h, if_neg h]

theorem isUsedL_set (s : LSlots K V) (idx : Nat) (hidx : idx < s.size) (e : K × V) (j : Nat) :
    isUsedL (s.setIfInBounds idx (some e)) j = if j = idx then true else isUsedL s j := by
  unfold isUsedL
  rw [keyAtL_set s idx hidx]
  split <;> rfl

theorem keyAtL_rem (s : LSlots K V) (idx : Nat) (hidx : idx < s.size) (j : Nat) :
    keyAtL (s.setIfInBounds idx none) j = if j = idx then none else keyAtL s j := by
  unfold keyAtL
  rw [get_set s idx hidx]
  by_cases h : j = idx
  · rw [if_pos h, if_pos h]
  · rw [if_neg h, if_neg h]

theorem keyAtL_rem_some {s : LSlots K V} {idx j : Nat} {k : K} (hidx : idx < s.size)
    (h : keyAtL (s.setIfInBounds idx none) j = some k) : j ≠ idx ∧ keyAtL s j = some k := by
  rw [keyAtL_rem s idx hidx] at h
  split at h
  · cases h
  · exact ⟨‹_›, h⟩

theorem isUsedL_rem (s : LSlots K V) (idx : Nat) (hidx : idx < s.size) (j : Nat) :
    isUsedL (s.setIfInBounds idx none) j = if j = idx then false else isUsedL s j := by
  unfold isUsedL
  rw [keyAtL_rem s idx hidx]
  split <;> rfl

structure Stores (s : LSlots K V) (m : Nat) (n : Int) (L : K → V → Prop) : Prop where
  size : s.size = m
  n_eq : n = ((cnt (isUsedL s) m : Nat) : Int)
  uniq : ∀ a b k, keyAtL s a = some k → keyAtL s b = some k → a = b
  live : ∀ k v, (∃ i : Nat, s[i]? = some (some (k, v))) ↔ L k v

section
variable {s : LSlots K V} {m : Nat} {n : Int} {L : K → V → Prop} (h : Stores s m n L)
include h

theorem Stores.cast {n' : Int} {L' : K → V → Prop} (hn : n = n') (hL : ∀ k v, L k v ↔ L' k v) : Stores s m n' L' :=
  ⟨h.size, hn ▸ h.n_eq, h.uniq, fun k v => (h.live k v).trans (hL k v)⟩

theorem Stores.func {k : K} {v v' : V} (h1 : L k v) (h2 : L k v') : v = v' := by
  obtain ⟨i, hi⟩ := (h.live k v).2 h1
  obtain ⟨j, hj⟩ := (h.live k v').2 h2
  have := h.uniq i j k (keyAtL_eq_some.2 ⟨v, hi⟩) (keyAtL_eq_some.2 ⟨v', hj⟩)
  subst this
  rw [hi] at hj
  injection hj with hj; injection hj with hj; injection hj

theorem Stores.remove {p : Nat} {k : K} {v : V} (hp : s[p]? = some (some (k, v))) :
    Stores (s.setIfInBounds p none) m (n - 1) (fun k' v' => k' ≠ k ∧ L k' v') ∧
      ∀ j, keyAtL (s.setIfInBounds p none) j ≠ some k := by
  have hps : p < s.size := lt_size_of_get hp
  have hk : keyAtL s p = some k := keyAtL_eq_some.2 ⟨v, hp⟩
  have hur := isUsedL_rem s p hps
  have hgr := get_set s p hps none
  refine ⟨⟨(Array.size_setIfInBounds ..).trans h.size, ?_, ?_, fun k' v' => ?_⟩, ?_⟩
  · have c1 := cnt_flip_false (P := isUsedL s) (Q := isUsedL (s.setIfInBounds p none)) (h.size ▸ hps)
      (isUsedL_true_of_some hp) ((hur _).trans (if_pos rfl)) (fun j hj => (hur j).trans (if_neg hj))
    have := h.n_eq
    omega
  · exact fun a b k1 ha hb => h.uniq a b k1 (keyAtL_rem_some hps ha).2 (keyAtL_rem_some hps hb).2
  · rw [← h.live]
    constructor
    · rintro ⟨j, hj⟩
      rw [hgr] at hj
      split at hj
      · cases hj
      · next hjp =>
        refine ⟨?_, j, hj⟩
        rintro rfl
        exact hjp (h.uniq _ _ _ (keyAtL_eq_some.2 ⟨v', hj⟩) hk)
    · rintro ⟨hne, j, hj⟩
      refine ⟨j, (hgr j).trans ((if_neg ?_).trans hj)⟩
      rintro rfl
      rw [hp] at hj
      injection hj with hj; injection hj with hj; injection hj with hj
      exact hne hj.symm
  · exact fun j hj => (keyAtL_rem_some hps hj).1 (h.uniq _ _ _ (keyAtL_rem_some hps hj).2 hk)

theorem Stores.put {q : Nat} (hqs : q < s.size) (k : K) (v : V) (hother : ∀ i, i ≠ q → keyAtL s i ≠ some k)
    (hold : ∀ e, s[q]? = some (some e) → e.1 = k) :
    Stores (s.setIfInBounds q (some (k, v))) m (n + (if isUsedL s q then 0 else 1))
      (fun k' v' => (k' = k ∧ v' = v) ∨ (k' ≠ k ∧ L k' v')) := by
  have hus := isUsedL_set s q hqs (k, v)
  have hks := keyAtL_set s q hqs (k, v)
  refine ⟨(Array.size_setIfInBounds ..).trans h.size, ?_, uniq_set h.uniq hks hother, fun k' v' => ?_⟩
  · have hc := cnt_update (P := isUsedL s) (Q := isUsedL (s.setIfInBounds q (some (k, v)))) (h.size ▸ hqs)
      (fun i hi => by rw [hus, if_neg hi])
    rw [hus, if_pos rfl] at hc
    exact counter_follows h.n_eq hc (by split <;> simp)
  · rw [← h.live]
    refine (holds_set hqs Prod.fst (k, v) (fun i x hi hx hk => hother i hi (keyAtL_eq_some.2 ⟨x.2, ?_⟩)) hold (k', v')).trans
      (by rw [Prod.mk.injEq]; exact Iff.rfl)
    rw [← show x.1 = k from hk]
    exact hx

end

def Lin.Live (t : LinTable K V) (k : K) (v : V) : Prop := ∃ i : Nat, t.slots[i]? = some (some (k, v))

def Lin.pr (hash : K → UInt64) (t : LinTable K V) (key : K) (i : Nat) : Nat :=
  Lin.probeIdx t.m (mix (hash key)) i

theorem Lin.probeIdx_eq (m : Nat) (h : UInt64) (i : Nat) (hm : 0 < m) :
    Lin.probeIdx m h i = ((h.toNat &&& (m - 1)) + i) % m := by
  unfold Lin.probeIdx
  by_cases hi : i = 0
  · subst hi
    have : h.toNat &&& (m - 1) < m := by
      have := Nat.and_le_right (n := h.toNat) (m := m - 1); omega
    simp [Nat.mod_eq_of_lt this]
  · simp [hi]

structure Lin.InvCore (hash : K → UInt64) (t : LinTable K V) : Prop where
  size : t.slots.size = t.m
  pow2 : isPowerOf2 t.m = true
  minM : symboltable_lpMinM ≤ t.m
  n_eq : t.n = ((cnt (isUsedL t.slots) t.m : Nat) : Int)
  lf : ValidLF lpMinLF lpMaxLF t.minLF t.maxLF
  uniq : ∀ i j k, keyAtL t.slots i = some k → keyAtL t.slots j = some k → i = j
  reach : ∀ idx k, keyAtL t.slots idx = some k → ∃ i, i < t.m ∧ Lin.pr hash t k i = idx ∧
    ∀ j, j < i → isUsedL t.slots (Lin.pr hash t k j) = true

theorem Lin.InvCore.stores {hash : K → UInt64} {t : LinTable K V} (hI : Lin.InvCore hash t) :
    Stores t.slots t.m t.n (Lin.Live t) := ⟨hI.size, hI.n_eq, hI.uniq, fun _ _ => Iff.rfl⟩

theorem Lin.InvCore.probed {hash : K → UInt64} {t : LinTable K V} (hI : Lin.InvCore hash t) :
    ProbedF (keyAtL t.slots) (Lin.pr hash t) t.m := ⟨hI.uniq, hI.reach⟩

/-- invariant with room for `r` more insertions before `Put` would resize -/
def Lin.Room (hash : K → UInt64) (r : Nat) (t : LinTable K V) : Prop :=
  Lin.InvCore hash t ∧ (t.n + (r : Int)) * (t.maxLF.den : Int) < (t.maxLF.num : Int) * (t.m : Int) + (t.maxLF.den : Int)

abbrev Lin.Inv (hash : K → UInt64) (t : LinTable K V) : Prop := Lin.Room hash 0 t

theorem lpMinM_ge : 32 ≤ symboltable_lpMinM := by decide

theorem Lin.lf_facts {minLF maxLF : LF} (h : ValidLF lpMinLF lpMaxLF minLF maxLF) :
    0 < minLF.num ∧ 0 < maxLF.num ∧ maxLF.den < 8 * maxLF.num ∧ 2 * maxLF.num ≤ maxLF.den :=
  -- the regenerated defaults `lpMinLF`, `lpMaxLF` unfold to `1/8` and `1/2`; a changed constant breaks this line
  ValidLF.open_facts h

section
variable {hash : K → UInt64} {t : LinTable K V}

theorem Lin.m_ge (hI : Lin.InvCore hash t) : 32 ≤ t.m := by
  have := lpMinM_ge; have := hI.minM; omega

theorem Lin.pr_lt (hI : Lin.InvCore hash t) (key : K) (i : Nat) :
    Lin.pr hash t key i < t.slots.size := by
  rw [hI.size]
  unfold Lin.pr
  have := Lin.m_ge hI
  rw [Lin.probeIdx_eq _ _ _ (by omega)]
  exact Nat.mod_lt _ (by omega)

theorem Lin.probeIdx_inj (m : Nat) (h : UInt64) (i j : Nat) (hm : 0 < m) (hij : i < j) (hj : j < i + m) :
    Lin.probeIdx m h i ≠ Lin.probeIdx m h j := by
  rw [Lin.probeIdx_eq m h i hm, Lin.probeIdx_eq m h j hm]
  have := linear_cover m ((h.toNat &&& (m - 1)) + i) 0 (j - i) (Nat.sub_pos_of_lt hij)
    (Nat.sub_lt_left_of_lt_add (Nat.le_of_lt hij) hj)
  rwa [Nat.add_zero, Nat.add_assoc, Nat.add_sub_of_le (Nat.le_of_lt hij)] at this

theorem Lin.den_le (hI : Lin.InvCore hash t) :
    (t.maxLF.den : Int) ≤ (t.maxLF.num : Int) * (t.m : Int) :=
  den_le_of (c := 8) (by have := (Lin.lf_facts hI.lf).2.2.1; omega) (by have := Lin.m_ge hI; omega)

theorem Lin.n_lt_m (h : Lin.Inv hash t) :
    cnt (isUsedL t.slots) t.m < t.m := by
  obtain ⟨hI, hroom⟩ := h
  obtain ⟨_, _, _, h2⟩ := Lin.lf_facts hI.lf
  have hm := Lin.m_ge hI
  have hd := hI.lf.maxDen
  rw [hI.n_eq, Int.natCast_zero, Int.add_zero] at hroom
  have := lt_of_load (by omega) (by omega) (by omega) hroom
  omega

theorem Lin.exists_free_from (h : Lin.Inv hash t) (key : K) (i0 : Nat) :
    ∃ x, x < t.m ∧ t.slots[Lin.pr hash t key (i0 + x)]? = some none :=
  free_of_count (isUsedL t.slots) (fun _ => none_of_not_usedL) h.1.size (fun x => Lin.pr hash t key (i0 + x))
    (fun x => h.1.size ▸ Lin.pr_lt h.1 key _)
    (fun x y hxy hy => Lin.probeIdx_inj t.m _ _ _ (Nat.lt_of_lt_of_le (by decide) (Lin.m_ge h.1))
      (Nat.add_lt_add_left hxy i0) (Nat.add_lt_add_of_le_of_lt (Nat.le_add_right i0 x) hy)) (Lin.n_lt_m h)

theorem Lin.room_weaken {r : Nat} (h : Lin.Room hash r t) : Lin.Inv hash t :=
  ⟨h.1, Int.lt_of_le_of_lt (room_mono (Int.natCast_nonneg _) (Nat.zero_le r)) h.2⟩

theorem Lin.inv_of_empty (hI : Lin.InvCore hash t) (hn : t.n = 0) : Lin.Inv hash t := by
  refine ⟨hI, ?_⟩
  rw [hn, Int.natCast_zero, Int.add_zero, Int.zero_mul]
  exact Int.add_pos_of_nonneg_of_pos (Int.mul_nonneg (Int.natCast_nonneg _) (Int.natCast_nonneg _))
    (Int.natCast_pos.2 hI.lf.maxDen)

end

theorem Lin.exists_free {hash : K → UInt64} {t : LinTable K V} (h : Lin.Inv hash t) (key : K) :
    ∃ i, i < t.m ∧ t.slots[Lin.pr hash t key i]? = some none := by
  simpa only [Nat.zero_add] using Lin.exists_free_from h key 0

def stopL (key : K) (x : Option (K × V)) : Bool :=
  match x with
  | none => true
  | some e => decide (e.1 = key)

theorem stopL_some {key : K} {e : K × V} (h : stopL key (some e) = true) : e.1 = key := of_decide_eq_true h

def Lin.written (t : LinTable K V) (idx : Nat) (key : K) (val : V) : LinTable K V :=
  { t with slots := t.slots.setIfInBounds idx (some (key, val)), n := t.n + (if isUsedL t.slots idx then 0 else 1) }

section
variable (hash : K → UInt64) (t : LinTable K V) (key : K)

/-- the two things `Put` does where its search stops (nil slot, entry of `key`) are one: the pair is written and the
counter follows -/
theorem Lin.putLoop_eq (val : V) : ∀ fuel i,
    Lin.putLoop t (mix (hash key)) key val fuel i =
      walk t.slots (Lin.pr hash t key)
        (fun i x => if stopL key x then some (Lin.written t (Lin.pr hash t key i) key val) else none) fuel i :=
  walk_eq _ _ _ id _ (fun _ => rfl) fun f i => by
    rw [Lin.putLoop]
    simp only [Lin.pr]
    rcases hx : t.slots[Lin.probeIdx t.m (mix (hash key)) i]? with _ | _ | e
    · rfl
    · simp [stopL, Lin.written, isUsedL_false_of_none hx]
    · by_cases hk : e.1 = key <;> simp [stopL, hk, Lin.written, isUsedL_true_of_some hx]

theorem Lin.getLoop_eq : ∀ fuel i,
    Lin.getLoop t (mix (hash key)) key fuel i =
      walk t.slots (Lin.pr hash t key) (fun _ x => if stopL key x then some (x.map (·.2)) else none) fuel i :=
  walk_eq _ _ _ id _ (fun _ => rfl) fun f i => by
    rw [Lin.getLoop]
    simp only [Lin.pr]
    rcases t.slots[Lin.probeIdx t.m (mix (hash key)) i]? with _ | _ | e
    · rfl
    · rfl
    · by_cases hk : e.1 = key <;> simp [stopL, hk]

theorem Lin.findLoop_eq : ∀ fuel i,
    Lin.findLoop t (mix (hash key)) key fuel i =
      walk t.slots (Lin.pr hash t key) (fun i x => if stopL key x then some (i, Lin.pr hash t key i) else none) fuel i :=
  walk_eq _ _ _ id _ (fun _ => rfl) fun f i => by
    rw [Lin.findLoop]
    simp only [Lin.pr]
    rcases t.slots[Lin.probeIdx t.m (mix (hash key)) i]? with _ | _ | e
    · rfl
    · rfl
    · by_cases hk : e.1 = key <;> simp [stopL, hk]

theorem Lin.probes_eq : ∀ fuel i,
    Lin.probes t (mix (hash key)) key fuel i =
      okVal (walk t.slots (Lin.pr hash t key) (fun i x => if stopL key x then some (i + 1) else none) fuel i) :=
  walk_eq _ _ _ okVal _ (fun _ => rfl) fun f i => by
    rw [Lin.probes]
    simp only [Lin.pr]
    rcases t.slots[Lin.probeIdx t.m (mix (hash key)) i]? with _ | _ | e
    · rfl
    · rfl
    · by_cases hk : e.1 = key <;> simp [stopL, hk, okVal]

theorem Lin.find_result (h : Lin.Inv hash t) :
    ∃ i1 x1, Found t.slots (keyAtL t.slots) (Lin.pr hash t key) (stopL key) key t.m t.m i1 x1 :=
  h.1.probed.found Prod.fst
    (fun _ k => keyAtL_eq_some.trans ⟨fun ⟨v, hv⟩ => ⟨(k, v), hv, rfl⟩, fun ⟨e, he, hk⟩ => ⟨e.2, hk ▸ he⟩⟩) key
    (Lin.pr_lt h.1 key) (Nat.le_refl _) (Lin.exists_free h key) (stopL key) rfl fun e => by simp [stopL]

theorem Lin.live_iff_found {hash : K → UInt64} {t : LinTable K V} {key : K} {i1 : Nat} {x1 : Option (K × V)}
    (hf : Found t.slots (keyAtL t.slots) (Lin.pr hash t key) (stopL key) key t.m t.m i1 x1) (v : V) :
    Lin.Live t key v ↔ x1 = some (key, v) := by
  constructor
  · rintro ⟨j, hj⟩
    have hji : j = Lin.pr hash t key i1 := by
      by_contra hne
      exact hf.other j hne (keyAtL_eq_some.2 ⟨v, hj⟩)
    rw [hji, hf.get] at hj
    exact Option.some.inj hj
  · rintro rfl
    exact ⟨_, hf.get⟩

theorem Lin.get_spec (h : Lin.Inv hash t) :
    ∃ o, Lin.get hash t key = .ok o ∧ ∀ v, o = some v ↔ Lin.Live t key v := by
  obtain ⟨i1, x1, hf⟩ := Lin.find_result hash t key h
  refine ⟨x1.map (·.2), ?_, fun v => ?_⟩
  · unfold Lin.get
    rw [Lin.getLoop_eq]
    exact hf.returns _ (fun _ x => x.map (·.2))
  · rw [Lin.live_iff_found hf]
    cases x1 with
    | none => simp
    | some e =>
      obtain ⟨k', v'⟩ := e
      have hke : k' = key := stopL_some hf.stops
      simp [hke]

theorem Lin.write_spec (val : V) (h : Lin.Inv hash t) {i1 : Nat} {x1 : Option (K × V)}
    (hf : Found t.slots (keyAtL t.slots) (Lin.pr hash t key) (stopL key) key t.m t.m i1 x1) :
    Lin.InvCore hash (Lin.written t (Lin.pr hash t key i1) key val) ∧
    ∀ k' v', Lin.Live (Lin.written t (Lin.pr hash t key i1) key val) k' v' ↔
      (k' = key ∧ v' = val) ∨ (k' ≠ key ∧ Lin.Live t k' v') := by
  have hidx := Lin.pr_lt h.1 key i1
  have hP := h.1.probed.set (keyAtL_set t.slots _ hidx (key, val)) hf.other
    ⟨i1, hf.lt, rfl, hf.before⟩
  have hS := h.1.stores.put hidx key val hf.other fun e he => by
    rw [hf.get] at he
    cases he
    exact stopL_some hf.stops
  exact ⟨⟨hS.size, h.1.pow2, h.1.minM, hS.n_eq, h.1.lf, hP.uniq, hP.reach⟩, hS.live⟩

/-- the load-factor bounds, which no operation changes -/
def Lin.par (t : LinTable K V) : LF × LF := (t.minLF, t.maxLF)

theorem Lin.putLoop_spec (val : V) (r : Nat) (h : Lin.Room hash (r + 1) t) :
    ∃ t', Lin.putLoop t (mix (hash key)) key val t.m 0 = .ok t' ∧ Lin.Room hash r t' ∧ PutPost Lin.par Lin.Live t key val t' := by
  have hInv := Lin.room_weaken h
  obtain ⟨i1, x1, hf⟩ := Lin.find_result hash t key hInv
  have hloop : Lin.putLoop t (mix (hash key)) key val t.m 0 = .ok (Lin.written t (Lin.pr hash t key i1) key val) := by
    rw [Lin.putLoop_eq]
    exact hf.returns _ (fun i _ => Lin.written t (Lin.pr hash t key i) key val)
  obtain ⟨hcore, hlive⟩ := Lin.write_spec hash t key val hInv hf
  refine ⟨_, hloop, ⟨hcore, Int.lt_of_le_of_lt (Int.mul_le_mul_of_nonneg_right ?_ (Int.natCast_nonneg _)) h.2⟩,
    ⟨rfl, hlive⟩⟩
  show t.n + (if isUsedL t.slots (Lin.pr hash t key i1) then 0 else 1) + (r : Int) ≤ t.n + ((r + 1 : Nat) : Int)
  split <;> omega

end

theorem Lin.liveAt_isSome (s : LSlots K V) (i : Nat) : (Lin.liveAt s i).isSome = isUsedL s i := by
  unfold Lin.liveAt isUsedL keyAtL
  cases hx : s[i]? with
  | none => rfl
  | some x => cases x <;> rfl

theorem Lin.liveAt_eq_some {s : LSlots K V} {i : Nat} {e : K × V} :
    Lin.liveAt s i = some e ↔ s[i]? = some (some e) := by
  unfold Lin.liveAt
  cases hx : s[i]? with
  | none => simp
  | some x => cases x <;> simp

theorem Lin.all_spec {sh : Shuffle σ} (hsh : ShufflePerm sh) {hash : K → UInt64} {t : LinTable K V}
    (hI : Lin.InvCore hash t) (g : σ) :
    NodupKeys (Lin.all sh t g).1 ∧ (∀ k v, (k, v) ∈ (Lin.all sh t g).1 ↔ Lin.Live t k v) ∧
      (((Lin.all sh t g).1.length : Nat) : Int) = t.n := by
  obtain ⟨hnd, hmem, hlen⟩ := listing_spec hsh g t.slots.size (Lin.liveAt t.slots) (fun i j k v v' h1 h2 =>
    hI.uniq i j _ (keyAtL_eq_some.2 ⟨v, Lin.liveAt_eq_some.1 h1⟩) (keyAtL_eq_some.2 ⟨v', Lin.liveAt_eq_some.1 h2⟩))
  refine ⟨hnd, fun k v => ?_, ?_⟩
  · show (k, v) ∈ (sh g t.slots.size).1.filterMap (Lin.liveAt t.slots) ↔ _
    rw [hmem]
    exact ⟨fun ⟨i, _, hi⟩ => ⟨i, Lin.liveAt_eq_some.1 hi⟩,
      fun ⟨i, he⟩ => ⟨i, lt_size_of_get he, Lin.liveAt_eq_some.2 he⟩⟩
  · show ((((sh g t.slots.size).1.filterMap (Lin.liveAt t.slots)).length : Nat) : Int) = t.n
    rw [hlen, hI.size, hI.n_eq]
    congr 1
    exact cnt_congr (fun i _ => Lin.liveAt_isSome t.slots i)

theorem keyAtL_replicate (m j : Nat) : keyAtL (Array.replicate m (none : Option (K × V))) j = none := by
  unfold keyAtL
  simp only [Array.getElem?_replicate]
  split <;> simp_all

def Lin.emptyTable (mp : Nat) (minLF maxLF : LF) : LinTable K V :=
  { slots := Array.replicate mp none, m := mp, n := 0, minLF := minLF, maxLF := maxLF }

theorem Lin.empty_inv (hash : K → UInt64) (mp : Nat) (minLF maxLF : LF)
    (hlf : ValidLF lpMinLF lpMaxLF minLF maxLF) (hm : symboltable_lpMinM ≤ mp) (hp : isPowerOf2 mp = true) :
    Lin.InvCore hash (Lin.emptyTable mp minLF maxLF : LinTable K V) ∧
    ∀ k v, ¬ Lin.Live (Lin.emptyTable mp minLF maxLF : LinTable K V) k v := by
  unfold Lin.emptyTable
  constructor
  · refine ⟨by simp, hp, hm, ?_, hlf, ?_, ?_⟩
    · simp only
      rw [cnt_false (fun i _ => by simp [isUsedL, keyAtL_replicate])]; rfl
    · intro i j k hi; simp only [keyAtL_replicate] at hi; cases hi
    · intro idx k hi; simp only [keyAtL_replicate] at hi; cases hi
  · rintro k v ⟨i, he⟩
    exact get_replicate_ne mp i (k, v) he

theorem Lin.new_spec (hash : K → UInt64) (mp : Nat) (minLF maxLF : LF)
    (hlf : ValidLF lpMinLF lpMaxLF minLF maxLF) (hm : symboltable_lpMinM ≤ mp) (hp : isPowerOf2 mp = true) :
    ∃ fresh : LinTable K V, Lin.new ⟨mp, minLF, maxLF⟩ = .ok fresh ∧ Lin.InvCore hash fresh ∧
      fresh.m = mp ∧ fresh.n = 0 ∧ Lin.par fresh = (minLF, maxLF) ∧ ∀ k v, ¬ Lin.Live fresh k v := by
  obtain ⟨a, b, _, _⟩ := Lin.lf_facts hlf
  have hm0 : mp ≠ 0 := by have := lpMinM_ge; omega
  obtain ⟨hcore, hempty⟩ := Lin.empty_inv (V := V) hash mp minLF maxLF hlf hm hp
  refine ⟨Lin.emptyTable mp minLF maxLF, ?_, hcore, rfl, rfl, rfl, hempty⟩
  unfold Lin.new Lin.emptyTable
  simp [hm0, Nat.ne_of_gt a, Nat.ne_of_gt b, Nat.not_lt.2 hm, hp]

theorem Lin.deleteAll_spec (hash : K → UInt64) (t : LinTable K V) (h : Lin.Inv hash t) :
    Lin.Inv hash (Lin.deleteAll t) ∧ ∀ k v, ¬ Lin.Live (Lin.deleteAll t) k v := by
  obtain ⟨hcore, hempty⟩ := Lin.empty_inv (V := V) hash t.m t.minLF t.maxLF h.1.lf h.1.minM h.1.pow2
  exact ⟨Lin.inv_of_empty hcore rfl, hempty⟩

theorem Lin.copy_back (t nt : LinTable K V) (h : Lin.par nt = Lin.par t) :
    ({ t with slots := nt.slots, m := nt.m, n := nt.n } : LinTable K V) = nt := by
  obtain ⟨sl, m, n, a, b⟩ := nt
  obtain ⟨rfl, rfl⟩ := Prod.mk.inj h
  rfl

section
variable {sh : Shuffle σ} (hsh : ShufflePerm sh) (hash : K → UInt64) (d : Nat) (t : LinTable K V) (g : σ)

/-- `Put` and `resize`, step by step as for separate chaining (`Chain.put_room` … `Chain.resize_any`, where the fuel `d + 1` /
`d + 2` is explained), with the probe loop in place of the bucket scan -/
theorem Lin.put_room (key : K) (val : V) (r : Nat) (h : Lin.Room hash (r + 1) t) :
    ∃ t' g', Lin.put sh hash (d + 1) t g key val = .ok (t', g') ∧ Lin.Room hash r t' ∧ PutPost Lin.par Lin.Live t key val t' := by
  have hcheck : ratioGE t.n t.m t.maxLF = false := by
    unfold ratioGE
    rw [decide_eq_false_iff_not, Int.not_le, ← room_one_iff]
    exact Int.lt_of_le_of_lt (room_mono (Int.natCast_nonneg _) (Nat.le_add_left 1 r)) h.2
  obtain ⟨t', h1, h2⟩ := Lin.putLoop_spec hash t key val r h
  refine ⟨t', g, ?_, h2⟩
  unfold Lin.put
  simp only [hcheck, Bool.false_eq_true, if_false, h1]

include hsh

theorem Lin.resize_core (putRec : LinTable K V → σ → K → V → Outcome (LinTable K V × σ)) (m' : Nat)
    (hI : Lin.InvCore hash t) (hm : symboltable_lpMinM ≤ m') (hp : isPowerOf2 m' = true) (Q : Nat → LinTable K V → Prop)
    (hput : ∀ r t1 g1 k v, Q (r + 1) t1 → ∃ t2 g2, putRec t1 g1 k v = .ok (t2, g2) ∧ Q r t2 ∧ PutPost Lin.par Lin.Live t1 k v t2)
    (hfresh : ∀ (fresh : LinTable K V) (len : Nat), Lin.InvCore hash fresh → (len : Int) = t.n → fresh.n = 0 →
      fresh.maxLF = t.maxLF → fresh.m = m' → Q len fresh) :
    ∃ t' g', Lin.resizeWith sh putRec t g m' = .ok (t', g') ∧ Q 0 t' ∧ Lin.par t' = Lin.par t ∧
      ∀ k v, Lin.Live t' k v ↔ Lin.Live t k v := by
  obtain ⟨fresh, hnew, hfI, hfm, hfn, hfpar, hfempty⟩ := Lin.new_spec (V := V) hash m' t.minLF t.maxLF hI.lf hm hp
  obtain ⟨hnd, hmem, hlen⟩ := Lin.all_spec hsh hI g
  obtain ⟨nt, g2, hf, hQ, hpar, hL⟩ := foldPut_fresh Lin.par Lin.Live Q putRec hput (Lin.all sh t g).1 fresh
    (Lin.all sh t g).2 hnd (hfresh fresh _ hfI hlen hfn (congrArg Prod.snd hfpar) hfm) hfempty
  refine ⟨nt, g2, ?_, hQ, hpar.trans hfpar, fun k v => (hL k v).trans (hmem k v)⟩
  unfold Lin.resizeWith
  simp only [Nat.not_lt.2 hm, if_false, hnew, hf, Lin.copy_back t nt (hpar.trans hfpar)]

theorem Lin.resize_fits (m' : Nat) (hI : Lin.InvCore hash t) (hm : symboltable_lpMinM ≤ m') (hp : isPowerOf2 m' = true)
    (hfit : (t.n + 1) * (t.maxLF.den : Int) < (t.maxLF.num : Int) * (m' : Int) + (t.maxLF.den : Int)) :
    ∃ t' g', Lin.resizeWith sh (Lin.put sh hash (d + 1)) t g m' = .ok (t', g') ∧ Lin.Room hash 1 t' ∧
      Lin.par t' = Lin.par t ∧ ∀ k v, Lin.Live t' k v ↔ Lin.Live t k v := by
  apply Lin.resize_core hsh hash t g _ m' hI hm hp (fun r t' => Lin.Room hash (r + 1) t')
  · exact fun r t1 g1 k v h => Lin.put_room hash d t1 g1 k v (r + 1) h
  · intro fresh len hfI hlen hfn hfmax hfm
    refine ⟨hfI, ?_⟩
    rw [hfn, hfmax, hfm, show (0 : Int) + ((len + 1 : Nat) : Int) = t.n + 1 by omega]
    exact hfit

theorem Lin.put_any (key : K) (val : V) (h : Lin.Inv hash t) :
    ∃ t' g', Lin.put sh hash (d + 2) t g key val = .ok (t', g') ∧ Lin.Inv hash t' ∧ PutPost Lin.par Lin.Live t key val t' := by
  by_cases hcheck : ratioGE t.n t.m t.maxLF = true
  · have hm := Lin.m_ge h.1
    have hroom : t.n * (t.maxLF.den : Int) < (t.maxLF.num : Int) * (t.m : Int) + (t.maxLF.den : Int) := by
      have := h.2
      rwa [Int.natCast_zero, Int.add_zero] at this
    obtain ⟨t1, g1, hr, hR1, hpar1, hL1⟩ := Lin.resize_fits hsh hash d t g (2 * t.m) h.1
      (by have := h.1.minM; omega) (isPowerOf2_double t.m (by omega) h.1.pow2)
      (by
        rw [Int.natCast_mul, Int.mul_left_comm]
        exact fits_double_lt hroom (Lin.den_le h.1))
    obtain ⟨t2, h2, hR2, hp2⟩ := Lin.putLoop_spec hash t1 key val 0 hR1
    refine ⟨t2, g1, ?_, hR2, hp2.par.trans hpar1, ?_⟩
    · rw [Lin.put]
      simp only [hcheck, if_true, hr, h2]
    · intro k' v'
      rw [hp2.live, hL1]
  · have hroom : Lin.Room hash 1 t := by
      unfold ratioGE at hcheck
      rw [decide_eq_true_eq, Int.not_le] at hcheck
      exact ⟨h.1, room_one_iff.2 hcheck⟩
    exact Lin.put_room hash (d + 1) t g key val 0 hroom

theorem Lin.resize_any (m' : Nat) (h : Lin.Inv hash t) (hp : symboltable_lpMinM ≤ m' → isPowerOf2 m' = true) :
    ∃ t' g', Lin.resizeWith sh (Lin.put sh hash (d + 2)) t g m' = .ok (t', g') ∧ Lin.Inv hash t' ∧
      ∀ k v, Lin.Live t' k v ↔ Lin.Live t k v := by
  by_cases hm : m' < symboltable_lpMinM
  · exact ⟨t, g, by simp [Lin.resizeWith, hm], h, fun _ _ => Iff.rfl⟩
  · obtain ⟨t', g', hr, hinv, _, hL⟩ := Lin.resize_core hsh hash t g (Lin.put sh hash (d + 2)) m' h.1
      (Nat.not_lt.1 hm) (hp (Nat.not_lt.1 hm)) (fun _ t' => Lin.Inv hash t')
      (fun _ t1 g1 k v h => Lin.put_any hsh hash d t1 g1 k v h)
      (fun _ _ hfI _ hfn _ _ => Lin.inv_of_empty hfI hfn)
    exact ⟨t', g', hr, hinv, hL⟩

end

end AlgoVerif.C02
