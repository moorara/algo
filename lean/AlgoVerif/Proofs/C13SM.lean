import AlgoVerif.Proofs.C13DFA
/-! C13: the state manager (`GetOrCreateState`), loops that thread it (`Thread`), and the transition-copying
loops: the one of `Concat`, which adds the transitions of the operand's start state from other states instead of
copying that state, and the one of Star/Union/CombineDFA, which is the same loop with no such state. -/
namespace AlgoVerif.C13
open AlgoVerif AlgoVerif.C13.Spec

structure SM.Le (m m' : SM) : Prop where
  keep : ∀ id s v, m.find id s = some v → m'.find id s = some v

structure SM.Inv (m : SM) (lo : Int) : Prop where
  lo_le : lo ≤ m.last
  range : ∀ e ∈ m.tbl, lo < e.2 ∧ e.2 ≤ m.last
  incr : (m.tbl.map (·.2)).Pairwise (· < ·)

theorem SM.Le.refl (m : SM) : m.Le m := ⟨fun _ _ _ h => h⟩
theorem SM.Le.trans {a b c : SM} (h1 : a.Le b) (h2 : b.Le c) : a.Le c :=
  ⟨fun id s v h => h2.keep id s v (h1.keep id s v h)⟩

theorem SM.Inv_new (lo : Int) : (SM.new lo).Inv lo := ⟨Int.le_refl _, by simp [SM.new], by simp [SM.new]⟩

theorem SM.find_mem {m : SM} {id : Nat} {s v : Int} (h : m.find id s = some v) : ((id, s), v) ∈ m.tbl := by
  simp only [SM.find, Option.map_eq_some_iff] at h
  obtain ⟨e, he, rfl⟩ := h
  have h1 := List.mem_of_find?_eq_some he
  have h2 := List.find?_some he
  simp at h2
  obtain ⟨⟨i, t⟩, v⟩ := e
  simp at h2; obtain ⟨rfl, rfl⟩ := h2
  exact h1

theorem SM.inj {m : SM} {lo : Int} (h : m.Inv lo) {id id' : Nat} {s s' v : Int}
    (h1 : m.find id s = some v) (h2 : m.find id' s' = some v) : id = id' ∧ s = s' := by
  have := pairwise_lt_inj (·.2) m.tbl h.incr (SM.find_mem h1) (SM.find_mem h2) rfl
  simp at this; exact this

theorem SM.find_range {m : SM} {lo : Int} (h : m.Inv lo) {id : Nat} {s v : Int}
    (h1 : m.find id s = some v) : lo < v ∧ v ≤ m.last := h.range _ (SM.find_mem h1)

theorem SM.get_of_find {m : SM} {id : Nat} {s v : Int} (h : m.find id s = some v) : m.get id s = (m, v) := by
  simp [SM.get, h]

theorem SM.find_snoc (m : SM) (l v : Int) (id : Nat) (s : Int) (id' : Nat) (s' : Int) :
    (SM.mk l (m.tbl ++ [((id, s), v)])).find id' s' =
      (m.find id' s').or (if id = id' ∧ s = s' then some v else none) := by
  simp only [SM.find, List.find?_append, Option.map_or]
  by_cases h : id = id' ∧ s = s'
  · obtain ⟨rfl, rfl⟩ := h; simp
  · have hne : ((id, s) == (id', s')) = false := by simpa using h
    simp [hne, h]

theorem SM.get_spec (m : SM) (lo : Int) (hm : m.Inv lo) (id : Nat) (s : Int) :
    m.Le (m.get id s).1 ∧ (m.get id s).1.Inv lo ∧ (m.get id s).1.find id s = some (m.get id s).2 := by
  cases hf : m.find id s with
  | some v => rw [SM.get_of_find hf]; exact ⟨SM.Le.refl m, hm, hf⟩
  | none =>
    have hget : m.get id s = (⟨m.last + 1, m.tbl ++ [((id, s), m.last + 1)]⟩, m.last + 1) := by
      simp [SM.get, hf]
    rw [hget]
    have hlo := hm.lo_le
    refine ⟨⟨fun id' s' v h => ?_⟩, ⟨?_, ?_, ?_⟩, ?_⟩
    · rw [SM.find_snoc, h]; rfl
    · show lo ≤ m.last + 1; omega
    · intro e he
      show lo < e.2 ∧ e.2 ≤ m.last + 1
      rcases List.mem_append.1 he with he | he
      · have := hm.range e he; omega
      · obtain rfl := List.mem_singleton.1 he
        exact ⟨by show lo < m.last + 1; omega, Int.le_refl _⟩
    · show ((m.tbl ++ [((id, s), m.last + 1)]).map (·.2)).Pairwise (· < ·)
      rw [List.map_append, List.pairwise_append]
      refine ⟨hm.incr, List.pairwise_singleton _ _, fun a ha b hb => ?_⟩
      obtain rfl : b = m.last + 1 := by simpa using hb
      obtain ⟨e, he, rfl⟩ := List.mem_map.1 ha
      have := (hm.range e he).2; omega
    · rw [SM.find_snoc, hf]; simp

/-! ### loops that thread the state manager

Every loop of `Star`, `Union`, `Concat`, `CombineDFA` and `ReindexStates` carries a state manager along
with what it builds.  `Thread … acc acc' Q B` describes a piece of such a loop that builds an NFA or a list
(`Star`, `Union`, `Concat`, the union step of `CombineDFA`), taking the loop state `acc`
to `acc'`: bindings were only added; `fix` of the loop state is unchanged; what is observed of it (`obs`:
its transitions, or the members of a list) grew by `Q M`; and `B M` holds — both for *every* later state
manager `M`, so that pieces compose without moving facts from one manager to the next.  `ReindexStates` and the
last remapping of `CombineDFA` are described by `Numbers` (`C13Numbers`), which gives the result exactly: the
`DFA.add` of `ReindexStates` overwrites, so what is observed of its result does not only grow. -/

section thread
variable {σ β γ : Type} {lo : Int} {sm : σ → SM} {fix : σ → γ} {obs : σ → β → Prop}

structure Thread (lo : Int) (sm : σ → SM) (fix : σ → γ) (obs : σ → β → Prop) (acc acc' : σ)
    (Q : SM → β → Prop) (B : SM → Prop) : Prop where
  le : (sm acc).Le (sm acc')
  inv : (sm acc').Inv lo
  fix : fix acc' = fix acc
  bound : ∀ M, (sm acc').Le M → B M
  grow : ∀ M, (sm acc').Le M → ∀ b, obs acc' b ↔ obs acc b ∨ Q M b

theorem Thread.refl {acc : σ} (h : (sm acc).Inv lo) :
    Thread lo sm fix obs acc acc (fun _ _ => False) (fun _ => True) :=
  ⟨SM.Le.refl _, h, rfl, fun _ _ => trivial, fun _ _ _ => by simp⟩

theorem Thread.trans {a b c : σ} {Q₁ Q₂ : SM → β → Prop} {B₁ B₂ : SM → Prop}
    (h₁ : Thread lo sm fix obs a b Q₁ B₁) (h₂ : Thread lo sm fix obs b c Q₂ B₂) :
    Thread lo sm fix obs a c (fun M x => Q₁ M x ∨ Q₂ M x) (fun M => B₁ M ∧ B₂ M) :=
  ⟨h₁.le.trans h₂.le, h₂.inv, h₂.fix.trans h₁.fix,
   fun M hM => ⟨h₁.bound M (h₂.le.trans hM), h₂.bound M hM⟩,
   fun M hM x => by rw [h₂.grow M hM, h₁.grow M (h₂.le.trans hM), or_assoc]⟩

theorem Thread.weaken {a b : σ} {Q Q' : SM → β → Prop} {B B' : SM → Prop} (h : Thread lo sm fix obs a b Q B)
    (hQ : ∀ M, (sm b).Le M → B M → ∀ x, Q M x ↔ Q' M x) (hB : ∀ M, (sm b).Le M → B M → B' M) :
    Thread lo sm fix obs a b Q' B' :=
  ⟨h.le, h.inv, h.fix, fun M hM => hB M hM (h.bound M hM),
   fun M hM x => by rw [h.grow M hM, hQ M hM (h.bound M hM)]⟩

theorem Thread.foldl {α : Type} {f : σ → α → σ} {Q : α → SM → β → Prop} {B : α → SM → Prop} (xs : List α)
    (hf : ∀ acc, ∀ e ∈ xs, (sm acc).Inv lo → Thread lo sm fix obs acc (f acc e) (Q e) (B e))
    (acc : σ) (h : (sm acc).Inv lo) :
    Thread lo sm fix obs acc (xs.foldl f acc) (fun M x => ∃ e ∈ xs, Q e M x) (fun M => ∀ e ∈ xs, B e M) := by
  induction xs generalizing acc with
  | nil => exact (Thread.refl h).weaken (by simp) (by simp)
  | cons e xs ih =>
    have h1 := hf acc e (by simp) h
    exact (h1.trans (ih (fun acc e' he' => hf acc e' (by simp [he'])) _ h1.inv)).weaken
      (fun M _ _ x => by simp) (fun M _ hB => by simpa using hB)

theorem Thread.foldlIdx {α : Type} {f : σ → Nat → α → σ} {Q : Nat → α → SM → β → Prop} {B : Nat → α → SM → Prop}
    (xs : List α) (hf : ∀ acc i, ∀ e ∈ xs, (sm acc).Inv lo → Thread lo sm fix obs acc (f acc i e) (Q i e) (B i e))
    (k : Nat) (acc : σ) (h : (sm acc).Inv lo) :
    Thread lo sm fix obs acc (foldlIdx f acc xs k) (fun M x => ∃ i e, xs[i]? = some e ∧ Q (k + i) e M x)
      (fun M => ∀ i e, xs[i]? = some e → B (k + i) e M) := by
  induction xs generalizing k acc with
  | nil => exact (Thread.refl h).weaken (by simp) (by simp)
  | cons e xs ih =>
    have h1 := hf acc k e (by simp) h
    refine (h1.trans (ih (fun acc i e' he' => hf acc i e' (by simp [he'])) (k + 1) _ h1.inv)).weaken
      (fun M _ _ x => ?_) (fun M _ hB i e' he' => ?_)
    · rw [exists_getElem?_cons]; simp only [Nat.add_zero, Nat.add_assoc, Nat.add_comm 1]
    · cases i with
      | zero => obtain rfl : e = e' := by simpa using he'
                exact hB.1
      | succ i => rw [show k + (i + 1) = k + 1 + i by omega]; exact hB.2 i e' he'

end thread

/-- loops over a state manager and the NFA under construction: start and final states stay, transitions are added -/
abbrev NThread (lo : Int) := Thread (σ := SM × NFA) (β := Int × Int × Int) lo Prod.fst
  (fun r => (r.2.start, r.2.final)) (fun r e => r.2.Δ e.1 e.2.1 e.2.2)

theorem Thread.start {lo : Int} {a b : SM × NFA} {Q : SM → Int × Int × Int → Prop} {B : SM → Prop}
    (h : NThread lo a b Q B) : b.2.start = a.2.start := (Prod.mk.inj h.fix).1

theorem Thread.final {lo : Int} {a b : SM × NFA} {Q : SM → Int × Int × Int → Prop} {B : SM → Prop}
    (h : NThread lo a b Q B) : b.2.final = a.2.final := (Prod.mk.inj h.fix).2

/-- loops over a state manager and a list of states to which members are added -/
abbrev LThread (lo : Int) := Thread (σ := SM × List Int) (β := Int) lo Prod.fst (fun _ => ()) (fun r y => y ∈ r.2)

theorem SM.find_get_iff {lo : Int} {m M : SM} (hm : m.Inv lo) {id : Nat} {s : Int} (h : (m.get id s).1.Le M) (x : Int) :
    M.find id s = some x ↔ x = (m.get id s).2 := by
  rw [h.keep _ _ _ (SM.get_spec m lo hm id s).2.2]
  exact ⟨fun h => (Option.some.inj h).symm, fun h => h ▸ rfl⟩

theorem SM.mapList_thread {lo : Int} (m : SM) (hm : m.Inv lo) (id : Nat) (ts : List Int) :
    LThread lo (m, []) (m.mapList id ts) (fun M y => ∃ t ∈ ts, M.find id t = some y)
      (fun M => ∀ t ∈ ts, ∃ y, M.find id t = some y) := by
  unfold SM.mapList
  apply Thread.foldl
  · intro acc t _ h
    exact ⟨(SM.get_spec acc.1 lo h id t).1, (SM.get_spec acc.1 lo h id t).2.1, rfl,
      fun M hM => ⟨_, (SM.find_get_iff h hM _).2 rfl⟩,
      fun M hM y => by simp [SM.find_get_iff h hM]⟩
  · exact hm

theorem SM.mapList_mem {lo : Int} {m M : SM} (hm : m.Inv lo) {id : Nat} {ts : List Int}
    (hM : (m.mapList id ts).1.Le M) (y : Int) : y ∈ (m.mapList id ts).2 ↔ ∃ t ∈ ts, M.find id t = some y := by
  simpa using (SM.mapList_thread m hm id ts).grow M hM y

/-- the relation denoted by a raw two-level table (all entries, shadowed or not): the copying loops walk the table, so what
they add is stated of it, with no `WF`; for a well-formed `n` it is `n.Δ` (`tblΔ_eq`) -/
def tblΔ (tr : List (Int × List (Int × List Int))) (s a t : Int) : Prop :=
  ∃ st, (s, st) ∈ tr ∧ ∃ nx, (a, nx) ∈ st ∧ t ∈ nx

theorem tblΔ_iff {n : NFA} (h : n.WF) (s a t : Int) : tblΔ n.trans s a t ↔ n.Δ s a t := by
  simp only [tblΔ, NFA.Δ, NFA.next]
  constructor
  · rintro ⟨st, h1, nx, h2, h3⟩
    have e1 := (mem_iff_aget h.1 s st).1 h1
    have e2 := (mem_iff_aget (h.2 _ h1) a nx).1 h2
    exact ⟨nx, by rw [e1]; exact e2, h3⟩
  · rintro ⟨nx, h1, h3⟩
    split at h1
    · rename_i st hst; exact ⟨st, aget_mem hst, nx, aget_mem h1, h3⟩
    · simp at h1

theorem tblΔ_eq {n : NFA} (h : n.WF) : tblΔ n.trans = n.Δ :=
  funext fun s => funext fun a => funext fun t => propext (tblΔ_iff h s a t)

/-- the copy under `id` of the relation `R`, as seen by the state manager `M` -/
def SM.img (M : SM) (id : Nat) (R : Int → Int → Int → Prop) (x a y : Int) : Prop :=
  ∃ s t, R s a t ∧ M.find id s = some x ∧ M.find id t = some y

def SM.Covers (M : SM) (id : Nat) (R : Int → Int → Int → Prop) : Prop :=
  ∀ s a t, R s a t → (∃ x, M.find id s = some x) ∧ ∃ y, M.find id t = some y

theorem NFA.Δ_foldl_add_sources (sp : List Int) (a : Int) (nx : List Int) (C : NFA) (x b y : Int) :
    (sp.foldl (fun c s => c.add s a nx) C).Δ x b y ↔ C.Δ x b y ∨ (x ∈ sp ∧ b = a ∧ y ∈ nx) :=
  (foldl_grow (fun (c : NFA) (e : Int × Int × Int) => c.Δ e.1 e.2.1 e.2.2)
    (fun c s e => NFA.Δ_add c s a nx e.1 e.2.1 e.2.2) sp C (x, b, y)).trans
    (or_congr_right ⟨fun ⟨_, he, h1, h2⟩ => ⟨(show x = _ from h1) ▸ he, h2⟩, fun ⟨h1, h2⟩ => ⟨x, h1, rfl, h2⟩⟩)

theorem NFA.start_foldl_add_sources (sp : List Int) (a : Int) (nx : List Int) (C : NFA) :
    (sp.foldl (fun c s => c.add s a nx) C).start = C.start ∧ (sp.foldl (fun c s => c.add s a nx) C).final = C.final := by
  induction sp generalizing C with
  | nil => simp
  | cons s sp ih => simp only [List.foldl_cons]; rw [(ih _).1, (ih _).2]; simp

/-- the inner loop of `Concat`: the transitions of one source state of the operand, added from every state of `sp` -/
def concatInner (id : Nat) (sp : List Int) (es : List (Int × List Int)) (m : SM) (C : NFA) : SM × NFA :=
  es.foldl (fun (a : SM × NFA) e =>
    ((a.1.mapList id e.2).1, sp.foldl (fun c s => c.add s e.1 (a.1.mapList id e.2).2) a.2)) (m, C)

theorem concatInner_thread {lo : Int} (id : Nat) (sp : List Int) (es : List (Int × List Int)) (r : SM × NFA)
    (hm : r.1.Inv lo) :
    NThread lo r (concatInner id sp es r.1 r.2)
      (fun M b => ∃ e ∈ es, b.1 ∈ sp ∧ b.2.1 = e.1 ∧ ∃ t ∈ e.2, M.find id t = some b.2.2)
      (fun M => ∀ e ∈ es, ∀ t ∈ e.2, ∃ y, M.find id t = some y) := by
  unfold concatInner
  apply Thread.foldl
  · intro acc e _ h
    have hl := SM.mapList_thread acc.1 h id e.2
    exact ⟨hl.le, hl.inv, Prod.ext (NFA.start_foldl_add_sources ..).1 (NFA.start_foldl_add_sources ..).2,
      hl.bound, fun M hM b => by rw [NFA.Δ_foldl_add_sources, SM.mapList_mem h hM]⟩
  · exact hm

/-- the inner loop of `copyTrans` for one source state, already mapped to `ss` -/
def copyInner (id : Nat) (ss : Int) (es : List (Int × List Int)) (m : SM) (dst : NFA) : SM × NFA :=
  es.foldl (fun (acc : SM × NFA) e =>
    ((acc.1.mapList id e.2).1, acc.2.add ss e.1 (acc.1.mapList id e.2).2)) (m, dst)

/-- the transition loop of `Concat` for one operand, on a raw table; `isStart` says which source state is not copied -/
def concatTransL (id : Nat) (isStart : Int → Prop) [DecidablePred isStart] (extra : List Int)
    (tr : List (Int × List (Int × List Int))) (m : SM) (C : NFA) : SM × NFA :=
  tr.foldl (fun (a : SM × NFA) st =>
    concatInner id (if isStart st.1 then extra else [(a.1.get id st.1).2]) st.2
      (if isStart st.1 then a.1 else (a.1.get id st.1).1) a.2) (m, C)

theorem concatTransL_thread {lo : Int} (id : Nat) (isStart : Int → Prop) [DecidablePred isStart] (extra : List Int)
    (tr : List (Int × List (Int × List Int))) (r : SM × NFA) (hm : r.1.Inv lo) :
    NThread lo r (concatTransL id isStart extra tr r.1 r.2)
      (fun M b => ∃ s t, tblΔ tr s b.2.1 t ∧ M.find id t = some b.2.2 ∧
        ((¬ isStart s ∧ M.find id s = some b.1) ∨ (isStart s ∧ b.1 ∈ extra)))
      (fun M => ∀ s a t, tblΔ tr s a t →
        (∃ y, M.find id t = some y) ∧ (¬ isStart s → ∃ x, M.find id s = some x)) := by
  unfold concatTransL
  refine (Thread.foldl (Q := fun st M b => ∃ e ∈ st.2,
        ((¬ isStart st.1 ∧ M.find id st.1 = some b.1) ∨ (isStart st.1 ∧ b.1 ∈ extra)) ∧
        b.2.1 = e.1 ∧ ∃ t ∈ e.2, M.find id t = some b.2.2)
    (B := fun st M => (¬ isStart st.1 → ∃ x, M.find id st.1 = some x) ∧
        ∀ e ∈ st.2, ∀ t ∈ e.2, ∃ y, M.find id t = some y)
    tr (fun acc st _ h => ?_) r hm).weaken (fun M _ _ b => ?_) (fun M _ hB s a t hd => ?_)
  · by_cases hs : isStart st.1
    · simp only [hs, if_true, not_true, false_and, true_and, false_or, false_implies]
      exact concatInner_thread id extra st.2 acc h
    · simp only [hs, if_false, not_false_eq_true, true_and, false_and, or_false, true_implies]
      obtain ⟨g1, g2, -⟩ := SM.get_spec acc.1 lo h id st.1
      have hc := concatInner_thread id [(acc.1.get id st.1).2] st.2 ((acc.1.get id st.1).1, acc.2) g2
      exact ⟨g1.trans hc.le, hc.inv, hc.fix,
        fun M hM => ⟨⟨_, (SM.find_get_iff h (hc.le.trans hM) _).2 rfl⟩, hc.bound M hM⟩,
        fun M hM b => by simp only [hc.grow M hM, SM.find_get_iff h (hc.le.trans hM), List.mem_singleton]⟩
  · constructor
    · rintro ⟨st, hst, e, he, hx, ha, t, ht, hy⟩
      exact ⟨st.1, t, ⟨st.2, hst, e.2, ha ▸ he, ht⟩, hy, hx⟩
    · rintro ⟨s, t, ⟨es, hst, nx, he, ht⟩, hy, hx⟩
      exact ⟨(s, es), hst, (b.2.1, nx), he, hx, rfl, t, ht, hy⟩
  · obtain ⟨es, hst, nx, he, ht⟩ := hd
    exact ⟨(hB _ hst).2 _ he t ht, (hB _ hst).1⟩

/-- `copyTrans` on a raw table -/
def copyTransL (id : Nat) (tr : List (Int × List (Int × List Int))) (m : SM) (dst : NFA) : SM × NFA :=
  tr.foldl (fun (acc : SM × NFA) st =>
    copyInner id (acc.1.get id st.1).2 st.2 (acc.1.get id st.1).1 acc.2) (m, dst)

theorem copyTrans_eq (id : Nat) (n : NFA) (m : SM) (dst : NFA) : copyTrans id n m dst = copyTransL id n.trans m dst := rfl

/-- `copyTrans` is `concatTransL` with no start state: `copyTransL` unfolds to it, since `if False then … else …` and the fold
over the one source `[ss]` (`copyInner` for `concatInner`) reduce -/
theorem copyTrans_thread {lo : Int} (id : Nat) (n : NFA) (m : SM) (dst : NFA) (hm : m.Inv lo) :
    NThread lo (m, dst) (copyTrans id n m dst) (fun M b => M.img id (tblΔ n.trans) b.1 b.2.1 b.2.2)
      (fun M => M.Covers id (tblΔ n.trans)) := by
  rw [copyTrans_eq]
  exact (concatTransL_thread id (fun _ => False) [] n.trans (m, dst) hm).weaken
    (fun M _ _ b => by
      simp only [not_false_eq_true, true_and, false_and, or_false, SM.img]
      exact ⟨fun ⟨s, t, h1, h2, h3⟩ => ⟨s, t, h1, h3, h2⟩, fun ⟨s, t, h1, h2, h3⟩ => ⟨s, t, h1, h3, h2⟩⟩)
    (fun M _ hB s a t hd => ⟨(hB s a t hd).2 not_false, (hB s a t hd).1⟩)

end AlgoVerif.C13
