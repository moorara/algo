import AlgoVerif.Proofs.C14Heap
import AlgoVerif.Proofs.C14Mst
/-!
# C14 proofs — eager Prim (`MinimumSpanningTree`) builds a spanning forest of minimum weight

One `prim(g, r)` run (root `r`, `O` = the vertices visited before the run, a set closed under the arcs):
queued vertices are unvisited and (except `r`) hold a parent edge to a vertex visited in this run; every
vertex visited in this run is connected to `r` by parent links; every neighbour of a vertex visited in this run
is visited or queued.  When the queue is empty the run has visited exactly the component of `r`.
Parent links lead to vertices visited earlier (a rank), so the links form a forest.

Minimum weight: `ForestOK` also records that the parent edge of `w` was, when `w` was visited, a lightest stored edge between the
vertices visited before `w` and the others — `Delete` returned a least key, and every neighbour of a vertex visited in the run
is queued with a key at most the weight of the edge that joins them (`RInv.closed`).  `mst_minimum` packs this as a `CutCert`
and applies the exchange argument (`cut_rule_optimal`, `Proofs/C14Mst.lean`).
-/
namespace AlgoVerif.C14

def MST.dist (m : MST) (v : Nat) : Option Int := m.distTo.getD v none

/-- parent link of a *visited* vertex (these never change again) -/
def VLink (g : Graph) (m : MST) (w p : Nat) : Prop := Vis m.visited w ∧ TLink g m w p
def VArc (g : Graph) (m : MST) (a b : Nat) : Prop := VLink g m a b ∨ VLink g m b a

theorem VArc.symm {g : Graph} {m : MST} {a b : Nat} (h : VArc g m a b) : VArc g m b a := Or.symm h

theorem VLink.mono {g : Graph} {m m' : MST} (hv : ∀ x, Vis m.visited x → Vis m'.visited x)
    (hp : ∀ x, Vis m.visited x → m'.par x = m.par x) {w p : Nat} (h : VLink g m w p) : VLink g m' w p := by
  obtain ⟨h1, h2, h3, h4⟩ := h
  exact ⟨hv w h1, by rw [hp w h1]; exact h2, by rw [hp w h1]; exact h3, by rw [hp w h1]; exact h4⟩

theorem VArc.mono {g : Graph} {m m' : MST} (hv : ∀ x, Vis m.visited x → Vis m'.visited x)
    (hp : ∀ x, Vis m.visited x → m'.par x = m.par x) {a b : Nat} (h : VArc g m a b) : VArc g m' a b := by
  rcases h with h | h
  · exact Or.inl (h.mono hv hp)
  · exact Or.inr (h.mono hv hp)

/-- the rank certificate of the parent links: ranks bound, distinct, decreasing towards the parent, and every
parent edge is a lightest stored edge between the vertices ranked before its child and the others.  The ranks stay below `c`
so that the vertex visited next takes rank `c`.  In the last clause the far end `b` lies outside the cut either because it is
not visited yet (what holds when `w` is visited) or because it is `w` or was visited after it (what is left of that later). -/
def ForestOK (g : Graph) (m : MST) : Prop :=
  ∃ (rank : Nat → Nat) (c : Nat),
    (∀ w, Vis m.visited w → rank w < c) ∧
    (∀ x y, Vis m.visited x → Vis m.visited y → rank x = rank y → x = y) ∧
    (∀ w p, VLink g m w p → Vis m.visited p ∧ rank p < rank w) ∧
    (∀ w p, VLink g m w p → ∀ f a b, g.StoredEdge f → Joins f a b → Vis m.visited a → rank a < rank w →
      (¬ Vis m.visited b ∨ rank w ≤ rank b) → (m.par w).w ≤ f.w)

structure MBase (g : Graph) (m : MST) : Prop where
  vsz : m.visited.size = g.n
  esz : m.edgeTo.size = g.n
  dsz : m.distTo.size = g.n
  hv : HInv g.n m.pq

/-- invariant of one `prim` run; `cur = some (w, done)`: inside the adjacency loop of `w` after `done` -/
structure RInv (g : Graph) (r : Nat) (O : Array Bool) (m : MST) (cur : Option (Nat × List Arc)) : Prop where
  base : MBase g m
  oldv : ∀ x, Vis O x → Vis m.visited x
  oldc : ∀ x, Vis O x → ∀ y, g.HasArc x y → Vis O y
  rnew : ¬ Vis O r
  keys : ∀ w k, m.pq.ky w = some k → ¬ Vis m.visited w ∧ m.dist w = some k ∧
    ((w = r ∧ m.par w = Edge.zero) ∨ (m.par w ≠ Edge.zero ∧ (m.par w).w = k ∧ ∃ p, Vis m.visited p ∧ ¬ Vis O p ∧
      Joins (m.par w) w p ∧ g.HasEdge p w (m.par w)))
  reached : ∀ w d, m.dist w = some d → Vis m.visited w ∨ m.pq.ky w = some d
  conn : ∀ w, Vis m.visited w → ¬ Vis O w → Reach (VArc g m) w r
  closed : ∀ w, Vis m.visited w → ¬ Vis O w → ∀ x ∈ g.adj.getD w [],
    (∀ d, cur = some (w, d) → x ∈ d) → Vis m.visited x.to ∨ ∃ k, m.pq.ky x.to = some k ∧ k ≤ x.e.w
  forest : ForestOK g m
  oldconn : ∀ x y, Vis O x → Vis O y → Reach g.HasArc x y → Reach (VArc g m) x y
  links : ∀ w, Vis m.visited w → m.par w ≠ Edge.zero → ∃ p, VLink g m w p
  zero : ∀ w, ¬ Vis m.visited w → m.pq.ky w = none → m.par w = Edge.zero
  rootq : Vis m.visited r ∨ (m.pq.ky r).isSome

theorem RInv.snoc {g : Graph} {r : Nat} {O : Array Bool} {m : MST} {w : Nat} {done : List Arc} {x : Arc}
    (hi : RInv g r O m (some (w, done)))
    (hx : Vis m.visited x.to ∨ ∃ k, m.pq.ky x.to = some k ∧ k ≤ x.e.w) : RInv g r O m (some (w, done ++ [x])) := by
  refine { hi with closed := fun v hv hno y hy hcur => ?_ }
  by_cases hyx : y = x ∧ v = w
  · rw [hyx.1]; exact hx
  · refine hi.closed v hv hno y hy fun d hd => ?_
    cases hd
    exact (List.mem_append.1 (hcur _ rfl)).elim id fun h => absurd ⟨List.mem_singleton.1 h, rfl⟩ hyx

theorem RInv.leave {g : Graph} {r : Nat} {O : Array Bool} {m : MST} {w : Nat}
    (hi : RInv g r O m (some (w, g.adj.getD w []))) : RInv g r O m none :=
  { hi with closed := fun v hv hno x hx _ => hi.closed v hv hno x hx fun d hd => by cases hd; exact hx }

section

variable {g : Graph} (hg : g.WF) (hu : g.UWF) (r : Nat) (O : Array Bool)
include hg hu

theorem primInner_spec (w : Nat) (V : Array Bool) (hwv : Vis V w) (hwo : ¬ Vis O w) (m : MST)
    (hin : RInv g r O m (some (w, []))) (hV : m.visited = V) :
    ∃ m', primInner (g.adj.getD w []) m = .ok m' ∧ RInv g r O m' (some (w, g.adj.getD w [])) ∧ m'.visited = V := by
  refine list_loop_inv (I := fun done m => RInv g r O m (some (w, done)) ∧ m.visited = V) (fun _ => rfl) _
    (fun done x rest m hadj ⟨hin, hV⟩ => ?_) m ⟨hin, hV⟩
  subst hV
  have hx : x ∈ g.adj.getD w [] := by rw [hadj]; simp
  have hyn : x.to < g.n := hg.bound w x hx
  have hj : Joins x.e w x.to := hu w x hx
  rw [primInner]
  rcases vis_or_false (hin.base.vsz ▸ hyn : x.to < m.visited.size) with hvis | hunv
  · exact ⟨m, by rw [show m.visited[x.to]? = some true from hvis], hin.snoc (.inl hvis), rfl⟩
  · have hnv : ¬ Vis m.visited x.to := not_vis_of_false hunv
    have hgd : m.distTo[x.to]? = some (m.dist x.to) := getD_of_lt _ _ (hin.base.dsz ▸ hyn)
    rw [hunv, hgd]
    cases hlt : ltDist x.e.w (m.dist x.to) with
    | false =>
      obtain ⟨d, hd, hle⟩ := le_of_not_ltDist hlt
      refine ⟨m, ?_, hin.snoc (.inr ⟨d, (hin.reached _ d hd).resolve_left hnv, hle⟩), rfl⟩
      simp only [hlt, Bool.false_eq_true, if_false]
    | true =>
      obtain ⟨pq', e1, hv', hK⟩ := upsert_spec hin.base.hv hyn x.e.w
      let m' : MST := { m with edgeTo := m.edgeTo.set! x.to x.e, distTo := m.distTo.set! x.to (some x.e.w), pq := pq' }
      have hD : ∀ v, m'.dist v = if v = x.to then some x.e.w else m.dist v :=
        fun v => by unfold MST.dist; exact getD_set!_lt (hin.base.dsz ▸ hyn) v _ none
      have hP : ∀ v, m'.par v = if v = x.to then x.e else m.par v :=
        fun v => by unfold MST.par; exact getD_set!_lt (hin.base.esz ▸ hyn) v _ Edge.zero
      have hpn : ∀ v, v ≠ x.to → m'.par v = m.par v := fun v hv => (hP v).trans (if_neg hv)
      -- nothing changes at a visited vertex, so the parent links of visited vertices are the same
      have hpv : ∀ v, Vis m.visited v → m'.par v = m.par v := fun v hv => hpn v fun e => hnv (e ▸ hv)
      have hvm : ∀ {a b}, VArc g m a b → VArc g m' a b := fun h => VArc.mono (m := m) (m' := m') (fun _ h => h) hpv h
      have hlm : ∀ {a b}, VLink g m' a b → VLink g m a b := fun h =>
        VLink.mono (m := m') (m' := m) (fun _ h => h) (fun v hv => (hpv v hv).symm) h
      have hwx : x.to ≠ w := fun e => hnv (e ▸ hwv)
      have hin' : RInv g r O m' (some (w, done)) :=
        { hin with
          base := ⟨hin.base.vsz, (size_set! ..).trans hin.base.esz, (size_set! ..).trans hin.base.dsz, hv'⟩
          keys := by
            intro v k hk
            rcases upd_some hK hk with ⟨rfl, ek⟩ | ⟨e, hk⟩
            · refine ⟨hnv, (hD _).trans ((if_pos rfl).trans ek), Or.inr ?_⟩
              rw [(hP _).trans (if_pos rfl)]
              exact ⟨hj.ne_zero hwx.symm, Option.some.inj ek, w, hwv, hwo, hj.symm, hx⟩
            · rw [hD, if_neg e, hpn v e]
              exact hin.keys v k hk
          reached := reached_upd hD hK hin.reached
          conn := fun v hv hno => (hin.conn v hv hno).mono fun _ _ h => hvm h
          closed := by
            intro v hv hno y hy hcur
            refine (hin.closed v hv hno y hy hcur).imp id fun ⟨k, h1, h2⟩ => ?_
            by_cases e : y.to = x.to
            · exact ⟨x.e.w, (hK _).trans (if_pos e),
                Int.le_trans (Int.le_of_lt (lt_of_ltDist hlt (hin.keys _ k (e ▸ h1)).2.1)) h2⟩
            · exact ⟨k, ((hK _).trans (if_neg e)).trans h1, h2⟩
          forest := by
            obtain ⟨rank, c, f1, f2, f3, f4⟩ := hin.forest
            exact ⟨rank, c, f1, f2, fun a b h => f3 a b (hlm h),
              fun a b h => hpv a (hlm h).1 ▸ f4 a b (hlm h)⟩
          oldconn := fun a b ha hb hr => (hin.oldconn a b ha hb hr).mono fun _ _ h => hvm h
          links := fun v hv hne =>
            (hin.links v hv (hpv v hv ▸ hne)).imp fun p hp => VLink.mono (m := m) (m' := m') (fun _ h => h) hpv hp
          zero := fun v hv hk =>
            have e : v ≠ x.to := fun e => by rw [hK, if_pos e] at hk; cases hk
            (hpn v e).trans (hin.zero v hv (((hK v).trans (if_neg e)).symm.trans hk))
          rootq := hin.rootq.imp id fun h => by
            rw [hK]; split
            · rfl
            · exact h }
      refine ⟨m', ?_, hin'.snoc (.inr ⟨x.e.w, (hK _).trans (if_pos rfl), Int.le_refl _⟩), rfl⟩
      simp only [hlt, if_true, hin.base.esz ▸ hyn, e1]; rfl

theorem primLoop_spec :
    ∀ fuel (m : MST), RInv g r O m none → cntF m.visited ≤ fuel →
      ∃ m', primLoop g fuel m = .ok m' ∧ RInv g r O m' none ∧ m'.pq.isEmpty = true ∧
        (∀ x, Vis m.visited x → Vis m'.visited x) := by
  intro fuel
  induction fuel with
  | zero =>
    intro m hinv hc
    have hemp := isEmpty_of_cntF_zero hinv.base.hv.s hinv.base.vsz hc fun j k hk => (hinv.keys j k hk).1
    exact ⟨m, by simp [primLoop, hemp], hinv, hemp, fun _ h => h⟩
  | succ fuel ih =>
    intro m hinv hc
    by_cases hemp : m.pq.isEmpty = true
    · exact ⟨m, by simp [primLoop, hemp], hinv, hemp, fun _ h => h⟩
    · have hne : m.pq.isEmpty = false := by simpa using hemp
      obtain ⟨pq', w, kw, e1, hv1, hwn, hkw, hmin, hupd⟩ := delete_spec hinv.base.hv hne
      obtain ⟨hnv, hdw, hsrc⟩ := hinv.keys w kw hkw
      have hunv : m.visited[w]? = some false := (vis_or_false (hinv.base.vsz ▸ hwn)).resolve_left hnv
      have hcnt := cntF_set hunv
      have hwo : ¬ Vis O w := fun h => hnv (hinv.oldv w h)
      let m1 : MST := { m with pq := pq', visited := m.visited.set! w true }
      have hVm : ∀ x, Vis m.visited x → Vis m1.visited x := fun x hx => vis_set_of_vis hx
      have hVw : Vis m1.visited w := vis_set_self (by rw [hinv.base.vsz]; exact hwn)
      have hV1 : ∀ x, Vis m1.visited x → x = w ∨ Vis m.visited x := fun x => vis_set_cases
      have hVo : ∀ x, Vis m1.visited x → x ≠ w → Vis m.visited x := fun x hx e => (hV1 x hx).resolve_left e
      have hky : ∀ v, v ≠ w → pq'.ky v = m.pq.ky v := fun v hv => (hupd v).trans (if_neg hv)
      have hpar : ∀ v, m1.par v = m.par v := fun _ => rfl
      have hvm : ∀ {a b}, VArc g m a b → VArc g m1 a b := fun h => h.mono hVm (fun _ _ => rfl)
      have hwlink : (w = r ∧ m.par w = Edge.zero) ∨ ∃ p, VLink g m1 w p ∧ Vis m.visited p ∧ ¬ Vis O p := by
        rcases hsrc with h | ⟨h1, _, p, h2, h3, h4, h5⟩
        · exact Or.inl h
        · exact Or.inr ⟨p, ⟨hVw, h1, h4, h5⟩, h2, h3⟩
      have hin : RInv g r O m1 (some (w, [])) :=
        { hinv with
          base := ⟨(size_set! ..).trans hinv.base.vsz,
                   hinv.base.esz, hinv.base.dsz, hv1⟩
          oldv := fun x hx => hVm x (hinv.oldv x hx)
          keys := by
            intro v k hk
            obtain ⟨hvw, hk'⟩ := hupd.of_some hk
            obtain ⟨k1, k2, k3⟩ := hinv.keys v k hk'
            refine ⟨?_, k2, ?_⟩
            · intro h
              exact k1 (hVo v h hvw)
            · rcases k3 with h | ⟨h1, h0, p, h2, h3, h4, h5⟩
              · exact Or.inl h
              · exact Or.inr ⟨h1, h0, p, hVm p h2, h3, h4, h5⟩
          reached := reached_del hVm hVw hupd hinv.reached
          conn := by
            intro v hv hno
            rcases hV1 v hv with e | h
            · rw [e]
              rcases hwlink with h | ⟨p, hl, hp, hpo⟩
              · rw [h.1]; exact .refl _
              · exact Reach.head (Or.inl hl) ((hinv.conn p hp hpo).mono (fun _ _ h => hvm h))
            · exact (hinv.conn v h hno).mono (fun _ _ h => hvm h)
          closed := by
            intro v hv hno x hx hcur
            by_cases hvw : v = w
            · subst hvw
              have := hcur [] rfl
              simp at this
            · rcases hinv.closed v (hVo v hv hvw) hno x hx (fun d hd => by simp at hd) with h1 | h1
              · exact Or.inl (hVm _ h1)
              · by_cases hxw : x.to = w
                · rw [hxw]; exact Or.inl hVw
                · right
                  obtain ⟨k, k1, k2⟩ := h1
                  exact ⟨k, by show pq'.ky x.to = _; rw [hky _ hxw]; exact k1, k2⟩
          forest := by
            -- `w` takes the next rank; for the other vertices the four clauses are the old ones, with `w` still outside every cut
            obtain ⟨rank, c, f1, f2, f3, f4⟩ := hinv.forest
            refine ⟨fun z => if z = w then c else rank z, c + 1, ?_, ?_, ?_, ?_⟩
            · intro v hv
              by_cases e : v = w
              · simp [e]
              · simp only [e, if_false]
                exact Nat.lt_succ_of_lt (f1 v (hVo v hv e))
            · intro x y hx hy hxy
              by_cases ex : x = w <;> by_cases ey : y = w
              · rw [ex, ey]
              · simp only [ex, ey, if_true, if_false] at hxy
                exact absurd hxy (Nat.ne_of_gt (f1 y (hVo y hy ey)))
              · simp only [ex, ey, if_true, if_false] at hxy
                exact absurd hxy (Nat.ne_of_lt (f1 x (hVo x hx ex)))
              · simp only [ex, ey, if_false] at hxy
                exact f2 x y (hVo x hx ex) (hVo y hy ey) hxy
            · intro a p hl
              by_cases e : a = w
              · subst e
                rcases hwlink with h | ⟨p', hl', hp', _⟩
                · exact absurd h.2 hl.2.1
                · have : p = p' := joins_fun hl.2.2.1 hl'.2.2.1
                  subst this
                  refine ⟨hVm _ hp', ?_⟩
                  have hpw : p ≠ a := fun e => hnv (e ▸ hp')
                  simp only [hpw, if_false, if_true]
                  exact f1 p hp'
              · have ha : Vis m.visited a := hVo a hl.1 e
                obtain ⟨k1, k2⟩ := f3 a p ⟨ha, hl.2⟩
                have hpw : p ≠ w := fun e' => hnv (e' ▸ k1)
                refine ⟨hVm _ k1, ?_⟩
                simp only [e, hpw, if_false]
                exact k2
            · intro a p hl f a' b' hs hj ha' hr hb'
              by_cases e : a = w
              · -- the vertex visited now: its parent edge carried the least key
                subst e
                simp only [if_true] at hr hb'
                rcases hsrc with h | ⟨_, hkey, _⟩
                · exact absurd h.2 hl.2.1
                · show (m.par a).w ≤ f.w
                  rw [hkey]
                  -- a' was visited before; b' is a or still unvisited
                  have ha'w : a' ≠ a := by
                    intro e'; rw [e'] at hr; simp at hr
                  simp only [ha'w, if_false] at hr
                  have ha'm : Vis m.visited a' := hVo a' ha' ha'w
                  have hb'm : ¬ Vis m.visited b' := by
                    intro hb
                    have hbw : b' ≠ a := fun e' => hnv (e' ▸ hb)
                    rcases hb' with h | h
                    · exact h (hVm b' hb)
                    · simp only [hbw, if_false] at h
                      exact Nat.not_le.2 (f1 b' hb) h
                  have hedge : g.HasEdge a' b' f := by
                    rcases hj with ⟨rfl, rfl⟩ | ⟨rfl, rfl⟩
                    · exact hs.1
                    · exact hs.2
                  have ha'o : ¬ Vis O a' := by
                    intro ho
                    exact hb'm (hinv.oldv b' (hinv.oldc a' ho b' ⟨⟨b', f⟩, hedge, rfl⟩))
                  rcases hinv.closed a' ha'm ha'o ⟨b', f⟩ hedge (fun d hd => by simp at hd) with h | ⟨k, k1, k2⟩
                  · exact absurd h hb'm
                  · exact Int.le_trans (hmin b' k k1) k2
              · have ha : Vis m.visited a := hVo a hl.1 e
                simp only [e, if_false] at hr hb'
                have hra := f1 a ha
                have ha'w : a' ≠ w := by
                  intro e'; rw [e'] at hr; simp at hr; exact Nat.lt_asymm hr hra
                simp only [ha'w, if_false] at hr
                have ha'm : Vis m.visited a' := hVo a' ha' ha'w
                refine f4 a p ⟨ha, hl.2⟩ f a' b' hs hj ha'm hr ?_
                by_cases hbw : b' = w
                · rw [hbw]; exact Or.inl hnv
                · simp only [hbw, if_false] at hb'
                  rcases hb' with h | h
                  · exact Or.inl (fun hb => h (hVm b' hb))
                  · exact Or.inr h
          oldconn := fun a b ha hb hr => (hinv.oldconn a b ha hb hr).mono (fun _ _ h => hvm h)
          links := by
            intro v hv hne
            rcases hV1 v hv with e | h
            · subst e
              rcases hwlink with h | ⟨p, hl, _, _⟩
              · exact absurd h.2 hne
              · exact ⟨p, hl⟩
            · obtain ⟨p, hp⟩ := hinv.links v h hne
              exact ⟨p, hp.mono hVm (fun _ _ => rfl)⟩
          zero := by
            intro v hv hk
            have hvw : v ≠ w := fun e => hv (e ▸ hVw)
            have hv' : ¬ Vis m.visited v := fun h => hv (hVm v h)
            exact hinv.zero v hv' (by rw [← hky v hvw]; exact hk)
          rootq := by
            by_cases hrw : r = w
            · rw [hrw]; exact Or.inl hVw
            · rcases hinv.rootq with h | h
              · exact Or.inl (hVm r h)
              · right
                show (pq'.ky r).isSome
                rw [hky r hrw]; exact h }
      obtain ⟨m2, e2, hin2, hvis2⟩ :=
        primInner_spec hg hu r O w _ hVw hwo m1 hin rfl
      obtain ⟨m3, e3, k1, k2, k3⟩ := ih m2 hin2.leave (by
        rw [hvis2]; show cntF (m.visited.set! w true) ≤ fuel; omega)
      refine ⟨m3, ?_, k1, k2, fun x hx => k3 x (by rw [hvis2]; exact hVm x hx)⟩
      rw [primLoop]
      have hwl : w < m.visited.size := by rw [hinv.base.vsz]; exact hwn
      simp only [hne, Bool.false_eq_true, if_false, e1, hwl, if_true]
      show (primInner (g.adj.getD w []) m1 >>= primLoop g fuel) = _
      rw [e2]
      exact e3

end

/-- invariant between two `prim` runs -/
structure MInv (g : Graph) (m : MST) : Prop where
  base : MBase g m
  pqempty : ∀ j, m.pq.ky j = none
  closedV : ∀ x, Vis m.visited x → ∀ y, g.HasArc x y → Vis m.visited y
  conn : ∀ x y, Vis m.visited x → Vis m.visited y → Reach g.HasArc x y → Reach (VArc g m) x y
  forest : ForestOK g m
  links : ∀ w, Vis m.visited w → m.par w ≠ Edge.zero → ∃ p, VLink g m w p
  reachedV : ∀ w d, m.dist w = some d → Vis m.visited w
  zeroU : ∀ w, ¬ Vis m.visited w → m.par w = Edge.zero

theorem MInv.par_lt {g : Graph} {m : MST} (hinv : MInv g m) {w : Nat} (hne : m.par w ≠ Edge.zero) : w < g.n := by
  refine Classical.byContradiction fun h => hne (getD_of_ge _ _ ?_)
  rw [hinv.base.esz]; exact Nat.le_of_not_lt h

theorem par_toList {m : MST} {i : Nat} (hi : i < m.edgeTo.toList.length) : m.par i = m.edgeTo.toList[i] := by
  unfold MST.par Array.getD
  simp [show i < m.edgeTo.size by simpa using hi]

theorem mem_edges {m : MST} {e : Edge} :
    e ∈ m.edges ↔ e ≠ Edge.zero ∧ ∃ w, w < m.edgeTo.size ∧ m.par w = e := by
  unfold MST.edges
  rw [List.mem_filter, List.mem_iff_getElem]
  constructor
  · rintro ⟨⟨i, hi, he⟩, h2⟩
    exact ⟨by simpa using h2, i, by simpa using hi, (par_toList hi).trans he⟩
  · rintro ⟨h1, w, hw, he⟩
    have hw' : w < m.edgeTo.toList.length := by simpa using hw
    exact ⟨⟨w, hw', (par_toList hw').symm.trans he⟩, by simpa using h1⟩

theorem wsum_edges (m : MST) : m.weight = wsum m.edges := by
  unfold MST.weight wsum
  rw [List.sum_eq_foldl, List.foldl_map]

section

variable {g : Graph} (hg : g.WF) (hu : g.UWF) (hsym : g.Symmetric)
include hg hu hsym

theorem prim_spec (m : MST) (hinv : MInv g m) (s : Nat) (hs : s < g.n) (hunv : m.visited[s]? = some false) :
    ∃ m', prim g m s = .ok m' ∧ MInv g m' ∧ (∀ x, Vis m.visited x → Vis m'.visited x) ∧ Vis m'.visited s := by
  have hnv : ¬ Vis m.visited s := not_vis_of_false hunv
  obtain ⟨pq0, e0, hv0, hk0⟩ := insert_spec hinv.base.hv hs (hinv.pqempty s) 0
  let m0 : MST := { m with distTo := m.distTo.set! s (some 0), pq := pq0 }
  have hdist : ∀ v, m0.dist v = if v = s then some 0 else m.dist v :=
    fun v => by unfold MST.dist; exact getD_set!_lt (hinv.base.dsz ▸ hs) v _ none
  have hky : ∀ v, m0.pq.ky v = if v = s then some 0 else none := fun v => by
    show pq0.ky v = _
    rw [hk0, hinv.pqempty]
  have hr0 : RInv g s m.visited m0 none :=
    { base := ⟨hinv.base.vsz, hinv.base.esz,
               (size_set! ..).trans hinv.base.dsz, hv0⟩
      oldv := fun _ h => h
      oldc := hinv.closedV
      rnew := hnv
      keys := by
        intro w k hk
        rcases upd_some hky hk with ⟨rfl, ek⟩ | ⟨_, h⟩
        · exact ⟨hnv, (hdist w).trans ((if_pos rfl).trans ek), Or.inl ⟨rfl, hinv.zeroU w hnv⟩⟩
        · cases h
      reached := reached_upd (ky := fun _ => none) hdist hky fun w d hd => Or.inl (hinv.reachedV w d hd)
      conn := fun w hv hno => absurd hv hno
      closed := fun w hv hno => absurd hv hno
      forest := hinv.forest
      oldconn := hinv.conn
      links := hinv.links
      zero := fun w hv _ => hinv.zeroU w hv
      rootq := Or.inr (by rw [hky]; simp) }
  obtain ⟨m', e1, hr, hemp, hgrow⟩ :=
    primLoop_spec hg hu s m.visited (g.n + 1) m0 hr0 (cntF_le_succ hinv.base.vsz)
  have hallK : ∀ j, m'.pq.ky j = none := (isEmpty_iff hr.base.hv.s).1 hemp
  have hroot : Vis m'.visited s := by
    rcases hr.rootq with h | h
    · exact h
    · rw [hallK] at h; simp at h
  have hclosed : ∀ x, Vis m'.visited x → ∀ y, g.HasArc x y → Vis m'.visited y := by
    intro x hx y hy
    by_cases ho : Vis m.visited x
    · exact hr.oldv y (hinv.closedV x ho y hy)
    · obtain ⟨a, ha, rfl⟩ := hy
      rcases hr.closed x hx ho a ha (fun d hd => by simp at hd) with h | ⟨k, h, _⟩
      · exact h
      · rw [hallK] at h; simp at h
  have hold_closed : ∀ x y, Vis m.visited x → Reach g.HasArc x y → Vis m.visited y :=
    fun x y hx hr' => Reach.closed (S := Vis m.visited) (fun p q hp e => hinv.closedV p hp q e) hr' hx
  have hvsym : ∀ a b, VArc g m' a b → VArc g m' b a := fun _ _ h => h.symm
  refine ⟨m', ?_, ?_, fun x hx => hgrow x hx, hroot⟩
  · unfold prim
    have : s < m.distTo.size := by rw [hinv.base.dsz]; exact hs
    simp only [this, if_true, e0]
    exact e1
  · exact
      { base := hr.base
        pqempty := hallK
        closedV := hclosed
        conn := by
          intro x y hx hy hxy
          by_cases hox : Vis m.visited x <;> by_cases hoy : Vis m.visited y
          · exact hr.oldconn x y hox hoy hxy
          · exact absurd (hold_closed x y hox hxy) hoy
          · exact absurd (hold_closed y x hoy (hxy.symm hsym)) hox
          · exact (hr.conn x hx hox).trans ((hr.conn y hy hoy).symm hvsym)
        forest := hr.forest
        links := hr.links
        reachedV := fun w d hd => (hr.reached w d hd).resolve_right fun h => by rw [hallK] at h; cases h
        zeroU := fun w hv => hr.zero w hv (hallK w) }

theorem mstOuter_spec (vs : List Nat) (hvs : ∀ v ∈ vs, v < g.n) (m : MST) (hinv : MInv g m) :
    ∃ m', mstOuter g vs m = .ok m' ∧ MInv g m' ∧ ∀ v ∈ vs, Vis m'.visited v := by
  refine list_loop_inv (loop := mstOuter g) (I := fun done m => MInv g m ∧ ∀ v ∈ done, Vis m.visited v)
    (fun _ => rfl) vs (fun done v rest m hall ⟨hinv, hd⟩ => ?_) m ⟨hinv, by simp⟩
  have hvn : v < g.n := hvs v (by rw [hall]; simp)
  rcases vis_or_false (by rw [hinv.base.vsz]; exact hvn : v < m.visited.size) with h1 | h1
  · exact ⟨m, by rw [mstOuter, show m.visited[v]? = some true from h1], hinv,
      List.forall_mem_append.2 ⟨hd, List.forall_mem_singleton.2 h1⟩⟩
  · obtain ⟨m1, e1, hinv1, hg1, hv1⟩ := prim_spec hg hu hsym m hinv v hvn h1
    exact ⟨m1, by simp only [mstOuter, h1, e1], hinv1,
      List.forall_mem_append.2 ⟨fun x hx => hg1 x (hd x hx), List.forall_mem_singleton.2 hv1⟩⟩

theorem mst_final : ∃ m, g.minimumSpanningTree = .ok m ∧ MInv g m ∧ ∀ w, w < g.n → Vis m.visited w := by
  let m0 : MST := { visited := Array.replicate g.n false, edgeTo := Array.replicate g.n Edge.zero,
                    distTo := Array.replicate g.n none, pq := IHeap.new g.n }
  have hpar0 : ∀ w, m0.par w = Edge.zero := fun w => getD_replicate g.n w Edge.zero
  have hdist0 : ∀ w, m0.dist w = none := fun w => getD_replicate g.n w none
  have hinv0 : MInv g m0 :=
    { base := ⟨by simp [m0], by simp [m0], by simp [m0], hinv_new g.n⟩
      pqempty := ky_new g.n
      closedV := fun x hx => absurd hx vis_replicate_false
      conn := fun x _ hx => absurd hx vis_replicate_false
      forest := ⟨fun _ => 0, 0, fun w hw => absurd hw vis_replicate_false,
                 fun x _ hx => absurd hx vis_replicate_false,
                 fun w p h => absurd h.1 vis_replicate_false,
                 fun w p h => absurd h.1 vis_replicate_false⟩
      links := fun w hw => absurd hw vis_replicate_false
      reachedV := by intro w d hd; rw [hdist0] at hd; simp at hd
      zeroU := fun w _ => hpar0 w }
  obtain ⟨m, e1, hinv, hall⟩ :=
    mstOuter_spec hg hu hsym (List.range g.n) (fun v hv => List.mem_range.1 hv) m0 hinv0
  exact ⟨m, e1, hinv, fun w hw => hall w (List.mem_range.2 hw)⟩

theorem mst_spec :
    ∃ m, g.minimumSpanningTree = .ok m ∧ m.edgeTo.size = g.n ∧
      (∀ w, m.par w ≠ Edge.zero → ∃ p, TLink g m w p) ∧
      (∃ rank : Nat → Nat, ∀ w p, TLink g m w p → rank p < rank w) ∧
      (∀ u v, u < g.n → v < g.n → (Reach g.HasArc u v ↔ Reach (TArc g m) u v)) := by
  obtain ⟨m, e1, hinv, hvis⟩ := mst_final hg hu hsym
  have hlt : ∀ w, m.par w ≠ Edge.zero → w < g.n := fun w => hinv.par_lt
  refine ⟨m, e1, hinv.base.esz, ?_, ?_, ?_⟩
  · intro w hne
    obtain ⟨p, hp⟩ := hinv.links w (hvis w (hlt w hne)) hne
    exact ⟨p, hp.2⟩
  · obtain ⟨rank, c, _, _, f3, _⟩ := hinv.forest
    exact ⟨rank, fun w p h => (f3 w p ⟨hvis w (hlt w h.1), h⟩).2⟩
  · intro u v hu' hv'
    constructor
    · intro h
      exact (hinv.conn u v (hvis u hu') (hvis v hv') h).mono
        (fun a b hab => hab.elim (fun x => Or.inl x.2) (fun x => Or.inr x.2))
    · intro h
      refine h.mono ?_
      intro a b hab
      have key : ∀ a b, TLink g m a b → g.HasArc b a := by
        intro a b hl
        exact ⟨⟨a, m.par a⟩, hl.2.2, rfl⟩
      rcases hab with h1 | h1
      · exact hsym _ _ (key a b h1)
      · exact key b a h1

theorem mst_minimum (hst : g.UStored) :
    ∃ m, g.minimumSpanningTree = .ok m ∧ IsSpanningForest g m.edges ∧
      ∀ F, IsSpanningForest g F → m.weight ≤ wsum F := by
  obtain ⟨m, e1, hinv, hvis⟩ := mst_final hg hu hsym
  obtain ⟨rank, c, f1, f2, f3, f4⟩ := hinv.forest
  have hlt : ∀ w, m.par w ≠ Edge.zero → w < g.n := fun w => hinv.par_lt
  have hends : ∀ f, g.StoredEdge f → f.a < g.n ∧ f.b < g.n := by
    intro f hs
    have : g.HasArc f.a f.b := ⟨⟨f.b, f⟩, hs.1, rfl⟩
    exact ⟨hg.src_lt this, hg.arc_lt this⟩
  have hvl : ∀ w p, TLink g m w p → VLink g m w p := fun w p h => ⟨hvis w (hlt w h.1), h⟩
  let Lk : Nat → Nat → Edge → Prop := fun w p e => TLink g m w p ∧ m.par w = e
  have hmemT : ∀ w p e, Lk w p e → e ∈ m.edges := by
    intro w p e ⟨hl, he⟩
    rw [mem_edges]
    exact ⟨he ▸ hl.1, w, by rw [hinv.base.esz]; exact hlt w hl.1, he⟩
  have hstored : ∀ w p e, Lk w p e → g.StoredEdge e := by
    intro w p e ⟨hl, he⟩
    have := hst p ⟨w, m.par w⟩ hl.2.2
    exact he ▸ this
  have hlink : ∀ e ∈ m.edges, ∃ w p, Lk w p e := by
    intro e he
    obtain ⟨hne, w, hw, hp⟩ := mem_edges.1 he
    have hwn : w < g.n := by rw [← hinv.base.esz]; exact hw
    obtain ⟨p, hl⟩ := hinv.links w (hvis w hwn) (hp ▸ hne)
    exact ⟨w, p, hl.2, hp⟩
  have hT : ∀ a b, VArc g m a b → EAdj m.edges a b := by
    intro a b hab
    rcases hab with h | h
    · exact ⟨m.par a, hmemT a b _ ⟨h.2, rfl⟩, h.2.2.1⟩
    · exact ⟨m.par b, hmemT b a _ ⟨h.2, rfl⟩, h.2.2.1.symm⟩
  have hspanT : ∀ f, g.StoredEdge f → EConn m.edges f.a f.b := by
    intro f hs
    obtain ⟨ha, hb⟩ := hends f hs
    have : Reach g.HasArc f.a f.b := Reach.single ⟨⟨f.b, f⟩, hs.1, rfl⟩
    exact (hinv.conn f.a f.b (hvis _ ha) (hvis _ hb) this).mono (fun a b h => hT a b h)
  have hnodup : m.edges.Nodup := by
    unfold MST.edges
    have hp : List.Pairwise (fun a b : Edge => a ≠ Edge.zero → b ≠ Edge.zero → a ≠ b) m.edgeTo.toList := by
      rw [List.pairwise_iff_getElem]
      intro i j hi hj hij ha hb hab
      have hi' : i < m.edgeTo.size := by simpa using hi
      have hj' : j < m.edgeTo.size := by simpa using hj
      have pi := par_toList hi
      have pj := par_toList hj
      have hin : i < g.n := by rw [← hinv.base.esz]; exact hi'
      have hjn : j < g.n := by rw [← hinv.base.esz]; exact hj'
      obtain ⟨p1, l1⟩ := hinv.links i (hvis i hin) (by rw [pi]; exact ha)
      obtain ⟨p2, l2⟩ := hinv.links j (hvis j hjn) (by rw [pj]; exact hb)
      have j1 : Joins (m.par i) i p1 := l1.2.2.1
      have j2 : Joins (m.par i) j p2 := by
        have := l2.2.2.1
        rw [pj, ← hab, ← pi] at this
        exact this
      have r1 := (f3 i p1 l1).2
      have r2 := (f3 j p2 l2).2
      rcases j1.same j2 with ⟨e1', _⟩ | ⟨e1', e2'⟩
      · exact Nat.ne_of_lt hij e1'
      · subst e1'; subst e2'; exact Nat.lt_asymm r1 r2
    have := hp.filter (fun e => decide (e ≠ Edge.zero))
    refine this.imp_of_mem ?_
    intro a b ha hb h
    have ha' := (List.mem_filter.1 ha).2
    have hb' := (List.mem_filter.1 hb).2
    exact h (by simpa using ha') (by simpa using hb')
  have hcert : CutCert g.StoredEdge m.edges rank Lk :=
    { nodup := hnodup
      link := hlink
      mem := by
        intro w p e hl
        exact ⟨hmemT w p e hl, hl.2 ▸ hl.1.2.1, hstored w p e hl, (f3 w p (hvl w p hl.1)).2⟩
      inj := by
        intro w p e w' p' e' hl hl' hr
        have := f2 w w' (hvl w p hl.1).1 (hvl w' p' hl'.1).1 hr
        subst this
        rw [← hl.2, ← hl'.2]
      bound := ⟨c, fun w p e hl => f1 w (hvl w p hl.1).1⟩
      cut := by
        intro w p e hl f a b hs hj hr hb
        exact hl.2 ▸ f4 w p (hvl w p hl.1) f a b hs hj (by
          rcases hj with ⟨rfl, _⟩ | ⟨rfl, _⟩
          · exact hvis _ (hends f hs).1
          · exact hvis _ (hends f hs).2) hr (Or.inr hb)
      span := hspanT }
  refine ⟨m, e1, ⟨hcert.acyc, fun f hf => ?_, hspanT⟩,
    fun F hF => wsum_edges m ▸ cut_rule_optimal hcert F hF.acyc hF.sub hF.span⟩
  obtain ⟨w, p, hl⟩ := hlink f hf
  exact hstored w p f hl

end

end AlgoVerif.C14
