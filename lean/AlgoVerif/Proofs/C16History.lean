import AlgoVerif.Proofs.C16Algebra
/-!
# C16 helper lemmas: histories — the register machine of the Model simulates the one of the Spec
-/
namespace AlgoVerif.C16
open AlgoVerif.C16.Spec
variable {α : Type} {σ : Type}

/-- forget which implementation a `new` creates -/
def Op.abs : Op α → SOp α
  | .add i vs => .add i vs
  | .remove i vs => .remove i vs
  | .removeAll i => .removeAll i
  | .contains i vs => .contains i vs
  | .size i => .size i
  | .isEmpty i => .isEmpty i
  | .all i => .all i
  | .equal i j => .equal i j
  | .subset i j => .subset i j
  | .superset i j => .superset i j
  | .clone d i => .clone d i
  | .cloneEmpty d i => .cloneEmpty d i
  | .new d _ => .new d
  | .union d i js => .union d i js
  | .inter d i js => .inter d i js
  | .diff d i js => .diff d i js
  | .anyMatch i p => .anyMatch i p
  | .allMatch i p => .allMatch i p
  | .firstMatch i p => .firstMatch i p
  | .select d i p => .select d i p
  | .partitionM d e i p => .partitionM d e i p

def Op.Lawful : Op α → Prop
  | .new _ impl => ImplLaw (fun _ => True) Eq impl
  | _ => True

/-- the set object is valid and denotes the abstract set -/
def RegRel (s : MSet α) (a : FSet α) : Prop := WF0 s ∧ a.Nodup ∧ ∀ x, x ∈ s.members ↔ x ∈ a

def Rel (regs : List (MSet α)) (A : List (FSet α)) : Prop :=
  regs.length = A.length ∧ ∀ (i : Nat) (s : MSet α) (a : FSet α), regs[i]? = some s → A[i]? = some a → RegRel s a

/-- element listings agree as sets (the order is the subject of separate theorems) -/
inductive ObsRel : Obs α → SObs α → Prop
  | unit : ObsRel .unit .unit
  | bool (b : Bool) : ObsRel (.bool b) (.bool b)
  | int (n : Int) : ObsRel (.int n) (.int n)
  | elems {l : List α} {a : FSet α} : FSet.Equiv l a → ObsRel (.elems l) (.elems a)
  | found {x : α} {c : FSet α} : x ∈ c → ObsRel (.opt (some x)) (.anyOf c)
  | notFound : ObsRel (.opt none) (.anyOf [])
  | elems2 {l₁ l₂ : List α} {a₁ a₂ : FSet α} : FSet.Equiv l₁ a₁ → FSet.Equiv l₂ a₂ →
      ObsRel (.elems2 l₁ l₂) (.elems2 a₁ a₂)
  | bad : ObsRel .bad .bad

theorem RegRel.equiv {s : MSet α} {a : FSet α} (h : RegRel s a) : FSet.Equiv s.members a :=
  equiv_of_mem_iff h.1.nodup h.2.1 h.2.2

theorem Rel.get {regs : List (MSet α)} {A : List (FSet α)} (h : Rel regs A) {i : Nat} {s : MSet α}
    (hi : regs[i]? = some s) : ∃ a, A[i]? = some a ∧ RegRel s a := by
  have hlt : i < A.length := by
    rw [← h.1]
    exact (List.getElem?_eq_some_iff.1 hi).1
  exact ⟨A[i], List.getElem?_eq_getElem hlt, h.2 i s A[i] hi (List.getElem?_eq_getElem hlt)⟩

theorem Rel.get_none {regs : List (MSet α)} {A : List (FSet α)} (h : Rel regs A) {i : Nat}
    (hi : regs[i]? = none) : A[i]? = none := by
  rw [List.getElem?_eq_none_iff] at hi ⊢
  rw [← h.1]; exact hi

theorem Rel.set {regs : List (MSet α)} {A : List (FSet α)} (h : Rel regs A) {i : Nat} {s : MSet α} {a : FSet α}
    (hr : RegRel s a) : Rel (regs.set i s) (A.set i a) := by
  refine ⟨by simp [h.1], ?_⟩
  intro j t b ht hb
  by_cases hij : i = j
  · subst hij
    by_cases hlt : i < regs.length
    · have hlt' : i < A.length := h.1 ▸ hlt
      rw [List.getElem?_set_self hlt] at ht
      rw [List.getElem?_set_self hlt'] at hb
      cases ht
      cases hb
      exact hr
    · have hge : (regs.set i s).length ≤ i := by simp; omega
      rw [List.getElem?_eq_none_iff.2 hge] at ht
      cases ht
  · rw [List.getElem?_set_ne hij] at ht hb
    exact h.2 j t b ht hb

theorem Rel.lt_iff {regs : List (MSet α)} {A : List (FSet α)} (h : Rel regs A) (d : Nat) :
    d < regs.length ↔ d < A.length := by rw [h.1]

/-- the operand lists of one set-algebra call: all that Union / Intersection / Difference use of the
element-wise `RegRel` -/
structure RegsRel (sets : List (MSet α)) (bs : List (FSet α)) : Prop where
  wf : ∀ u ∈ sets, WF0 u
  nodup : ∀ b ∈ bs, b.Nodup
  any : ∀ x, (∃ u ∈ sets, x ∈ u.members) ↔ ∃ b ∈ bs, x ∈ b
  all : ∀ x, (∀ u ∈ sets, x ∈ u.members) ↔ ∀ b ∈ bs, x ∈ b
  none : ∀ x, (∀ u ∈ sets, x ∉ u.members) ↔ ∀ b ∈ bs, x ∉ b

theorem Rel.getRegs {regs : List (MSet α)} {A : List (FSet α)} (h : Rel regs A) (js : List Nat) :
    (C16.getRegs regs js = Option.none ∧ getAll A js = Option.none) ∨
    (∃ sets bs, C16.getRegs regs js = some sets ∧ getAll A js = some bs ∧ RegsRel sets bs) := by
  induction js with
  | nil => exact .inr ⟨[], [], rfl, rfl, by simp, by simp, by simp, by simp, by simp⟩
  | cons j js ih =>
    cases hj : regs[j]? with
    | none =>
      left
      simp [C16.getRegs, getAll, hj, h.get_none hj]
    | some s =>
      obtain ⟨a, ha, hw, hnd, hm⟩ := h.get hj
      rcases ih with ⟨h₁, h₂⟩ | ⟨sets, bs, h₁, h₂, hr⟩
      · left
        simp [C16.getRegs, getAll, hj, ha, h₁, h₂]
      · right
        refine ⟨s :: sets, a :: bs, by simp [C16.getRegs, hj, h₁], by simp [getAll, ha, h₂],
          List.forall_mem_cons.2 ⟨hw, hr.wf⟩, List.forall_mem_cons.2 ⟨hnd, hr.nodup⟩, ?_, ?_, ?_⟩
        all_goals
          intro x
          simp only [List.mem_cons, exists_eq_or_imp, forall_eq_or_imp, hm x, hr.any x, hr.all x, hr.none x]

/-! `stepOp` and `sstep` have the same skeleton: look the operand registers up (answer `bad` if one does not exist),
check the destination, act.  The skeleton is dealt with once per shape (`Rel.step_…`); what remains for each
operation is the fact about the set operation itself. -/

def StepRel (x : Outcome (RegState α σ × Obs α)) (y : List (FSet α) × SObs α) : Prop :=
  ∃ st' obs, x = .ok (st', obs) ∧ Rel st'.1 y.1 ∧ ObsRel obs y.2

theorem StepRel.ok {st' : RegState α σ} {A' : List (FSet α)} {o : Obs α} {o' : SObs α} (hr : Rel st'.1 A')
    (ho : ObsRel o o') : StepRel (.ok (st', o)) (A', o') := ⟨st', o, rfl, hr, ho⟩

theorem StepRel.bind {β : Type} {x : Outcome β} {b : β} {k : β → Outcome (RegState α σ × Obs α)}
    {y : List (FSet α) × SObs α} (hx : x = .ok b) (hk : StepRel (k b) y) : StepRel (x >>= k) y := by
  rw [hx]; exact hk

section
variable {st : RegState α σ} {A : List (FSet α)} (h : Rel st.1 A)
include h

theorem Rel.step_bad : StepRel (.ok (st, .bad)) (A, .bad) := .ok h .bad

theorem Rel.step_reg (i : Nat) {k : MSet α → Outcome (RegState α σ × Obs α)} {k' : FSet α → List (FSet α) × SObs α}
    (hk : ∀ s a, RegRel s a → StepRel (k s) (k' a)) :
    StepRel (match st.1[i]? with | none => .ok (st, .bad) | some s => k s)
      (match A[i]? with | none => (A, .bad) | some a => k' a) := by
  cases hi : st.1[i]? with
  | none => rw [h.get_none hi]; exact h.step_bad
  | some s =>
    obtain ⟨a, ha, hr⟩ := h.get hi
    rw [ha]
    exact hk s a hr

/-- `Rel.step_reg` for the operations whose `match` lists the `some` case first -/
theorem Rel.step_reg' (i : Nat) {k : MSet α → Outcome (RegState α σ × Obs α)} {k' : FSet α → List (FSet α) × SObs α}
    (hk : ∀ s a, RegRel s a → StepRel (k s) (k' a)) :
    StepRel (match st.1[i]? with | some s => k s | none => .ok (st, .bad))
      (match A[i]? with | some a => k' a | none => (A, .bad)) := by
  have := h.step_reg i hk
  revert this
  cases st.1[i]? <;> cases A[i]? <;> exact id

theorem Rel.step_reg2 (i j : Nat) {k : MSet α → MSet α → Outcome (RegState α σ × Obs α)}
    {k' : FSet α → FSet α → List (FSet α) × SObs α}
    (hk : ∀ s t a b, RegRel s a → RegRel t b → StepRel (k s t) (k' a b)) :
    StepRel (match st.1[i]?, st.1[j]? with | some s, some t => k s t | _, _ => .ok (st, .bad))
      (match A[i]?, A[j]? with | some a, some b => k' a b | _, _ => (A, .bad)) := by
  cases hi : st.1[i]? with
  | none => rw [h.get_none hi]; exact h.step_bad
  | some s =>
    obtain ⟨a, ha, hr⟩ := h.get hi
    cases hj : st.1[j]? with
    | none => rw [ha, h.get_none hj]; exact h.step_bad
    | some t =>
      obtain ⟨b, hb, hrt⟩ := h.get hj
      rw [ha, hb]
      exact hk s t a b hr hrt

theorem Rel.step_regs (i : Nat) (js : List Nat) {k : MSet α → List (MSet α) → Outcome (RegState α σ × Obs α)}
    {k' : FSet α → List (FSet α) → List (FSet α) × SObs α}
    (hk : ∀ s a sets bs, RegRel s a → RegsRel sets bs → StepRel (k s sets) (k' a bs)) :
    StepRel (match st.1[i]?, C16.getRegs st.1 js with | some s, some sets => k s sets | _, _ => .ok (st, .bad))
      (match A[i]?, getAll A js with | some a, some bs => k' a bs | _, _ => (A, .bad)) := by
  cases hi : st.1[i]? with
  | none => rw [h.get_none hi]; exact h.step_bad
  | some s =>
    obtain ⟨a, ha, hr⟩ := h.get hi
    rw [ha]
    rcases h.getRegs js with ⟨h₁, h₂⟩ | ⟨sets, bs, h₁, h₂, hrs⟩
    · rw [h₁, h₂]; exact h.step_bad
    · rw [h₁, h₂]; exact hk s a sets bs hr hrs

theorem Rel.step_if {c c' : Prop} [Decidable c] [Decidable c'] (hc : c ↔ c') {x : Outcome (RegState α σ × Obs α)}
    {y : List (FSet α) × SObs α} (hx : StepRel x y) :
    StepRel (if c then x else .ok (st, .bad)) (if c' then y else (A, .bad)) := by
  by_cases hd : c
  · rw [if_pos hd, if_pos (hc.1 hd)]; exact hx
  · rw [if_neg hd, if_neg (fun h' => hd (hc.2 h'))]; exact h.step_bad

end

theorem RegRel.empty {s : MSet α} (hw : WF0 s) (hm : s.members = []) : RegRel s FSet.empty :=
  ⟨hw, List.nodup_nil, fun x => by simp [hm, FSet.empty]⟩

theorem RegRel.filter {s t : MSet α} {a : FSet α} (hr : RegRel s a) (p : α → Bool) (hw : WF0 t)
    (hm : ∀ x, x ∈ t.members ↔ x ∈ s.members.filter p) : RegRel t (a.filter p) :=
  ⟨hw, List.Pairwise.sublist List.filter_sublist hr.2.1, fun x => by rw [hm x, List.mem_filter, List.mem_filter, hr.2.2 x]⟩

variable [DecidableEq α]

theorem stepOp_refines {sh : Shuffle σ} (hsh : ShLaw sh) {A : List (FSet α)} (st : RegState α σ)
    (h : Rel st.1 A) (op : Op α) (hop : op.Lawful) : StepRel (stepOp sh st op) (sstep A op.abs) := by
  cases op with
  | add i vs =>
    refine h.step_reg i fun s a ⟨hw, hnd, hm⟩ => ?_
    obtain ⟨s', h₁, hw', _, hm', _⟩ := MSet.add_spec0 hw vs
    exact .bind h₁ (.ok (h.set ⟨hw', FSet.valid_insertAll hnd, fun x => by rw [hm' x, hm x, FSet.mem_insertAll]⟩) .unit)
  | remove i vs =>
    refine h.step_reg i fun s a ⟨hw, hnd, hm⟩ => ?_
    obtain ⟨s', h₁, hw', _, hm'⟩ := MSet.remove_spec0 hw vs
    exact .bind h₁ (.ok (h.set ⟨hw', FSet.valid_eraseAll hnd, fun x => by rw [hm', FSet.mem_eraseAll, FSet.mem_eraseAll, hm x]⟩) .unit)
  | removeAll i =>
    exact h.step_reg i fun s a hr => .ok (h.set (.empty (wf0_nil hr.1.law) rfl)) .unit
  | contains i vs =>
    refine h.step_reg i fun s a ⟨hw, hnd, hm⟩ => ?_
    obtain ⟨r, hr, hiff⟩ := MSet.contains_spec eq_equivalence hw vs (fun _ _ => trivial)
    have : r = a.memAll vs := by
      rw [Bool.eq_iff_iff, hiff, FSet.memAll_iff]
      simp [hm]
    subst this
    exact .bind hr (.ok h (.bool _))
  | size i =>
    refine h.step_reg i fun s a hr => .ok h ?_
    have : s.size = (FSet.card a : Int) := by
      simp only [MSet.size, FSet.card]; rw [hr.equiv.length_eq]
    rw [this]
    exact .int _
  | isEmpty i =>
    refine h.step_reg i fun s a hr => .ok h ?_
    have : s.isEmpty = (FSet.card a == 0) := by
      simp only [MSet.isEmpty, FSet.card]; rw [hr.equiv.length_eq]
    rw [this]
    exact .bool _
  | all i =>
    refine h.step_reg i fun s a hr => ?_
    obtain ⟨ms, g', h₁, hp, _⟩ := MSet.all_spec hsh s st.2
    exact .bind h₁ (.ok h (.elems (hp.trans hr.equiv)))
  | equal i j =>
    refine h.step_reg2 i j fun s t a b ⟨hw, hnd, hm⟩ ⟨hwt, hndt, hmt⟩ => ?_
    obtain ⟨r, hr, hiff⟩ := MSet.equal_spec0 hw hwt
    have : r = a.eq b := by
      rw [Bool.eq_iff_iff, hiff, FSet.eq_iff]
      simp [hm, hmt]
    subst this
    exact .bind hr (.ok h (.bool _))
  | subset i j =>
    refine h.step_reg2 i j fun s t a b ⟨hw, hnd, hm⟩ ⟨hwt, hndt, hmt⟩ => ?_
    obtain ⟨r, g', hr, hiff⟩ := MSet.isSubset_spec0 hsh (s := s) hwt st.2
    have : r = a.subset b := by
      rw [Bool.eq_iff_iff, hiff, FSet.subset_iff]
      simp [hm, hmt]
    subst this
    exact .bind hr (.ok h (.bool _))
  | superset i j =>
    refine h.step_reg2 i j fun s t a b ⟨hw, hnd, hm⟩ ⟨hwt, hndt, hmt⟩ => ?_
    obtain ⟨r, g', hr, hiff⟩ := MSet.isSuperset_spec0 hsh (t := t) hw st.2
    have : r = b.subset a := by
      rw [Bool.eq_iff_iff, hiff, FSet.subset_iff]
      simp [hm, hmt]
    subst this
    exact .bind hr (.ok h (.bool _))
  | clone d i =>
    exact h.step_reg' i fun s a hr => h.step_if (h.lt_iff d) (.ok (h.set hr) .unit)
  | cloneEmpty d i =>
    exact h.step_reg' i fun s a hr => h.step_if (h.lt_iff d) (.ok (h.set (.empty (wf0_cloneEmpty hr.1) rfl)) .unit)
  | new d impl =>
    exact h.step_if (h.lt_iff d) (.ok (h.set (.empty (wf0_nil hop) rfl)) .unit)
  | union d i js =>
    refine h.step_regs i js fun s a sets bs ⟨hw, hnd, hm⟩ hrs => h.step_if (h.lt_iff d) ?_
    obtain ⟨t, g', h₃, hwt, _, hmt⟩ := MSet.union_spec0 hsh hw sets st.2
    have hrel : RegRel t (a.unionAll bs) :=
      ⟨hwt, FSet.valid_unionAll hnd hrs.nodup, fun x => by rw [hmt x, FSet.mem_unionAll, hm x, hrs.any x]⟩
    exact .bind h₃ (.ok (h.set hrel) (.elems hrel.equiv))
  | inter d i js =>
    refine h.step_regs i js fun s a sets bs ⟨hw, hnd, hm⟩ hrs => h.step_if (h.lt_iff d) ?_
    obtain ⟨t, h₃, hwt, _, hmt, _⟩ := MSet.intersection_spec0 hw sets hrs.wf
    have hrel : RegRel t (a.interAll bs) :=
      ⟨hwt, List.Pairwise.sublist FSet.interAll_sublist hnd, fun x => by rw [hmt x, FSet.mem_interAll, hm x, hrs.all x]⟩
    exact .bind h₃ (.ok (h.set hrel) (.elems hrel.equiv))
  | diff d i js =>
    refine h.step_regs i js fun s a sets bs ⟨hw, hnd, hm⟩ hrs => h.step_if (h.lt_iff d) ?_
    obtain ⟨t, g', h₃, hwt, _, hmt⟩ := MSet.difference_spec0 hsh hw sets st.2
    have hrel : RegRel t (a.diffAll bs) :=
      ⟨hwt, List.Pairwise.sublist FSet.diffAll_sublist hnd, fun x => by rw [hmt, FSet.mem_diffAll, FSet.mem_diffAll, List.forall_mem_map, hm x, hrs.none x]⟩
    exact .bind h₃ (.ok (h.set hrel) (.elems hrel.equiv))
  | anyMatch i p =>
    refine h.step_reg i fun s a ⟨_, _, hm⟩ => .ok h ?_
    have : s.anyMatch p = a.any p := by
      rw [Bool.eq_iff_iff]
      simp only [MSet.anyMatch, List.any_eq_true]
      exact ⟨fun ⟨x, hx, hp⟩ => ⟨x, (hm x).1 hx, hp⟩, fun ⟨x, hx, hp⟩ => ⟨x, (hm x).2 hx, hp⟩⟩
    rw [this]
    exact .bool _
  | allMatch i p =>
    refine h.step_reg i fun s a ⟨_, _, hm⟩ => .ok h ?_
    have : s.allMatch p = a.all p := by
      rw [Bool.eq_iff_iff]
      simp only [MSet.allMatch, List.all_eq_true]
      exact ⟨fun hall x hx => hall x ((hm x).2 hx), fun hall x hx => hall x ((hm x).1 hx)⟩
    rw [this]
    exact .bool _
  | firstMatch i p =>
    refine h.step_reg i fun s a ⟨_, _, hm⟩ => .ok h ?_
    cases hf : s.firstMatch p with
    | none =>
      have hnone : a.filter p = [] := by
        rw [List.filter_eq_nil_iff]
        intro x hx
        simp only [MSet.firstMatch, List.find?_eq_none] at hf
        exact hf x ((hm x).2 hx)
      rw [hnone]
      exact .notFound
    | some x =>
      simp only [MSet.firstMatch] at hf
      exact .found (List.mem_filter.2 ⟨(hm x).1 (List.mem_of_find?_eq_some hf), List.find?_some hf⟩)
  | select d i p =>
    refine h.step_reg' i fun s a hr => h.step_if (h.lt_iff d) ?_
    obtain ⟨t, u, _, h₃, hwt, _, _, _, hmt, _⟩ := MSet.partitionMatch_spec0 hr.1 p
    have hrel := hr.filter p hwt hmt
    exact .bind h₃ (.ok (h.set hrel) (.elems hrel.equiv))
  | partitionM d e i p =>
    refine h.step_reg' i fun s a hr => h.step_if (and_congr (h.lt_iff d) (h.lt_iff e)) ?_
    obtain ⟨t, u, h₃, _, hwt, hwu, _, _, hmt, hmu, _⟩ := MSet.partitionMatch_spec0 hr.1 p
    have hrelt := hr.filter p hwt hmt
    have hrelu := hr.filter (fun x => !p x) hwu hmu
    exact .bind h₃ (.ok ((h.set hrelt).set hrelu) (.elems2 hrelt.equiv hrelu.equiv))

inductive TraceRel : List (Obs α) → List (SObs α) → Prop
  | nil : TraceRel [] []
  | cons {o o' os os'} : ObsRel o o' → TraceRel os os' → TraceRel (o :: os) (o' :: os')

theorem runOps_refines {sh : Shuffle σ} (hsh : ShLaw sh) : ∀ (ops : List (Op α)) (A : List (FSet α))
    (st : RegState α σ), Rel st.1 A → (∀ op ∈ ops, op.Lawful) →
    ∃ st' obs, runOps sh ops st = .ok (st', obs) ∧ Rel st'.1 (srun (ops.map Op.abs) A).1 ∧
      TraceRel obs (srun (ops.map Op.abs) A).2 := by
  intro ops
  induction ops with
  | nil =>
    intro A st h _
    exact ⟨st, [], rfl, h, .nil⟩
  | cons op ops ih =>
    intro A st h hl
    obtain ⟨st₁, o, h₁, hr₁, ho₁⟩ := stepOp_refines hsh st h op (hl op (List.mem_cons_self ..))
    obtain ⟨st₂, os, h₂, hr₂, ho₂⟩ := ih (sstep A op.abs).1 st₁ hr₁
      (fun op' hop' => hl op' (List.mem_cons_of_mem _ hop'))
    exact ⟨st₂, o :: os, by simp only [runOps, h₁, h₂, ok_bind, pure_eq_ok], hr₂, .cons ho₁ ho₂⟩

omit [DecidableEq α] in
theorem rel_init (impls : List (Impl α)) (h : ∀ impl ∈ impls, ImplLaw (fun _ => True) Eq impl) :
    Rel (impls.map MSet.new) (impls.map fun _ => (FSet.empty : FSet α)) := by
  refine ⟨by simp, ?_⟩
  intro i s a hs ha
  rw [List.getElem?_map] at hs ha
  cases hi : impls[i]? with
  | none => rw [hi] at hs; cases hs
  | some impl =>
    rw [hi] at hs ha
    cases hs
    cases ha
    exact .empty (wf0_nil (h impl (List.mem_of_getElem? hi))) rfl

end AlgoVerif.C16
