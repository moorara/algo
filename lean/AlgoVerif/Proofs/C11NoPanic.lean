import AlgoVerif.Model.C11
/-!
# C11 — the SLR(1) and canonical LR(1) builders of the Model have no panic path

The only `Outcome.panic` in `buildSLR` / `buildLR1` is `augment` running out of primed names for the new start
symbol.  Everything else either returns or runs out of fuel (`diverge`).
(The LALR builder indexes `S0[to.ItemSet]` and dereferences `lookaheads.Get(item)`: its Model has two panic
points, unreachable for a grammar whose non-terminals are productive: `C11LalrNoPanic`.)
-/
namespace AlgoVerif.C11.NoPanic
open AlgoVerif AlgoVerif.Gram AlgoVerif.C11

def NP {α} (x : Outcome α) : Prop := x ≠ Outcome.panic

theorem np_ok {α} (a : α) : NP (Outcome.ok a) := by simp [NP]

theorem np_pure {α} (a : α) : NP (pure a : Outcome α) := by simp [NP, pure]

theorem np_diverge {α} : NP (Outcome.diverge : Outcome α) := by simp [NP]

theorem np_bind' {α β} (x : Outcome α) (f : α → Outcome β) (hx : NP x) (hf : ∀ a, x = Outcome.ok a → NP (f a)) :
    NP (x >>= f) := by
  cases x with
  | ok a => exact hf a rfl
  | panic => exact absurd rfl hx
  | diverge => simp [NP, bind, Outcome.bind]

theorem np_bind {α β} (x : Outcome α) (f : α → Outcome β) (hx : NP x) (hf : ∀ a, NP (f a)) : NP (x >>= f) :=
  np_bind' x f hx fun a _ => hf a

theorem np_foldlM_mem {α β} (f : β → α → Outcome β) :
    ∀ (l : List α), (∀ b a, a ∈ l → NP (f b a)) → ∀ (init : β), NP (l.foldlM f init)
  | [], _, init => by simpa [List.foldlM] using np_pure init
  | a :: l, hf, init => by
    rw [List.foldlM_cons]
    exact np_bind _ _ (hf init a (by simp))
      (fun b => np_foldlM_mem f l (fun b' a' ha' => hf b' a' (List.mem_cons_of_mem _ ha')) b)

theorem np_foldlM {α β} (f : β → α → Outcome β) (hf : ∀ b a, NP (f b a)) (l : List α) (init : β) :
    NP (l.foldlM f init) :=
  np_foldlM_mem f l (fun b a _ => hf b a) init

theorem np_closure (g : SGrammar) (nl : List String) (fe : Env) : ∀ (fuel : Nat) (J : List Item),
    NP (closure g nl fe fuel J)
  | 0, _ => np_diverge
  | fuel + 1, J => by
    unfold closure
    cases closureNew g nl fe J with
    | nil => exact np_ok _
    | cons x xs => exact np_closure g nl fe fuel _

theorem np_auto_closure (A : Auto) (I : List Item) : NP (A.closure I) := np_closure _ _ _ _ _

theorem np_goto (A : Auto) (I : List Item) (X : Sy) : NP (A.goto I X) := by
  unfold Auto.goto
  split
  · exact np_bind _ _ (np_auto_closure A I) (fun c => np_pure _)
  · exact np_auto_closure A _

theorem np_canonicalNew (A : Auto) (C : List (List Item)) : NP (canonicalNew A C) := by
  unfold canonicalNew
  apply np_foldlM
  intro acc I
  apply np_foldlM
  intro acc X
  apply np_bind _ _ (np_goto A I X)
  intro J
  split <;> exact np_pure _

theorem np_canonicalLoop (A : Auto) : ∀ (fuel : Nat) (C : List (List Item)), NP (canonicalLoop A fuel C)
  | 0, _ => np_diverge
  | fuel + 1, C => by
    unfold canonicalLoop
    apply np_bind _ _ (np_canonicalNew A C)
    intro new
    split
    · exact np_pure _
    · exact np_canonicalLoop A fuel _

theorem np_canonical (A : Auto) : NP A.canonical := by
  unfold Auto.canonical
  apply np_bind
  · split
    · exact np_ok _
    · exact np_auto_closure A _
  · intro I0; exact np_canonicalLoop A _ _

theorem np_itemActions (start : String) (i : Int) (item : Item) (shiftTo : String → Outcome Int)
    (reduceOn : Item → List String) (T : Table) (hs : ∀ a, NP (shiftTo a)) :
    NP (itemActions start i item shiftTo reduceOn T) := by
  unfold itemActions
  apply np_bind
  · unfold itemShift
    split
    · exact np_bind _ _ (hs _) (fun j => np_pure _)
    · exact np_pure _
  · intro T'; exact np_pure _

theorem np_rows (A : Auto) (S : StateMap) (reduceOn : Item → List String) :
    ∀ (l : List (List Item)) (i : Nat) (T : Table), NP (fillFull.rows A S reduceOn l i T)
  | [], _, T => by unfold fillFull.rows; exact np_pure _
  | I :: rest, i, T => by
    unfold fillFull.rows
    apply np_bind
    · apply np_foldlM
      intro T' item
      apply np_itemActions
      intro a
      exact np_bind _ _ (np_goto A I _) (fun J => np_pure _)
    · intro T'
      apply np_bind
      · apply np_foldlM
        intro T'' n
        split
        · exact np_pure _
        · exact np_bind _ _ (np_goto A I _) (fun J => np_pure _)
      · intro T''; exact np_rows A S reduceOn rest (i + 1) T''

theorem np_fillFull (A : Auto) (S : StateMap) (reduceOn : Item → List String) : NP (fillFull A S reduceOn) := by
  unfold fillFull; exact np_rows A S reduceOn _ _ _

theorem np_augment (g : SGrammar) (h : augStart g ≠ none) : NP (augment g) := by
  unfold augment
  cases hs : augStart g with
  | none => exact absurd hs h
  | some s => exact np_ok _

theorem np_buildSLR (g : SGrammar) (fuel : Nat) (h : augStart g ≠ none) : NP (buildSLR g fuel) := by
  unfold buildSLR
  apply np_bind _ _ (np_augment g h)
  intro g'
  apply np_bind _ _ (np_canonical _)
  intro C
  apply np_bind _ _ (np_fillFull _ _ _)
  intro T
  exact np_pure _

theorem np_buildLR1 (g : SGrammar) (fuel : Nat) (h : augStart g ≠ none) : NP (buildLR1 g fuel) := by
  unfold buildLR1
  apply np_bind _ _ (np_augment g h)
  intro g'
  apply np_bind _ _ (np_canonical _)
  intro C
  apply np_bind _ _ (np_fillFull _ _ _)
  intro T
  exact np_pure _

end AlgoVerif.C11.NoPanic
