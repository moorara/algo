import AlgoVerif.Proofs.C11Complete
import AlgoVerif.Proofs.C11Check
import AlgoVerif.Proofs.C11Grammar
/-!
# C11 — the executable validators `completeLR1OK` and `chainCert` of `Spec/C11` are sound
-/
namespace AlgoVerif.C11.Complete
open AlgoVerif AlgoVerif.Gram AlgoVerif.C11 AlgoVerif.C11.Spec

theorem cell_len {T : Table} (h : chkConflictFree T = true) (s : Int) (a : String) : (T.cell s a).length ≤ 1 := by
  unfold Table.cell
  cases hl : T.actions.lookup (s, a) with
  | none => simp
  | some acts =>
    have hmem := Sound.lookup_mem _ _ _ hl
    unfold chkConflictFree at h
    rw [List.all_eq_true] at h
    simpa using h _ hmem

theorem cell_unique {T : Table} (h : chkConflictFree T = true) {s : Int} {a : String} {x y : Action}
    (hx : x ∈ T.cell s a) (hy : y ∈ T.cell s a) : x = y := by
  match hc : T.cell s a, cell_len h s a, hx, hy with
  | [], _, hx, _ => simp at hx
  | [z], _, hx, hy =>
    simp only [List.mem_singleton] at hx hy
    rw [hx, hy]
  | _ :: _ :: _, hlen, _, _ => simp at hlen

theorem prods_sub_augment {g g' : SGrammar} (ha : augment g = Outcome.ok g') : ∀ p ∈ g.prods, p ∈ g'.prods := by
  intro p hp
  rw [(Built.augment_ok ha).2]
  simp [Built.mem_dedupProds, hp]

theorem fresh_of_check {g : SGrammar} {start' : String} (h : chkFresh g start' = true) :
    ∀ p ∈ g.prods, p.head ≠ start' := by
  unfold chkFresh at h
  simp only [Bool.and_eq_true, Bool.not_eq_true', List.all_eq_true, beq_eq_false_iff_ne, ne_eq] at h
  exact h.2

theorem nullClosed_of_check {ps : List Pr} {nl : List String} (h : chkNullClosed ps nl = true) :
    ∀ p ∈ ps, p.body.all (symNullable nl) = true → p.head ∈ nl := by
  intro p hp hall
  unfold chkNullClosed at h
  simp only [List.all_eq_true, Bool.or_eq_true, Bool.not_eq_true'] at h
  rcases h p hp with h1 | h1
  · rw [hall] at h1; cases h1
  · simpa using h1

theorem firstClosed_of_check {ps : List Pr} {nl : List String} {fe : Env} (h : chkFirstClosed ps nl fe = true) :
    ∀ p ∈ ps, ∀ c ∈ firstOfStr nl fe p.body, c ∈ envGet fe p.head := by
  intro p hp c hc
  unfold chkFirstClosed at h
  simp only [List.all_eq_true] at h
  simpa using h p hp c hc

section
variable {S : StateMap} {T : Table} {s : Int} {it : Item}

theorem state_check {P : List Item × Nat → Item → Bool} (h : (S.zipIdx.all fun Is => Is.1.all (P Is)) = true)
    (hit : it ∈ itemsAt S s) : ∃ n : Nat, s = n ∧ P (itemsAt S s, n) it = true := by
  obtain ⟨n, I, hs, hI, heq⟩ := Sound.itemsAt_get hit
  simp only [List.all_eq_true] at h
  exact ⟨n, hs, heq ▸ h (I, n) (List.mem_zipIdx_iff_getElem?.mpr hI) it (heq ▸ hit)⟩

theorem closed_of_check {g' : SGrammar} {nl : List String} {fe : Env} (h : chkClosed g' nl fe S = true)
    (hit : it ∈ itemsAt S s) {B : String} (hdot : it.dotSym = some (Sym.nonterm B)) {p : Pr} (hp : p ∈ prodsOf g' B) :
    match it.la with
    | none => ({ prod := p, dot := 0, la := none } : Item) ∈ itemsAt S s
    | some a => ∀ b ∈ lookaheadsFor nl fe it a, ({ prod := p, dot := 0, la := some b } : Item) ∈ itemsAt S s := by
  obtain ⟨n, I, _, hI, heq⟩ := Sound.itemsAt_get hit
  unfold chkClosed at h
  simp only [List.all_eq_true] at h
  have := h I (List.mem_of_getElem? hI) it (heq ▸ hit)
  simp only [hdot, List.all_eq_true] at this
  have := this p hp
  rw [heq]
  cases hla : it.la with
  | none => simpa [hla] using this
  | some a => simpa [hla] using this

theorem advT_of_check (h : chkAdvance S T = true) (hit : it ∈ itemsAt S s) {a : String}
    (hdot : it.dotSym = some (Sym.term a)) : ∃ t, Action.shift t ∈ T.cell s a ∧ it.next ∈ itemsAt S t := by
  obtain ⟨n, rfl, this⟩ := state_check h hit
  simp only [hdot, List.any_eq_true] at this
  obtain ⟨act, hact, hok⟩ := this
  cases act with
  | shift t => exact ⟨t, hact, by simpa using hok⟩
  | reduce p => simp at hok
  | accept => simp at hok

theorem advN_of_check (h : chkAdvance S T = true) (hit : it ∈ itemsAt S s) {A : String}
    (hdot : it.dotSym = some (Sym.nonterm A)) : ∃ t, T.goto s A = some t ∧ it.next ∈ itemsAt S t := by
  obtain ⟨n, rfl, this⟩ := state_check h hit
  simp only [hdot] at this
  cases hg : T.goto (n : Int) A with
  | none => simp [hg] at this
  | some t =>
    simp only [hg] at this
    exact ⟨t, rfl, by simpa using this⟩

theorem red_of_check {start' : String} {follow : String → List String}
    (h : chkReduceComplete start' follow S T = true) (hit : it ∈ itemsAt S s) (hcomp : it.isComplete = true)
    (hhead : it.prod.head ≠ start') :
    ∀ a ∈ (match it.la with | some a => [a] | none => follow it.prod.head), Action.reduce it.prod ∈ T.cell s a := by
  obtain ⟨n, rfl, this⟩ := state_check h hit
  have hh : (it.prod.head == start') = false := by simpa using hhead
  simp only [hcomp, if_true, hh, Bool.false_eq_true, if_false, List.all_eq_true] at this
  intro a ha
  simpa using this a ha

theorem acc_of_check {start' : String} {follow : String → List String}
    (h : chkReduceComplete start' follow S T = true) (hit : it ∈ itemsAt S s) (hcomp : it.isComplete = true)
    (hhead : it.prod.head = start') : Action.accept ∈ T.cell s endmarker := by
  obtain ⟨n, rfl, this⟩ := state_check h hit
  have hh : (it.prod.head == start') = true := by simpa using hhead
  simp only [hcomp, if_true, hh] at this
  simpa using this

end

theorem completeTable_of_check (g : SGrammar) (b : Built) (hv : completeLR1OK g b = true) :
    ∃ g' nl fe, CompleteTable g b.start nl fe (itemsAt b.states) b.table.toTbl ∧ augment g = Outcome.ok g' := by
  unfold completeLR1OK at hv
  cases ha : augment g with
  | panic => simp [ha] at hv
  | diverge => simp [ha] at hv
  | ok g' =>
    simp only [ha, Bool.and_eq_true, beq_iff_eq] at hv
    obtain ⟨⟨⟨⟨⟨⟨⟨⟨⟨hstart, hnull⟩, hfirst⟩, hinit⟩, hall⟩, hclosed⟩, hadv⟩, hred⟩, hcf⟩, hfresh⟩ := hv
    refine ⟨g', nullableOf g', firstEnv g' (nullableOf g'), ?_, rfl⟩
    have hsub := prods_sub_augment ha
    refine ⟨?_, ?_, fun s it a hit hdot => advT_of_check hadv hit hdot,
      fun s it A hit hdot => advN_of_check hadv hit hdot, ?_,
      fun s it hit hcomp hhead => acc_of_check hred hit hcomp hhead, cell_len hcf,
      fun p hp => nullClosed_of_check hnull p (hsub p hp), fun p hp => firstClosed_of_check hfirst p (hsub p hp),
      fresh_of_check hfresh⟩
    · unfold chkInitLR1 at hinit
      simpa using hinit
    · intro s it B a hit hdot hita p hp hhead
      have := closed_of_check hclosed hit hdot (p := p) (by simp [prodsOf, hsub p hp, hhead])
      rwa [hita] at this
    · intro s it a hit hcomp hita hhead
      have := red_of_check hred hit hcomp hhead
      rw [hita] at this
      exact this a (by simp)

end AlgoVerif.C11.Complete

namespace AlgoVerif.C11.Chain
open AlgoVerif AlgoVerif.Gram AlgoVerif.C11 AlgoVerif.C11.Spec

theorem image_nonshift {f : Int → Int} {x : Action} (hx : isShift x = false) : actionImage f x = x := by
  cases x <;> simp [actionImage, isShift] at hx ⊢

theorem image_shift_isShift {f : Int → Int} {x : Action} (hx : isShift x = true) : isShift (actionImage f x) = true := by
  cases x <;> simp [actionImage, isShift] at hx ⊢

theorem conflictFree_of_certF (f : Int → Int) (b1 b2 : Built) (hc : chainCertF f b1 b2 = true)
    (h1 : chkConflictFree b1.table = true) : chkConflictFree b2.table = true := by
  unfold chkConflictFree
  rw [List.all_eq_true]
  intro e he
  unfold chainCertF at hc
  rw [List.all_eq_true] at hc
  have hce := hc e he
  simp only [Bool.and_eq_true, decide_eq_true_eq, List.all_eq_true, List.contains_iff_mem] at hce
  obtain ⟨⟨hnd, hone⟩, himg⟩ := hce
  simp only [decide_eq_true_eq]
  match hacts : e.2 with
  | [] => simp
  | [_] => simp
  | x :: y :: rest =>
    exfalso
    rw [hacts] at hnd hone himg
    have hxy : x ≠ y := by
      intro h; subst h; simp at hnd
    -- both images are the single action of the b1 cell
    have heq : actionImage f x = actionImage f y := Complete.cell_unique h1 (himg x (by simp)) (himg y (by simp))
    cases hsx : isShift x with
    | true =>
      cases hsy : isShift y with
      | true => simp [List.filter, hsx, hsy] at hone
      | false =>
        rw [image_nonshift hsy] at heq
        have := image_shift_isShift (f := f) hsx
        rw [heq, hsy] at this; cases this
    | false =>
      cases hsy : isShift y with
      | true =>
        rw [image_nonshift hsx] at heq
        have := image_shift_isShift (f := f) hsy
        rw [← heq, hsx] at this; cases this
      | false =>
        rw [image_nonshift hsx, image_nonshift hsy] at heq
        exact hxy heq

theorem conflictFree_of_cert (b1 b2 : Built) (hc : chainCert b1 b2 = true)
    (h1 : chkConflictFree b1.table = true) : chkConflictFree b2.table = true :=
  conflictFree_of_certF _ b1 b2 hc h1

end AlgoVerif.C11.Chain
