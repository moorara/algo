import AlgoVerif.Proofs.C11Built
/-!
# C11 — the table fill of the three constructions, and the provenance of its entries

After the state map `S` exists, SLR(1), canonical LR(1) and LALR(1) fill the table in the same way: row `i` runs over the
items `c` of state `S[i]` (the state itself for the complete-item-set constructions, its CLOSURE for LALR, where `S` holds
kernels), enters the actions these items ask for (`Asks`) — a shift to the state that `find` looks up for `GOTO(S[i], a)` —
and the GOTO entries of the row.  `FillRel` says what a returning row loop did; `fillFull.rows` and `buildLALR.rows` both
satisfy it.  What every `AddACTION` and `SetGOTO` of a fill preserves holds of the table it returns (`fillRel_inv`); in
particular every entry was asked for by its row (`fillRel_prov`).
-/
namespace AlgoVerif.C11.Built
open AlgoVerif AlgoVerif.Gram AlgoVerif.C11 AlgoVerif.C11.Spec

def Prov (PA : Int → String → Action → Prop) (PG : Int → String → Int → Prop) (T : Table) : Prop :=
  (∀ e ∈ T.actions, ∀ act ∈ e.2, PA e.1.1 e.1.2 act) ∧ (∀ e ∈ T.gotos, PG e.1.1 e.1.2 e.2)

section
variable {PA : Int → String → Action → Prop} {PG : Int → String → Int → Prop} {T : Table} {s : Int}

theorem prov_addAction {a : String} {act : Action} (hT : Prov PA PG T) (hact : PA s a act) :
    Prov PA PG (T.addAction s a act) := by
  unfold Table.addAction
  split
  · refine ⟨?_, hT.2⟩
    intro e he x hx
    simp only [List.mem_map] at he
    obtain ⟨e0, he0, rfl⟩ := he
    by_cases hk : (e0.1 == (s, a)) = true
    · simp only [hk, if_true] at hx ⊢
      have hkey : e0.1 = (s, a) := by simpa using hk
      rcases mem_addNew.mp hx with h1 | h1
      · exact hT.1 e0 he0 x h1
      · rw [h1, hkey]; exact hact
    · simp only [hk] at hx ⊢
      exact hT.1 e0 he0 x hx
  · refine ⟨?_, hT.2⟩
    intro e he x hx
    rcases List.mem_append.mp he with h1 | h1
    · exact hT.1 e h1 x hx
    · simp at h1
      subst h1
      simp at hx
      subst hx
      exact hact

theorem prov_setGoto {X : String} {t : Int} (hT : Prov PA PG T) (hg : PG s X t) : Prov PA PG (T.setGoto s X t) := by
  unfold Table.setGoto
  split
  · exact hT
  · split
    · refine ⟨hT.1, ?_⟩
      intro e he
      simp only [List.mem_map] at he
      obtain ⟨e0, he0, rfl⟩ := he
      by_cases hk : (e0.1 == (s, X)) = true
      · simp only [hk, if_true]
        have hkey : e0.1 = (s, X) := by simpa using hk
        rw [hkey]; exact hg
      · simp only [hk]
        exact hT.2 e0 he0
    · refine ⟨hT.1, ?_⟩
      intro e he
      rcases List.mem_append.mp he with h1 | h1
      · exact hT.2 e h1
      · simp at h1; subst h1; exact hg

end

/-- the actions the items `c` of a row ask for on the terminal `a` (steps 2a–2c of the constructions); `tgt a j`: the
row's transition on `a` leads to state `j` -/
def Asks (start : String) (reduceOn : Item → List String) (c : List Item) (tgt : String → Int → Prop) (a : String) :
    Action → Prop
  | .shift j => (∃ it ∈ c, it.dotSym = some (Sym.term a)) ∧ tgt a j
  | .reduce p => ∃ it ∈ c, it.prod = p ∧ it.isComplete = true ∧ it.isFinal start = false ∧ a ∈ reduceOn it
  | .accept => a = endmarker ∧ ∃ it ∈ c, it.isFinal start = true

theorem Asks.mono {start : String} {reduceOn : Item → List String} {c c' : List Item} {tgt tgt' : String → Int → Prop}
    (hc : ∀ x ∈ c, x ∈ c') (ht : ∀ a j, tgt a j → tgt' a j) {a : String} {act : Action}
    (h : Asks start reduceOn c tgt a act) : Asks start reduceOn c' tgt' a act := by
  cases act with
  | shift j => exact ⟨h.1.imp fun it hit => ⟨hc it hit.1, hit.2⟩, ht a j h.2⟩
  | reduce p => exact h.imp fun it hit => ⟨hc it hit.1, hit.2⟩
  | accept => exact ⟨h.1, h.2.imp fun it hit => ⟨hc it hit.1, hit.2⟩⟩

theorem itemActions_inv {Inv : Table → Prop} {start : String} {i : Int} {item : Item}
    {shiftTo : String → Outcome Int} {reduceOn : Item → List String} {T T' : Table}
    (hr : itemActions start i item shiftTo reduceOn T = Outcome.ok T') (hT : Inv T)
    (hact : ∀ a act T0, Asks start reduceOn [item] (fun a j => shiftTo a = Outcome.ok j) a act → Inv T0 →
      Inv (T0.addAction i a act)) : Inv T' := by
  have hitem : item ∈ [item] := List.mem_singleton.mpr rfl
  unfold itemActions at hr
  obtain ⟨T1, hT1, hrest⟩ := bind_eq_ok hr
  rw [← pure_eq_ok hrest]
  have h1 : Inv T1 := by
    unfold itemShift at hT1
    split at hT1
    · rename_i a hd
      obtain ⟨j, hj, hrest1⟩ := bind_eq_ok hT1
      rw [← pure_eq_ok hrest1]
      exact hact a _ T ⟨⟨item, hitem, hd⟩, hj⟩ hT
    · rw [← pure_eq_ok hT1]; exact hT
  unfold itemReduce
  have h2 : Inv (if (item.isComplete && !item.isFinal start) = true then
      (reduceOn item).foldl (fun T a => T.addAction i a (Action.reduce item.prod)) T1 else T1) := by
    split
    · rename_i hc
      simp only [Bool.and_eq_true, Bool.not_eq_true'] at hc
      suffices aux : ∀ (l : List String) (T0 : Table), (∀ a ∈ l, a ∈ reduceOn item) → Inv T0 →
          Inv (l.foldl (fun T a => T.addAction i a (Action.reduce item.prod)) T0) from aux _ _ (fun _ h => h) h1
      intro l
      induction l with
      | nil => intro T0 _ h0; exact h0
      | cons a l ih =>
        intro T0 hl h0
        simp only [List.foldl_cons]
        exact ih _ (fun b hb => hl b (List.mem_cons_of_mem _ hb))
          (hact a _ T0 ⟨item, hitem, rfl, hc.1, hc.2, hl a (by simp)⟩ h0)
    · exact h1
  simp only
  split
  · rename_i hf
    exact hact _ _ _ ⟨rfl, item, hitem, hf⟩ h2
  · exact h2

def Row (rowItems : List Item → Outcome (List Item)) (S : StateMap) (i : Nat) (c : List Item) : Prop :=
  ∃ I, S[i]? = some I ∧ rowItems I = Outcome.ok c

def Tgt (A : Auto) (find : List Item → Int) (S : StateMap) (i : Nat) (X : Sy) (j : Int) : Prop :=
  ∃ I J, S[i]? = some I ∧ A.goto I X = Outcome.ok J ∧ j = find J

theorem row_fun (rowItems : List Item → Outcome (List Item)) (S : StateMap) :
    ∀ i c c', Row rowItems S i c → Row rowItems S i c' → c = c' := by
  rintro i c c' ⟨I, hI, hc⟩ ⟨I', hI', hc'⟩
  cases hI.symm.trans hI'
  exact Outcome.ok.inj (hc.symm.trans hc')

theorem tgt_fun (A : Auto) (find : List Item → Int) (S : StateMap) :
    ∀ i X j j', Tgt A find S i X j → Tgt A find S i X j' → j = j' := by
  rintro i X j j' ⟨I, J, hI, hJ, rfl⟩ ⟨I', J', hI', hJ', rfl⟩
  cases hI.symm.trans hI'
  cases hJ.symm.trans hJ'
  rfl

/-- Rows `i, i+1, …` of the state map `S` take the table `T` to `T'`. -/
inductive FillRel (rowItems : List Item → Outcome (List Item)) (A : Auto) (find : List Item → Int)
    (reduceOn : Item → List String) (S : StateMap) : Nat → Table → Table → Prop
  | done {i : Nat} {T : Table} : S.length ≤ i → FillRel rowItems A find reduceOn S i T T
  | row {i : Nat} {I c : List Item} {T T1 T2 T' : Table} : S[i]? = some I → rowItems I = Outcome.ok c →
      c.foldlM (fun T item => itemActions A.g.start (i : Int) item
        (fun a => A.goto I (Sym.term a) >>= fun J => pure (find J)) reduceOn T) T = Outcome.ok T1 →
      A.g.nonterms.foldlM (fun T n => if n = A.g.start then pure T else do
        let J ← A.goto I (Sym.nonterm n)
        pure (T.setGoto (i : Int) n (find J))) T1 = Outcome.ok T2 →
      FillRel rowItems A find reduceOn S (i + 1) T2 T' →
      FillRel rowItems A find reduceOn S i T T'

theorem drop_cons_getElem? {α} {S : List α} {i : Nat} {I : α} {rest : List α} (h : S.drop i = I :: rest) :
    S[i]? = some I ∧ S.drop (i + 1) = rest := by
  constructor
  · have := List.getElem?_drop (xs := S) (i := i) (j := 0)
    rw [h] at this
    simpa using this.symm
  · rw [← List.drop_drop, h]; rfl

theorem fillRel_of_rows (A : Auto) (S : StateMap) (reduceOn : Item → List String) :
    ∀ (l : List (List Item)) (i : Nat) (T T' : Table), S.drop i = l → fillFull.rows A S reduceOn l i T = Outcome.ok T' →
      FillRel pure A (findItemSet S) reduceOn S i T T'
  | [], i, T, T', hl, hr => by
    unfold fillFull.rows at hr
    cases pure_eq_ok hr
    exact FillRel.done (List.drop_eq_nil_iff.mp hl)
  | I :: rest, i, T, T', hl, hr => by
    unfold fillFull.rows at hr
    obtain ⟨T1, hT1, hr1⟩ := bind_eq_ok hr
    obtain ⟨T2, hT2, hr2⟩ := bind_eq_ok hr1
    obtain ⟨hI, hrest⟩ := drop_cons_getElem? hl
    exact FillRel.row hI rfl hT1 hT2 (fillRel_of_rows A S reduceOn rest (i + 1) T2 T' hrest hr2)

theorem fillRel_of_fillFull {A : Auto} {S : StateMap} {reduceOn : Item → List String} {T : Table}
    (hr : fillFull A S reduceOn = Outcome.ok T) :
    FillRel pure A (findItemSet S) reduceOn S 0 { nstates := S.length, actions := [], gotos := [] } T :=
  fillRel_of_rows A S reduceOn S 0 _ T rfl hr

/-- the lookaheads an LR(1) item reduces on -/
def la1 (item : Item) : List String :=
  match item.la with
  | some a => [a]
  | none => []

/-- the closures recorded for the processed kernels -/
def RowsRel (A : Auto) (start : String) (l cs : List (List Item)) : Prop :=
  cs.length = l.length ∧
    ∀ (k : Nat) (I : List Item), l[k]? = some I →
      ∃ c, A.closure I = Outcome.ok c ∧ cs[k]? = some (sortBy (cmpItem start) c)

theorem rowsRel_state {A : Auto} {start : String} {S cl : StateMap} (hrel : RowsRel A start S cl) {i : Nat}
    {Ic : List Item} (hIc : cl[i]? = some Ic) :
    ∃ I c, S[i]? = some I ∧ A.closure I = Outcome.ok c ∧ Ic = sortBy (cmpItem start) c := by
  have hi : i < S.length := hrel.1 ▸ (List.getElem?_eq_some_iff.mp hIc).1
  obtain ⟨c, hc, hcl⟩ := hrel.2 i _ (List.getElem?_eq_getElem hi)
  exact ⟨_, c, List.getElem?_eq_getElem hi, hc, Option.some.inj (hIc.symm.trans hcl)⟩

theorem fillRel_of_rowsL (A : Auto) (S : StateMap) :
    ∀ (l : List (List Item)) (i : Nat) (T : Table) (cl : List (List Item)) (T' : Table) (cl' : List (List Item)),
      S.drop i = l → buildLALR.rows A.g A S l i T cl = Outcome.ok (T', cl') →
      FillRel A.closure A (findSuperset S) la1 S i T T' ∧ ∃ cs, cl' = cl ++ cs ∧ RowsRel A A.g.start l cs
  | [], i, T, cl, T', cl', hl, hr => by
    unfold buildLALR.rows at hr
    have := pure_eq_ok hr
    simp only [Prod.mk.injEq] at this
    obtain ⟨rfl, rfl⟩ := this
    exact ⟨FillRel.done (List.drop_eq_nil_iff.mp hl), [], by simp, rfl, by intro k I hk; simp at hk⟩
  | I :: rest, i, T, cl, T', cl', hl, hr => by
    unfold buildLALR.rows at hr
    obtain ⟨c, hc, hr0⟩ := bind_eq_ok hr
    obtain ⟨T1, hT1, hr1⟩ := bind_eq_ok hr0
    obtain ⟨T2, hT2, hr2⟩ := bind_eq_ok hr1
    obtain ⟨hI, hrest⟩ := drop_cons_getElem? hl
    obtain ⟨hrel, cs, hcs, hrr⟩ := fillRel_of_rowsL A S rest (i + 1) T2 _ T' cl' hrest hr2
    refine ⟨FillRel.row hI hc hT1 hT2 hrel, sortBy (cmpItem A.g.start) c :: cs, by rw [hcs]; simp, by simp [hrr.1], ?_⟩
    intro k I' hk
    cases k with
    | zero =>
      simp at hk
      subst hk
      exact ⟨c, hc, by simp⟩
    | succ k =>
      obtain ⟨c', hc', hcs'⟩ := hrr.2 k I' (by simpa using hk)
      exact ⟨c', hc', by simpa using hcs'⟩

theorem lalrRows_spec {g' : SGrammar} {A : Auto} (hAg : A.g = g') {S : StateMap} {T : Table} {cl : List (List Item)}
    (hr : buildLALR.rows g' A S S 0 { nstates := S.length, actions := [], gotos := [] } [] = Outcome.ok (T, cl)) :
    FillRel A.closure A (findSuperset S) la1 S 0 { nstates := S.length, actions := [], gotos := [] } T ∧
      RowsRel A g'.start S cl := by
  subst hAg
  obtain ⟨hfill, cs, hcs, hrel⟩ := fillRel_of_rowsL A S S 0 _ [] T cl rfl hr
  cases (List.nil_append cs ▸ hcs : cl = cs)
  exact ⟨hfill, hrel⟩

section
variable {rowItems : List Item → Outcome (List Item)} {A : Auto} {find : List Item → Int}
  {reduceOn : Item → List String} {S : StateMap}

theorem fillRel_inv {Inv : Table → Prop} {i : Nat} {T T' : Table}
    (hr : FillRel rowItems A find reduceOn S i T T') (h0 : Inv T)
    (hgoto : ∀ (i : Nat) n j T0, Tgt A find S i (Sym.nonterm n) j → Inv T0 → Inv (T0.setGoto (i : Int) n j))
    (hact : ∀ (i : Nat) c a act T0, Row rowItems S i c →
      Asks A.g.start reduceOn c (fun a j => Tgt A find S i (Sym.term a) j) a act → Inv T0 →
      Inv (T0.addAction (i : Int) a act)) : Inv T' := by
  induction hr with
  | done _ => exact h0
  | @row i I c T T1 T2 T' hI hc hT1 hT2 _ ih =>
    apply ih
    have h1 : Inv T1 := by
      refine Outcome.All.foldlM c T h0 ?_ T1 hT1
      intro b item hitem hb b' hstep
      refine itemActions_inv hstep hb fun a act T0 hask => hact i c a act T0 ⟨I, hI, hc⟩ (hask.mono (by simpa using hitem) ?_)
      intro a j hj
      obtain ⟨J, hJ, hrest⟩ := bind_eq_ok hj
      exact ⟨I, J, hI, hJ, (pure_eq_ok hrest).symm⟩
    refine Outcome.All.foldlM _ T1 h1 ?_ T2 hT2
    intro b n _ hb b' hstep
    split at hstep
    · rw [← pure_eq_ok hstep]; exact hb
    · obtain ⟨J, hJ, hrest⟩ := bind_eq_ok hstep
      rw [← pure_eq_ok hrest]
      exact hgoto i n _ b ⟨I, J, hI, hJ, rfl⟩ hb

def ActSrc (start : String) (reduceOn : Item → List String) (Rw : Nat → List Item → Prop) (Tg : Nat → Sy → Int → Prop)
    (s : Int) (a : String) (act : Action) : Prop :=
  ∃ (i : Nat) (c : List Item), s = (i : Int) ∧ Rw i c ∧ Asks start reduceOn c (fun a j => Tg i (Sym.term a) j) a act

def GotoSrc (Tg : Nat → Sy → Int → Prop) (s : Int) (X : String) (t : Int) : Prop :=
  ∃ i : Nat, s = (i : Int) ∧ Tg i (Sym.nonterm X) t

theorem fillRel_prov {n : Nat} {T : Table}
    (hr : FillRel rowItems A find reduceOn S 0 { nstates := n, actions := [], gotos := [] } T) :
    Prov (ActSrc A.g.start reduceOn (Row rowItems S) (Tgt A find S)) (GotoSrc (Tgt A find S)) T :=
  fillRel_inv hr ⟨by simp, by simp⟩ (fun i _ _ _ htg h => prov_setGoto h ⟨i, rfl, htg⟩)
    fun i c _ _ _ hrow hask h => prov_addAction h ⟨i, c, rfl, hrow, hask⟩

end

end AlgoVerif.C11.Built
