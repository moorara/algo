import AlgoVerif.Proofs.C11TermMain
import AlgoVerif.Proofs.C11LalrComplete
import AlgoVerif.Proofs.C11CompleteSLRCheck
/-!
# C11 — termination of the driver: the conflict-free tables BUILT by the canonical LR(1), LALR(1) and SLR(1)
constructions satisfy the hypotheses of `Term.terminates'` (LR(1), LALR(1): in the bundled form `TermHyp`), hence the driver
halts on every input

What is added to the two validators: the item sets of the built tables are closures of kernels (`td_of_closure`), items
are dotted productions of `G′`, every body has a forest (productivity), and non-empty states are numbered below a bound.
-/
namespace AlgoVerif.C11.Term
open AlgoVerif AlgoVerif.Gram AlgoVerif.C11 AlgoVerif.C11.Spec AlgoVerif.C11.Built AlgoVerif.C11.BuiltComplete
  AlgoVerif.C11.Complete AlgoVerif.C11.Sound AlgoVerif.C11.Lalr

theorem forest_exists {g : SGrammar} (hprod : Productive g) : ∀ (β : List Sy),
    (∀ B, Sym.nonterm B ∈ β → B ∈ g.nonterms) → ∃ ks, derivesL g ks β
  | [], _ => ⟨[], by simp [derivesL]⟩
  | .term t :: rest, h => by
    obtain ⟨ks, hks⟩ := forest_exists hprod rest (fun B hB => h B (List.mem_cons_of_mem _ hB))
    exact ⟨Tree.leaf t :: ks, by simp only [derivesL]; exact ⟨_, _, rfl, by simp [derivesT], hks⟩⟩
  | .nonterm B :: rest, h => by
    obtain ⟨ks, hks⟩ := forest_exists hprod rest (fun B' hB' => h B' (List.mem_cons_of_mem _ hB'))
    obtain ⟨w, hw⟩ := hprod B (h B (by simp))
    have h0 : HasForest g w (w.map Sym.term) := ⟨_, (derivesL_terms g w).1, (derivesL_terms g w).2⟩
    obtain ⟨k0, hk0, _⟩ := hasForest_of_derives hw h0
    exact ⟨k0 ++ ks, derivesL_append hk0 hks⟩

theorem td_of_closure {g' : SGrammar} {nl : List String} {fe : Env} {fuel : Nat} {J I : List Item} {start' : String}
    {items : Int → List Item} {s : Int} (hc : closure g' nl fe fuel J = Outcome.ok I)
    (hJ : ∀ x ∈ J, 0 < x.dot ∨ x.prod.head = start') (hitems : ∀ x, x ∈ items s ↔ x ∈ I) :
    ∀ x ∈ I, TD items start' s x := by
  obtain ⟨hcl, hsub, _⟩ := closure_fix g' nl fe fuel J I hc
  refine Built.closure_pred _ ?_ fuel J I hc (fun x hx => TD.kernel ((hitems _).mpr (hsub _ hx)) (hJ _ hx))
  intro i hi j hj
  have hjI : j ∈ I := hcl i ((hitems _).mp (TD.mem hi)) j hj
  obtain ⟨B, p, hd, hp, hcase⟩ := mem_closureCands.mp hj
  have hph : p.head = B := (mem_prodsOf.mp hp).2
  have hjp : j.prod = p ∧ j.dot = 0 := by
    rcases hcase with ⟨_, rfl⟩ | ⟨_, _, _, _, rfl⟩ <;> exact ⟨rfl, rfl⟩
  exact TD.clo hi (by rw [hjp.1, hph]; exact hd) ((hitems _).mpr hjI) hjp.2

section
variable {g g' : SGrammar} (hv : ValidG g) (ht : TermsListed g) (ha : augment g = Outcome.ok g')
  (hprod : Productive g)
include hv ha hprod

omit ht in
theorem body_forest {p : Pr} (hp : p ∈ g'.prods) (n : Nat) : ∃ ks, derivesL g ks (p.body.drop n) := by
  have h := augOK_of_augment hv ha
  apply forest_exists hprod
  intro B hB
  have hB' := List.mem_of_mem_drop hB
  rcases (mem_prods' h).mp hp with h1 | h1
  · exact h.bodies _ h1 B hB'
  · rw [h1] at hB'
    simp only [startProd, List.mem_singleton, Sym.nonterm.injEq] at hB'
    exact hB' ▸ h.startIn

omit ht hprod in
theorem prods_cases {p : Pr} (hp : p ∈ g'.prods) :
    p ∈ g.prods ∨ p = { head := g'.start, body := [Sym.nonterm g.start] } :=
  (mem_prods' (augOK_of_augment hv ha)).mp hp

end

theorem canonical_kernels {A : Auto} (hAk : A.kernel = false) {C : List (List Item)} (hc : A.canonical = Outcome.ok C)
    (hinit : A.initialItem.prod.head = A.g.start) :
    ∀ I ∈ C, ∃ J, closure A.g A.nl A.fe A.fuel J = Outcome.ok I ∧ ∀ x ∈ J, 0 < x.dot ∨ x.prod.head = A.g.start := by
  obtain ⟨I0, hI0, hg⟩ := canonical_grows hc
  simp only [hAk, Bool.false_eq_true, if_false] at hI0
  refine grows_all (fun I => ∃ J, closure A.g A.nl A.fe A.fuel J = Outcome.ok I ∧
    ∀ x ∈ J, 0 < x.dot ∨ x.prod.head = A.g.start) ?hgo hg ?hC
  case hC => exact List.forall_mem_singleton.mpr ⟨[A.initialItem], hI0, List.forall_mem_singleton.mpr (Or.inr hinit)⟩
  case hgo =>
    intro I J X _ hg
    rw [goto_eq hAk] at hg
    refine ⟨advance I X, hg, ?_⟩
    intro x hx
    obtain ⟨i0, _, _, rfl⟩ := mem_advance.mp hx
    left; simp [Item.next]

section
variable {g g' : SGrammar} (hv : ValidG g) (ha : augment g = Outcome.ok g') {A : Auto} (hAg : A.g = g')
  (hAk : A.kernel = false) {C : List (List Item)} (hc : A.canonical = Outcome.ok C)
include hv ha hAg hAk hc

theorem canonical_state {s : Int} {it : Item} (hit : it ∈ itemsAt (buildStateMap g'.start C) s) :
    TD (itemsAt (buildStateMap g'.start C)) g'.start s it ∧ it.prod ∈ g'.prods := by
  have h := augOK_of_augment hv ha
  obtain ⟨i, I, rfl, hI, heq⟩ := itemsAt_get hit
  have hitI : it ∈ I := heq ▸ hit
  refine ⟨?_, (states_good h hAg hAk hc i I hI it hitI).1⟩
  obtain ⟨I', hI', rfl⟩ := mem_buildStateMap.mp (List.mem_of_getElem? hI)
  have hinit : A.initialItem.prod.head = A.g.start := by rw [initialItem_eq h hAg, hAg]; rfl
  obtain ⟨J, hJ, hJk⟩ := canonical_kernels hAk hc hinit I' hI'
  rw [hAg] at hJ hJk
  exact td_of_closure hJ hJk (fun x => by rw [itemsAt_of_get hI, mem_sortBy]) it ((mem_sortBy _ _ _).mp hitI)

end

theorem terminates_lr1 (g : SGrammar) (hv : ValidG g) (ht : TermsListed g) (hprod : Productive g) (fuel : Nat)
    (b : Built) (hb : buildLR1 g fuel = Outcome.ok b) (hcf : chkConflictFree b.table = true) (w : List String)
    (hw : endmarker ∉ w) : ∃ fuel' r, parse b.table.toTbl fuel' w = Outcome.ok r := by
  obtain ⟨g0, nl, fe, hC, ha0⟩ := completeTable_of_check g b (built_complete_lr1 g hv ht fuel b hb hcf)
  have hS := soundTable_of_within g b b.table (soundOK_buildLR1 hv hb) (within_refl _)
  obtain ⟨g', C, T, hg', hCc, hT, rfl⟩ := buildLR1_ok hb
  have hst := fun s it => canonical_state hv hg' (A := mkAuto g' true false fuel) rfl rfl hCc (s := s) (it := it)
  exact terminates (g := g) (start' := g'.start) (nl := nl) (fe := fe) (items := itemsAt (buildStateMap g'.start C))
    ⟨hC, hS, fun s it hit => (hst s it hit).1, fun s it hit => prods_cases hv hg' (hst s it hit).2,
      fun s it hit n => body_forest hv hg' hprod (hst s it hit).2 n, _, fun s hne => itemsAt_bound _ s hne⟩ w hw

theorem kernel0_kernels {g' : SGrammar} {fuel : Nat} {K0 : List (List Item)}
    (hK0 : (mkAuto g' false true fuel).canonical = Outcome.ok K0)
    (hinit : (mkAuto g' false true fuel).initialItem.prod.head = g'.start) :
    ∀ I ∈ buildStateMap g'.start K0, ∀ x ∈ I, 0 < x.dot ∨ x.prod.head = g'.start :=
  k0_items hK0 (Or.inr hinit) fun _ _ _ _ it _ => Or.inl (Nat.succ_pos it.dot)

theorem terminates_lalr (g : SGrammar) (hv : ValidG g) (ht : TermsListed g) (hprod : Productive g) (fuel : Nat)
    (b : Built) (hb : buildLALR g fuel = Outcome.ok b) (hcf : chkConflictFree b.table = true) (w : List String)
    (hw : endmarker ∉ w) : ∃ fuel' r, parse b.table.toTbl fuel' w = Outcome.ok r := by
  obtain ⟨g0, nl, fe, hC, ha0⟩ := completeTable_of_check g b (built_complete_lalr g hv ht hprod fuel b hb hcf)
  have hS := soundTable_of_within g b b.table (soundOK_buildLALR hv hb) (within_refl _)
  obtain ⟨g', K, T, cl, hg', hK, hrows, rfl⟩ := buildLALR_ok hb
  obtain ⟨R⟩ := lalrRun_of_ok hK
  have h := augOK_of_augment hv hg'
  have hAg : (mkAuto g' true true fuel).g = g' := rfl
  have hAk : (mkAuto g' true true fuel).kernel = true := rfl
  have hSL := stateMap_spec (isInitial_initialItem h hAg) (lalrKernels_spec h hK)
  obtain ⟨_, hrel⟩ := lalrRows_spec hAg hrows
  have hinit0Eq := initialItem_eq h (A := mkAuto g' false true fuel) rfl
  have hk0 := kernel0_kernels R.hK0 (by rw [hinit0Eq]; rfl)
  have hstate : ∀ s it, it ∈ itemsAt cl s →
      ∃ (i : Nat) (I c : List Item), s = (i : Int) ∧ (buildStateMap g'.start K)[i]? = some I ∧
        closure g' (nullableOf g') (firstEnv g' (nullableOf g')) fuel I = Outcome.ok c ∧
        cl[i]? = some (sortBy (cmpItem g'.start) c) ∧ it ∈ c := by
    intro s it hit
    obtain ⟨n, Ic, hs, hIc, heq⟩ := itemsAt_get hit
    obtain ⟨I, c, hI, hc, rfl⟩ := rowsRel_state hrel hIc
    rw [heq] at hit
    exact ⟨n, I, c, hs, hI, hc, hIc, (mem_sortBy _ _ _).mp hit⟩
  have hgoodc : ∀ (i : Nat) (I c : List Item), (buildStateMap g'.start K)[i]? = some I →
      closure g' (nullableOf g') (firstEnv g' (nullableOf g')) fuel I = Outcome.ok c → ∀ it ∈ c, Good g' it := by
    intro i I c hI hc
    exact (auto_closure_spec h hAg (I := I) (K := c) hc (statesOK_good hSL i I hI)).2.2
  apply terminates (g := g) (start' := g'.start) (nl := nl) (fe := fe) (items := itemsAt cl)
    ⟨hC, hS, ?_, ?_, ?_, ?_⟩ w hw
  · intro s it hit
    obtain ⟨i, I, c, rfl, hI, hc, hcli, hitc⟩ := hstate s it hit
    refine td_of_closure hc ?_ (fun x => by rw [itemsAt_of_get hcli, mem_sortBy]) it hitc
    intro x hx
    obtain ⟨s0, Is, hIs, hKmem⟩ := kernel_src h R (List.mem_of_getElem? hI)
    obtain ⟨k, a, hLA, rfl⟩ := (hKmem x).mp hx
    exact hk0 Is (List.mem_of_getElem? hIs) k (la_mem hIs hLA)
  · intro s it hit
    obtain ⟨i, I, c, rfl, hI, hc, _, hitc⟩ := hstate s it hit
    exact prods_cases hv hg' (hgoodc i I c hI hc it hitc).1
  · intro s it hit n
    obtain ⟨i, I, c, rfl, hI, hc, _, hitc⟩ := hstate s it hit
    exact body_forest hv hg' hprod (hgoodc i I c hI hc it hitc).1 n
  · exact ⟨_, fun s hne => itemsAt_bound _ s hne⟩

/-! ## built SLR(1) tables

An SLR(1) table is a `CompleteTable` over virtual LR(1) item sets (`Complete.completeTable_virt`, explained in
`C11CompleteSLRCheck`); `SoundTable` and the top-down structure hold of the LR(0) item sets as they are, and
`Term.terminates'` takes the two families side by side.
-/
theorem terminates_slr (g : SGrammar) (hv : ValidG g) (ht : TermsListed g) (hprod : Productive g) (fuel : Nat)
    (b : Built) (hb : buildSLR g fuel = Outcome.ok b) (hcf : chkConflictFree b.table = true) (w : List String)
    (hw : endmarker ∉ w) : ∃ fuel' r, parse b.table.toTbl fuel' w = Outcome.ok r := by
  obtain ⟨nl, fe, fo, hC0⟩ := completeTable0_of_check g b (built_complete_slr g hv ht fuel b hb hcf)
  have hS0 := soundTable_of_within g b b.table (soundOK_buildSLR hv hb) (within_refl _)
  obtain ⟨g', C, T, hg', hCc, hT, rfl⟩ := buildSLR_ok hb
  simp only at hC0 hS0
  have hst := fun s it => canonical_state hv hg' (A := mkAuto g' false false fuel) rfl rfl hCc (s := s) (it := it)
  exact terminates' (completeTable_virt hC0) hS0 (fun s it hit => (hst s it hit).1)
    (fun s it hit => prods_cases hv hg' (hst s it hit).2) (fun s it hit n => body_forest hv hg' hprod (hst s it hit).2 n)
    ⟨_, fun s hne => itemsAt_bound _ s hne⟩ w hw

end AlgoVerif.C11.Term
