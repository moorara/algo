import AlgoVerif.Proofs.C11Grammar
/-!
# C11 — CLOSURE, GOTO, the canonical collection and the state map of the Model

Invariants of CLOSURE, GOTO and the canonical collection of the complete-item-set automaton over the
augmented grammar: every item is a dotted production of `G′`; items of `S′` carry the endmarker; the first set of the
collection is the closure of the initial item (all dots at the left end), every other set contains
no item `S′ → •S`.  After `BuildStateMap` the first set is state 0.

What `closure` returns is the inductive closure `Clo` of its argument (`mem_closure_iff`, the one induction on the fuel);
the other facts about CLOSURE are read off `Clo`.
-/
namespace AlgoVerif.C11.Built
open AlgoVerif AlgoVerif.Gram AlgoVerif.C11 AlgoVerif.C11.Spec

/-- every item is a dotted production of `G′`, and an item of `S′` has the endmarker (or no) lookahead -/
def Good (g' : SGrammar) (it : Item) : Prop :=
  it.prod ∈ g'.prods ∧ (it.prod.head = g'.start → laIsEnd it.la = true)

/-- the shape of an item added by CLOSURE -/
def Fresh0 (g' : SGrammar) (it : Item) : Prop := it.dot = 0 ∧ it.prod.head ≠ g'.start

theorem dotSym_mem {it : Item} {X : Sy} (hd : it.dotSym = some X) : X ∈ it.prod.body := by
  unfold Item.dotSym at hd
  exact List.mem_of_getElem? hd

theorem good_next {g' : SGrammar} {it : Item} (hg : Good g' it) : Good g' it.next := hg

section
variable {g : SGrammar} {nl : List String} {fe : Env}

theorem mem_foldl_addFresh (J : List Item) (j : Item) : ∀ (l acc : List Item),
    j ∈ l.foldl (addFresh J) acc ↔ j ∈ acc ∨ (j ∈ l ∧ j ∉ J)
  | [], acc => by simp
  | x :: l, acc => by
    rw [List.foldl_cons, mem_foldl_addFresh J j l]
    unfold addFresh
    split <;> grind

theorem mem_closureNew {J : List Item} {j : Item} :
    j ∈ closureNew g nl fe J ↔ (∃ i ∈ J, j ∈ closureCands g nl fe i) ∧ j ∉ J := by
  unfold closureNew
  rw [mem_foldl_addFresh]
  simp [List.mem_flatMap]

theorem closureNew_nil {J : List Item} (h : closureNew g nl fe J = []) :
    ∀ i ∈ J, ∀ j ∈ closureCands g nl fe i, j ∈ J := fun i hi j hj =>
  Decidable.byContradiction fun hn => by simpa [h] using mem_closureNew.mpr ⟨⟨i, hi, hj⟩, hn⟩

inductive Clo (g : SGrammar) (nl : List String) (fe : Env) (seed : Item → Prop) : Item → Prop where
  | base {i : Item} : seed i → Clo g nl fe seed i
  | step {i j : Item} : Clo g nl fe seed i → j ∈ closureCands g nl fe i → Clo g nl fe seed j

theorem Clo.sub {seed P : Item → Prop} (hs : ∀ i, seed i → P i)
    (hP : ∀ i, P i → ∀ j ∈ closureCands g nl fe i, P j) {x : Item} (hx : Clo g nl fe seed x) : P x := by
  induction hx with
  | base h => exact hs _ h
  | step _ hj ih => exact hP _ ih _ hj

theorem clo_mono {seed seed' : Item → Prop} (h : ∀ i, seed i → seed' i) {x : Item} (hx : Clo g nl fe seed x) :
    Clo g nl fe seed' x :=
  hx.sub (fun i hi => Clo.base (h i hi)) fun _ hi _ hj => Clo.step hi hj

theorem mem_closure_iff : ∀ {fuel : Nat} {J K : List Item}, closure g nl fe fuel J = Outcome.ok K → ∀ x : Item,
    x ∈ K ↔ Clo g nl fe (fun i => i ∈ J) x
  | 0, _, _, hc => by simp [closure] at hc
  | fuel + 1, J, K, hc => by
    unfold closure at hc
    split at hc
    · rename_i hnew
      cases hc
      exact fun x => ⟨Clo.base, Clo.sub (fun _ h => h) (closureNew_nil hnew)⟩
    · intro x
      rw [mem_closure_iff hc x]
      -- the items a pass adds are one CLOSURE step away from the set
      refine ⟨Clo.sub (fun i hi => ?_) fun _ hi _ hj => Clo.step hi hj, clo_mono fun i hi => List.mem_append_left _ hi⟩
      rcases List.mem_append.mp hi with h | h
      · exact Clo.base h
      · obtain ⟨⟨i0, hi0, hj⟩, _⟩ := mem_closureNew.mp h
        exact Clo.step (Clo.base hi0) hj

theorem closure_pred (P : Item → Prop)
    (hP : ∀ i, P i → ∀ j ∈ closureCands g nl fe i, P j)
    (fuel : Nat) (J K : List Item) (hc : closure g nl fe fuel J = Outcome.ok K) (hJ : ∀ i ∈ J, P i) : ∀ i ∈ K, P i :=
  fun i hi => ((mem_closure_iff hc i).mp hi).sub hJ hP

theorem closure_sub (fuel : Nat) (J K : List Item) (hc : closure g nl fe fuel J = Outcome.ok K) : ∀ i ∈ J, i ∈ K :=
  fun i hi => (mem_closure_iff hc i).mpr (Clo.base hi)

end

theorem mem_closureCands {g : SGrammar} {nl : List String} {fe : Env} {i j : Item} :
    j ∈ closureCands g nl fe i ↔ ∃ B p, i.dotSym = some (Sym.nonterm B) ∧ p ∈ prodsOf g B ∧
      ((i.la = none ∧ j = { prod := p, dot := 0, la := none }) ∨
       (∃ a b, i.la = some a ∧ b ∈ lookaheadsFor nl fe i a ∧ j = { prod := p, dot := 0, la := some b })) := by
  unfold closureCands
  cases hd : i.dotSym with
  | none => simp
  | some X =>
    cases X with
    | term t => simp
    | nonterm B =>
      simp only [List.mem_flatMap, Option.some.injEq, Sym.nonterm.injEq, exists_and_left, exists_eq_left']
      constructor
      · rintro ⟨p, hp, hj⟩
        refine ⟨p, hp, ?_⟩
        cases hla : i.la with
        | none =>
          rw [hla] at hj
          simp only [List.mem_singleton] at hj
          exact Or.inl ⟨rfl, hj⟩
        | some a =>
          rw [hla] at hj
          simp only [List.mem_map] at hj
          obtain ⟨b, hb, rfl⟩ := hj
          exact Or.inr ⟨a, rfl, b, hb, rfl⟩
      · rintro ⟨p, hp, hj⟩
        refine ⟨p, hp, ?_⟩
        rcases hj with ⟨hla, rfl⟩ | ⟨a, hla, b, hb, rfl⟩
        · rw [hla]; simp
        · rw [hla]; simp only [List.mem_map]; exact ⟨b, hb, rfl⟩

section
variable {g g' : SGrammar} (h : AugOK g g')
include h

theorem closureCands_spec (nl : List String) (fe : Env) {i j : Item} (hi : Good g' i)
    (hj : j ∈ closureCands g' nl fe i) : Good g' j ∧ Fresh0 g' j := by
  obtain ⟨B, p, hd, hp, hcase⟩ := mem_closureCands.mp hj
  have hpm : p ∈ g'.prods ∧ p.head = B := by
    simpa [prodsOf] using hp
  have hB : B ≠ g'.start := body_nonterm_ne h hi.1 (dotSym_mem hd)
  have key : j.prod = p ∧ j.dot = 0 := by
    rcases hcase with ⟨_, rfl⟩ | ⟨_, _, _, _, rfl⟩ <;> exact ⟨rfl, rfl⟩
  have hne : j.prod.head ≠ g'.start := by rw [key.1, hpm.2]; exact hB
  exact ⟨⟨by rw [key.1]; exact hpm.1, fun he => absurd he hne⟩, key.2, hne⟩

theorem closure_spec (nl : List String) (fe : Env) (fuel : Nat) (J K : List Item)
    (hc : closure g' nl fe fuel J = Outcome.ok K) (hJ : ∀ i ∈ J, Good g' i) :
    (∀ it ∈ K, it ∈ J ∨ (Good g' it ∧ Fresh0 g' it)) ∧ (∀ i ∈ J, i ∈ K) := by
  refine ⟨fun it hit => ?_, closure_sub fuel J K hc⟩
  have := closure_pred (fun it => Good g' it ∧ (it ∈ J ∨ Fresh0 g' it))
    (fun i hi j hj => by
      obtain ⟨hg, hf⟩ := closureCands_spec h nl fe hi.1 hj
      exact ⟨hg, Or.inr hf⟩) fuel J K hc (fun i hi => ⟨hJ i hi, Or.inl hi⟩) it hit
  rcases this.2 with h1 | h1
  · exact Or.inl h1
  · exact Or.inr ⟨this.1, h1⟩

end

theorem closure_nil (g : SGrammar) (nl : List String) (fe : Env) (fuel : Nat) (K : List Item)
    (hc : closure g nl fe fuel [] = Outcome.ok K) : K = [] :=
  List.eq_nil_iff_forall_not_mem.mpr fun x hx =>
    ((mem_closure_iff hc x).mp hx).sub (P := fun _ => False) (by simp) fun _ h _ _ => h

theorem advance_eq (I : List Item) (X : Sy) :
    advance I X = unionNew [] ((I.filter fun i => i.dotSym = some X).map Item.next) := by
  unfold advance
  generalize ([] : List Item) = acc
  induction I generalizing acc with
  | nil => rfl
  | cons x l ih =>
    rw [List.foldl_cons, ih, List.filter_cons]
    by_cases hx : x.dotSym = some X <;> simp [hx, unionNew]

theorem mem_advance {I : List Item} {X : Sy} {it : Item} :
    it ∈ advance I X ↔ ∃ i ∈ I, i.dotSym = some X ∧ it = i.next := by
  simp [advance_eq, mem_unionNew, and_assoc, eq_comm]

theorem kgoto_ok {A : Auto} (hAk : A.kernel = true) {I J : List Item} {X : Sy} (hg : A.goto I X = Outcome.ok J) :
    ∃ c, A.closure I = Outcome.ok c ∧ J = advance c X := by
  unfold Auto.goto at hg
  simp only [hAk, if_true] at hg
  obtain ⟨c, hc, hrest⟩ := bind_eq_ok hg
  exact ⟨c, hc, (pure_eq_ok hrest).symm⟩

theorem kgoto_eq {A : Auto} (hAk : A.kernel = true) {I c J : List Item} {X : Sy} (hc : A.closure I = Outcome.ok c)
    (hg : A.goto I X = Outcome.ok J) : J = advance c X := by
  obtain ⟨c', hc', rfl⟩ := kgoto_ok hAk hg
  cases hc.symm.trans hc'
  rfl

/-- every other set of the collection: items of `G′`, no `S′ → •S` (the set may be empty: an LALR kernel whose items
received no lookahead) -/
def OtherType (g' : SGrammar) (I : List Item) : Prop :=
  ∀ it ∈ I, Good g' it ∧ ¬ (it.prod.head = g'.start ∧ it.dot = 0)

/-- the first set: the closure of the initial item -/
def InitType (g' : SGrammar) (init : Item) (I : List Item) : Prop :=
  init ∈ I ∧ ∀ it ∈ I, Good g' it ∧ it.dot = 0 ∧ (it ≠ init → it.prod.head ≠ g'.start)

/-- the invariant of the collection while it grows.  The first set has a type of its own (all dots at the left end, the
only set with `S′ → •S`): that is what makes `buildStateMap` sort it to the front, as state 0 (`stateMap_spec'`) -/
def Cinv (g' : SGrammar) (init : Item) (C : List (List Item)) : Prop :=
  ∃ I0 rest, C = I0 :: rest ∧ InitType g' init I0 ∧ ∀ J ∈ rest, OtherType g' J

theorem cinv_good {g' : SGrammar} {init : Item} {C : List (List Item)} (hC : Cinv g' init C) :
    ∀ I ∈ C, ∀ i ∈ I, Good g' i := by
  obtain ⟨I0, rest, rfl, h0, hr⟩ := hC
  intro I hI i hi
  rcases List.mem_cons.mp hI with rfl | hI
  · exact (h0.2 i hi).1
  · exact (hr I hI i hi).1

def GotoOther (g' : SGrammar) (A : Auto) : Prop :=
  ∀ (I J : List Item) (X : Sy), A.goto I X = Outcome.ok J → (∀ i ∈ I, Good g' i) → OtherType g' J

theorem containsSet_iff {C : List (List Item)} {J : List Item} :
    containsSet C J = true ↔ ∃ K ∈ C, ∀ x, x ∈ K ↔ x ∈ J := by
  unfold containsSet
  rw [List.any_eq_true]
  constructor
  · rintro ⟨K, hK, hs⟩; exact ⟨K, hK, sameSet_iff.mp hs⟩
  · rintro ⟨K, hK, hs⟩; exact ⟨K, hK, sameSet_iff.mpr hs⟩

def Dist (I J : List Item) : Prop := ¬ ∀ x, x ∈ I ↔ x ∈ J

theorem canonicalNew_src {A : Auto} {C new : List (List Item)} (hn : canonicalNew A C = Outcome.ok new) :
    (∀ J ∈ new, (∃ I ∈ C, ∃ X ∈ allSymbols A.g, A.goto I X = Outcome.ok J ∧ J ≠ []) ∧ ∀ I ∈ C, Dist I J) ∧
      new.Pairwise Dist := by
  unfold canonicalNew at hn
  let P := fun acc : List (List Item) => (∀ J ∈ acc,
    (∃ I ∈ C, ∃ X ∈ allSymbols A.g, A.goto I X = Outcome.ok J ∧ J ≠ []) ∧ ∀ I ∈ C, Dist I J) ∧ acc.Pairwise Dist
  refine Outcome.All.foldlM (P := P) C [] ⟨by simp, List.Pairwise.nil⟩ ?_ new hn
  intro acc I hI hacc
  refine Outcome.All.foldlM _ acc hacc ?_
  intro b X hX hb b' hstep'
  obtain ⟨J, hJ, hrest⟩ := bind_eq_ok hstep'
  split at hrest
  · rw [← pure_eq_ok hrest]; exact hb
  · rename_i hcond
    rw [← pure_eq_ok hrest]
    simp only [Bool.or_eq_true, not_or, Bool.not_eq_true] at hcond
    obtain ⟨⟨hne, hC⟩, hb'⟩ := hcond
    have hdist : ∀ {D : List (List Item)}, containsSet D J = false → ∀ K ∈ D, Dist K J := fun hD K hK hs => by
      rw [containsSet_iff.mpr ⟨K, hK, hs⟩] at hD; cases hD
    refine ⟨List.forall_mem_append.mpr ⟨hb.1, List.forall_mem_singleton.mpr ⟨⟨I, hI, X, hX, hJ, ?_⟩, hdist hC⟩⟩,
      List.pairwise_append.mpr ⟨hb.2, List.pairwise_singleton _ _, fun K hK J' hJ' => ?_⟩⟩
    · intro he; simp [he] at hne
    · cases List.mem_singleton.mp hJ'
      exact hdist hb' K hK

/-- What a returning `canonicalLoop` did: it appended, one at a time, non-empty GOTO successors of sets already present
that were not yet there (as sets), until a pass found nothing new.  Facts about the collection are inductions on this
relation. -/
inductive Grows (A : Auto) : List (List Item) → List (List Item) → Prop where
  | stop {C : List (List Item)} : canonicalNew A C = Outcome.ok [] → Grows A C C
  | step {C C' : List (List Item)} {I J : List Item} {X : Sy} : I ∈ C → X ∈ allSymbols A.g →
      A.goto I X = Outcome.ok J → J ≠ [] → (∀ K ∈ C, Dist K J) → Grows A (C ++ [J]) C' → Grows A C C'

theorem grows_append {A : Auto} : ∀ (new : List (List Item)) {C C' : List (List Item)},
    (∀ J ∈ new, (∃ I ∈ C, ∃ X ∈ allSymbols A.g, A.goto I X = Outcome.ok J ∧ J ≠ []) ∧ ∀ I ∈ C, Dist I J) →
    new.Pairwise Dist → Grows A (C ++ new) C' → Grows A C C'
  | [], _, _, _, _, h => by simpa using h
  | J :: new, C, C', hsrc, hpw, h => by
    obtain ⟨⟨I, hI, X, hX, hg, hne⟩, hd⟩ := hsrc J (by simp)
    obtain ⟨hJ, hpw⟩ := List.pairwise_cons.mp hpw
    refine .step hI hX hg hne hd (grows_append new (fun K hK => ?_) hpw (by simpa using h))
    obtain ⟨⟨I', hI', r⟩, hd'⟩ := hsrc K (List.mem_cons_of_mem _ hK)
    exact ⟨⟨I', List.mem_append_left _ hI', r⟩, List.forall_mem_append.mpr ⟨hd', List.forall_mem_singleton.mpr (hJ K hK)⟩⟩

theorem canonicalLoop_grows {A : Auto} : ∀ {fuel : Nat} {C C' : List (List Item)},
    canonicalLoop A fuel C = Outcome.ok C' → Grows A C C'
  | 0, _, _, hc => by simp [canonicalLoop] at hc
  | fuel + 1, C, C', hc => by
    unfold canonicalLoop at hc
    obtain ⟨new, hnew, hrest⟩ := bind_eq_ok hc
    split at hrest
    · next hemp =>
      cases pure_eq_ok hrest
      rw [List.isEmpty_iff.mp hemp] at hnew
      exact .stop hnew
    · exact grows_append new (canonicalNew_src hnew).1 (canonicalNew_src hnew).2 (canonicalLoop_grows hrest)

theorem grows_sub {A : Auto} {C C' : List (List Item)} (h : Grows A C C') : ∃ r, C' = C ++ r := by
  induction h with
  | stop _ => exact ⟨[], by simp⟩
  | step _ _ _ _ _ _ ih =>
    obtain ⟨r, rfl⟩ := ih
    exact ⟨_, List.append_assoc ..⟩

theorem grows_last {A : Auto} {C C' : List (List Item)} (h : Grows A C C') : canonicalNew A C' = Outcome.ok [] := by
  induction h with
  | stop h => exact h
  | step _ _ _ _ _ _ ih => exact ih

theorem grows_dist {A : Auto} {C C' : List (List Item)} (h : Grows A C C') (hC : C.Pairwise Dist) : C'.Pairwise Dist := by
  induction h with
  | stop _ => exact hC
  | step _ _ _ _ hd _ ih =>
    exact ih (List.pairwise_append.mpr ⟨hC, List.pairwise_singleton _ _, fun K hK _ hJ => List.mem_singleton.mp hJ ▸ hd K hK⟩)

theorem canonical_grows {A : Auto} {C : List (List Item)} (hc : A.canonical = Outcome.ok C) :
    ∃ I0, (if A.kernel then Outcome.ok [A.initialItem] else A.closure [A.initialItem]) = Outcome.ok I0 ∧
      Grows A [I0] C := by
  unfold Auto.canonical at hc
  obtain ⟨I0, hI0, hrest⟩ := bind_eq_ok hc
  exact ⟨I0, hI0, canonicalLoop_grows hrest⟩

theorem kcanonical_grows {A : Auto} (hAk : A.kernel = true) {C : List (List Item)} (hc : A.canonical = Outcome.ok C) :
    Grows A [[A.initialItem]] C := by
  obtain ⟨I0, hI0, hg⟩ := canonical_grows hc
  rw [if_pos hAk] at hI0
  cases hI0
  exact hg

theorem grows_reach {A : Auto} (P : List Item → Prop) {C C' : List (List Item)} (h : Grows A C C')
    (hC : ∀ I ∈ C, P I)
    (hstep : ∀ I ∈ C', P I → ∀ X ∈ allSymbols A.g, ∀ J, A.goto I X = Outcome.ok J → J ≠ [] → J ∈ C' → P J) :
    ∀ I ∈ C', P I := by
  induction h with
  | stop _ => exact hC
  | step hI hX hg hne _ hrest ih =>
    obtain ⟨r, rfl⟩ := grows_sub hrest
    exact ih (List.forall_mem_append.mpr ⟨hC, List.forall_mem_singleton.mpr
      (hstep _ (by simp [hI]) (hC _ hI) _ hX _ hg hne (by simp))⟩) hstep

theorem grows_all {A : Auto} (P : List Item → Prop) (hgo : ∀ I J X, P I → A.goto I X = Outcome.ok J → P J)
    {C C' : List (List Item)} (h : Grows A C C') (hC : ∀ I ∈ C, P I) : ∀ I ∈ C', P I :=
  grows_reach P h hC fun I _ hI X _ J hg _ _ => hgo I J X hI hg

theorem canonical_reach {A : Auto} {C : List (List Item)} (hc : A.canonical = Outcome.ok C) :
    ∃ I0, (if A.kernel then Outcome.ok [A.initialItem] else A.closure [A.initialItem]) = Outcome.ok I0 ∧ I0 ∈ C ∧
      ∀ P : List Item → Prop, P I0 →
        (∀ I ∈ C, P I → ∀ X ∈ allSymbols A.g, ∀ J, A.goto I X = Outcome.ok J → J ≠ [] → J ∈ C → P J) →
        ∀ I ∈ C, P I := by
  obtain ⟨I0, hI0, hg⟩ := canonical_grows hc
  refine ⟨I0, hI0, ?_, fun P h0 hstep => grows_reach P hg (List.forall_mem_singleton.mpr h0) hstep⟩
  obtain ⟨r, hr⟩ := grows_sub hg
  rw [hr]; simp

theorem grows_spec {g' : SGrammar} {A : Auto} (hgo : GotoOther g' A) {init : Item} {C C' : List (List Item)}
    (h : Grows A C C') (hC : Cinv g' init C) : Cinv g' init C' := by
  induction h with
  | stop _ => exact hC
  | step hI _ hg _ _ _ ih =>
    have hJ := hgo _ _ _ hg (cinv_good hC _ hI)
    obtain ⟨I0, rest, rfl, h0, hr⟩ := hC
    exact ih ⟨I0, rest ++ [_], by simp, h0, List.forall_mem_append.mpr ⟨hr, List.forall_mem_singleton.mpr hJ⟩⟩

theorem goto_eq {A : Auto} (hAk : A.kernel = false) (I : List Item) (X : Sy) :
    A.goto I X = closure A.g A.nl A.fe A.fuel (advance I X) := by
  unfold Auto.goto Auto.closure
  simp [hAk]

theorem goto_next {A : Auto} (hAk : A.kernel = false) {I J : List Item} {X : Sy} {it : Item}
    (h1 : A.goto I X = Outcome.ok J) (hit : it ∈ I) (hd : it.dotSym = some X) : it.next ∈ J := by
  rw [goto_eq hAk] at h1
  exact closure_sub _ _ _ h1 _ (mem_advance.mpr ⟨it, hit, hd, rfl⟩)

section
variable {g g' : SGrammar} (h : AugOK g g') {A : Auto} (hAg : A.g = g') (hAk : A.kernel = false)
include h hAg hAk

theorem goto_spec {I J : List Item} {X : Sy} (hg : A.goto I X = Outcome.ok J) (hI : ∀ i ∈ I, Good g' i) :
    (∀ it ∈ J, (∃ i ∈ I, i.dotSym = some X ∧ it = i.next) ∨ (Good g' it ∧ Fresh0 g' it)) ∧
    (∀ it ∈ J, Good g' it) ∧ (advance I X = [] → J = []) := by
  rw [goto_eq hAk, hAg] at hg
  have hadv : ∀ i ∈ advance I X, Good g' i := by
    intro i hi
    obtain ⟨i0, hi0, _, rfl⟩ := mem_advance.mp hi
    exact good_next (hI i0 hi0)
  have h1 := (closure_spec h A.nl A.fe A.fuel _ J hg hadv).1
  refine ⟨?_, ?_, ?_⟩
  · intro it hit
    rcases h1 it hit with h3 | h3
    · exact Or.inl (mem_advance.mp h3)
    · exact Or.inr h3
  · intro it hit
    rcases h1 it hit with h3 | h3
    · exact hadv it h3
    · exact h3.1
  · intro hnil
    rw [hnil] at hg
    exact closure_nil _ _ _ _ _ hg

theorem goto_other : GotoOther g' A := by
  intro I J X hg hI
  obtain ⟨h1, h3, _⟩ := goto_spec h hAg hAk hg hI
  refine fun it hit => ⟨h3 it hit, ?_⟩
  rcases h1 it hit with ⟨i, _, _, rfl⟩ | ⟨_, hf⟩
  · rintro ⟨_, hd⟩; simp [Item.next] at hd
  · rintro ⟨hh, _⟩; exact hf.2 hh

omit hAk in
theorem initialItem_eq : A.initialItem =
    { prod := startProd g g', dot := 0, la := if A.lr1 then some endmarker else none } := by
  unfold Auto.initialItem
  rw [hAg, prodsOf_start h]
  rfl

omit hAk in
theorem isInitial_initialItem : A.initialItem.isInitial g'.start = true := by
  rw [initialItem_eq h hAg]
  cases A.lr1 <;> simp [Item.isInitial, startProd, laIsEnd]

omit hAk in
theorem initialItem_good : Good g' A.initialItem := by
  rw [initialItem_eq h hAg]
  refine ⟨(mem_prods' h).mpr (Or.inr rfl), fun _ => ?_⟩
  by_cases hl : A.lr1 = true <;> simp [hl, laIsEnd]

theorem canonical_spec {C : List (List Item)} (hc : A.canonical = Outcome.ok C) : Cinv g' A.initialItem C := by
  obtain ⟨I0, hI0, hg⟩ := canonical_grows hc
  simp only [hAk, Bool.false_eq_true, if_false] at hI0
  unfold Auto.closure at hI0
  rw [hAg] at hI0
  have hgood := initialItem_good h hAg
  obtain ⟨h1, h2⟩ := closure_spec h A.nl A.fe A.fuel [A.initialItem] I0 hI0 (by
    intro i hi; simp at hi; subst hi; exact hgood)
  refine grows_spec (goto_other h hAg hAk) hg ⟨I0, [], rfl, ⟨h2 _ (by simp), ?_⟩, by simp⟩
  intro it hit
  rcases h1 it hit with h3 | ⟨hg, hf⟩
  · simp at h3
    subst h3
    refine ⟨hgood, ?_, fun hne => absurd rfl hne⟩
    rw [initialItem_eq h hAg]
  · exact ⟨hg, hf.1, fun _ => hf.2⟩

end

theorem isInitial_false {start : String} {it : Item} (hn : ¬ (it.prod.head = start ∧ it.dot = 0)) :
    it.isInitial start = false := by
  unfold Item.isInitial
  by_cases h1 : it.prod.head = start
  · have : it.dot ≠ 0 := fun h2 => hn ⟨h1, h2⟩
    simp [h1, this]
  · simp [h1]

theorem cmpItem_init_lt {start : String} {a b : Item} (ha : a.isInitial start = true)
    (hb : b.isInitial start = false) : cmpItem start a b = -1 ∧ cmpItem start b a = 1 := by
  unfold cmpItem
  simp [ha, hb]

theorem cmpItemLists_init_lt {start : String} {a : Item} {as ys : List Item} (ha : a.isInitial start = true)
    (hys : ∀ b ∈ ys, b.isInitial start = false) :
    cmpItemLists start (a :: as) ys ≤ 0 ∧ ¬ cmpItemLists start ys (a :: as) ≤ 0 := by
  cases ys with
  | nil => simp [cmpItemLists]
  | cons b bs =>
    have := cmpItem_init_lt ha (hys b (by simp))
    simp [cmpItemLists, this.1, this.2]

/-- the facts about the sorted state map the validator needs -/
structure StatesOK (g' : SGrammar) (S : StateMap) : Prop where
  ne : S ≠ []
  zeroNe : S.getD 0 [] ≠ []
  zero : ∀ it ∈ S.getD 0 [], Good g' it ∧ it.dot = 0
  others : ∀ (i : Nat) (I : List Item), 0 < i → S[i]? = some I →
    ∀ it ∈ I, Good g' it ∧ ¬ (it.prod.head = g'.start ∧ it.dot = 0)

section
variable {g' : SGrammar} {init : Item} {C : List (List Item)} (hinit : init.isInitial g'.start = true)

include hinit

theorem stateMap_spec' {I0 : List Item} {rest : List (List Item)} (h0 : InitType g' init I0)
    (hr : ∀ J ∈ rest, OtherType g' J) :
    StatesOK g' (buildStateMap g'.start (I0 :: rest)) ∧
      ∃ tail, buildStateMap g'.start (I0 :: rest) = sortBy (cmpItem g'.start) I0 :: tail ∧
        ∀ I ∈ tail, ∃ J ∈ rest, I = sortBy (cmpItem g'.start) J := by
  unfold buildStateMap
  -- the sorted first set starts with the initial item
  obtain ⟨xs, hxs, _⟩ := sortBy_eq_cons (cmpItem g'.start) init I0 h0.1 fun y hy hne => by
    have := cmpItem_init_lt hinit (isInitial_false fun hh => (h0.2 y hy).2.2 hne hh.1)
    rw [this.1, this.2]; decide
  -- so it is put in front of every other sorted set, none of which holds an initial item
  obtain ⟨tail, htail, hperm⟩ := sortBy_eq_cons (cmpItemLists g'.start) (sortBy (cmpItem g'.start) I0)
      ((I0 :: rest).map (sortBy (cmpItem g'.start))) (by simp) fun y hy hne => by
    simp only [List.map_cons, List.mem_cons, List.mem_map] at hy
    rcases hy with rfl | ⟨J, hJ, rfl⟩
    · exact absurd rfl hne
    · rw [hxs]
      exact cmpItemLists_init_lt hinit fun b hb => isInitial_false (hr J hJ b ((mem_sortBy _ J b).mp hb)).2
  have htailmem : ∀ I ∈ tail, ∃ J ∈ rest, I = sortBy (cmpItem g'.start) J := fun I hI => by
    obtain ⟨J, hJ, rfl⟩ := List.mem_map.mp ((List.Perm.cons_inv hperm).mem_iff.mp hI)
    exact ⟨J, hJ, rfl⟩
  rw [htail]
  refine ⟨⟨by simp, by simp [hxs], fun it hit => ?_, fun i I hi hI it hit => ?_⟩, tail, rfl, htailmem⟩
  · have := h0.2 it ((mem_sortBy _ I0 it).mp hit)
    exact ⟨this.1, this.2.1⟩
  · cases i with
    | zero => omega
    | succ i =>
      obtain ⟨J, hJ, rfl⟩ := htailmem I (List.mem_of_getElem? hI)
      exact hr J hJ it ((mem_sortBy _ J it).mp hit)

theorem stateMap_spec (hC : Cinv g' init C) : StatesOK g' (buildStateMap g'.start C) := by
  obtain ⟨I0, rest, rfl, h0, hr⟩ := hC
  exact (stateMap_spec' hinit h0 hr).1

end

theorem statesOK_good {g' : SGrammar} {S : StateMap} (hS : StatesOK g' S) :
    ∀ (i : Nat) (I : List Item), S[i]? = some I → ∀ it ∈ I, Good g' it := by
  intro i I hI it hit
  cases i with
  | zero =>
    have : S.getD 0 [] = I := by simp [List.getD, hI]
    exact (hS.zero it (this ▸ hit)).1
  | succ i => exact (hS.others (i + 1) I (by omega) hI it hit).1

theorem itemsAt_nat (S : StateMap) (i : Nat) : itemsAt S (i : Int) = S.getD i [] := by
  unfold itemsAt
  have : ¬ ((i : Int) < 0) := by omega
  simp [this]

theorem itemsAt_of_get {S : StateMap} {i : Nat} {I : List Item} (hI : S[i]? = some I) :
    itemsAt S (i : Int) = I := by
  rw [itemsAt_nat]; simp [List.getD, hI]

theorem mem_itemsAt {S : StateMap} {i : Nat} {it : Item} : it ∈ itemsAt S (i : Int) ↔ ∃ I, S[i]? = some I ∧ it ∈ I := by
  rw [itemsAt_nat]
  cases hI : S[i]? with
  | none => simp [List.getD, hI]
  | some I => simp [List.getD, hI]

theorem findItemSet_spec (S : StateMap) (J : List Item) :
    findItemSet S J = -1 ∨ ∃ (n : Nat) (K : List Item), findItemSet S J = (n : Int) ∧ S[n]? = some K ∧
      ∀ x, x ∈ K ↔ x ∈ J := by
  unfold findItemSet
  cases hf : S.findIdx? (fun K => sameSet K J) with
  | none => exact Or.inl rfl
  | some n =>
    obtain ⟨K, hK, hs⟩ := findIdx?_some _ S n hf
    exact Or.inr ⟨n, K, rfl, hK, sameSet_iff.mp hs⟩

theorem findItemSet_found {S : StateMap} {J K : List Item} (hK : K ∈ S) (hs : ∀ x, x ∈ K ↔ x ∈ J) :
    ∃ (n : Nat) (K' : List Item), findItemSet S J = (n : Int) ∧ S[n]? = some K' ∧ ∀ x, x ∈ K' ↔ x ∈ J := by
  obtain ⟨n, K', hf, hK', hp⟩ := findIdx?_of_mem (p := fun K => sameSet K J) hK (sameSet_iff.mpr hs)
  exact ⟨n, K', by unfold findItemSet; rw [hf], hK', sameSet_iff.mp hp⟩

end AlgoVerif.C11.Built
