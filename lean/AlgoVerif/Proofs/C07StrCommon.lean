import AlgoVerif.Proofs.C07RIns
import AlgoVerif.Proofs.C07Words
/-!
# C07 — shared lemmas of the string radix sorts (`Quick3WayString`, `MSDString`)
-/
namespace AlgoVerif.C07
open AlgoVerif

variable {α : Type}

/-- `charAt(s, d)` for `d ≥ 0` as a pure function -/
def chr (s : List UInt8) (d : Nat) : Int :=
  match s[d]? with
  | some b => (b.toNat : Int)
  | none => -1

theorem charAt_nat (s : List UInt8) (d : Nat) : charAt s (d : Int) = .ok (chr s d) := by
  unfold charAt chr
  by_cases h : d < s.length
  · have : (d : Int) < s.length := by omega
    simp [this, List.getElem?_eq_getElem h]
  · have : ¬ (d : Int) < s.length := by omega
    simp [this, List.getElem?_eq_none (by omega : s.length ≤ d)]

theorem chr_ge (s : List UInt8) (d : Nat) : -1 ≤ chr s d := by
  unfold chr; split <;> omega

theorem chr_lt (s : List UInt8) (d : Nat) : chr s d < 256 := by
  unfold chr; split
  · rename_i b _; have := b.toNat_lt; omega
  · omega

theorem chr_neg {s : List UInt8} {d : Nat} (h : chr s d < 0) : s.length ≤ d := by
  unfold chr at h
  split at h
  · omega
  · rename_i h'; exact List.getElem?_eq_none_iff.1 h'

theorem chr_nonneg {s : List UInt8} {d : Nat} (h : 0 ≤ chr s d) :
    ∃ b : UInt8, s[d]? = some b ∧ chr s d = (b.toNat : Int) := by
  unfold chr at h ⊢
  split at h
  · rename_i b hb; exact ⟨b, hb, by simp⟩
  · omega

theorem chr_append (w s : List UInt8) : chr (w ++ s) w.length = chr s 0 := by
  unfold chr
  rw [List.getElem?_append_right (Nat.le_refl _)]
  simp

theorem eq_append_of_take {s w : List UInt8} {d : Nat} (h : s.take d = w) : s = w ++ s.drop d := by
  rw [← h, List.take_append_drop]

theorem bytesCmp_self (s : List UInt8) : bytesCmp s s = 0 := by
  simp [bytesCmp, List.lt_irrefl]

theorem bytesCmp_lt_of_chr {s t w : List UInt8} {d : Nat} (hw : w.length = d) (hs : s.take d = w)
    (ht : t.take d = w) (h : chr s d < chr t d) : bytesCmp s t < 0 := by
  subst hw
  rw [eq_append_of_take hs, eq_append_of_take ht] at h ⊢
  rw [chr_append, chr_append] at h
  refine bytesCmp_lt.2 (List.append_left_lt ?_)
  generalize s.drop w.length = s' at h ⊢
  generalize t.drop w.length = t' at h ⊢
  cases s' <;> cases t' <;> simp [chr] at h ⊢
  · omega
  · exact List.cons_lt_cons_iff.2 (Or.inl (UInt8.lt_iff_toNat_lt.2 (by omega)))

theorem take_succ_of_chr {s w : List UInt8} {d : Nat} {b : UInt8} (hs : s.take d = w)
    (h : chr s d = (b.toNat : Int)) : s.take (d+1) = w ++ [b] ∧ d < s.length := by
  obtain ⟨b', h1, h2⟩ := chr_nonneg (s := s) (d := d) (by omega)
  have hb : b' = b := by
    apply UInt8.toNat_inj.1; omega
  subst hb
  obtain ⟨hd, he⟩ := List.getElem?_eq_some_iff.1 h1
  refine ⟨?_, hd⟩
  rw [List.take_succ_eq_append_getElem hd, hs, he]

theorem eq_of_chr_neg {s w : List UInt8} {d : Nat} (hs : s.take d = w) (h : chr s d < 0) : s = w := by
  rw [← hs, List.take_of_length_le (chr_neg h)]

theorem foldl_max_ge (l : List (List UInt8)) : ∀ (m : Nat),
    m ≤ l.foldl (fun m s => max m s.length) m ∧ ∀ s, s ∈ l → s.length ≤ l.foldl (fun m s => max m s.length) m := by
  induction l with
  | nil => intro m; simp
  | cons x l ih =>
    intro m
    simp only [List.foldl_cons, List.mem_cons]
    obtain ⟨h1, h2⟩ := ih (max m x.length)
    refine ⟨by omega, ?_⟩
    rintro s (rfl | hs)
    · omega
    · exact h2 s hs

theorem maxLen_ge (a : Array (List UInt8)) (p : Nat) (h : p < a.size) : a[p].length ≤ maxLen a := by
  unfold maxLen
  rw [← Array.foldl_toList]
  exact (foldl_max_ge a.toList 0).2 _ (by simp)

theorem eq_mergeSort_of_sorted_perm {out a : Array (List UInt8)} (hs : SortedSeg bytesCmp out 0 out.size)
    (hp : out.Perm a) : out.toList = a.toList.mergeSort bytesLe := by
  exact eq_mergeSort_of_pairwise bytesLe bytesLe_trans bytesLe_total bytesLe_antisymm
    (Array.perm_iff_toList_perm.1 hp)
    ((sorted_of_sortedSeg hs).imp (fun h => (bytesLe_iff_le _ _).2 (bytesCmp_le.1 h)))

end AlgoVerif.C07
