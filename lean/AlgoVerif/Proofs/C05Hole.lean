import AlgoVerif.Spec.C05
import AlgoVerif.Proofs.HeapOrder
/-!
# Heap order of the three indexed heaps on an abstract key function `f : position → Option key`

No arrays here: `f` is the map position ↦ key (binary heap) or node id ↦ key (binomial, Fibonacci heap).
`LeP cmp f` is the relation on positions that `Proofs/HeapOrder` reasons about; what a loop of `promote`/`demote`
does to it is said there (`Hole.step_up`, `Down.step`, …), with `swapped` for `swap(i, j)`.  This namespace
`AlgoVerif.C05.Hole` is not the structure `HeapOrder.Hole`: with both open, `Hole L R x` is the structure, and
`Hole.step_up`, `Hole.up`, `Hole.down` are its lemmas.
-/
namespace AlgoVerif.C05.Hole
open AlgoVerif.HeapOrder (tr Ordered Hole Down Swapped Par OnKeys)
variable {K : Type} (cmp : K → K → Int)

/-- `HeapOrder.OnKeys` for the relation `cmp · · ≤ 0` -/
def LeP (f : Nat → Option K) (a b : Nat) : Prop :=
  ∃ ka kb, f a = some ka ∧ f b = some kb ∧ cmp ka kb ≤ 0

/-- heap order on positions `1..m`: `Ordered (LeP cmp f) (Par 1 m)` (`ord_iff`) in the words of the Props statements -/
def Ord (f : Nat → Option K) (m : Nat) : Prop :=
  ∀ j, 2 ≤ j → j ≤ m → LeP cmp f (j / 2) j

/-- heap order except for the pairs (`k`, child of `k`): `Down (LeP cmp f) (Par 1 m) k` -/
def DownHole (f : Nat → Option K) (m k : Nat) : Prop :=
  (∀ j, 2 ≤ j → j ≤ m → j / 2 ≠ k → LeP cmp f (j / 2) j) ∧
  (∀ j, 2 ≤ j → j ≤ m → j / 2 = k → 2 ≤ k → LeP cmp f (k / 2) j)

variable {cmp} {f g : Nat → Option K} {m k : Nat}

theorem leP_trans (hc : LawfulCmp cmp) : ∀ a b c, LeP cmp f a b → LeP cmp f b c → LeP cmp f a c :=
  OnKeys.trans hc.trans

theorem cmp_refl (hc : LawfulCmp cmp) (a : K) : cmp a a ≤ 0 := by
  by_cases h : 0 ≤ cmp a a
  · exact hc.anti a a h
  · omega

theorem LeP.refl (hc : LawfulCmp cmp) {a : Nat} {ka : K} (h : f a = some ka) :
    LeP cmp f a a := ⟨ka, ka, h, h, cmp_refl hc ka⟩

theorem LeP.congr {a b : Nat} (ha : g a = f a) (hb : g b = f b) (h : LeP cmp f a b) : LeP cmp g a b :=
  OnKeys.congr ha hb h

theorem swapped {i j : Nat} (hg : ∀ p, g p = f (tr i j p)) : Swapped (LeP cmp f) (LeP cmp g) i j :=
  OnKeys.swapped hg

theorem ord_iff : Ord cmp f m ↔ Ordered (LeP cmp f) (Par 1 m) :=
  ⟨fun h _ b hab => hab.half ▸ h b hab.two hab.le, fun h j h2 hm => h _ j ⟨h2, hm, rfl, by omega⟩⟩

theorem ord_hole (hc : LawfulCmp cmp) (h : Ord cmp f m) : Hole (LeP cmp f) (Par 1 m) k :=
  (ord_iff.1 h).hole (leP_trans hc) k

theorem ord_down (hc : LawfulCmp cmp) (h : Ord cmp f m) : Down (LeP cmp f) (Par 1 m) k :=
  (ord_iff.1 h).down (leP_trans hc) k

theorem ord_mono {m' : Nat} (h : Ord cmp f m) (hm : m' ≤ m) : Ord cmp f m' :=
  fun j hj2 hjm => h j hj2 (by omega)

theorem ord_congr (hfg : ∀ q, 1 ≤ q → q ≤ m → g q = f q)
    (h : Ord cmp f m) : Ord cmp g m :=
  fun j hj2 hjm => LeP.congr (hfg _ (by omega) (by omega)) (hfg _ (by omega) hjm) (h j hj2 hjm)

theorem hole_congr (hfg : ∀ q, 1 ≤ q → q ≤ m → q ≠ k → g q = f q)
    (h : Hole (LeP cmp f) (Par 1 m) k) : Hole (LeP cmp g) (Par 1 m) k := by
  constructor
  · intro a b hab ha hb
    have := hab.lo
    have := hab.parent_lt
    have := hab.le
    exact LeP.congr (hfg a (by omega) (by omega) ha) (hfg b (by omega) (by omega) hb) (h.edge a b hab ha hb)
  · intro p c hp hc
    have hpk := hp.parent_lt
    have hkc := hc.parent_lt
    have := hp.lo
    have := hc.le
    exact LeP.congr (hfg _ (by omega) (by omega) (by omega)) (hfg _ (by omega) (by omega) (by omega)) (h.skip p c hp hc)

theorem downhole_congr {f g : Nat → Option K} {m k : Nat} (hfg : ∀ q, 1 ≤ q → q ≤ m → q ≠ k → g q = f q)
    (hk : k = 1 ∨ m < k) (h : DownHole cmp f m k) : DownHole cmp g m k := by
  obtain ⟨h1, h2⟩ := h
  constructor
  · intro j hj2 hjm hjp
    refine LeP.congr (hfg _ (by omega) (by omega) hjp) (hfg _ (by omega) hjm ?_) (h1 j hj2 hjm hjp)
    rcases hk with hk | hk <;> omega
  · intro j hj2 hjm hjp hk2
    rcases hk with hk | hk <;> omega

end AlgoVerif.C05.Hole
