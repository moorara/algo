import AlgoVerif.Model.C02Run
import Mathlib.Data.List.Perm.Subperm
import Mathlib.Data.List.Nodup
/-!
# C02/C03 — counting slots, pigeonhole, and facts about the Spec map
-/
namespace AlgoVerif.C02

/-- what the counters `n`, `u` of the open-addressing tables are compared with -/
def cnt (P : Nat → Bool) (n : Nat) : Nat := (List.range n).countP P

theorem cnt_zero (P : Nat → Bool) : cnt P 0 = 0 := by simp [cnt]

theorem cnt_succ (P : Nat → Bool) (n : Nat) : cnt P (n + 1) = cnt P n + (if P n then 1 else 0) := by
  simp [cnt, List.range_succ, List.countP_append, List.countP_cons]

theorem cnt_le (P : Nat → Bool) (n : Nat) : cnt P n ≤ n := by
  have := List.countP_le_length (p := P) (l := List.range n)
  simpa [cnt] using this

theorem cnt_congr {P Q : Nat → Bool} {n : Nat} (h : ∀ i, i < n → P i = Q i) : cnt P n = cnt Q n := by
  induction n with
  | zero => simp [cnt_zero]
  | succ n ih =>
    rw [cnt_succ, cnt_succ, ih (fun i hi => h i (by omega)), h n (by omega)]

theorem cnt_mono {P Q : Nat → Bool} {n : Nat} (h : ∀ i, i < n → P i = true → Q i = true) : cnt P n ≤ cnt Q n := by
  induction n with
  | zero => simp [cnt_zero]
  | succ n ih =>
    rw [cnt_succ, cnt_succ]
    have := ih (fun i hi => h i (by omega))
    have h2 := h n (by omega)
    by_cases hp : P n = true
    · simp [hp, h2 hp]; omega
    · simp [hp]; omega

theorem cnt_false {P : Nat → Bool} {n : Nat} (h : ∀ i, i < n → P i = false) : cnt P n = 0 := by
  induction n with
  | zero => simp [cnt_zero]
  | succ n ih => rw [cnt_succ, ih (fun i hi => h i (by omega)), h n (by omega)]; simp

theorem cnt_flip_true {P Q : Nat → Bool} {n idx : Nat} (hidx : idx < n) (hp : P idx = false) (hq : Q idx = true)
    (hrest : ∀ i, i ≠ idx → Q i = P i) : cnt Q n = cnt P n + 1 := by
  induction n with
  | zero => omega
  | succ n ih =>
    rw [cnt_succ, cnt_succ]
    by_cases h : idx = n
    · subst h
      rw [cnt_congr (P := Q) (Q := P) (fun i hi => hrest i (by omega))]
      simp [hp, hq]
    · rw [ih (by omega), hrest n (by omega)]
      omega

theorem cnt_flip_false {P Q : Nat → Bool} {n idx : Nat} (hidx : idx < n) (hp : P idx = true) (hq : Q idx = false)
    (hrest : ∀ i, i ≠ idx → Q i = P i) : cnt Q n + 1 = cnt P n := by
  have := cnt_flip_true (P := Q) (Q := P) hidx hq hp (fun i hi => (hrest i hi).symm)
  omega

theorem pigeonhole (P : Nat → Bool) (f : Nat → Nat) (c n : Nat) (hlt : ∀ i, i < c → f i < n)
    (hinj : ∀ i j, i < j → j < c → f i ≠ f j) (hP : ∀ i, i < c → P (f i) = true) : c ≤ cnt P n := by
  have hnd : ((List.range c).map f).Nodup :=
    List.pairwise_map.2 (List.pairwise_lt_range.imp_of_mem fun _ hj hij => hinj _ _ hij (List.mem_range.1 hj))
  have hsub : ∀ x ∈ (List.range c).map f, x ∈ (List.range n).filter P := by
    intro x hx
    obtain ⟨i, hi, rfl⟩ := List.mem_map.1 hx
    exact List.mem_filter.2 ⟨List.mem_range.2 (hlt i (List.mem_range.1 hi)), hP i (List.mem_range.1 hi)⟩
  simpa [cnt, List.countP_eq_length_filter] using hnd.length_le_of_subset hsub

theorem length_filterMap_range {α : Type} (f : Nat → Option α) (n : Nat) :
    ((List.range n).filterMap f).length = cnt (fun i => (f i).isSome) n := by
  induction n with
  | zero => simp [cnt_zero]
  | succ n ih =>
    rw [List.range_succ, List.filterMap_append, List.length_append, ih, cnt_succ]
    cases h : f n <;> simp [h]

namespace Spec
variable {K V : Type} [DecidableEq K]

def NodupKeys (s : Map K V) : Prop := (s.map Prod.fst).Nodup

theorem nodupKeys_nil : NodupKeys ([] : Map K V) := by simp [NodupKeys]

theorem nodupKeys_cons {k : K} {v : V} {r : Map K V} :
    NodupKeys ((k, v) :: r) ↔ k ∉ r.map Prod.fst ∧ NodupKeys r := List.nodup_cons

theorem NodupKeys.nodup {s : Map K V} (h : NodupKeys s) : s.Nodup := List.Nodup.of_map _ h

theorem mem_erase {s : Map K V} {k k' : K} {v' : V} : (k', v') ∈ Map.erase s k ↔ k' ≠ k ∧ (k', v') ∈ s := by
  simp [Map.erase, List.mem_filter, and_comm]

theorem mem_insert {s : Map K V} {k k' : K} {v v' : V} :
    (k', v') ∈ Map.insert s k v ↔ (k' = k ∧ v' = v) ∨ (k' ≠ k ∧ (k', v') ∈ s) := by
  simp [Map.insert, mem_erase]

theorem nodupKeys_erase {s : Map K V} (h : NodupKeys s) (k : K) : NodupKeys (Map.erase s k) := by
  unfold NodupKeys Map.erase
  exact (List.Nodup.sublist (List.Sublist.map _ List.filter_sublist) h)

theorem nodupKeys_insert {s : Map K V} (h : NodupKeys s) (k : K) (v : V) : NodupKeys (Map.insert s k v) := by
  unfold Map.insert NodupKeys
  rw [List.map_cons, List.nodup_cons]
  refine ⟨?_, nodupKeys_erase h k⟩
  intro hm
  rw [List.mem_map] at hm
  obtain ⟨⟨k', v'⟩, hmem, hk⟩ := hm
  exact (mem_erase.1 hmem).1 hk

theorem lookup_eq_some_iff {s : Map K V} (hs : NodupKeys s) {k : K} {v : V} :
    Map.lookup s k = some v ↔ (k, v) ∈ s := by
  induction s with
  | nil => simp [Map.lookup]
  | cons e r ih =>
    obtain ⟨k', v'⟩ := e
    have hs' := nodupKeys_cons.1 hs
    unfold Map.lookup
    by_cases hk : k' = k
    · subst hk
      simp only [if_true, List.mem_cons, Prod.mk.injEq, true_and, Option.some.injEq]
      exact ⟨fun h => Or.inl h.symm,
        fun h => h.elim Eq.symm fun h => absurd (List.mem_map_of_mem (f := Prod.fst) h) hs'.1⟩
    · simp only [hk, if_false, ih hs'.2, List.mem_cons, Prod.mk.injEq, Ne.symm hk, false_and, false_or]

theorem lookup_eq_none_iff {s : Map K V} {k : K} : Map.lookup s k = none ↔ ∀ v, (k, v) ∉ s := by
  induction s with
  | nil => simp [Map.lookup]
  | cons e r ih =>
    obtain ⟨k', v'⟩ := e
    unfold Map.lookup
    by_cases hk : k' = k
    · subst hk
      simp only [if_true, List.mem_cons, Prod.mk.injEq, true_and, reduceCtorEq, false_iff, not_forall, not_not]
      exact ⟨v', Or.inl rfl⟩
    · simp only [hk, if_false, ih, List.mem_cons, Prod.mk.injEq, Ne.symm hk, false_and, false_or]

end Spec
end AlgoVerif.C02
