import AlgoVerif.Proofs.C13Refine
import AlgoVerif.Proofs.C13CombineMap
import AlgoVerif.Proofs.C13Concat
/-! C13: the results of the operations are again well-formed (so that `Accept` of a result decides its
language and results can be fed to further operations); `Accept` of a well-formed automaton decides its language
(`accept_iff_lang`), which is what turns a language theorem into its `Accept` version (`DFA.accept_of_lang`). -/
namespace AlgoVerif.C13
open AlgoVerif AlgoVerif.C13.Spec

/-- everything the theorems about DFAs ask of a DFA: key-sorted tables, `-1` not used as a state,
sorted final set, no `E`-labelled transition -/
structure DFA.Good (d : DFA) : Prop where
  wf : d.WF
  proper : d.Proper
  fin : SSorted d.final
  noEps : d.NoEps

theorem DFA.Good_new (s : Int) (f : List Int) (hf : (-1 : Int) ∉ f) : (DFA.new s f).Good :=
  ⟨DFA.WF_new _ _, ⟨by simpa [DFA.new] using hf, fun a => by simp [DFA.δ, DFA.new, aget]⟩, ssorted_mkSet _,
   fun s => by simp [DFA.δ, DFA.new, aget]⟩

theorem DFA.Good_add {d : DFA} (h : d.Good) (s a t : Int) (hs : s ≠ -1) (ha : a ≠ E) : (d.add s a t).Good := by
  refine ⟨DFA.WF_add h.wf _ _ _, ⟨h.proper.1, ?_⟩, h.fin, ?_⟩
  · intro b
    rw [DFA.δ_add]
    have : ¬ ((-1 : Int) = s ∧ b = a) := fun hh => hs hh.1.symm
    simp only [this, if_false]
    exact h.proper.2 b
  · intro x
    rw [DFA.δ_add]
    have : ¬ (x = s ∧ E = a) := fun hh => ha hh.2.symm
    simp only [this, if_false]
    exact h.noEps x

theorem DFA.ofEntries_good (s : Int) (F : List Int) (L : List (Int × Int × Int)) (hF : (-1 : Int) ∉ F) (hFs : SSorted F)
    (hL : ∀ e ∈ L, e.1 ≠ -1 ∧ e.2.1 ≠ E) : (DFA.ofEntries s F L).Good := by
  unfold DFA.ofEntries
  refine foldl_keeps_mem (P := DFA.Good) (fun acc e he h => DFA.Good_add h _ _ _ (hL e he).1 (hL e he).2) ?_
  exact ⟨by simp [DFA.WF, ASorted], ⟨hF, fun a => by simp [DFA.δ, aget]⟩, hFs, fun s => by simp [DFA.δ, aget]⟩

theorem DFA.Good.entry {d : DFA} (hg : d.Good) {s a t : Int} (he : (s, a, t) ∈ entries d.trans) : s ≠ -1 ∧ a ≠ E := by
  have := (mem_entries_DFA hg.wf _ _ _).1 he
  constructor
  · rintro rfl; rw [hg.proper.2] at this; cases this
  · rintro rfl; rw [hg.noEps] at this; cases this

/-! Every loop that builds an NFA only calls `Add`, which keeps the tables key-sorted. -/

theorem concatInner_wf (id : Nat) (sp : List Int) (es : List (Int × List Int)) (m : SM) (C : NFA) (h : C.WF) :
    (concatInner id sp es m C).2.WF := by
  unfold concatInner
  exact foldl_keeps (P := fun r : SM × NFA => r.2.WF)
    (fun _ _ h => foldl_keeps (P := NFA.WF) (fun _ _ h => NFA.WF_add h _ _ _) sp h) es h

theorem concatTransL_wf (id : Nat) (isStart : Int → Prop) [DecidablePred isStart] (extra : List Int)
    (tr : List (Int × List (Int × List Int))) (m : SM) (C : NFA) (h : C.WF) :
    (concatTransL id isStart extra tr m C).2.WF := by
  unfold concatTransL
  exact foldl_keeps (P := fun r : SM × NFA => r.2.WF) (fun _ _ h => concatInner_wf _ _ _ _ _ h) tr h

theorem copyTransL_wf (id : Nat) (tr : List (Int × List (Int × List Int))) (m : SM) (dst : NFA) (h : dst.WF) :
    (copyTransL id tr m dst).2.WF :=
  concatTransL_wf id (fun _ => False) [] tr m dst h

theorem unionStep_wf (acc : SM × NFA) (id : Nat) (nfa : NFA) (h : acc.2.WF) : (unionStep acc id nfa).2.WF :=
  foldl_keeps (P := fun r : SM × NFA => r.2.WF) (fun _ _ h => NFA.WF_add h _ _ _) nfa.final
    (NFA.WF_add (copyTransL_wf id nfa.trans acc.1 acc.2 h) _ _ _)

theorem NFA.union_WF (nfas : List NFA) : (NFA.union nfas).WF :=
  foldlIdx_keeps (P := fun r : SM × NFA => r.2.WF) (fun acc i n h => unionStep_wf acc i n h) nfas 0 (NFA.WF_new _ _)

theorem NFA.star_WF (n : NFA) : n.star.WF :=
  foldl_keeps (P := fun r : SM × NFA => r.2.WF) (fun _ _ h => NFA.WF_add (NFA.WF_add h _ _ _) _ _ _) n.final
    (NFA.WF_add (NFA.WF_add (copyTransL_wf 0 n.trans (SM.new 1) (NFA.new 0 [1]) (NFA.WF_new _ _)) _ _ _) _ _ _)

theorem NFA.concat_WF (nfas : List NFA) : (NFA.concat nfas).WF :=
  foldlIdx_keeps (P := fun r : ConcatSt => r.nfa.WF)
    (fun acc i n h => by rw [concatStep_eq]; exact concatTransL_wf _ _ _ _ _ _ h) nfas 0 (NFA.WF_new _ _)

theorem NFA.clone_WF (n : NFA) : n.clone.WF := by
  rw [n.clone_eq]
  exact NFA.ofEntries_WF _ _ _

theorem NFA.toDFA_good (n : NFA) (d : DFA) (h : n.toDFA = .ok d) : d.Good := by
  obtain ⟨r, hs, rfl⟩ := all_of_total n.toDFA_total d h
  obtain ⟨rwf, rpr, _, rfin, _, _, _, hinv⟩ := all_of_total n.subsets_total r hs
  refine ⟨rwf, rpr, ?_, ?_⟩
  · rw [rfin]
    exact foldlIdx_keeps (P := SSorted) (fun _ _ _ h => by split; exact ssorted_sins h; exact h) r.1 0 (by simp [SSorted])
  · refine fun s => Option.eq_none_iff_forall_ne_some.2 fun j hd => ?_
    obtain ⟨_, _, _, _, _, _, _, _, _, g6, _⟩ := hinv.sound _ _ _ hd
    exact ((n.mem_symbols_iff E).1 g6).1 rfl

theorem DFA.minimize_good (d d' : DFA) (hg : d.Good) (h : d.minimize = .ok d') : d'.Good := by
  have hwf := hg.wf
  obtain ⟨P, -, rfl, hP, he⟩ := all_of_total (d.minimize_total hwf hg.fin) d' h
  have hs := stable_of_exit d hwf P hP he
  obtain ⟨-, ffin, -⟩ := buildMin_facts d hwf P hs
  rw [buildMin_eq] at ffin ⊢
  rw [(DFA.ofEntries_start_final _ _ _).2] at ffin
  refine DFA.ofEntries_good _ _ _ (fun hm => ?_) (foldl_keeps (P := SSorted) (fun _ _ h => ssorted_sins h) _ (by simp [SSorted])) ?_
  · obtain ⟨f, hf, hfe⟩ := (ffin (-1)).1 hm
    exact hs.cover f (d.mem_states_of f (Or.inr (Or.inl hf))) hfe
  -- the sources are representatives, which are `≥ 0`; the symbols are symbols of `d`
  · rintro ⟨r, a, r'⟩ he
    obtain ⟨G, hG, hm⟩ := List.mem_flatMap.1 he
    obtain ⟨rfl, t, ht, -⟩ := (mem_minGroupEntries d hwf P G r a r').1 hm
    refine ⟨fun h => by have := (hP.wf.rng G hG).1; omega, fun ha => ?_⟩
    rw [show a = E from ha, hg.noEps] at ht; cases ht

theorem DFA.elimDead_good (d d' : DFA) (hg : d.Good) (h : d.elimDead = .ok d') : d'.Good := by
  obtain ⟨vis, -, rfl⟩ := all_of_total d.elimDead_total d' h
  exact DFA.ofEntries_good _ _ _ hg.proper.1 hg.fin fun e he => hg.entry (List.mem_filter.1 he).1

theorem DFA.permuted_good (d : DFA) (hwf : d.WF) (hne : d.NoEps) (f : Int → Int) (hf : ∀ s ∈ d.states, f s ≠ -1) :
    (d.permuted f).Good := by
  rw [d.permuted_eq]
  refine DFA.ofEntries_good _ _ _ ?_ (ssorted_mkSet _) ?_
  · rw [mem_mkSet, List.mem_map]
    rintro ⟨s, hs, he⟩
    exact hf s (d.mem_states_of s (Or.inr (Or.inl hs))) he
  · intro e hm
    obtain ⟨⟨s, a, t⟩, he, rfl⟩ := List.mem_map.1 hm
    refine ⟨hf s (d.entry_states he).1, fun ha => ?_⟩
    have := (mem_entries_DFA hwf _ _ _).1 he
    rw [show a = E from ha, hne] at this; cases this

theorem reindexWith_good (d : DFA) (hwf : d.WF) (hne : d.NoEps) (m : SM) (hm : m.Inv (-1)) : (reindexWith d m).2.Good := by
  obtain ⟨ν, heq, -, hlo⟩ := reindexWith_permuted d m (-1) hm
  rw [heq]
  exact d.permuted_good hwf hne ν fun s hs he => by have := hlo s hs; omega

theorem DFA.reindex_good (d d' : DFA) (hg : d.Good) (h : d.reindex = .ok d') : d'.Good := by
  obtain ⟨m, -, hm, rfl⟩ := all_of_total d.reindex_total d' h
  exact reindexWith_good d hg.wf hg.noEps m hm

theorem combineDFA_good (ds : List DFA) (D : DFA) (fm : List (List Int)) (h : combineDFA ds = .ok (D, fm)) : D.Good := by
  obtain ⟨r, combined, m, hs, he, hb, -, ⟨⟩⟩ := all_of_total (combineDFA_total ds) (D, fm) h
  have hcg := r.2.elimDead_good combined (NFA.toDFA_good _ r.2 (by rw [NFA.toDFA, hs])) he
  exact reindexWith_good combined hcg.wf hcg.noEps m (all_of_total combined.bfsNumbering_total m hb)

theorem DFA.clone_good (d : DFA) (hg : d.Good) : d.clone.Good := by
  rw [d.clone_eq]
  exact DFA.ofEntries_good _ _ _ hg.proper.1 hg.fin fun e he => hg.entry he

def NFA.acceptsL (n : NFA) : Lang := fun w => n.accept w = .ok true

theorem NFA.accept_iff_lang (n : NFA) (w : Word) : n.accept w = .ok true ↔ n.lang w := by
  obtain ⟨b, hb, hl⟩ := n.accept_total w
  rw [hb]
  constructor
  · intro h; injection h with h; exact hl.1 h
  · intro h; rw [hl.2 h]

theorem NFA.acceptsL_eq (n : NFA) : n.acceptsL = n.lang := by
  funext w; exact propext (n.accept_iff_lang w)

theorem DFA.accept_iff_lang (d : DFA) (hg : d.Good) (w : Word) : d.accept w = true ↔ d.lang w :=
  d.accept_spec hg.proper w

theorem DFA.accept_of_lang {r : Outcome DFA} {w : Word} {X : Prop} (hgood : ∀ d', r = .ok d' → d'.Good)
    (h : ∃ d', r = .ok d' ∧ (d'.lang w ↔ X)) : ∃ d', r = .ok d' ∧ d'.Good ∧ (d'.accept w = true ↔ X) := by
  obtain ⟨d', hd', hl⟩ := h
  exact ⟨d', hd', hgood d' hd', (d'.accept_iff_lang (hgood d' hd') w).trans hl⟩

end AlgoVerif.C13
