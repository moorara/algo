import AlgoVerif.Proofs.C07Basic
/-!
# C07 — merge sorts (`sort/merge.go`): bottom-up `Merge` and top-down `MergeRec`

`merge` is tied to core's `List.merge`: the loop lemma shows that the array after the loop is the
array before it with the segment `[lo, hi]` replaced by `List.merge` of the two halves read from
`aux`; sortedness comes from `List.pairwise_merge`, and replacing a segment by a permutation of
itself (`List.merge_perm_append`) is a `SegStep` (`decomp_spec`).  `Merge` and `MergeRec` themselves
are fuel inductions with index-style invariants.
-/
namespace AlgoVerif.C07
open AlgoVerif

variable {α : Type} {cmp : α → α → Int}

/-- the Boolean `≤` handed to core's `List.merge` -/
def leB (cmp : α → α → Int) : α → α → Bool := fun x y => decide (cmp x y ≤ 0)

theorem sortedSeg_iff_seg {a : Array α} {lo hi : Nat} (hhi : hi ≤ a.size) :
    SortedSeg cmp a lo hi ↔ (segL a lo hi).Pairwise (fun x y => leB cmp x y) := by
  simp only [leB, decide_eq_true_eq]
  rw [List.pairwise_iff_getElem]
  constructor
  · intro h i j hi' hj hij
    rw [segL_getElem hhi, segL_getElem hhi]
    rw [segL_length hhi] at hi' hj
    exact h _ _ (by omega) (by omega) (by omega) (by omega)
  · intro h p q hlo hpq hq hq'
    have := h (p - lo) (q - lo) (by rw [segL_length hhi]; omega) (by rw [segL_length hhi]; omega) (by omega)
    rw [segL_getElem hhi, segL_getElem hhi] at this
    simpa [(by omega : lo + (p - lo) = p), (by omega : lo + (q - lo) = q)] using this

theorem decomp_spec {a a' : Array α} {lo h : Nat} {M : List α} (hlo : lo ≤ h) (hh : h ≤ a.size)
    (hM : M.Perm (segL a lo h)) (e : a'.toList = a.toList.take lo ++ M ++ a.toList.drop h) :
    SegStep a a' lo h ∧ segL a' lo h = M := by
  obtain ⟨hsize, hf, hseg⟩ := splice_spec hlo hh (hM.length_eq.trans (segL_length hh)) e
  exact ⟨segStep_of_segL hh hsize hf (hseg ▸ hM), hseg⟩

theorem splice_set {a : Array α} {k hi : Nat} (hk : k ≤ hi) (hhi : hi < a.size) (y : α) (R : List α) :
    (a.set k y (by omega)).toList.take (k+1) ++ R ++ (a.set k y (by omega)).toList.drop (hi+1)
      = a.toList.take k ++ (y :: R) ++ a.toList.drop (hi+1) := by
  have h1 : (a.set k y (by omega)).toList.take (k+1) = a.toList.take k ++ [y] := by
    rw [List.take_succ_eq_append_getElem (by simp; omega)]
    simp [List.take_set_of_le (Nat.le_refl k)]
  have h2 : (a.set k y (by omega)).toList.drop (hi+1) = a.toList.drop (hi+1) := by
    simp [List.drop_set_of_lt (by omega : k < hi + 1)]
  rw [h1, h2]
  simp

theorem mergeLoop_spec (tp : TotalPreorder cmp) (aux : Array α) (mid hi : Nat)
    (haux : hi < aux.size) :
    ∀ (f k i j : Nat) (a : Array α), hi < a.size →
      i ≤ mid + 1 ∧ mid + 1 ≤ j ∧ j ≤ hi + 1 ∧ k + mid + 1 = i + j ∧ hi + 1 < f + k →
      ∃ a', mergeLoop cmp aux (mid : Int) (hi : Int) f (k : Int) (i : Int) (j : Int) a = .ok a' ∧
        a'.toList = a.toList.take k ++ List.merge (segL aux i (mid+1)) (segL aux j (hi+1)) (leB cmp)
          ++ a.toList.drop (hi+1) := by
  intro f
  induction f with
  | zero => intro k i j a _ h; omega
  | succ f ih =>
    intro k i j a ha hinv
    unfold mergeLoop
    by_cases hkhi : k ≤ hi
    · have : (k : Int) ≤ hi := by omega
      simp only [this, ↓reduceIte]
      -- every branch writes to `a[k]` the head `y` of the merge of what is left to read
      have step (y : α) (i' j' : Nat)
          (hinv' : i' ≤ mid + 1 ∧ mid + 1 ≤ j' ∧ j' ≤ hi + 1 ∧ k + 1 + mid + 1 = i' + j' ∧ hi + 1 < f + (k + 1))
          (e : List.merge (segL aux i (mid+1)) (segL aux j (hi+1)) (leB cmp) =
            y :: List.merge (segL aux i' (mid+1)) (segL aux j' (hi+1)) (leB cmp)) :
          ∃ a', (set a (k : Int) y >>= fun a => mergeLoop cmp aux mid hi f ((k + 1 : Nat) : Int) i' j' a) = .ok a' ∧
            a'.toList = a.toList.take k ++ List.merge (segL aux i (mid+1)) (segL aux j (hi+1)) (leB cmp)
              ++ a.toList.drop (hi+1) := by
        rw [set_nat (by omega)]
        obtain ⟨a', h1, h2⟩ := ih (k+1) i' j' (a.set k y (by omega)) (by simpa using ha) hinv'
        exact ⟨a', h1, by rw [h2, e]; exact splice_set hkhi ha _ _⟩
      by_cases him : i > mid
      · have : (i : Int) > mid := by omega
        simp only [this, ↓reduceIte, get_nat (by omega : j < aux.size), ok_bind]
        refine step _ i (j+1) (by omega) ?_
        simp only [segL_nil (by omega : mid + 1 ≤ i), segL_cons aux (by omega : hi + 1 ≤ aux.size) (by omega : j < hi + 1),
          List.nil_merge]
      · have : ¬ (i : Int) > mid := by omega
        simp only [this, ↓reduceIte]
        have hx := segL_cons aux (by omega) (by omega : i < mid + 1)
        by_cases hjhi : j > hi
        · have : (j : Int) > hi := by omega
          simp only [this, ↓reduceIte, get_nat (by omega : i < aux.size), ok_bind]
          refine step _ (i+1) j (by omega) ?_
          simp only [segL_nil (by omega : hi + 1 ≤ j), hx, List.merge_right]
        · have : ¬ (j : Int) > hi := by omega
          simp only [this, ↓reduceIte, get_nat (by omega : j < aux.size), get_nat (by omega : i < aux.size), ok_bind]
          have hy := segL_cons aux (by omega) (by omega : j < hi + 1)
          split
          · next hc =>
            refine step _ i (j+1) (by omega) ?_
            have := tp.lt_flip hc
            rw [hy, hx, List.cons_merge_cons_neg _ _ _ (by simp [leB]; omega), ← hx]
          · next hc =>
            refine step _ (i+1) j (by omega) ?_
            have := tp.le_of_not_lt hc
            rw [hx, hy, List.cons_merge_cons_pos _ _ _ (by simp [leB]; omega), ← hy]
    · have : ¬ (k : Int) ≤ hi := by omega
      simp only [this, ↓reduceIte]
      refine ⟨a, rfl, ?_⟩
      have hk' : k = hi + 1 := by omega
      rw [segL_nil (by omega), segL_nil (by omega), hk']
      simp

theorem copyRange_spec (dst src : Array α) (lo h : Nat) (h1 : lo ≤ h) (h2 : h ≤ dst.size)
    (h3 : h ≤ src.size) :
    ∃ r, copyRange dst src (lo : Int) (h : Int) = .ok r ∧ r.size = dst.size ∧
      ∀ p (hp : p < r.size) (hp' : p < src.size), lo ≤ p → p < h → r[p] = src[p] := by
  unfold copyRange
  rw [dif_pos (by omega)]
  refine ⟨_, rfl, by simp, ?_⟩
  intro p hp hp' hlo hph
  simp only [Array.getElem_ofFn]
  rw [dif_pos (by omega)]

theorem leB_trans (tp : TotalPreorder cmp) (a b c : α) :
    leB cmp a b = true → leB cmp b c = true → leB cmp a c = true := by
  simp only [leB, decide_eq_true_eq]
  exact tp.trans a b c

theorem leB_total (tp : TotalPreorder cmp) (a b : α) :
    (leB cmp a b || leB cmp b a) = true := by
  simp only [leB, Bool.or_eq_true, decide_eq_true_eq]
  exact tp.total a b

theorem merge_spec (tp : TotalPreorder cmp) (a aux : Array α) (lo mid hi : Nat)
    (h1 : lo ≤ mid) (h2 : mid ≤ hi) (h3 : hi < a.size) (hx : aux.size = a.size)
    (s1 : SortedSeg cmp a lo (mid+1)) (s2 : SortedSeg cmp a (mid+1) (hi+1)) :
    ∃ a' aux', merge cmp a aux (lo : Int) (mid : Int) (hi : Int) = .ok (a', aux') ∧
      SegStep a a' lo (hi+1) ∧ aux'.size = a.size ∧ SortedSeg cmp a' lo (hi+1) := by
  unfold merge
  rw [← Int.natCast_add_one, ← Int.natCast_add_one]
  obtain ⟨aux', hc, hsz, hcp⟩ := copyRange_spec aux a lo (hi+1) (by omega) (by omega) (by omega)
  rw [hc]
  simp only [ok_bind]
  obtain ⟨a', hl, hd⟩ := mergeLoop_spec tp aux' mid hi (by omega) (((hi : Int) - lo).toNat + 2)
    lo lo (mid+1) a h3 (by omega)
  rw [hl]
  simp only [ok_bind]
  have g1 : segL aux' lo (mid+1) = segL a lo (mid+1) :=
    segL_congr (by omega) (by omega) (fun p hp hp' hlo hph => hcp p hp hp' hlo (by omega))
  have g2 : segL aux' (mid+1) (hi+1) = segL a (mid+1) (hi+1) :=
    segL_congr (by omega) (by omega) (fun p hp hp' hlo hph => hcp p hp hp' (by omega) hph)
  rw [g1, g2] at hd
  obtain ⟨S, hseg⟩ := decomp_spec (by omega : lo ≤ hi + 1) (by omega)
    ((List.merge_perm_append _).trans (.of_eq (segL_append (by omega) (by omega)))) hd
  refine ⟨a', aux', rfl, S, by omega, ?_⟩
  rw [sortedSeg_iff_seg (by have := S.size; omega), hseg]
  exact List.pairwise_merge (leB_trans tp) (leB_total tp) _ _
    ((sortedSeg_iff_seg (by omega)).1 s1) ((sortedSeg_iff_seg (by omega)).1 s2)

theorem mergeRecAux_spec (tp : TotalPreorder cmp) :
    ∀ (f : Nat) (a aux : Array α) (lo hi : Nat), lo ≤ hi → hi < a.size → aux.size = a.size →
      hi < f + lo →
      ∃ a' aux', mergeRecAux cmp f a aux (lo : Int) (hi : Int) = .ok (a', aux') ∧
        SegStep a a' lo (hi+1) ∧ aux'.size = a.size ∧ SortedSeg cmp a' lo (hi+1) := by
  intro f
  induction f with
  | zero => intro a aux lo hi _ _ _ h; omega
  | succ f ih =>
    intro a aux lo hi hlh hhi hx hf
    unfold mergeRecAux
    split
    · exact ⟨a, aux, rfl, SegStep.refl _ _ _, hx, fun p q _ _ _ _ => by omega⟩
    · dsimp only
      have em : ((lo : Int) + hi) / 2 = (((lo + hi) / 2 : Nat) : Int) := by omega
      rw [em]
      generalize hmid : (lo + hi) / 2 = mid
      have hm1 : lo ≤ mid := by omega
      have hm2 : mid < hi := by omega
      clear hmid em
      rw [← Int.natCast_add_one]
      obtain ⟨a1, x1, r1, S1, sx1, so1⟩ := ih a aux lo mid hm1 (by omega) hx (by omega)
      rw [r1]
      simp only [ok_bind]
      have sz1 := S1.size
      obtain ⟨a2, x2, r2, S2, sx2, so2⟩ :=
        ih a1 x1 (mid+1) hi (by omega) (by omega) (by omega) (by omega)
      rw [r2]
      simp only [ok_bind]
      have sz2 := S2.size
      have so1' := S2.sortedSeg_disjoint (Or.inl (Nat.le_refl _)) so1
      have S12 : SegStep a a2 lo (hi+1) :=
        (S1.widen (Nat.le_refl _) (by omega)).trans (S2.widen (by omega) (Nat.le_refl _))
      rw [get_nat (by omega : mid + 1 < a2.size), get_nat (by omega : mid < a2.size)]
      simp only [ok_bind]
      split
      · next hc =>
        exact ⟨a2, x2, rfl, S12, by omega, sortedSeg_join tp (by omega) hm2 so1' so2 (tp.le_of_ge hc)⟩
      · obtain ⟨a3, x3, r3, S3, sx3, so3⟩ :=
          merge_spec tp a2 x2 lo mid hi hm1 (by omega) (by omega) (by omega) so1' so2
        exact ⟨a3, x3, r3, S12.trans S3, by omega, so3⟩

theorem mergeRec_spec (tp : TotalPreorder cmp) (zero : α) (a : Array α) :
    ∃ out, mergeRec cmp zero a = .ok out ∧ IsSortOf cmp out a := by
  unfold mergeRec
  by_cases h0 : a.size = 0
  · refine ⟨a, ?_, ?_⟩
    · simp [h0, mergeRecAux]
    · have : a = #[] := Array.eq_empty_of_size_eq_zero h0
      subst this
      exact ⟨List.Pairwise.nil, List.Perm.refl _⟩
  · have e : ((a.size : Int) - 1) = ((a.size - 1 : Nat) : Int) := by omega
    obtain ⟨a', x', r, S, _, so⟩ := mergeRecAux_spec tp (a.size + 1) a
      (Array.replicate a.size zero) 0 (a.size - 1) (by omega) (by omega) (by simp) (by omega)
    refine ⟨a', ?_, ?_⟩
    · simp only [e]
      have r' : mergeRecAux cmp (a.size + 1) a (Array.replicate a.size zero) 0 ((a.size - 1 : Nat) : Int)
          = .ok (a', x') := r
      rw [r']
      rfl
    · refine isSortOf_of ?_ S.perm
      rw [S.size, (by omega : a.size = a.size - 1 + 1)]
      exact so

theorem dvd_cases {d s lo : Nat} (hs : d ∣ s) (hl : d ∣ lo) : s + d ≤ lo ∨ s = lo ∨ lo + d ≤ s := by
  rcases Nat.lt_trichotomy s lo with h | h | h
  · have := Nat.le_of_dvd (by omega) (Nat.dvd_sub hl hs)
    omega
  · exact .inr (.inl h)
  · have := Nat.le_of_dvd (by omega) (Nat.dvd_sub hs hl)
    omega

/-- a block that reaches beyond `n` is sorted as far as the array goes (`SortedSeg` ignores indices `≥ a.size`) -/
theorem mergePass_spec (tp : TotalPreorder cmp) (n sz : Nat) (hsz : 1 ≤ sz) :
    ∀ (f lo : Nat) (a aux : Array α), a.size = n → aux.size = n → (sz + sz) ∣ lo → n - lo < f →
      (∀ s, (sz + sz) ∣ s → s < lo → SortedSeg cmp a s (s + (sz + sz))) →
      (∀ s, sz ∣ s → lo ≤ s → SortedSeg cmp a s (s + sz)) →
      ∃ a' aux', mergePass cmp (n : Int) (sz : Int) f (lo : Int) a aux = .ok (a', aux') ∧
        a'.size = n ∧ aux'.size = n ∧ a'.Perm a ∧
        ∀ s, (sz + sz) ∣ s → SortedSeg cmp a' s (s + (sz + sz)) := by
  intro f
  induction f with
  | zero => intro lo a aux _ _ _ h; omega
  | succ f ih =>
    intro lo a aux ha hx hdvd hf hbig hsmall
    have hdvd1 : sz ∣ lo := Nat.dvd_trans ⟨2, by omega⟩ hdvd
    unfold mergePass
    split
    · -- the fuel bound is spent here: its subtraction would burden every `omega` below
      have ih' := fun a aux h1 h2 h3 => ih (lo + (sz + sz)) a aux h1 h2 h3 (by omega)
      clear hf ih
      obtain ⟨mid, hmid⟩ : ∃ mid, lo + sz = mid + 1 := ⟨lo + sz - 1, by omega⟩
      have e1 : (lo : Int) + sz - 1 = (mid : Int) := by omega
      have e2 : imin ((lo : Int) + sz + sz - 1) ((n : Int) - 1)
          = ((min (mid + sz) (n - 1) : Nat) : Int) := by
        unfold imin; split <;> omega
      have e3 : (lo : Int) + ((sz : Int) + sz) = ((lo + (sz + sz) : Nat) : Int) := by omega
      rw [e1, e2, e3]
      generalize hhi : min (mid + sz) (n - 1) = hi
      -- all that is needed of `hi`; the defining equation would make every later `omega` split on it
      have hhi' : mid + 1 ≤ hi ∧ hi < n ∧ hi ≤ mid + sz ∧ (mid + sz ≤ hi ∨ n ≤ hi + 1) := by omega
      clear hhi e1 e2 e3
      have s1 : SortedSeg cmp a lo (mid + 1) := hmid ▸ hsmall lo hdvd1 (Nat.le_refl _)
      have s2 : SortedSeg cmp a (mid + 1) (hi + 1) :=
        sortedSeg_mono (Nat.le_refl _) (by omega)
          (hmid ▸ hsmall (lo + sz) (Nat.dvd_add hdvd1 (Nat.dvd_refl _)) (by omega))
      obtain ⟨a1, x1, r1, S1, sx1, so1⟩ :=
        merge_spec tp a aux lo mid hi (by omega) (by omega) (by omega) (by omega) s1 s2
      have sz1 := S1.size
      rw [r1]
      simp only [ok_bind]
      obtain ⟨a2, x2, r2, sz2, sx2, pm2, so2⟩ := ih' a1 x1 (sz1.trans ha) (sx1.trans ha)
        (Nat.dvd_add hdvd (Nat.dvd_refl _))
        (by
          intro s hs hslt
          rcases dvd_cases hs hdvd with h | rfl | h
          · exact S1.sortedSeg_disjoint (Or.inl (by omega)) (hbig s hs (by omega))
          · exact sortedSeg_mono (Nat.le_refl _) (by omega) so1
          · omega)
        (by
          intro s hs hsge
          exact S1.sortedSeg_disjoint (Or.inr (by omega)) (hsmall s hs (by omega)))
      exact ⟨a2, x2, r2, sz2, sx2, pm2.trans S1.perm, so2⟩
    · refine ⟨a, aux, rfl, ha, hx, Array.Perm.refl _, ?_⟩
      intro s hs
      rcases dvd_cases hs hdvd with h | rfl | h
      · exact hbig s hs (by omega)
      · exact sortedSeg_mono (Nat.le_refl _) (by omega) (hsmall s hdvd1 (Nat.le_refl _))
      · intro p q _ _ _ _; omega

theorem mergeSizes_spec (tp : TotalPreorder cmp) (n : Nat) :
    ∀ (f sz : Nat) (a aux : Array α), 1 ≤ sz → a.size = n → aux.size = n → n - sz < f →
      (∀ s, sz ∣ s → SortedSeg cmp a s (s + sz)) →
      ∃ a' aux', mergeSizes cmp (n : Int) f (sz : Int) a aux = .ok (a', aux') ∧
        a'.size = n ∧ a'.Perm a ∧ SortedSeg cmp a' 0 n := by
  intro f
  induction f with
  | zero => intro sz a aux _ _ _ h; omega
  | succ f ih =>
    intro sz a aux hsz ha hx hf hblk
    unfold mergeSizes
    split
    · obtain ⟨a1, x1, r1, sz1, sx1, pm1, so1⟩ := mergePass_spec tp n sz hsz ((n : Int).toNat + 1) 0
        a aux ha hx (Nat.dvd_zero _) (by omega) (by intro s _ h; omega) (fun s hs _ => hblk s hs)
      have r1' : mergePass cmp (n : Int) (sz : Int) ((n : Int).toNat + 1) 0 a aux = .ok (a1, x1) := r1
      rw [r1']
      simp only [ok_bind]
      have e : (sz : Int) + sz = ((sz + sz : Nat) : Int) := by omega
      rw [e]
      obtain ⟨a2, x2, r2, sz2, pm2, so2⟩ := ih (sz + sz) a1 x1 (by omega) sz1 sx1 (by omega) so1
      exact ⟨a2, x2, r2, sz2, pm2.trans pm1, so2⟩
    · refine ⟨a, aux, rfl, ha, Array.Perm.refl _, ?_⟩
      have := hblk 0 (Nat.dvd_zero _)
      exact sortedSeg_mono (Nat.le_refl _) (by omega) this

theorem mergeBU_spec (tp : TotalPreorder cmp) (zero : α) (a : Array α) :
    ∃ out, mergeBU cmp zero a = .ok out ∧ IsSortOf cmp out a := by
  unfold mergeBU
  obtain ⟨a', x', r, sz, pm, so⟩ := mergeSizes_spec tp a.size (a.size + 1) 1 a
    (Array.replicate a.size zero) (Nat.le_refl _) rfl (by simp) (by omega)
    (by intro s _ p q _ _ _ _; omega)
  have r' : mergeSizes cmp (a.size : Int) (a.size + 1) 1 a (Array.replicate a.size zero)
      = .ok (a', x') := r
  refine ⟨a', ?_, ?_⟩
  · simp only [r', ok_bind]
  · refine isSortOf_of ?_ pm
    rw [sz]
    exact so

end AlgoVerif.C07
