import AlgoVerif.Proofs.C06BinarySim
import AlgoVerif.Proofs.C06XSpec
/-!
# C06 — the rest of `trie.Trie` on the binary trie (simulation under `BInv`)

The general `_traverse` in the orders the property's queries use, and the extended step function `Binary.xstep` against
`Spec.admits`.
-/
namespace AlgoVerif.C06
variable {V σ : Type}

namespace BNode

theorem andThen_eq (a : σ × Bool) (f : σ → σ × Bool) : andThen a f = if !a.2 then (a.1, false) else f a.1 := by
  obtain ⟨x, b⟩ := a
  cases b <;> rfl

theorem trav_fwd {o : Order} (ho : o = .vlr ∨ o = .asc) (visit : σ → Key → V → Bool → σ × Bool) (n : BNode V) (pre : Key)
    (s : σ) : trav o visit n pre s = travAsc visit n pre s := by
  induction n generalizing pre s with
  | nil => rfl
  | node ch val term l r ihl ihr =>
    rcases ho with rfl | rfl <;>
    · simp only [trav, travAsc, andThen_eq, ihl, ihr]
      by_cases h1 : (visit s (pre ++ [ch]) val term).2 = true <;> simp [h1]

theorem trav_bwd {o : Order} (ho : o = .rlv ∨ o = .desc) (visit : σ → Key → V → Bool → σ × Bool) (n : BNode V) (pre : Key)
    (s : σ) : trav o visit n pre s = travDesc visit n pre s := by
  induction n generalizing pre s with
  | nil => rfl
  | node ch val term l r ihl ihr =>
    rcases ho with rfl | rfl <;>
    · simp only [trav, travDesc, andThen_eq, ihl, ihr]
      by_cases h1 : (travDesc visit r pre s).2 = true <;> simp [h1]

theorem trav_bad (visit : σ → Key → V → Bool → σ × Bool) (n : BNode V) (pre : Key) (s : σ) :
    trav .bad visit n pre s = (s, n.isNil) := by
  cases n <;> rfl

end BNode

namespace Binary
open Spec

theorem isEmpty_eq {t : Binary V} {m : Map V} (h : BInv t m) : t.isEmpty = m.isEmpty := by
  unfold Binary.isEmpty
  rw [h.size]
  cases m <;> simp
  omega

theorem anyMatch_eq {t : Binary V} {m : Map V} (h : BInv t m) (p : Key → V → Bool) : t.anyMatch p = m.anyMatch p := by
  unfold Binary.anyMatch Map.anyMatch
  rw [BNode.trav_fwd (.inl rfl), BNode.travAsc_eq _ (fun (s : Unit) k v => (s, !p k v))
    (fun s k v term => by cases term <;> simp), map_prep_nil, h.ents, foldE_allS]
  simp only [List.not_all_eq_any_not, Bool.not_not]

theorem allMatch_eq {t : Binary V} {m : Map V} (h : BInv t m) (p : Key → V → Bool) : t.allMatch p = m.allMatch p := by
  unfold Binary.allMatch Map.allMatch
  rw [BNode.trav_fwd (.inl rfl), BNode.travAsc_eq _ (fun (s : Unit) k v => (s, p k v))
    (fun s k v term => by cases term <;> simp), map_prep_nil, h.ents, foldE_allS]

theorem firstMatch_eq {t : Binary V} {m : Map V} (h : BInv t m) (p : Key → V → Bool) :
    t.firstMatch p = m.find? fun e => p e.1 e.2 := by
  unfold Binary.firstMatch
  rw [BNode.trav_fwd (.inl rfl), BNode.travAsc_eq _ (fun (s : Option (Key × V)) k v => if p k v then (some (k, v), false) else (s, true))
    (fun s k v term => by cases term <;> simp), map_prep_nil, h.ents, foldE_find]

theorem put_ok [Inhabited V] {n : Binary V} {acc : Map V} (k : Key) (v : V) (hn : BInv n acc) (hk : k ≠ []) :
    ∃ n', n.put k v = .ok n' ∧ BInv n' (Map.put acc k v) := by
  cases k with
  | nil => exact absurd rfl hk
  | cons c rest => exact ⟨_, rfl, put_sim hn c rest v⟩

theorem selectMatch_sim [Inhabited V] {t : Binary V} {m : Map V} (h : BInv t m) (p : Key → V → Bool) :
    ∃ r, t.selectMatch p = .ok r ∧ BInv r (m.selectMatch p) := by
  unfold Binary.selectMatch Map.selectMatch
  rw [BNode.trav_fwd (.inl rfl), BNode.travAsc_eq _ (selVisit Binary.put p)
    (fun s k v term => by
      rcases s with n | _ | _ <;> cases term <;> cases hp : p k v <;> simp only [selVisit, hp] <;> try rfl
      cases n.put k v <;> rfl), map_prep_nil, h.ents]
  obtain ⟨n', h1, h2⟩ := foldE_selVisit (fun k v => put_ok k v) p m [] Binary.new BInv.new
    (fun e he => by rw [← h.ents] at he; exact BNode.ents_key_ne_nil _ e he)
  rw [insAll_filter_perm h.sorted (List.Perm.refl m)] at h2
  exact ⟨n', by rw [h1], h2⟩

theorem partitionMatch_sim [Inhabited V] {t : Binary V} {m : Map V} (h : BInv t m) (p : Key → V → Bool) :
    ∃ r u, t.partitionMatch p = .ok (r, u) ∧ BInv r (m.selectMatch p) ∧ BInv u (m.rejectMatch p) := by
  unfold Binary.partitionMatch Map.selectMatch Map.rejectMatch
  rw [BNode.trav_fwd (.inl rfl), BNode.travAsc_eq _ (partVisit Binary.put p)
    (fun s k v term => by
      rcases s with ⟨m, u⟩ | _ | _ <;> cases term <;> try rfl
      simp only [partVisit, if_true]
      cases p k v
      · simp only [Bool.false_eq_true, if_false]; cases u.put k v <;> rfl
      · simp only [if_true]; cases m.put k v <;> rfl), map_prep_nil, h.ents]
  obtain ⟨nm', nu', h1, h2, h3⟩ := foldE_partVisit (fun k v => put_ok k v) p m [] [] Binary.new Binary.new BInv.new BInv.new
    (fun e he => by rw [← h.ents] at he; exact BNode.ents_key_ne_nil _ e he)
  rw [insAll_filter_perm h.sorted (List.Perm.refl m)] at h2 h3
  exact ⟨nm', nu', by rw [h1], h2, h3⟩

theorem subsetOf_eq [Inhabited V] (eqv : V → V → Bool) {t t2 : Binary V} {m m2 : Map V} (h : BInv t m) (h2 : BInv t2 m2) :
    t.subsetOf eqv t2 = .ok (m.all fun e => match Map.get m2 e.1 with
      | some v2 => eqv e.2 v2
      | none => false) := by
  unfold Binary.subsetOf
  rw [BNode.trav_fwd (.inr rfl), BNode.travAsc_eq _ (fun (s : Outcome Unit) k v =>
      match t2.get k with
      | .ok (some v2) => (s, eqv v v2)
      | .ok none => (s, false)
      | .panic => (.panic, false)
      | .diverge => (.diverge, false))
    (fun s k v term => by cases term <;> first | rfl | (simp; rfl)), map_prep_nil, h.ents,
    foldE_congr _ (fun (s : Outcome Unit) k v => (s, match Map.get m2 k with
      | some v2 => eqv v v2
      | none => false)) m _ ?_, foldE_allS]
  · rfl
  · intro e he s
    have hk : e.1 ≠ [] := by rw [← h.ents] at he; exact BNode.ents_key_ne_nil _ e he
    obtain ⟨k, v⟩ := e
    cases k with
    | nil => exact absurd rfl hk
    | cons c rest =>
      simp only [Binary.get, get_eq h2]
      cases Map.get m2 (c :: rest) <;> rfl

theorem equal_eq [Inhabited V] (eqv : V → V → Bool) {t t2 : Binary V} {m m2 : Map V} (h : BInv t m) (h2 : BInv t2 m2) :
    t.equal eqv t2 = .ok (Map.equal eqv m m2) :=
  equal_of_subsets (subsetOf_eq eqv h h2) (subsetOf_eq eqv h2 h)

theorem holds_of_inv {t : Binary V} {m : Map V} (h : BInv t m) : t.Holds m := ⟨all_eq h, h.size⟩

theorem traverse_bad [Inhabited V] (t : Binary V) (visit : σ → Key → V → σ × Bool) (s : σ) :
    t.traverse .bad visit s = (s, false) := rfl

theorem xstep_sim [Inhabited V] (eqv : V → V → Bool) {a b : Binary V} {ma mb : Map V} (ha : BInv a ma) (hb : BInv b mb)
    (op : XOp V) (hk : op.keysNonempty = true) :
    ∃ a' b' o, Binary.xstep eqv (a, b) op = .ok ((a', b'), o) ∧
      BInv a' (Spec.xnext (ma, mb) op).1 ∧ BInv b' (Spec.xnext (ma, mb) op).2 ∧
      Spec.admits false eqv Binary.Holds (ma, mb) op o := by
  cases op with
  | base op =>
    obtain ⟨a', h1, h2⟩ := step_sim ha op hk
    exact ⟨a', b, _, by simp [Binary.xstep, h1, Outcome.map], h2, hb, rfl⟩
  | isEmpty => exact ⟨a, b, _, rfl, ha, hb, by simp [Spec.admits, isEmpty_eq ha]⟩
  | height => exact ⟨a, b, _, rfl, ha, hb, ⟨_, rfl⟩⟩
  | traverse o stop =>
    refine ⟨a, b, _, rfl, ha, hb, ⟨_, rfl, ?_⟩⟩
    cases o <;> simp [traverse_bad]
  | anyMatch p => exact ⟨a, b, _, rfl, ha, hb, by simp [Spec.admits, anyMatch_eq ha]⟩
  | allMatch p => exact ⟨a, b, _, rfl, ha, hb, by simp [Spec.admits, allMatch_eq ha]⟩
  | firstMatch p =>
    refine ⟨a, b, _, rfl, ha, hb, ⟨_, rfl, ?_⟩⟩
    rw [firstMatch_eq ha]
    exact Spec.find?_admitted (List.Perm.refl ma) p
  | selectMatch p =>
    obtain ⟨r, h1, h2⟩ := selectMatch_sim ha p
    exact ⟨a, r, _, by simp [Binary.xstep, h1, Outcome.map], ha, h2, ⟨r, rfl, holds_of_inv h2⟩⟩
  | partitionMatch p =>
    obtain ⟨r, u, h1, h2, h3⟩ := partitionMatch_sim ha p
    exact ⟨a, u, _, by simp [Binary.xstep, h1, Outcome.map], ha, h3, ⟨r, u, rfl, holds_of_inv h2, holds_of_inv h3⟩⟩
  | equal => exact ⟨a, b, _, by simp [Binary.xstep, equal_eq eqv ha hb, Outcome.map], ha, hb, rfl⟩
  | equalOther => exact ⟨a, b, _, rfl, ha, hb, rfl⟩
  | swap => exact ⟨b, a, _, rfl, hb, ha, rfl⟩

theorem xrun_sim [Inhabited V] (eqv : V → V → Bool) {a b : Binary V} {ma mb : Map V} (ha : BInv a ma) (hb : BInv b mb)
    (ops : List (XOp V)) (hk : ∀ op ∈ ops, op.keysNonempty = true) :
    Spec.Admitted false eqv Binary.Holds (ma, mb) ops (Binary.xrun eqv (a, b) ops) := by
  induction ops generalizing a b ma mb with
  | nil => trivial
  | cons op ops ih =>
    obtain ⟨a', b', o, h1, h2, h3, h4⟩ := xstep_sim eqv ha hb op (hk op (List.mem_cons_self ..))
    simp only [Binary.xrun, runTrace, h1, Spec.Admitted]
    exact ⟨h4, ih h2 h3 (fun o ho => hk o (List.mem_cons_of_mem _ ho))⟩

end Binary
end AlgoVerif.C06
