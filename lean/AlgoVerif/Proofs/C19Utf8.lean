import AlgoVerif.Spec.C19
/-!
# C19 — the table-driven UTF-8 decoder of `Next` is UTF-8 decoding

`row` is Unicode Table 3-7 (well-formed UTF-8 byte sequences) by lead byte, together with the code `utf8.go` keeps
for each row in its table `first`; one kernel evaluation checks the regenerated `first` against it, and everything
else about the tables is read off `row` by cases on the row (`fun_cases row k`).  From there on bytes are numbers:
`decodeRune` (Model) on a byte list is `refDecode`, a decoder that follows `row` with `%` and ranges only, on the
list of their values, and Lean core's `String.utf8EncodeChar` yields the values `encN` (`toNat_encode`).
`refDecode_rune_iff`: `refDecode` returns a rune exactly on the lists that start with `encN` of a scalar value, the
arithmetic of each length being one `omega` fact (`utf8_two`, `utf8_three`, `utf8_four`).  No enumeration of code
points.
-/
namespace AlgoVerif.C19
open AlgoVerif AlgoVerif.Generated

/-- one row of Unicode Table 3-7 (well-formed UTF-8 byte sequences), as `utf8.go` encodes it: the entry of `first`
for a lead byte, the length of the sequences it starts (0: none), and the range of the second byte -/
structure Row where
  first : Nat
  len : Nat
  lo : Nat
  hi : Nat

def row (k : Nat) : Row :=
  if k < 0x80 then ⟨240, 1, 0, 0⟩ else if k < 0xC2 then ⟨241, 0, 0, 0⟩
  else if k < 0xE0 then ⟨2, 2, 0x80, 0xBF⟩ else if k = 0xE0 then ⟨19, 3, 0xA0, 0xBF⟩
  else if k < 0xED then ⟨3, 3, 0x80, 0xBF⟩ else if k = 0xED then ⟨35, 3, 0x80, 0x9F⟩
  else if k < 0xF0 then ⟨3, 3, 0x80, 0xBF⟩ else if k = 0xF0 then ⟨52, 4, 0x90, 0xBF⟩
  else if k < 0xF4 then ⟨4, 4, 0x80, 0xBF⟩ else if k = 0xF4 then ⟨68, 4, 0x80, 0x8F⟩ else ⟨241, 0, 0, 0⟩

/-- the regenerated `first`, as numbers, is the first column of `row` on `0 … 255`; stated on lists so that the
kernel's evaluation is linear in the table -/
theorem first_table : lexer_input_first.toList.map UInt8.toNat = (List.range 256).map fun k => (row k).first := by
  decide +kernel

theorem firstOf_eq_row (b : UInt8) : firstOf b = (row b.toNat).first := by
  have h := congrArg (·[b.toNat]?) first_table
  simp only [List.getElem?_map, Array.getElem?_toList, List.getElem?_range b.toNat_lt, Option.map_some] at h
  unfold firstOf
  cases hx : lexer_input_first[b.toNat]? with
  | none => rw [hx] at h; cases h
  | some x => rw [hx] at h; exact Option.some.inj h

/-- what the decoder of `Next` reads off a row: `xx` / `as` / a class below `as` that carries the length in its
low bits and the index of the second byte's range in `acceptRanges` in its high bits -/
def Row.Coded (r : Row) : Prop :=
  (r.len = 0 ∧ r.first = lexer_input_xx) ∨ (r.len = 1 ∧ r.first = lexer_input_as) ∨
  (r.first < lexer_input_as ∧ r.first &&& 7 = r.len ∧ (r.len = 2 ∨ r.len = 3 ∨ r.len = 4) ∧
    acceptOf r.first = (r.lo, r.hi))

instance (r : Row) : Decidable r.Coded := by unfold Row.Coded; infer_instance

theorem row_coded (k : Nat) : (row k).Coded := by
  fun_cases row k <;> decide

theorem size_cases (b0 : UInt8) (h : ¬ firstOf b0 ≥ lexer_input_as) :
    firstOf b0 &&& 7 = 2 ∨ firstOf b0 &&& 7 = 3 ∨ firstOf b0 &&& 7 = 4 := by
  rw [firstOf_eq_row] at h ⊢
  rcases row_coded b0.toNat with ⟨_, hf⟩ | ⟨_, hf⟩ | ⟨_, hsz, hlen, _⟩
  · rw [hf] at h; exact absurd (by decide) h
  · rw [hf] at h; exact absurd (by decide) h
  · rw [hsz]; exact hlen

theorem shl_or (x y i : Nat) (hy : y < 2 ^ i) : x <<< i ||| y = x * 2 ^ i + y := by
  rw [← Nat.shiftLeft_add_eq_or_of_lt hy, Nat.shiftLeft_eq]

/-- the value `Next` assembles from a two-byte sequence with masks and shifts: a mask keeps the low bits of a
byte, which is `%` -/
theorem dec2 (k b1 : Nat) : (k &&& 31) <<< 6 ||| b1 &&& 63 = k % 32 * 64 + b1 % 64 := by
  rw [Nat.and_two_pow_sub_one_eq_mod k 5, Nat.and_two_pow_sub_one_eq_mod b1 6, shl_or _ _ 6 (Nat.mod_lt _ (by decide))]

theorem dec3 (k b1 b2 : Nat) :
    (k &&& 15) <<< 12 ||| (b1 &&& 63) <<< 6 ||| b2 &&& 63 = k % 16 * 4096 + b1 % 64 * 64 + b2 % 64 := by
  rw [Nat.and_two_pow_sub_one_eq_mod k 4, Nat.and_two_pow_sub_one_eq_mod b1 6, Nat.and_two_pow_sub_one_eq_mod b2 6,
    Nat.or_assoc, shl_or _ _ 6 (Nat.mod_lt _ (by decide)), shl_or _ _ 12 (by omega)]
  omega

theorem dec4 (k b1 b2 b3 : Nat) :
    (k &&& 7) <<< 18 ||| (b1 &&& 63) <<< 12 ||| (b2 &&& 63) <<< 6 ||| b3 &&& 63
      = k % 8 * 262144 + b1 % 64 * 4096 + b2 % 64 * 64 + b3 % 64 := by
  rw [Nat.and_two_pow_sub_one_eq_mod k 3, Nat.and_two_pow_sub_one_eq_mod b1 6, Nat.and_two_pow_sub_one_eq_mod b2 6,
    Nat.and_two_pow_sub_one_eq_mod b3 6, Nat.or_assoc, Nat.or_assoc, shl_or _ _ 6 (Nat.mod_lt _ (by decide)),
    shl_or _ _ 12 (by omega), shl_or _ _ 18 (by omega)]
  omega

/-- one more byte, the `n`-th of its sequence, which must lie in `[lo, hi]`; `f` goes on with it and the bytes after it -/
def cont (lo hi n : Nat) (bs : List Nat) (f : Nat → List Nat → Dec) : Dec :=
  match bs with
  | [] => .short
  | b :: bs => if b < lo ∨ hi < b then .invalid n else f b bs

theorem cont_cons {lo hi n b : Nat} {bs : List Nat} {f : Nat → List Nat → Dec} (h : lo ≤ b ∧ b ≤ hi) :
    cont lo hi n (b :: bs) f = f b bs :=
  if_neg (by omega)

theorem cont_rune {lo hi n : Nat} {bs : List Nat} {f : Nat → List Nat → Dec} {r m : Nat}
    (h : cont lo hi n bs f = .rune r m) : ∃ b bs', bs = b :: bs' ∧ (lo ≤ b ∧ b ≤ hi) ∧ f b bs' = .rune r m := by
  unfold cont at h
  split at h
  · cases h
  next b bs' =>
    split at h
    · cases h
    · exact ⟨b, bs', rfl, by omega, h⟩

/-- the continuation bytes (as numbers) of a sequence of `len ∈ {2, 3, 4}` bytes with lead byte `k` whose second
byte must lie in `[lo, hi]`, arithmetic only -/
def refTail (k len lo hi : Nat) (bs : List Nat) : Dec :=
  cont lo hi 2 bs fun b1 bs =>
    if len = 2 then .rune (k % 32 * 64 + b1 % 64) 2
    else cont 0x80 0xBF 3 bs fun b2 bs =>
      if len = 3 then .rune (k % 16 * 4096 + b1 % 64 * 64 + b2 % 64) 3
      else cont 0x80 0xBF 4 bs fun b3 _ =>
        .rune (k % 8 * 262144 + b1 % 64 * 4096 + b2 % 64 * 64 + b3 % 64) 4

/-- UTF-8 decoding of one rune by Table 3-7, on the bytes as numbers -/
def refDecode : List Nat → Dec
  | [] => .short
  | k :: bs =>
    let r := row k
    if r.len = 0 then .invalid 1 else if r.len = 1 then .rune k 1
    else refTail k r.len r.lo r.hi bs

theorem decodeRune_cons (b0 : UInt8) (bs : List UInt8) (r : Row) (hx : firstOf b0 = r.first) (hc : r.Coded) :
    decodeRune (b0 :: bs) = if r.len = 0 then .invalid 1 else if r.len = 1 then .rune b0.toNat 1
      else refTail b0.toNat r.len r.lo r.hi (bs.map UInt8.toNat) := by
  rcases hc with ⟨h0, hf⟩ | ⟨h1, hf⟩ | ⟨hlt, hsz, hlen, hacc⟩
  · simp only [decodeRune, hx, hf, h0, lexer_input_xx, lexer_input_as, ge_iff_le, Nat.reduceLeDiff, if_true]
  · simp only [decodeRune, hx, hf, h1, lexer_input_xx, lexer_input_as, ge_iff_le, Nat.le_refl, Nat.reduceEqDiff,
      Nat.succ_ne_self, if_true, if_false]
  · unfold decodeRune
    dsimp only
    rw [hx, hsz, hacc, if_neg (Nat.not_le.mpr hlt), if_neg (by omega), if_neg (by omega)]
    dsimp only
    cases bs with
    | nil => rfl
    | cons b1 bs =>
      dsimp only [refTail, cont, List.map_cons]
      refine ite_congr rfl (fun _ => rfl) (fun _ => ?_)
      refine ite_congr rfl (fun _ => congrArg (Dec.rune · 2) (dec2 _ _)) (fun h2 => ?_)
      cases bs with
      | nil => rfl
      | cons b2 bs =>
        dsimp only [cont, List.map_cons]
        refine ite_congr rfl (fun _ => rfl) (fun _ => ?_)
        refine ite_congr rfl (fun _ => congrArg (Dec.rune · 3) (dec3 _ _ _)) (fun h3 => ?_)
        cases bs with
        | nil => rfl
        | cons b3 bs =>
          dsimp only [cont, List.map_cons]
          refine ite_congr rfl (fun _ => rfl) (fun _ => ?_)
          rw [(hlen.resolve_left h2).resolve_left h3]
          exact congrArg (Dec.rune · 4) (dec4 _ _ _ _)

theorem decodeRune_eq_refDecode : ∀ bs, decodeRune bs = refDecode (bs.map UInt8.toNat)
  | [] => rfl
  | b0 :: bs => decodeRune_cons b0 bs _ (firstOf_eq_row b0) (row_coded _)

/-- the bytes of the scalar value `v`, as numbers: what `String.utf8EncodeChar` computes before it makes bytes of them -/
def encN (v : Nat) : List Nat :=
  if v ≤ 127 then [v]
  else if v ≤ 2047 then [v / 64 % 32 + 192, v % 64 + 128]
  else if v ≤ 65535 then [v / 4096 % 16 + 224, v / 64 % 64 + 128, v % 64 + 128]
  else [v / 262144 % 8 + 240, v / 4096 % 64 + 128, v / 64 % 64 + 128, v % 64 + 128]

theorem toNat_encode (c : Char) : (String.utf8EncodeChar c).map UInt8.toNat = encN c.toNat := by
  simp only [String.utf8EncodeChar, encN, Char.toNat, apply_ite (List.map UInt8.toNat), List.map_cons, List.map_nil,
    UInt8.toNat_ofNat']
  generalize c.val.toNat = v
  -- branch by branch: every entry is below 256
  refine ite_congr rfl (fun _ => ?_) fun _ => ite_congr rfl (fun _ => ?_) fun _ => ite_congr rfl (fun _ => ?_) fun _ => ?_
  all_goals simp only [List.cons.injEq, and_true]; omega

theorem row_one (k : Nat) : (row k).len = 1 ↔ k < 0x80 := by
  fun_cases row k <;> dsimp only <;> omega

theorem row_two (k b1 : Nat) : ((row k).len = 2 ∧ (row k).lo ≤ b1 ∧ b1 ≤ (row k).hi) ↔
    ((0xC2 ≤ k ∧ k < 0xE0) ∧ 0x80 ≤ b1 ∧ b1 ≤ 0xBF) := by
  fun_cases row k <;> dsimp only <;> omega

theorem row_three (k b1 : Nat) : ((row k).len = 3 ∧ (row k).lo ≤ b1 ∧ b1 ≤ (row k).hi) ↔
    ((0xE0 ≤ k ∧ k < 0xF0) ∧ 0x80 ≤ b1 ∧ b1 ≤ 0xBF ∧ (k = 0xE0 → 0xA0 ≤ b1) ∧ (k = 0xED → b1 ≤ 0x9F)) := by
  fun_cases row k <;> dsimp only <;> omega

theorem row_four (k b1 : Nat) : ((row k).len = 4 ∧ (row k).lo ≤ b1 ∧ b1 ≤ (row k).hi) ↔
    ((0xF0 ≤ k ∧ k < 0xF5) ∧ 0x80 ≤ b1 ∧ b1 ≤ 0xBF ∧ (k = 0xF0 → 0x90 ≤ b1) ∧ (k = 0xF4 → b1 ≤ 0x8F)) := by
  fun_cases row k <;> dsimp only <;> omega

theorem payload (d m marker : Nat) (h : marker % m = 0) : (d % m + marker) % m = d % m := by
  rw [Nat.add_mod, h, Nat.add_zero, Nat.mod_mod, Nat.mod_mod]

theorem utf8_two (k b1 r : Nat) :
    (((0xC2 ≤ k ∧ k < 0xE0) ∧ 0x80 ≤ b1 ∧ b1 ≤ 0xBF) ∧ r = k % 32 * 64 + b1 % 64) ↔
    (127 < r ∧ r ≤ 2047 ∧ k = r / 64 % 32 + 192 ∧ b1 = r % 64 + 128) := by omega

theorem utf8_three (k b1 b2 r : Nat) :
    (((0xE0 ≤ k ∧ k < 0xF0) ∧ 0x80 ≤ b1 ∧ b1 ≤ 0xBF ∧ (k = 0xE0 → 0xA0 ≤ b1) ∧ (k = 0xED → b1 ≤ 0x9F)) ∧
      (0x80 ≤ b2 ∧ b2 ≤ 0xBF) ∧ r = k % 16 * 4096 + b1 % 64 * 64 + b2 % 64) ↔
    (2047 < r ∧ r ≤ 65535 ∧ (r < 0xD800 ∨ 0xDFFF < r) ∧
      k = r / 4096 % 16 + 224 ∧ b1 = r / 64 % 64 + 128 ∧ b2 = r % 64 + 128) := by
  -- each direction with the known side substituted (and the payloads of the bytes read off first): cheaper for
  -- `omega` than the iff as a whole
  constructor
  · intro ⟨_, _, _⟩
    subst r
    omega
  · intro ⟨_, _, _, _, _, _⟩
    subst k b1 b2
    rw [payload _ 16 224 rfl, payload _ 64 128 rfl, payload _ 64 128 rfl]
    omega

theorem utf8_four (k b1 b2 b3 r : Nat) :
    (((0xF0 ≤ k ∧ k < 0xF5) ∧ 0x80 ≤ b1 ∧ b1 ≤ 0xBF ∧ (k = 0xF0 → 0x90 ≤ b1) ∧ (k = 0xF4 → b1 ≤ 0x8F)) ∧
      (0x80 ≤ b2 ∧ b2 ≤ 0xBF) ∧ (0x80 ≤ b3 ∧ b3 ≤ 0xBF) ∧
      r = k % 8 * 262144 + b1 % 64 * 4096 + b2 % 64 * 64 + b3 % 64) ↔
    (65535 < r ∧ r < 0x110000 ∧
      k = r / 262144 % 8 + 240 ∧ b1 = r / 4096 % 64 + 128 ∧ b2 = r / 64 % 64 + 128 ∧ b3 = r % 64 + 128) := by
  constructor
  · intro ⟨_, _, _, _⟩
    subst r
    omega
  · intro ⟨_, _, _, _, _, _⟩
    subst k b1 b2 b3
    rw [payload _ 8 240 rfl, payload _ 64 128 rfl, payload _ 64 128 rfl, payload _ 64 128 rfl]
    omega

theorem refDecode_rune_iff (ks : List Nat) (r n : Nat) :
    refDecode ks = .rune r n ↔ r.isValidChar ∧ n = (encN r).length ∧ ∃ rest, ks = encN r ++ rest := by
  constructor
  · -- byte by byte what the decoder has checked; then the arithmetic gives the bytes as `encN` lists them
    intro h
    match ks, h with
    | [], h => cases h
    | k :: bs, h =>
      unfold refDecode at h
      dsimp only at h
      rcases row_coded k with ⟨h0, _⟩ | ⟨h1, _⟩ | ⟨_, _, hlen, _⟩
      · rw [if_pos h0] at h; cases h
      · rw [if_neg (by omega), if_pos h1] at h
        have := (row_one k).mp h1
        obtain ⟨rfl, rfl⟩ := Dec.rune.inj h
        rw [encN, if_pos (by omega)]
        exact ⟨.inl (by omega), rfl, bs, rfl⟩
      rw [if_neg (by omega), if_neg (by omega)] at h
      obtain ⟨b1, bs1, rfl, hb1, h⟩ := cont_rune h
      split at h
      next h2 =>
        obtain ⟨hr, rfl⟩ := Dec.rune.inj h
        obtain ⟨r1, r2, rfl, rfl⟩ := (utf8_two _ _ r).mp ⟨(row_two k b1).mp ⟨h2, hb1⟩, hr.symm⟩
        rw [encN, if_neg (by omega), if_pos r2]
        exact ⟨.inl (by omega), rfl, bs1, rfl⟩
      next h2 =>
      obtain ⟨b2, bs2, rfl, hb2, h⟩ := cont_rune h
      split at h
      next h3 =>
        obtain ⟨hr, rfl⟩ := Dec.rune.inj h
        obtain ⟨r1, r2, r3, rfl, rfl, rfl⟩ := (utf8_three _ _ _ r).mp ⟨(row_three k b1).mp ⟨h3, hb1⟩, hb2, hr.symm⟩
        rw [encN, if_neg (by omega), if_neg (by omega), if_pos r2]
        exact ⟨by unfold Nat.isValidChar; omega, rfl, bs2, rfl⟩
      next h3 =>
      obtain ⟨b3, bs3, rfl, hb3, h⟩ := cont_rune h
      obtain ⟨hr, rfl⟩ := Dec.rune.inj h
      have h4 := (hlen.resolve_left h2).resolve_left h3
      obtain ⟨r1, r2, rfl, rfl, rfl, rfl⟩ := (utf8_four _ _ _ _ r).mp ⟨(row_four k b1).mp ⟨h4, hb1⟩, hb2, hb3, hr.symm⟩
      rw [encN, if_neg (by omega), if_neg (by omega), if_neg (by omega)]
      exact ⟨.inr ⟨by omega, r2⟩, rfl, bs3, rfl⟩
  · -- by the length of `encN r`: its entries are in the ranges of the table and carry `r`
    rintro ⟨hv, rfl, rest, rfl⟩
    unfold Nat.isValidChar at hv
    fun_cases encN r
    next h1 =>
      simp only [List.cons_append, List.nil_append, refDecode, (row_one r).mpr (by omega), List.length_singleton,
        Nat.succ_ne_self, if_false, if_true]
    next h1 h2 =>
      obtain ⟨hrow, hr⟩ := (utf8_two _ _ r).mpr ⟨by omega, h2, rfl, rfl⟩
      obtain ⟨hlen, hb1⟩ := (row_two _ _).mpr hrow
      simp only [List.cons_append, List.nil_append, refDecode, hlen, Nat.reduceEqDiff, if_false]
      rw [refTail, cont_cons hb1, if_pos rfl, ← hr]; rfl
    next h1 h2 h3 =>
      obtain ⟨hrow, hb2, hr⟩ := (utf8_three _ _ _ r).mpr ⟨by omega, h3, by omega, rfl, rfl, rfl⟩
      obtain ⟨hlen, hb1⟩ := (row_three _ _).mpr hrow
      simp only [List.cons_append, List.nil_append, refDecode, hlen, Nat.reduceEqDiff, if_false]
      rw [refTail, cont_cons hb1, if_neg (by decide), cont_cons hb2, if_pos rfl, ← hr]; rfl
    next h1 h2 h3 =>
      obtain ⟨hrow, hb2, hb3, hr⟩ := (utf8_four _ _ _ _ r).mpr ⟨by omega, by omega, rfl, rfl, rfl, rfl⟩
      obtain ⟨hlen, hb1⟩ := (row_four _ _).mpr hrow
      simp only [List.cons_append, List.nil_append, refDecode, hlen, Nat.reduceEqDiff, if_false]
      rw [refTail, cont_cons hb1, if_neg (by decide), cont_cons hb2, if_neg (by decide), cont_cons hb3, ← hr]; rfl

theorem toNat_charOfNat (n : Nat) (h : n.isValidChar) : (Char.ofNat n).val.toNat = n := by
  simp [Char.ofNat, h, Char.ofNatAux]

theorem decodeRune_eq_rune_iff (bs : List UInt8) (r k : Nat) :
    decodeRune bs = .rune r k ↔
      ∃ (c : Char) (rest : List UInt8), bs = String.utf8EncodeChar c ++ rest ∧ r = c.toNat ∧ k = c.utf8Size := by
  rw [decodeRune_eq_refDecode, refDecode_rune_iff]
  constructor
  · rintro ⟨hv, rfl, rest, h⟩
    obtain ⟨c, rfl⟩ : ∃ c : Char, c.toNat = r := ⟨Char.ofNat r, toNat_charOfNat r hv⟩
    rw [← toNat_encode, List.map_eq_append_iff] at h
    obtain ⟨l₁, l₂, rfl, h₁, -⟩ := h
    rw [List.map_inj_right fun _ _ => UInt8.toNat_inj.mp] at h₁
    exact ⟨c, l₂, by rw [h₁], rfl, by rw [← String.length_utf8EncodeChar, ← toNat_encode, List.length_map]⟩
  · rintro ⟨c, rest, rfl, rfl, rfl⟩
    exact ⟨c.valid, by rw [← String.length_utf8EncodeChar, ← toNat_encode, List.length_map], rest.map UInt8.toNat,
      by rw [List.map_append, toNat_encode]⟩

theorem decodeRune_encode (c : Char) (rest : List UInt8) :
    decodeRune (String.utf8EncodeChar c ++ rest) = .rune c.toNat c.utf8Size :=
  (decodeRune_eq_rune_iff _ _ _).mpr ⟨c, rest, rfl, rfl, rfl⟩

theorem ne_nil_of_invalid {tail : List UInt8} {k : Nat} (h : decodeRune tail = .invalid k) : tail ≠ [] :=
  fun ht => by rw [ht] at h; cases h

theorem encode_append (a b : List Char) : Spec.encode (a ++ b) = Spec.encode a ++ Spec.encode b := by
  simp [Spec.encode]

theorem encode_singleton (c : Char) : Spec.encode [c] = String.utf8EncodeChar c := by simp [Spec.encode]

theorem encode_cons (c : Char) (cs : List Char) : Spec.encode (c :: cs) = String.utf8EncodeChar c ++ Spec.encode cs := by
  simp [Spec.encode]

theorem encode_eq_nil_iff (cs : List Char) : Spec.encode cs = [] ↔ cs = [] := by
  constructor
  · intro h
    cases cs with
    | nil => rfl
    | cons c cs =>
      have := congrArg List.length h
      rw [encode_cons, List.length_append, String.length_utf8EncodeChar, List.length_nil] at this
      have := c.utf8Size_pos
      omega
  · intro h; subst h; rfl

theorem encodeChar_cases (c : Char) :
    (c.val.toNat < 128 ∧ String.utf8EncodeChar c = [UInt8.ofNat c.val.toNat]) ∨
    (¬ c.val.toNat < 128 ∧ ∀ b ∈ String.utf8EncodeChar c, 128 ≤ b.toNat) := by
  by_cases h : c.val.toNat < 128
  · exact .inl ⟨h, by simp only [String.utf8EncodeChar, if_pos (Nat.le_of_lt_succ h)]⟩
  · refine .inr ⟨h, fun b hb => ?_⟩
    have hm := List.mem_map_of_mem (f := UInt8.toNat) hb
    rw [toNat_encode, encN, if_neg (show ¬ c.toNat ≤ 127 from fun h' => h (Nat.lt_succ_of_le h'))] at hm
    -- every entry of the three longer forms is a marker from 128 on plus a payload
    split at hm
    · simp only [List.mem_cons, List.not_mem_nil, or_false] at hm; omega
    split at hm <;> (simp only [List.mem_cons, List.not_mem_nil, or_false] at hm; omega)

theorem toNat_ofNat_lt (x : Nat) (h : x < 256) : (UInt8.ofNat x).toNat = x := by
  simp [UInt8.toNat_ofNat', Nat.mod_eq_of_lt h]

theorem encodeChar_ne_zero (c : Char) (hc : c.val.toNat ≠ 0) : ∀ b ∈ String.utf8EncodeChar c, b ≠ 0 := by
  intro b hb h0
  subst h0
  rcases encodeChar_cases c with ⟨hlt, he⟩ | ⟨_, hge⟩
  · rw [he, List.mem_singleton] at hb
    have := congrArg UInt8.toNat hb
    rw [toNat_ofNat_lt _ (by omega)] at this
    exact hc this.symm
  · exact absurd (hge 0 hb) (by decide)

end AlgoVerif.C19
