import AlgoVerif.Proofs.C05FibOrder
/-!
# `consolidate` of the indexed Fibonacci heap Model returns, stays inside its `roots` table, keeps the forest
(`CI`), and ends with every root entered in the table (`Scan`), so that it turns `Mid` into `InvS`
-/
namespace AlgoVerif.C05
open AlgoVerif.C05.Hole

namespace IFib
variable {K V : Type} {cmp : K → K → Int}

theorem dropWhile_split {α : Type} (p : α → Bool) (A : List α) (x : α) (B : List α)
    (hA : ∀ a, a ∈ A → p a = true) (hx : p x = false) : (A ++ x :: B).dropWhile p = x :: B := by
  rw [List.dropWhile_append_of_pos hA, List.dropWhile_cons_of_neg (by simp [hx])]

theorem takeWhile_split {α : Type} (p : α → Bool) (A : List α) (x : α) (B : List α)
    (hA : ∀ a, a ∈ A → p a = true) (hx : p x = false) : (A ++ x :: B).takeWhile p = A := by
  rw [List.takeWhile_append_of_pos hA, List.takeWhile_cons_of_neg (by simp [hx]), List.append_nil]

theorem nodup_topIds : ∀ (l : List FN), (rootsIds l).Nodup → (topIds l).Nodup
  | [], _ => by simp [topIds]
  | r :: rs, h => by
    rw [rootsIds_cons] at h
    have hs := List.nodup_append.mp h
    simp only [topIds, List.map_cons, List.nodup_cons]
    refine ⟨?_, nodup_topIds rs hs.2.1⟩
    intro hmem
    exact hs.2.2 r.id (by simp [FN.ids]) r.id (topIds_sub rs r.id hmem) rfl

theorem findRoot_of_mem : ∀ (l : List FN), (topIds l).Nodup → ∀ f, f ∈ l → findRoot f.id l = some f
  | [], _, f, hf => by cases hf
  | r :: rs, hnd, f, hf => by
    simp only [topIds, List.map_cons, List.nodup_cons] at hnd
    simp only [findRoot]
    rcases List.mem_cons.mp hf with rfl | hf
    · rw [if_pos rfl]
    · have : r.id ≠ f.id := by
        intro e; apply hnd.1; rw [e]; exact List.mem_map.mpr ⟨f, hf, rfl⟩
      rw [if_neg this]
      exact findRoot_of_mem rs hnd.2 f hf

theorem nextOf_split (l A B : List FN) (xn : FN) (hl : l = A ++ xn :: B) (hA : ∀ a, a ∈ A → a.id ≠ xn.id) :
    nextOf xn.id l = ((B ++ (A ++ [xn])).head?).map (·.id) := by
  unfold nextOf
  rw [hl, dropWhile_split _ A xn B (fun a ha => by simpa using hA a ha) (by simp)]
  cases B with
  | nil => cases A <;> simp
  | cons b B' => simp

theorem nextOf_rot {roots P Q W R : List FN} {cn : FN} (hnd : (topIds roots).Nodup) (hr : roots = P ++ Q)
    (hrot : Q ++ P = W ++ cn :: R) :
    nextOf cn.id roots = ((R ++ (W ++ [cn])).head?).map (·.id) := by
  have hne : ∀ (A B : List FN), roots = A ++ cn :: B → ∀ a, a ∈ A → a.id ≠ cn.id := by
    intro A B hl a ha e
    rw [hl] at hnd
    simp only [topIds, List.map_append, List.map_cons] at hnd
    have := (List.nodup_append.mp hnd).2.2 a.id (List.mem_map.mpr ⟨a, ha, rfl⟩) cn.id List.mem_cons_self
    exact this e
  rcases List.append_eq_append_iff.mp hrot with ⟨a', hV, hP⟩ | ⟨c', hQ, hc⟩
  ·
    have hl : roots = a' ++ cn :: (R ++ Q) := by rw [hr, hP]; simp
    rw [nextOf_split roots a' (R ++ Q) cn hl (hne _ _ hl), hV]
    simp
  · cases c' with
    | nil =>
      have hP : P = cn :: R := by simpa using hc.symm
      have hQ' : Q = W := by simpa using hQ
      have hl : roots = [] ++ cn :: (R ++ W) := by rw [hr, hP, hQ']; simp
      rw [nextOf_split roots [] (R ++ W) cn hl (hne _ _ hl)]
      simp
    | cons c0 c'' =>
      have h1 : cn = c0 ∧ R = c'' ++ P := by simpa using hc
      obtain ⟨rfl, hR⟩ := h1
      have hl : roots = (P ++ W) ++ cn :: c'' := by rw [hr, hQ]; simp
      rw [nextOf_split roots (P ++ W) c'' cn hl (hne _ _ hl), hR]
      simp

theorem rotateTo_spec (l : List FN) (x : Nat) (hx : x ∈ topIds l) :
    ∃ l', rotateTo x l = some l' ∧ l'.Perm l ∧ ∃ e, l'.head? = some e ∧ e.id = x := by
  obtain ⟨xn, hxn⟩ := (findRoot_some_iff l x).mpr hx
  obtain ⟨A, B, hl, hA, hid⟩ := findRoot_split l x xn hxn
  have hd : l.dropWhile (fun r => r.id != x) = xn :: B := by
    rw [hl]; exact dropWhile_split _ A xn B (fun a ha => by simpa using hA a ha) (by simp [hid])
  have ht : l.takeWhile (fun r => r.id != x) = A := by
    rw [hl]; exact takeWhile_split _ A xn B (fun a ha => by simpa using hA a ha) (by simp [hid])
  refine ⟨xn :: B ++ A, ?_, ?_, xn, rfl, hid⟩
  · unfold rotateTo; rw [hd, ht]
  · rw [hl]; exact List.perm_append_comm

theorem rotateTo_none (l : List FN) (x : Nat) (hx : x ∉ topIds l) : rotateTo x l = none := by
  have : l.dropWhile (fun r => r.id != x) = [] := by
    rw [← List.append_nil l, List.dropWhile_append_of_pos]
    · rfl
    · intro r hr
      simp only [bne_iff_ne, ne_eq]
      exact fun e => hx (List.mem_map.mpr ⟨r, hr, e⟩)
  unfold rotateTo; rw [this]

theorem ids_length_le : ∀ (l : List FN) (f : FN), f ∈ l → (FN.ids f).length ≤ (rootsIds l).length
  | [], _, h => by cases h
  | r :: rs, f, h => by
    rw [rootsIds_cons, List.length_append]
    rcases List.mem_cons.mp h with rfl | h
    · omega
    · have := ids_length_le rs f h; omega

theorem length_eraseRoot (l : List FN) (x : Nat) (xn : FN) (h : findRoot x l = some xn) :
    (eraseRoot x l).length + 1 = l.length := by
  have hm := findRoot_mem l x xn h
  have := List.length_pos_of_mem hm
  rw [eraseRoot_eq_eraseP, List.length_eraseP_of_mem hm (by simp [findRoot_id l x xn h])]
  omega

theorem findRoot_linked (ch yn : FN) (A B : List FN) {z : Nat} (hne : z ≠ yn.id) :
    findRoot z (A ++ linked ch yn :: B) = findRoot z (A ++ yn :: B) := by
  have h1 : ¬ (linked ch yn).id = z := fun e => hne e.symm
  have h2 : ¬ yn.id = z := fun e => hne e.symm
  simp [findRoot_eq_find?, List.find?_append, h1, h2]

theorem findRoot_functional {l : List FN} {x : Nat} {a b : FN} (ha : findRoot x l = some a)
    (hb : findRoot x l = some b) : a = b := by rw [ha] at hb; exact Option.some.inj hb

/-- what holds of `(root list, table)` throughout `consolidate`; `S` = the ids of the heap, `T` = table size.  `tv`: an
entry `tbl[d] = y` names a root of the present list, of degree `d` — so the root that `consInner` finds in the slot of
`x.degree` can be linked with `x` (same degree, `linked_ok`); after a link neither of the two is a root of that degree
any more (one has left the list, the other has one more child), and the slot is cleared (`link_ci`). -/
structure CI (cmp : K → K → Int) (h : IFib K V) (S : List Nat) (T : Nat) (roots : List FN)
    (tbl : Array (Option Nat)) : Prop extends Trees cmp (kf h) S roots where
  tsize : tbl.size = T
  tv : ∀ (d y : Nat), tbl[d]? = some (some y) → ∃ yn, findRoot y roots = some yn ∧ yn.degree = ((d : Nat) : Int)

section
variable {h : IFib K V} {S : List Nat} {T : Nat}

theorem CI.deg_lt (hT : ∀ d, C04.fibn (d + 2) ≤ S.length → d < T) {roots : List FN} {tbl : Array (Option Nat)}
    (ci : CI cmp h S T roots tbl) {f : FN} (hf : f ∈ roots) : 0 ≤ f.degree ∧ f.degree.toNat < T := by
  have hok := ci.ok f hf
  have h1 := FN.OK.size_bound hok
  have h2 := ids_length_le roots f hf
  have h3 := ci.perm.length_eq
  have : f.degree.toNat = f.child.len := by rw [hok.1]; simp
  refine ⟨by rw [hok.1]; omega, ?_⟩
  rw [this]
  exact hT _ (by omega)

/-- `lo` (the root that compares after) becomes the newest child of `su` -/
theorem link_ci {roots : List FN} {tbl : Array (Option Nat)} (ci : CI cmp h S T roots tbl)
    {lo su : Nat} {lon sun : FN} (hlo : findRoot lo roots = some lon) (hsu : findRoot su roots = some sun)
    (hne : lo ≠ su) (hdeg : lon.degree = sun.degree) (hd0 : 0 ≤ sun.degree)
    (hle : LawfulCmp cmp → LeP cmp (kf h) su lo) :
    CI cmp h S T (linkUnder lon su (eraseRoot lo roots)) (tbl.setIfInBounds sun.degree.toNat none) ∧
      (linkUnder lon su (eraseRoot lo roots)).length + 1 = roots.length ∧
      su ∈ topIds (linkUnder lon su (eraseRoot lo roots)) := by
  have hsu' : findRoot su (eraseRoot lo roots) = some sun := findRoot_erase roots lo su sun (fun e => hne e.symm) hsu
  have hloid := findRoot_id _ _ _ hlo
  obtain ⟨A, B, hAB, hA, hid⟩ := findRoot_split _ _ _ hsu'
  have hlink : linkUnder lon su (eraseRoot lo roots) = A ++ linked lon sun :: B := by
    rw [hAB]; exact linkUnder_append lon hid B A hA
  have hold : ∀ f, f ∈ A ++ linked lon sun :: B → f = linked lon sun ∨ f ∈ roots := by
    intro f hf
    have hsub : ∀ g, g ∈ A ++ sun :: B → g ∈ roots := fun g hg => eraseRoot_sub _ _ _ (hAB ▸ hg)
    rcases List.mem_append.mp hf with hf | hf
    · exact Or.inr (hsub f (List.mem_append_left _ hf))
    · rcases List.mem_cons.mp hf with rfl | hf
      · exact Or.inl rfl
      · exact Or.inr (hsub f (List.mem_append_right _ (List.mem_cons_of_mem _ hf)))
  refine ⟨⟨⟨?_, ?_, ?_⟩, by simp [ci.tsize], ?_⟩, ?_, ?_⟩
  · exact (link_step_perm hlo hsu (fun e => hne e.symm)).trans ci.perm
  · rw [hlink]
    intro f hf
    rcases hold f hf with rfl | hf
    · exact linked_ok (ci.ok lon (findRoot_mem _ _ _ hlo)) (ci.ok sun (findRoot_mem _ _ _ hsu)) hdeg.symm
    · exact ci.ok f hf
  · rw [hlink]
    intro hc a b hab
    obtain ⟨f, hf, hp⟩ := mem_rootsPairs.mp hab
    rcases hold f hf with rfl | hf
    · rcases linked_pairs hp with ⟨ha, hb⟩ | h1 | h1
      · rw [ha, hb, hid, hloid]; exact hle hc
      · exact ci.ho hc a b (findRoot_pairs hlo _ h1)
      · exact ci.ho hc a b (findRoot_pairs hsu _ h1)
    · exact ci.ho hc a b (mem_rootsPairs.mpr ⟨f, hf, hp⟩)
  · intro d y hy
    rw [Array.getElem?_setIfInBounds] at hy
    split at hy
    · split at hy <;> cases hy
    · rename_i hdne
      obtain ⟨yn, hyn, hyd⟩ := ci.tv d y hy
      have hylo : y ≠ lo := by
        intro e; subst e
        have := findRoot_functional hyn hlo
        subst this
        apply hdne; omega
      have hysu : y ≠ su := by
        intro e; subst e
        have := findRoot_functional hyn hsu
        subst this
        apply hdne; omega
      refine ⟨yn, ?_, hyd⟩
      rw [hlink, findRoot_linked _ _ _ _ (hid ▸ hysu), ← hAB]
      exact findRoot_erase roots lo y yn hylo hyn
  · have := length_eraseRoot _ _ _ hlo
    rw [hAB] at this
    rw [hlink]
    simpa using this
  · rw [hlink]
    simp [topIds, linked, hid]

theorem CI.top_mem {roots : List FN} {tbl : Array (Option Nat)} (ci : CI cmp h S T roots tbl) {x : Nat}
    (hx : x ∈ topIds roots) : x ∈ S := ci.perm.mem_iff.mp (topIds_sub roots x hx)

theorem consInner_spec (rd : Readable h.cells S) (hT : ∀ d, C04.fibn (d + 2) ≤ S.length → d < T) :
    ∀ (fuel : Nat) (roots : List FN) (tbl : Array (Option Nat)) (x : Nat) (linked : Bool),
    CI cmp h S T roots tbl → x ∈ topIds roots → roots.length < fuel →
    ∃ roots' tbl' x' lk xn', consInner cmp h fuel roots tbl x linked = .ok (roots', tbl', x', lk) ∧
      CI cmp h S T roots' tbl' ∧ findRoot x' roots' = some xn' ∧
      (tbl'[xn'.degree.toNat]? = some none ∨ tbl'[xn'.degree.toNat]? = some (some x')) ∧
      ((lk = linked ∧ roots' = roots ∧ tbl' = tbl ∧ x' = x) ∨ (lk = true ∧ roots'.length < roots.length))
  | 0, _, _, _, _, _, _, hf => by omega
  | fuel + 1, roots, tbl, x, linked, ci, hx, hf => by
    obtain ⟨xn, hxn⟩ := (findRoot_some_iff roots x).mpr hx
    obtain ⟨hd0, hdT⟩ := ci.deg_lt hT (findRoot_mem _ _ _ hxn)
    simp only [consInner, hxn]
    rw [if_neg (by omega)]
    have hin : xn.degree.toNat < tbl.size := by rw [ci.tsize]; exact hdT
    rw [Array.getElem?_eq_getElem hin]
    cases hy : tbl[xn.degree.toNat] with
    | none =>
      simp only []
      exact ⟨roots, tbl, x, linked, xn, rfl, ci, hxn, Or.inl (by rw [Array.getElem?_eq_getElem hin, hy]),
        Or.inl ⟨rfl, rfl, rfl, rfl⟩⟩
    | some y =>
      simp only []
      have hy' : tbl[xn.degree.toNat]? = some (some y) := by rw [Array.getElem?_eq_getElem hin, hy]
      by_cases hyx : y = x
      · rw [if_pos hyx]
        exact ⟨roots, tbl, x, linked, xn, rfl, ci, hxn, Or.inr (by rw [hy', hyx]), Or.inl ⟨rfl, rfl, rfl, rfl⟩⟩
      · rw [if_neg hyx]
        obtain ⟨yn, hyn, hyd⟩ := ci.tv _ _ hy'
        have hydeg : yn.degree = xn.degree := by rw [hyd]; omega
        simp only [hyn]
        have hytop : y ∈ topIds roots := (findRoot_some_iff roots y).mp ⟨yn, hyn⟩
        obtain ⟨kx, hkx⟩ := kf_some rd (ci.top_mem hx)
        obtain ⟨ky, hky⟩ := kf_some rd (ci.top_mem hytop)
        rw [keyOf_of_kf hkx, keyOf_of_kf hky]
        simp only []
        by_cases hgt : 0 < cmp kx ky
        · rw [if_pos hgt]
          obtain ⟨ci1, hlen, hy1⟩ := link_ci ci hxn hyn (fun e => hyx e.symm) hydeg.symm (by omega)
            (fun hc => ⟨ky, kx, hky, hkx, hc.anti _ _ (by omega)⟩)
          rw [hydeg] at ci1
          obtain ⟨r', t', x', lk, xn', he, ci', hf', ht', hor⟩ :=
            consInner_spec rd hT fuel _ _ y true ci1 hy1 (by omega)
          refine ⟨r', t', x', lk, xn', he, ci', hf', ht', Or.inr ?_⟩
          rcases hor with ⟨h1, h2, _, _⟩ | ⟨h1, h2⟩
          · exact ⟨h1, by rw [h2]; omega⟩
          · exact ⟨h1, by omega⟩
        · rw [if_neg hgt]
          obtain ⟨ci1, hlen, hx1⟩ := link_ci ci hyn hxn hyx hydeg hd0 (fun _ => ⟨kx, ky, hkx, hky, by omega⟩)
          obtain ⟨r', t', x', lk, xn', he, ci', hf', ht', hor⟩ :=
            consInner_spec rd hT fuel _ _ x true ci1 hx1 (by omega)
          refine ⟨r', t', x', lk, xn', he, ci', hf', ht', Or.inr ?_⟩
          rcases hor with ⟨h1, h2, _, _⟩ | ⟨h1, h2⟩
          · exact ⟨h1, by rw [h2]; omega⟩
          · exact ⟨h1, by omega⟩

/-- the measure `len * (len + 1) + R.length` of `consOuter_spec` after a link: the list is one shorter (`a + 1 ≤ b`) and the
scan starts afresh with at most `a` roots ahead -/
theorem mul_step {a b : Nat} (h : a + 1 ≤ b) : a * (a + 1) + a + 1 ≤ b * (b + 1) := by
  have h1 : (a + 1) * (a + 2) ≤ b * (b + 1) := Nat.mul_le_mul h (by omega)
  have h2 : (a + 1) * (a + 2) = a * (a + 1) + a + a + 2 := by
    simp only [Nat.add_mul, Nat.mul_add, Nat.mul_one, Nat.one_mul]; omega
  omega

/-- `roots[x.degree] = x` -/
theorem ci_record {roots : List FN} {tbl : Array (Option Nat)} (ci : CI cmp h S T roots tbl) {x : Nat} {xn : FN}
    (hx : findRoot x roots = some xn) (hd0 : 0 ≤ xn.degree) :
    CI cmp h S T roots (tbl.setIfInBounds xn.degree.toNat (some x)) := by
  refine ⟨ci.toTrees, by simp [ci.tsize], ?_⟩
  intro d y hy
  rw [Array.getElem?_setIfInBounds] at hy
  split at hy
  · rename_i hd
    split at hy
    · cases hy; exact ⟨xn, hx, by omega⟩
    · cases hy
  · exact ci.tv d y hy

theorem head_ne {W R' : List FN} {cn r1 : FN} {stop : Nat}
    (hnd : (topIds (W ++ cn :: r1 :: R')).Nodup) (hhead : (W ++ [cn]).head?.map (·.id) = some stop) :
    r1.id ≠ stop := by
  intro e
  cases W with
  | nil =>
    simp only [List.nil_append, List.head?_cons, Option.map_some, Option.some.injEq] at hhead
    simp only [topIds, List.nil_append, List.map_cons, List.nodup_cons, List.mem_cons] at hnd
    exact hnd.1 (Or.inl (by rw [hhead, e]))
  | cons v0 W' =>
    simp only [List.cons_append, List.head?_cons, Option.map_some, Option.some.injEq] at hhead
    simp only [topIds, List.cons_append, List.map_cons, List.map_append, List.nodup_cons, List.mem_append,
      List.mem_cons] at hnd
    exact hnd.1 (Or.inr (Or.inr (Or.inl (by rw [hhead, e]))))

/-- the scan of `consolidate` over the circular root list: read from `stop` it is `W ++ cn :: R`, where `cn` is the root
under inspection and the roots `W` already passed are entered in the table -/
structure Scan (roots : List FN) (tbl : Array (Option Nat)) (stop : Nat) (W : List FN) (cn : FN) (R : List FN) : Prop where
  rot : ∃ P Q, roots = P ++ Q ∧ Q ++ P = W ++ cn :: R
  head : (W ++ [cn]).head?.map (·.id) = some stop
  seen : ∀ v, v ∈ W → tbl[v.degree.toNat]? = some (some v.id)

/-- the outer loop from a scan position.  Its fuel: a round without a link shortens the rest `R` of the scan by one; a round
with links shortens the root list and restarts the scan (`R` at most the new length), hence the measure
`len * (len + 1) + R.length` (`mul_step`), which the Model's `(len + 1)² + 1` bounds at the start. -/
theorem consOuter_spec (hS : S.Nodup) (rd : Readable h.cells S)
    (hT : ∀ d, C04.fibn (d + 2) ≤ S.length → d < T) :
    ∀ (fuel : Nat) (roots : List FN) (tbl : Array (Option Nat)) (stop : Nat) (W R : List FN) (cn : FN),
    CI cmp h S T roots tbl → Scan roots tbl stop W cn R →
    roots.length * (roots.length + 1) + R.length < fuel →
    ∃ roots' tbl', consOuter cmp h fuel roots tbl stop cn.id = .ok (roots', tbl') ∧ CI cmp h S T roots' tbl' ∧
      roots' ≠ [] ∧ ∀ f, f ∈ roots' → tbl'[f.degree.toNat]? = some (some f.id)
  | 0, _, _, _, _, _, _, _, _, hf => by omega
  | fuel + 1, roots, tbl, stop, W, R, cn, ci, sc, hf => by
    have hcnmem : cn ∈ roots := by
      obtain ⟨P, Q, hr, hrot⟩ := sc.rot
      have : cn ∈ Q ++ P := by rw [hrot]; simp
      rw [hr]; exact List.mem_append.mpr ((List.mem_append.mp this).symm)
    obtain ⟨r', t', x', lk, xn', he, ci', hf', ht', hor⟩ :=
      consInner_spec rd hT (roots.length + 1) roots tbl cn.id false ci
        (List.mem_map.mpr ⟨cn, hcnmem, rfl⟩) (by omega)
    simp only [consOuter, he]
    obtain ⟨hd0, hdT⟩ := ci'.deg_lt hT (findRoot_mem _ _ _ hf')
    simp only [hf']
    rw [if_neg (by rw [ci'.tsize]; omega)]
    have ci2 := ci_record ci' hf' hd0
    have hid := findRoot_id _ _ _ hf'
    have hnd' : (topIds r').Nodup := nodup_topIds _ (ci'.perm.nodup_iff.mpr hS)
    -- with or without links, the scan stands at `x'`: after a link it starts afresh there
    obtain ⟨W', R', sc', hm⟩ : ∃ W' R', Scan r' t' (if lk = true then x' else stop) W' xn' R' ∧
        r'.length * (r'.length + 1) + R'.length ≤ fuel := by
      rcases hor with ⟨hlk, hr', ht'', hx'⟩ | ⟨hlk, hlen⟩
      · subst hlk hr' ht''
        have : xn' = cn := findRoot_functional hf' (hx' ▸ findRoot_of_mem r' hnd' cn hcnmem)
        subst this
        exact ⟨W, R, sc, by omega⟩
      · subst hlk
        obtain ⟨A, B, hl, _, _⟩ := findRoot_split _ _ _ hf'
        refine ⟨[], B ++ A, ⟨⟨A, xn' :: B, hl, by simp⟩, by simp [hid], fun v hv => by cases hv⟩, ?_⟩
        have hlenR : (B ++ A).length + 1 = r'.length := by rw [hl]; simp; omega
        have := mul_step (a := r'.length) (b := roots.length) (by omega)
        omega
    obtain ⟨P', Q', hr', hrot'⟩ := sc'.rot
    have hndrot : (topIds (W' ++ xn' :: R')).Nodup := by
      rw [← hrot']; exact (List.Perm.map _ (by rw [hr']; exact List.perm_append_comm)).nodup_iff.mpr hnd'
    have hsame : (if lk = true then x' else cn.id) = x' := by
      rcases hor with ⟨hlk, _, _, hx'⟩ | ⟨hlk, _⟩
      · rw [hx']; split <;> rfl
      · rw [if_pos hlk]
    rw [hsame, ← hid, nextOf_rot hnd' hr' hrot', hid]
    -- entries recorded for W' are not overwritten
    have hin : xn'.degree.toNat < t'.size := by rw [ci'.tsize]; exact hdT
    have hrec2 : ∀ v, v ∈ W' ++ [xn'] →
        (t'.setIfInBounds xn'.degree.toNat (some x'))[v.degree.toNat]? = some (some v.id) := by
      intro v hv
      rcases List.mem_append.mp hv with hv | hv
      · rw [Array.getElem?_setIfInBounds]
        have hne : xn'.degree.toNat ≠ v.degree.toNat := by
          intro e
          have h1 := sc'.seen v hv
          rw [← e] at h1
          have hvid : v.id ≠ xn'.id := by
            intro e2
            simp only [topIds, List.map_append, List.map_cons] at hndrot
            exact (List.nodup_append.mp hndrot).2.2 v.id (List.mem_map.mpr ⟨v, hv, rfl⟩) xn'.id
              List.mem_cons_self e2
          rcases ht' with h2 | h2
          · rw [h1] at h2; cases h2
          · rw [h1] at h2
            exact hvid ((Option.some.inj (Option.some.inj h2)).trans hid.symm)
        rw [if_neg hne]; exact sc'.seen v hv
      · simp only [List.mem_singleton] at hv
        subst hv
        rw [Array.getElem?_setIfInBounds, if_pos rfl, if_pos hin, hid]
    cases R' with
    | nil =>
      simp only [List.nil_append, sc'.head, if_true]
      refine ⟨_, _, rfl, ci2, fun e => (by rw [e] at hf'; cases hf'), fun f hf => hrec2 f ?_⟩
      have : f ∈ Q' ++ P' := by rw [hr'] at hf; exact List.mem_append.mpr ((List.mem_append.mp hf).symm)
      rw [hrot'] at this
      simpa using this
    | cons r1 R'' =>
      simp only [List.cons_append, List.head?_cons, Option.map_some]
      rw [if_neg (head_ne hndrot sc'.head)]
      refine consOuter_spec hS rd hT fuel r' _ _ (W' ++ [xn']) R'' r1 ci2
        ⟨⟨P', Q', hr', by rw [hrot']; simp⟩, ?_, hrec2⟩ (by simp only [List.length_cons] at hm; omega)
      rw [← sc'.head]
      cases W' <;> simp

theorem pickLoop_spec (rd : Readable h.cells S) : ∀ (l : List (Option Nat)) (e : Nat), e ∈ S →
    (∀ r, some r ∈ l → r ∈ S) →
    ∃ x, pickLoop cmp h e l = .ok x ∧ (x = e ∨ some x ∈ l) ∧
      (LawfulCmp cmp → LeP cmp (kf h) x e ∧ ∀ r, some r ∈ l → LeP cmp (kf h) x r)
  | [], e, he, _ => by
    obtain ⟨k, hk⟩ := kf_some rd he
    exact ⟨e, rfl, Or.inl rfl, fun hc => ⟨LeP.refl hc hk, fun r hr => by cases hr⟩⟩
  | none :: rest, e, he, hl => by
    obtain ⟨x, h1, h2, h3⟩ := pickLoop_spec rd rest e he (fun r hr => hl r (List.mem_cons_of_mem _ hr))
    exact ⟨x, by simpa only [pickLoop] using h1, h2.imp_right (List.mem_cons_of_mem _),
      fun hc => ⟨(h3 hc).1, fun r hr => (h3 hc).2 r (by simpa using hr)⟩⟩
  | some r0 :: rest, e, he, hl => by
    have hr0 : r0 ∈ S := hl r0 List.mem_cons_self
    have hl' : ∀ r, some r ∈ rest → r ∈ S := fun r hr => hl r (List.mem_cons_of_mem _ hr)
    obtain ⟨ke, hke⟩ := kf_some rd he
    obtain ⟨kr, hkr⟩ := kf_some rd hr0
    simp only [pickLoop, keyOf_of_kf hke, keyOf_of_kf hkr]
    by_cases hle : cmp ke kr ≤ 0
    · rw [if_pos hle]
      obtain ⟨x, h1, h2, h34⟩ := pickLoop_spec rd rest e he hl'
      refine ⟨x, h1, h2.imp_right (List.mem_cons_of_mem _), fun hc => ⟨(h34 hc).1, fun r hr => ?_⟩⟩
      rcases List.mem_cons.mp hr with hr | hr
      · cases hr
        exact leP_trans hc _ _ _ (h34 hc).1 ⟨ke, kr, hke, hkr, hle⟩
      · exact (h34 hc).2 r hr
    · rw [if_neg hle]
      obtain ⟨x, h1, h2, h34⟩ := pickLoop_spec rd rest r0 hr0 hl'
      refine ⟨x, h1, Or.inr ?_, fun hc =>
        ⟨leP_trans hc _ _ _ (h34 hc).1 ⟨kr, ke, hkr, hke, hc.anti _ _ (by omega)⟩, fun r hr => ?_⟩⟩
      · rcases h2 with rfl | h2
        · exact List.mem_cons_self
        · exact List.mem_cons_of_mem _ h2
      · rcases List.mem_cons.mp hr with hr | hr
        · cases hr; exact (h34 hc).1
        · exact (h34 hc).2 r hr

theorem mem_toList_iff (tbl : Array (Option Nat)) (r : Nat) :
    some r ∈ tbl.toList ↔ ∃ d : Nat, tbl[d]? = some (some r) := by
  rw [List.mem_iff_getElem?]
  simp

end

theorem consolidate_spec {cap : Nat} {h : IFib K V} (m : Mid cmp cap h) (hne : h.roots ≠ []) :
    ∃ l, consolidate cmp h = .ok { h with roots := l } ∧ InvS cmp cap { h with roots := l } := by
  have rd := m.inv.reg.readable
  cases hroots : h.roots with
  | nil => exact absurd hroots hne
  | cons e rest =>
    have hlen1 : 1 ≤ (rootsIds h.roots).length := by
      rw [hroots, rootsIds_cons, List.length_append]; simp [FN.ids]; omega
    have hmax : fibMaxDegree h.n = .ok (logPhi (rootsIds h.roots).length + 1) := by
      unfold fibMaxDegree; rw [m.nlen, if_neg (by omega)]; simp
    have hT : ∀ d, C04.fibn (d + 2) ≤ (rootsIds h.roots).length → d < logPhi (rootsIds h.roots).length + 1 :=
      fun d hd => degree_lt_maxDegree hd
    have ci0 : CI cmp h (rootsIds h.roots) (logPhi (rootsIds h.roots).length + 1) h.roots
        (Array.replicate (logPhi (rootsIds h.roots).length + 1) none) := by
      refine ⟨m.trees, by simp, ?_⟩
      intro d y hy
      rw [Array.getElem?_replicate] at hy
      split at hy <;> cases hy
    have hfuel : h.roots.length * (h.roots.length + 1) + rest.length <
        (h.roots.length + 1) * (h.roots.length + 1) + 1 := by
      have : rest.length + 1 = h.roots.length := by rw [hroots]; simp
      have e1 : (h.roots.length + 1) * (h.roots.length + 1) = h.roots.length * (h.roots.length + 1) + h.roots.length + 1 := by
        simp only [Nat.add_mul, Nat.mul_add, Nat.mul_one, Nat.one_mul]; omega
      omega
    obtain ⟨roots', tbl', hout, ci', hne', hcomplete⟩ :=
      consOuter_spec m.inv.reg.nodup rd hT _ h.roots _ e.id [] rest e ci0
        ⟨⟨[], h.roots, by simp, by simp [hroots]⟩, by simp, fun v hv => by cases hv⟩ hfuel
    unfold consolidate
    rw [hmax]
    simp only [hroots]
    rw [hroots] at hout
    rw [hout]
    cases hr' : roots' with
    | nil => exact absurd hr' hne'
    | cons e' rest' =>
      simp only []
      have he'top : e'.id ∈ topIds roots' := by rw [hr']; simp [topIds]
      have hvalid : ∀ r, some r ∈ tbl'.toList → r ∈ topIds roots' := by
        intro r hr
        obtain ⟨d, hd⟩ := (mem_toList_iff tbl' r).mp hr
        obtain ⟨yn, hyn, _⟩ := ci'.tv d r hd
        exact (findRoot_some_iff roots' r).mp ⟨yn, hyn⟩
      obtain ⟨x, hpick, hxmem, hxmin⟩ := pickLoop_spec (cmp := cmp) rd tbl'.toList e'.id (ci'.top_mem he'top)
        (fun r hr => ci'.top_mem (hvalid r hr))
      rw [hpick]
      simp only []
      have hxtop : x ∈ topIds roots' := by
        rcases hxmem with rfl | hxmem
        · exact he'top
        · exact hvalid x hxmem
      obtain ⟨roots'', hrot, hperm, e'', hhead, hid⟩ := rotateTo_spec roots' x hxtop
      rw [← hr', hrot]
      refine ⟨_, rfl, m.roots (ci'.toTrees.of_perm hperm), fun hc e0 he0 y hy => ?_⟩
      show LeP cmp (kf h) e0.id y
      rw [show (roots'' : List FN).head? = some e'' from hhead] at he0
      cases he0
      rw [hid]
      have hy' : y ∈ rootsIds roots' := (rootsIds_perm hperm).mem_iff.mp hy
      obtain ⟨ρ, hρ, hle⟩ := ho_root hc (ci'.ho hc)
        (fun z hz => kf_some rd (ci'.perm.mem_iff.mp hz)) y hy'
      obtain ⟨f, hf, hfid⟩ := List.mem_map.mp hρ
      have hin := hcomplete f hf
      have : some ρ ∈ tbl'.toList := (mem_toList_iff tbl' ρ).mpr ⟨_, by rw [← hfid]; exact hin⟩
      exact leP_trans hc _ _ _ ((hxmin hc).2 ρ this) hle

end IFib
end AlgoVerif.C05
