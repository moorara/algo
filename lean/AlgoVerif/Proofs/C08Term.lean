import AlgoVerif.Proofs.C08Ext
/-!
# TERM (`eliminateNonSolitaryTerminals`)
-/
namespace AlgoVerif.C08
open AlgoVerif AlgoVerif.Gram AlgoVerif.C08.Spec

abbrev Store := List (String × String)

theorem lookup_append_some {l l' : Store} {k v : String} (h : l.lookup k = some v) : (l ++ l').lookup k = some v := by
  rw [List.lookup_append, h]; rfl

theorem lookup_append_none {l l' : Store} {k : String} (h : l.lookup k = none) : (l ++ l').lookup k = l'.lookup k := by
  rw [List.lookup_append, h]; rfl

theorem store_lookup_mem {l : Store} {k v : String} (h : l.lookup k = some v) : (k, v) ∈ l :=
  lookup_some_mem h

/-- the replacement TERM applies to a body symbol -/
def replS (store : Store) : SSym → SSym
  | .term t => match store.lookup t with
    | some n => .nonterm n
    | none => .term t
  | .nonterm m => .nonterm m

def AllLooked (store : Store) (b : List SSym) : Prop := ∀ t, Sym.term t ∈ b → ∃ n, store.lookup t = some n

def TermLe (st0 st : TermSt) : Prop :=
  (∀ p ∈ st0.1.prods, p ∈ st.1.prods) ∧ (∀ t n, st0.2.lookup t = some n → st.2.lookup t = some n)

theorem replS_stable {s s' : Store} (hle : ∀ t n, s.lookup t = some n → s'.lookup t = some n)
    {b : List SSym} (hl : AllLooked s b) : b.map (replS s') = b.map (replS s) := by
  apply List.map_congr_left
  intro x hx
  cases x with
  | nonterm m => rfl
  | term t =>
    obtain ⟨n, hn⟩ := hl t hx
    simp [replS, hn, hle t n hn]

theorem AllLooked.mono {s s' : Store} (hle : ∀ t n, s.lookup t = some n → s'.lookup t = some n)
    {b : List SSym} (hl : AllLooked s b) : AllLooked s' b := by
  intro t ht
  obtain ⟨n, hn⟩ := hl t ht
  exact ⟨n, hle t n hn⟩

def TermProd (g : G) (store : Store) (p' : SProd) : Prop :=
  (p' ∈ g.prods ∧ isTerminalProd p' = true) ∨
  (∃ e ∈ store, p' = { head := e.2, body := [Sym.term e.1] }) ∨
  (∃ p ∈ g.prods, isTerminalProd p = false ∧ p' = { head := p.head, body := p.body.map (replS store) } ∧
    AllLooked store p.body)

/-- the invariant of TERM's fold over the productions: `st.1` is the grammar under construction, `st.2` the store of
pairs (terminal, fresh name).  With `WellFormed g` it is a `Folded` (`TermCore.folded`).  `form` and `keys` serve
totality only (`termSymStep_total`: `t ++ "ₙ"` is no stored name, since that name would be stored for `t`). -/
structure TermCore (g : G) (st : TermSt) : Prop where
  terms : st.1.terms = g.terms
  start : st.1.start = g.start
  nonterms : st.1.nonterms = g.nonterms ++ st.2.map (fun e => e.2)
  freshg : ∀ e ∈ st.2, e.2 ∉ g.nonterms
  keyOcc : ∀ e ∈ st.2, ∃ p ∈ g.prods, Sym.term e.1 ∈ p.body
  form : ∀ e ∈ st.2, ∃ s ∈ alphas, e.2 = (alphas.foldl trimSuffix e.1) ++ s
  inj : ∀ e ∈ st.2, ∀ e' ∈ st.2, e.2 = e'.2 → e = e'
  keys : ∀ e ∈ st.2, st.2.lookup e.1 = some e.2
  defs : ∀ e ∈ st.2, ({ head := e.2, body := [Sym.term e.1] } : SProd) ∈ st.1.prods
  prods : ∀ p' ∈ st.1.prods, TermProd g st.2 p'

theorem TermCore.fresh {g : G} {st : TermSt} (h : TermCore g st) :
    ∀ e ∈ st.2, e.2 ∈ st.1.nonterms := by
  intro e he
  rw [h.nonterms]
  exact List.mem_append.mpr (Or.inr (List.mem_map.mpr ⟨e, he, rfl⟩))

theorem TermProd.mono {g : G} {s s' : Store} (hsub : ∀ e ∈ s, e ∈ s')
    (hle : ∀ t n, s.lookup t = some n → s'.lookup t = some n) {p' : SProd} (h : TermProd g s p') : TermProd g s' p' := by
  rcases h with h | ⟨e, he, rfl⟩ | ⟨p, hp, hnt, rfl, hl⟩
  · exact Or.inl h
  · exact Or.inr (Or.inl ⟨e, hsub e he, rfl⟩)
  · refine Or.inr (Or.inr ⟨p, hp, hnt, ?_, hl.mono hle⟩)
    rw [replS_stable hle hl]

theorem TermCore.add_prod {g : G} {st : TermSt} (h : TermCore g st) {p' : SProd} (hp : TermProd g st.2 p') :
    TermCore g ({ st.1 with prods := ins st.1.prods p' }, st.2) := by
  refine ⟨h.terms, h.start, h.nonterms, h.freshg, h.keyOcc, h.form, h.inj, h.keys, ?_, ?_⟩
  · intro e he; exact mem_ins.mpr (Or.inl (h.defs e he))
  · intro q hq
    rcases mem_ins.mp hq with hq | rfl
    · exact h.prods q hq
    · exact hp

theorem TermCore.extend {g : G} {st : TermSt} (h : TermCore g st) {t n : String} {g1 : G}
    (hl : st.2.lookup t = none) (ha : addNew st.1 t alphas = .ok (g1, n))
    (hocc : ∃ p ∈ g.prods, Sym.term t ∈ p.body) :
    TermCore g ({ g1 with prods := ins g1.prods { head := n, body := [Sym.term t] } }, st.2 ++ [(t, n)]) ∧
    TermLe st ({ g1 with prods := ins g1.prods { head := n, body := [Sym.term t] } }, st.2 ++ [(t, n)]) := by
  obtain ⟨hf, rfl⟩ := addNew_ok ha
  have hle : ∀ t' n', st.2.lookup t' = some n' → (st.2 ++ [(t, n)]).lookup t' = some n' :=
    fun _ _ h' => lookup_append_some h'
  have hnew : ∀ e ∈ st.2, e.2 ≠ n := by
    intro e he hen
    exact hf (hen ▸ h.fresh e he)
  have hform := addNew_form ha
  have hlook : (st.2 ++ [(t, n)]).lookup t = some n := by
    rw [lookup_append_none hl]; simp [List.lookup]
  refine ⟨⟨h.terms, h.start, by simp [h.nonterms],
    forall_mem_snoc h.freshg fun hg => hf (by rw [h.nonterms]; exact List.mem_append_left _ hg),
    forall_mem_snoc h.keyOcc hocc, forall_mem_snoc h.form hform,
    inj_snoc (fun e : String × String => e.2) h.inj hnew,
    forall_mem_snoc (fun e he => lookup_append_some (h.keys e he)) hlook,
    forall_mem_snoc (fun e he => mem_ins.mpr (Or.inl (h.defs e he))) (mem_ins.mpr (Or.inr rfl)), fun q hq => ?_⟩,
    fun p hp => mem_ins.mpr (Or.inl hp), hle⟩
  rcases mem_ins.mp hq with hq | rfl
  · exact (h.prods q hq).mono (fun e he => List.mem_append_left _ he) hle
  · exact Or.inr (Or.inl ⟨(t, n), List.mem_append_right _ (List.mem_singleton_self _), rfl⟩)

/-- the loop body (`for _, sym := range p.Body`) -/
def termSymStep (acc : TermSt × List SSym) (sym : SSym) : Outcome (TermSt × List SSym) :=
  match sym with
  | .term t =>
    match acc.1.2.lookup t with
    | some n =>
      pure (({ acc.1.1 with prods := ins acc.1.1.prods { head := n, body := [sym] } }, acc.1.2), acc.2 ++ [.nonterm n])
    | none => do
      let (g', n) ← addNew acc.1.1 t alphas
      pure (({ g' with prods := ins g'.prods { head := n, body := [sym] } }, acc.1.2 ++ [(t, n)]), acc.2 ++ [.nonterm n])
  | .nonterm _ => pure (acc.1, acc.2 ++ [sym])

theorem termBody_eq (head : String) (body : List SSym) (st : TermSt) :
    termBody head body st =
      (body.foldlM termSymStep (st, [])).bind
        (fun r => .ok ({ r.1.1 with prods := ins r.1.1.prods { head := head, body := r.2 } }, r.1.2)) := rfl

/-- invariant of the symbol loop after the prefix `pre` of the body -/
def SymInv (g : G) (st0 : TermSt) (pre : List SSym) (acc : TermSt × List SSym) : Prop :=
  TermCore g acc.1 ∧ (∀ q ∈ st0.1.prods, q ∈ acc.1.1.prods) ∧ acc.2 = pre.map (replS acc.1.2) ∧ AllLooked acc.1.2 pre

theorem termSymStep_inv {g : G} {st0 : TermSt} {pre : List SSym} {acc acc' : TermSt × List SSym} {sym : SSym}
    (h : SymInv g st0 pre acc) (hocc : ∃ p ∈ g.prods, sym ∈ p.body) (hs : termSymStep acc sym = .ok acc') :
    SymInv g st0 (pre ++ [sym]) acc' := by
  obtain ⟨hc, hle, hnb, hal⟩ := h
  cases sym with
  | nonterm m =>
    simp only [termSymStep, pure] at hs
    cases hs
    refine ⟨hc, hle, ?_, ?_⟩
    · simp [hnb, replS]
    · intro t ht
      simp at ht
      exact hal t ht
  | term t =>
    simp only [termSymStep] at hs
    cases hl : acc.1.2.lookup t with
    | some n =>
      simp only [hl, pure] at hs
      cases hs
      have hmem : (t, n) ∈ acc.1.2 := store_lookup_mem hl
      refine ⟨hc.add_prod (Or.inr (Or.inl ⟨(t, n), hmem, rfl⟩)), ?_, ?_, ?_⟩
      · exact fun q hq => mem_ins.mpr (Or.inl (hle q hq))
      · simp [hnb, replS, hl]
      · intro t' ht'
        simp at ht'
        rcases ht' with ht' | rfl
        · exact hal t' ht'
        · exact ⟨n, hl⟩
    | none =>
      simp only [hl] at hs
      obtain ⟨⟨g1, n⟩, ha, hs⟩ := bind_eq_ok hs
      cases hs
      obtain ⟨hc', hle'⟩ := hc.extend hl ha hocc
      have hlook : (acc.1.2 ++ [(t, n)]).lookup t = some n := by
        rw [lookup_append_none hl]; simp [List.lookup]
      refine ⟨hc', fun q hq => hle'.1 q (hle q hq), ?_, ?_⟩
      · simp only [List.map_append, List.map_cons, List.map_nil]
        rw [replS_stable hle'.2 hal, ← hnb]
        simp [replS, hlook]
      · intro t' ht'
        simp at ht'
        rcases ht' with ht' | rfl
        · exact (hal.mono hle'.2) t' ht'
        · exact ⟨n, hlook⟩

theorem TermCore.unfold {g : G} {st : TermSt} (hc : TermCore g st) :
    ∀ {b : List SSym}, AllLooked st.2 b → Derives st.1 (b.map (replS st.2)) b
  | [], _ => Derives.refl _
  | s :: b, hl => by
    refine Derives.append (α := [replS st.2 s]) (β := [s]) ?_ (hc.unfold fun t ht => hl t (List.mem_cons_of_mem _ ht))
    cases s with
    | nonterm m => exact Derives.refl _
    | term t =>
      obtain ⟨n, hn⟩ := hl t (List.mem_cons_self ..)
      rw [replS, hn]
      exact Derives.of_prod (hc.defs _ (store_lookup_mem hn))

theorem termBody_inv {g : G} {st st' : TermSt} {p : SProd} (hc : TermCore g st) (hp : p ∈ g.prods)
    (hnt : isTerminalProd p = false) (h : termBody p.head p.body st = .ok st') :
    TermCore g st' ∧ (∀ q ∈ st.1.prods, q ∈ st'.1.prods) ∧ Covers st'.1 p.head p.body := by
  rw [termBody_eq] at h
  obtain ⟨r, hf, h⟩ := bind_eq_ok h
  cases h
  have hinv := Outcome.All.foldlM_prefix (P := SymInv g st) p.body [] (st, [])
    ⟨hc, fun _ h => h, rfl, fun t ht => by cases ht⟩
    (fun pre' s b hm hP s' hs => termSymStep_inv hP ⟨p, hp, hm⟩ hs) r hf
  simp only [List.nil_append] at hinv
  obtain ⟨hc', hle, hnb, hal⟩ := hinv
  have hc'' := hc'.add_prod (p' := ⟨p.head, r.2⟩) (Or.inr (Or.inr ⟨p, hp, hnt, by rw [hnb], hal⟩))
  have hmem : (⟨p.head, r.2⟩ : SProd) ∈ ins r.1.1.prods ⟨p.head, r.2⟩ := mem_ins.mpr (Or.inr rfl)
  have hd : Derives _ (p.body.map (replS r.1.2)) p.body := hc''.unfold hal
  rw [← hnb] at hd
  exact ⟨hc'', fun q hq => mem_ins.mpr (Or.inl (hle q hq)), ⟨_, hmem, rfl⟩,
    (Derives.of_prod (p := ⟨p.head, r.2⟩) hmem).trans hd⟩

def termProdStep (st : TermSt) (p : SProd) : Outcome TermSt :=
  if isTerminalProd p then pure ({ st.1 with prods := ins st.1.prods p }, st.2)
  else termBody p.head p.body st

theorem cnfTerm_eq (g : G) :
    cnfTerm g = (g.prods.foldlM termProdStep (({ g with prods := [] } : G), [])).bind (fun st => .ok st.1) := rfl

theorem termProdStep_inv {g : G} {st st' : TermSt} {p : SProd} (hc : TermCore g st) (hp : p ∈ g.prods)
    (hs : termProdStep st p = .ok st') :
    TermCore g st' ∧ (∀ q ∈ st.1.prods, q ∈ st'.1.prods) ∧ Covers st'.1 p.head p.body := by
  unfold termProdStep at hs
  split at hs
  · rename_i ht
    cases hs
    exact ⟨hc.add_prod (Or.inl ⟨hp, ht⟩), fun q hq => mem_ins.mpr (Or.inl hq),
      Covers.of_prod (mem_ins.mpr (Or.inr rfl))⟩
  · rename_i ht
    exact termBody_inv hc hp (by simpa using ht) hs

theorem TermCore.init (g : G) : TermCore g (({ g with prods := [] } : G), []) := by
  refine ⟨rfl, rfl, (List.append_nil _).symm, ?_, ?_, ?_, ?_, ?_, ?_, ?_⟩ <;> exact fun _ h => (List.not_mem_nil h).elim

theorem cnfTerm_spec {g g' : G} (h : cnfTerm g = .ok g') :
    ∃ store : Store, TermCore g (g', store) ∧ ∀ p ∈ g.prods, Covers g' p.head p.body := by
  rw [cnfTerm_eq] at h
  obtain ⟨st, hf, h⟩ := bind_eq_ok h
  cases h
  obtain ⟨hc, _, hcov⟩ := foldlM_all (Inv := TermCore g) (C := fun st p => Covers st.1 p.head p.body)
    (fun st p st' hc hp hs => by
      obtain ⟨hc', hsub, hcov⟩ := termProdStep_inv hc hp hs
      exact ⟨hc', fun _ h => h.mono hsub, hcov⟩) (TermCore.init g) hf
  exact ⟨st.2, hc, hcov⟩

/-- the definitions TERM's store records: `aₙ` stands for `a` -/
def termDefs (store : Store) : Defs := store.map fun e => (e.2, [Sym.term e.1])

theorem folds_replS {g : G} {store : Store} : ∀ {b : List SSym}, (∀ s ∈ b, SymDeclared g s) → AllLooked store b →
    Expands (DefStands g (termDefs store)) (b.map (replS store)) b
  | [], _, _ => Expands.nil
  | s :: b, hd, hl => by
    refine Expands.cons (x := [s]) ?_
      (folds_replS (fun s hs => hd s (List.mem_cons_of_mem _ hs)) fun t ht => hl t (List.mem_cons_of_mem _ ht))
    cases s with
    | nonterm m => exact DefStands.of_decl (hd _ (List.mem_cons_self ..))
    | term t =>
      obtain ⟨n, hn⟩ := hl t (List.mem_cons_self ..)
      rw [replS, hn]
      exact Or.inr (List.mem_map.2 ⟨_, store_lookup_mem hn, rfl⟩)

theorem TermCore.folded {g : G} {st : TermSt} (hc : TermCore g st) (hw : WellFormed g) :
    Folded g st.1 (termDefs st.2) := by
  refine ⟨hc.terms, hc.start, by simp [hc.nonterms, termDefs], ?_, ?_, ?_, fun p' hp' => ?_⟩
  · rintro _ hd
    obtain ⟨e, he, rfl⟩ := List.mem_map.1 hd
    exact hc.freshg e he
  · rintro _ hd _ hd' hdd
    obtain ⟨e, he, rfl⟩ := List.mem_map.1 hd
    obtain ⟨e', he', rfl⟩ := List.mem_map.1 hd'
    rw [hc.inj e he e' he' hdd]
  · rintro _ hd s hs
    obtain ⟨e, he, rfl⟩ := List.mem_map.1 hd
    rw [List.mem_singleton.1 hs]
    exact hc.keyOcc e he
  · rcases hc.prods p' hp' with ⟨hpg, _⟩ | ⟨e, he, rfl⟩ | ⟨p, hp, _, rfl, hal⟩
    · exact ⟨_, DefStands.refl_of hw _ hpg, Or.inl hpg⟩
    · exact ⟨_, Expands.single rfl, Or.inr (List.mem_map.2 ⟨e, he, rfl⟩)⟩
    · exact ⟨_, folds_replS (hw.2 p hp).2 hal, Or.inl hp⟩

theorem TermCore.defd {g : G} {st : TermSt} (hc : TermCore g st) :
    ∀ d ∈ termDefs st.2, (⟨d.1, d.2⟩ : SProd) ∈ st.1.prods := by
  rintro _ hd
  obtain ⟨e, he, rfl⟩ := List.mem_map.1 hd
  exact hc.defs e he

theorem cnfTerm_language {g g' : G} (h : cnfTerm g = .ok g') (hw : WellFormed g) (w : List String) :
    Language g' w ↔ Language g w := by
  obtain ⟨store, hc, hcov⟩ := cnfTerm_spec h
  exact (hc.folded hw).language hw hcov w

theorem cnfTerm_wf {g g' : G} (h : cnfTerm g = .ok g') (hw : WellFormed g) : WellFormed g' := by
  obtain ⟨store, hc, _⟩ := cnfTerm_spec h
  exact (hc.folded hw).wf hw

theorem mem_map_replS {store : Store} {b : List SSym} (hal : AllLooked store b) {s : SSym}
    (hs : s ∈ b.map (replS store)) :
    ∃ m, s = Sym.nonterm m ∧ (Sym.nonterm m ∈ b ∨ ∃ t, Sym.term t ∈ b ∧ store.lookup t = some m) := by
  obtain ⟨x, hx, rfl⟩ := List.mem_map.mp hs
  cases x with
  | nonterm m => exact ⟨m, rfl, Or.inl hx⟩
  | term t =>
    obtain ⟨n, hn⟩ := hal t hx
    exact ⟨n, by simp [replS, hn], Or.inr ⟨t, hx, hn⟩⟩

end AlgoVerif.C08
