import AlgoVerif.Model.C06Run
/-!
# C06 — the order on keys and strictly sorted association lists

`klt` is the lexicographic order of core Lean's `List` (`klt_iff_lt`), a strict total order; a list
strictly sorted by it is determined by its elements (`Sorted.ext`).  On such a list the Spec's `put` keeps
the smaller keys, sets the new entry and keeps the larger keys (`Map.put_eq`); what both tries need about
membership and sortedness after a `put`, a lookup or a deletion at either end is read off that.
-/
namespace AlgoVerif.C06
variable {V : Type}

theorem u8_trichotomy (a b : UInt8) : a < b ∨ a = b ∨ b < a := by
  rcases Nat.lt_trichotomy a.toNat b.toNat with h | h | h
  · exact .inl (UInt8.lt_iff_toNat_lt.mpr h)
  · exact .inr (.inl (UInt8.toNat_inj.mp h))
  · exact .inr (.inr (UInt8.lt_iff_toNat_lt.mpr h))

theorem u8_gt_iff {a b : UInt8} : (a > b) ↔ b < a := Iff.rfl

/-! The binary trie branches on `if ch > c … else if ch == c … else …`; the three outcomes: -/

theorem ite_cmp_lt {α : Type} {ch c : UInt8} (h : ch < c) (x y z : α) :
    (if ch > c then x else if ch == c then y else z) = z := by
  rw [if_neg (UInt8.lt_asymm h), if_neg (by simpa using UInt8.ne_of_lt h)]

theorem ite_cmp_eq {α : Type} (c : UInt8) (x y z : α) :
    (if c > c then x else if c == c then y else z) = y := by
  rw [if_neg (UInt8.lt_irrefl c), if_pos (beq_self_eq_true c)]

theorem ite_cmp_gt {α : Type} {ch c : UInt8} (h : c < ch) (x y z : α) :
    (if ch > c then x else if ch == c then y else z) = x := if_pos h

@[simp] theorem klt_nil_nil : klt [] [] = false := rfl
@[simp] theorem klt_nil_cons (b : UInt8) (bs : Key) : klt [] (b :: bs) = true := rfl
@[simp] theorem klt_cons_nil (a : UInt8) (as : Key) : klt (a :: as) [] = false := rfl
theorem klt_cons_cons (a b : UInt8) (as bs : Key) :
    klt (a :: as) (b :: bs) = if a < b then true else if a == b then klt as bs else false := rfl

@[simp] theorem klt_nil_right (a : Key) : klt a [] = false := by cases a <;> rfl

@[simp] theorem klt_cons_same (a : UInt8) (as bs : Key) : klt (a :: as) (a :: bs) = klt as bs := by
  simp [klt_cons_cons]

theorem klt_cons_of_lt {a b : UInt8} (h : a < b) (as bs : Key) : klt (a :: as) (b :: bs) = true := by
  simp [klt_cons_cons, h]

theorem klt_cons_of_gt {a b : UInt8} (h : b < a) (as bs : Key) : klt (a :: as) (b :: bs) = false := by
  have h1 : ¬ a < b := UInt8.lt_asymm h
  have h2 : a ≠ b := (UInt8.ne_of_lt h).symm
  simp [klt_cons_cons, h1, h2]

theorem klt_iff_lt (a b : Key) : klt a b = true ↔ a < b := by
  induction a generalizing b with
  | nil => cases b <;> simp
  | cons x xs ih =>
    cases b with
    | nil => simp
    | cons y ys =>
      rw [List.cons_lt_cons_iff]
      rcases u8_trichotomy x y with h | h | h
      · simp [klt_cons_of_lt h, h]
      · subst h; simp [ih]
      · simp [klt_cons_of_gt h, UInt8.lt_asymm h, (UInt8.ne_of_lt h).symm]

theorem klt_irrefl (a : Key) : klt a a = false := by
  induction a with
  | nil => rfl
  | cons x xs ih => simp [ih]

theorem klt_trans {a b c : Key} (h1 : klt a b = true) (h2 : klt b c = true) : klt a c = true := by
  rw [klt_iff_lt] at *
  exact List.lt_trans h1 h2

theorem klt_asymm {a b : Key} (h : klt a b = true) : klt b a = false := by
  cases h' : klt b a with
  | false => rfl
  | true => have := klt_trans h h'; simp [klt_irrefl] at this

theorem klt_trichotomy (a b : Key) : klt a b = true ∨ a = b ∨ klt b a = true := by
  induction a generalizing b with
  | nil => cases b <;> simp
  | cons x xs ih =>
    cases b with
    | nil => simp
    | cons y ys =>
      rcases u8_trichotomy x y with h | h | h
      · exact .inl (klt_cons_of_lt h _ _)
      · subst h
        simp only [klt_cons_same, List.cons.injEq, true_and]
        exact ih ys
      · exact .inr (.inr (klt_cons_of_lt h _ _))

theorem klt_ne {a b : Key} (h : klt a b = true) : a ≠ b := by
  rintro rfl; simp [klt_irrefl] at h

theorem kle_iff (a b : Key) : kle a b = true ↔ klt a b = true ∨ a = b := by
  unfold kle
  rcases klt_trichotomy a b with h | h | h
  · simp [h, klt_asymm h]
  · subst h; simp [klt_irrefl]
  · simp [h, klt_asymm h]
    rintro rfl; simp [klt_irrefl] at h

theorem kle_refl (a : Key) : kle a a = true := by simp [kle, klt_irrefl]

theorem kle_of_klt {a b : Key} (h : klt a b = true) : kle a b = true := (kle_iff a b).mpr (.inl h)

theorem klt_of_klt_of_kle {a b c : Key} (h1 : klt a b = true) (h2 : kle b c = true) : klt a c = true := by
  rcases (kle_iff b c).mp h2 with h | h
  · exact klt_trans h1 h
  · subst h; exact h1

theorem klt_of_kle_of_klt {a b c : Key} (h1 : kle a b = true) (h2 : klt b c = true) : klt a c = true := by
  rcases (kle_iff a b).mp h1 with h | h
  · exact klt_trans h h2
  · subst h; exact h2

theorem kle_trans {a b c : Key} (h1 : kle a b = true) (h2 : kle b c = true) : kle a c = true := by
  rcases (kle_iff a b).mp h1 with h | h
  · exact kle_of_klt (klt_of_klt_of_kle h h2)
  · subst h; exact h2

theorem not_klt_iff_kle (a b : Key) : klt a b = false ↔ kle b a = true := by simp [kle]

theorem not_kle_iff_klt (a b : Key) : kle a b = false ↔ klt b a = true := by simp [kle]

theorem klt_append_right (a : Key) {b : Key} (h : b ≠ []) : klt a (a ++ b) = true := by
  induction a with
  | nil => cases b with
    | nil => exact absurd rfl h
    | cons => rfl
  | cons x xs ih => simpa using ih

def Sorted (m : List (Key × V)) : Prop := m.Pairwise (fun a b => klt a.1 b.1 = true)

theorem Sorted.nil : Sorted ([] : List (Key × V)) := List.Pairwise.nil

theorem Sorted.tail {e : Key × V} {m : List (Key × V)} (h : Sorted (e :: m)) : Sorted m :=
  (List.pairwise_cons.mp h).2

theorem Sorted.head_lt {e : Key × V} {m : List (Key × V)} (h : Sorted (e :: m)) :
    ∀ x ∈ m, klt e.1 x.1 = true := (List.pairwise_cons.mp h).1

theorem Sorted.all_gt_of_head_gt {e : Key × V} {m : List (Key × V)} (h : Sorted (e :: m)) {k : Key}
    (hk : kle k e.1 = true) : ∀ x ∈ m, klt k x.1 = true :=
  fun x hx => klt_of_kle_of_klt hk (h.head_lt x hx)

theorem Sorted.forall_gt {e : Key × V} {m : List (Key × V)} (h : Sorted (e :: m)) {k : Key}
    (hk : klt k e.1 = true) : ∀ x ∈ e :: m, klt k x.1 = true :=
  List.forall_mem_cons.mpr ⟨hk, h.all_gt_of_head_gt (kle_of_klt hk)⟩

theorem Sorted.filter (p : Key × V → Bool) {m : List (Key × V)} (h : Sorted m) : Sorted (m.filter p) :=
  List.Pairwise.filter p h

theorem Sorted.unique {m : List (Key × V)} (h : Sorted m) {k : Key} {v w : V}
    (h1 : (k, v) ∈ m) (h2 : (k, w) ∈ m) : v = w := by
  induction m with
  | nil => simp at h1
  | cons e m ih =>
    have hlt := h.head_lt
    rcases List.mem_cons.mp h1 with r1 | r1 <;> rcases List.mem_cons.mp h2 with r2 | r2
    · rw [← r1] at r2; exact (Prod.mk.inj r2).2.symm
    · have := hlt _ r2; rw [← r1] at this; simp [klt_irrefl] at this
    · have := hlt _ r1; rw [← r2] at this; simp [klt_irrefl] at this
    · exact ih h.tail r1 r2

/-- both lists are duplicate-free, hence permutations of each other, and a strict order admits one sorted arrangement -/
theorem Sorted.ext {a b : List (Key × V)} (ha : Sorted a) (hb : Sorted b)
    (h : ∀ e, e ∈ a ↔ e ∈ b) : a = b := by
  have hne : ∀ {x y : Key × V}, klt x.1 y.1 = true → x ≠ y := fun h e => klt_ne h (congrArg Prod.fst e)
  exact List.Perm.eq_of_pairwise (fun x y _ _ h1 h2 => by simp [klt_asymm h1] at h2) ha hb
    ((List.perm_ext_iff_of_nodup (ha.imp hne) (hb.imp hne)).mpr h)

theorem getLast?_of_sorted_max {l : List (Key × V)} (hs : Sorted l) {e : Key × V} (he : e ∈ l)
    (hmax : ∀ x ∈ l, x = e ∨ klt x.1 e.1 = true) : l.getLast? = some e := by
  obtain ⟨a, b, rfl⟩ := List.append_of_mem he
  cases b with
  | nil => simp
  | cons y b =>
    -- an entry behind `e` would be both larger (sorted) and not larger (`hmax`)
    have h1 : klt e.1 y.1 = true :=
      (List.pairwise_cons.mp (List.pairwise_append.mp hs).2.1).1 y (List.mem_cons_self ..)
    rcases hmax y (by simp) with rfl | h2
    · simp [klt_irrefl] at h1
    · simp [klt_asymm h1] at h2

theorem filter_eq_nil_of_all_false {α : Type} (p : α → Bool) (l : List α) (h : ∀ x ∈ l, p x = false) : l.filter p = [] := by
  rw [List.filter_eq_nil_iff]; intro x hx; simp [h x hx]

namespace Spec

theorem Map.put_of_lt {m : Map V} {k : Key} (v : V) (h : ∀ e ∈ m, klt k e.1 = true) :
    Map.put m k v = (k, v) :: m := by
  cases m with
  | nil => rfl
  | cons e m => simp only [Map.put, h e (List.mem_cons_self ..), if_true]

theorem Map.put_append_left {a b : Map V} {k : Key} (v : V) (h : ∀ e ∈ b, klt k e.1 = true) :
    Map.put (a ++ b) k v = Map.put a k v ++ b := by
  induction a with
  | nil => exact Map.put_of_lt v h
  | cons e a ih =>
    simp only [List.cons_append, Map.put, ih]
    cases klt k e.1 <;> cases k == e.1 <;> rfl

theorem Map.put_append_right {a b : Map V} {k : Key} (v : V) (h : ∀ e ∈ a, klt e.1 k = true) :
    Map.put (a ++ b) k v = a ++ Map.put b k v := by
  induction a with
  | nil => rfl
  | cons e a ih =>
    have hlt := h e (List.mem_cons_self ..)
    have hne : (k == e.1) = false := beq_false_of_ne (klt_ne hlt).symm
    simp only [List.cons_append, Map.put, klt_asymm hlt, hne, Bool.false_eq_true, if_false,
      ih (fun x hx => h x (List.mem_cons_of_mem _ hx))]

theorem Map.delete_append (a b : Map V) (k : Key) : Map.delete (a ++ b) k = Map.delete a k ++ Map.delete b k :=
  List.filter_append ..

theorem Map.delete_of_ne {m : Map V} {k : Key} (h : ∀ e ∈ m, e.1 ≠ k) : Map.delete m k = m :=
  List.filter_eq_self.mpr fun e he => bne_iff_ne.mpr (h e he)

theorem Map.get_append (a b : Map V) (k : Key) : Map.get (a ++ b) k = (Map.get a k).or (Map.get b k) := by
  simp only [Map.get, List.find?_append]
  cases a.find? (fun e => e.1 == k) <;> rfl

theorem Map.find?_of_ne {m : Map V} {k : Key} (h : ∀ e ∈ m, e.1 ≠ k) : m.find? (fun e => e.1 == k) = none := by
  rw [List.find?_eq_none]
  intro e he; simpa using h e he

theorem Map.get_of_ne {m : Map V} {k : Key} (h : ∀ e ∈ m, e.1 ≠ k) : Map.get m k = none := by
  rw [Map.get, Map.find?_of_ne h]; rfl

theorem Map.put_eq {m : Map V} (hs : Sorted m) (k : Key) (v : V) :
    Map.put m k v = m.filter (fun e => klt e.1 k) ++ (k, v) :: m.filter (fun e => klt k e.1) := by
  induction m with
  | nil => rfl
  | cons x m ih =>
    have hlt := hs.head_lt
    rcases klt_trichotomy k x.1 with h | rfl | h
    · have hall := hs.forall_gt h
      rw [Map.put_of_lt v hall, List.filter_eq_self.mpr hall,
        filter_eq_nil_of_all_false _ _ fun y hy => klt_asymm (hall y hy)]
      rfl
    · simp only [Map.put, List.filter_cons, klt_irrefl, beq_self_eq_true, Bool.false_eq_true, if_false, if_true]
      rw [List.filter_eq_self.mpr hlt, filter_eq_nil_of_all_false _ _ fun y hy => klt_asymm (hlt y hy)]
      rfl
    · simp only [Map.put, List.filter_cons, klt_asymm h, beq_false_of_ne (klt_ne h).symm, h, ih hs.tail,
        Bool.false_eq_true, if_false, if_true, List.cons_append]

theorem Map.put_mem {m : Map V} (hs : Sorted m) (k : Key) (v : V) (e : Key × V) :
    e ∈ Map.put m k v ↔ e = (k, v) ∨ (e ∈ m ∧ e.1 ≠ k) := by
  have hne : e.1 ≠ k ↔ klt e.1 k = true ∨ klt k e.1 = true :=
    ⟨fun h => (klt_trichotomy e.1 k).imp_right fun h' => h'.resolve_left h,
     fun h => h.elim klt_ne fun h => (klt_ne h).symm⟩
  rw [Map.put_eq hs, hne]
  simp only [List.mem_append, List.mem_cons, List.mem_filter, and_or_left]
  exact or_left_comm

theorem Map.put_mem_of_absent {m : Map V} (hs : Sorted m) {k : Key} (v : V) (h : ∀ e ∈ m, e.1 ≠ k) (e : Key × V) :
    e ∈ Map.put m k v ↔ e = (k, v) ∨ e ∈ m :=
  (Map.put_mem hs k v e).trans (or_congr_right (and_iff_left_of_imp (h e)))

theorem Map.put_sorted {m : Map V} (hs : Sorted m) (k : Key) (v : V) : Sorted (Map.put m k v) := by
  rw [Map.put_eq hs, Sorted, List.pairwise_append]
  refine ⟨hs.filter _, List.pairwise_cons.mpr ⟨fun e he => (List.mem_filter.mp he).2, hs.filter _⟩, ?_⟩
  intro a ha b hb
  have ha' := (List.mem_filter.mp ha).2
  rcases List.mem_cons.mp hb with rfl | hb
  · exact ha'
  · exact klt_trans ha' (List.mem_filter.mp hb).2

theorem Map.find?_of_mem {m : Map V} (hs : Sorted m) {k : Key} {v : V} (h : (k, v) ∈ m) :
    m.find? (fun e => e.1 == k) = some (k, v) := by
  cases hf : m.find? (fun e => e.1 == k) with
  | none => exact absurd (List.find?_eq_none.mp hf _ h) (by simp)
  | some e =>
    have hk : e.1 = k := by simpa using List.find?_some hf
    rw [← hs.unique (hk ▸ List.mem_of_find?_eq_some hf : (k, e.2) ∈ m) h, ← hk]

theorem Map.get_eq_some {m : Map V} (hs : Sorted m) (k : Key) (v : V) :
    Map.get m k = some v ↔ (k, v) ∈ m := by
  unfold Map.get
  constructor
  · intro h
    obtain ⟨e, he, rfl⟩ := Option.map_eq_some_iff.mp h
    have hk : e.1 = k := by simpa using List.find?_some he
    exact hk ▸ List.mem_of_find?_eq_some he
  · intro h
    rw [Map.find?_of_mem hs h, Option.map_some]

theorem Map.delete_head {k : Key} {v : V} {m : Map V} (hs : Sorted ((k, v) :: m)) :
    Map.delete ((k, v) :: m) k = m := by
  simp only [Map.delete, List.filter_cons, bne_self_eq_false, Bool.false_eq_true, if_false]
  exact Map.delete_of_ne fun e he => (klt_ne (hs.head_lt e he)).symm

theorem Map.delete_last {m : Map V} (hs : Sorted m) {k : Key} {v : V} (h : m.getLast? = some (k, v)) :
    Map.delete m k = m.dropLast := by
  obtain ⟨init, rfl⟩ := List.getLast?_eq_some_iff.mp h
  have hlt := (List.pairwise_append.mp hs).2.2
  rw [Map.delete_append, Map.delete_of_ne fun e he => klt_ne (hlt e he _ (List.mem_singleton_self _)),
    List.dropLast_concat]
  simp [Map.delete]

theorem Map.step_keys {m : Map V} (hs : Sorted m) (op : Op V) {P : Key → Prop} (hm : ∀ e ∈ m, P e.1)
    (hp : ∀ k v, op = .put k v → P k) : ∀ e ∈ (Map.step m op).1, P e.1 := by
  intro e he
  cases op with
  | put k v =>
    simp only [Map.step] at he
    rcases (Map.put_mem hs k v e).mp he with rfl | ⟨h, _⟩
    · exact hp k v rfl
    · exact hm e h
  | delete k => exact hm e (List.mem_filter.mp he).1
  | deleteMin => exact hm e (List.mem_of_mem_tail he)
  | deleteMax => exact hm e ((List.dropLast_sublist m).subset he)
  | deleteAll => simp [Map.step] at he
  | _ => exact hm e he

end Spec

end AlgoVerif.C06
