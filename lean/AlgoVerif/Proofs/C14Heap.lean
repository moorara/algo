import AlgoVerif.Proofs.C14Basic
import AlgoVerif.Proofs.C05Binary
/-!
# C14 proofs — the private Model of `heap/indexed_binary.go` is an indexed min-priority queue

`HInv cap h`: `heap[1..n]` and `pos` are inverse bijections between positions and the indices on the
heap, `kvs[i] = nil ⇔ pos[i] = -1`, and the keys are in heap order.  Abstract view: `h.ky i` (the key of
index `i`, `none` when `i` is not on the heap).

The heap is the one of property C05 at `float64` keys and `nil` values: `toIB` reads a state as a state of
`C05.IBinary`, the routines agree wherever those of C05 return, `HInv h` and C05's invariant of `toIB h` imply each other
(`HInv.inv`, `HInv.of_inv`: the first reads the arrays with a default, the second with `?`), and what `Insert`, `ChangeKey`,
`Delete`, `ContainsIndex` do to `ky` is what `C05Binary` proves against `Spec/C05`.
-/
namespace AlgoVerif.C14

def IHeap.hp (h : IHeap) (k : Nat) : Nat := h.heap.getD k 0
def IHeap.ps (h : IHeap) (i : Nat) : Int := h.pos.getD i (-1)
/-- key of index `i` (`none` = `kvs[i] == nil`) -/
def IHeap.ky (h : IHeap) (i : Nat) : Option Int := h.kvs.getD i none
def IHeap.kv (h : IHeap) (k : Nat) : Int := (h.ky (h.hp k)).getD 0

/-- structural invariant.  `A`: every position of `heap[1..n]` holds an index that knows its position and has a key;
`B`: an index whose `pos` is not `-1` stands at that position; `C`: `pos[i] = -1` exactly when `kvs[i] = nil`.
`ex` exempts one index from all three (one taken off `heap[1..n]` whose `pos`/`kvs` entries are not yet cleared).  It is `none`
at every use: `Delete` is not followed step by step here, what it does comes from C05's `delete_sim`. -/
structure HS (cap : Nat) (h : IHeap) (ex : Option Nat) : Prop where
  hsz : h.heap.size = cap + 1
  psz : h.pos.size = cap
  ksz : h.kvs.size = cap
  nle : h.n ≤ cap
  A : ∀ k, 1 ≤ k → k ≤ h.n → h.hp k < cap ∧ h.ps (h.hp k) = (k : Int) ∧ (h.ky (h.hp k)).isSome ∧ some (h.hp k) ≠ ex
  B : ∀ i, i < cap → some i ≠ ex → h.ps i ≠ -1 → ∃ k : Nat, h.ps i = (k : Int) ∧ 1 ≤ k ∧ k ≤ h.n ∧ h.hp k = i
  C : ∀ i, i < cap → some i ≠ ex → (h.ps i = -1 ↔ h.ky i = none)

def HOrd (h : IHeap) : Prop := ∀ c, 2 ≤ c → c ≤ h.n → h.kv (c / 2) ≤ h.kv c

section
variable {cap : Nat} {h : IHeap} {ex : Option Nat}

theorem HS.get_heap (hs : HS cap h ex) {k : Nat} (hk : k ≤ cap) :
    h.heap[k]? = some (h.hp k) := getD_of_lt _ _ (hs.hsz ▸ Nat.lt_succ_of_le hk)

theorem HS.get_pos (hs : HS cap h ex) {i : Nat} (hi : i < cap) :
    h.pos[i]? = some (h.ps i) := getD_of_lt _ _ (hs.psz ▸ hi)

theorem HS.get_kvs (hs : HS cap h ex) {i : Nat} (hi : i < cap) :
    h.kvs[i]? = some (h.ky i) := getD_of_lt _ _ (hs.ksz ▸ hi)

theorem HS.inj (hs : HS cap h ex) {k k' : Nat}
    (hk : 1 ≤ k ∧ k ≤ h.n) (hk' : 1 ≤ k' ∧ k' ≤ h.n) (e : h.hp k = h.hp k') : k = k' :=
  Int.ofNat_inj.1 ((hs.A k hk.1 hk.2).2.1.symm.trans ((congrArg h.ps e).trans (hs.A k' hk'.1 hk'.2).2.1))

theorem natCast_ne_neg_one (m : Nat) : (m : Int) ≠ -1 := by omega

theorem half_pos {c : Nat} (h : 2 ≤ c) : 1 ≤ c / 2 := Nat.div_pos h (by decide)

end

structure HInv (cap : Nat) (h : IHeap) : Prop where
  s : HS cap h none
  o : HOrd h

section
variable {cap : Nat} {h : IHeap}

theorem ky_new (cap i : Nat) : (IHeap.new cap).ky i = none := getD_replicate cap i none

theorem ky_none_of_ge (hs : HS cap h none) {i : Nat} (hi : cap ≤ i) : h.ky i = none := by
  unfold IHeap.ky Array.getD
  rw [dif_neg (hs.ksz ▸ Nat.not_lt.2 hi)]

theorem HS.pos_of_key (hs : HS cap h none) {i : Nat} {k0 : Int}
    (hk : h.ky i = some k0) : i < cap ∧ ∃ k : Nat, h.ps i = (k : Int) ∧ 1 ≤ k ∧ k ≤ h.n ∧ h.hp k = i := by
  have hi : i < cap := Nat.lt_of_not_le fun hi => by rw [ky_none_of_ge hs hi] at hk; cases hk
  have hp : h.ps i ≠ -1 := fun e => by rw [(hs.C i hi (by simp)).1 e] at hk; simp at hk
  exact ⟨hi, hs.B i hi (by simp) hp⟩

theorem isEmpty_iff (hs : HS cap h none) :
    h.isEmpty = true ↔ ∀ j, h.ky j = none := by
  unfold IHeap.isEmpty
  simp only [beq_iff_eq]
  constructor
  · intro hn j
    cases hk : h.ky j with
    | none => rfl
    | some _ =>
      obtain ⟨_, k, _, k1, k2, _⟩ := hs.pos_of_key hk
      omega
  · intro hall
    refine Classical.byContradiction fun hn => ?_
    have := (hs.A 1 (Nat.le_refl _) (Nat.pos_of_ne_zero hn)).2.2.1
    rw [hall] at this
    exact Bool.noConfusion this

theorem isEmpty_of_cntF_zero (hs : HS cap h none) {V : Array Bool} (hV : V.size = cap) (hc : cntF V ≤ 0)
    (hk : ∀ j k, h.ky j = some k → ¬ Vis V j) : h.isEmpty = true := by
  rw [isEmpty_iff hs]
  intro j
  cases hj : h.ky j with
  | none => rfl
  | some k =>
    rcases vis_or_false (hV ▸ (hs.pos_of_key hj).1 : j < V.size) with h | h
    · exact absurd h (hk j k hj)
    · have := cntF_set h; omega

def KyUpd (h h' : IHeap) (i : Nat) (v : Option Int) : Prop :=
  ∀ j, h'.ky j = if j = i then v else h.ky j

theorem KyUpd.of_some {h h' : IHeap} {i j : Nat} {k : Int} (hu : KyUpd h h' i none) (hk : h'.ky j = some k) :
    j ≠ i ∧ h.ky j = some k :=
  (upd_some hu hk).resolve_left fun e => nomatch e.2

end

/-! `Model/C05.lean` transcribes the same Go text for every key and value type.  The two transcriptions panic at different
points on a malformed state, so only one direction is stated: a routine of `C05.IBinary` that returns on `toIB h`
makes the routine here return, with the same state. -/
open AlgoVerif.C05 (IBinary LawfulCmp)

/-- `float64` keys, values all `nil` -/
def toIB (h : IHeap) : IBinary Int Unit := ⟨h.n, h.heap, h.pos, h.kvs.map (·.map (·, ()))⟩

theorem toIB_kvs (h : IHeap) (i : Nat) : (toIB h).kvs[i]? = (h.kvs[i]?).map (·.map (·, ())) :=
  Array.getElem?_map ..

theorem kvs_of_toIB {h : IHeap} {i : Nat} {e : Int × Unit} (hk : (toIB h).kvs[i]? = some (some e)) :
    h.kvs[i]? = some (some e.1) := by
  rw [toIB_kvs] at hk
  obtain ⟨o, ho, h2⟩ := Option.map_eq_some_iff.1 hk
  obtain ⟨k, rfl, rfl⟩ := Option.map_eq_some_iff.1 h2
  exact ho

theorem toIB_setKvs (h : IHeap) (i : Nat) (o : Option Int) (n : Nat) (hp : Array Nat) (ps : Array Int) :
    toIB ⟨n, hp, ps, h.kvs.set! i o⟩ = ⟨n, hp, ps, (toIB h).kvs.setIfInBounds i (o.map (·, ()))⟩ := by
  simp only [toIB, Array.set!_eq_setIfInBounds, Array.map_setIfInBounds]

theorem compare_toIB {h : IHeap} {a b : Nat} {c : Int} (e : (toIB h).compare cmpKey a b = .ok c) :
    h.compare a b = .ok c := by
  have key : ∀ {p k}, (toIB h).keyAt p = .ok k → ∃ i, h.heap[p]? = some i ∧ h.kvs[i]? = some (some k) := by
    intro p k e
    unfold IBinary.keyAt at e
    split at e
    · cases e
    · next i hi =>
      split at e <;> cases e
      next v hk => exact ⟨i, hi, kvs_of_toIB hk⟩
  unfold IBinary.compare at e
  split at e <;> cases e
  next ka kb ea eb =>
  obtain ⟨i, hi, hki⟩ := key ea
  obtain ⟨j, hj, hkj⟩ := key eb
  unfold IHeap.compare
  rw [hi, hj]; simp only; rw [hki, hkj]

theorem swap_toIB {h : IHeap} {i j : Nat} {b : IBinary Int Unit} (e : (toIB h).swap i j = .ok b) :
    ∃ h', h.swap i j = .ok h' ∧ toIB h' = b := by
  unfold IBinary.swap at e
  split at e <;> try cases e
  next x y hx hy =>
  replace hx : h.heap[i]? = some x := hx
  replace hy : h.heap[j]? = some y := hy
  split at e <;> cases e
  next hlt =>
  replace hlt : y < h.pos.size ∧ x < h.pos.size := hlt
  have hi := (Array.getElem?_eq_some_iff.1 hx).1
  have hj := (Array.getElem?_eq_some_iff.1 hy).1
  -- what the Model reads back after the two writes (`x = y` when `i = j`)
  have rj : ((h.heap.set! i y).set! j x)[j]? = some x := by
    rw [getElem?_set!, if_pos rfl, if_pos (by rw [size_set!]; exact hj)]
  have ri : ((h.heap.set! i y).set! j x)[i]? = some y := by
    rw [getElem?_set!]
    split
    · next eij => rw [if_pos (by rw [size_set!]; exact hj), Option.some.inj (hx.symm.trans (eij ▸ hy))]
    · rw [getElem?_set!, if_pos rfl, if_pos hi]
  -- by `simp only`: `rfl` has to identify `set!` with `setIfInBounds` by unfolding, which is slow to check
  refine ⟨{ h with heap := (h.heap.set! i y).set! j x, pos := (h.pos.set! y (i : Int)).set! x (j : Int) }, ?_,
    by simp only [toIB, Array.set!_eq_setIfInBounds]⟩
  unfold IHeap.swap
  rw [hx, hy]
  simp only
  rw [ri, rj]
  simp only
  rw [if_pos hlt]

theorem promote_toIB : ∀ (fuel : Nat) {h : IHeap} {k : Nat} {b : IBinary Int Unit},
    (toIB h).promote cmpKey fuel k = .ok b → ∃ h', h.promote fuel k = .ok h' ∧ toIB h' = b
  | 0, _, _, _, e => by cases e
  | fuel + 1, h, k, b, e => by
    unfold IBinary.promote at e
    unfold IHeap.promote
    split at e
    · next hk =>
      rw [if_pos hk]
      split at e <;> try cases e
      next c ec =>
      rw [compare_toIB ec]
      simp only
      split at e
      · next hc =>
        rw [if_pos hc]
        split at e <;> try cases e
        next b1 e1 =>
        obtain ⟨h1, es, rfl⟩ := swap_toIB e1
        rw [es]
        exact promote_toIB fuel e
      · next hc => cases e; rw [if_neg hc]; exact ⟨h, rfl, rfl⟩
    · next hk => cases e; rw [if_neg hk]; exact ⟨h, rfl, rfl⟩

theorem pickChild_toIB {h : IHeap} {j c : Nat} (e : (toIB h).pickChild cmpKey j = .ok c) :
    h.smallerChild j = .ok c := by
  unfold IBinary.pickChild at e
  unfold IHeap.smallerChild
  change (if j < h.n then _ else _) = _ at e
  split at e
  · next hj =>
    rw [if_pos hj]
    split at e <;> try cases e
    next c ec => rw [compare_toIB ec]
  · next hj => rw [if_neg hj]; exact e

theorem demote_toIB : ∀ (fuel : Nat) {h : IHeap} {k : Nat} {b : IBinary Int Unit},
    (toIB h).demote cmpKey fuel k = .ok b → ∃ h', h.demote fuel k = .ok h' ∧ toIB h' = b
  | 0, _, _, _, e => by cases e
  | fuel + 1, h, k, b, e => by
    unfold IBinary.demote at e
    unfold IHeap.demote
    change (if 2 * k ≤ h.n then _ else _) = _ at e
    split at e
    · next hk =>
      rw [if_pos hk]
      split at e <;> try cases e
      next j ej =>
      rw [pickChild_toIB ej]
      simp only
      split at e <;> try cases e
      next c ec =>
      rw [compare_toIB ec]
      simp only
      split at e
      · next hc => cases e; rw [if_pos hc]; exact ⟨h, rfl, rfl⟩
      · next hc =>
        rw [if_neg hc]
        split at e <;> try cases e
        next b1 e1 =>
        obtain ⟨h1, es, rfl⟩ := swap_toIB e1
        rw [es]
        exact demote_toIB fuel e
    · next hk => cases e; rw [if_neg hk]; exact ⟨h, rfl, rfl⟩

theorem containsIndex_toIB (h : IHeap) (i : Nat) : (toIB h).containsIndex (i : Int) = h.containsIndex i := by
  unfold IBinary.containsIndex IHeap.containsIndex
  by_cases hi : i < h.kvs.size <;> simp [toIB, hi]
  cases h.pos[i]? <;> rfl

theorem insert_toIB {h : IHeap} {i : Nat} {key : Int} {b : IBinary Int Unit} {r : Bool}
    (e : (toIB h).insert cmpKey (i : Int) key () = .ok (b, r)) : ∃ h', h.insert i key = .ok h' ∧ toIB h' = b := by
  unfold IBinary.insert at e
  unfold IHeap.insert
  rw [containsIndex_toIB] at e
  have hsz : (toIB h).kvs.size = h.kvs.size := Array.size_map ..
  split at e
  · next hr =>
    cases e
    have hr : i ≥ h.kvs.size := by omega
    refine ⟨h, ?_, rfl⟩
    unfold IHeap.containsIndex
    rw [if_neg (by omega)]
    simp [hr]
  · next hr =>
    have hr : ¬ i ≥ h.kvs.size := by omega
    split at e <;> try cases e
    · next hc => exact ⟨h, by rw [hc]; simp, rfl⟩
    · next hc =>
      simp only [Int.toNat_natCast] at e
      split at e <;> try cases e
      next hb =>
      split at e <;> try cases e
      next b2 e2 =>
      rw [hc]
      simp only [hr, false_or, Bool.false_eq_true, if_false]
      rw [if_pos ⟨hb.1, hb.2.1⟩]
      exact promote_toIB _ (by rw [toIB_setKvs]; exact e2)

theorem posOf_ok {b : IBinary Int Unit} {i p : Nat} (e : b.posOf i = .ok p) :
    ∃ q : Int, b.pos[i]? = some q ∧ ¬ q < 0 ∧ q.toNat = p := by
  unfold IBinary.posOf at e
  split at e <;> try cases e
  next q hq =>
  split at e <;> cases e
  exact ⟨q, hq, by omega, rfl⟩

theorem changeKey_toIB {h : IHeap} {i : Nat} {key : Int} {b : IBinary Int Unit} {r : Bool}
    (e : (toIB h).changeKey cmpKey (i : Int) key = .ok (b, r)) : ∃ h', h.changeKey i key = .ok h' ∧ toIB h' = b := by
  unfold IBinary.changeKey at e
  unfold IHeap.changeKey
  rw [containsIndex_toIB] at e
  split at e <;> try cases e
  · next hc => exact ⟨h, by rw [hc], rfl⟩
  · next hc =>
    rw [hc]
    simp only [Int.toNat_natCast] at e
    split at e <;> try cases e
    next k0 v hk =>
    rw [kvs_of_toIB hk]
    simp only
    split at e <;> try cases e
    next p ep =>
    obtain ⟨q, hq, hq0, rfl⟩ := posOf_ok ep
    rw [show ({ h with kvs := h.kvs.set! i (some key) } : IHeap).pos[i]? = some q from hq]
    simp only
    rw [if_neg hq0]
    split at e <;> try cases e
    next b2 e2 =>
    obtain ⟨h2, es2, rfl⟩ := promote_toIB (h := { h with kvs := h.kvs.set! i (some key) }) _
      (by rw [toIB_setKvs]; exact e2)
    rw [es2]
    simp only
    split at e <;> try cases e
    next p2 ep2 =>
    obtain ⟨q2, hq2, hq20, rfl⟩ := posOf_ok ep2
    rw [show h2.pos[i]? = some q2 from hq2]
    simp only
    rw [if_neg hq20]
    split at e <;> try cases e
    next b3 e3 => exact demote_toIB _ e3

theorem delete_toIB {h : IHeap} {b : IBinary Int Unit} {r : Option (Int × Int × Unit)}
    (e : (toIB h).delete cmpKey = .ok (b, r)) :
    ∃ h' r', h.delete = .ok (h', r') ∧ toIB h' = b ∧ r = r'.map fun x => ((x.1 : Int), x.2, ()) := by
  unfold IBinary.delete at e
  unfold IHeap.delete
  change (if h.n = 0 then _ else _) = _ at e
  split at e
  · next hn => cases e; rw [if_pos hn]; exact ⟨h, none, rfl, rfl, rfl⟩
  · next hn =>
    rw [if_neg hn]
    split at e <;> try cases e
    next i hi =>
    rw [show h.heap[1]? = some i from hi]
    simp only
    split at e <;> try cases e
    next k v hk =>
    rw [kvs_of_toIB hk]
    simp only
    split at e <;> try cases e
    next b1 e1 =>
    obtain ⟨h1, es1, rfl⟩ := swap_toIB (j := h.n) e1
    rw [es1]
    simp only at e ⊢
    split at e <;> try cases e
    next b3 e3 =>
    obtain ⟨h3, es3, rfl⟩ := demote_toIB (h1.n - 1 + 1) (h := { h1 with n := h1.n - 1 }) e3
    rw [es3]
    simp only
    split at e <;> try cases e
    next b4 e4 =>
    unfold IBinary.clearIndex at e4
    split at e4 <;> cases e4
    next hlt =>
    rw [if_pos ⟨hlt.1, (Array.size_map (xs := h3.kvs) ..) ▸ hlt.2⟩]
    exact ⟨_, _, rfl, toIB_setKvs h3 i none _ _ _, rfl⟩

theorem cmpKey_pos {a b : Int} : cmpKey a b > 0 ↔ a > b := by
  unfold cmpKey
  split
  · omega
  · split <;> omega

theorem cmpKey_neg {a b : Int} : cmpKey a b < 0 ↔ a < b := by
  unfold cmpKey
  split
  · omega
  · split <;> omega

theorem cmpKey_le {a b : Int} : cmpKey a b ≤ 0 ↔ a ≤ b := by
  unfold cmpKey
  split
  · omega
  · split <;> omega

theorem cmpKey_zero {a b : Int} (e : cmpKey a b = 0) : a = b := by
  unfold cmpKey at e
  split at e
  · cases e
  · split at e
    · cases e
    · omega

theorem lawful_cmpKey : LawfulCmp cmpKey :=
  ⟨fun a b h => cmpKey_le.2 (Int.not_lt.1 fun hlt => absurd (cmpKey_neg.2 hlt) (by omega)),
   fun _ _ _ h1 h2 => cmpKey_le.2 (Int.le_trans (cmpKey_le.1 h1) (cmpKey_le.1 h2))⟩

theorem abs_toIB (h : IHeap) (i : Nat) : IBinary.abs (toIB h) (i : Int) = (h.ky i).map (·, ()) := by
  unfold IBinary.abs IHeap.ky
  rw [Array.getD_eq_getD_getElem?]
  split
  · rw [Int.toNat_natCast, toIB_kvs]
    cases h.kvs[i]? <;> rfl
  · next hi =>
    have : h.kvs.size ≤ i := by have : (toIB h).kvs.size = h.kvs.size := Array.size_map ..; omega
    rw [Array.getElem?_eq_none this]; rfl

theorem ky_of_abs {h : IHeap} {i : Nat} {e : Int × Unit} (ha : IBinary.abs (toIB h) (i : Int) = some e) :
    h.ky i = some e.1 := by
  rw [abs_toIB] at ha
  obtain ⟨k, hk, rfl⟩ := Option.map_eq_some_iff.1 ha
  exact hk

section
variable {cap : Nat} {h : IHeap}

theorem HS.kvs_toIB (hs : HS cap h none) {i : Nat} (hi : i < cap) :
    (toIB h).kvs[i]? = some ((h.ky i).map (·, ())) := by
  rw [toIB_kvs, hs.get_kvs hi]; rfl

/-- the held indices are the entries of `heap[1..n]` in some order (the bijection), so there are as many -/
theorem HS.card (hs : HS cap h none) : h.n = C05.Spec.card cap (IBinary.abs (toIB h)) := by
  have hp : ((List.range h.n).map fun k => h.hp (k + 1)).Perm
      ((List.range cap).filter fun (i : Nat) => (IBinary.abs (toIB h) (i : Int)).isSome) := by
    refine (List.perm_ext_iff_of_nodup ?_ ((List.nodup_range (n := cap)).filter _)).2 fun x => ?_
    · show List.Pairwise (· ≠ ·) (List.map _ _)
      rw [List.pairwise_map]
      refine (List.nodup_range (n := h.n)).imp_of_mem fun {a b} ha hb hab e => ?_
      exact hab (Nat.succ.inj (hs.inj ⟨Nat.succ_pos a, List.mem_range.1 ha⟩ ⟨Nat.succ_pos b, List.mem_range.1 hb⟩ e))
    · simp only [List.mem_map, List.mem_range, List.mem_filter, abs_toIB, Option.isSome_map]
      constructor
      · rintro ⟨k, hk, rfl⟩
        exact ⟨(hs.A (k + 1) (Nat.succ_pos k) hk).1, (hs.A (k + 1) (Nat.succ_pos k) hk).2.2.1⟩
      · rintro ⟨xc, xs⟩
        obtain ⟨k, _, k1, k2, e⟩ := hs.B x xc (by simp) fun e => by rw [(hs.C x xc (by simp)).1 e] at xs; cases xs
        exact ⟨k - 1, by omega, by rw [Nat.sub_add_cancel k1]; exact e⟩
  simpa [C05.Spec.card] using hp.length_eq

theorem HS.wf (hs : HS cap h none) : IBinary.Wf cap h.n (toIB h) := by
  refine ⟨hs.hsz, hs.psz, (Array.size_map ..).trans hs.ksz, hs.nle, fun k k1 k2 => ?_, fun i hi => ?_⟩
  · obtain ⟨a1, a2, a3, _⟩ := hs.A k k1 k2
    obtain ⟨key, hkey⟩ := Option.isSome_iff_exists.1 a3
    exact ⟨_, hs.get_heap (Nat.le_trans k2 hs.nle), a1, a2 ▸ hs.get_pos a1, (key, ()), by rw [hs.kvs_toIB a1, hkey]; rfl⟩
  · have hC := hs.C i hi (by simp)
    by_cases e : h.ps i = -1
    · exact Or.inl ⟨e ▸ hs.get_pos hi, by rw [hs.kvs_toIB hi, hC.1 e]; rfl⟩
    · obtain ⟨k, hk, k1, k2, hki⟩ := hs.B i hi (by simp) e
      obtain ⟨key, hkey⟩ := Option.ne_none_iff_exists'.1 (mt hC.2 e)
      exact Or.inr ⟨k, k1, k2, hk ▸ hs.get_pos hi, hki ▸ hs.get_heap (Nat.le_trans k2 hs.nle), (key, ()), by
        rw [hs.kvs_toIB hi, hkey]; rfl⟩

theorem HS.keyP (hs : HS cap h none) {k : Nat} (k1 : 1 ≤ k) (k2 : k ≤ h.n) :
    IBinary.keyP (toIB h) k = some (h.kv k) := by
  obtain ⟨a1, _, a3, _⟩ := hs.A k k1 k2
  obtain ⟨key, hkey⟩ := Option.isSome_iff_exists.1 a3
  unfold IBinary.keyP IHeap.kv
  rw [show (toIB h).heap[k]? = _ from hs.get_heap (Nat.le_trans k2 hs.nle)]
  simp only
  rw [hs.kvs_toIB a1, hkey]; rfl

theorem HInv.inv (hv : HInv cap h) : IBinary.Inv cmpKey cap (toIB h) :=
  ⟨hv.s.wf, fun j j1 j2 => ⟨_, _, hv.s.keyP (half_pos j1) (Nat.le_trans (Nat.div_le_self j 2) j2),
    hv.s.keyP (Nat.le_of_succ_le j1) j2, cmpKey_le.2 (hv.o j j1 j2)⟩, hv.s.card⟩

theorem HS.of_wf (w : IBinary.Wf cap h.n (toIB h)) : HS cap h none := by
  refine ⟨w.hsize, w.psize, (Array.size_map ..).symm.trans w.ksize, w.nle, fun k k1 k2 => ?_, fun i hi _ hne => ?_,
    fun i hi _ => ?_⟩
  · obtain ⟨i, hi, hic, hpi, e, hke⟩ := w.fwd k k1 k2
    rw [show h.hp k = i from getD_of_getElem? 0 hi]
    exact ⟨hic, getD_of_getElem? (-1) hpi, by rw [show h.ky i = some e.1 from getD_of_getElem? none (kvs_of_toIB hke)]; rfl,
      Option.some_ne_none _⟩
  · rcases w.bwd i hi with ⟨hp, _⟩ | ⟨k, k1, k2, hp, hh, _⟩
    · exact absurd (getD_of_getElem? (-1) hp) hne
    · exact ⟨k, getD_of_getElem? (-1) hp, k1, k2, getD_of_getElem? 0 hh⟩
  · rcases w.bwd i hi with ⟨hp, hk⟩ | ⟨k, k1, k2, hp, hh, e, hk⟩
    · have : h.kvs[i]? = some none := by
        rw [toIB_kvs] at hk
        obtain ⟨o, ho, h2⟩ := Option.map_eq_some_iff.1 hk
        rwa [Option.map_eq_none_iff.1 h2] at ho
      exact ⟨fun _ => getD_of_getElem? none this, fun _ => getD_of_getElem? (-1) hp⟩
    · rw [show h.ps i = (k : Int) from getD_of_getElem? (-1) hp,
        show h.ky i = some e.1 from getD_of_getElem? none (kvs_of_toIB hk)]
      exact ⟨fun e => absurd e (natCast_ne_neg_one k), fun e => absurd e (Option.some_ne_none _)⟩

theorem HInv.of_inv (inv : IBinary.Inv cmpKey cap (toIB h)) : HInv cap h := by
  have s := HS.of_wf inv.wf
  refine ⟨s, fun c c1 c2 => ?_⟩
  obtain ⟨ka, kb, ha, hb, hle⟩ := inv.ord c c1 c2
  rw [s.keyP (half_pos c1) (Nat.le_trans (Nat.div_le_self c 2) c2)] at ha
  rw [s.keyP (Nat.le_of_succ_le c1) c2] at hb
  cases ha; cases hb
  exact cmpKey_le.1 hle

theorem KyUpd.of_abs {h' : IHeap} {i : Nat} {v : Option Int}
    (e : IBinary.abs (toIB h') = (IBinary.abs (toIB h)).set (i : Int) (v.map (·, ()))) : KyUpd h h' i v := by
  intro j
  have := congrFun e (j : Int)
  rw [abs_toIB, C05.Spec.Map.set, abs_toIB] at this
  have inj : Function.Injective (Option.map fun k : Int => (k, ())) :=
    Option.map_injective fun _ _ e => congrArg Prod.fst e
  by_cases hj : j = i
  · rw [if_pos (congrArg _ hj)] at this
    rw [if_pos hj]; exact inj this
  · rw [if_neg (by omega)] at this
    rw [if_neg hj]; exact inj this

end

section
variable {cap : Nat} {h : IHeap}

theorem hinv_new (cap : Nat) : HInv cap (IHeap.new cap) :=
  have e : toIB (IHeap.new cap) = IBinary.new cap := by simp [toIB, IHeap.new, IBinary.new]
  .of_inv (e ▸ IBinary.inv_new cmpKey cap)

theorem containsIndex_spec (hs : HS cap h none) (i : Nat) :
    h.containsIndex i = .ok (h.ky i).isSome := by
  rw [← containsIndex_toIB, IBinary.containsIndex_spec hs.wf, abs_toIB, Option.isSome_map]

theorem insert_spec (hv : HInv cap h) {i : Nat} (hi : i < cap)
    (hfree : h.ky i = none) (key : Int) :
    ∃ h', h.insert i key = .ok h' ∧ HInv cap h' ∧ KyUpd h h' i (some key) := by
  obtain ⟨b, r, e, inv, ha⟩ := IBinary.insert_sim (eq := fun _ _ => true) lawful_cmpKey hv.inv (i : Int) key ()
  obtain ⟨h', e', rfl⟩ := insert_toIB e
  refine ⟨h', e', .of_inv inv, ?_⟩
  generalize hm : IBinary.abs (toIB h') = m' at ha
  cases ha with
  | insert_ok _ _ => exact .of_abs hm
  | insert_fail hn => exact absurd ⟨⟨Int.natCast_nonneg i, Int.ofNat_lt.2 hi⟩, by rw [abs_toIB, hfree]; rfl⟩ hn

theorem changeKey_spec (hv : HInv cap h) {i : Nat} {old : Int} (hold : h.ky i = some old) (key : Int) :
    ∃ h', h.changeKey i key = .ok h' ∧ HInv cap h' ∧ KyUpd h h' i (some key) := by
  obtain ⟨b, r, e, inv, ha⟩ := IBinary.changeKey_sim (eq := fun _ _ => true) lawful_cmpKey hv.inv (i : Int) key
  obtain ⟨h', e', rfl⟩ := changeKey_toIB e
  refine ⟨h', e', .of_inv inv, ?_⟩
  generalize hm : IBinary.abs (toIB h') = m' at ha
  cases ha with
  | changeKey_ok _ hk' =>
    -- the Spec allows the old key to remain when the new one compares equal; under `cmpKey` equal keys are the same
    cases hk'.elim id fun ⟨e1, e2⟩ => e1.trans (cmpKey_zero e2).symm
    exact .of_abs hm
  | changeKey_fail hn => rw [abs_toIB, hold] at hn; cases hn

theorem delete_spec (hv : HInv cap h) (hne : h.isEmpty = false) :
    ∃ h' i key, h.delete = .ok (h', some (i, key)) ∧ HInv cap h' ∧ i < cap ∧ h.ky i = some key ∧
      (∀ j kj, h.ky j = some kj → key ≤ kj) ∧ KyUpd h h' i none := by
  obtain ⟨b, r, e, inv, ha⟩ := IBinary.delete_sim (eq := fun _ _ => true) lawful_cmpKey hv.inv
  obtain ⟨h', r', e', rfl, rfl⟩ := delete_toIB e
  generalize hm : IBinary.abs (toIB h') = m' at ha
  rcases r' with _ | ⟨i, key⟩
  · cases ha with
    | delete_none hall =>
      rw [(isEmpty_iff hv.s).2 fun j => by
        cases hk : h.ky j with
        | none => rfl
        | some k => have := hall j; rw [abs_toIB, hk] at this; cases this] at hne
      cases hne
  · cases ha with
    | delete_some hi hext =>
      have hky := ky_of_abs hi
      exact ⟨h', i, key, e', .of_inv inv, (hv.s.pos_of_key hky).1, hky,
        fun j kj hj => cmpKey_le.1 (hext j kj () (by rw [abs_toIB, hj]; rfl)), .of_abs hm⟩

theorem upsert_spec (hv : HInv cap h) {w : Nat} (hw : w < cap) (key : Int) :
    ∃ h', h.upsert w key = .ok h' ∧ HInv cap h' ∧ KyUpd h h' w (some key) := by
  unfold IHeap.upsert
  rw [containsIndex_spec hv.s]
  cases hk : h.ky w with
  | none => simpa using insert_spec hv hw hk key
  | some old => simpa using changeKey_spec hv hk key

end

/-! For the two clients, Prim and Dijkstra: the distance test, and "reached = done or queued". -/

theorem lt_of_ltDist {a b : Int} {o : Option Int} (h : ltDist a o = true) (ho : o = some b) : a < b := by
  subst ho; exact of_decide_eq_true h

theorem le_of_not_ltDist {a : Int} {o : Option Int} (h : ltDist a o = false) : ∃ b, o = some b ∧ b ≤ a := by
  cases o with
  | none => exact Bool.noConfusion h
  | some b => exact ⟨b, rfl, Int.not_lt.1 (of_decide_eq_false h)⟩

theorem reached_upd {V : Nat → Prop} {dist dist' ky ky' : Nat → Option Int} {w : Nat} {o : Option Int}
    (hd : ∀ v, dist' v = if v = w then o else dist v) (hk : ∀ v, ky' v = if v = w then o else ky v)
    (h : ∀ v d, dist v = some d → V v ∨ ky v = some d) (v : Nat) (d : Int) (hv : dist' v = some d) :
    V v ∨ ky' v = some d := by
  rw [hd] at hv
  rw [hk]
  split
  · exact Or.inr (by rwa [if_pos ‹_›] at hv)
  · exact h v d (by rwa [if_neg ‹_›] at hv)

theorem reached_del {V V' : Nat → Prop} {dist ky ky' : Nat → Option Int} {u : Nat} (hV : ∀ v, V v → V' v) (hu : V' u)
    (hk : ∀ v, ky' v = if v = u then none else ky v) (h : ∀ v d, dist v = some d → V v ∨ ky v = some d)
    (v : Nat) (d : Int) (hv : dist v = some d) : V' v ∨ ky' v = some d := by
  by_cases e : v = u
  · exact .inl (e ▸ hu)
  · exact (h v d hv).imp (hV v) ((hk v).trans (if_neg e)).trans

end AlgoVerif.C14
