import AlgoVerif.Proofs.C11BuiltCompleteFollow
import AlgoVerif.Proofs.C11BuiltCompleteAuto
import AlgoVerif.Proofs.C11BuiltCompleteFill
import AlgoVerif.Proofs.C11Valid
import AlgoVerif.Proofs.C11CompleteSLRCheck
import AlgoVerif.Proofs.C11Resolve
import AlgoVerif.Proofs.C11Demo
/-!
# C11 — every conflict-free table BUILT by the SLR(1) / canonical LR(1) constructions of the Model passes the
completeness validator; on a table that passes both validators the driver accepts exactly `L(G)`

The link between the constructions (`Model/C11.lean`) and `C11_complete_validated` / `C11_exact_validated`.
NO assumption on the fuel: the theorems are conditional on the builder returning `.ok`, i.e. on the fuelled loops of CLOSURE and
of the collection having stopped because a pass added nothing; the loops of nullable/FIRST/FOLLOW choose their own fuel, which
is shown to suffice.

The facts about a built table (`SetOK`, `StatesComplete`, `RowDone`: propositions) are packed into the Booleans of the validator
on purpose: the validator is the one interface between the constructions and the driver, shared with the per-case `check` op;
where a proof needs the predicate `CompleteTable` of a built table, `Complete.completeTable_of_check` unpacks it again.
-/
namespace AlgoVerif.C11.BuiltComplete
open AlgoVerif AlgoVerif.Gram AlgoVerif.C11 AlgoVerif.C11.Spec AlgoVerif.C11.Built AlgoVerif.C11.Sound
  AlgoVerif.C11.Complete

section
variable {g g' : SGrammar} (h : AugOK g g') (hL : AugListed g')
  {A : Auto} (hAg : A.g = g') (hAk : A.kernel = false)
  {Q : Item → Prop} (hQ : ItemProp A.g A.nl A.fe Q) (hQi : Q A.initialItem)
  {C : List (List Item)} (hc : A.canonical = Outcome.ok C)
include h hAg hAk hc

theorem init_in_state0 : A.initialItem ∈ itemsAt (buildStateMap g'.start C) 0 := by
  obtain ⟨I0, rest, rfl, h0, hr⟩ := canonical_spec h hAg hAk hc
  obtain ⟨_, tail, heq, _⟩ := stateMap_spec' (isInitial_initialItem h hAg) h0 hr
  have : itemsAt (buildStateMap g'.start (I0 :: rest)) 0 = (buildStateMap g'.start (I0 :: rest)).getD 0 [] :=
    itemsAt_nat _ 0
  rw [this, heq]
  simp only [List.getD_cons_zero]
  exact (mem_sortBy _ _ _).mpr h0.1

theorem states_good : ∀ (i : Nat) (I : List Item), (buildStateMap g'.start C)[i]? = some I → ∀ it ∈ I, Good g' it :=
  statesOK_good (stateMap_spec (isInitial_initialItem h hAg) (canonical_spec h hAg hAk hc))

include hQ hQi

omit h hAg in
theorem states_closed : chkClosed A.g A.nl A.fe (buildStateMap g'.start C) = true :=
  chkClosed_of fun I hI => ((statesComplete hAk hQ hQi hc g'.start).setOK I hI).1

omit h hAg in
theorem states_allQ : ∀ I ∈ buildStateMap g'.start C, ∀ it ∈ I, Q it :=
  fun I hI => ((statesComplete hAk hQ hQi hc g'.start).setOK I hI).2

variable (reduceOn : Item → List String) {T : Table}
  (hT : fillFull A (buildStateMap g'.start C) reduceOn = Outcome.ok T)
include hL hT

theorem table_checks (follow : String → List String)
    (hred : ∀ it, Q it → (match it.la with | some a => [a] | none => follow it.prod.head) = reduceOn it) :
    chkAdvance (buildStateMap g'.start C) T = true ∧
      chkReduceComplete g'.start follow (buildStateMap g'.start C) T = true := by
  subst hAg
  have hSC := statesComplete hAk hQ hQi hc A.g.start
  have hgood := states_good h rfl hAk hc
  have hst : ∀ (i : Nat) Ic, (buildStateMap A.g.start C)[i]? = some Ic → ∃ I c, (buildStateMap A.g.start C)[i]? = some I ∧
      pure I = Outcome.ok c ∧ ∀ it ∈ Ic, it ∈ c ∧ Good A.g it :=
    fun i Ic hi => ⟨Ic, Ic, hi, rfl, fun it hit => ⟨hit, hgood i Ic hi it hit⟩⟩
  have hdone := fun i I hI => (fillRel_done (fillRel_of_fillFull hT)).2 i I (Nat.zero_le i) hI
  refine ⟨chkAdvance_of_done h hL.listed.terms hL.bodies hst hdone ?_,
    chkReduceComplete_of_done hst hdone follow
      (fun i Ic hi it hit => hred it ((hSC.setOK Ic (List.mem_of_getElem? hi)).2 it hit))⟩
  intro i I c it X J hI hc' hitc hd hX hJ
  cases pure_eq_ok hc'
  obtain ⟨n, K', hn, hK', hnext⟩ := hSC.found I (List.mem_of_getElem? hI) it hitc X hd hX J hJ
  exact ⟨n, hn, by rw [itemsAt_of_get hK']; exact hnext⟩

end

theorem built_complete_lr1 (g : SGrammar) (hv : ValidG g) (ht : TermsListed g) (fuel : Nat) (b : Built)
    (hb : buildLR1 g fuel = Outcome.ok b) (hcf : chkConflictFree b.table = true) : completeLR1OK g b = true := by
  obtain ⟨g', C, T, hg', hC, hT, rfl⟩ := buildLR1_ok hb
  have h := augOK_of_augment hv hg'
  have hL := augListed hv ht hg'
  have hQ := itemProp_some g' (nullableOf g') (firstEnv g' (nullableOf g'))
  have hinitEq := initialItem_eq h (A := mkAuto g' true false fuel) rfl
  have hQi : (mkAuto g' true false fuel).initialItem.la.isSome = true := by rw [hinitEq]; rfl
  have h0 := init_in_state0 h (A := mkAuto g' true false fuel) rfl rfl hC
  have hall := states_allQ (g' := g') (A := mkAuto g' true false fuel) rfl hQ hQi hC
  have hcl := states_closed (g' := g') (A := mkAuto g' true false fuel) rfl hQ hQi hC
  obtain ⟨hadv, hred⟩ := table_checks h hL (A := mkAuto g' true false fuel) rfl rfl hQ hQi hC _ hT (fun _ => [])
    (fun it _ => by cases it.la <;> rfl)
  unfold completeLR1OK
  rw [hg']
  simp only [Bool.and_eq_true, beq_iff_eq]
  refine ⟨⟨⟨⟨⟨⟨⟨⟨⟨trivial, ?_⟩, ?_⟩, ?_⟩, ?_⟩, hcl⟩, hadv⟩, hred⟩, hcf⟩, chkFresh_of_aug h⟩
  · exact nullable_closed g' hL.listed.heads
  · exact first_closed g' hL.listed _
  · unfold chkInitLR1
    rw [hinitEq] at h0
    simpa [startProd, mkAuto] using h0
  · unfold chkAllLR1
    rw [List.all_eq_true]
    intro I hI
    rw [List.all_eq_true]
    exact hall I hI

theorem built_complete_slr (g : SGrammar) (hv : ValidG g) (ht : TermsListed g) (fuel : Nat) (b : Built)
    (hb : buildSLR g fuel = Outcome.ok b) (hcf : chkConflictFree b.table = true) : completeSLROK g b = true := by
  obtain ⟨g', C, T, hg', hC, hT, rfl⟩ := buildSLR_ok hb
  have h := augOK_of_augment hv hg'
  have hL := augListed hv ht hg'
  have hQ := itemProp_none g' (nullableOf g') (firstEnv g' (nullableOf g'))
  have hinitEq := initialItem_eq h (A := mkAuto g' false false fuel) rfl
  have hQi : (mkAuto g' false false fuel).initialItem.la = none := by rw [hinitEq]; rfl
  have h0 := init_in_state0 h (A := mkAuto g' false false fuel) rfl rfl hC
  have hall := states_allQ (g' := g') (A := mkAuto g' false false fuel) rfl hQ hQi hC
  have hcl := states_closed (g' := g') (A := mkAuto g' false false fuel) rfl hQ hQi hC
  obtain ⟨hadv, hred⟩ := table_checks h hL (A := mkAuto g' false false fuel) rfl rfl hQ hQi hC _ hT
    (envGet (followEnv g' (nullableOf g') (firstEnv g' (nullableOf g'))))
    (fun it hit => by have hit' : it.la = none := hit; rw [hit'])
  obtain ⟨hfc, hfe⟩ := follow_closed g' hL.listed hL.endIn (nullableOf g') hL.bodies hL.startIn
  -- FOLLOW(S) ∋ $ : from FOLLOW(S′) ∋ $ and the production S′ → S
  have hfs : endmarker ∈ envGet (followEnv g' (nullableOf g') (firstEnv g' (nullableOf g'))) g.start := by
    unfold chkFollowClosed at hfc
    rw [List.all_eq_true] at hfc
    have := hfc (startProd g g') ((mem_prods' h).mpr (Or.inr rfl))
    simp only [startProd, followClosedBody, List.all_nil, Bool.not_true, Bool.false_or, Bool.and_true,
      Bool.and_eq_true, List.all_eq_true, firstOfStr] at this
    simpa using this.2 endmarker hfe
  unfold completeSLROK
  rw [hg']
  simp only [Bool.and_eq_true, beq_iff_eq]
  refine ⟨⟨⟨⟨⟨⟨⟨⟨⟨⟨⟨trivial, ?_⟩, ?_⟩, hfc⟩, ?_⟩, ?_⟩, ?_⟩, hcl⟩, hadv⟩, hred⟩, hcf⟩, chkFresh_of_aug h⟩
  · exact nullable_closed g' hL.listed.heads
  · exact first_closed g' hL.listed _
  · simpa using hfs
  · rw [hinitEq] at h0
    simpa [startProd, mkAuto] using h0
  · rw [List.all_eq_true]
    intro I hI
    rw [List.all_eq_true]
    intro it hit
    simp [hall I hI it hit]

theorem built_complete (k : Kind) (hk : k ≠ Kind.lalr) (g : SGrammar) (hv : ValidG g) (ht : TermsListed g) (fuel : Nat)
    (b : Built) (hb : build k g fuel = Outcome.ok b) (hcf : chkConflictFree b.table = true) :
    completeOKFor k g b = true := by
  cases k with
  | slr => exact built_complete_slr g hv ht fuel b hb hcf
  | lalr => exact absurd rfl hk
  | lr1 => exact built_complete_lr1 g hv ht fuel b hb hcf

theorem exact_of_sound_complete {k : Kind} {g : SGrammar} {b : Built} (hS : soundOK g b = true)
    (hC : completeOKFor k g b = true) (w : List String) (hend : endmarker ∉ w) :
    Language g w ↔ ∃ fuel' π root, parse b.table.toTbl fuel' w = .ok (.accept π root) := by
  constructor
  · intro hw
    obtain ⟨f, t, _, _, hp⟩ := complete_of_check k g b hC w hw
    exact ⟨f, _, _, hp⟩
  · rintro ⟨f, π, root, hp⟩
    exact derives_of_rderiv (parse_sound (soundTable_of_within g b b.table hS (within_refl _)) w hend f π root hp).1

open AlgoVerif.C11.Demo

example : ValidG g17 ∧ TermsListed g17 := ⟨validG_sound (by decide), termsListed_sound (by decide)⟩
example : ValidG gAnBn ∧ TermsListed gAnBn := ⟨validG_sound (by decide), termsListed_sound (by decide)⟩

/-- the canonical LR(1) builder returns a conflict-free table for `S → a S | a a a`, and the SLR(1) and LR(1) builders do
for `S → a S b | ε` (an ε-production, so nullable/FIRST/FOLLOW matter) -/
theorem built_conflict_free_witness :
    (match build .lr1 g17 40 with | .ok b => chkConflictFree b.table | _ => false) = true ∧
    (match build .slr gAnBn 40 with | .ok b => chkConflictFree b.table | _ => false) = true ∧
    (match build .lr1 gAnBn 40 with | .ok b => chkConflictFree b.table | _ => false) = true := by decide +kernel

/-- `built_complete` at work on `S → a S b | ε` -/
example (b : Built) (hb : build .slr gAnBn 40 = .ok b) (w : List String) (hend : endmarker ∉ w) :
    Language gAnBn w ↔ ∃ fuel' π root, parse b.table.toTbl fuel' w = .ok (.accept π root) := by
  have hcf : chkConflictFree b.table = true := by
    have := built_conflict_free_witness.2.1
    rw [hb] at this
    exact this
  exact exact_of_sound_complete (soundOK_buildSLR (validG_sound (by decide)) hb)
    (built_complete .slr (by decide) gAnBn (validG_sound (by decide)) (termsListed_sound (by decide)) 40 b hb hcf) w hend

example (b : Built) (hb : build .lr1 g17 40 = .ok b) (w : List String) (hend : endmarker ∉ w) :
    Language g17 w ↔ ∃ fuel' π root, parse b.table.toTbl fuel' w = .ok (.accept π root) := by
  have hcf : chkConflictFree b.table = true := by
    have := built_conflict_free_witness.1
    rw [hb] at this
    exact this
  exact exact_of_sound_complete (soundOK_buildLR1 (validG_sound (by decide)) hb)
    (built_complete .lr1 (by decide) g17 (validG_sound (by decide)) (termsListed_sound (by decide)) 40 b hb hcf) w hend

end AlgoVerif.C11.BuiltComplete
