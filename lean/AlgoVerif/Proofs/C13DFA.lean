import AlgoVerif.Proofs.C13Closure
import AlgoVerif.Proofs.C13Minimal
namespace AlgoVerif.C13
open AlgoVerif AlgoVerif.C13.Spec

def DFA.lang (d : DFA) : Lang := dfaLang d.δ d.start (fun f => f ∈ d.final)

theorem DFA.next_eq (d : DFA) (s a : Int) : d.next s a = (d.δ s a).getD (-1) := by
  simp only [DFA.next, DFA.δ]; cases aget s d.trans <;> simp

theorem DFA.δ_add (d : DFA) (s a t s' a' : Int) :
    (d.add s a t).δ s' a' = if s' = s ∧ a' = a then some t else d.δ s' a' := by
  simp only [DFA.add, DFA.δ, aget_aput]
  by_cases hs : s' = s
  · subst hs
    simp only [true_and, if_true, aget_aput]
    by_cases ha : a' = a
    · simp [ha]
    · simp [ha]; cases aget s' d.trans <;> simp [aget]
  · simp [hs]

@[simp] theorem DFA.start_add (d : DFA) (s a t : Int) : (d.add s a t).start = d.start := rfl
@[simp] theorem DFA.final_add (d : DFA) (s a t : Int) : (d.add s a t).final = d.final := rfl

/-- `-1` (the "invalid state" `Next` returns) is not used as a state id -/
def DFA.Proper (d : DFA) : Prop := (-1 : Int) ∉ d.final ∧ ∀ a, d.δ (-1) a = none

theorem DFA.foldl_next (d : DFA) (hp : ∀ a, d.δ (-1) a = none) (s : Int) (w : Word) :
    w.foldl d.next s = (dfaRun d.δ (some s) w).getD (-1) := by
  induction w generalizing s with
  | nil => rfl
  | cons a w ih =>
    simp only [List.foldl_cons, dfaRun]
    rw [ih, d.next_eq]
    cases d.δ s a with
    | some t => rfl
    | none =>
      -- from -1 the run stays undefined
      cases w with
      | nil => rfl
      | cons b w => simp only [Option.getD_none, dfaRun, hp, dfaRun_none]

theorem DFA.accept_spec (d : DFA) (hp : d.Proper) (w : Word) : d.accept w = true ↔ d.lang w := by
  simp only [DFA.accept, DFA.lang, dfaLang, d.foldl_next hp.2]
  cases h : dfaRun d.δ (some d.start) w with
  | none => simp; exact hp.1
  | some f => simp

def NFA.WF (n : NFA) : Prop := ASorted n.trans ∧ ∀ st ∈ n.trans, ASorted st.2
def DFA.WF (d : DFA) : Prop := ASorted d.trans ∧ ∀ st ∈ d.trans, ASorted st.2

theorem mem_aput {β : Type} {k : Int} {v : β} {l : List (Int × β)} {p : Int × β} (h : p ∈ aput k v l) :
    p = (k, v) ∨ p ∈ l := by
  induction l with
  | nil => exact Or.inl (List.mem_singleton.1 h)
  | cons q r ih =>
    obtain ⟨k', v'⟩ := q
    simp only [aput] at h
    split at h
    · exact List.mem_cons.1 h
    · split at h
      · exact (List.mem_cons.1 h).imp_right (List.mem_cons_of_mem _)
      · rcases List.mem_cons.1 h with h | h
        · exact Or.inr (h ▸ List.mem_cons_self ..)
        · exact (ih h).imp_right (List.mem_cons_of_mem _)

theorem NFA.WF_new (s : Int) (f : List Int) : (NFA.new s f).WF := by
  simp [NFA.WF, NFA.new, ASorted]

theorem DFA.WF_new (s : Int) (f : List Int) : (DFA.new s f).WF := by
  simp [DFA.WF, DFA.new, ASorted]

theorem asorted_aput_aput {β : Type} {tr : List (Int × List (Int × β))} (h1 : ASorted tr)
    (h2 : ∀ st ∈ tr, ASorted st.2) (s a : Int) (v : β) :
    ASorted (aput s (aput a v ((aget s tr).getD [])) tr) ∧
      ∀ st ∈ aput s (aput a v ((aget s tr).getD [])) tr, ASorted st.2 := by
  refine ⟨asorted_aput h1, fun st hst => ?_⟩
  rcases mem_aput hst with rfl | h'
  · apply asorted_aput
    cases hg : aget s tr with
    | none => simp [ASorted]
    | some v => exact h2 _ (aget_mem hg)
  · exact h2 st h'

theorem NFA.WF_add {n : NFA} (h : n.WF) (s a : Int) (nx : List Int) : (n.add s a nx).WF :=
  asorted_aput_aput h.1 h.2 s a _

theorem DFA.WF_add {d : DFA} (h : d.WF) (s a t : Int) : (d.add s a t).WF :=
  asorted_aput_aput h.1 h.2 s a t

/-- the entries `(s, a, x)` of a two-level table, in iteration order -/
def entries {β : Type} (tr : List (Int × List (Int × β))) : List (Int × Int × β) :=
  tr.flatMap (fun st => st.2.map (fun e => (st.1, e.1, e.2)))

theorem entries_cons {β : Type} (st : Int × List (Int × β)) (tr : List (Int × List (Int × β))) :
    entries (st :: tr) = st.2.map (fun e => (st.1, e.1, e.2)) ++ entries tr := by
  simp [entries]

theorem mem_entries_cons {β : Type} (s1 : Int) (es1 : List (Int × β)) (tr : List (Int × List (Int × β)))
    (s a : Int) (x : β) :
    (s, a, x) ∈ entries ((s1, es1) :: tr) ↔ (s = s1 ∧ (a, x) ∈ es1) ∨ (s, a, x) ∈ entries tr := by
  rw [entries_cons, List.mem_append, List.mem_map]
  refine or_congr_left ⟨?_, ?_⟩
  · rintro ⟨e, he, heq⟩; cases heq; exact ⟨rfl, he⟩
  · rintro ⟨rfl, h⟩; exact ⟨(a, x), h, rfl⟩

theorem foldl_nested {β γ : Type} (tr : List (Int × List (Int × β))) (g : γ → Int → Int → β → γ) (init : γ) :
    tr.foldl (fun acc st => st.2.foldl (fun acc e => g acc st.1 e.1 e.2) acc) init
      = (entries tr).foldl (fun acc e => g acc e.1 e.2.1 e.2.2) init := by
  induction tr generalizing init with
  | nil => simp [entries]
  | cons st tr ih =>
    simp only [List.foldl_cons, entries, List.flatMap_cons, List.foldl_append]
    rw [ih]
    congr 1
    simp [List.foldl_map]

theorem mem_entries_of_aget {β : Type} {tr : List (Int × List (Int × β))} {s a : Int} {st : List (Int × β)} {x : β}
    (h1 : aget s tr = some st) (h2 : aget a st = some x) : (s, a, x) ∈ entries tr :=
  List.mem_flatMap.2 ⟨(s, st), aget_mem h1, List.mem_map.2 ⟨(a, x), aget_mem h2, rfl⟩⟩

theorem aget_of_mem_entries {β : Type} {tr : List (Int × List (Int × β))} (h1 : ASorted tr)
    (h2 : ∀ st ∈ tr, ASorted st.2) {s a : Int} {x : β} (h : (s, a, x) ∈ entries tr) :
    ∃ st, aget s tr = some st ∧ aget a st = some x := by
  obtain ⟨st, hst, hm⟩ := List.mem_flatMap.1 h
  obtain ⟨e, he, heq⟩ := List.mem_map.1 hm
  cases heq
  exact ⟨st.2, (mem_iff_aget h1 _ _).1 hst, (mem_iff_aget (h2 st hst) _ _).1 he⟩

theorem NFA.next_entry {n : NFA} {s a : Int} {nx : List Int} (h : n.next s a = some nx) :
    (s, a, nx) ∈ entries n.trans := by
  simp only [NFA.next] at h
  split at h
  · exact mem_entries_of_aget ‹_› h
  · cases h

theorem DFA.δ_entry {d : DFA} {s a t : Int} (h : d.δ s a = some t) : (s, a, t) ∈ entries d.trans := by
  simp only [DFA.δ] at h
  split at h
  · exact mem_entries_of_aget ‹_› h
  · cases h

theorem mem_entries_NFA {n : NFA} (h : n.WF) (s a : Int) (nx : List Int) :
    (s, a, nx) ∈ entries n.trans ↔ n.next s a = some nx := by
  refine ⟨fun hm => ?_, NFA.next_entry⟩
  obtain ⟨st, h1, h2⟩ := aget_of_mem_entries h.1 h.2 hm
  simp only [NFA.next, h1, h2]

theorem mem_entries_DFA {d : DFA} (h : d.WF) (s a t : Int) :
    (s, a, t) ∈ entries d.trans ↔ d.δ s a = some t := by
  refine ⟨fun hm => ?_, DFA.δ_entry⟩
  obtain ⟨st, h1, h2⟩ := aget_of_mem_entries h.1 h.2 hm
  simp only [DFA.δ, h1, h2]

theorem entries_fun {d : DFA} (h : d.WF) {s a t t' : Int} (h1 : (s, a, t) ∈ entries d.trans)
    (h2 : (s, a, t') ∈ entries d.trans) : t = t' := by
  have e1 := (mem_entries_DFA h _ _ _).1 h1
  have e2 := (mem_entries_DFA h _ _ _).1 h2
  rw [e1] at e2; injection e2

theorem NFA.Δ_foldl_add (L : List (Int × Int × List Int)) (n0 : NFA) (s a t : Int) :
    (L.foldl (fun acc e => acc.add e.1 e.2.1 e.2.2) n0).Δ s a t ↔
      n0.Δ s a t ∨ ∃ nx, (s, a, nx) ∈ L ∧ t ∈ nx := by
  induction L generalizing n0 with
  | nil => simp
  | cons e L ih =>
    obtain ⟨s1, a1, nx1⟩ := e
    rw [List.foldl_cons, ih, NFA.Δ_add]
    simp only [List.mem_cons, Prod.mk.injEq, or_and_right, exists_or, or_assoc, and_assoc, exists_and_left,
      exists_eq_left]

theorem NFA.empty_Δ (s f) (x a y : Int) : (NFA.mk s f []).Δ x a y ↔ False := by
  simp [NFA.Δ, NFA.next, aget]

/-- the NFA obtained by adding a list of entries to the empty table: what `ToNFA`, `Clone` and the renamed copy of
`Isomorphic` build -/
def NFA.ofEntries (s : Int) (f : List Int) (L : List (Int × Int × List Int)) : NFA :=
  L.foldl (fun (acc : NFA) e => acc.add e.1 e.2.1 e.2.2) ⟨s, f, []⟩

theorem NFA.ofEntries_Δ (s : Int) (f : List Int) (L : List (Int × Int × List Int)) (x a y : Int) :
    (NFA.ofEntries s f L).Δ x a y ↔ ∃ nx, (x, a, nx) ∈ L ∧ y ∈ nx := by
  rw [NFA.ofEntries, NFA.Δ_foldl_add, NFA.empty_Δ, false_or]

theorem NFA.ofEntries_start_final (s : Int) (f : List Int) (L : List (Int × Int × List Int)) :
    (NFA.ofEntries s f L).start = s ∧ (NFA.ofEntries s f L).final = f := by
  refine foldl_keeps (P := fun acc : NFA => acc.start = s ∧ acc.final = f) (fun _ _ h => ?_) L ⟨rfl, rfl⟩
  exact h

theorem NFA.ofEntries_WF (s : Int) (f : List Int) (L : List (Int × Int × List Int)) : (NFA.ofEntries s f L).WF :=
  foldl_keeps (P := NFA.WF) (fun _ _ h => NFA.WF_add h _ _ _) L (by simp [NFA.WF, ASorted])

theorem DFA.toNFA_eq (d : DFA) :
    d.toNFA = NFA.ofEntries d.start d.final ((entries d.trans).map (fun e => (e.1, e.2.1, [e.2.2]))) := by
  simp only [DFA.toNFA, NFA.ofEntries]
  have h := foldl_nested (γ := NFA) d.trans (fun acc s a t => acc.add s a [t]) ⟨d.start, d.final, []⟩
  rw [h]
  simp [List.foldl_map]

theorem DFA.toNFA_Δ {d : DFA} (h : d.WF) (s a t : Int) : d.toNFA.Δ s a t ↔ d.δ s a = some t := by
  rw [d.toNFA_eq, NFA.ofEntries_Δ]
  simp only [List.mem_map]
  constructor
  · rintro ⟨nx, ⟨e, he, heq⟩, ht⟩
    obtain ⟨s1, a1, t1⟩ := e
    simp at heq; obtain ⟨rfl, rfl, rfl⟩ := heq
    simp at ht; subst ht
    exact (mem_entries_DFA h _ _ _).1 he
  · intro hh
    exact ⟨[t], ⟨(s, a, t), (mem_entries_DFA h _ _ _).2 hh, rfl⟩, by simp⟩

theorem DFA.toNFA_start_final (d : DFA) : d.toNFA.start = d.start ∧ d.toNFA.final = d.final := by
  rw [d.toNFA_eq]
  exact NFA.ofEntries_start_final _ _ _

theorem DFA.toNFA_WF (d : DFA) : d.toNFA.WF := by
  rw [d.toNFA_eq]
  exact NFA.ofEntries_WF _ _ _

theorem nfaLang_of_deterministic (δN : Int → Int → Int → Prop) (δD : Int → Int → Option Int)
    (h : ∀ s a t, δN s a t ↔ δD s a = some t) (he : ∀ s, δD s Spec.eps = none)
    (start : Int) (final : Int → Prop) (w : Word) :
    nfaLang δN start final w ↔ dfaLang δD start final w := by
  have hreach : ∀ s t, EReach δN s t → s = t := by
    intro s t hr
    induction hr with
    | refl => rfl
    | step _ h2 ih => rw [h] at h2; rw [he] at h2; simp at h2
  have hpath : ∀ s t, Path δN s w t ↔ dfaRun δD (some s) w = some t := by
    induction w with
    | nil =>
      intro s t
      constructor
      · intro hp; cases hp with | eps hr => simp [dfaRun, hreach _ _ hr]
      · intro hh; simp [dfaRun] at hh; subst hh; exact Path.eps (EReach.refl _)
    | cons a w ih =>
      intro s t
      rw [dfaRun_cons_eq_some]
      constructor
      · intro hp
        cases hp with
        | cons hr hd hp' =>
          cases hreach _ _ hr
          exact ⟨_, (h _ _ _).1 hd, (ih _ _).1 hp'⟩
      · rintro ⟨s2, hd, hh⟩
        exact Path.cons (EReach.refl s) ((h _ _ _).2 hd) ((ih _ _).2 hh)
  simp only [nfaLang, dfaLang]
  constructor
  · rintro ⟨f, hf, hp⟩; exact ⟨f, (hpath _ _).1 hp, hf⟩
  · rintro ⟨f, hp, hf⟩; exact ⟨f, hf, (hpath _ _).2 hp⟩

def DFA.NoEps (d : DFA) : Prop := ∀ s, d.δ s E = none

theorem DFA.toNFA_lang {d : DFA} (h : d.WF) (he : d.NoEps) (w : Word) : d.toNFA.lang w ↔ d.lang w := by
  simp only [NFA.lang, DFA.lang, d.toNFA_start_final.1, d.toNFA_start_final.2]
  exact nfaLang_of_deterministic _ _ (fun s a t => DFA.toNFA_Δ h s a t) (fun s => by rw [← E_eq]; exact he s) _ _ w

-- decidable sufficient checks for `Proper` and `NoEps`
def DFA.properB (d : DFA) : Bool := !d.final.contains (-1) && (aget (-1) d.trans).isNone
def DFA.noEpsB (d : DFA) : Bool := d.trans.all (fun st => (aget E st.2).isNone)

theorem DFA.proper_of_properB {d : DFA} (h : d.properB = true) : d.Proper := by
  simp [DFA.properB] at h
  refine ⟨by simpa using h.1, fun a => ?_⟩
  simp [DFA.δ, h.2]

theorem DFA.noEps_of_noEpsB {d : DFA} (h : d.noEpsB = true) : d.NoEps := by
  intro s
  simp only [DFA.δ]
  cases hs : aget s d.trans with
  | none => rfl
  | some st =>
    simp only [DFA.noEpsB, List.all_eq_true] at h
    have := h _ (aget_mem hs)
    simpa using this

theorem NFA.clone_eq (n : NFA) : n.clone = NFA.ofEntries n.start n.final (entries n.trans) := by
  simp only [NFA.clone, NFA.ofEntries]
  have h := foldl_nested (γ := NFA) n.trans (fun acc s a t => acc.add s a t) ⟨n.start, n.final, []⟩
  rw [h]

theorem NFA.clone_Δ {n : NFA} (h : n.WF) (s a t : Int) : n.clone.Δ s a t ↔ n.Δ s a t := by
  rw [n.clone_eq, NFA.ofEntries_Δ]
  simp only [NFA.Δ]
  constructor
  · rintro ⟨nx, h1, h2⟩; exact ⟨nx, (mem_entries_NFA h _ _ _).1 h1, h2⟩
  · rintro ⟨nx, h1, h2⟩; exact ⟨nx, (mem_entries_NFA h _ _ _).2 h1, h2⟩

theorem NFA.clone_start_final (n : NFA) : n.clone.start = n.start ∧ n.clone.final = n.final := by
  rw [n.clone_eq]
  exact NFA.ofEntries_start_final _ _ _

theorem nfaLang_congr {δ1 δ2 : Int → Int → Int → Prop} (h : ∀ s a t, δ1 s a t ↔ δ2 s a t)
    (start : Int) (final : Int → Prop) (w : Word) : nfaLang δ1 start final w ↔ nfaLang δ2 start final w := by
  have : δ1 = δ2 := by funext s a t; exact propext (h s a t)
  rw [this]

theorem NFA.clone_lang {n : NFA} (h : n.WF) (w : Word) : n.clone.lang w ↔ n.lang w := by
  simp only [NFA.lang, n.clone_start_final.1, n.clone_start_final.2]
  exact nfaLang_congr (fun s a t => NFA.clone_Δ h s a t) _ _ w

theorem DFA.fold_sound (L : List (Int × Int × Int)) (d0 : DFA) (x a y : Int)
    (h : (L.foldl (fun acc e => acc.add e.1 e.2.1 e.2.2) d0).δ x a = some y) :
    d0.δ x a = some y ∨ (x, a, y) ∈ L := by
  induction L generalizing d0 with
  | nil => exact Or.inl h
  | cons e L ih =>
    rcases ih _ h with h' | h'
    · rw [DFA.δ_add] at h'
      split at h'
      · rename_i hc
        obtain ⟨rfl, rfl⟩ := hc
        cases h'
        exact Or.inr (List.mem_cons_self ..)
      · exact Or.inl h'
    · exact Or.inr (List.mem_cons_of_mem _ h')

theorem DFA.fold_defined (L : List (Int × Int × Int)) (d0 : DFA) (x a : Int)
    (h : (d0.δ x a).isSome ∨ ∃ y, (x, a, y) ∈ L) :
    ((L.foldl (fun acc e => acc.add e.1 e.2.1 e.2.2) d0).δ x a).isSome := by
  induction L generalizing d0 with
  | nil => simpa using h
  | cons e L ih =>
    apply ih
    rcases h with h | ⟨y, hy⟩
    · left; rw [DFA.δ_add]; split <;> simp [h]
    · rcases List.mem_cons.1 hy with rfl | hy
      · left; rw [DFA.δ_add]; simp
      · exact Or.inr ⟨y, hy⟩

def DFA.ofEntries (s : Int) (f : List Int) (L : List (Int × Int × Int)) : DFA :=
  L.foldl (fun (acc : DFA) e => acc.add e.1 e.2.1 e.2.2) ⟨s, f, []⟩

theorem DFA.ofEntries_start_final (s : Int) (f : List Int) (L : List (Int × Int × Int)) :
    (DFA.ofEntries s f L).start = s ∧ (DFA.ofEntries s f L).final = f := by
  refine foldl_keeps (P := fun acc : DFA => acc.start = s ∧ acc.final = f) (fun _ _ h => ?_) L ⟨rfl, rfl⟩
  exact h

theorem DFA.ofEntries_WF (s : Int) (f : List Int) (L : List (Int × Int × Int)) : (DFA.ofEntries s f L).WF :=
  foldl_keeps (P := DFA.WF) (fun _ _ h => DFA.WF_add h _ _ _) L (by simp [DFA.WF, ASorted])

theorem DFA.ofEntries_δ (L : List (Int × Int × Int)) (s : Int) (f : List Int) (x a y : Int)
    (hfun : ∀ y y', (x, a, y) ∈ L → (x, a, y') ∈ L → y = y') :
    (DFA.ofEntries s f L).δ x a = some y ↔ (x, a, y) ∈ L := by
  unfold DFA.ofEntries
  constructor
  · intro h
    rcases DFA.fold_sound L _ x a y h with h' | h'
    · simp [DFA.δ, aget] at h'
    · exact h'
  · intro h
    have := DFA.fold_defined L ⟨s, f, []⟩ x a (Or.inr ⟨y, h⟩)
    rw [Option.isSome_iff_exists] at this
    obtain ⟨y', hy'⟩ := this
    rcases DFA.fold_sound L _ x a y' hy' with h' | h'
    · simp [DFA.δ, aget] at h'
    · rw [hy', hfun y y' h h']

theorem DFA.clone_eq (d : DFA) : d.clone = DFA.ofEntries d.start d.final (entries d.trans) :=
  foldl_nested (γ := DFA) d.trans (fun acc s a t => acc.add s a t) ⟨d.start, d.final, []⟩

theorem DFA.clone_δ {d : DFA} (h : d.WF) (s a : Int) : d.clone.δ s a = d.δ s a := by
  apply Option.ext
  intro t
  rw [d.clone_eq, ← mem_entries_DFA h]
  exact DFA.ofEntries_δ _ _ _ _ _ _ (fun _ _ => entries_fun h)

theorem DFA.clone_lang {d : DFA} (h : d.WF) (w : Word) : d.clone.lang w ↔ d.lang w := by
  have h1 := DFA.ofEntries_start_final d.start d.final (entries d.trans)
  rw [← d.clone_eq] at h1
  simp only [DFA.lang, h1.1, h1.2]
  have : d.clone.δ = d.δ := by funext s a; exact DFA.clone_δ h s a
  rw [this]

theorem DFA.states_eq (d : DFA) : d.states =
    (entries d.trans).foldl (fun acc e => sins e.2.2 (sins e.1 acc)) (sunion (mkSet [d.start]) d.final) :=
  foldl_nested (γ := List Int) d.trans (fun acc s _ t => sins t (sins s acc)) _

theorem DFA.mem_states_iff (d : DFA) (x : Int) :
    x ∈ d.states ↔ x = d.start ∨ x ∈ d.final ∨ ∃ s a t, (s, a, t) ∈ entries d.trans ∧ (x = s ∨ x = t) := by
  rw [d.states_eq, foldl_grow (fun l x => x ∈ l) (Q := fun e x => x = e.1 ∨ x = e.2.2)
    (fun acc e x => by simp only [mem_sins, or_assoc, or_comm, or_left_comm])]
  simp only [mem_sunion, mem_mkSet, List.mem_cons, List.not_mem_nil, or_false, or_assoc, Prod.exists]

theorem DFA.mem_states_of (d : DFA) (x : Int)
    (h : x = d.start ∨ x ∈ d.final ∨ ∃ s a t, (s, a, t) ∈ entries d.trans ∧ (x = s ∨ x = t)) : x ∈ d.states :=
  (d.mem_states_iff x).2 h

theorem DFA.entry_states (d : DFA) {s a t : Int} (h : (s, a, t) ∈ entries d.trans) : s ∈ d.states ∧ t ∈ d.states :=
  ⟨d.mem_states_of s (Or.inr (Or.inr ⟨s, a, t, h, Or.inl rfl⟩)), d.mem_states_of t (Or.inr (Or.inr ⟨s, a, t, h, Or.inr rfl⟩))⟩

theorem DFA.states_sorted (d : DFA) : SSorted d.states := by
  rw [d.states_eq]
  exact foldl_keeps (fun _ _ h => ssorted_sins (ssorted_sins h)) _ (ssorted_saddAll (ssorted_mkSet _))

theorem DFA.symbols_eq (d : DFA) : d.symbols = (entries d.trans).foldl (fun acc e => sins e.2.1 acc) [] :=
  foldl_nested (γ := List Int) d.trans (fun acc _ a _ => sins a acc) _

theorem DFA.mem_symbols_iff (d : DFA) (a : Int) : a ∈ d.symbols ↔ ∃ s t, (s, a, t) ∈ entries d.trans := by
  rw [d.symbols_eq, foldl_grow (fun l x => x ∈ l) (Q := fun e x => x = e.2.1) (fun acc e x => by simp only [mem_sins, or_comm])]
  simp only [List.not_mem_nil, false_or, Prod.exists]
  constructor
  · rintro ⟨s, a', t, h, rfl⟩; exact ⟨s, t, h⟩
  · rintro ⟨s, t, h⟩; exact ⟨s, a, t, h, rfl⟩

theorem DFA.symbols_sorted (d : DFA) : SSorted d.symbols := by
  rw [d.symbols_eq]
  exact foldl_keeps (fun _ _ h => ssorted_sins h) _ (by simp [SSorted])

theorem NFA.states_eq (n : NFA) : n.states =
    (entries n.trans).foldl (fun acc e => sunion (sins e.1 acc) e.2.2) (sunion (mkSet [n.start]) n.final) :=
  foldl_nested (γ := List Int) n.trans (fun acc s _ nx => sunion (sins s acc) nx) _

theorem NFA.mem_states_iff (n : NFA) (x : Int) :
    x ∈ n.states ↔ x = n.start ∨ x ∈ n.final ∨ ∃ s a nx, (s, a, nx) ∈ entries n.trans ∧ (x = s ∨ x ∈ nx) := by
  rw [n.states_eq, foldl_grow (fun l x => x ∈ l) (Q := fun e x => x = e.1 ∨ x ∈ e.2.2)
    (fun acc e x => by simp only [mem_sunion, mem_sins, or_assoc, or_left_comm])]
  simp only [mem_sunion, mem_mkSet, List.mem_cons, List.not_mem_nil, or_false, or_assoc, Prod.exists]

theorem NFA.mem_states_of (n : NFA) (x : Int)
    (h : x = n.start ∨ x ∈ n.final ∨ ∃ st ∈ n.trans, ∃ e ∈ st.2, x = st.1 ∨ x ∈ e.2) : x ∈ n.states := by
  refine (n.mem_states_iff x).2 (h.imp_right (Or.imp_right ?_))
  rintro ⟨st, hst, e, he, hx⟩
  exact ⟨st.1, e.1, e.2, List.mem_flatMap.2 ⟨st, hst, List.mem_map.2 ⟨e, he, rfl⟩⟩, hx⟩

theorem NFA.entry_states (n : NFA) {s a : Int} {nx : List Int} (h : (s, a, nx) ∈ entries n.trans) :
    s ∈ n.states ∧ ∀ t ∈ nx, t ∈ n.states :=
  ⟨(n.mem_states_iff s).2 (Or.inr (Or.inr ⟨s, a, nx, h, Or.inl rfl⟩)),
    fun t ht => (n.mem_states_iff t).2 (Or.inr (Or.inr ⟨s, a, nx, h, Or.inr ht⟩))⟩

theorem NFA.states_sorted (n : NFA) : SSorted n.states := by
  rw [n.states_eq]
  exact foldl_keeps (fun _ _ h => ssorted_saddAll (ssorted_sins h)) _ (ssorted_saddAll (ssorted_mkSet _))

theorem NFA.symbols_eq (n : NFA) : n.symbols =
    (entries n.trans).foldl (fun acc e => if e.2.1 ≠ E then sins e.2.1 acc else acc) [] :=
  foldl_nested (γ := List Int) n.trans (fun acc _ a _ => if a ≠ E then sins a acc else acc) _

theorem NFA.mem_symbols_iff (n : NFA) (a : Int) : a ∈ n.symbols ↔ a ≠ E ∧ ∃ s nx, (s, a, nx) ∈ entries n.trans := by
  rw [n.symbols_eq, foldl_grow (fun l x => x ∈ l) (Q := fun e x => e.2.1 ≠ E ∧ x = e.2.1) (fun acc e x => by
    split
    · next h => simp [h, or_comm]
    · next h => simp [h])]
  simp only [List.not_mem_nil, false_or, Prod.exists]
  constructor
  · rintro ⟨s, a', nx, h, hne, rfl⟩; exact ⟨hne, s, nx, h⟩
  · rintro ⟨hne, s, nx, h⟩; exact ⟨s, a, nx, h, hne, rfl⟩

theorem NFA.symbols_sorted (n : NFA) : SSorted n.symbols := by
  rw [n.symbols_eq]
  refine foldl_keeps (fun _ _ h => ?_) _ (by simp [SSorted])
  split
  · exact ssorted_sins h
  · exact h

end AlgoVerif.C13
