import AlgoVerif.Model.C18Run
/-!
# C18 — generic refinement step and list/array facts shared by the three proofs

Stack and queue share no more than this.  `Spec.S` and `Spec.Q` differ only in where a value is added and the two
`step_refines` read alike, but each rests on its own `*_spec` lemmas about a different layout (the stack: a top block
read backwards above full blocks; the queue: a window `[frontIndex, stop)` over the cells of the whole chain).
-/
namespace AlgoVerif.C18
variable {α : Type}

theorem runTrace_refines {σ τ ι ω : Type} (mstep : σ → ι → Outcome (σ × ω)) (sstep : τ → ι → τ × ω)
    (R : σ → τ → Prop)
    (hstep : ∀ s t op, R s t → ∃ s', mstep s op = .ok (s', (sstep t op).2) ∧ R s' (sstep t op).1) :
    ∀ ops s t, R s t → runTrace mstep s ops = (runSpec sstep t ops).map Outcome.ok := by
  intro ops
  induction ops with
  | nil => intro s t _; rfl
  | cons op ops ih =>
    intro s t h
    obtain ⟨s', h1, h2⟩ := hstep s t op h
    simp only [runTrace, runSpec, h1, List.map_cons]
    rw [ih s' _ h2]

theorem runSpec_append {σ ι ω : Type} (step : σ → ι → σ × ω) (s : σ) (a b : List ι) :
    runSpec step s (a ++ b) = runSpec step s a ++ runSpec step (specFinal step s a) b := by
  induction a generalizing s with
  | nil => rfl
  | cons x a ih => simp [runSpec, specFinal, ih]

theorem runSpec_length {σ ι ω : Type} (step : σ → ι → σ × ω) (s : σ) (a : List ι) :
    (runSpec step s a).length = a.length := by
  induction a generalizing s with
  | nil => rfl
  | cons x a ih => simp [runSpec, ih]

/-- cheaper than `omega` in the large contexts it is used in -/
theorem succ_lt_of_ne {a b : Int} (h : a < b) (hne : ¬ a + 1 = b) : a + 1 < b :=
  Int.lt_iff_le_and_ne.2 ⟨Int.add_one_le_of_lt h, hne⟩

@[simp] theorem newBlock_size (zero : α) (n : Nat) : (newBlock zero n).size = n := by
  simp [newBlock]

theorem set!_size (b : Array α) (i : Nat) (v : α) : (b.set! i v).size = b.size := by
  simp [Array.set!_eq_setIfInBounds]

theorem set!_toList (b : Array α) (i : Nat) (v : α) : (b.set! i v).toList = b.toList.set i v := by
  simp [Array.set!_eq_setIfInBounds]

theorem take_set_succ (l : List α) (i : Nat) (v : α) (h : i < l.length) :
    (l.set i v).take (i + 1) = l.take i ++ [v] := by
  rw [List.take_succ_eq_append_getElem (by rwa [List.length_set]), List.take_set_of_le (Nat.le_refl i),
    List.getElem_set_self]

theorem flatMap_length_of_blocks {β : Type} (f : β → List α) (B : Nat) (nodes : List β)
    (h : ∀ b ∈ nodes, (f b).length = B) : (nodes.flatMap f).length = nodes.length * B := by
  induction nodes with
  | nil => exact (Nat.zero_mul B).symm
  | cons b rest ih =>
    rw [List.flatMap_cons, List.length_append, ih fun b' hb' => h b' (List.mem_cons_of_mem _ hb'),
      h b (List.mem_cons_self ..), List.length_cons, Nat.succ_mul, Nat.add_comm]

end AlgoVerif.C18
