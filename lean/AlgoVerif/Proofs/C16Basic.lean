import AlgoVerif.Proofs.Outcome
import AlgoVerif.Model.C16
/-!
# C16 helper lemmas: the vocabulary — laws of the callbacks, membership modulo `R`, well-formed set objects

Everything is stated modulo an equivalence `R` on the elements and a domain `dom` on which the callbacks
behave (`R = Eq`, `dom = True` for a set of plain values; `R` = "same members", `dom` = "well-formed set
object" for the sets of sets that `Powerset` and `Partitions` build).
-/
namespace AlgoVerif.C16
variable {α : Type} {σ : Type}

@[simp] theorem ok_bind {β γ} (a : β) (f : β → Outcome γ) : (Outcome.ok a >>= f) = f a := rfl
@[simp] theorem panic_bind {β γ} (f : β → Outcome γ) : ((Outcome.panic : Outcome β) >>= f) = .panic := rfl
@[simp] theorem diverge_bind {β γ} (f : β → Outcome γ) : ((Outcome.diverge : Outcome β) >>= f) = .diverge := rfl
@[simp] theorem pure_eq_ok {β} (a : β) : (pure a : Outcome β) = .ok a := rfl

/-- `v` occurs in `l` modulo `R`.  The element found stands on the LEFT of `R`, also in `SubR` and `SameR`: where `R`
unfolds to an `↔` (`SetEq`) its sides are the other way round from a statement that names `v` first. -/
def MemR (R : α → α → Prop) (v : α) (l : List α) : Prop := ∃ y ∈ l, R y v

@[simp] theorem memR_eq (v : α) (l : List α) : MemR Eq v l ↔ v ∈ l := by
  simp [MemR]

@[simp] theorem memR_nil (R : α → α → Prop) (v : α) : ¬ MemR R v [] := by simp [MemR]

theorem memR_cons {R : α → α → Prop} {v a : α} {l : List α} : MemR R v (a :: l) ↔ R a v ∨ MemR R v l := by
  simp [MemR]

theorem memR_append {R : α → α → Prop} {v : α} {l₁ l₂ : List α} :
    MemR R v (l₁ ++ l₂) ↔ MemR R v l₁ ∨ MemR R v l₂ := by
  simp only [MemR, List.mem_append, or_and_right, exists_or]

theorem MemR.congr {R : α → α → Prop} (hR : Equivalence R) {v w : α} {l : List α} (h : R v w) :
    MemR R v l ↔ MemR R w l :=
  ⟨fun ⟨y, hy, hyv⟩ => ⟨y, hy, hR.trans hyv h⟩, fun ⟨y, hy, hyw⟩ => ⟨y, hy, hR.trans hyw (hR.symm h)⟩⟩

def SubR (R : α → α → Prop) (l₁ l₂ : List α) : Prop := ∀ x ∈ l₁, MemR R x l₂

def SameR (R : α → α → Prop) (l₁ l₂ : List α) : Prop := SubR R l₁ l₂ ∧ SubR R l₂ l₁

def EqLaw (dom : α → Prop) (R : α → α → Prop) (equal : EqualFunc α) : Prop :=
  ∀ a b, dom a → dom b → ∃ r, equal a b = .ok r ∧ (r = true ↔ R a b)

/-- the `compare` callback is a total order modulo `R` on `dom` -/
def CmpLaw (dom : α → Prop) (R : α → α → Prop) (compare : CompareFunc α) : Prop :=
  ∃ c : α → α → Int,
    (∀ a b, dom a → dom b → compare a b = .ok (c a b)) ∧
    (∀ a b, c a b = 0 ↔ R a b) ∧
    (∀ a b, c a b < 0 ↔ 0 < c b a) ∧
    (∀ a b d, c a b < 0 → c b d < 0 → c a d < 0)

def SortedBy (compare : CompareFunc α) (l : List α) : Prop :=
  l.Pairwise (fun a b => ∃ c, compare a b = .ok c ∧ c < 0)

def ImplLaw (dom : α → Prop) (R : α → α → Prop) : Impl α → Prop
  | .unordered equal => EqLaw dom R equal
  | .stable equal => EqLaw dom R equal
  | .sorted compare => CmpLaw dom R compare

/-- representation invariant of a set object -/
structure WF (dom : α → Prop) (R : α → α → Prop) (s : MSet α) : Prop where
  mem_dom : ∀ x ∈ s.members, dom x
  nodup : s.members.Pairwise (fun a b => ¬ R a b)
  law : ImplLaw dom R s.impl
  sorted : ∀ compare, s.impl = .sorted compare → SortedBy compare s.members

/-- a set of plain values: the callbacks decide `=` everywhere -/
abbrev WF0 (s : MSet α) : Prop := WF (fun _ => True) Eq s

def Impl.isSorted : Impl α → Bool
  | .sorted _ => true
  | _ => false

def Impl.isUnordered : Impl α → Bool
  | .unordered _ => true
  | _ => false

theorem eq_equivalence : Equivalence (@Eq α) := ⟨fun _ => rfl, fun h => h.symm, fun h₁ h₂ => h₁.trans h₂⟩

theorem WF0.nodup' {s : MSet α} (h : WF0 s) : s.members.Nodup := h.nodup

end AlgoVerif.C16
