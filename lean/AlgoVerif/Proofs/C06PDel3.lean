import AlgoVerif.Proofs.C06PDel
import AlgoVerif.Proofs.C06PStr
/-!
# C06 — Patricia deletion: `remove` re-establishes the invariant, and the full simulation

`DelPath` fixes the tree as the path of the deletion with the leaf to remove at its end; where that leaf's node lies — at
the root, at the leaf's parent, higher on the path — decides what `remove` does (`DelPath.remove_sim`).  With
`deleteWith_sim` every operation is the Spec's (`step_sim`, `run_sim`).
-/
namespace AlgoVerif.C06
variable {V : Type}
open BitString (xbit Small)
open PT

namespace Patricia
open Spec

/-- the tree is the path `C ++ [s]` with the leaf to remove (node `n`, key `kn`) at its end: `s.i` is the referrer, the
link to it is the link of `rp` on side `gr` -/
structure DelPath (t : Patricia V) (r0 : Nat) (rn : PNode V) (T : PT V) (m : Spec.Map V) (C : List (Step V)) (s : Step V)
    (n : Nat) (kn : Key) (vn : V) (rp : Nat) (gr : Bool) : Prop where
  inv : PInvS t r0 rn T m
  hT : T = plug (C ++ [s]) (leaf n kn vn)
  hrp : endOwner (r0, false) C = (rp, gr)

section
variable {t : Patricia V} {r0 : Nat} {rn : PNode V} {T : PT V} {m : Spec.Map V} {C : List (Step V)} {s : Step V} {n : Nat}
  {kn : Key} {vn : V} {rp : Nat} {gr : Bool}

theorem DelPath.rep (cx : DelPath t r0 rn T m C s n kn vn rp gr) :
    Rep t rn.bp (link rn false) (plug (C ++ [s]) (leaf n kn vn)) := by
  rw [← cx.hT, cx.inv.hbp]; exact cx.inv.rep

theorem DelPath.nodup (cx : DelPath t r0 rn T m C s n kn vn rp gr) :
    (r0 :: inners (plug (C ++ [s]) (leaf n kn vn))).Nodup := by
  rw [← cx.hT]; exact cx.inv.nodup

theorem DelPath.path_nodup (cx : DelPath t r0 rn T m C s n kn vn rp gr) : (r0 :: (C ++ [s]).map (·.i)).Nodup :=
  have ⟨h1, h2⟩ := List.nodup_cons.mp cx.nodup
  List.nodup_cons.mpr ⟨fun hm => h1 ((inners_plug_perm _ _).symm.subset (List.mem_append_left _ hm)), (nodup_inners_plug h2).1⟩

theorem DelPath.steps (cx : DelPath t r0 rn T m C s n kn vn rp gr) :
    ∀ c ∈ C ++ [s], 1 ≤ c.bp ∧ xbit kn (c.bp - 1) = c.d := fun c hc =>
  have h := crit_steps (cx.hT ▸ cx.inv.crit) c hc
  ⟨h.1, h.2 kn (by simp)⟩

theorem DelPath.nodes (cx : DelPath t r0 rn T m C s n kn vn rp gr) :
    ∃ rpn rrn nn, t.nodes[rp]? = some rpn ∧ t.nodes[s.i]? = some rrn ∧ rrn.bp = s.bp ∧
      link rrn (!s.d) = some s.O.idx ∧ t.nodes[n]? = some nn ∧ nn.key = kn ∧ nn.val = vn := by
  have h := cx.rep
  rw [plug_append] at h
  obtain ⟨-, rpn, hrpn, hF⟩ := (rep_plug (a := (r0, false)) cx.inv.hrn).mp h
  obtain ⟨-, rrn, hrrn, hbp, -, hL, hO⟩ := rep_fork.mp hF
  obtain ⟨-, nn, hnn, -, hk, hv⟩ := hL
  rw [cx.hrp] at hrpn
  exact ⟨rpn, rrn, nn, hrpn, hrrn, hbp, hO.shape.idx_eq, hnn, hk, hv⟩

/-- the direction `remove` computes for the link of a node, `x != t.root && key.Bit(x.bp)`, is the side on which the path
leaves the node — at the root: left -/
theorem DelPath.side_ok (cx : DelPath t r0 rn T m C s n kn vn rp gr) {A B : List (Step V)} (hAB : C ++ [s] = A ++ B)
    {x : Nat} {sd : Bool} (hx : endOwner (r0, false) A = (x, sd)) {on nn : PNode V} (ho : t.nodes[x]? = some on)
    (hk : nn.key = kn) :
    (if (some x != t.root) = true then nn.key.bit on.bp else (Outcome.ok false : Outcome Bool)) = .ok sd := by
  rw [cx.inv.hroot]
  rcases List.eq_nil_or_concat A with rfl | ⟨A', c, hA⟩
  · cases hx
    simp
  · rw [List.concat_eq_append] at hA
    subst hA
    have hc : c ∈ C ++ [s] := hAB ▸ (by simp)
    rw [endOwner_concat] at hx
    cases hx
    obtain ⟨cn, hcn, hbp⟩ := Rep.step_node (a := (r0, false)) cx.inv.hrn cx.rep c hc
    obtain rfl : cn = on := Option.some.inj (hcn.symm.trans ho)
    have hne : c.i ≠ r0 := fun e => (List.nodup_cons.mp cx.path_nodup).1 (e ▸ List.mem_map.mpr ⟨c, hc, rfl⟩)
    obtain ⟨h1, h2⟩ := cx.steps c hc
    rw [if_pos (by simpa using hne), hbp, BitString.bit_ok_of_pos _ h1, hk, h2]

theorem DelPath.rp_ne_rr (cx : DelPath t r0 rn T m C s n kn vn rp gr) : rp ≠ s.i := by
  have h := cx.path_nodup
  rw [List.map_append, ← List.cons_append, List.nodup_append] at h
  intro e
  have hm : rp ∈ r0 :: C.map (·.i) := by
    rcases endOwner_eq_or_mem (r0, false) C with e' | e' <;> rw [cx.hrp] at e'
    · cases e'; exact List.mem_cons_self ..
    · exact List.mem_cons_of_mem _ e'
  exact h.2.2 rp hm s.i (by simp) e

theorem DelPath.nodup_contracted (cx : DelPath t r0 rn T m C s n kn vn rp gr) : (r0 :: s.i :: inners (plug C s.O)).Nodup :=
  ((inners_unplug_perm C s n kn vn).cons r0).nodup_iff.mpr cx.nodup

theorem DelPath.rr_ne_root (cx : DelPath t r0 rn T m C s n kn vn rp gr) : s.i ≠ r0 :=
  fun e => (List.nodup_cons.mp cx.nodup_contracted).1 (e ▸ List.mem_cons_self ..)

theorem DelPath.rr_not_inner (cx : DelPath t r0 rn T m C s n kn vn rp gr) : s.i ∉ inners (plug C s.O) :=
  (List.nodup_cons.mp (List.nodup_cons.mp cx.nodup_contracted).2).1

theorem DelPath.contracted (cx : DelPath t r0 rn T m C s n kn vn rp gr) :
    ∃ s1 rn1, setLink t rp gr (some s.O.idx) = s1 ∧ s1.nodes[r0]? = some rn1 ∧ rn1.bp = 0 ∧ rn1.right = none ∧
      s1.nodes[s.i]? = t.nodes[s.i]? ∧ Shape s1 0 rn1.left (plug C s.O) := by
  obtain ⟨rn1, h1, hb, -, -, hl⟩ := redirect_setLink t rp gr (some s.O.idx) r0 rn cx.inv.hrn
  have hr0 : r0 ∉ C.map (·.i) := fun hm =>
    (List.nodup_cons.mp cx.path_nodup).1 (by rw [List.map_append]; exact List.mem_append_left _ hm)
  refine ⟨_, rn1, rfl, h1, hb.trans cx.inv.hbp, ?_, by rw [setLink_nodes, if_neg cx.rp_ne_rr], ?_⟩
  · exact (hl true).trans ((if_neg (cx.hrp ▸ endOwner_ne_other (a := (r0, false)) hr0)).trans cx.inv.hright)
  · have := contract_shape (a := (r0, false)) (an' := rn1) cx.inv.hrn cx.rep cx.nodup (by rw [cx.hrp]; exact h1)
    rw [cx.hrp, hb, cx.inv.hbp] at this
    exact this

theorem DelPath.finish (cx : DelPath t r0 rn T m C s n kn vn rp gr) (t' : Patricia V) (rn' : PNode V)
    (hroot : t'.root = some (if n = r0 then s.i else r0))
    (hrn : t'.nodes[if n = r0 then s.i else r0]? = some rn') (hbp : rn'.bp = 0) (hright : rn'.right = none)
    (hrep : Shape t' 0 rn'.left (rename n s.i (plug C s.O))) (hsize : t'.size = t.size - 1) :
    PInv t' (Spec.Map.delete m kn) := by
  have h := cx.inv
  have hcT : Crit (plug (C ++ [s]) (leaf n kn vn)) := cx.hT ▸ h.crit
  obtain ⟨i1, i2, i3, i4, i5⟩ := del_invariants_plug (r0 := r0) (cx.hT ▸ h.selfBelow) (cx.hT ▸ h.nodupI)
    (cx.hT ▸ h.rootNotInner) (cx.hT ▸ h.leafPerm)
  have hents : ents (rename n s.i (plug C s.O)) = Spec.Map.delete m kn := by
    rw [ents_rename]
    apply Sorted.ext (PT.sorted_ents (crit_unplug hcT)) (h.sorted.filter _)
    intro e
    rw [mem_ents_unplug hcT, ← cx.hT, h.ents]
    simp
  have hlen := (ents_unplug_perm C s (leaf n kn vn)).length_eq
  rw [← cx.hT, h.ents] at hlen
  refine .inr ⟨(if n = r0 then s.i else r0), rn', rename n s.i (plug C s.O), ?_⟩
  exact {
    hroot := hroot, hrn := hrn, hbp := hbp, hright := hright,
    -- the only thread that leaves the tree is the one to the root
    rep := hrep.toRep i4 i2 fun x hx hxi =>
      (List.mem_cons.mp (i5.subset hx)).elim (fun e => ⟨rn', e ▸ hrn, Nat.le_of_eq hbp⟩) fun e => absurd e hxi,
    crit := crit_rename (crit_unplug hcT),
    ents := hents,
    size := by
      rw [hsize, h.size, ← hents, ents_rename]
      simp only [ents, List.length_append, List.length_cons, List.length_nil] at hlen
      omega,
    nodupI := i1, nodupL := i2, rootNotInner := i3, topLeaf := topLeaf_of_perm i5, selfBelow := i4, leafPerm := i5 }

theorem DelPath.size_ne (cx : DelPath t r0 rn T m C s n kn vn rp gr) : t.size - 1 ≠ 0 := by
  have hlen := (ents_unplug_perm C s (leaf n kn vn)).length_eq
  have : (ents (plug C s.O)).length ≠ 0 := fun e => ents_ne_nil _ (List.length_eq_zero_iff.mp e)
  rw [← cx.hT, cx.inv.ents] at hlen
  rw [cx.inv.size]
  simp only [ents, List.length_append, List.length_cons, List.length_nil] at hlen
  omega

/-- the first steps of `remove`, common to all cases: the other child of the referrer -/
theorem DelPath.remove_c (cx : DelPath t r0 rn T m C s n kn vn rp gr) {rrn nn : PNode V} (hbp : rrn.bp = s.bp)
    (hc : link rrn (!s.d) = some s.O.idx) (hk : nn.key = kn) :
    (if (some s.i == t.root) = true then (Outcome.ok rrn.left : Outcome (Option Nat)) else do
      let b ← nn.key.bit rrn.bp
      Outcome.ok (if b = true then rrn.left else rrn.right)) = .ok (some s.O.idx) := by
  have h0 : (some s.i == t.root) = false := by rw [cx.inv.hroot]; simpa using cx.rr_ne_root
  obtain ⟨h1, h2⟩ := cx.steps s (by simp)
  rw [if_neg (by simp [h0]), hbp, BitString.bit_ok_of_pos nn.key h1, hk, h2]
  simp only [Outcome.ok_bind, ← link_not, hc]

theorem DelPath.remove_case1 (cx : DelPath t r0 rn T m C s n kn vn rp gr) (hA : s.i = n) :
    ∃ t', t.remove n s.i rp rp = .ok t' ∧ PInv t' (Spec.Map.delete m kn) := by
  obtain ⟨rpn, rrn, nn, hrpn, hrrn, hbp, hc, hnn, hk, -⟩ := cx.nodes
  have hsd := cx.side_ok (A := C) (B := [s]) rfl cx.hrp hrpn hk
  have hn0 : n ≠ r0 := hA ▸ cx.rr_ne_root
  obtain ⟨s1, rn1, rfl, hN, hNbp, hNright, -, hX⟩ := cx.contracted
  refine ⟨{ setLink t rp gr (some s.O.idx) with size := t.size - 1 }, ?_, ?_⟩
  · have hbeq : (n == s.i) = true := by simp [hA]
    have hsz : ((t.size - 1 == 0) = false) := by simpa using cx.size_ne
    simp only [Patricia.remove, node_some hnn, node_some hrrn, Outcome.ok_bind, Outcome.pure_eq, cx.remove_c hbp hc hk, hbeq, if_true,
      node_some hrpn, hsd, hsz, Bool.false_eq_true, if_false]
    cases gr <;> rfl
  · apply cx.finish _ rn1
    · simp only [hn0, if_false]
      exact ((setLink_root ..).1).trans cx.inv.hroot
    · simp only [hn0, if_false]; exact hN
    · exact hNbp
    · exact hNright
    · rw [hA, rename_self]
      exact hX.congr (by rfl)
    · rfl

theorem DelPath.remove_case2 (cx : DelPath t r0 rn T m C s n kn vn rp gr) (hB : s.i ≠ n) {s1 : Patricia V}
    (hs1 : setLink t rp gr (some s.O.idx) = s1) {np : Nat} {nn on Nn : PNode V} {sd2 : Bool}
    (hnn : t.nodes[n]? = some nn) (hon : t.nodes[np]? = some on)
    (hsd2 : (if (some np != t.root) = true then nn.key.bit on.bp else (Outcome.ok false : Outcome Bool)) = .ok sd2)
    (hNn : (setLink s1 np sd2 (some s.i)).nodes[n]? = some Nn) :
    t.remove n s.i rp np = .ok { replaced s1 np sd2 s.i Nn with
      root := if n = r0 then some np else (replaced s1 np sd2 s.i Nn).root, size := t.size - 1 } := by
  subst hs1
  -- the first update leaves the bit position of `np` as it is
  obtain ⟨npn, hnpn, hb, -⟩ := redirect_setLink t rp gr (some s.O.idx) np on hon
  rw [← hb] at hsd2
  obtain ⟨rpn, rrn, nn', hrpn, hrrn, hbp, hc, hnn', hk, -⟩ := cx.nodes
  obtain rfl : nn' = nn := Option.some.inj (hnn'.symm.trans hnn)
  have hsd := cx.side_ok (A := C) (B := [s]) rfl cx.hrp hrpn hk
  have hbeq : (n == s.i) = false := by simpa using fun e : n = s.i => hB e.symm
  have e1 : ∀ (u : Patricia V) (x : Nat) (sd : Bool) (ptr : Option Nat),
      (if sd = true then u.setRight x ptr else u.setLeft x ptr) = setLink u x sd ptr := by
    intro u x sd ptr; cases sd <;> rfl
  have hsz : ((t.size - 1 == 0) = false) := by simpa using cx.size_ne
  simp only [Patricia.remove, node_some hnn, node_some hrrn, Outcome.ok_bind, Outcome.pure_eq, cx.remove_c hbp hc hk, hbeq,
    Bool.false_eq_true, if_false, node_some hrpn, hsd, e1, node_some hnpn, hsd2]
  simp only [(setLink_root _ _ _ _).1, cx.inv.hroot]
  by_cases hn0 : n = r0
  · have hnode : Patricia.node ({ setLink (setLink t rp gr (some s.O.idx)) np sd2 (some s.i) with
        root := some np } : Patricia V) (some n) = .ok Nn := node_some hNn
    simp only [hn0, beq_self_eq_true, if_true] at hnode ⊢
    rw [hnode]
    simp only [Outcome.ok_bind, hsz, Bool.false_eq_true, if_false]
    rfl
  · have hne : (some n == some r0) = false := by simpa using hn0
    simp only [hne, Bool.false_eq_true, if_false, node_some hNn, Outcome.ok_bind, hsz, hn0]
    rfl

theorem DelPath.remove_case2_root (cx : DelPath t r0 rn T m C s n kn vn rp gr) (hB : s.i ≠ n) (hn0 : n = r0) :
    ∃ t', t.remove n s.i rp s.i = .ok t' ∧ PInv t' (Spec.Map.delete m kn) := by
  obtain ⟨rpn, rrn, nn, hrpn, hrrn, hbp, hc, hnn, hk, -⟩ := cx.nodes
  obtain ⟨s1, rn1, hs1, hN, hNbp, hNright, h1rr, hX⟩ := cx.contracted
  have hsd2 := cx.side_ok (A := C ++ [s]) (B := []) (by simp) (endOwner_concat ..) hrrn hk
  have hNn : (setLink s1 s.i s.d (some s.i)).nodes[n]? = some rn1 := by
    rw [setLink_nodes, if_neg (hn0 ▸ cx.rr_ne_root), hn0]; exact hN
  refine ⟨_, cx.remove_case2 hB hs1 hnn hrrn hsd2 hNn, ?_⟩
  apply cx.finish _ { relink rrn s.d (some s.i) with bp := rn1.bp, left := rn1.left, right := rn1.right }
  · simp only [hn0, if_true]
  · simp only [hn0, if_true]
    show (replaced s1 s.i s.d s.i rn1).nodes[s.i]? = _
    rw [replaced_nodes, if_pos rfl, setLink_nodes, if_pos rfl, h1rr, hrrn]
    rfl
  · exact hNbp
  · exact hNright
  · rw [rename_of_not_mem _ fun hm => cx.inv.rootNotInner (hn0 ▸ cx.hT ▸
      (inners_unplug_perm C s n kn vn).subset (List.mem_cons_of_mem _ hm))]
    -- only the referrer's node is written, which the contracted tree does not use as an inner node
    refine RepG.congr ?_ (hX.recycle cx.rr_not_inner rn1)
    exact replaced_self ..
  · rfl

theorem DelPath.remove_case2_path {C1 C2 : List (Step V)} {sn : Step V} {np : Nat} {gr2 : Bool}
    (cx : DelPath t r0 rn T m (C1 ++ sn :: C2) s n kn vn rp gr) (hsn : sn.i = n)
    (hnp : endOwner (r0, false) C1 = (np, gr2)) :
    ∃ t', t.remove n s.i rp np = .ok t' ∧ PInv t' (Spec.Map.delete m kn) := by
  subst hsn
  obtain ⟨rpn, rrn, nn, hrpn, hrrn, hbp, hc, hnn, hk, -⟩ := cx.nodes
  obtain ⟨s1, rn1, hs1, hN, hNbp, hNright, h1rr, hX⟩ := cx.contracted
  -- the contracted tree along `C1`, down to the removed leaf's node `sn.i`, which is neither the root nor the referrer
  have hX' : Shape s1 rn1.bp (link rn1 false) (plug C1 (plug (sn :: C2) s.O)) := by
    rw [hNbp, ← plug_append]; exact hX
  have hnd1 : (r0 :: inners (plug C1 (plug (sn :: C2) s.O))).Nodup := by
    rw [← plug_append]
    exact cx.nodup_contracted.sublist ((List.sublist_cons_self ..).cons_cons _)
  have hri : s.i ∉ inners (plug C1 (plug (sn :: C2) s.O)) := by rw [← plug_append]; exact cx.rr_not_inner
  have hsnm : sn.i ∈ inners (plug C1 (plug (sn :: C2) s.O)) :=
    (inners_plug_perm _ _).symm.subset (List.mem_append_right _ (List.mem_append_left _ (mem_inners_fork.mpr (.inl rfl))))
  have hn0 : sn.i ≠ r0 := fun e => (List.nodup_cons.mp hnd1).1 (e ▸ hsnm)
  have hB : s.i ≠ sn.i := fun e => hri (e ▸ hsnm)
  have hnpn : np ≠ sn.i := fun e => by
    have := (endOwner_not_inner (a := (r0, false)) hnd1).1
    rw [hnp] at this
    exact this (e ▸ mem_inners_fork.mpr (.inl rfl))
  obtain ⟨-, npn, -, hF⟩ := (repG_plug (a := (r0, false)) hN).mp hX'
  obtain ⟨-, Nn, hNn1, -⟩ := repG_fork.mp hF
  obtain ⟨-, on, hon, -⟩ := (rep_plug (a := (r0, false)) (C := C1) cx.inv.hrn).mp
    (by have := cx.rep; rwa [List.append_assoc, plug_append] at this)
  rw [hnp] at hon
  have hsd2 := cx.side_ok (A := C1) (B := sn :: C2 ++ [s]) (by simp) hnp hon hk
  have hNn : (setLink s1 np gr2 (some s.i)).nodes[sn.i]? = some Nn := by rw [setLink_nodes, if_neg hnpn]; exact hNn1
  refine ⟨_, cx.remove_case2 hB hs1 hnn hon hsd2 hNn, ?_⟩
  obtain ⟨rnF, hrnF, hFbp, -, -, hFl⟩ := redirect_setLink s1 np gr2 (some s.i) r0 rn1 hN
  have hrnF' : (replaced s1 np gr2 s.i Nn).nodes[r0]? = some rnF := by
    rw [replaced_nodes, if_neg cx.rr_ne_root]; exact hrnF
  have hr0C1 : r0 ∉ C1.map (·.i) := fun hm =>
    (List.nodup_cons.mp hnd1).1 ((inners_plug_perm _ _).symm.subset (List.mem_append_left _ hm))
  have hrep := rename_shape (a := (r0, false)) hN hX' hnd1 cx.rr_ne_root hri hNn1 (h1rr.trans hrrn)
    (by rw [hnp]; exact hrnF')
  rw [hnp, hFbp, hNbp] at hrep
  apply cx.finish _ rnF
  · simp only [hn0, if_false]
    exact ((replaced_root ..).1.trans (hs1 ▸ (setLink_root ..).1)).trans cx.inv.hroot
  · simp only [hn0, if_false]; exact hrnF'
  · exact hFbp.trans hNbp
  · exact (hFl true).trans ((if_neg (hnp ▸ endOwner_ne_other (a := (r0, false)) hr0C1)).trans hNright)
  · rw [rename_plug rfl (List.nodup_cons.mp (by rw [← plug_append] at hnd1; exact hnd1)).2]
    exact hrep.congr (by rfl)
  · rfl

/-- `A` is the path up to the first link to node `n`, where the second loop stops at `np`.  The whole case analysis of the
deletion is on the rest `B` of the path: empty — `n` is no node of the path, so it is the root, which the referrer becomes;
the last step alone — the leaf hangs off its own node, case 1 of `remove`; longer — `n` is a node of the path above the
referrer, which takes its place. -/
theorem DelPath.remove_sim (cx : DelPath t r0 rn T m C s n kn vn rp gr) {A B : List (Step V)} (hAB : C ++ [s] = A ++ B)
    (hA : ∀ c ∈ A, c.i ≠ n) (hB : ∀ b D, B = b :: D → ¬ b.i ≠ n) {np : Nat} {gr2 : Bool}
    (hnp : endOwner (r0, false) A = (np, gr2)) :
    ∃ t', t.remove n s.i rp np = .ok t' ∧ PInv t' (Spec.Map.delete m kn) := by
  cases B with
  | nil =>
    -- `n` is no node of the path, hence no inner node: it is the root
    rw [List.append_nil] at hAB
    subst hAB
    rw [endOwner_concat] at hnp
    cases hnp
    have hni : n ∉ inners T := fun hm => by
      obtain ⟨c, hc, e⟩ := List.mem_map.mp
        (inner_on_path (cx.hT ▸ cx.inv.selfBelow) (cx.hT ▸ cx.inv.nodupL) (cx.hT ▸ hm))
      exact hA c hc e
    have hn : n ∈ r0 :: inners T :=
      cx.inv.leafPerm.subset (cx.hT ▸ (leafIdx_plug_perm _ _).symm.subset (by simp [leafIdx]))
    exact cx.remove_case2_root (hA s (by simp)) ((List.mem_cons.mp hn).resolve_right hni)
  | cons b D =>
    have hb : b.i = n := Decidable.not_not.mp (hB b D rfl)
    rcases List.eq_nil_or_concat D with rfl | ⟨D', s', hD⟩
    · obtain ⟨rfl, hbs⟩ := List.append_inj' hAB rfl
      cases hbs
      cases cx.hrp.symm.trans hnp
      exact cx.remove_case1 hb
    · rw [List.concat_eq_append] at hD
      subst hD
      have : C ++ [s] = (A ++ b :: D') ++ [s'] := by rw [hAB]; simp
      obtain ⟨rfl, hss⟩ := List.append_inj' this rfl
      cases hss
      exact cx.remove_case2_path hb hnp

end

theorem remove_single {t : Patricia V} {r0 : Nat} {rn : PNode V} {m : Spec.Map V} {n : Nat} {kn : Key} {vn : V}
    (h : PInvS t r0 rn (.leaf n kn vn) m) :
    n = r0 ∧ ∃ t', t.remove r0 r0 r0 r0 = .ok t' ∧ PInv t' (Spec.Map.delete m kn) := by
  have hi : n = r0 := h.topLeaf n kn vn rfl
  subst hi
  have hm : m = [(kn, vn)] := by rw [← h.ents]; rfl
  have hsz1 : t.size = 1 := by rw [h.size, hm]; rfl
  refine ⟨rfl, { t.setLeft n rn.left with size := t.size - 1, root := none }, ?_, ?_⟩
  · simp only [Patricia.remove, node_some h.hrn, h.hroot, Outcome.ok_bind, beq_self_eq_true, if_true, Outcome.pure_eq,
      bne_self_eq_false, hsz1]
    simp
  · have : Spec.Map.delete m kn = [] := by rw [hm]; simp [Spec.Map.delete]
    rw [this]
    exact .inl ⟨rfl, rfl, by show t.size - 1 = 0; rw [hsz1]; rfl⟩

/-- the entry a deletion is aimed at -/
def delTarget (m : Spec.Map V) (key : Option BitString) (goRight : Bool) : Option (Key × V) :=
  match key with
  | some k => m.find? (fun e => e.1 == k)
  | none => if goRight then m.getLast? else m.head?

/-- `found` in `deleteWith`, which the next lemma puts into the Model's text (that text has to follow the Model) -/
def foundB (key : Option BitString) (k' : Key) : Bool :=
  match key with
  | some k => BitString.equal k' k
  | none => true

theorem deleteWith_eq (t : Patricia V) (key : Option BitString) (goRight : Bool) :
    t.deleteWith key goRight =
      (match t.root with
      | none => .ok (t, none)
      | some r => do
        let rt ← t.node (some r)
        let (rp, rr, n) ← findLoop t key goRight t.fuel (some r) (some r) rt.left
        let nn ← t.node n
        if !(foundB key nn.key) then pure (t, none)
        else
          let np ← parentLoop t key goRight n (2 * t.fuel) (some r) rt.left
          match n, rr, rp, np with
          | some n, some rr, some rp, some np =>
            let t' ← t.remove n rr rp np
            pure (t', some (nn.key, nn.val))
          | _, _, _, _ => .panic) := by
  cases key <;> rfl

theorem delTarget_plug {P : List (Step V)} {n : Nat} {kn : Key} {vn : V} (hc : Crit (plug P (leaf n kn vn)))
    (key : Option BitString) (goRight : Bool) (hP : ∀ s ∈ P, s.d = dirM key goRight s.bp) :
    delTarget (ents (plug P (leaf n kn vn))) key goRight = if foundB key kn = true then some (kn, vn) else none := by
  cases key with
  | none =>
    cases goRight
    · simp [delTarget, foundB, head?_ents_plug (C := P) hP, ents]
    · simp [delTarget, foundB, getLast?_ents_plug (C := P) hP, ents]
  | some k =>
    simp only [delTarget]
    by_cases hf : foundB (some k) kn = true
    · rw [if_pos hf, ← (BitString.equal_iff _ _).mp hf]
      exact Spec.Map.find?_of_mem (sorted_ents hc) ((ents_plug_perm P _).symm.subset (by simp [ents]))
    · rw [if_neg hf]
      exact Spec.Map.find?_of_ne fun e he hek =>
        hf ((BitString.equal_iff _ _).mpr (List.mem_singleton.mp (mem_keys_end hc hP (List.mem_map.mpr ⟨e, he, hek⟩))).symm)

theorem deleteWith_sim {t : Patricia V} {m : Spec.Map V} (h : PInv t m) (key : Option BitString) (goRight : Bool) :
    ∃ t', t.deleteWith key goRight = .ok (t', delTarget m key goRight) ∧
      PInv t' (match delTarget m key goRight with
        | none => m
        | some e => Spec.Map.delete m e.1) := by
  rcases h with ⟨hr, rfl, hsz⟩ | ⟨r0, rn, T, h⟩
  · refine ⟨t, by cases key <;> cases goRight <;> simp [deleteWith, hr, delTarget], ?_⟩
    have : delTarget ([] : Spec.Map V) key goRight = none := by cases key <;> cases goRight <;> simp [delTarget]
    rw [this]; exact .inl ⟨hr, rfl, hsz⟩
  ·
    have hfuel : above t rn.bp < t.fuel := by rw [h.hbp]; have := above_le_size t 0; unfold fuel; omega
    obtain ⟨P, n, kn, vn, hP, hT⟩ := exists_plug (dirM key goRight) T
    have hrep : Rep t rn.bp (link rn false) (plug P (leaf n kn vn)) := by rw [← hT, h.hbp]; exact h.rep
    obtain ⟨-, en, -, -, nn, hnn, -, hkey, hval⟩ := (rep_plug (a := (r0, false)) h.hrn).mp hrep
    have htarget := delTarget_plug (hT ▸ h.crit) key goRight hP
    rw [← hT, h.ents] at htarget
    obtain ⟨rp, rr, np, hfind, hpar, t', hrm, hinv⟩ : ∃ rp rr np,
        findLoop t key goRight t.fuel (some r0) (some r0) rn.left = .ok (some rp, some rr, some n) ∧
        parentLoop t key goRight (some n) (2 * t.fuel) (some r0) rn.left = .ok (some np) ∧
        ∃ t', t.remove n rr rp np = .ok t' ∧ PInv t' (Spec.Map.delete m kn) := by
      rcases List.eq_nil_or_concat P with rfl | ⟨C, s, hPc⟩
      · obtain ⟨rfl, t', hrm, hinv⟩ := remove_single (hT ▸ h)
        refine ⟨n, n, n, ?_, parentLoop_plug key goRight (C := []) (by simp) (by simp) rfl (a := (n, false)) h.hrn hrep
          (by omega), t', hrm, hinv⟩
        obtain ⟨x, f, hf, hp, -, -, -, -⟩ := Rep.leaf_fuel hrep hfuel
        rw [hf, show rn.left = link rn false from rfl, hp]
        simp [findLoop, node_some h.hrn]
      · rw [List.concat_eq_append] at hPc
        subst hPc
        have cx : DelPath t r0 rn T m C s n kn vn _ _ := ⟨h, hT, rfl⟩
        obtain ⟨A, B, hAB, hA, hB⟩ := split_first (fun c : Step V => c.i ≠ n) (C ++ [s])
        have hX : (plug B (leaf n kn vn)).idx = n := by
          cases B with
          | nil => rfl
          | cons b D => simpa [plug] using Decidable.not_not.mp (hB b D rfl)
        obtain ⟨t', hrm, hinv⟩ := cx.remove_sim hAB hA hB rfl
        exact ⟨_, _, _, findLoop_plug key goRight hP (a := (r0, false)) h.hrn hrep hfuel,
          parentLoop_plug key goRight (fun c hc => hP c (hAB ▸ List.mem_append_left _ hc)) hA hX (a := (r0, false)) h.hrn
            (by rw [← plug_append, ← hAB]; exact hrep) (by omega), t', hrm, hinv⟩
    rw [deleteWith_eq, h.hroot, htarget]
    simp only [node_some h.hrn, Outcome.ok_bind, hfind, node_some hnn, Outcome.pure_eq, hkey, hval]
    cases hf : foundB key kn
    · exact ⟨t, by simp, .inr ⟨r0, rn, T, h⟩⟩
    · simp only [Bool.not_true, Bool.false_eq_true, if_false, if_true, hpar, Outcome.ok_bind, hrm]
      exact ⟨t', rfl, hinv⟩

theorem smallKeys_put {k : Key} {v : V} (h : (Op.put k v).smallKeys = true) : k ≠ [] ∧ Small k := by
  simp only [Op.smallKeys, Bool.and_eq_true, Bool.not_eq_eq_eq_not, Bool.not_true, List.isEmpty_eq_false_iff,
    decide_eq_true_eq] at h
  exact h

theorem step_sim {t : Patricia V} {m : Spec.Map V} (h : PInvN t m) (op : Op V) (hk : op.smallKeys = true) :
    ∃ t', t.step op = .ok (t', (Spec.Map.step m op).2) ∧ PInvN t' (Spec.Map.step m op).1 := by
  have hsorted := h.inv.sorted
  suffices ∃ t', t.step op = .ok (t', (Spec.Map.step m op).2) ∧ PInv t' (Spec.Map.step m op).1 from
    this.imp fun _ h' => ⟨h'.1, h'.2, Map.step_keys hsorted op h.ne fun k v e => (smallKeys_put (e ▸ hk)).1⟩
  have hN := h
  replace h := h.inv
  cases op with
  | put k v =>
    obtain ⟨t', h1, h2⟩ := put_sim h k (smallKeys_put hk).2 v
    exact ⟨t', by simp [Patricia.step, h1, Outcome.map, Map.step], h2⟩
  | get k => exact ⟨t, by simp [Patricia.step, get_sim h, Outcome.map, Map.step], h⟩
  | delete k =>
    obtain ⟨t', h1, h2⟩ := deleteWith_sim h (some k) false
    simp only [delTarget] at h1 h2
    refine ⟨t', ?_, ?_⟩
    · simp [Patricia.step, Patricia.delete, h1, Outcome.map, Spec.Map.step, Spec.Map.get]
    · simp only [Spec.Map.step]
      cases hf : m.find? (fun e => e.1 == k) with
      | none =>
        rw [hf] at h2
        rw [Spec.Map.delete_of_ne fun e he => by simpa using List.find?_eq_none.mp hf e he]
        exact h2
      | some e =>
        rw [hf] at h2
        have : e.1 = k := by simpa using List.find?_some hf
        rw [← this]; exact h2
  | deleteMin =>
    obtain ⟨t', h1, h2⟩ := deleteWith_sim h none false
    simp only [delTarget, Bool.false_eq_true, if_false] at h1 h2
    refine ⟨t', by simp [Patricia.step, Patricia.deleteMin, h1, Outcome.map, Spec.Map.step, Spec.Map.min], ?_⟩
    · simp only [Spec.Map.step, Spec.Map.deleteMin]
      cases m with
      | nil => simpa using h2
      | cons e m' =>
        simp only [List.head?_cons, List.tail_cons] at h2 ⊢
        rw [Spec.Map.delete_head (k := e.1) (v := e.2) hsorted] at h2
        exact h2
  | deleteMax =>
    obtain ⟨t', h1, h2⟩ := deleteWith_sim h none true
    simp only [delTarget, if_true] at h1 h2
    refine ⟨t', by simp [Patricia.step, Patricia.deleteMax, h1, Outcome.map, Spec.Map.step, Spec.Map.max], ?_⟩
    · simp only [Spec.Map.step, Spec.Map.deleteMax]
      cases hl : m.getLast? with
      | none =>
        rw [hl] at h2
        have : m = [] := List.getLast?_eq_none_iff.mp hl
        subst this; simpa using h2
      | some e =>
        rw [hl] at h2
        simp only at h2
        rw [Spec.Map.delete_last hsorted (k := e.1) (v := e.2) hl] at h2
        exact h2
  | deleteAll => exact ⟨_, rfl, PInv.new⟩
  | size => exact ⟨t, by simp [Patricia.step, Map.step, size_sim h], h⟩
  | min => exact ⟨t, by simp [Patricia.step, min_sim h, Outcome.map, Map.step], h⟩
  | max => exact ⟨t, by simp [Patricia.step, max_sim h, Outcome.map, Map.step], h⟩
  | floor k => exact ⟨t, by simp [Patricia.step, floor_sim h, Outcome.map, Map.step], h⟩
  | ceiling k => exact ⟨t, by simp [Patricia.step, ceiling_sim h, Outcome.map, Map.step], h⟩
  | select i => exact ⟨t, by simp [Patricia.step, select_sim h, Outcome.map, Map.step], h⟩
  | rank k => exact ⟨t, by simp [Patricia.step, rank_sim h, Outcome.map, Map.step], h⟩
  | range lo hi => exact ⟨t, by simp [Patricia.step, range_sim h, Outcome.map, Map.step], h⟩
  | rangeSize lo hi => exact ⟨t, by simp [Patricia.step, rangeSize_sim h, Outcome.map, Map.step], h⟩
  | all => exact ⟨t, by simp [Patricia.step, all_sim h, Outcome.map, Map.step], h⟩
  | withPrefix p =>
    simp only [Op.smallKeys, decide_eq_true_eq] at hk
    exact ⟨t, by simp [Patricia.step, withPrefix_sim h p hk, Outcome.map, Map.step], h⟩
  | longestPrefixOf s =>
    exact ⟨t, by simp [Patricia.step, longestPrefixOf_sim hN s, Outcome.map, Map.step], h⟩
  | «match» pat => exact ⟨t, by simp [Patricia.step, match_sim h, Outcome.map, Map.step], h⟩

theorem run_sim {t : Patricia V} {m : Spec.Map V} (h : PInvN t m) (ops : List (Op V)) (hh : PatriciaHistory ops = true) :
    Patricia.run t ops = (Spec.Map.run m ops).map Outcome.ok := by
  induction ops generalizing t m with
  | nil => rfl
  | cons op ops ih =>
    simp only [PatriciaHistory, Bool.and_eq_true] at hh
    obtain ⟨hk, hrest⟩ := hh
    obtain ⟨t', h1, h2⟩ := step_sim h op hk
    simp only [Patricia.run, runTrace, h1, Spec.Map.run, runSpec, List.map_cons]
    congr 1
    exact ih h2 hrest

end Patricia
end AlgoVerif.C06
