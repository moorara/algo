import AlgoVerif.Model.C07Radix
import AlgoVerif.Proofs.C07Basic
/-!
# C07 — what one key-indexed counting pass computes (statement only)

`countingPass key R rot a aux lo hi` (frequency count, prefix sums, optional sign-byte rotation,
distribution, copy back) rewrites `a[lo .. lo+n)` into the *stable bucket concatenation* of that
segment: for each key value `r` in the bucket order, the elements with key `r` in their original
relative order.  `count` ends up holding the bucket end offsets the MSD recursions read.
The statement stands apart from its proof (`C07Counting.lean`) because it is all the radix sorts use of
`countingPass`: the loop and sort lemmas of LSD / MSD take it as a hypothesis `hcp` (so `C07LSD` does not import the proof), and
`Props/C07.lean` supplies `countingPass_spec`.  The MSD side reads `countAfter` through `countAfter_lt` /
`countAfter_top` (`C07Counting.lean`): `count[r] = startPos r + cnt r` for `r < R`, and the top cell.
-/
namespace AlgoVerif.C07
open AlgoVerif

/-- the elements of `l` whose key is `r`, in order -/
def bucket {α : Type} (k : α → Nat) (l : List α) (r : Nat) : List α := l.filter (fun x => k x == r)

/-- stable bucket concatenation in the bucket order `ord` -/
def bucketConcat {α : Type} (k : α → Nat) (ord : List Nat) (l : List α) : List α :=
  ord.flatMap (bucket k l)

/-- bucket order of a pass: `0, 1, …, R-1`, or with the sign-byte rotation `R/2, …, R-1, 0, …, R/2-1` -/
def bucketOrder (R : Nat) : Option Bool → List Nat
  | none => List.range R
  | some _ => List.range' (R / 2) (R - R / 2) ++ List.range (R / 2)

/-- the content of `count[r]` (`r ≤ R`) after the pass on the segment `seg` -/
def countAfter {α : Type} (k : α → Nat) (R : Nat) (rot : Option Bool) (seg : List α) (r : Nat) : Int :=
  match rot with
  | none => (seg.countP (fun x => k x ≤ r) : Nat)
  | some setTop =>
    if r < R / 2 then
      ((seg.countP (fun x => R / 2 ≤ k x) + seg.countP (fun x => k x ≤ r) : Nat) : Int)
    else if r < R then
      ((seg.countP (fun x => R / 2 ≤ k x ∧ k x ≤ r) : Nat) : Int)
    else if setTop then
      ((seg.countP (fun x => R / 2 ≤ k x) + seg.countP (fun x => k x = 0) : Nat) : Int)
    else (seg.length : Int)

/-- The specification of `countingPass` on the segment `[lo, lo+n)` (`hi = lo+n-1`, possibly `lo-1`).
`k` is the key as a natural number: on the segment `key x = ok (k x)` with `k x < R`. -/
def CountingPassSpec : Prop :=
  ∀ {α : Type} (key : α → Outcome Int) (k : α → Nat) (R : Nat) (rot : Option Bool)
    (a aux : Array α) (lo n : Nat),
    0 < R → (rot.isSome → R % 2 = 0) →
    (hsz : lo + n ≤ a.size) → n ≤ aux.size →
    (∀ i, lo ≤ i → (h : i < lo + n) → key (a[i]'(by omega)) = .ok ((k (a[i]'(by omega)) : Nat) : Int) ∧ k (a[i]'(by omega)) < R) →
    ∃ a' aux' count',
      countingPass key (R : Int) rot a aux (lo : Int) (((lo + n : Nat) : Int) - 1) = .ok (a', aux', count') ∧
      a'.size = a.size ∧ aux'.size = aux.size ∧ count'.size = R + 1 ∧
      (∀ i, (i < lo ∨ lo + n ≤ i) → a'[i]? = a[i]?) ∧
      (a'.extract lo (lo + n)).toList = bucketConcat k (bucketOrder R rot) (a.extract lo (lo + n)).toList ∧
      (∀ r, r ≤ R → count'[r]? = some (countAfter k R rot (a.extract lo (lo + n)).toList r))

end AlgoVerif.C07
