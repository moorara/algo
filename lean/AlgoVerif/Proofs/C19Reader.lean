import AlgoVerif.Model.C19
namespace AlgoVerif.C19
open AlgoVerif AlgoVerif.Generated

/-- the reader never fails with an error other than `io.EOF` -/
def NoIOErr (r : Reader) : Prop := ∀ a ∈ r.script, a.flag ≠ .ioerr

theorem Answer.size_le_len (a : Answer) (len avail : Nat) : a.size len avail ≤ len := by
  unfold Answer.size; split <;> omega

theorem Answer.size_le_avail (a : Answer) (len avail : Nat) : a.size len avail ≤ avail := by
  unfold Answer.size; omega

theorem Answer.err_cases (a : Answer) (h : a.flag ≠ .ioerr) (scripted : Bool) (m : Nat) (ex : Bool) :
    a.err scripted m ex = none ∨ (a.err scripted m ex = some .eof ∧ ex = true) := by
  unfold Answer.err
  simp only [h, if_false]
  split
  · exact Or.inl rfl
  · split
    · rename_i h2; exact Or.inr ⟨rfl, h2.1⟩
    · exact Or.inl rfl

/-- a bound on the iterations `loadLoop` still needs: one per scripted answer; after the script, one that reads what
is left and one that sees `io.EOF` -/
def Reader.budget (r : Reader) : Nat := r.script.length + if r.rest = [] then 1 else 2

theorem read_spec (r : Reader) (len : Nat) (h : NoIOErr r) :
    ∃ m, m ≤ len ∧ m ≤ r.rest.length ∧ (r.read len).1 = r.rest.take m ∧
      (r.read len).2.2.rest = r.rest.drop m ∧ NoIOErr (r.read len).2.2 ∧
      ((r.read len).2.1 = none ∨ ((r.read len).2.1 = some .eof ∧ (r.read len).2.2.rest = [])) ∧
      ((r.read len).2.1 = none → 2 ≤ r.budget ∧ (m = len ∨ (r.read len).2.2.budget + 1 ≤ r.budget)) := by
  cases hs : r.script with
  | nil =>
    have hm : ({ cap := len, flag := if r.tailEof then .eofWithData else .none } : Answer).size len r.rest.length
        = min len r.rest.length := by simp [Answer.size]
    refine ⟨min len r.rest.length, Nat.min_le_left _ _, Nat.min_le_right _ _, ?_⟩
    simp only [Reader.read, hs, hm]
    refine ⟨trivial, trivial, ?_, ?_, ?_⟩
    · intro a ha; simp at ha
    · have := Answer.err_cases { cap := len, flag := if r.tailEof then .eofWithData else .none }
        (by split <;> simp) false (min len r.rest.length) (List.drop (min len r.rest.length) r.rest).isEmpty
      rcases this with h1 | ⟨h1, h2⟩
      · exact Or.inl h1
      · exact Or.inr ⟨h1, by simpa using h2⟩
    · intro he
      by_cases hr : r.rest = []
      · simp [Answer.err, hr] at he
        split at he <;> cases he
      · have := List.length_pos_iff.mpr hr
        simp only [Reader.budget, hs, hr, List.length_nil, if_false, List.drop_eq_nil_iff]
        refine ⟨Nat.le_refl _, ?_⟩
        split <;> omega
  | cons a s =>
    have ha : a.flag ≠ .ioerr := h a (by simp [hs])
    refine ⟨a.size len r.rest.length, a.size_le_len _ _, a.size_le_avail _ _, ?_⟩
    simp only [Reader.read, hs]
    refine ⟨trivial, trivial, ?_, ?_, ?_⟩
    · intro b hb; exact h b (by simp [hs]; exact Or.inr hb)
    · have := Answer.err_cases a ha true (a.size len r.rest.length) (List.drop (a.size len r.rest.length) r.rest).isEmpty
      rcases this with h1 | ⟨h1, h2⟩
      · exact Or.inl h1
      · exact Or.inr ⟨h1, by simpa using h2⟩
    · intro _
      simp only [Reader.budget, hs, List.length_cons]
      by_cases hr : r.rest = []
      · simp only [hr, List.drop_nil, if_true]; omega
      · simp only [hr, if_false]
        refine ⟨by omega, .inr ?_⟩
        split <;> omega

@[simp] theorem size_writeAt (buff : Array UInt8) (pos : Nat) (data : List UInt8) :
    (writeAt buff pos data).size = buff.size := by
  induction data generalizing buff pos with
  | nil => rfl
  | cons b bs ih => simp [writeAt, ih]

theorem getElem?_writeAt (buff : Array UInt8) (pos : Nat) (data : List UInt8) (j : Nat)
    (h : pos + data.length ≤ buff.size) :
    (writeAt buff pos data)[j]? = if pos ≤ j ∧ j < pos + data.length then data[j - pos]? else buff[j]? := by
  induction data generalizing buff pos with
  | nil => simp [writeAt]; omega
  | cons b bs ih =>
    simp only [writeAt, List.length_cons] at h ⊢
    rw [ih _ _ (by simp; omega)]
    by_cases h1 : pos + 1 ≤ j ∧ j < pos + 1 + bs.length
    · have h2 : pos ≤ j ∧ j < pos + (bs.length + 1) := by omega
      simp only [h1, h2, and_self, if_true]
      have : j - pos = (j - (pos + 1)) + 1 := by omega
      rw [this, List.getElem?_cons_succ]
    · simp only [h1, if_false]
      by_cases h3 : pos = j
      · subst h3
        have h2 : pos ≤ pos ∧ pos < pos + (bs.length + 1) := by omega
        simp only [h2, and_self, if_true, Nat.sub_self, List.getElem?_cons_zero]
        rw [Array.getElem?_setIfInBounds_self_of_lt (by omega)]
      · have h2 : ¬ (pos ≤ j ∧ j < pos + (bs.length + 1)) := by omega
        simp only [h2, if_false]
        rw [Array.getElem?_setIfInBounds_ne h3]

theorem writeAt_append (buff : Array UInt8) (pos : Nat) (a b : List UInt8) :
    writeAt buff pos (a ++ b) = writeAt (writeAt buff pos a) (pos + a.length) b := by
  induction a generalizing buff pos with
  | nil => simp [writeAt]
  | cons x xs ih => simp only [List.cons_append, writeAt, List.length_cons, ih]; congr 1; omega

/-- Fuel: `rd.budget` rounds suffice while bytes are wanted; once the request is filled (`cur = high`) one round is left,
which only evaluates the loop test, and the budget may be used up by then. -/
theorem loadLoop_spec (fuel : Nat) : ∀ (rd : Reader) (buff : Array UInt8) (low cur high : Nat),
    NoIOErr rd → low ≤ cur → cur ≤ high →
    ((cur = high ∧ 1 ≤ fuel) ∨ rd.budget ≤ fuel) →
    ∃ rd', loadLoop fuel rd buff low cur high
        = .ok (rd', writeAt buff cur (rd.rest.take (high - cur)), cur + min (high - cur) rd.rest.length,
            if cur + min (high - cur) rd.rest.length = low ∧ cur < high then some .eof else none) ∧
      rd'.rest = rd.rest.drop (high - cur) ∧ NoIOErr rd' := by
  induction fuel with
  | zero =>
    intro rd buff low cur high _ _ _ hf
    rcases hf with ⟨_, h⟩ | h
    · omega
    · unfold Reader.budget at h; split at h <;> omega
  | succ f ih =>
    intro rd buff low cur high hio hlc hch hf
    by_cases hlt : cur < high
    · obtain ⟨m, hm1, hm2, hdata, hrest, hio', herr, hbud⟩ := read_spec rd (high - cur) hio
      unfold loadLoop
      rw [if_pos hlt]
      generalize rd.read (high - cur) = res at *
      obtain ⟨data, err, rd1⟩ := res
      dsimp only at hdata hrest hio' herr hbud ⊢
      subst hdata
      rw [List.length_take, Nat.min_eq_left hm2]
      rcases herr with he | ⟨he, hr1⟩
      · subst he
        have hfuel' : (cur + m = high ∧ 1 ≤ f) ∨ rd1.budget ≤ f := by
          obtain ⟨hb2, hb⟩ := hbud rfl
          have hf2 : rd.budget ≤ f + 1 := hf.elim (fun h => absurd h.1 (Nat.ne_of_lt hlt)) id
          exact hb.imp (fun h => ⟨by omega, by omega⟩) (fun h => by omega)
        obtain ⟨rd', heq, h4, h6⟩ :=
          ih rd1 (writeAt buff cur (List.take m rd.rest)) low (cur + m) high hio' (by omega) (by omega) hfuel'
        refine ⟨rd', ?_, ?_, h6⟩
        · simp only [reduceCtorEq, false_and, if_false]
          rw [heq, hrest, List.length_drop, show high - cur = m + (high - (cur + m)) by omega, List.take_add,
            writeAt_append, List.length_take, Nat.min_eq_left hm2]
          have hc : cur + m + min (high - (cur + m)) (rd.rest.length - m)
              = cur + min (m + (high - (cur + m))) rd.rest.length := by omega
          rw [hc]
          exact congrArg (fun e => Outcome.ok (rd', _, _, e)) (ite_congr (propext (by omega)) (fun _ => rfl) fun _ => rfl)
        · rw [h4, hrest, List.drop_drop]; congr 1; omega
      · -- `io.EOF`: the source is exhausted; `break` if this call of `load` has read something
        subst he
        have hm : m = rd.rest.length := by
          have := congrArg List.length hr1
          rw [hrest, List.length_drop, List.length_nil] at this; omega
        refine ⟨rd1, ?_, by rw [hr1, List.drop_eq_nil_iff.mpr (by omega)], hio'⟩
        rw [Nat.min_eq_right (by omega), ← hm, List.take_of_length_le (by omega), List.take_of_length_le (by omega)]
        by_cases hl : cur + m > low
        · rw [if_pos ⟨rfl, hl⟩, if_neg (by omega)]
        · rw [if_neg (fun h => hl h.2), if_pos (by omega)]
    · have : cur = high := by omega
      subst this
      refine ⟨rd, ?_, by rw [Nat.sub_self]; rfl, hio⟩
      unfold loadLoop
      simp [writeAt]

/-- the fields `next()` and `load` never touch -/
structure SameLex (i i' : Input) : Prop where
  lexemeBegin : i'.lexemeBegin = i.lexemeBegin
  offset : i'.offset = i.offset
  line : i'.line = i.line
  column : i'.column = i.column
  nextColumn : i'.nextColumn = i.nextColumn
  runeSizes : i'.runeSizes = i.runeSizes
  lastColumns : i'.lastColumns = i.lastColumns

/-- `load(low, low + len)` for a reader without I/O errors: nothing left ⇒ `io.EOF`, buffer untouched;
otherwise `k = min len remaining ≥ 1` bytes arrive at `buff[low:]`, followed by the sentinel if `k < len`. -/
theorem load_spec (i : Input) (low len : Nat) (hio : NoIOErr i.src) (hlen : 0 < len) (hsz : low + len ≤ i.buff.size) :
    (i.src.rest = [] ∧ ∃ j, i.load low (low + len) = .ok (j, some .eof) ∧ j.src.rest = [] ∧ NoIOErr j.src ∧
        j.buff = i.buff ∧ j.forward = i.forward ∧ j.ahead = i.ahead ∧ j.err = i.err ∧ SameLex i j) ∨
    (i.src.rest ≠ [] ∧ ∃ j k, i.load low (low + len) = .ok (j, none) ∧
        k = min len i.src.rest.length ∧ 0 < k ∧
        j.src.rest = i.src.rest.drop k ∧ NoIOErr j.src ∧ j.buff.size = i.buff.size ∧
        (∀ t, t < k → j.buff[low + t]? = i.src.rest[t]?) ∧
        (k < len → j.buff[low + k]? = some eofByte) ∧
        (∀ t, (t < low ∨ low + k < t ∨ (t = low + k ∧ k = len)) → j.buff[t]? = i.buff[t]?) ∧
        j.forward = i.forward ∧ j.ahead = i.ahead ∧ j.err = i.err ∧ SameLex i j) := by
  obtain ⟨rd', heq, h4, h6⟩ :=
    loadLoop_spec (i.src.script.length + 3) i.src i.buff low low (low + len) hio (Nat.le_refl _)
      (Nat.le_add_right _ _) (Or.inr (by unfold Reader.budget; split <;> omega))
  rw [Nat.add_sub_cancel_left] at heq h4
  unfold Input.load
  rw [heq]
  by_cases hr : i.src.rest = []
  · rw [hr] at h4 ⊢
    rw [List.take_nil, List.length_nil, Nat.min_zero, if_pos ⟨rfl, by omega⟩]
    exact .inl ⟨rfl, _, rfl, h4.trans List.drop_nil, h6, rfl, rfl, rfl, rfl, ⟨rfl, rfl, rfl, rfl, rfl, rfl, rfl⟩⟩
  · have hpos := List.length_pos_iff.mpr hr
    rw [if_neg (by omega)]
    have hlen' : (i.src.rest.take len).length = min len i.src.rest.length := List.length_take
    have hW : ∀ t, (writeAt i.buff low (i.src.rest.take len))[t]?
        = if low ≤ t ∧ t < low + min len i.src.rest.length then i.src.rest[t - low]? else i.buff[t]? := by
      intro t
      rw [getElem?_writeAt _ _ _ _ (by rw [hlen']; omega), hlen']
      split
      · rw [List.getElem?_take, if_pos (by omega)]
      · rfl
    refine .inr ⟨hr, _, _, rfl, rfl, by omega, ?_, h6, ?_, ?_, ?_, ?_, rfl, rfl, rfl, ⟨rfl, rfl, rfl, rfl, rfl, rfl, rfl⟩⟩
    · exact h4.trans (List.drop_eq_drop_iff.mpr (by omega))
    · dsimp only; split <;> simp
    · intro t ht
      dsimp only
      rw [apply_ite (·[low + t]?), Array.getElem?_setIfInBounds_ne (by omega), ite_self, hW, if_pos (by omega),
        Nat.add_sub_cancel_left]
    · intro hlt
      dsimp only
      rw [if_pos (by omega), Array.getElem?_setIfInBounds_self_of_lt (by rw [size_writeAt]; omega)]
    · intro t ht
      dsimp only
      have hWt := hW t
      rw [if_neg (by omega)] at hWt
      split
      · rw [Array.getElem?_setIfInBounds_ne (by omega), hWt]
      · exact hWt

end AlgoVerif.C19
