import AlgoVerif.Proofs.C13Subset
/-! C13: the two loops of the subset construction return and keep the invariant: the queue holds pairwise distinct
sorted subsets of the NFA's states, so it never holds more than `2^|Q|` of them, and the fuel `2^|Q| + 1` is never
exhausted; hence `ToDFA` returns a DFA for the NFA's language. -/
namespace AlgoVerif.C13
open AlgoVerif AlgoVerif.C13.Spec

theorem card_bound (Q : List Int) (q : List (List Int)) (hnd : q.Nodup)
    (hs : ∀ S ∈ q, SSorted S ∧ ∀ x ∈ S, x ∈ Q) : q.length ≤ 2 ^ Q.length := by
  induction Q generalizing q with
  | nil =>
    simp only [List.length_nil, Nat.pow_zero]
    refine hnd.length_le_of_subset (l₂ := [[]]) fun S hS => List.mem_singleton.2 ?_
    cases S with
    | nil => rfl
    | cons y S => exact absurd ((hs _ hS).2 y (by simp)) (by simp)
  | cons x Q ih =>
    have hlen : q.length = (q.filter (fun S => S.contains x)).length + (q.filter (fun S => !S.contains x)).length := by
      have := (List.filter_append_perm (fun S => S.contains x) q).length_eq
      simp only [List.length_append] at this
      omega
    have hnd' : q.Pairwise (· ≠ ·) := List.nodup_iff_pairwise_ne.1 hnd
    have h0 : (q.filter (fun S => !S.contains x)).length ≤ 2 ^ Q.length := by
      apply ih
      · exact List.nodup_iff_pairwise_ne.2 (List.Pairwise.filter _ hnd')
      · intro S hS
        rw [List.mem_filter] at hS
        refine ⟨(hs S hS.1).1, ?_⟩
        intro y hy
        have := (hs S hS.1).2 y hy
        simp at this hS
        rcases this with rfl | h
        · exact absurd hy hS.2
        · exact h
    -- the subsets with `x`, with `x` removed
    have h1 : (q.filter (fun S => S.contains x)).length ≤ 2 ^ Q.length := by
      have := ih ((q.filter (fun S => S.contains x)).map (fun S => S.filter (fun y => y ≠ x))) ?_ ?_
      · simpa using this
      · apply List.nodup_iff_pairwise_ne.2
        rw [List.pairwise_map]
        apply List.Pairwise.imp_of_mem _ (List.Pairwise.filter _ hnd')
        intro S1 S2 hS1 hS2 hne heq
        rw [List.mem_filter] at hS1 hS2
        apply hne
        apply ssorted_ext (hs S1 hS1.1).1 (hs S2 hS2.1).1
        intro y
        by_cases hy : y = x
        · subst hy; simp at hS1 hS2; simp [hS1.2, hS2.2]
        · have e1 : y ∈ S1.filter (fun y => y ≠ x) ↔ y ∈ S1 := by simp [hy]
          have e2 : y ∈ S2.filter (fun y => y ≠ x) ↔ y ∈ S2 := by simp [hy]
          rw [← e1, ← e2, heq]
      · intro S' hS'
        rw [List.mem_map] at hS'
        obtain ⟨S, hS, rfl⟩ := hS'
        rw [List.mem_filter] at hS
        refine ⟨List.Pairwise.filter _ (hs S hS.1).1, ?_⟩
        intro y hy
        simp at hy
        have := (hs S hS.1).2 y hy.1
        simp at this
        rcases this with rfl | h
        · exact absurd rfl hy.2
        · exact h
    simp only [List.length_cons, Nat.pow_succ]
    omega

theorem NFA.target_mem_states (n : NFA) {s a t : Int} (h : n.Δ s a t) : t ∈ n.states := by
  obtain ⟨nx, hnx, ht⟩ := h
  exact (n.entry_states (NFA.next_entry hnx)).2 t ht

theorem NFA.εClosure_states (n : NFA) (T : List Int) (hT : ∀ x ∈ T, x ∈ n.states) :
    ∃ c, n.εClosure T = .ok c ∧ (∀ x, x ∈ c ↔ ∃ s ∈ T, EReach n.Δ s x) ∧ (SSorted T → SSorted c) ∧
      ∀ x ∈ c, x ∈ n.states := by
  obtain ⟨c, hc, hm, hs⟩ := n.εClosure_total T
  refine ⟨c, hc, hm, hs, fun x hx => ?_⟩
  obtain ⟨s, hs, hr⟩ := (hm x).1 hx
  cases hr with
  | refl => exact hT _ hs
  | step _ hd => exact n.target_mem_states hd

structure SubInv (n : NFA) (syms : List Int) (q : List (List Int)) (dfa : DFA) (front : Nat) (D : Int → Prop) : Prop
    extends SInv n syms q dfa front D where
  nodup : q.Nodup
  sub : ∀ S ∈ q, ∀ x ∈ S, x ∈ n.states
  wf : dfa.WF

variable {n : NFA} {syms : List Int} {q : List (List Int)} {dfa : DFA} {front : Nat}

theorem SubInv.with {front' : Nat} {D D' : Int → Prop} (h : SubInv n syms q dfa front D)
    (h' : SInv n syms q dfa front' D') : SubInv n syms q dfa front' D' := ⟨h', h.nodup, h.sub, h.wf⟩

theorem SubInv.length_le {D : Int → Prop} (h : SubInv n syms q dfa front D) : q.length ≤ 2 ^ n.states.length :=
  card_bound n.states q h.nodup fun S hS => ⟨h.sorted S hS, h.sub S hS⟩

theorem SubInv.start (n : NFA) (syms : List Int) (S0 : List Int) (h0 : n.εClosure (mkSet [n.start]) = .ok S0) :
    SubInv n syms [S0] (DFA.new 0 []) 0 (fun _ => False) := by
  obtain ⟨-, hS, hQ⟩ := all_of_total (n.εClosure_states (mkSet [n.start]) fun x hx => by
    obtain rfl : x = n.start := by simpa using hx
    exact n.mem_states_of _ (Or.inl rfl)) S0 h0
  refine ⟨⟨by simpa using hS (ssorted_mkSet _), ?_, ?_⟩, by simp, by simpa using hQ, DFA.WF_new _ _⟩
  · intro i a j hk; simp [DFA.δ, DFA.new, aget] at hk
  · intro ii a hb; simp at hb

theorem subsetStep_total (n : NFA) (syms : List Int) (T : List Int) (front : Nat) (rem : List Int)
    (q : List (List Int)) (dfa : DFA) (D : Int → Prop)
    (hinv : SubInv n syms q dfa front D) (hT : q[front]? = some T) (hrem : ∀ a ∈ rem, a ∈ syms) :
    ∃ q' dfa', subsetStep n T front rem (q, dfa) = .ok (q', dfa') ∧
      SubInv n syms q' dfa' front (fun b => b ∈ rem ∨ D b) ∧ q <+: q' ∧ dfa'.start = dfa.start := by
  induction rem generalizing q dfa D with
  | nil => exact ⟨q, dfa, rfl, hinv.with (hinv.toSInv.congr (by simp)), List.prefix_refl _, rfl⟩
  | cons a rem ih =>
    obtain ⟨U, hU, hUm, hUs, hUQ⟩ := n.εClosure_states (n.move T a) fun x hx =>
      let ⟨_, _, hd⟩ := (n.mem_move _ _ _).1 hx; n.target_mem_states hd
    replace hUs := hUs (n.move_sorted T a)
    have hSucc : Succ n T a U := n.succ_of_closure_move hUm
    -- the rest of the loop, once the transition to index `j` of the (possibly extended) queue `q1` is recorded
    have cont : ∀ (q1 : List (List Int)) (j : Nat), q <+: q1 → (∀ S ∈ q1, SSorted S) → q1.Nodup →
        (∀ S ∈ q1, ∀ x ∈ S, x ∈ n.states) → q1[j]? = some U →
        ∃ q' dfa', subsetStep n T front rem (q1, dfa.add front a j) = .ok (q', dfa') ∧
          SubInv n syms q' dfa' front (fun b => b ∈ a :: rem ∨ D b) ∧ q <+: q' ∧ dfa'.start = dfa.start := by
      intro q1 j hpre hs hnd hsub hj
      obtain ⟨q', dfa', h1, h2, h3, h4⟩ := ih q1 (dfa.add front a j) _
        ⟨hinv.toSInv.add hpre hs hT hj hSucc (hrem a (by simp)), hnd, hsub, DFA.WF_add hinv.wf _ _ _⟩
        (getElem?_prefix hpre hT) (fun b hb => hrem b (by simp [hb]))
      exact ⟨q', dfa', h1, h2.with (h2.toSInv.congr fun b => by rw [List.mem_cons, or_assoc]; exact or_left_comm), hpre.trans h3, h4⟩
    simp only [subsetStep, hU]
    cases hf : sqFind q U with
    | some j =>
      obtain ⟨v, hv, hveq⟩ := sqFind_some hf
      cases (setEq_iff (hinv.sorted v (List.mem_of_getElem? hv)) hUs).1 hveq
      exact cont q j (List.prefix_refl _) hinv.sorted hinv.nodup hinv.sub hv
    | none =>
      have hnew : ∀ v ∈ q, v ≠ U := fun v hv e => by
        have := (List.findIdx?_eq_none_iff.1 hf) v hv
        rw [e, setEq_refl] at this; exact absurd this (by simp)
      refine cont (q ++ [U]) q.length (List.prefix_append _ _) ?_
        (List.nodup_append.2 ⟨hinv.nodup, by simp, fun v hv u hu => by cases List.mem_singleton.1 hu; exact hnew v hv⟩)
        ?_ (by simp)
      all_goals
        intro S hS
        rcases List.mem_append.1 hS with hS | hS
      · exact hinv.sorted S hS
      · cases List.mem_singleton.1 hS; exact hUs
      · exact hinv.sub S hS
      · cases List.mem_singleton.1 hS; exact hUQ

theorem subsetLoop_total (n : NFA) (syms : List Int) (fuel : Nat) (q : List (List Int)) (front : Nat) (dfa : DFA)
    (hinv : SubInv n syms q dfa front (fun _ => False)) (hf : 2 ^ n.states.length ≤ fuel + front) :
    ∃ r, subsetLoop n syms fuel q front dfa = .ok r ∧
      SubInv n syms r.1 r.2 r.1.length (fun _ => False) ∧ q <+: r.1 ∧ r.2.start = dfa.start := by
  induction fuel generalizing q front dfa with
  | zero =>
    unfold subsetLoop
    cases hq : q[front]? with
    | none => exact ⟨_, rfl, hinv.with (hinv.toSInv.finish hq), List.prefix_refl _, rfl⟩
    | some T =>
      have h1 : front < q.length := (List.getElem?_eq_some_iff.1 hq).1
      have := hinv.length_le; omega
  | succ fuel ih =>
    unfold subsetLoop
    cases hq : q[front]? with
    | none => exact ⟨_, rfl, hinv.with (hinv.toSInv.finish hq), List.prefix_refl _, rfl⟩
    | some T =>
      obtain ⟨q', dfa', h1, h2, h3, h4⟩ := subsetStep_total n syms T front syms q dfa _ hinv hq (fun a ha => ha)
      obtain ⟨r, g0, g1, g2, g3⟩ := ih q' (front + 1) dfa' (h2.with (h2.toSInv.next fun _ => Or.inl)) (by omega)
      exact ⟨r, by simp only [h1, g0], g1, h3.trans g2, by rw [g3, h4]⟩

theorem NFA.subsets_total (n : NFA) : ∃ r, n.subsets = .ok r ∧
    r.2.WF ∧ r.2.Proper ∧ r.2.start = 0 ∧ r.2.final = subsetFinals n.final r.1 ∧
    ∃ S0, r.1[0]? = some S0 ∧ Reps n n.start [] S0 ∧
      SInv n n.symbols r.1 r.2 r.1.length (fun _ => False) := by
  obtain ⟨S0, hS0, hS0m, -⟩ := n.εClosure_total (mkSet [n.start])
  obtain ⟨r0, hl, hinv, hpre, hstart⟩ := subsetLoop_total n n.symbols n.subsetFuel [S0] 0 (DFA.new 0 [])
    (SubInv.start n _ S0 hS0) (by simp [NFA.subsetFuel])
  refine ⟨(r0.1, { r0.2 with final := subsetFinals n.final r0.1 }), by simp only [NFA.subsets, hS0, hl],
    hinv.wf, ⟨?_, fun a => ?_⟩, hstart, rfl, S0, getElem?_prefix hpre (by simp), Reps.nil hS0m,
    ⟨hinv.sorted, hinv.sound, hinv.complete⟩⟩
  · show (-1 : Int) ∉ subsetFinals n.final r0.1
    rw [mem_subsetFinals]
    rintro ⟨i, _, hi, _⟩
    omega
  · refine Option.eq_none_iff_forall_ne_some.2 fun j hd => ?_
    obtain ⟨ii, _, _, _, e1, _⟩ := hinv.sound _ _ _ hd
    omega

theorem NFA.subsets_lang (n : NFA) (r : List (List Int) × DFA) (h : n.subsets = .ok r) (w : Word) (hE : E ∉ w) :
    r.2.lang w ↔ n.lang w := by
  obtain ⟨-, -, hst, hfin, S0, hq0, hR0, hinv⟩ := all_of_total n.subsets_total r h
  exact hinv.lang hst hfin hq0 hR0 w hE

theorem NFA.toDFA_total (n : NFA) : ∃ d, n.toDFA = .ok d ∧ ∃ r, n.subsets = .ok r ∧ r.2 = d := by
  obtain ⟨r, hr, -⟩ := n.subsets_total
  exact ⟨r.2, by simp only [NFA.toDFA, hr], r, hr, rfl⟩

theorem NFA.toDFA_lang (n : NFA) (d : DFA) (h : n.toDFA = .ok d) (w : Word) (hE : E ∉ w) :
    d.lang w ↔ n.lang w := by
  obtain ⟨r, hs, rfl⟩ := all_of_total n.toDFA_total d h
  exact n.subsets_lang r hs w hE

end AlgoVerif.C13
