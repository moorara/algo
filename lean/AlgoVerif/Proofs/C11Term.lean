import AlgoVerif.Proofs.C11Sound
/-!
# C11 — termination of the driver (fuel sufficiency) for grammars without ε-productions and unit cycles

On a `SoundTable` the productions emitted so far are always a rightmost derivation of the input from the current
sentential form (`Inv`).  In a grammar without ε-productions whose unit productions strictly decrease a rank, every
derivation step increases a potential that is bounded by `2·R·|w|`; so at most `2·R·|w|` reductions and `|w|` shifts
can happen, and `parse` with more fuel than that never answers `diverge`.
-/
namespace AlgoVerif.C11.Term
open AlgoVerif AlgoVerif.Gram AlgoVerif.C11 AlgoVerif.C11.Spec AlgoVerif.C11.Sound

/-- no ε-productions, and unit productions `A → B` go down in `rank` (so there is no unit cycle); `R` bounds the ranks -/
structure NoEpsUnitCycle (g : SGrammar) (rank : String → Nat) (R : Nat) : Prop where
  noEps : ∀ p ∈ g.prods, p.body ≠ []
  unit : ∀ p ∈ g.prods, ∀ B, p.body = [Sym.nonterm B] → rank B < rank p.head
  bound : ∀ p ∈ g.prods, rank p.head < R

/-- weights in `[R, 2R]`: a terminal weighs `2R`, a non-terminal the less the higher its rank.  So a unit production gains
(it goes down in rank), and a body of two or more symbols (`≥ 2R`) outweighs any single non-terminal (`≤ 2R - 1`); the `min`
keeps the weight of a non-terminal whose rank nothing bounds at `R` -/
def wt (rank : String → Nat) (R : Nat) : Sy → Nat
  | .term _ => 2 * R
  | .nonterm A => 2 * R - min (rank A + 1) R

def pot (rank : String → Nat) (R : Nat) (φ : List Sy) : Nat := (φ.map (wt rank R)).sum

theorem pot_append (rank : String → Nat) (R : Nat) (a b : List Sy) :
    pot rank R (a ++ b) = pot rank R a + pot rank R b := by simp [pot]

theorem pot_terms (rank : String → Nat) (R : Nat) (w : List String) :
    pot rank R (w.map Sym.term) = 2 * R * w.length := by
  induction w with
  | nil => simp [pot]
  | cons a w ih =>
    have : pot rank R (List.map Sym.term (a :: w)) = 2 * R + pot rank R (w.map Sym.term) := by simp [pot, wt]
    rw [this, ih]; simp [Nat.mul_succ]; omega

theorem wt_ge (rank : String → Nat) (R : Nat) (X : Sy) : R ≤ wt rank R X := by
  cases X with
  | term t => simp [wt]; omega
  | nonterm A => simp only [wt]; have := Nat.min_le_right (rank A + 1) R; omega

theorem pot_ge (rank : String → Nat) (R : Nat) : ∀ (φ : List Sy), R * φ.length ≤ pot rank R φ
  | [] => by simp [pot]
  | X :: φ => by
    have h1 := wt_ge rank R X
    have h2 := pot_ge rank R φ
    have : pot rank R (X :: φ) = wt rank R X + pot rank R φ := by simp [pot]
    rw [this]; simp [Nat.mul_succ]; omega

section
variable {g : SGrammar} {start' : String} {items : Int → List Item} {T : Tbl} (hT : SoundTable g start' items T)
  {rank : String → Nat} {R : Nat} (h : NoEpsUnitCycle g rank R)
include h

theorem prod_increases {p : Pr} (hp : p ∈ g.prods) : wt rank R (Sym.nonterm p.head) + 1 ≤ pot rank R p.body := by
  have hR : rank p.head < R := h.bound p hp
  have hw : wt rank R (Sym.nonterm p.head) = 2 * R - (rank p.head + 1) := by
    simp only [wt]; rw [Nat.min_eq_left (by omega)]
  rw [hw]
  match hb : p.body with
  | [] => exact absurd hb (h.noEps p hp)
  | [X] =>
    cases X with
    | term t => simp [pot, wt]; omega
    | nonterm B =>
      have := h.unit p hp B hb
      simp only [pot, wt, List.map_cons, List.map_nil, List.sum_cons, List.sum_nil, Nat.add_zero]
      have := Nat.min_le_left (rank B + 1) R
      omega
  | X :: Y :: rest =>
    have h1 := wt_ge rank R X
    have h2 := wt_ge rank R Y
    have : pot rank R (X :: Y :: rest) = wt rank R X + (wt rank R Y + pot rank R rest) := by simp [pot]
    rw [this]; omega

theorem rderiv_length :
    ∀ (π : List Pr) (α β : List Sy), RDeriv g π α β → pot rank R α + π.length ≤ pot rank R β := by
  intro π α β hd
  induction hd with
  | nil α => simp
  | cons u v p hp _ ih =>
    have hinc := prod_increases h hp
    simp only [pot_append] at ih ⊢
    have : pot rank R [Sym.nonterm p.head] = wt rank R (Sym.nonterm p.head) := by simp [pot]
    rw [this]
    simp only [List.length_cons]
    omega

theorem out_bounded {w : List String} {st : PState} {fr : List TFrame} (hI : Inv g T w st fr) :
    st.out.length ≤ 2 * R * w.length := by
  have := rderiv_length h _ _ _ hI.deriv
  rw [pot_terms] at this
  omega

include hT

theorem run_terminates (w : List String) :
    ∀ (fuel : Nat) (st : PState) (fr : List TFrame), Inv g T w st fr →
      st.input.length + (2 * R * w.length - st.out.length) < fuel → prun T fuel st ≠ Outcome.diverge := by
  intro fuel
  induction fuel with
  | zero => intro st _ _ hlt; omega
  | succ n ih =>
    intro st fr hI hlt
    unfold prun
    cases hs : pstep T st with
    | inr r => simp
    | inl st' =>
      simp only
      obtain ⟨fr', hI', -, hcase⟩ := step_inv hT hI hs
      have hb := out_bounded h hI
      have hb' := out_bounded h hI'
      apply ih st' fr' hI'
      -- a shift shortens the input, a reduction lengthens the bounded output
      rcases hcase with ⟨hin, hout⟩ | ⟨hin, hout, -⟩
      · rw [hout]; omega
      · rw [hin]; omega

theorem parse_terminates (w : List String) (hw : endmarker ∉ w) (fuel : Nat) (hf : (2 * R + 1) * w.length < fuel) :
    parse T fuel w ≠ Outcome.diverge := by
  apply run_terminates hT h w fuel (pinit w) [] (inv_init g T w hw)
  simp only [pinit, List.length_nil, Nat.sub_zero]
  have : (2 * R + 1) * w.length = w.length + 2 * R * w.length := by
    rw [Nat.add_mul]; omega
  omega

end

end AlgoVerif.C11.Term
