import AlgoVerif.Proofs.C01Run
/-!
# C01: the BST mutators refine the abstract map
-/
namespace AlgoVerif.C01
open Tree

variable {K V : Type} {cmp : K → K → Int}

theorem bstPut_ok (h : LawfulCmp cmp) (key : K) (val : V) : ∀ {t : Tree K V}, Spec.Sorted cmp t.toList →
    (bstPut cmp t key val).toList = Spec.upsert cmp key val t.toList ∧
      (SizeOK t → SizeOK (bstPut cmp t key val))
  | .nil, _ => ⟨rfl, fun _ => ⟨rfl, trivial, trivial⟩⟩
  | .node l k v s hh c r, hs => by
    obtain ⟨hsl, hsr, hl, hr, -⟩ := sorted_node.1 hs
    simp only [bstPut, toList_node]
    split
    · rename_i hlt
      obtain ⟨e1, e2⟩ := bstPut_ok h key val hsl
      exact ⟨by rw [toList_node, e1, upsert_node_lt hlt], fun hz => ⟨rfl, e2 hz.2.1, hz.2.2⟩⟩
    · rename_i hnlt
      split
      · rename_i hgt
        obtain ⟨e1, e2⟩ := bstPut_ok h key val hsr
        exact ⟨by rw [toList_node, e1, upsert_node_gt h hl hgt], fun hz => ⟨rfl, hz.2.1, e2 hz.2.2⟩⟩
      · rename_i hngt
        exact ⟨by rw [toList_node, upsert_node_eq h hl hnlt hngt], fun hz => ⟨rfl, hz.2.1, hz.2.2⟩⟩

theorem bstDeleteMin_spec : ∀ (l : Tree K V) (k : K) (v : V) (h : Nat) (c : Bool) (r : Tree K V),
    l.toList ++ (k, v) :: r.toList = (bstDeleteMin l k v h c r).2 :: (bstDeleteMin l k v h c r).1.toList ∧
      (bstDeleteMin l k v h c r).2 = minOf l k v ∧
      (SizeOK l → SizeOK r → SizeOK (bstDeleteMin l k v h c r).1)
  | .nil, k, v, h, c, r => ⟨rfl, rfl, fun _ hr => hr⟩
  | .node ll lk lv ls lh lc lr, k, v, h, c, r => by
    obtain ⟨ih1, ih2, ih3⟩ := bstDeleteMin_spec ll lk lv lh lc lr
    simp only [bstDeleteMin, toList_node, minOf]
    refine ⟨?_, ih2, ?_⟩
    · rw [ih1]; rfl
    · intro hl hr
      exact ⟨rfl, ih3 hl.2.1 hl.2.2, hr⟩

theorem bstDeleteMax_spec : ∀ (r : Tree K V) (l : Tree K V) (k : K) (v : V) (h : Nat) (c : Bool),
    l.toList ++ (k, v) :: r.toList = (bstDeleteMax l k v h c r).1.toList ++ [(bstDeleteMax l k v h c r).2] ∧
      (bstDeleteMax l k v h c r).2 = maxOf r k v ∧
      (SizeOK l → SizeOK r → SizeOK (bstDeleteMax l k v h c r).1)
  | .nil, l, k, v, h, c => ⟨rfl, rfl, fun hl _ => hl⟩
  | .node rl rk rv rs rh rc rr, l, k, v, h, c => by
    obtain ⟨ih1, ih2, ih3⟩ := bstDeleteMax_spec rr rl rk rv rh rc
    simp only [bstDeleteMax, toList_node, maxOf]
    refine ⟨?_, ih2, ?_⟩
    · rw [ih1]; simp
    · intro hl hr
      exact ⟨rfl, hl, ih3 hr.2.1 hr.2.2⟩

theorem bstDelete_ok (h : LawfulCmp cmp) (key : K) : ∀ {t : Tree K V}, Spec.Sorted cmp t.toList →
    (bstDelete cmp t key).2 = get cmp t key ∧
      (bstDelete cmp t key).1.toList = Spec.remove cmp key t.toList ∧
      (SizeOK t → SizeOK (bstDelete cmp t key).1)
  | .nil, _ => ⟨rfl, rfl, id⟩
  | .node l k v s hh c r, hs => by
    obtain ⟨hsl, hsr, hl, hr, -⟩ := sorted_node.1 hs
    simp only [bstDelete, get, toList_node]
    split
    · rename_i hlt
      obtain ⟨e0, e1, e2⟩ := bstDelete_ok h key hsl
      exact ⟨e0, by rw [toList_node, e1, remove_node_lt h hr hlt], fun hz => ⟨rfl, e2 hz.2.1, hz.2.2⟩⟩
    · rename_i hnlt
      split
      · rename_i hgt
        obtain ⟨e0, e1, e2⟩ := bstDelete_ok h key hsr
        exact ⟨e0, by rw [toList_node, e1, remove_node_gt h hl hgt], fun hz => ⟨rfl, hz.2.1, e2 hz.2.2⟩⟩
      · rename_i hngt
        rw [remove_node_eq h hl hr hnlt hngt]
        cases l with
        | nil => exact ⟨rfl, by simp, fun hz => hz.2.2⟩
        | node ll lk lv ls lh lc lr =>
          cases r with
          | nil => exact ⟨rfl, by simp, fun hz => hz.2.1⟩
          | node rl rk rv rs rh rc rr =>
            obtain ⟨e1, e2, e3⟩ := bstDeleteMin_spec rl rk rv rh rc rr
            refine ⟨rfl, ?_, fun hz => ⟨rfl, hz.2.1, e3 hz.2.2.2.1 hz.2.2.2.2⟩⟩
            simp only [toList_node]
            rw [← e2, e1]

theorem bst_kindOK (h : LawfulCmp cmp) : KindOK (K := K) (V := V) .bst cmp (Inv cmp) where
  good_nil := inv_nil
  inv := fun _ ht => ht
  put := fun t k v ht => by
    obtain ⟨e1, e2⟩ := bstPut_ok h k v ht.1
    exact ⟨_, rfl, ⟨by rw [e1]; exact sorted_upsert h k v ht.1, e2 ht.2⟩, e1⟩
  delete := fun t k ht => by
    obtain ⟨e0, e1, e2⟩ := bstDelete_ok h k ht.1
    refine ⟨(bstDelete cmp t k).1, ?_, ⟨by rw [e1]; exact Sorted.filter _ ht.1, e2 ht.2⟩, e1⟩
    simp only [delete]
    rw [← get_eq h k ht.1, ← e0]
  deleteMin := fun t ht => by
    cases t with
    | nil => exact ⟨.nil, rfl, inv_nil, rfl⟩
    | node l k v s hh c r =>
      obtain ⟨e1, -, e3⟩ := bstDeleteMin_spec l k v hh c r
      obtain ⟨f1, f2, f3⟩ := Sorted.of_eq_cons ht.1 e1
      exact ⟨(bstDeleteMin l k v hh c r).1, by rw [f1]; rfl, ⟨f2, e3 ht.2.2.1 ht.2.2.2⟩, f3⟩
  deleteMax := fun t ht => by
    cases t with
    | nil => exact ⟨.nil, rfl, inv_nil, rfl⟩
    | node l k v s hh c r =>
      obtain ⟨e1, -, e3⟩ := bstDeleteMax_spec r l k v hh c
      obtain ⟨f1, f2, f3⟩ := Sorted.of_eq_concat ht.1 e1
      exact ⟨(bstDeleteMax l k v hh c r).1, by rw [f1]; rfl, ⟨f2, e3 ht.2.2.1 ht.2.2.2⟩, f3⟩

end AlgoVerif.C01
