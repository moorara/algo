import AlgoVerif.Proofs.C13SM
/-! C13: the two graph searches of the DFA operations: the depth-first search of
`EliminateDeadStates` returns within its fuel a set that holds the root and is closed under successors; the
breadth-first search of `ReindexStates` returns within its fuel and keeps the invariant of the state manager. -/
namespace AlgoVerif.C13
open AlgoVerif AlgoVerif.C13.Spec

theorem mem_revAdj (d : DFA) (s t : Int) :
    (∃ ts, aget t d.revAdj = some ts ∧ s ∈ ts) ↔ ∃ a, (s, a, t) ∈ entries d.trans := by
  have hrev : d.revAdj = (entries d.trans).foldl
      (fun adj e => aput e.2.2 (sins e.1 ((aget e.2.2 adj).getD [])) adj) [] :=
    foldl_nested (γ := List (Int × List Int)) d.trans
      (fun adj s _ t => aput t (sins s ((aget t adj).getD [])) adj) []
  rw [hrev]
  refine (foldl_grow (fun adj (p : Int × Int) => ∃ ts, aget p.2 adj = some ts ∧ p.1 ∈ ts)
    (Q := fun e p => p.1 = e.1 ∧ p.2 = e.2.2) (fun adj e p => ?_) _ [] (s, t)).trans ?_
  · rw [aget_aput]
    by_cases ht : p.2 = e.2.2
    · rw [← ht]; cases aget p.2 adj <;> simp [ht, or_comm]
    · simp [ht]
  · simp only [aget, reduceCtorEq, false_and, exists_false, false_or]
    exact ⟨fun ⟨⟨_, a, _⟩, he, hs, ht⟩ => ⟨a, by rw [hs, ht]; exact he⟩, fun ⟨a, h⟩ => ⟨_, h, rfl, rfl⟩⟩

def ClosedAt (adj : List (Int × List Int)) (V : List Int) (x : Int) : Prop :=
  ∀ ts, aget x adj = some ts → ∀ t ∈ ts, t ∈ V

/-- the loop of `dfs` over the successors `ts` of a node, continuing from the outcome `o` -/
def dfsLoop (adj : List (Int × List Int)) (fuel : Nat) (ts : List Int) (o : Outcome (List Int)) : Outcome (List Int) :=
  ts.foldl (fun (acc : Outcome (List State)) t =>
    match acc with
    | .ok v => if v.contains t then .ok v else dfs adj fuel v t
    | o => o) o

theorem dfs_succ (adj : List (Int × List Int)) (fuel : Nat) (vis : List Int) (s : Int) :
    dfs adj (fuel + 1) vis s =
      match aget s adj with
      | none => .ok (sins s vis)
      | some ts => dfsLoop adj fuel ts (.ok (sins s vis)) := by
  rw [dfs]; rfl

theorem dfsLoop_cons_ok (adj : List (Int × List Int)) (fuel : Nat) (t : Int) (ts v : List Int) :
    dfsLoop adj fuel (t :: ts) (.ok v) =
      dfsLoop adj fuel ts (if v.contains t then .ok v else dfs adj fuel v t) := rfl

theorem dfs_total (adj : List (Int × List Int)) (U : List Int)
    (hU : ∀ x ts, aget x adj = some ts → ∀ t ∈ ts, t ∈ U) (fuel : Nat) (vis : List Int) (s : Int)
    (hs : s ∈ U) (hsv : s ∉ vis) (hf : unvisited U vis ≤ fuel) :
    ∃ V, dfs adj fuel vis s = .ok V ∧ (∀ x ∈ vis, x ∈ V) ∧ s ∈ V ∧ ∀ x ∈ V, x ∈ vis ∨ ClosedAt adj V x := by
  have hlt := unvisited_lt U vis (sins s vis) s hs hsv (fun _ => mem_sins)
  induction fuel generalizing vis s with
  | zero => omega
  | succ fuel ih =>
    rw [dfs_succ]
    cases hg : aget s adj with
    | none =>
      refine ⟨_, rfl, fun x hx => by simp [hx], by simp, fun x hx => ?_⟩
      rcases mem_sins.1 hx with rfl | hx
      · exact Or.inr fun ts hts => by rw [hg] at hts; cases hts
      · exact Or.inl hx
    | some ts =>
      simp only
      have loop : ∀ (l : List Int) (v0 : List Int), (∀ t ∈ l, t ∈ U) → unvisited U v0 ≤ fuel →
          ∃ V, dfsLoop adj fuel l (.ok v0) = .ok V ∧ (∀ x ∈ v0, x ∈ V) ∧ (∀ t ∈ l, t ∈ V) ∧
            ∀ x ∈ V, x ∈ v0 ∨ ClosedAt adj V x := by
        intro l
        induction l with
        | nil => intro v0 _ _; exact ⟨v0, rfl, fun x hx => hx, by simp, fun x hx => Or.inl hx⟩
        | cons t l ihl =>
          intro v0 hl hv0
          have hl' : ∀ t' ∈ l, t' ∈ U := fun t' ht' => hl t' (List.mem_cons_of_mem _ ht')
          rw [dfsLoop_cons_ok]
          by_cases hc : v0.contains t = true
          · rw [if_pos hc]
            obtain ⟨V, a0, a1, a2, a3⟩ := ihl v0 hl' hv0
            exact ⟨V, a0, a1, List.forall_mem_cons.2 ⟨a1 _ (by simpa using hc), a2⟩, a3⟩
          · rw [if_neg hc]
            have hct : t ∉ v0 := by simpa using hc
            obtain ⟨V1, b0, b1, b2, b3⟩ := ih v0 t (hl t List.mem_cons_self) hct hv0
              (unvisited_lt U v0 (sins t v0) t (hl t List.mem_cons_self) hct (fun _ => mem_sins))
            rw [b0]
            obtain ⟨V, a0, a1, a2, a3⟩ := ihl V1 hl' (Nat.le_trans (unvisited_mono U v0 V1 b1) hv0)
            refine ⟨V, a0, fun x hx => a1 x (b1 x hx), List.forall_mem_cons.2 ⟨a1 _ b2, a2⟩, fun x hx => ?_⟩
            -- a node that the recursive call closed stays closed: the set only grew
            rcases a3 x hx with h1 | h1
            · exact (b3 x h1).imp_right fun h2 ts' hts' t' ht' => a1 _ (h2 ts' hts' t' ht')
            · exact Or.inr h1
      obtain ⟨V, a0, a1, a2, a3⟩ := loop ts (sins s vis) (hU s ts hg) (by omega)
      refine ⟨V, a0, fun x hx => a1 x (by simp [hx]), a1 s (by simp), fun x hx => ?_⟩
      rcases a3 x hx with h1 | h1
      · rcases mem_sins.1 h1 with rfl | h1
        · exact Or.inr fun ts' hts' t' ht' => by rw [hg] at hts'; cases hts'; exact a2 t' ht'
        · exact Or.inl h1
      · exact Or.inr h1

/-- the search of `EliminateDeadStates`: from the extra node `-1` (whose successors are the final states) in the
reversed graph -/
theorem DFA.elimDead_dfs_total (d : DFA) :
    ∃ vis, dfs (aput (-1) d.final d.revAdj) (d.states.length + 2) [] (-1) = .ok vis ∧ (-1 : Int) ∈ vis ∧
      ∀ x ∈ vis, ClosedAt (aput (-1) d.final d.revAdj) vis x := by
  have hU : ∀ x ts, aget x (aput (-1) d.final d.revAdj) = some ts → ∀ t ∈ ts, t ∈ (-1 : Int) :: d.states := by
    intro x ts h t ht
    rw [aget_aput] at h
    split at h
    · injection h with h; subst h
      simp; right; exact d.mem_states_of t (Or.inr (Or.inl ht))
    · obtain ⟨a, ha⟩ := (mem_revAdj d t x).1 ⟨ts, h, ht⟩
      simp; right; exact d.mem_states_of t (Or.inr (Or.inr ⟨t, a, x, ha, Or.inl rfl⟩))
  obtain ⟨V, hV, -, hroot, hcl⟩ := dfs_total (aput (-1) d.final d.revAdj) ((-1 : Int) :: d.states) hU
    (d.states.length + 2) [] (-1) (by simp) (by simp) (by
      have := unvisited_le ((-1 : Int) :: d.states) []
      simp only [List.length_cons] at this
      omega)
  exact ⟨V, hV, hroot, fun x hx => (hcl x hx).resolve_left (List.not_mem_nil)⟩

theorem bfsLoop_total (d : DFA) (lo : Int) (fuel : Nat) (vis q : List Int) (m : SM) (hm : m.Inv lo)
    (h : searchMeasure d.states vis q < fuel) : ∃ m', bfsLoop d fuel vis q m = .ok m' ∧ m'.Inv lo := by
  induction fuel generalizing vis q m with
  | zero => omega
  | succ fuel ih =>
    cases q with
    | nil => exact ⟨m, by simp [bfsLoop], hm⟩
    | cons s q =>
      simp only [bfsLoop]
      cases hs : aget s d.trans with
      | none => exact ih _ _ _ hm (by simp only [searchMeasure, List.length_cons] at h ⊢; omega)
      | some adj =>
        simp only
        have hadj : ∀ e ∈ adj, e.2 ∈ d.states := fun e he =>
          (d.entry_states (List.mem_flatMap.2 ⟨(s, adj), aget_mem hs, List.mem_map.2 ⟨e, he, rfl⟩⟩)).2
        have hin := foldl_keeps_mem (xs := adj)
          (f := fun (acc : List State × List State × SM) e =>
            if acc.1.contains e.2 then acc else (e.2 :: acc.1, acc.2.1 ++ [e.2], (acc.2.2.get 0 e.2).1))
          (P := fun a => a.2.2.Inv lo ∧ searchMeasure d.states a.1 a.2.1 ≤ searchMeasure d.states vis q)
          (fun a e he ha => by
            split
            · exact ha
            · next hc =>
              have := unvisited_lt d.states a.1 (e.2 :: a.1) e.2 (hadj e he) (by simpa using hc) (fun _ => List.mem_cons)
              refine ⟨(SM.get_spec _ _ ha.1 0 e.2).2.1, Nat.le_trans ?_ ha.2⟩
              simp only [searchMeasure, List.length_append, List.length_cons, List.length_nil]
              omega) (acc := (vis, q, m)) ⟨hm, Nat.le_refl _⟩
        exact ih _ _ _ hin.1 (by have := hin.2; simp only [searchMeasure, List.length_cons] at h this ⊢; omega)

theorem DFA.bfsNumbering_total (d : DFA) : ∃ m, d.bfsNumbering = .ok m ∧ m.Inv (-1) :=
  bfsLoop_total d (-1) (d.states.length + 2) [d.start] [d.start] ((SM.new (-1)).get 0 d.start).1
    (SM.get_spec (SM.new (-1)) (-1) (SM.Inv_new _) 0 d.start).2.1 (by
      simp only [searchMeasure, List.length_cons, List.length_nil]
      have := unvisited_le d.states [d.start]
      omega)

end AlgoVerif.C13
