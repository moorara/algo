import AlgoVerif.Proofs.C18Core
/-!
# C18 — the block-chain stack refines a list

Invariant (DESIGN.md Appendix B, "Stack"): every block has `nodeSize` cells, all blocks below the
top are full, the top block holds cells `0 … topIndex` with `0 ≤ topIndex < nodeSize`, and there is
no top block exactly when the stack is empty (`topIndex = -1`).
-/
namespace AlgoVerif.C18
variable {α : Type}

/-- cells of the (full) blocks below the top block, top-most cell first -/
def Stack.below (rest : List (Array α)) : List α := rest.flatMap fun b => b.toList.reverse

/-- the live cells, top of the stack first -/
def Stack.abs (s : Stack α) : List α :=
  match s.nodes with
  | [] => []
  | b :: rest => (b.toList.take (s.topIndex + 1).toNat).reverse ++ Stack.below rest

structure Stack.Inv (s : Stack α) : Prop where
  pos : 1 ≤ s.nodeSize
  blocks : ∀ b ∈ s.nodes, b.size = s.nodeSize
  top_nil : s.nodes = [] → s.topIndex = -1
  top_cons : s.nodes ≠ [] → 0 ≤ s.topIndex ∧ s.topIndex < s.nodeSize
  size : s.listSize = (Stack.abs s).length

theorem Stack.new_inv (B : Nat) (hB : 1 ≤ B) : (Stack.new B : Stack α).Inv := by
  constructor <;> simp [Stack.new, Stack.abs, hB]

theorem Stack.new_abs (B : Nat) : (Stack.new B : Stack α).abs = [] := rfl

theorem Stack.below_cons (b : Array α) (rest : List (Array α)) :
    Stack.below (b :: rest) = b.toList.reverse ++ Stack.below rest :=
  List.flatMap_cons

/-- The second half of `Push`, `topNode.block[topIndex] = val`, on a chain `b :: rest` in which the cells below
`topIndex = k` of `b` are the live ones, `live`: cell `k` becomes the top. -/
theorem Stack.write_spec (B : Nat) (ls : Int) (b : Array α) (rest : List (Array α)) (k : Nat) (v : α) (live : List α)
    (hB : 1 ≤ B) (hb : b.size = B) (hrest : ∀ b' ∈ rest, b'.size = B) (hk : k < B)
    (hlive : live = (b.toList.take k).reverse ++ Stack.below rest) (hls : ls = live.length) :
    (⟨B, ls + 1, k, b.set! k v :: rest⟩ : Stack α).Inv ∧
    (⟨B, ls + 1, k, b.set! k v :: rest⟩ : Stack α).abs = v :: live := by
  subst hlive
  have habs : (⟨B, ls + 1, k, b.set! k v :: rest⟩ : Stack α).abs =
      v :: ((b.toList.take k).reverse ++ Stack.below rest) := by
    show (((b.set! k v).toList.take ((k : Int) + 1).toNat).reverse ++ Stack.below rest) = _
    rw [show ((k : Int) + 1).toNat = k + 1 from rfl, set!_toList,
      take_set_succ _ _ _ (by rw [Array.length_toList, hb]; exact hk), List.reverse_append]
    rfl
  refine ⟨⟨hB, ?_, fun h => absurd h (List.cons_ne_nil _ _),
    fun _ => ⟨Int.natCast_nonneg k, Int.ofNat_lt.2 hk⟩, ?_⟩, habs⟩
  · intro b' hb'
    rcases List.mem_cons.1 hb' with rfl | hb'
    · rw [set!_size, hb]
    · exact hrest b' hb'
  · rw [habs, List.length_cons, Int.natCast_add, ← hls]; rfl

theorem Stack.push_spec (zero : α) (s : Stack α) (v : α) (h : s.Inv) :
    ∃ s', s.push zero v = .ok s' ∧ s'.Inv ∧ s'.abs = v :: s.abs := by
  obtain ⟨hpos, hbl, hnil, hcons, hsz⟩ := h
  have hnb := newBlock_size zero s.nodeSize
  have hnb0 : (0 : Int).toNat < (newBlock zero s.nodeSize).size := by rw [hnb]; exact hpos
  cases hn : s.nodes with
  | nil =>
    have habs : s.abs = [] := by rw [Stack.abs, hn]
    obtain ⟨hI, ha⟩ := Stack.write_spec s.nodeSize s.listSize (newBlock zero s.nodeSize) [] 0 v s.abs hpos hnb
      (fun _ h => absurd h List.not_mem_nil) hpos (by rw [habs]; rfl) hsz
    refine ⟨_, ?_, hI, ha⟩
    simp only [Stack.push, hn, hnil hn, List.isEmpty_nil, if_true]
    exact if_pos ⟨Int.le_refl 0, hnb0⟩
  | cons b rest =>
    have ht := hcons (hn ▸ List.cons_ne_nil b rest)
    have hb : b.size = s.nodeSize := hbl b (hn ▸ List.mem_cons_self ..)
    have hrest : ∀ b' ∈ rest, b'.size = s.nodeSize := fun b' hb' => hbl b' (hn ▸ List.mem_cons_of_mem _ hb')
    have habs : s.abs = (b.toList.take (s.topIndex + 1).toNat).reverse ++ Stack.below rest := by
      rw [Stack.abs, hn]
    by_cases hfull : s.topIndex + 1 = ↑s.nodeSize
    · have habs0 : s.abs = ((newBlock zero s.nodeSize).toList.take 0).reverse ++ Stack.below (b :: rest) := by
        rw [habs, hfull, Int.toNat_natCast, List.take_of_length_le (by rw [Array.length_toList, hb]; exact Nat.le_refl _),
          Stack.below_cons]
        rfl
      obtain ⟨hI, ha⟩ := Stack.write_spec s.nodeSize s.listSize (newBlock zero s.nodeSize) (b :: rest) 0 v s.abs
        hpos hnb (hn ▸ hbl) hpos habs0 hsz
      refine ⟨_, ?_, hI, ha⟩
      simp only [Stack.push, hn, hfull, List.isEmpty_cons, Bool.false_eq_true, if_false, if_true]
      exact if_pos ⟨Int.le_refl 0, hnb0⟩
    · obtain ⟨t, hst⟩ : ∃ t : Nat, s.topIndex = t := ⟨s.topIndex.toNat, (Int.toNat_of_nonneg ht.1).symm⟩
      rw [hst] at ht habs hfull
      have hk : t + 1 < s.nodeSize := Int.ofNat_lt.1 (succ_lt_of_ne ht.2 hfull)
      obtain ⟨hI, ha⟩ := Stack.write_spec s.nodeSize s.listSize b rest (t + 1) v s.abs hpos hb hrest hk habs hsz
      refine ⟨_, ?_, hI, ha⟩
      simp only [Stack.push, hn, hst, hfull, List.isEmpty_cons, Bool.false_eq_true, if_false]
      exact if_pos ⟨Int.natCast_nonneg (t + 1), hb ▸ hk⟩

theorem Stack.top_facts (s : Stack α) (h : s.Inv) (b : Array α) (rest : List (Array α)) (hn : s.nodes = b :: rest) :
    ∃ (t : Nat) (ht : t < b.size), s.topIndex = t ∧ t < s.nodeSize ∧ s.topCell = .ok b[t] ∧
      s.abs = b[t] :: ((b.toList.take t).reverse ++ Stack.below rest) ∧ s.listSize ≠ 0 := by
  have hi := h.top_cons (hn ▸ List.cons_ne_nil b rest)
  have hb : b.size = s.nodeSize := h.blocks b (hn ▸ List.mem_cons_self ..)
  obtain ⟨t, ht⟩ : ∃ t : Nat, s.topIndex = t := ⟨s.topIndex.toNat, (Int.toNat_of_nonneg hi.1).symm⟩
  have htb : t < b.size := hb ▸ Int.ofNat_lt.1 (ht ▸ hi.2)
  have habs : s.abs = b[t] :: ((b.toList.take t).reverse ++ Stack.below rest) := by
    rw [Stack.abs, hn, ht]
    show (b.toList.take (t + 1)).reverse ++ _ = _
    rw [List.take_succ_eq_append_getElem (Array.length_toList ▸ htb), List.reverse_append, Array.getElem_toList]
    rfl
  refine ⟨t, htb, ht, hb ▸ htb, ?_, habs, fun h0 => ?_⟩
  · simp only [Stack.topCell, hn, ht, Int.natCast_nonneg, Int.toNat_natCast, htb, and_self, if_true,
      Array.getElem?_eq_getElem htb]
  · have := h.size; rw [h0, habs] at this; cases this

theorem Stack.pop_spec (s : Stack α) (h : s.Inv) :
    ∃ s', s.pop = .ok (s', (Spec.S.pop s.abs).2) ∧ s'.Inv ∧ s'.abs = (Spec.S.pop s.abs).1 := by
  cases hn : s.nodes with
  | nil =>
    have habs : s.abs = [] := by rw [Stack.abs, hn]
    have h0 : s.listSize = 0 := by rw [h.size, habs]; rfl
    exact ⟨s, by rw [Stack.pop, if_pos h0, habs]; rfl, h, by rw [habs]; rfl⟩
  | cons b rest =>
    obtain ⟨t, htb, ht, htB, hcell, habs, hne⟩ := s.top_facts h b rest hn
    obtain ⟨hpos, hbl, hnil, hcons, hsz⟩ := h
    have hrest : ∀ b' ∈ rest, b'.size = s.nodeSize := fun b' hb' => hbl b' (hn ▸ List.mem_cons_of_mem _ hb')
    have hls : s.listSize - 1 = ((b.toList.take t).reverse ++ Stack.below rest).length := by
      rw [hsz, habs, List.length_cons]; omega
    rw [Stack.pop, if_neg hne, hcell, habs]
    simp only [hn, List.tail_cons, ht]
    cases t with
    | zero =>
      rw [List.take_zero, List.reverse_nil, List.nil_append] at hls
      cases rest with
      | nil => exact ⟨_, rfl, ⟨hpos, fun _ h => absurd h List.not_mem_nil, fun _ => rfl,
          fun h => absurd rfl h, hls⟩, rfl⟩
      | cons b2 rest2 =>
        -- the block below becomes the top block; it is full
        have habs' : Stack.abs (⟨s.nodeSize, s.listSize - 1, ↑s.nodeSize - 1, b2 :: rest2⟩ : Stack α)
            = Stack.below (b2 :: rest2) := by
          show (b2.toList.take ((s.nodeSize : Int) - 1 + 1).toNat).reverse ++ _ = _
          rw [Int.sub_add_cancel, Int.toNat_natCast, Stack.below_cons, List.take_of_length_le]
          rw [Array.length_toList, hrest b2 (List.mem_cons_self ..)]
          exact Nat.le_refl _
        refine ⟨_, rfl, ⟨hpos, hrest, fun h => absurd h (List.cons_ne_nil _ _), fun _ => ?_, ?_⟩, habs'⟩
        · exact ⟨Int.sub_nonneg.2 (Int.ofNat_le.2 hpos), Int.sub_lt_self _ Int.one_pos⟩
        · rw [habs']; exact hls
    | succ t =>
      rw [show ((t + 1 : Nat) : Int) - 1 = (t : Nat) from Int.add_sub_cancel (t : Int) 1]
      refine ⟨_, if_neg fun h => absurd (h ▸ Int.natCast_nonneg t) (by decide),
        ⟨hpos, hn ▸ hbl, fun h => absurd h (List.cons_ne_nil _ _), fun _ => ?_, hls⟩, rfl⟩
      exact ⟨Int.natCast_nonneg t, Int.ofNat_lt.2 (Nat.lt_of_succ_lt htB)⟩

theorem Stack.peek_spec (s : Stack α) (h : s.Inv) : s.peek = .ok (Spec.S.peek s.abs) := by
  cases hn : s.nodes with
  | nil =>
    have habs : s.abs = [] := by rw [Stack.abs, hn]
    have h0 : s.listSize = 0 := by rw [h.size, habs]; rfl
    rw [Stack.peek, if_pos h0, habs]; rfl
  | cons b rest =>
    obtain ⟨t, htb, ht, htB, hcell, habs, hne⟩ := s.top_facts h b rest hn
    rw [Stack.peek, if_neg hne, hcell, habs]; rfl

/-- Indices are naturals here, which keeps `omega` cheap. -/
theorem Stack.containsLoop_spec (eq : α → α → Bool) (B : Nat) (v : α) :
    ∀ (fuel : Nat) (b : Array α) (rest : List (Array α)) (i : Nat),
      b.size = B → (∀ b' ∈ rest, b'.size = B) → i < B → i + 1 + (Stack.below rest).length + 1 ≤ fuel →
      Stack.containsLoop eq B v fuel (b :: rest) i =
        .ok (((b.toList.take (i + 1)).reverse ++ Stack.below rest).any (fun x => eq x v)) := by
  intro fuel
  induction fuel with
  | zero => intro b rest i _ _ _ hf; omega
  | succ fuel ih =>
    intro b rest i hb hrest hlt hf
    have hsz : (i : Int).toNat < b.size := (hb ▸ hlt : i < b.size)
    rw [Stack.containsLoop, if_pos ⟨Int.natCast_nonneg i, hsz⟩, Array.getElem?_eq_getElem hsz,
      List.take_succ_eq_append_getElem (Array.length_toList ▸ hsz), List.reverse_append, List.reverse_singleton,
      List.singleton_append, List.cons_append, List.any_cons, Array.getElem_toList]
    simp only [Int.toNat_natCast]
    cases eq b[i] v with
    | true => rfl
    | false =>
      rw [Bool.false_or, if_neg Bool.false_ne_true]
      cases i with
      | zero =>
        rw [if_pos (by decide), List.take_zero, List.reverse_nil, List.nil_append]
        cases rest with
        | nil =>
          cases fuel with
          | zero => omega
          | succ f => rfl
        | cons b2 rest2 =>
          -- on to the block below, which is full: start at its last cell
          obtain ⟨m, hm⟩ : ∃ m, B = m + 1 := ⟨B - 1, (Nat.succ_pred_eq_of_pos (Nat.zero_lt_of_lt hlt)).symm⟩
          have hb2 : b2.size = B := hrest b2 (List.mem_cons_self ..)
          rw [Stack.below_cons, List.length_append, List.length_reverse, Array.length_toList, hb2] at hf
          rw [show (B : Int) - 1 = (m : Nat) by rw [hm]; exact Int.add_sub_cancel (m : Int) 1,
            ih b2 rest2 m hb2 (fun b' hb' => hrest b' (List.mem_cons_of_mem _ hb')) (hm ▸ Nat.lt_succ_self m)
              (by omega), ← hm,
            Stack.below_cons, List.take_of_length_le (by rw [Array.length_toList, hb2]; exact Nat.le_refl _)]
      | succ j =>
        rw [show ((j + 1 : Nat) : Int) - 1 = (j : Nat) from Int.add_sub_cancel (j : Int) 1, if_neg (Int.not_lt.2 (Int.natCast_nonneg j)),
          ih b rest j hb hrest (Nat.lt_of_succ_lt hlt) (by omega)]

theorem Stack.contains_spec (eq : α → α → Bool) (s : Stack α) (v : α) (h : s.Inv) :
    s.contains eq v = .ok (Spec.S.contains eq s.abs v) := by
  cases hn : s.nodes with
  | nil =>
    have habs : s.abs = [] := by rw [Stack.abs, hn]
    rw [Stack.contains, hn, habs]; rfl
  | cons b rest =>
    obtain ⟨t, htb, ht, htB, -, -, -⟩ := s.top_facts h b rest hn
    have hrest : ∀ b' ∈ rest, b'.size = s.nodeSize := fun b' hb' => h.blocks b' (hn ▸ List.mem_cons_of_mem _ hb')
    rw [Stack.contains, hn, ht, Stack.containsLoop_spec eq s.nodeSize v _ b rest t
      (h.blocks b (hn ▸ List.mem_cons_self ..)) hrest htB]
    · rw [Spec.S.contains, Stack.abs, hn, ht]; rfl
    · rw [Stack.below, flatMap_length_of_blocks _ s.nodeSize rest fun b hb => List.length_reverse.trans (hrest b hb),
        List.length_cons, Nat.succ_mul, Nat.succ_mul, Nat.mul_succ]
      omega

def Stack.Rel (s : Stack α) (l : Spec.S α) : Prop := s.Inv ∧ s.abs = l

theorem Stack.step_refines (zero : α) (eq : α → α → Bool) (s : Stack α) (l : Spec.S α) (op : Op α)
    (h : Stack.Rel s l) :
    ∃ s', Stack.step zero eq s op = .ok (s', (Spec.S.step eq l op).2) ∧
      Stack.Rel s' (Spec.S.step eq l op).1 := by
  obtain ⟨hinv, rfl⟩ := h
  cases op with
  | add v =>
    obtain ⟨s', h1, h2, h3⟩ := Stack.push_spec zero s v hinv
    exact ⟨s', by simp [Stack.step, h1, Outcome.map, Spec.S.step], h2, by simp [Spec.S.step, Spec.S.push, h3]⟩
  | remove =>
    obtain ⟨s', h1, h2, h3⟩ := Stack.pop_spec s hinv
    exact ⟨s', by simp [Stack.step, h1, Outcome.map, Spec.S.step], h2, by simp [Spec.S.step, h3]⟩
  | peek =>
    exact ⟨s, by simp [Stack.step, Stack.peek_spec s hinv, Outcome.map, Spec.S.step], hinv, rfl⟩
  | contains v =>
    exact ⟨s, by simp [Stack.step, Stack.contains_spec eq s v hinv, Outcome.map, Spec.S.step], hinv, rfl⟩
  | size =>
    exact ⟨s, by simp [Stack.step, Stack.size, hinv.size, Spec.S.step, Spec.S.size], hinv, rfl⟩
  | isEmpty =>
    refine ⟨s, ?_, hinv, rfl⟩
    simp [Stack.step, Stack.isEmpty, hinv.size, Spec.S.step, Spec.S.isEmpty]
    cases s.abs <;> simp
    omega

end AlgoVerif.C18
