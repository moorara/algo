import AlgoVerif.Common
/-!
The `Outcome` monad, for every property's proofs (core only): its laws as simp lemmas; `Outcome.All` (every returned
value satisfies `P`); the refinement `≼` of a computation by the same computation with more fuel and its form up to a
relation on the results, `Outcome.Sim`.
-/
namespace AlgoVerif

namespace Outcome
variable {α β γ : Type}

@[simp] theorem pure_eq (a : α) : (pure a : Outcome α) = .ok a := rfl
@[simp] theorem ok_bind (a : α) (f : α → Outcome β) : (Outcome.ok a >>= f) = f a := rfl
@[simp] theorem panic_bind (f : α → Outcome β) : (Outcome.panic >>= f) = .panic := rfl
@[simp] theorem diverge_bind (f : α → Outcome β) : (Outcome.diverge >>= f) = .diverge := rfl
@[simp] theorem bind_ok (x : Outcome α) : (x >>= Outcome.ok) = x := by cases x <;> rfl
@[simp] theorem map_ok (f : α → β) (a : α) : (Outcome.ok a).map f = .ok (f a) := rfl
@[simp] theorem map_panic (f : α → β) : (Outcome.panic : Outcome α).map f = .panic := rfl
@[simp] theorem map_diverge (f : α → β) : (Outcome.diverge : Outcome α).map f = .diverge := rfl
@[simp] theorem fmap_eq (f : α → β) (x : Outcome α) : f <$> x = x.map f := by cases x <;> rfl

theorem bind_assoc (x : Outcome α) (f : α → Outcome β) (g : β → Outcome γ) :
    (x >>= f >>= g) = (x >>= fun a => f a >>= g) := by cases x <;> rfl

theorem map_bind (x : Outcome α) (f : α → Outcome β) (g : β → γ) :
    (x >>= f).map g = (x >>= fun a => (f a).map g) := by cases x <;> rfl

instance : LawfulMonad Outcome := LawfulMonad.mk' Outcome
  (id_map := fun x => by cases x <;> rfl)
  (pure_bind := fun _ _ => rfl)
  (bind_assoc := bind_assoc)
  (bind_pure_comp := fun _ x => by cases x <;> rfl)

/-- `x ≼ y`: `y` is what `x` computes when it is given at least as much fuel — either `x` ran out of fuel
(`diverge`), or they agree.  Used to relate a hand Model, whose loops carry a fuel chosen per loop, to the
generated definition, whose loops all draw on the one fuel its caller supplies. -/
def le (x y : Outcome α) : Prop := x = .diverge ∨ x = y
scoped infix:50 " ≼ " => Outcome.le

@[simp] theorem le_refl (x : Outcome α) : x ≼ x := .inr rfl
@[simp] theorem diverge_le (y : Outcome α) : (.diverge : Outcome α) ≼ y := .inl rfl
@[simp] theorem ok_le (a : α) (y : Outcome α) : (Outcome.ok a ≼ y) = (y = .ok a) := by
  simp [le, eq_comm]
@[simp] theorem panic_le (y : Outcome α) : ((.panic : Outcome α) ≼ y) = (y = .panic) := by
  simp [le, eq_comm]
theorem le_of_eq {x y : Outcome α} (h : x = y) : x ≼ y := .inr h
theorem le.ok {x y : Outcome α} {a : α} (h : x ≼ y) (hx : x = .ok a) : y = .ok a := by
  subst hx; exact h.elim (fun e => nomatch e) Eq.symm
theorem ite_bind (c : Prop) [Decidable c] (x y : Outcome α) (f : α → Outcome β) :
    ((if c then x else y) >>= f) = if c then x >>= f else y >>= f := by split <;> rfl
theorem map_ite (c : Prop) [Decidable c] (x y : Outcome α) (f : α → β) :
    (if c then x else y).map f = if c then x.map f else y.map f := by split <;> rfl
theorem le.trans_eq {x y z : Outcome α} (h : x ≼ y) (e : y = z) : x ≼ z := e ▸ h
theorem ite_le {c : Prop} [Decidable c] {x x' y y' : Outcome α} (h1 : c → x ≼ x') (h2 : ¬ c → y ≼ y') :
    (if c then x else y) ≼ (if c then x' else y') := by
  split
  · exact h1 ‹c›
  · exact h2 ‹¬ c›

theorem bind_eq_ok {x : Outcome α} {f : α → Outcome β} {b : β} (h : (x >>= f) = .ok b) :
    ∃ a, x = .ok a ∧ f a = .ok b := by
  cases x with
  | ok a => exact ⟨a, rfl, h⟩
  | panic => cases h
  | diverge => cases h

theorem bind_eq_panic {x : Outcome α} {f : α → Outcome β} (h : (x >>= f) = .panic) :
    x = .panic ∨ ∃ a, x = .ok a ∧ f a = .panic := by
  cases x with
  | ok a => exact .inr ⟨a, rfl, h⟩
  | panic => exact .inl rfl
  | diverge => cases h

theorem bind_ne_diverge {x : Outcome α} {f : α → Outcome β} (hx : x ≠ .diverge) (hf : ∀ a, f a ≠ .diverge) :
    (x >>= f) ≠ .diverge := by
  cases x with
  | ok a => exact hf a
  | panic => nofun
  | diverge => exact absurd rfl hx

theorem map_map (x : Outcome α) (f : α → β) (g : β → γ) : (x.map f).map g = x.map (fun a => g (f a)) := by cases x <;> rfl

theorem map_eq_ok {x : Outcome α} {f : α → β} {b : β} (h : x.map f = .ok b) : ∃ a, x = .ok a ∧ f a = b := by
  cases x with
  | ok a => exact ⟨a, rfl, Outcome.ok.inj h⟩
  | panic => cases h
  | diverge => cases h

theorem bind_map_left (x : Outcome α) (f : α → β) (g : β → Outcome γ) :
    (x.map f >>= g) = (x >>= fun a => g (f a)) := by cases x <;> rfl

/-- what follows `x` only runs when `x` returned: there its value may be assumed known (a second evaluation of
`x` inside the continuation is then `simp only [h, ok_bind]`) -/
theorem bind_congr_ok {x : Outcome α} {f g : α → Outcome β} (h : ∀ a, x = .ok a → f a = g a) :
    (x >>= f) = (x >>= g) := by
  cases x with
  | ok a => exact h a rfl
  | panic => rfl
  | diverge => rfl

/-- the step case of a loop lemma whose two sides are related by a reading of the state -/
theorem bind_map_congr {δ : Type} {x : Outcome α} {y : Outcome β} {p : β → α} {g : α → Outcome δ} {g' : β → Outcome δ}
    (h : x = y.map p) (hg : ∀ c, x = .ok (p c) → g (p c) = g' c) : (x >>= g) = (y >>= g') := by
  subst h
  cases y with
  | ok c => exact hg c rfl
  | panic => rfl
  | diverge => rfl

/-- the hand Model's `if p ∧ q then x else panic` against two checked stores in a row -/
theorem ite_and_panic (p q : Prop) [Decidable p] [Decidable q] (x : Outcome α) :
    (if p ∧ q then x else .panic) = if p then if q then x else .panic else .panic := by
  by_cases p <;> simp [*]

/-- every value `x` returns satisfies `P`; nothing is said of `panic` and `diverge`.  For facts that hold along every
path of a program whether or not it terminates (a loop keeps the length of its slice): they are proved by following the
program text with `All.bind`, `All.ite`, `All.foldlM` and `All.ok`. -/
def All (P : α → Prop) (x : Outcome α) : Prop := ∀ a, x = .ok a → P a

theorem All.ok {P : α → Prop} {a : α} (h : P a) : (Outcome.ok a).All P := fun _ e => Outcome.ok.inj e ▸ h

theorem All.bind {P : β → Prop} {x : Outcome α} {f : α → Outcome β} (h : ∀ a, x = .ok a → (f a).All P) :
    (x >>= f).All P := by
  cases x with
  | ok a => exact h a rfl
  | panic => nofun
  | diverge => nofun

theorem All.ite {P : α → Prop} {c : Prop} [Decidable c] {x y : Outcome α} (hx : c → x.All P) (hy : ¬ c → y.All P) :
    (if c then x else y).All P := by
  split
  · exact hx ‹c›
  · exact hy ‹¬ c›

/-- the loop rule, for an invariant that also speaks of the elements already served -/
theorem All.foldlM_prefix {ι : Type} {P : List ι → β → Prop} {f : β → ι → Outcome β} : ∀ (l pre : List ι) (b : β), P pre b →
    (∀ pre b a, a ∈ l → P pre b → (f b a).All (P (pre ++ [a]))) → (l.foldlM f b).All (P (pre ++ l))
  | [], pre, _, hb, _ => All.ok (by rwa [List.append_nil])
  | a :: l, pre, b, hb, hf => by
    rw [List.foldlM_cons]
    refine All.bind fun b' hb' => ?_
    have := All.foldlM_prefix l (pre ++ [a]) b' (hf pre b a (by simp) hb b' hb') fun pre b a ha =>
      hf pre b a (List.mem_cons_of_mem _ ha)
    rwa [List.append_assoc] at this

theorem All.foldlM {ι : Type} {P : β → Prop} {f : β → ι → Outcome β} (l : List ι) (b : β) (hb : P b)
    (hf : ∀ b a, a ∈ l → P b → (f b a).All P) : (l.foldlM f b).All P :=
  All.foldlM_prefix (P := fun _ => P) l [] b hb fun _ => hf

/-- `Sim R x y`, for the hand Model's outcome `x` and the generated definition's `y`: `x` is `diverge` (its fuel ran
out), or both panic, or both return, with results related by `R`.  `x ≼ y` is `Sim Eq x y`; `R` also says which
variables of the generated loop the hand Model drops, how the elements of the two sides correspond, and what the
program keeps (the length of its slice) — whatever the rest of the two programs has to know about the results.
C16 uses it a second way: `x` is a run of the functional Model of the set package and `y` the run of a slice-side machine
(`HSet`/`Store`, the heap machine `Hp`) that repeats it with more state; `R` then says what the machine's result holds
and what it kept (`Fresh`, `Owned`, `Holds`, `StepQ`). -/
def Sim {β : Type} (R : α → β → Prop) : Outcome α → Outcome β → Prop
  | .diverge, _ => True
  | .panic, .panic => True
  | .ok a, .ok b => R a b
  | _, _ => False

section Sim
variable {α' β' : Type} {R : α → β → Prop} {x : Outcome α} {y : Outcome β}

theorem Sim.diverge : Sim R .diverge y := by cases y <;> trivial

theorem Sim.ok {a : α} {b : β} (h : R a b) : Sim R (.ok a) (.ok b) := h

theorem sim_eq {x y : Outcome α} : Sim Eq x y ↔ x ≼ y := by
  cases x <;> cases y <;> simp [Sim, le]

theorem Sim.le {x y : Outcome α} (h : Sim Eq x y) : x ≼ y := sim_eq.1 h

theorem le.sim {x y : Outcome α} (h : x ≼ y) : Sim Eq x y := sim_eq.2 h

theorem Sim.refl (x : Outcome α) : Sim Eq x x := (le_refl x).sim

theorem Sim.mono {S : α → β → Prop} (h : Sim R x y) (hRS : ∀ a b, R a b → S a b) : Sim S x y := by
  cases x <;> cases y <;> first | exact hRS _ _ h | exact h

/-- related steps, then what follows them related on related results (and only where both steps returned); the rules
below for two programs that both begin with a step (`le.bind_sim`, `Sim.bind_same`, `le.bind_of_map`, `bind_le'`,
`bind_le`, `bind_mono`) are this one for a particular relation, `Sim.bind` is this one without the two equations -/
theorem Sim.bind' {S : α' → β' → Prop} {f : α → Outcome α'} {g : β → Outcome β'} (h : Sim R x y)
    (hf : ∀ a b, x = .ok a → y = .ok b → R a b → Sim S (f a) (g b)) : Sim S (x >>= f) (y >>= g) := by
  cases x <;> cases y <;> first | exact hf _ _ rfl rfl h | exact h.elim | trivial

theorem Sim.bind {S : α' → β' → Prop} {f : α → Outcome α'} {g : β → Outcome β'} (h : Sim R x y)
    (hf : ∀ a b, R a b → Sim S (f a) (g b)) : Sim S (x >>= f) (y >>= g) := h.bind' fun a b _ _ => hf a b

theorem le.bind_sim {S : α' → β' → Prop} {x x' : Outcome α} {f : α → Outcome α'} {g : α → Outcome β'} (h : x ≼ x')
    (hf : ∀ a, x = .ok a → Sim S (f a) (g a)) : Sim S (x >>= f) (x' >>= g) :=
  h.sim.bind' fun a _ ha _ e => e ▸ hf a ha

theorem Sim.bind_same {S : α' → β' → Prop} {f : α → Outcome α'} {g : α → Outcome β'}
    (hf : ∀ a, x = .ok a → Sim S (f a) (g a)) : Sim S (x >>= f) (x >>= g) := (le_refl x).bind_sim hf

/-- `y` starts with the call `x` (a machine that runs the functional round first and then does its own bookkeeping) -/
theorem Sim.of_bind {g : α → Outcome β} (h : ∀ a, x = .ok a → Sim R (.ok a) (g a)) : Sim R x (x >>= g) := by
  cases x with
  | ok a => exact h a rfl
  | panic => trivial
  | diverge => trivial

theorem Sim.elim (h : Sim R x y) {a : α} (e : x = .ok a) : ∃ b, y = .ok b ∧ R a b := by
  subst e
  cases y with
  | ok b => exact ⟨b, rfl, h⟩
  | panic => exact h.elim
  | diverge => exact h.elim

theorem bind_le' {x x' : Outcome α} {f f' : α → Outcome β} (hx : x ≼ x') (hf : ∀ a, x = .ok a → f a ≼ f' a) :
    (x >>= f) ≼ (x' >>= f') := (hx.bind_sim fun a ha => (hf a ha).sim).le

theorem bind_le {x x' : Outcome α} {f f' : α → Outcome β} (hx : x ≼ x') (hf : ∀ a, f a ≼ f' a) :
    (x >>= f) ≼ (x' >>= f') := bind_le' hx fun a _ => hf a

theorem bind_mono {x : Outcome α} {f f' : α → Outcome β} (hf : ∀ a, x = .ok a → f a ≼ f' a) :
    (x >>= f) ≼ (x >>= f') := bind_le' (le_refl x) hf

theorem Sim.ite {c : Prop} [Decidable c] {x' : Outcome α} {y' : Outcome β}
    (h1 : c → Sim R x y) (h2 : ¬ c → Sim R x' y') : Sim R (if c then x else x') (if c then y else y') := by
  split
  · exact h1 ‹c›
  · exact h2 ‹¬ c›

/-- the generated function ends `let (a, k) ← loop; return a` where the hand Model ends with the loop -/
theorem Sim.ret {S : α → γ → Prop} {p : β → γ} (h : Sim R x y) (hp : ∀ a b, R a b → S a (p b)) :
    Sim S x (y >>= fun b => .ok (p b)) := by
  cases x <;> cases y <;> first | exact hp _ _ h | exact h

theorem sim_map_right {R : α → γ → Prop} (p : β → γ) : Sim R x (y.map p) ↔ Sim (fun a b => R a (p b)) x y := by
  cases x <;> cases y <;> rfl

theorem sim_map_left {R : γ → β → Prop} (m : α → γ) : Sim R (x.map m) y ↔ Sim (fun a b => R (m a) b) x y := by
  cases x <;> cases y <;> rfl

theorem Sim.le_map {x : Outcome α} {g : β → α} (h : Sim (fun a b => a = g b) x y) : x ≼ y.map g :=
  ((sim_map_right g).2 h).le

theorem map_le_iff {m : α → β} : x.map m ≼ y ↔ Sim (fun a b => m a = b) x y := sim_eq.symm.trans (sim_map_left m)

theorem le.bind_of_map {f : α → β} {g : α → Outcome γ} {g' : β → Outcome γ} (h : x.map f ≼ y)
    (hg : ∀ a, x = .ok a → g a ≼ g' (f a)) : (x >>= g) ≼ (y >>= g') :=
  ((map_le_iff.1 h).bind' fun a _ ha _ e => e ▸ (hg a ha).sim).le

end Sim

end Outcome

export Outcome (bind_eq_ok bind_eq_panic bind_ne_diverge)

end AlgoVerif
