import AlgoVerif.Proofs.C08LeftFactorLang
/-!
# The Model's `lfHead` is a `Factoring` (or leaves the grammar alone); `leftFactor` preserves
the language
-/
namespace AlgoVerif.C08
open AlgoVerif AlgoVerif.Gram AlgoVerif.C08.Spec

/-- key and suffixes of a folded group, as `groupsOf` lists them -/
abbrev FGroup.grp (e : FGroup) : List SSym × List (List SSym) := (e.key, e.sufs)

namespace LF

theorem foldlM_nil {σ β : Type} (f : σ → β → Outcome σ) (s : σ) : List.foldlM f s [] = .ok s := rfl

theorem foldlM_cons {σ β : Type} (f : σ → β → Outcome σ) (s : σ) (b : β) (l : List β) :
    List.foldlM f s (b :: l) = (f s b >>= fun s' => List.foldlM f s' l) := rfl

theorem mem_prodsOf {ps : List SProd} {A : String} {p : SProd} : p ∈ prodsOf ps A ↔ p ∈ ps ∧ p.head = A := by
  simp [prodsOf]

theorem inj_of_nodup_map {α β : Type} (f : α → β) : ∀ {l : List α}, (l.map f).Nodup →
    ∀ x ∈ l, ∀ y ∈ l, f x = f y → x = y
  | [], _, x, hx, _, _, _ => by cases hx
  | a :: l, h, x, hx, y, hy, hxy => by
    have h' := List.nodup_cons.1 (List.map_cons ▸ h)
    rcases List.mem_cons.1 hx with rfl | hxl <;> rcases List.mem_cons.1 hy with rfl | hyl
    · rfl
    · exact absurd (List.mem_map.2 ⟨y, hyl, hxy.symm⟩) h'.1
    · exact absurd (List.mem_map.2 ⟨x, hxl, hxy⟩) h'.1
    · exact inj_of_nodup_map f h'.2 x hxl y hyl hxy

/-- one production folded into the groups -/
def gstep (gs : Groups) (p : SProd) : Groups :=
  let k := p.body.take 1
  let s := p.body.drop 1
  if gs.any (fun e => e.1 = k) then gs.map (fun e => if e.1 = k then (e.1, ins e.2 s) else e)
  else gs ++ [(k, [s])]

theorem groupsOf_eq (AP : List SProd) : groupsOf AP = AP.foldl gstep [] := rfl

end LF

open LF

structure GroupsOK (AP : List SProd) (gs : Groups) : Prop where
  keys : (gs.map (·.1)).Nodup
  nonempty : ∀ e ∈ gs, e.2 ≠ []
  sufs : ∀ e ∈ gs, e.2.Nodup
  from_prod : ∀ e ∈ gs, ∀ s ∈ e.2, ∃ p ∈ AP, p.body.take 1 = e.1 ∧ p.body.drop 1 = s

theorem groupsOf_ok (AP : List SProd) : GroupsOK AP (groupsOf AP) := by
  rw [groupsOf_eq]
  refine List.foldlRecOn AP gstep (motive := GroupsOK AP) ⟨by simp, by simp, by simp, by simp⟩ fun gs hgs p hp => ?_
  unfold gstep
  simp only
  split
  · refine ⟨?_, ?_, ?_, ?_⟩
    · have : (gs.map (fun e => if e.1 = p.body.take 1 then (e.1, ins e.2 (p.body.drop 1)) else e)).map (·.1) =
          gs.map (·.1) := by
        rw [List.map_map]
        apply List.map_congr_left
        intro e _
        simp only [Function.comp]
        split <;> rfl
      rw [this]
      exact hgs.keys
    · intro e he
      obtain ⟨e₀, he₀, rfl⟩ := List.mem_map.1 he
      split
      · exact List.ne_nil_of_mem (mem_ins.2 (.inr rfl))
      · exact hgs.nonempty e₀ he₀
    · intro e he
      obtain ⟨e₀, he₀, rfl⟩ := List.mem_map.1 he
      split
      · exact ins_nodup (hgs.sufs e₀ he₀) _
      · exact hgs.sufs e₀ he₀
    · intro e he s hs
      obtain ⟨e₀, he₀, rfl⟩ := List.mem_map.1 he
      split at hs
      · rename_i hk
        rcases mem_ins.1 hs with hs | rfl
        · simpa [hk] using hgs.from_prod e₀ he₀ s hs
        · exact ⟨p, hp, by simp [hk], rfl⟩
      · rename_i hk
        simpa [hk] using hgs.from_prod e₀ he₀ s hs
  · rename_i hany
    refine ⟨?_, ?_, ?_, ?_⟩
    · rw [List.map_append]
      refine List.nodup_append.2 ⟨hgs.keys, by simp, ?_⟩
      intro a ha b hb hab
      simp at hb
      subst hb
      obtain ⟨e, he, rfl⟩ := List.mem_map.1 ha
      exact hany (List.any_eq_true.2 ⟨e, he, by simp [hab]⟩)
    · intro e he
      rcases List.mem_append.1 he with he | he
      · exact hgs.nonempty e he
      · simp at he; subst he; simp
    · intro e he
      rcases List.mem_append.1 he with he | he
      · exact hgs.sufs e he
      · simp at he; subst he; simp
    · intro e he s hs
      rcases List.mem_append.1 he with he | he
      · exact hgs.from_prod e he s hs
      · simp at he; subst he
        simp at hs; subst hs
        exact ⟨p, hp, rfl, by simp⟩

theorem two_le_length_of_ne {α : Type} {l : List α} {x y : α} (hx : x ∈ l) (hy : y ∈ l) (hne : x ≠ y) :
    2 ≤ l.length := by
  match l, hx, hy with
  | [a], hx, hy => simp at hx hy; exact absurd (hx.trans hy.symm) hne
  | _ :: _ :: _, _, _ => simp

theorem exists_ne_of_nodup {α : Type} {l : List α} (hnd : l.Nodup) (hlen : 2 ≤ l.length) (x : α) :
    ∃ y ∈ l, y ≠ x := by
  match l, hnd, hlen with
  | a :: b :: _, hnd, _ =>
    have hab : a ≠ b := by
      have := (List.nodup_cons.1 hnd).1
      intro e
      exact this (e ▸ List.mem_cons_self ..)
    by_cases ha : a = x
    · exact ⟨b, by simp, fun hb => hab (ha.trans hb.symm)⟩
    · exact ⟨a, by simp, ha⟩

theorem filter_ins_of_not {α : Type} [DecidableEq α] (q : α → Bool) (l : List α) (x : α) (hx : q x = false) :
    (ins l x).filter q = l.filter q := by
  unfold ins
  split
  · rfl
  · simp [List.filter_append, hx]

theorem filter_insAll_of_not {α : Type} [DecidableEq α] (q : α → Bool) : ∀ (xs l : List α),
    (∀ x ∈ xs, q x = false) → (insAll l xs).filter q = l.filter q
  | [], _, _ => rfl
  | x :: xs, l, h => by
    have := filter_insAll_of_not q xs (ins l x) (fun y hy => h y (List.mem_cons_of_mem _ hy))
    simp only [insAll, List.foldl_cons] at this ⊢
    rw [this, filter_ins_of_not q l x (h x (List.mem_cons_self ..))]

theorem nodup_of_keys {gs : Groups} (h : (gs.map (·.1)).Nodup) : gs.Nodup := by
  induction gs with
  | nil => exact List.nodup_nil
  | cons e gs ih =>
    simp only [List.map_cons] at h
    have h' := List.nodup_cons.1 h
    exact List.nodup_cons.2 ⟨fun hm => h'.1 (List.mem_map.2 ⟨e, hm, rfl⟩), ih h'.2⟩

namespace LF

theorem groupsOf_sound (AP : List SProd) : ∀ e ∈ groupsOf AP, e.2 ≠ [] ∧ ∀ s ∈ e.2, ∃ p ∈ AP, p.body = e.1 ++ s :=
  fun e he => ⟨(groupsOf_ok AP).nonempty e he, fun s hs =>
    have ⟨p, hp, hk, hd⟩ := (groupsOf_ok AP).from_prod e he s hs
    ⟨p, hp, by rw [← hk, ← hd, List.take_append_drop]⟩⟩

theorem groupsOK_body {g : G} {A : String} {gs : Groups} (hok : GroupsOK (prodsOf g.prods A) gs)
    {e : List SSym × List (List SSym)} (he : e ∈ gs) {s : List SSym} (hs : s ∈ e.2) :
    (⟨A, e.1 ++ s⟩ : SProd) ∈ g.prods ∧ (e.1 ++ s).take 1 = e.1 := by
  obtain ⟨p, hp, hpk, hps⟩ := hok.from_prod e he s hs
  have hp' := mem_prodsOf.1 hp
  have hb : p.body = e.1 ++ s := by rw [← hpk, ← hps]; exact (List.take_append_drop 1 p.body).symm
  exact ⟨prod_eq hp'.2 hb ▸ hp'.1, by rw [← hb]; exact hpk⟩

theorem gstep_mono (gs : Groups) (p : SProd) : ∀ e ∈ gs, ∀ s ∈ e.2, ∃ e' ∈ gstep gs p, e'.1 = e.1 ∧ s ∈ e'.2 := by
  intro e he s hs
  unfold gstep
  simp only
  split
  · refine ⟨_, List.mem_map.2 ⟨e, he, rfl⟩, ?_⟩
    split
    · exact ⟨rfl, mem_ins.2 (.inl hs)⟩
    · exact ⟨rfl, hs⟩
  · exact ⟨e, List.mem_append_left _ he, rfl, hs⟩

theorem gstep_self (gs : Groups) (p : SProd) : ∃ e ∈ gstep gs p, e.1 = p.body.take 1 ∧ p.body.drop 1 ∈ e.2 := by
  unfold gstep
  simp only
  split
  · rename_i hany
    obtain ⟨e, he, hk⟩ := List.any_eq_true.1 hany
    have hk' : e.1 = p.body.take 1 := by simpa using hk
    refine ⟨_, List.mem_map.2 ⟨e, he, rfl⟩, ?_⟩
    simp only [hk', ↓reduceIte]
    exact ⟨trivial, mem_ins.2 (.inr rfl)⟩
  · exact ⟨_, List.mem_append_right _ (List.mem_singleton.2 rfl), rfl, by simp⟩

theorem foldl_gstep_mono : ∀ (l : List SProd) (gs : Groups), ∀ e ∈ gs, ∀ s ∈ e.2,
    ∃ e' ∈ l.foldl gstep gs, e'.1 = e.1 ∧ s ∈ e'.2
  | [], _, e, he, _, hs => ⟨e, he, rfl, hs⟩
  | p :: l, gs, e, he, s, hs => by
    obtain ⟨e₁, he₁, hk₁, hs₁⟩ := gstep_mono gs p e he s hs
    obtain ⟨e₂, he₂, hk₂, hs₂⟩ := foldl_gstep_mono l (gstep gs p) e₁ he₁ s hs₁
    exact ⟨e₂, he₂, hk₂.trans hk₁, hs₂⟩

theorem foldl_gstep_complete : ∀ (l : List SProd) (gs : Groups), ∀ p ∈ l,
    ∃ e ∈ l.foldl gstep gs, e.1 = p.body.take 1 ∧ p.body.drop 1 ∈ e.2
  | [], _, _, hp => by cases hp
  | q :: l, gs, p, hp => by
    rcases List.mem_cons.1 hp with rfl | hp
    · obtain ⟨e₁, he₁, hk₁, hs₁⟩ := gstep_self gs p
      obtain ⟨e₂, he₂, hk₂, hs₂⟩ := foldl_gstep_mono l (gstep gs p) e₁ he₁ _ hs₁
      exact ⟨e₂, he₂, hk₂.trans hk₁, hs₂⟩
    · exact foldl_gstep_complete l (gstep gs q) p hp

theorem groupsOf_complete (AP : List SProd) : ∀ p ∈ AP, ∃ e ∈ groupsOf AP, ∃ s ∈ e.2, p.body = e.1 ++ s := by
  intro p hp
  obtain ⟨e, he, hk, hs⟩ := foldl_gstep_complete AP [] p hp
  exact ⟨e, he, _, hs, by rw [hk]; exact (List.take_append_drop 1 p.body).symm⟩

/-- `Anew := AddNewNonTerminal(A, primes...)`, add `A → prefix Anew`, add `Anew → suffix` for every suffix -/
def lfStep (A : String) (g : G) (e : List SSym × List (List SSym)) : Outcome G := do
  let (g', A') ← addNew g A primes
  let ps := ins g'.prods { head := A, body := e.1 ++ [.nonterm A'] }
  pure { g' with prods := insAll ps (e.2.map (fun s => ({ head := A', body := s } : SProd))) }

theorem lfStep_spec {A : String} {g g1 : G} {e : List SSym × List (List SSym)} (h : lfStep A g e = .ok g1) :
    ∃ n, n ∉ g.nonterms ∧ g1.nonterms = g.nonterms ++ [n] ∧ g1.start = g.start ∧ g1.terms = g.terms ∧
      ∀ p, p ∈ g1.prods ↔ p ∈ g.prods ∨ p = ⟨A, e.1 ++ [Sym.nonterm n]⟩ ∨ ∃ s ∈ e.2, p = ⟨n, s⟩ := by
  unfold lfStep at h
  obtain ⟨⟨g', n⟩, hn, h'⟩ := bind_eq_ok h
  obtain ⟨hfresh, rfl⟩ := addNew_ok hn
  cases h'
  refine ⟨n, hfresh, rfl, rfl, rfl, fun p => ?_⟩
  simp only [mem_insAll, mem_ins, List.mem_map]
  constructor
  · rintro ((h | h) | ⟨s, hs, rfl⟩)
    · exact .inl h
    · exact .inr (.inl h)
    · exact .inr (.inr ⟨s, hs, rfl⟩)
  · rintro (h | h | ⟨s, hs, rfl⟩)
    · exact .inl (.inl h)
    · exact .inl (.inr h)
    · exact .inr ⟨s, hs, rfl⟩

theorem foldlM_lfStep (A : String) : ∀ (l : Groups) (g0 g1 : G), l.foldlM (lfStep A) g0 = .ok g1 →
    ∃ F : List FGroup, F.map FGroup.grp = l ∧ g1.nonterms = g0.nonterms ++ F.map (·.name) ∧
      g1.start = g0.start ∧ g1.terms = g0.terms ∧ (∀ e ∈ F, e.name ∉ g0.nonterms) ∧ (F.map (·.name)).Nodup ∧
      ∀ p, p ∈ g1.prods ↔ p ∈ g0.prods ∨ ∃ e ∈ F,
        p = ⟨A, e.key ++ [Sym.nonterm e.name]⟩ ∨ ∃ s ∈ e.sufs, p = ⟨e.name, s⟩
  | [], g0, g1, h => by
    cases h
    exact ⟨[], rfl, by simp, rfl, rfl, by simp, List.nodup_nil, by simp⟩
  | e :: l, g0, g1, h => by
    rw [foldlM_cons] at h
    obtain ⟨gm, hm, h'⟩ := bind_eq_ok h
    obtain ⟨n, hfresh, hnts, hst, htm, hpr⟩ := lfStep_spec hm
    obtain ⟨F, hF, hnts', hst', htm', hfresh', hnd, hpr'⟩ := foldlM_lfStep A l gm g1 h'
    have hf : ∀ e' ∈ F, e'.name ∉ g0.nonterms ∧ e'.name ≠ n := by
      intro e' he'
      have := hfresh' e' he'
      rw [hnts] at this
      simp only [List.mem_append, List.mem_singleton, not_or] at this
      exact this
    refine ⟨⟨e.1, e.2, n⟩ :: F, by simp [hF], by rw [hnts', hnts]; simp, hst'.trans hst, htm'.trans htm, ?_, ?_, ?_⟩
    · intro e' he'
      rcases List.mem_cons.1 he' with rfl | he'
      · exact hfresh
      · exact (hf e' he').1
    · refine List.nodup_cons.2 ⟨fun hmem => ?_, hnd⟩
      obtain ⟨e', he', hn⟩ := List.mem_map.1 hmem
      exact (hf e' he').2 hn
    · intro p
      rw [hpr', hpr]
      simp only [List.mem_cons, exists_eq_or_imp]
      constructor
      · rintro ((h | h | h) | h)
        · exact .inl h
        · exact .inr (.inl (.inl h))
        · exact .inr (.inl (.inr h))
        · exact .inr (.inr h)
      · rintro (h | (h | h) | h)
        · exact .inl (.inl h)
        · exact .inl (.inr (.inl h))
        · exact .inl (.inr (.inr h))
        · exact .inr h

theorem mem_altFold (A : String) : ∀ (ag : Groups) (ps : List SProd) (p : SProd),
    p ∈ ag.foldl (fun ps e => insAll ps (e.2.map (fun s => ({ head := A, body := e.1 ++ s } : SProd)))) ps ↔
      p ∈ ps ∨ ∃ e ∈ ag, ∃ s ∈ e.2, p = ⟨A, e.1 ++ s⟩
  | [], ps, p => by simp
  | e :: ag, ps, p => by
    simp only [List.foldl_cons, mem_altFold A ag, mem_insAll, List.mem_map, List.mem_cons, exists_eq_or_imp]
    constructor
    · rintro ((h | ⟨s, hs, rfl⟩) | h)
      · exact .inl h
      · exact .inr (.inl ⟨s, hs, rfl⟩)
      · exact .inr (.inr h)
    · rintro (h | ⟨s, hs, rfl⟩ | h)
      · exact .inl (.inl h)
      · exact .inl (.inr ⟨s, hs, rfl⟩)
      · exact .inr h

theorem foldlM_lfStep_prodsOf (A : String) : ∀ (l : Groups) (g0 g1 : G), l.foldlM (lfStep A) g0 = .ok g1 →
    ∀ B, B ≠ A → B ∈ g0.nonterms → prodsOf g1.prods B = prodsOf g0.prods B
  | [], g0, g1, h, _, _, _ => by cases h; rfl
  | e :: l, g0, g1, h, B, hBA, hB => by
    rw [foldlM_cons] at h
    obtain ⟨gm, hm, h'⟩ := bind_eq_ok h
    have hm' := hm
    unfold lfStep at hm'
    obtain ⟨⟨g', n⟩, hn, hp⟩ := bind_eq_ok hm'
    obtain ⟨hfresh, rfl⟩ := addNew_ok hn
    cases hp
    have hnB : n ≠ B := fun e' => hfresh (e' ▸ hB)
    rw [foldlM_lfStep_prodsOf A l _ g1 h' B hBA (List.mem_append_left _ hB)]
    unfold prodsOf
    simp only
    rw [filter_insAll_of_not, filter_ins_of_not]
    · simpa using fun e' => hBA e'.symm
    · intro x hx
      obtain ⟨s, _, rfl⟩ := List.mem_map.1 hx
      simpa using hnB

theorem altFold_prodsOf (A : String) (B : String) (hBA : B ≠ A) : ∀ (ag : Groups) (ps : List SProd),
    prodsOf (ag.foldl (fun ps e => insAll ps (e.2.map (fun s => ({ head := A, body := e.1 ++ s } : SProd)))) ps) B =
      prodsOf ps B
  | [], _ => rfl
  | e :: ag, ps => by
    simp only [List.foldl_cons]
    rw [altFold_prodsOf A B hBA ag]
    unfold prodsOf
    rw [filter_insAll_of_not]
    intro x hx
    obtain ⟨s, _, rfl⟩ := List.mem_map.1 hx
    simpa using fun e' => hBA e'.symm

end LF

open LF

/-- the test `prefixGroups.Size() > 0 && altGroups.Size() > 0` of `LeftFactor` fails for `A` -/
def lfStable (g : G) (A : String) : Bool :=
  let gs := groupsOf (prodsOf g.prods A)
  (gs.filter (fun e => e.2.length ≥ 2)).isEmpty || (gs.filter (fun e => e.2.length = 1)).isEmpty

theorem lfHead_eq (g : G) (A : String) : lfHead g A =
    (if lfStable g A then pure (g, false) else do
      let gs := groupsOf (prodsOf g.prods A)
      let g1 ← (sortBy (fun a b => bodyLt a.1 b.1) (gs.filter (fun e => e.2.length ≥ 2))).foldlM (lfStep A)
        { g with prods := g.prods.filter (fun p => p.head ≠ A) }
      let ps := (gs.filter (fun e => e.2.length = 1)).foldl
        (fun ps e => insAll ps (e.2.map (fun s => ({ head := A, body := e.1 ++ s } : SProd)))) g1.prods
      pure ({ g1 with prods := ps }, true)) := by
  unfold lfHead lfStable
  simp only
  split
  · rename_i hAP
    simp [List.isEmpty_iff.1 hAP, groupsOf]
  · rfl

theorem lfHead_flag {g g' : G} {A : String} {ch : Bool} (h : lfHead g A = .ok (g', ch)) :
    ch = false → g' = g ∧ lfStable g A = true := by
  rintro rfl
  rw [lfHead_eq] at h
  split at h
  · rename_i hst
    cases h
    exact ⟨rfl, hst⟩
  · obtain ⟨_, _, h'⟩ := bind_eq_ok h
    cases h'

theorem lfHead_true {g g' : G} {A : String} (h : lfHead g A = .ok (g', true)) (hw : WellFormed g) :
    lfStable g A = false ∧ A ∈ g.nonterms ∧ ∃ F : List FGroup,
      (∀ e, e ∈ F.map FGroup.grp ↔ e ∈ groupsOf (prodsOf g.prods A) ∧ e.2.length ≥ 2) ∧ (F.map FGroup.grp).Nodup ∧
      (F.map (·.name)).Nodup ∧ (∀ e ∈ F, e.name ∉ g.nonterms) ∧
      g'.nonterms = g.nonterms ++ F.map (·.name) ∧ g'.start = g.start ∧ g'.terms = g.terms ∧
      (∀ B, B ≠ A → B ∈ g.nonterms → prodsOf g'.prods B = prodsOf g.prods B) ∧
      ∀ p, p ∈ g'.prods ↔ (p ∈ g.prods ∧ p.head ≠ A) ∨
        (∃ e ∈ F, p = ⟨A, e.key ++ [Sym.nonterm e.name]⟩ ∨ ∃ s ∈ e.sufs, p = ⟨e.name, s⟩) ∨
        (∃ e ∈ groupsOf (prodsOf g.prods A), e.2.length = 1 ∧ ∃ s ∈ e.2, p = ⟨A, e.1 ++ s⟩) := by
  rw [lfHead_eq] at h
  split at h
  · cases h
  · rename_i hcond
    obtain ⟨g1, hfold, h'⟩ := bind_eq_ok h
    cases h'
    -- `A` is declared: it has a production
    have hA : A ∈ g.nonterms := by
      cases hAPl : prodsOf g.prods A with
      | nil => simp [lfStable, hAPl, groupsOf] at hcond
      | cons p _ =>
        have := mem_prodsOf.1 (hAPl ▸ List.mem_cons_self .. : p ∈ prodsOf g.prods A)
        exact this.2 ▸ (hw.2 p this.1).1
    -- `foldlM_lfStep` reads `F`, the declarations and the productions added off the fold over the prefix groups,
    -- `mem_altFold` the alternatives put back afterwards; the two `*_prodsOf` lemmas say other heads are untouched
    have hother := foldlM_lfStep_prodsOf A _ _ g1 hfold
    obtain ⟨F, hF, hnts, hst, htm, hfresh, hnd, hpr⟩ := foldlM_lfStep A _ _ g1 hfold
    refine ⟨Bool.eq_false_iff.mpr hcond, hA, F, fun e => ?_, ?_, hnd, hfresh, hnts, hst, htm, ?_, ?_⟩
    · rw [hF, mem_sortBy, List.mem_filter]
      simp
    · rw [hF]
      exact nodup_sortBy _ _ ((nodup_of_keys (groupsOf_ok _).keys).filter _)
    · intro B hBA hB
      simp only
      rw [altFold_prodsOf A B hBA, hother B hBA hB]
      unfold prodsOf
      rw [List.filter_filter]
      apply List.filter_congr
      intro p _
      by_cases hpB : p.head = B
      · simp [hpB, hBA]
      · simp [hpB]
    · intro p
      simp only
      rw [mem_altFold, hpr]
      simp only [List.mem_filter, decide_eq_true_eq]
      constructor
      · rintro ((⟨h₁, h₂⟩ | h₁) | ⟨e, ⟨he, h1⟩, s, hs, rfl⟩)
        · exact .inl ⟨h₁, by simpa using h₂⟩
        · exact .inr (.inl h₁)
        · exact .inr (.inr ⟨e, he, h1, s, hs, rfl⟩)
      · rintro (⟨h₁, h₂⟩ | h₁ | ⟨e, he, h1, s, hs, rfl⟩)
        · exact .inl (.inl ⟨h₁, by simpa using h₂⟩)
        · exact .inl (.inr h₁)
        · exact .inr ⟨e, ⟨he, h1⟩, s, hs, rfl⟩

theorem lfHead_spec {g g' : G} {A : String} {ch : Bool} (h : lfHead g A = .ok (g', ch)) (hw : WellFormed g) :
    g' = g ∨ ∃ F, Factoring g g' A F := by
  cases ch with
  | false => exact .inl (lfHead_flag h rfl).1
  | true =>
    obtain ⟨_, hA, F, hgrp, _, hnd, hfresh, hnts, hst, htm, _, hpr⟩ := lfHead_true h hw
    have hok := groupsOf_ok (prodsOf g.prods A)
    have hin : ∀ e ∈ F, e.grp ∈ groupsOf (prodsOf g.prods A) := fun e he =>
      ((hgrp _).1 (List.mem_map.2 ⟨e, he, rfl⟩)).1
    have hold : ∀ e ∈ F, ∀ s ∈ e.sufs, (⟨A, e.key ++ s⟩ : SProd) ∈ g.prods :=
      fun e he s hs => (groupsOK_body hok (hin e he) hs).1
    refine .inr ⟨F, hst, htm, fun n => ?_, hA, hfresh, fun e he e' he' => inj_of_nodup_map (·.name) hnd e he e' he',
      fun e he => hok.nonempty _ (hin e he), hold, ?_, ?_, ?_⟩
    · simp only [hnts, List.mem_append, List.mem_map]
    · intro p hp
      rcases (hpr p).1 hp with hp | ⟨e, he, rfl | ⟨s, hs, rfl⟩⟩ | ⟨e, he, _, s, hs, rfl⟩
      · exact .inl hp.1
      · exact .inr (.inl ⟨e, he, rfl⟩)
      · exact .inr (.inr ⟨e, he, s, hs, rfl⟩)
      · exact .inl (groupsOK_body hok he hs).1
    · exact fun e he => ⟨(hpr _).2 (.inr (.inl ⟨e, he, .inl rfl⟩)),
        fun s hs => (hpr _).2 (.inr (.inl ⟨e, he, .inr ⟨s, hs, rfl⟩⟩))⟩
    · intro p hp
      by_cases hh : p.head = A
      · obtain ⟨e₀, he₀, s, hs, hb⟩ := groupsOf_complete _ p (mem_prodsOf.2 ⟨hp, hh⟩)
        have hp' : p = ⟨A, e₀.1 ++ s⟩ := prod_eq hh hb
        have hlen1 : e₀.2.length ≠ 0 := fun h0 => hok.nonempty e₀ he₀ (List.eq_nil_of_length_eq_zero h0)
        by_cases h2 : e₀.2.length ≥ 2
        · -- a folded group: it is the `grp` of a member of `F`
          obtain ⟨e, he, rfl⟩ := List.mem_map.1 ((hgrp e₀).2 ⟨he₀, h2⟩)
          exact .inr ⟨e, he, s, hs, hp', (hpr _).2 (.inr (.inl ⟨e, he, .inl rfl⟩)),
            (hpr _).2 (.inr (.inl ⟨e, he, .inr ⟨s, hs, rfl⟩⟩))⟩
        · exact .inl ((hpr p).2 (.inr (.inr ⟨e₀, he₀, by omega, s, hs, hp'⟩)))
      · exact .inl ((hpr p).2 (.inl ⟨hp, hh⟩))

/-!
## LeftFactor preserves the language (C08)

`C08_leftfactor_of_wellFormed`: for every well-formed grammar `G` on which the Model's `leftFactor` returns a grammar
`G'` (neither the "out of fresh names" panic nor running out of the pass fuel), `L(G') = L(G)`; `C08_leftfactor_wellFormed`:
`G'` is well-formed again.  Hygiene plays no role for the language — whatever name `AddNewNonTerminal` returns is not a
declared non-terminal, which is all `Factoring` needs; `C08_leftfactor` is the same for `Valid` grammars, with a hygiene
hypothesis it does not use.
-/

theorem sameLanguage_refl (g : G) : SameLanguage g g := fun _ => Iff.rfl

theorem sameLanguage_trans {g₁ g₂ g₃ : G} (h₁ : SameLanguage g₁ g₂) (h₂ : SameLanguage g₂ g₃) :
    SameLanguage g₁ g₃ := fun w => (h₂ w).trans (h₁ w)

theorem lfHead_good {g g' : G} {A : String} {ch : Bool} (h : lfHead g A = .ok (g', ch)) (hw : WellFormed g) :
    WellFormed g' ∧ SameLanguage g g' := by
  rcases lfHead_spec h hw with rfl | ⟨F, hF⟩
  · exact ⟨hw, sameLanguage_refl _⟩
  · exact ⟨hF.wellFormed hw, hF.sameLanguage hw⟩

theorem lfLoop_preserves {P : G → Prop}
    (hP : ∀ (g g' : G) (A : String) (ch : Bool), lfHead g A = .ok (g', ch) → P g → P g') :
    ∀ (fuel : Nat) (g g' : G), lfLoop fuel g = .ok g' → P g → P g'
  | 0, _, _, h, _ => by cases h
  | fuel + 1, g, g', h, hg => by
    simp only [lfLoop] at h
    obtain ⟨⟨g₁, ch⟩, hp, h'⟩ := bind_eq_ok h
    unfold lfPass at hp
    obtain ⟨nts, _, hf⟩ := bind_eq_ok hp
    have h₁ : P g₁ := by
      refine foldlM_inv _ (fun st => P st.1) nts (g, false) hg (fun st A st' hst hs _ => ?_) _ hf
      obtain ⟨⟨g₂, ch₂⟩, hh, hp⟩ := bind_eq_ok hs
      cases hp
      exact hP _ _ _ _ hh hst
    cases ch with
    | true =>
      simp only [↓reduceIte] at h'
      exact lfLoop_preserves hP fuel g₁ g' h' h₁
    | false =>
      simp only [Bool.false_eq_true, ↓reduceIte] at h'
      cases h'
      exact h₁

theorem lfLoop_good {fuel : Nat} {g g' : G} (h : lfLoop fuel g = .ok g') (hw : WellFormed g) :
    WellFormed g' ∧ SameLanguage g g' :=
  lfLoop_preserves (P := fun g₁ => WellFormed g₁ ∧ SameLanguage g g₁)
    (fun _ _ _ _ hh ⟨hw₁, hl₁⟩ => ⟨(lfHead_good hh hw₁).1, sameLanguage_trans hl₁ (lfHead_good hh hw₁).2⟩)
    fuel g g' h ⟨hw, sameLanguage_refl g⟩

theorem C08_leftfactor_of_wellFormed {G₀ G' : G} (hw : WellFormed G₀) (h : leftFactor G₀ = .ok G') :
    SameLanguage G₀ G' :=
  (lfLoop_good h hw).2

theorem C08_leftfactor {G₀ G' : G} (hv : Valid G₀) (_hh : Hygienic G₀) (h : leftFactor G₀ = .ok G') :
    SameLanguage G₀ G' :=
  C08_leftfactor_of_wellFormed hv.wellFormed h

theorem C08_leftfactor_wellFormed {G₀ G' : G} (hw : WellFormed G₀) (h : leftFactor G₀ = .ok G') :
    WellFormed G' :=
  (lfLoop_good h hw).1

end AlgoVerif.C08
