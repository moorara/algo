import AlgoVerif.Model.C06X
/-!
# C06 — `Binary.all` in linear time, for the driver

`Binary.all` is the ascending traversal with a visitor that appends to the list collected so far
(`kvs ++ [(k, v)]`, as the Go code appends to a slice): quadratic in the number of keys when executed.
The sweeps over the number of keys (65 536 and more) need it linear, so the driver runs `Binary.xstepFast`,
which answers `All` by `_withPrefix` with the empty prefix (it concatenates the sub-results) and is
`Binary.xstep` for every other operation; `Binary.xstepFast_eq` proves the two equal, so what the driver
prints is what the Model of the theorems computes.  Core only (the driver imports this file).
-/
namespace AlgoVerif.C06
variable {V : Type}

theorem BNode.travAsc_collect (n : BNode V) (pre : Key) (s : List (Key × V)) :
    BNode.travAsc (fun (kvs : List (Key × V)) k v term =>
      if term then (kvs ++ [(k, v)], true) else (kvs, true)) n pre s = (s ++ BNode.withPrefix n pre [], true) := by
  induction n generalizing pre s with
  | nil => simp [BNode.travAsc, BNode.withPrefix]
  | node ch val term l r ihl ihr =>
    cases term <;> simp [BNode.travAsc, BNode.withPrefix, ihl, ihr, List.append_assoc]

theorem Binary.all_eq_withPrefix (t : Binary V) : t.all = t.root.withPrefix [] [] := by
  simp [Binary.all, BNode.travAsc_collect]

def Binary.xstepFast [Inhabited V] (eqv : V → V → Bool) (s : Binary V × Binary V) (op : XOp V) :
    Outcome ((Binary V × Binary V) × XOut V (Binary V)) :=
  match op with
  | .base .all => .ok ((s.1, s.2), .base (.list (s.1.root.withPrefix [] [])))
  | op => Binary.xstep eqv s op

theorem Binary.xstepFast_eq [Inhabited V] (eqv : V → V → Bool) (s : Binary V × Binary V) (op : XOp V) :
    Binary.xstepFast eqv s op = Binary.xstep eqv s op := by
  unfold Binary.xstepFast
  split
  · simp [Binary.xstep, Binary.step, Binary.all_eq_withPrefix, Outcome.map]
  · rfl

end AlgoVerif.C06
