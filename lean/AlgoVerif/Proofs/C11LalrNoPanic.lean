import AlgoVerif.Proofs.C11LalrLA
import AlgoVerif.Proofs.C11NoPanic
/-!
# C11 — the LALR(1) builder of the Model never panics

for every well-formed grammar whose non-terminals are productive.  The two panic points of `ComputeLALR1Kernels`:

* `S0.FindItem(to.ItemSet, …)` indexes the state map with the result of `FindItemSet`, which is `ErrState` when the
  target of a transition is missing: it never is, the LR(0) kernel collection is closed under GOTO (`goto_found`)
  and GOTO is not empty when an item of the closure has the symbol after its dot;
* `lookaheads.Get(item).All()` dereferences a nil set when a kernel item never received a lookahead: every kernel
  item does (`la_exists`, `entries_exist` in `C11LalrLA`); this needs FIRST(βa) ≠ ∅, i.e. productive non-terminals (and for a
  grammar with an unproductive non-terminal the Go code does dereference a nil set there).
-/
namespace AlgoVerif.C11.Lalr
open AlgoVerif AlgoVerif.Gram AlgoVerif.C11 AlgoVerif.C11.Spec AlgoVerif.C11.Built AlgoVerif.C11.BuiltComplete
  AlgoVerif.C11.NoPanic

theorem np_propagate (props : Links) : ∀ (fuel : Nat) (t : LaTable), NP (propagate props fuel t)
  | 0, _ => np_diverge
  | fuel + 1, t => by
    unfold propagate
    simp only
    split
    · exact np_ok _
    · exact np_propagate props fuel _

theorem np_rowsL (g' : SGrammar) (A : Auto) (S : StateMap) :
    ∀ (l : List (List Item)) (i : Nat) (T : Table) (cl : List (List Item)), NP (buildLALR.rows g' A S l i T cl)
  | [], _, T, cl => by unfold buildLALR.rows; exact np_pure _
  | I :: rest, i, T, cl => by
    unfold buildLALR.rows
    apply np_bind _ _ (np_auto_closure A I)
    intro c
    apply np_bind
    · apply np_foldlM
      intro T' item
      apply np_itemActions
      intro a
      exact np_bind _ _ (np_goto A I _) (fun J => np_pure _)
    · intro T'
      apply np_bind
      · apply np_foldlM
        intro T'' n
        split
        · exact np_pure _
        · exact np_bind _ _ (np_goto A I _) (fun J => np_pure _)
      · intro T''; exact np_rowsL g' A S rest (i + 1) T'' _

section
variable {g g' : SGrammar} (hv : ValidG g) (ht : TermsListed g) (ha : augment g = Outcome.ok g')
  {fuel : Nat} {K0 : List (List Item)} (hK0 : (A0 g' fuel).canonical = Outcome.ok K0)
include hv ha hK0

include ht

theorem visit_target_found {Is : List Item} (hIs : Is ∈ buildStateMap g'.start K0) {k : Item} (hk : k ∈ Is)
    {j : Item} (hj : CloG g' (fun i => i = withLa k endmarker) j) {X : Sy} (hd : j.dotSym = some X) {nextI : List Item}
    (hgo : (A0 g' fuel).goto Is X = Outcome.ok nextI) :
    ∃ n Kn, Succ (A0 g' fuel) (buildStateMap g'.start K0) Is X n Kn := by
  have h := augOK_of_augment hv ha
  have hL := augListed hv ht ha
  obtain ⟨s, hs⟩ := List.mem_iff_getElem?.mp hIs
  have hkprod : k.prod ∈ g'.prods := (statesOK_good (k0_ok h hK0) s Is hs k hk).1
  have hknone : k.la = none := k0_la_none hK0 Is hIs k hk
  have hjprod : j.prod ∈ g'.prods := clo_prod (fun i hi => by rw [hi]; exact hkprod) hj
  have hin : j.next.core ∈ nextI := next_core_mem_goto hk hknone hj hd hgo
  have hX : X ∈ allSymbols g' := by
    have hXb := dotSym_mem hd
    unfold allSymbols
    cases X with
    | term a => exact List.mem_append_left _ (List.mem_map.mpr ⟨a, hL.listed.terms _ hjprod a hXb, rfl⟩)
    | nonterm B => exact List.mem_append_right _ (List.mem_map.mpr ⟨B, hL.bodies _ hjprod B hXb, rfl⟩)
  obtain ⟨n, Kn, hn, hKn, hsame⟩ := goto_found hK0 hIs hX hgo (List.ne_nil_of_mem hin)
  exact ⟨n, Kn, nextI, hgo, hn, hKn, hsame⟩

theorem np_lalrVisit {Is : List Item} (hIs : Is ∈ buildStateMap g'.start K0) {k : Item} (hk : k ∈ Is)
    {j : Item} (hj : CloG g' (fun i => i = withLa k endmarker) j)
    (src : Key) (acc : LaTable × Links) :
    NP (lalrVisit (A0 g' fuel) (buildStateMap g'.start K0) Is src acc j) := by
  unfold lalrVisit
  cases hd : j.dotSym with
  | none => exact np_pure _
  | some X =>
    simp only
    apply np_bind' _ _ (np_goto _ _ _)
    intro nextI hgo
    obtain ⟨n, _, _, hgo', hn, _⟩ := visit_target_found hv ht ha hK0 hIs hk hj hd hgo
    cases hgo.symm.trans hgo'
    simp only [hn]
    have : ¬ ((n : Int) < 0) := by omega
    simp only [this, if_false]
    cases j.la with
    | none => exact np_pure _
    | some a =>
      simp only
      split <;> exact np_pure _

end

theorem np_lalrKernels {g g' : SGrammar} (hv : ValidG g) (ht : TermsListed g) (ha : augment g = Outcome.ok g')
    (hprod : Productive g) (fuel : Nat) : NP (lalrKernels g' fuel) := by
  unfold lalrKernels
  apply np_bind' _ _ (np_canonical _)
  intro K0 hK0
  apply np_bind'
  · apply np_foldlM_mem
    intro acc Is hIs
    have hIsS : Is.1 ∈ buildStateMap g'.start K0 := List.mem_of_getElem? (List.mem_zipIdx_iff_getElem?.mp hIs)
    unfold lalrState
    apply np_foldlM_mem
    intro acc' ii hii
    have hk : ii.1 ∈ Is.1 := List.mem_of_getElem? (List.mem_zipIdx_iff_getElem?.mp hii)
    apply np_bind' _ _ (np_auto_closure _ _)
    intro J hJ
    apply np_foldlM_mem
    intro acc'' j hj
    exact np_lalrVisit hv ht ha hK0 hIsS hk ((mem_closure_single hJ j).mp hj) _ _
  · intro lp hlp
    apply np_bind' _ _ (np_propagate _ _ _)
    intro las hlas
    apply np_foldlM_mem
    intro K1 Is hIs
    have hIsS := List.mem_zipIdx_iff_getElem?.mp hIs
    apply np_bind
    · unfold lalrKernelOf
      apply np_foldlM_mem
      intro J ii hii
      have hki := List.mem_zipIdx_iff_getElem?.mp hii
      obtain ⟨ls, hls⟩ := entries_exist hv ht ha ⟨K0, lp, las, hK0, hlp, hlas⟩ hprod Is.2 Is.1 hIsS ii.2 ii.1 hki
      simp only [hls]
      exact np_pure _
    · intro J; exact np_pure _

theorem np_buildLALR (g : SGrammar) (hv : ValidG g) (ht : TermsListed g) (hprod : Productive g) (fuel : Nat)
    (h : augStart g ≠ none) : NP (buildLALR g fuel) := by
  unfold buildLALR
  apply np_bind' _ _ (np_augment g h)
  intro g' ha
  apply np_bind' _ _ (np_lalrKernels hv ht ha hprod fuel)
  intro K _
  apply np_bind _ _ (np_rowsL _ _ _ _ _ _ _)
  intro Tc
  exact np_pure _

end AlgoVerif.C11.Lalr
