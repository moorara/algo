import AlgoVerif.Generated.C17Gen
import AlgoVerif.Proofs.GoRt
import AlgoVerif.Proofs.C17QF
/-!
# The GENERATED model of `unionfind/unionfind.go` equals the hand-written Model

Every generated definition is proved equal, for all arguments, to the definition of
`Model/C17.lean` the C17 theorems are about (structures are compared through the field-by-field readings
`qf`, `qu`, `wq`; a method that modifies its receiver returns the new receiver).  The fuel of the
`for p != u.root[p]` loops is a parameter of the generated definitions; the Model fixes it to `len(u.root)`.

For the non-loop functions the two sides are the same program once the monad laws have pushed `map` inward
and the Bool tests are read as propositions (`simp only … ; rfl`); the one exception is weighted `Union`, where
two reads happen in the other order (`Go.idx_comm`).  The counting loops are compared with the closed forms the Model uses
(`relabel`, `iota`) through `Go.loop_steps`, the `Find` loops with `findLoop` through `find_loop_eq`.
-/

namespace AlgoVerif.C17.Gen
open AlgoVerif AlgoVerif.C17
open AlgoVerif.Generated.UnionFind

def qf (u : quickFind) : QuickFind := ⟨u.count, u.id⟩
def qu (u : quickUnion) : QuickUnion := ⟨u.count, u.root⟩
def wq (u : weightedQuickUnion) : Weighted := ⟨u.count, u.root, u.size⟩

@[simp] theorem qf_count (u : quickFind) : (qf u).count = u.count := rfl
@[simp] theorem qf_id (u : quickFind) : (qf u).id = u.id := rfl

theorem idx_eq (s : Array Int) (i : Int) : Go.idx s i = C17.idx s i := by
  unfold Go.idx C17.idx
  split <;> rename_i h
  · have : i.toNat < s.size := by omega
    simp [Array.getD, this]
  · rfl

theorem setIdx_eq (s : Array Int) (i v : Int) : Go.setIdx s i v = C17.setIdx s i v := by
  unfold Go.setIdx C17.setIdx
  split <;> rename_i h
  · have : i.toNat < s.size := by omega
    simp [Array.setIfInBounds, this]
  · rfl

theorem idx_cast {s : Array Int} {j : Nat} (h : j < s.size) : C17.idx s j = .ok (s.getD j 0) :=
  idx_ok rfl (valid_cast.2 h)

theorem setIdx_cast {s : Array Int} {j : Nat} (h : j < s.size) (v : Int) :
    C17.setIdx s j v = .ok (s.setIfInBounds j v) :=
  setIdx_ok rfl (valid_cast.2 h)

@[simp] theorem idx_ne_diverge (s : Array Int) (i : Int) : (C17.idx s i = .diverge) = False := by
  unfold C17.idx; split <;> simp

@[simp] theorem setIdx_ne_diverge (s : Array Int) (i v : Int) : (C17.setIdx s i v = .diverge) = False := by
  unfold C17.setIdx; split <;> simp

theorem fill_iota (n : Nat) : Go.fill (0 : Int) n (fun i => i) n = iota n := by
  apply Array.ext <;> simp [Go.fill, iota]

theorem quickFind_isValid (u : quickFind) (i : Int) : quickFind.isValid u i = (qf u).isValid i := rfl

theorem quickFind_Find (u : quickFind) (p : Int) : quickFind.Find u p = (qf u).find p := by
  simp only [quickFind.Find, QuickFind.find, quickFind_isValid, idx_eq, qf_id, Outcome.pure_eq]

theorem quickFind_IsConnected (u : quickFind) (p q : Int) :
    quickFind.IsConnected u p q = (qf u).isConnected p q := by
  simp only [quickFind.IsConnected, QuickFind.isConnected, quickFind_isValid, quickFind_Find, Outcome.pure_eq]

/-- `for i := range u.id { if u.id[i] == pid { u.id[i] = qid } }` -/
theorem quickFind_Union_loop (pid qid : Int) (u : quickFind) :
    quickFind.Union.loop1 pid qid u.id.size 0 u =
      .ok { u with id := QuickFind.relabel pid qid u.id u.id.size } := by
  refine Go.loop_steps (L := quickFind.Union.loop1 pid qid) (fun m => { u with id := QuickFind.relabel pid qid u.id m }) u.id.size (fun _ _ => rfl)
    fun k j hj => ?_
  simp only [quickFind.Union.loop1, idx_eq, setIdx_eq, idx_cast ((relabel_size ..).symm ▸ hj),
    setIdx_cast ((relabel_size ..).symm ▸ hj), Outcome.ok_bind, QuickFind.relabel, beq_iff_eq]
  split <;> rfl

theorem quickFind_Union (u : quickFind) (p q : Int) :
    (quickFind.Union u p q).map qf = (qf u).union p q := by
  simp only [quickFind.Union, QuickFind.union, quickFind_isValid, quickFind_Find, quickFind_Union_loop,
    Outcome.map_ite, Outcome.map_bind, Outcome.pure_eq, Outcome.ok_bind, Outcome.map_ok, beq_iff_eq]
  rfl

theorem quickFind_Count (u : quickFind) : quickFind.Count u = (qf u).getCount := rfl

/-- `make` + `for i := 0; i < n; i++ { id[i] = i }` -/
theorem NewQuickFind_eq (n : Nat) : (NewQuickFind n).map qf = .ok (QuickFind.new n) := by
  have := Go.fill_loop 0 (fun i => (i : Int)) NewQuickFind.loop1 (fun _ _ => rfl) (fun _ _ _ => rfl) n
  rw [fill_iota] at this
  simp only [NewQuickFind, Go.make_nat, Int.sub_zero, Int.toNat_natCast, Outcome.ok_bind, this]
  rfl

theorem NewQuickFind_neg {n : Int} (h : n < 0) : NewQuickFind n = .panic := by
  simp only [NewQuickFind, Go.make_neg (0 : Int) h, Outcome.panic_bind]

@[simp] theorem qu_count (u : quickUnion) : (qu u).count = u.count := rfl
@[simp] theorem qu_root (u : quickUnion) : (qu u).root = u.root := rfl

theorem quickUnion_isValid (u : quickUnion) (i : Int) : quickUnion.isValid u i = (qu u).isValid i := rfl

/-- the `for p != u.root[p] { p = u.root[p] }` loop of both quick-union types, for every fuel: the
translator reads `u.root[p]` once for the test and once for the assignment -/
theorem find_loop_eq (root : Array Int) (L : Nat → Int → Outcome Int) (h0 : ∀ p, L 0 p = .diverge)
    (hstep : ∀ k p, L (k + 1) p = do
      let t1 ← Go.idx root p
      if !(p != t1) then pure p else do
        let t2 ← Go.idx root p
        L k t2) :
    ∀ k p, L k p = findLoop root k p := by
  intro k
  induction k with
  | zero => exact h0
  | succ k ih =>
    intro p
    rw [hstep, findLoop, idx_eq]
    cases h : C17.idx root p with
    | ok r =>
      simp only [Outcome.ok_bind, ih, ne_eq, Bool.not_eq_eq_eq_not, Bool.not_true, bne_eq_false_iff_eq, ite_not]
      rfl
    | panic => rfl
    | diverge => rfl

theorem quickUnion_Find_loop (f : Nat) (u : quickUnion) : ∀ (k : Nat) (p : Int),
    quickUnion.Find.loop1 f u k p = findLoop u.root k p :=
  find_loop_eq u.root _ (fun _ => rfl) (fun _ _ => rfl)

theorem quickUnion_Find (u : quickUnion) (p : Int) :
    quickUnion.Find u.root.size u p = (qu u).find p := by
  simp only [quickUnion.Find, QuickUnion.find, quickUnion_isValid, quickUnion_Find_loop, qu_root, Outcome.pure_eq]

theorem quickUnion_Union (u : quickUnion) (p q : Int) :
    (quickUnion.Union u.root.size u p q).map qu = (qu u).union p q := by
  simp only [quickUnion.Union, QuickUnion.union, quickUnion_isValid, quickUnion_Find, setIdx_eq, qu_root, qu_count,
    Outcome.map_ite, Outcome.map_bind, Outcome.pure_eq, Outcome.map_ok, beq_iff_eq]
  rfl

theorem quickUnion_IsConnected (u : quickUnion) (p q : Int) :
    quickUnion.IsConnected u.root.size u p q = (qu u).isConnected p q := by
  simp only [quickUnion.IsConnected, QuickUnion.isConnected, quickUnion_isValid, quickUnion_Find, Outcome.pure_eq]

theorem quickUnion_Count (u : quickUnion) : quickUnion.Count u = (qu u).getCount := rfl

theorem NewQuickUnion_eq (n : Nat) : (NewQuickUnion n).map qu = .ok (QuickUnion.new n) := by
  have := Go.fill_loop 0 (fun i => (i : Int)) NewQuickUnion.loop1 (fun _ _ => rfl) (fun _ _ _ => rfl) n
  rw [fill_iota] at this
  simp only [NewQuickUnion, Go.make_nat, Int.sub_zero, Int.toNat_natCast, Outcome.ok_bind, this]
  rfl

theorem NewQuickUnion_neg {n : Int} (h : n < 0) : NewQuickUnion n = .panic := by
  simp only [NewQuickUnion, Go.make_neg (0 : Int) h, Outcome.panic_bind]

@[simp] theorem wq_count (u : weightedQuickUnion) : (wq u).count = u.count := rfl
@[simp] theorem wq_root (u : weightedQuickUnion) : (wq u).root = u.root := rfl
@[simp] theorem wq_size (u : weightedQuickUnion) : (wq u).size = u.size := rfl

theorem weighted_isValid (u : weightedQuickUnion) (i : Int) :
    weightedQuickUnion.isValid u i = (wq u).isValid i := rfl

theorem weighted_Find_loop (f : Nat) (u : weightedQuickUnion) : ∀ (k : Nat) (p : Int),
    weightedQuickUnion.Find.loop1 f u k p = findLoop u.root k p :=
  find_loop_eq u.root _ (fun _ => rfl) (fun _ _ => rfl)

theorem weighted_Find (u : weightedQuickUnion) (p : Int) :
    weightedQuickUnion.Find u.root.size u p = (wq u).find p := by
  simp only [weightedQuickUnion.Find, Weighted.find, weighted_isValid, weighted_Find_loop, wq_root, Outcome.pure_eq]

/-- the translator evaluates the right side of `u.size[qroot] += u.size[proot]` first, the Model reads
`u.size[qroot]` first: the two reads are swapped -/
theorem weighted_Union (u : weightedQuickUnion) (p q : Int) :
    (weightedQuickUnion.Union u.root.size u p q).map wq = (wq u).union p q := by
  simp only [weightedQuickUnion.Union, Weighted.union, weighted_isValid, weighted_Find, setIdx_eq, ← idx_eq,
    wq_root, wq_count, wq_size, Outcome.map_ite, Outcome.map_bind, Outcome.pure_eq, Outcome.map_ok,
    beq_iff_eq, decide_eq_true_eq]
  refine congrArg _ (bind_congr fun x => bind_congr fun y => ?_)
  simp only [Go.idx_comm u.size u.size x.1 y.1]
  rfl

theorem weighted_IsConnected (u : weightedQuickUnion) (p q : Int) :
    weightedQuickUnion.IsConnected u.root.size u p q = (wq u).isConnected p q := by
  simp only [weightedQuickUnion.IsConnected, Weighted.isConnected, weighted_isValid, weighted_Find, Outcome.pure_eq]

theorem weighted_Count (u : weightedQuickUnion) : weightedQuickUnion.Count u = (wq u).getCount := rfl

theorem NewWeighted_eq (n : Nat) : (NewWeightedQuickUnion n).map wq = .ok (Weighted.new n) := by
  have := Go.loop_steps (L := fun k i (s : Array Int × Array Int) => NewWeightedQuickUnion.loop1 k i s.1 s.2)
    (fun m => (Go.fill 0 n (fun i => i) m, Go.fill 0 n (fun _ => 1) m)) n (fun _ _ => rfl)
    fun k j hj => by
      simp only [NewWeightedQuickUnion.loop1, Go.setIdx_fill (fun i => (i : Int)) hj,
        Go.setIdx_fill (fun _ => (1 : Int)) hj, Outcome.ok_bind]
  rw [Go.fill_zero, Go.fill_zero, fill_iota, Go.fill_const] at this
  simp only [NewWeightedQuickUnion, Go.make_nat, Int.sub_zero, Int.toNat_natCast, Outcome.ok_bind, this]
  rfl

theorem NewWeighted_neg {n : Int} (h : n < 0) : NewWeightedQuickUnion n = .panic := by
  simp only [NewWeightedQuickUnion, Go.make_neg (0 : Int) h, Outcome.panic_bind]

/-! `Union` is called with fuel `len(u.root)` (the bound the theorems of `Props/C17.lean` establish). -/

def quickFind.run (u : quickFind) : List (Int × Int) → Outcome quickFind
  | [] => .ok u
  | (p, q) :: rest => do
    let u' ← quickFind.Union u p q
    quickFind.run u' rest

def quickUnion.run (u : quickUnion) : List (Int × Int) → Outcome quickUnion
  | [] => .ok u
  | (p, q) :: rest => do
    let u' ← quickUnion.Union u.root.size u p q
    quickUnion.run u' rest

def weightedQuickUnion.run (u : weightedQuickUnion) : List (Int × Int) → Outcome weightedQuickUnion
  | [] => .ok u
  | (p, q) :: rest => do
    let u' ← weightedQuickUnion.Union u.root.size u p q
    weightedQuickUnion.run u' rest

theorem quickFind_run (us : List (Int × Int)) : ∀ u : quickFind,
    (quickFind.run u us).map qf = (qf u).run us := by
  induction us with
  | nil => intro u; rfl
  | cons pq us ih =>
    intro u
    obtain ⟨p, q⟩ := pq
    simp only [quickFind.run, QuickFind.run, ← quickFind_Union, Outcome.map_bind, ih]
    cases quickFind.Union u p q <;> simp

theorem quickUnion_run (us : List (Int × Int)) : ∀ u : quickUnion,
    (quickUnion.run u us).map qu = (qu u).run us := by
  induction us with
  | nil => intro u; rfl
  | cons pq us ih =>
    intro u
    obtain ⟨p, q⟩ := pq
    simp only [quickUnion.run, QuickUnion.run, ← quickUnion_Union, Outcome.map_bind, ih]
    cases quickUnion.Union u.root.size u p q <;> simp

theorem weighted_run (us : List (Int × Int)) : ∀ u : weightedQuickUnion,
    (weightedQuickUnion.run u us).map wq = (wq u).run us := by
  induction us with
  | nil => intro u; rfl
  | cons pq us ih =>
    intro u
    obtain ⟨p, q⟩ := pq
    simp only [weightedQuickUnion.run, Weighted.run, ← weighted_Union, Outcome.map_bind, ih]
    cases weightedQuickUnion.Union u.root.size u p q <;> simp

/-- what `Props/C17.lean` derives every `C17_generated_*_tracks` from -/
theorem run_transfer {σ τ : Type} {rd : σ → τ} {new : Outcome σ} {m0 m : τ} {us : List (Int × Int)}
    {runG : σ → List (Int × Int) → Outcome σ} {runM : τ → List (Int × Int) → Outcome τ}
    (hnew : new.map rd = .ok m0) (hrun : ∀ u, (runG u us).map rd = runM (rd u) us) (hm : runM m0 us = .ok m) :
    ∃ u0 u, new = .ok u0 ∧ runG u0 us = .ok u ∧ rd u = m := by
  obtain ⟨u0, h0, e0⟩ := Outcome.map_eq_ok hnew
  obtain ⟨u, hu, eu⟩ := Outcome.map_eq_ok ((hrun u0).trans (e0 ▸ hm))
  exact ⟨u0, u, h0, hu, eu⟩

/-- `d` and `k`: what the generated `Find` does with an invalid argument and with the root -/
theorem find_fuel {β : Type} {root : Array Int} {n : Nat} {cnt : Int} (F : Forest n root cnt)
    (j : Nat) (p : Int) (d : Outcome β) (k : Int → Outcome β) :
    (if (!(decide (0 ≤ p) && decide (p < (root.size : Int)))) = true then d else findLoop root (n + j) p >>= k) =
      if (!(decide (0 ≤ p) && decide (p < (root.size : Int)))) = true then d else findLoop root n p >>= k := by
  split
  · rfl
  · next hv =>
    obtain ⟨r, hr⟩ := F.reaches p (by simpa [Spec.Valid, F.size] using hv)
    rw [F.findLoop_eq hr (Nat.le_add_right n j), F.findLoop_eq hr (Nat.le_refl n)]

end AlgoVerif.C17.Gen
