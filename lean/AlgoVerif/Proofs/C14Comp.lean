import AlgoVerif.Proofs.C14Dfs
/-!
# C14 proofs — the component loop (`ConnectedComponents`, second phase of Kosaraju)

`compLoop_classes`: the loop over a vertex order numbers the strong components, provided every vertex a traversal newly
visits reaches the start of that traversal back (Kosaraju's order guarantees it, `Proofs/C14Scc.lean`).
`compLoop_cc`: on a symmetric graph that is free, and the loop over all vertices partitions them by reachability.
-/
namespace AlgoVerif.C14

theorem idVisitors_allTrue (c : Nat) : (idVisitors c).AllTrue :=
  ⟨fun _ _ => rfl, fun _ _ => rfl, fun _ _ _ _ => rfl⟩

/-- relation between the id table at entry (`st`) and later (`cur`) of a traversal labelling with `c` -/
structure IdStep (c : Nat) (n : Nat) (st cur : TState (Array Nat)) : Prop where
  size : cur.s.size = n
  old : ∀ x, Vis st.visited x → cur.s[x]? = st.s[x]?
  new : ∀ x, Vis cur.visited x → ¬ Vis st.visited x → cur.s[x]? = some c

theorem dfs_ids {g : Graph} (hg : g.WF) (c : Nat) :
    ∀ fuel v (st : TState (Array Nat)), st.s.size = g.n →
      st.visited.size = g.n → st.visited[v]? = some false → cntF st.visited ≤ fuel →
      ∃ st', dfs g (idVisitors c) fuel v st = .ok st' ∧ IdStep c g.n st st' ∧
        StdPost g v st.visited st'.visited := by
  apply dfs_rule g hg (idVisitors c) (idVisitors_allTrue c)
    (fun _ st => st.s.size = g.n)
    (fun _ st st' => IdStep c g.n st st')
    (fun _ st _ _ cur => IdStep c g.n st cur)
  · intro v st hpre hsize hunv
    have hvlt : v < st.s.size := by
      rw [hpre, ← hsize]
      exact (Array.getElem?_eq_some_iff.1 hunv).1
    refine ⟨by show (st.s.set! v c).size = g.n; rw [size_set!]; exact hpre, ?_, ?_⟩
    · intro x hx
      have : v ≠ x := by intro e; subst e; exact not_vis_of_false hunv hx
      exact getElem?_set!_ne _ _ this
    · intro x hx hnx
      rcases vis_set.1 hx with ⟨rfl, _⟩ | h
      · exact getElem?_set!_self _ _ hvlt
      · exact absurd h hnx
  · intro v st done x rest cur hm _ _
    exact hm
  · intro v st done x rest cur hm hs hunv
    refine ⟨hm.size, ?_⟩
    intro cur' hp hstd
    refine ⟨hp.size, ?_, ?_⟩
    · intro y hy
      rw [hp.old y (hs.grows y hy)]
      exact hm.old y hy
    · intro y hy hny
      by_cases hc : Vis cur.visited y
      · rw [hp.old y hc]
        exact hm.new y hc hny
      · exact hp.new y hy hc
  · intro v st done cur hm _
    exact hm

/-- invariant of the component loop on a symmetric graph -/
structure CCInv (g : Graph) (a : Array Bool) (id : Array Nat) (c : Nat) : Prop where
  size : a.size = g.n
  idsize : id.size = g.n
  closed : ∀ x, Vis a x → ∀ y, g.HasArc x y → Vis a y
  lt : ∀ x, Vis a x → ∃ i, id[x]? = some i ∧ i < c
  used : ∀ i, i < c → ∃ x, Vis a x ∧ id[x]? = some i
  part : ∀ x y, Vis a x → Vis a y → (id[x]? = id[y]? ↔ Reach g.HasArc x y)

/-- invariant of the component loop of Kosaraju's second phase -/
structure SccInv (g : Graph) (a : Array Bool) (id : Array Nat) (c : Nat) : Prop where
  size : a.size = g.n
  idsize : id.size = g.n
  closed : ∀ x, Vis a x → ∀ y, g.HasArc x y → Vis a y
  lt : ∀ x, Vis a x → ∃ i, id[x]? = some i ∧ i < c
  used : ∀ i, i < c → ∃ x, Vis a x ∧ id[x]? = some i
  part : ∀ x y, Vis a x → Vis a y → (id[x]? = id[y]? ↔ Reach g.HasArc x y ∧ Reach g.HasArc y x)

theorem SccInv.init (g : Graph) : SccInv g (Array.replicate g.n false) (Array.replicate g.n 0) 0 :=
  { size := by simp
    idsize := by simp
    closed := fun x hx => absurd hx vis_replicate_false
    lt := fun x hx => absurd hx vis_replicate_false
    used := fun i hi => absurd hi (Nat.not_lt_zero i)
    part := fun x _ hx => absurd hx vis_replicate_false }

/-- The component loop over the vertices in the order `L`: every traversal from a vertex `v` still unvisited gives
the vertices it visits a new number.  If each of them reaches `v` back (`hback`: by what the order `L` guarantees about
the vertices in front of `v`, all visited, and the visited set, closed under reachability), the classes are the
strong components. -/
theorem compLoop_classes {g : Graph} (hg : g.WF) (L : List Nat) (hL : ∀ v ∈ L, v < g.n)
    (hback : ∀ pre v vs (a a' : Array Bool), L = pre ++ v :: vs → (∀ x ∈ pre, Vis a x) →
      (∀ x y, Vis a x → Reach g.HasArc x y → Vis a y) → a[v]? = some false → StdPost g v a a' →
      ∀ x, Vis a' x → ¬ Vis a x → Reach g.HasArc x v) :
    ∃ st c, compLoop g L ⟨Array.replicate g.n false, Array.replicate g.n 0⟩ 0 = .ok (st, c) ∧
      SccInv g st.visited st.s c ∧ ∀ x ∈ L, Vis st.visited x := by
  suffices h : ∃ p : TState (Array Nat) × Nat,
      compLoop g L ⟨Array.replicate g.n false, Array.replicate g.n 0⟩ 0 = .ok p ∧
        SccInv g p.1.visited p.1.s p.2 ∧ ∀ x ∈ L, Vis p.1.visited x from
    let ⟨p, h⟩ := h; ⟨p.1, p.2, h⟩
  refine list_loop_inv (loop := fun vs p => compLoop g vs p.1 p.2)
    (I := fun done p => SccInv g p.1.visited p.1.s p.2 ∧ ∀ x ∈ done, Vis p.1.visited x)
    (fun _ => rfl) L (fun pre v vs ⟨st, c⟩ hP ⟨hinv, hpre⟩ => ?_) (⟨_, _⟩, 0) ⟨SccInv.init g, by simp⟩
  have hvn : v < g.n := hL v (by rw [hP]; simp)
  rcases vis_or_false (by rw [hinv.size]; exact hvn : v < st.visited.size) with hvis | hunv
  · exact ⟨(st, c), by simp only [compLoop, show st.visited[v]? = some true from hvis], hinv,
      List.forall_mem_append.2 ⟨hpre, List.forall_mem_singleton.2 hvis⟩⟩
  · obtain ⟨st1, hd, hid, hstd⟩ := dfs_ids hg c (g.n + 1) v st hinv.idsize hinv.size hunv (cntF_le_succ hinv.size)
    have hnew_reach : ∀ x, Vis st1.visited x → ¬ Vis st.visited x → Reach g.HasArc v x :=
      fun x hx hnx => (hstd.reach x hx hnx).of_white
    have hold_closed : ∀ x y, Vis st.visited x → Reach g.HasArc x y → Vis st.visited y :=
      fun x y hx hr => Reach.closed (S := Vis st.visited) (fun p q hp e => hinv.closed p hp q e) hr hx
    have hnew_back := hback pre v vs st.visited st1.visited hP hpre hold_closed hunv hstd
    have hinv1 : SccInv g st1.visited st1.s (c + 1) :=
      { size := hstd.size
        idsize := hid.size
        closed := by
          intro x hx y hy
          by_cases hox : Vis st.visited x
          · exact hstd.grows y (hinv.closed x hox y hy)
          · exact hstd.closed x hx hox y hy
        lt := by
          intro x hx
          by_cases hox : Vis st.visited x
          · obtain ⟨i, hi, hlt⟩ := hinv.lt x hox
            exact ⟨i, by rw [hid.old x hox]; exact hi, by omega⟩
          · exact ⟨c, hid.new x hx hox, by omega⟩
        used := by
          intro i hi
          by_cases hic : i = c
          · subst hic
            exact ⟨v, hstd.self, hid.new v hstd.self (not_vis_of_false hunv)⟩
          · obtain ⟨x, hx, hxi⟩ := hinv.used i (by omega)
            exact ⟨x, hstd.grows x hx, by rw [hid.old x hx]; exact hxi⟩
        part := by
          intro x y hx hy
          by_cases hox : Vis st.visited x <;> by_cases hoy : Vis st.visited y
          · rw [hid.old x hox, hid.old y hoy]
            exact hinv.part x y hox hoy
          · obtain ⟨i, hi, hlt⟩ := hinv.lt x hox
            rw [hid.old x hox, hi, hid.new y hy hoy]
            constructor
            · intro h'; simp at h'; omega
            · intro hr; exact absurd (hold_closed x y hox hr.1) hoy
          · obtain ⟨i, hi, hlt⟩ := hinv.lt y hoy
            rw [hid.old y hoy, hi, hid.new x hx hox]
            constructor
            · intro h'; simp at h'; omega
            · intro hr; exact absurd (hold_closed y x hoy hr.2) hox
          · rw [hid.new x hx hox, hid.new y hy hoy]
            simp only [true_iff]
            exact ⟨(hnew_back x hx hox).trans (hnew_reach y hy hoy),
                   (hnew_back y hy hoy).trans (hnew_reach x hx hox)⟩ }
    exact ⟨(st1, c + 1), by simp only [compLoop, hunv, hd], hinv1,
      List.forall_mem_append.2 ⟨fun x h' => hstd.grows x (hpre x h'), List.forall_mem_singleton.2 hstd.self⟩⟩

theorem compLoop_cc {g : Graph} (hg : g.WF) (hsym : g.Symmetric) :
    ∃ st c, compLoop g (List.range g.n) ⟨Array.replicate g.n false, Array.replicate g.n 0⟩ 0 = .ok (st, c) ∧
      CCInv g st.visited st.s c ∧ ∀ x, x < g.n → Vis st.visited x := by
  obtain ⟨st, c, h1, h2, h3⟩ := compLoop_classes hg (List.range g.n) (fun v hv => List.mem_range.1 hv)
    (fun _ v _ a a' _ _ _ _ hstd x hx hnx => (hstd.reach x hx hnx).of_white.symm hsym)
  refine ⟨st, c, h1, ⟨h2.size, h2.idsize, h2.closed, h2.lt, h2.used, fun x y hx hy => ?_⟩,
    fun x hx => h3 x (List.mem_range.2 hx)⟩
  exact (h2.part x y hx hy).trans ⟨fun h => h.1, fun h => ⟨h, h.symm hsym⟩⟩

theorem cc_spec {g : Graph} (hg : g.WF) (hsym : g.Symmetric) :
    ∃ cc, g.connectedComponents = .ok cc ∧ cc.id.size = g.n ∧
      (∀ x, x < g.n → ∃ i, cc.id[x]? = some i ∧ i < cc.count) ∧
      (∀ i, i < cc.count → ∃ x, x < g.n ∧ cc.id[x]? = some i) ∧
      (∀ x y, x < g.n → y < g.n → (cc.id[x]? = cc.id[y]? ↔ Reach g.HasArc x y)) := by
  obtain ⟨st, c, h1, h2, hall⟩ := compLoop_cc hg hsym
  refine ⟨⟨c, st.s⟩, ?_, h2.idsize, ?_, ?_, ?_⟩
  · simp only [Graph.connectedComponents, components, h1]
  · intro x hx; exact h2.lt x (hall x hx)
  · intro i hi
    obtain ⟨x, hx, hxi⟩ := h2.used i hi
    exact ⟨x, by rw [← h2.size]; exact vis_lt hx, hxi⟩
  · intro x y hx hy; exact h2.part x y (hall x hx) (hall y hy)

end AlgoVerif.C14
