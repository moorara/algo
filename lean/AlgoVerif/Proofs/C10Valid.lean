import AlgoVerif.Model.C10
import AlgoVerif.Spec.C10
import AlgoVerif.Proofs.C10Derives
/-! What `Verify()` gives the proofs: in a valid grammar (`validB`) every symbol of every production, hence of every
sentential form, is declared. -/
namespace AlgoVerif.C10
open AlgoVerif AlgoVerif.Gram
variable {T N : Type} [DecidableEq T] [DecidableEq N]
variable {g : Grammar T N}

theorem valid_prod (hv : validB g = true) {p : GProd T N} (hp : p ∈ g.prods) :
    p.head ∈ g.nonterms ∧ ∀ s, s ∈ p.body → symDeclared g s = true := by
  unfold validB at hv
  simp only [Bool.and_eq_true] at hv
  have := (List.all_eq_true.1 hv.2) p hp
  simp only [Bool.and_eq_true, decide_eq_true_eq] at this
  exact ⟨this.1, fun s hs => (List.all_eq_true.1 this.2) s hs⟩

theorem valid_start (hv : validB g = true) : g.start ∈ g.nonterms := by
  unfold validB at hv
  simp only [Bool.and_eq_true, decide_eq_true_eq] at hv
  exact hv.1.1.1

theorem derives_declared (hv : validB g = true) {α β : List (Sym T N)}
    (h : Derives g α β) (hα : ∀ s, s ∈ α → symDeclared g s = true) : ∀ s, s ∈ β → symDeclared g s = true := by
  induction h with
  | refl => exact hα
  | tail _ st ih =>
    obtain ⟨u, v, p, hp, hx, hy⟩ := step_iff.1 st
    subst hx; subst hy
    intro s hs
    simp only [List.mem_append] at hs
    rcases hs with (hs | hs) | hs
    · exact ih s (by simp [hs])
    · exact (valid_prod hv hp).2 s hs
    · exact ih s (by simp [hs])

theorem sentential_declared (hv : validB g = true) {β : List (Sym T N)}
    (h : Derives g [Sym.nonterm g.start] β) : ∀ s, s ∈ β → symDeclared g s = true :=
  derives_declared hv h fun s hs => by
    cases List.mem_singleton.1 hs
    simpa [symDeclared] using valid_start hv

theorem productive_string (hprod : Spec.AllProductive g) :
    ∀ (y : List (Sym T N)), (∀ s, s ∈ y → symDeclared g s = true) →
      ∃ w : List T, Derives g y (w.map Sym.term) := by
  intro y
  induction y with
  | nil => intro _; exact ⟨[], Derives.refl _⟩
  | cons s rest ih =>
    intro hd
    obtain ⟨w₂, h₂⟩ := ih fun s hs => hd s (List.mem_cons_of_mem _ hs)
    cases s with
    | term t =>
      refine ⟨t :: w₂, ?_⟩
      have := h₂.append_left [Sym.term t]
      simpa using this
    | nonterm A =>
      have hA : A ∈ g.nonterms := by
        have := hd (Sym.nonterm A) (List.mem_cons_self ..)
        simpa [symDeclared] using this
      obtain ⟨w₁, h₁⟩ := hprod A hA
      refine ⟨w₁ ++ w₂, ?_⟩
      have := Derives.append h₁ h₂
      simpa using this

end AlgoVerif.C10
