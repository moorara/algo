import AlgoVerif.Proofs.C18Core
/-!
# C18 — the block-chain queue refines a list

Invariant (DESIGN.md Appendix B, "Queue").  `nodes` is the chain `frontNode … rearNode`; every block
has `nodeSize` cells.  Writing `cells` for the concatenation of the blocks, the live cells are
`cells[frontIndex … stop)` where `stop` = all cells minus the unused tail of the rear block
(`nodeSize - 1 - rearIndex` cells).  When `Dequeue` has consumed the last allocated cell no block is left
(`frontNode = nil`); the next `Enqueue` then starts a fresh block *and resets `rearIndex`* — without the reset the
next write would index out of range.
-/
namespace AlgoVerif.C18
variable {α : Type}

def Queue.cells (q : Queue α) : List α := q.nodes.flatMap Array.toList

/-- number of cells up to and including `rearNode.block[rearIndex]` (the subtraction is exact as soon as there is
a block, `nodeSize ≤ cells.length`; on the empty chain its value does not matter) -/
def Queue.stop (q : Queue α) : Nat := q.cells.length + (q.rearIndex + 1).toNat - q.nodeSize

/-- the live cells, front of the queue first -/
def Queue.abs (q : Queue α) : List α := (q.cells.take q.stop).drop q.frontIndex.toNat

structure Queue.Inv (q : Queue α) : Prop where
  pos : 1 ≤ q.nodeSize
  blocks : ∀ b ∈ q.nodes, b.size = q.nodeSize
  idx : q.nodes ≠ [] →
    0 ≤ q.frontIndex ∧ q.frontIndex < q.nodeSize ∧ 0 ≤ q.rearIndex ∧ q.rearIndex < q.nodeSize
  front_le : q.nodes ≠ [] → q.frontIndex.toNat ≤ q.stop
  size : q.listSize = (Queue.abs q).length

theorem Queue.new_inv (B : Nat) (hB : 1 ≤ B) : (Queue.new B : Queue α).Inv := by
  constructor <;> simp [Queue.new, Queue.abs, Queue.cells, hB]

theorem Queue.new_abs (B : Nat) : (Queue.new B : Queue α).abs = [] := by
  simp [Queue.new, Queue.abs, Queue.cells]

theorem Queue.abs_nil_of_nodes (q : Queue α) (hn : q.nodes = []) : q.abs = [] := by
  rw [Queue.abs, Queue.cells, hn, List.flatMap_nil, List.take_nil, List.drop_nil]

theorem setLast_ok (pre : List (Array α)) (b : Array α) (i : Int) (v : α) (h0 : 0 ≤ i)
    (h1 : i.toNat < b.size) : setLast (pre ++ [b]) i v = .ok (pre ++ [b.set! i.toNat v]) := by
  simp [setLast, h0, h1]

theorem flatMap_snoc (pre : List (Array α)) (b : Array α) :
    (pre ++ [b]).flatMap Array.toList = pre.flatMap Array.toList ++ b.toList := by
  rw [List.flatMap_append, List.flatMap_singleton]

/-- The second half of `Enqueue`, `rearNode.block[rearIndex] = val`, on a chain `pre ++ [b]` whose cells before
`rearIndex = k` of `b` are the live ones, `live`: cell `k` becomes live. -/
theorem Queue.write_spec (B : Nat) (ls f : Int) (pre : List (Array α)) (b : Array α) (k : Nat) (v : α) (live : List α)
    (hB : 1 ≤ B) (hpre : ∀ b' ∈ pre, b'.size = B) (hb : b.size = B) (hk : k < B) (hf0 : 0 ≤ f) (hfB : f < B)
    (hfl : f.toNat ≤ (pre.flatMap Array.toList).length + k)
    (hlive : live =
      (((pre ++ [b]).flatMap Array.toList).take ((pre.flatMap Array.toList).length + k)).drop f.toNat)
    (hls : ls = live.length) :
    (⟨B, ls + 1, f, k, pre ++ [b.set! k v]⟩ : Queue α).Inv ∧
    (⟨B, ls + 1, f, k, pre ++ [b.set! k v]⟩ : Queue α).abs = live ++ [v] := by
  subst hlive
  have hstop : Queue.stop (⟨B, ls + 1, f, k, pre ++ [b.set! k v]⟩ : Queue α) =
      (pre.flatMap Array.toList).length + k + 1 := by
    simp only [Queue.stop, Queue.cells, flatMap_snoc, List.length_append, Array.length_toList, set!_size, hb]
    show _ + _ + (k + 1) - _ = _
    rw [Nat.add_right_comm, Nat.add_sub_cancel]; rfl
  have habs : (⟨B, ls + 1, f, k, pre ++ [b.set! k v]⟩ : Queue α).abs =
      (((pre ++ [b]).flatMap Array.toList).take ((pre.flatMap Array.toList).length + k)).drop f.toNat ++ [v] := by
    have hlen : b.toList.length = B := by rw [Array.length_toList, hb]
    rw [Queue.abs, hstop, Queue.cells, flatMap_snoc, flatMap_snoc, set!_toList, Nat.add_assoc,
      List.take_length_add_append, List.take_length_add_append, take_set_succ _ _ _ (hlen ▸ hk), ← List.append_assoc,
      List.drop_append_of_le_length]
    rw [List.length_append, List.length_take, hlen, Nat.min_eq_left (Nat.le_of_lt hk)]
    exact hfl
  refine ⟨⟨hB, ?_, fun _ => ⟨hf0, hfB, Int.natCast_nonneg k, Int.ofNat_lt.2 hk⟩, fun _ => ?_, ?_⟩, habs⟩
  · intro b' hb'
    rcases List.mem_append.1 hb' with hb' | hb'
    · exact hpre b' hb'
    · rw [List.mem_singleton.1 hb', set!_size, hb]
  · rw [hstop]; exact Nat.le_succ_of_le hfl
  · rw [habs, List.length_append, Int.natCast_add, ← hls]; rfl

/-- three cases, each closed by `Queue.write_spec`: no block yet and the rear block full (cell 0 of a new block), room
in the rear block (its cell `rearIndex + 1`) -/
theorem Queue.enqueue_spec (zero : α) (q : Queue α) (v : α) (h : q.Inv) :
    ∃ q', q.enqueue zero v = .ok q' ∧ q'.Inv ∧ q'.abs = q.abs ++ [v] := by
  obtain ⟨hpos, hbl, hidx, hfl, hsz⟩ := h
  have hnb := newBlock_size zero q.nodeSize
  by_cases hn : q.nodes = []
  · have habs := q.abs_nil_of_nodes hn
    obtain ⟨hI, ha⟩ := Queue.write_spec q.nodeSize q.listSize 0 [] (newBlock zero q.nodeSize) 0 v q.abs hpos
      (fun _ h => absurd h List.not_mem_nil) hnb hpos (Int.le_refl 0) (Int.natCast_pos.2 hpos) (Nat.zero_le _)
      (by rw [habs]; rfl) hsz
    refine ⟨_, ?_, hI, ha⟩
    simp only [Queue.enqueue, hn, List.isEmpty_nil, if_true]
    rw [show [newBlock zero q.nodeSize] = [] ++ [newBlock zero q.nodeSize] from rfl,
      setLast_ok _ _ _ _ (Int.le_refl 0) (by rw [hnb]; exact hpos)]
    rfl
  · have hne : q.nodes.isEmpty = false := by simp [hn]
    have hi := hidx hn
    by_cases hfull : q.rearIndex + 1 = ↑q.nodeSize
    · have hstop : q.stop = q.cells.length := by simp [Queue.stop, hfull]
      have habs : q.abs = (((q.nodes ++ [newBlock zero q.nodeSize]).flatMap Array.toList).take
          ((q.nodes.flatMap Array.toList).length + 0)).drop q.frontIndex.toNat := by
        rw [Queue.abs, hstop, flatMap_snoc, Nat.add_zero, List.take_left' rfl, List.take_length]; rfl
      obtain ⟨hI, ha⟩ := Queue.write_spec q.nodeSize q.listSize q.frontIndex q.nodes (newBlock zero q.nodeSize) 0 v
        q.abs hpos hbl hnb hpos hi.1 hi.2.1 (by rw [Nat.add_zero]; exact hstop ▸ hfl hn) habs hsz
      refine ⟨_, ?_, hI, ha⟩
      simp only [Queue.enqueue, hne, hfull, Bool.false_eq_true, if_false, if_true]
      rw [setLast_ok _ _ _ _ (Int.le_refl 0) (by rw [hnb]; exact hpos)]
      rfl
    · obtain ⟨pre, b, hpb⟩ : ∃ pre b, q.nodes = pre ++ [b] :=
        ⟨_, _, (List.dropLast_concat_getLast hn).symm⟩
      have hb : b.size = q.nodeSize := hbl b (by simp [hpb])
      obtain ⟨r, hr⟩ : ∃ r : Nat, q.rearIndex = r := ⟨q.rearIndex.toNat, (Int.toNat_of_nonneg hi.2.2.1).symm⟩
      have hk : r + 1 < q.nodeSize := by
        rw [hr] at hi hfull
        exact Int.ofNat_lt.1 (succ_lt_of_ne hi.2.2.2 hfull)
      have hstop : q.stop = (pre.flatMap Array.toList).length + (r + 1) := by
        have hlen : b.toList.length = q.nodeSize := hb
        rw [Queue.stop, Queue.cells, hpb, flatMap_snoc, List.length_append, hlen, hr]
        show _ + _ + (r + 1) - _ = _
        rw [Nat.add_right_comm, Nat.add_sub_cancel]
      have habs : q.abs = (((pre ++ [b]).flatMap Array.toList).take
          ((pre.flatMap Array.toList).length + (r + 1))).drop q.frontIndex.toNat := by
        rw [Queue.abs, hstop, Queue.cells, hpb]
      obtain ⟨hI, ha⟩ := Queue.write_spec q.nodeSize q.listSize q.frontIndex pre b (r + 1) v q.abs
        hpos (fun b' hb' => hbl b' (by simp [hpb, hb'])) hb hk hi.1 hi.2.1 (hstop ▸ hfl hn) habs hsz
      refine ⟨_, ?_, hI, ha⟩
      simp only [Queue.enqueue, hne, hfull, Bool.false_eq_true, if_false]
      rw [hpb, hr, show (r : Int) + 1 = (r + 1 : Nat) from rfl,
        setLast_ok _ _ _ _ (Int.natCast_nonneg _) (hb ▸ hk)]
      rfl

theorem Queue.abs_nil_of_size (q : Queue α) (h : q.Inv) (h0 : q.listSize = 0) : q.abs = [] :=
  List.eq_nil_of_length_eq_zero (Int.ofNat_eq_zero.1 (h.size ▸ h0))

theorem Queue.front_facts (q : Queue α) (h : q.Inv) (hne : q.listSize ≠ 0) :
    ∃ (b : Array α) (rest : List (Array α)) (f : Nat) (hf : f < b.size), q.nodes = b :: rest ∧ q.frontIndex = f ∧
      q.frontCell = .ok b[f] ∧ q.abs = b[f] :: (q.cells.take q.stop).drop (f + 1) ∧ f < q.stop := by
  cases hn : q.nodes with
  | nil => exact absurd (by rw [h.size, q.abs_nil_of_nodes hn]; rfl) hne
  | cons b rest =>
    have hi := h.idx (hn ▸ List.cons_ne_nil b rest)
    obtain ⟨f, hf⟩ : ∃ f : Nat, q.frontIndex = f := ⟨q.frontIndex.toNat, (Int.toNat_of_nonneg hi.1).symm⟩
    have hb : b.size = q.nodeSize := h.blocks b (hn ▸ List.mem_cons_self ..)
    have hfb : f < b.size := hb ▸ Int.ofNat_lt.1 (hf ▸ hi.2.1)
    have hlen : q.abs.length ≠ 0 := fun h0 => hne (by rw [h.size, h0]; rfl)
    rw [Queue.abs, hf, Int.toNat_natCast, List.length_drop] at hlen
    have hlc : f < (List.take q.stop q.cells).length := Nat.lt_of_sub_ne_zero hlen
    have hlt : f < q.stop := Nat.lt_of_lt_of_le hlc (List.length_take_le _ _)
    have hc : q.cells = b.toList ++ rest.flatMap Array.toList := by rw [Queue.cells, hn, List.flatMap_cons]
    refine ⟨b, rest, f, hfb, rfl, hf, ?_, ?_, hlt⟩
    · simp only [Queue.frontCell, hn, hf, Int.natCast_nonneg, Int.toNat_natCast, hfb, and_self, if_true,
        Array.getElem?_eq_getElem hfb]
    · rw [Queue.abs, hf, Int.toNat_natCast, List.drop_eq_getElem_cons hlc, List.getElem_take]
      congr 1
      simp only [hc, List.getElem_append_left (Array.length_toList ▸ hfb), Array.getElem_toList]

theorem Queue.dequeue_spec (q : Queue α) (h : q.Inv) :
    ∃ q', q.dequeue = .ok (q', (Spec.Q.dequeue q.abs).2) ∧ q'.Inv ∧ q'.abs = (Spec.Q.dequeue q.abs).1 := by
  by_cases h0 : q.listSize = 0
  · have habs := q.abs_nil_of_size h h0
    exact ⟨q, by rw [Queue.dequeue, if_pos h0, habs]; rfl, h, by rw [habs]; rfl⟩
  · obtain ⟨b, rest, f, hfb, hn, hf, hcell, habs, hlt⟩ := q.front_facts h h0
    obtain ⟨hpos, hbl, hidx, hfl, hsz⟩ := h
    have hi := hidx (hn ▸ List.cons_ne_nil b rest)
    have hb : b.toList.length = q.nodeSize := hbl b (hn ▸ List.mem_cons_self ..)
    have hls : q.listSize - 1 = ((q.cells.take q.stop).drop (f + 1)).length := by
      rw [hsz, habs, List.length_cons]; omega
    rw [Queue.dequeue, if_neg h0, hcell, habs]
    by_cases hfull : q.frontIndex + 1 = ↑q.nodeSize
    · -- the front block is used up: the chain loses its `nodeSize` cells
      have hfB : f + 1 = b.toList.length := by
        rw [hf] at hfull
        exact (Int.ofNat_inj.1 hfull).trans hb.symm
      have habs' : Queue.abs (⟨q.nodeSize, q.listSize - 1, 0, q.rearIndex, rest⟩ : Queue α)
          = (q.cells.take q.stop).drop (f + 1) := by
        show ((rest.flatMap Array.toList).take ((rest.flatMap Array.toList).length + (q.rearIndex + 1).toNat -
          q.nodeSize)).drop (0 : Int).toNat = _
        rw [Int.toNat_zero, List.drop_zero, Queue.stop, Queue.cells, hn, List.flatMap_cons, hfB, List.drop_take,
          List.drop_left, List.length_append, hb, Nat.add_assoc, Nat.add_sub_cancel_left]
      simp only [hn, List.tail_cons]
      refine ⟨_, if_pos hfull, ⟨hpos, fun b' hb' => hbl b' (hn ▸ List.mem_cons_of_mem _ hb'), ?_, ?_, ?_⟩, habs'⟩
      · exact fun _ => ⟨Int.le_refl 0, Int.natCast_pos.2 hpos, hi.2.2⟩
      · exact fun _ => Nat.zero_le _
      · rw [habs']; exact hls
    · have hf1 : (q.frontIndex + 1).toNat = f + 1 := by rw [hf]; rfl
      have habs' : Queue.abs (⟨q.nodeSize, q.listSize - 1, q.frontIndex + 1, q.rearIndex, q.nodes⟩ : Queue α)
          = (q.cells.take q.stop).drop (f + 1) := by
        rw [Queue.abs, hf1]; rfl
      refine ⟨_, if_neg hfull, ⟨hpos, hbl, ?_, ?_, ?_⟩, habs'⟩
      · have h1 : 0 ≤ q.frontIndex + 1 := Int.le_add_one hi.1
        have h2 : q.frontIndex + 1 < q.nodeSize := succ_lt_of_ne hi.2.1 hfull
        exact fun _ => ⟨h1, h2, hi.2.2⟩
      · exact fun _ => hf1 ▸ hlt
      · rw [habs']; exact hls

theorem Queue.peek_spec (q : Queue α) (h : q.Inv) : q.peek = .ok (Spec.Q.peek q.abs) := by
  by_cases h0 : q.listSize = 0
  · rw [Queue.peek, if_pos h0, q.abs_nil_of_size h h0]; rfl
  · obtain ⟨b, rest, f, hfb, hn, hf, hcell, habs, hlt⟩ := q.front_facts h h0
    rw [Queue.peek, if_neg h0, hcell, habs]; rfl

/-- The scan from cell `i` of the first block of the remaining chain `nodes` (whose last block is `rearNode`) sees
exactly the live cells from there on.  Indices are naturals here, which keeps `omega` cheap.
Fuel: one unit per cell from `i` on and one for the test that ends the loop, which the Model charges on the empty chain
too; `+ B` against `i < B` keeps that last unit whatever `nodes` and `i` are.  `Contains` passes
`(len + 1) * (B + 1) + 1`, which is more. -/
theorem Queue.containsLoop_spec (eq : α → α → Bool) (B r : Nat) (v : α) :
    ∀ (fuel : Nat) (nodes : List (Array α)) (i : Nat),
      (∀ b ∈ nodes, b.size = B) → i < B → (nodes.flatMap Array.toList).length + B + 1 ≤ fuel + i →
      Queue.containsLoop eq B r v fuel nodes i =
        .ok ((((nodes.flatMap Array.toList).take
          ((nodes.flatMap Array.toList).length + (r + 1) - B)).drop i).any (fun x => eq x v)) := by
  intro fuel
  induction fuel with
  | zero => intro nodes i _ _ hf; omega
  | succ fuel ih =>
    intro nodes i hbl hlt hf
    cases nodes with
    | nil =>
      rw [Queue.containsLoop, List.flatMap_nil, List.take_nil, List.drop_nil]
      · rfl
      · exact Nat.succ_ne_zero _
    | cons b rest =>
      have hb : b.toList.length = B := hbl b (List.mem_cons_self ..)
      have hrest : ∀ b' ∈ rest, b'.size = B := fun b' h => hbl b' (List.mem_cons_of_mem _ h)
      have hR : rest = [] ∨ B ≤ (rest.flatMap Array.toList).length := by
        cases rest with
        | nil => exact .inl rfl
        | cons b2 rest2 =>
          right
          rw [List.flatMap_cons, List.length_append, Array.length_toList, hrest b2 (List.mem_cons_self ..)]
          exact Nat.le_add_right _ _
      have hsz : (i : Int).toNat < b.size := (hb ▸ hlt : i < b.toList.length)
      rw [List.flatMap_cons, List.length_append, hb] at hf
      rw [List.flatMap_cons, List.length_append, hb, Nat.add_assoc, Nat.add_sub_cancel_left, Queue.containsLoop]
      by_cases hexit : rest.isEmpty = true ∧ ¬ ((i : Int) ≤ r)
      · rw [if_pos hexit, List.drop_eq_nil_of_le]
        · rfl
        · have : r < i := Nat.lt_of_not_le fun h => hexit.2 (Int.ofNat_le.2 h)
          rw [List.isEmpty_iff.1 hexit.1, List.length_take]
          exact Nat.le_trans (Nat.min_le_left _ _) (by rw [List.flatMap_nil, List.length_nil, Nat.zero_add]; exact this)
      · have hlive : i < (rest.flatMap Array.toList).length + (r + 1) := by
          rcases hR with hR | hR
          · have : (i : Int) ≤ r := Decidable.not_not.1 fun h => hexit ⟨List.isEmpty_iff.2 hR, h⟩
            exact Nat.lt_add_left _ (Nat.lt_succ_of_le (Int.ofNat_le.1 this))
          · exact Nat.lt_of_lt_of_le hlt (Nat.le_trans hR (Nat.le_add_right _ _))
        rw [if_neg hexit, if_pos ⟨Int.natCast_nonneg i, hsz⟩, Array.getElem?_eq_getElem hsz,
          List.drop_eq_getElem_cons (by
            rw [List.length_take, List.length_append, hb]; exact Nat.lt_min.2 ⟨hlive, Nat.lt_add_right _ hlt⟩),
          List.getElem_take, List.getElem_append_left (hb.symm ▸ hlt), List.any_cons, Array.getElem_toList]
        simp only [Int.toNat_natCast]
        cases eq b[i] v with
        | true => rfl
        | false =>
          rw [Bool.false_or, if_neg Bool.false_ne_true]
          by_cases hnext : (i : Int) + 1 = ↑B
          · -- on to the next block: drop the `B` cells of this one
            have hiB : i + 1 = b.toList.length := (Int.ofNat_inj.1 hnext).trans hb.symm
            rw [if_pos hnext, show Queue.containsLoop eq B r v fuel rest 0 = _ from
                ih rest 0 hrest (Nat.lt_of_le_of_lt (Nat.zero_le i) hlt) (by omega),
              List.drop_zero, hiB, List.drop_take,
              List.drop_left, hb]
          · rw [if_neg hnext, show Queue.containsLoop eq B r v fuel (b :: rest) (i + 1) = _ from
                ih (b :: rest) (i + 1) hbl (Nat.lt_of_le_of_ne hlt fun h => hnext (Int.ofNat_inj.2 h))
                  (by rw [List.flatMap_cons, List.length_append, hb]; omega),
              List.flatMap_cons, List.length_append, hb, Nat.add_assoc, Nat.add_sub_cancel_left]

theorem Queue.contains_spec (eq : α → α → Bool) (q : Queue α) (v : α) (h : q.Inv) :
    q.contains eq v = .ok (Spec.Q.contains eq q.abs v) := by
  by_cases hn : q.nodes = []
  · simp [Queue.contains, hn, Queue.abs_nil_of_nodes q hn, Spec.Q.contains, Queue.containsLoop]
  · have hi := h.idx hn
    obtain ⟨f, hf⟩ : ∃ f : Nat, q.frontIndex = f := ⟨q.frontIndex.toNat, (Int.toNat_of_nonneg hi.1).symm⟩
    obtain ⟨r, hr⟩ : ∃ r : Nat, q.rearIndex = r := ⟨q.rearIndex.toNat, (Int.toNat_of_nonneg hi.2.2.1).symm⟩
    rw [Queue.contains, hf, hr, Queue.containsLoop_spec eq q.nodeSize r v _ q.nodes f h.blocks (by omega)]
    · rw [Spec.Q.contains, Queue.abs, Queue.stop, hf, hr]; rfl
    · rw [flatMap_length_of_blocks _ q.nodeSize q.nodes h.blocks, Nat.succ_mul, Nat.mul_succ]
      omega

def Queue.Rel (q : Queue α) (l : Spec.Q α) : Prop := q.Inv ∧ q.abs = l

theorem Queue.step_refines (zero : α) (eq : α → α → Bool) (q : Queue α) (l : Spec.Q α) (op : Op α)
    (h : Queue.Rel q l) :
    ∃ q', Queue.step zero eq q op = .ok (q', (Spec.Q.step eq l op).2) ∧
      Queue.Rel q' (Spec.Q.step eq l op).1 := by
  obtain ⟨hinv, rfl⟩ := h
  cases op with
  | add v =>
    obtain ⟨q', h1, h2, h3⟩ := Queue.enqueue_spec zero q v hinv
    exact ⟨q', by simp [Queue.step, h1, Outcome.map, Spec.Q.step], h2, by simp [Spec.Q.step, Spec.Q.enqueue, h3]⟩
  | remove =>
    obtain ⟨q', h1, h2, h3⟩ := Queue.dequeue_spec q hinv
    exact ⟨q', by simp [Queue.step, h1, Outcome.map, Spec.Q.step], h2, by simp [Spec.Q.step, h3]⟩
  | peek =>
    exact ⟨q, by simp [Queue.step, Queue.peek_spec q hinv, Outcome.map, Spec.Q.step], hinv, rfl⟩
  | contains v =>
    exact ⟨q, by simp [Queue.step, Queue.contains_spec eq q v hinv, Outcome.map, Spec.Q.step], hinv, rfl⟩
  | size =>
    exact ⟨q, by simp [Queue.step, Queue.size, hinv.size, Spec.Q.step, Spec.Q.size], hinv, rfl⟩
  | isEmpty =>
    refine ⟨q, ?_, hinv, rfl⟩
    simp [Queue.step, Queue.isEmpty, hinv.size, Spec.Q.step, Spec.Q.isEmpty]
    cases q.abs <;> simp
    omega

end AlgoVerif.C18
