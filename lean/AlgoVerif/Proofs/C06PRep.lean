import AlgoVerif.Proofs.Outcome
import AlgoVerif.Proofs.C06PT
import AlgoVerif.Proofs.C06Patricia
import AlgoVerif.Proofs.C06Fold
/-!
# C06 — the Patricia store represents a crit-bit tree

`Rep t b p T`: following the link `p`, which leaves a node with bit position `b`, the store `t` unfolds
into the tree `T` (an upward link — target bit position `≤ b` — is a leaf).  `RepG` is the same with the condition on
upward links a parameter, `rep_eq` the bridge: what holds whatever that condition is — the frame lemma, the one induction
behind every "this update leaves that tree alone", and what rests on it — is stated for `RepG` and used for `Rep` through
`rep_eq`.  Then: the links of the store along a path, the redirection of the link a path ends with (what `_put` and both
halves of `remove` do), and the loops of the Model that read the store (`search`, the threaded traversals, `_min`, `_max`).
-/
namespace AlgoVerif.C06
variable {V : Type}
open BitString (xbit Small)

open PT

namespace Patricia

def Rep (t : Patricia V) : Nat → Option Nat → PT V → Prop
  | b, p, .leaf i k v => p = some i ∧ ∃ n, t.nodes[i]? = some n ∧ n.bp ≤ b ∧ n.key = k ∧ n.val = v
  | b, p, .inner i bp l r =>
    p = some i ∧ ∃ n, t.nodes[i]? = some n ∧ n.bp = bp ∧ bp > b ∧ Rep t bp n.left l ∧ Rep t bp n.right r

/-- the link of a node on side `d` (`true`: right) -/
def link (n : PNode V) (d : Bool) : Option Nat := if d then n.right else n.left

theorem link_not (n : PNode V) (d : Bool) : link n (!d) = if d then n.left else n.right := by
  cases d <;> rfl

/-- `Rep` with `L i n b` asked of a thread to node `i` (stored as `n`) that leaves a node with bit position `b`.  A parameter
because `remove` breaks the condition of `Rep` between its two updates (the contraction lifts a subtree above the referrer,
to which a thread of it may point): the deletion is proved on `Shape`, without a condition, and `Shape.toRep` gives `Rep`
back at the end. -/
def RepG (L : Nat → PNode V → Nat → Prop) (t : Patricia V) : Nat → Option Nat → PT V → Prop
  | b, p, .leaf i k v => p = some i ∧ ∃ n, t.nodes[i]? = some n ∧ L i n b ∧ n.key = k ∧ n.val = v
  | b, p, .inner i bp l r =>
    p = some i ∧ ∃ n, t.nodes[i]? = some n ∧ n.bp = bp ∧ bp > b ∧ RepG L t bp n.left l ∧ RepG L t bp n.right r

theorem rep_eq (t : Patricia V) : Rep t = RepG (fun _ n b => n.bp ≤ b) t := by
  funext b p T
  induction T generalizing b p with
  | leaf => rfl
  | inner i bp l r ihl ihr => simp only [Rep, RepG, ihl, ihr]

abbrev Shape (t : Patricia V) : Nat → Option Nat → PT V → Prop := RepG (fun _ _ _ => True) t

theorem RepG.idx_eq {L : Nat → PNode V → Nat → Prop} {t : Patricia V} {T : PT V} {b : Nat} {p : Option Nat}
    (h : RepG L t b p T) : p = some T.idx := by
  cases T <;> exact h.1

theorem repG_fork {L : Nat → PNode V → Nat → Prop} {t : Patricia V} {b : Nat} {p : Option Nat} {d : Bool} {i bp : Nat}
    {P O : PT V} : RepG L t b p (fork d i bp P O) ↔ p = some i ∧ ∃ n, t.nodes[i]? = some n ∧ n.bp = bp ∧ bp > b ∧
      RepG L t bp (link n d) P ∧ RepG L t bp (link n (!d)) O := by
  cases d
  · exact Iff.rfl
  · exact ⟨fun ⟨hp, n, hn, h1, h2, hl, hr⟩ => ⟨hp, n, hn, h1, h2, hr, hl⟩,
      fun ⟨hp, n, hn, h1, h2, hP, hO⟩ => ⟨hp, n, hn, h1, h2, hO, hP⟩⟩

theorem RepG.frame {L L' : Nat → PNode V → Nat → Prop} {t t' : Patricia V} {T : PT V} {b : Nat} {p : Option Nat}
    (h : RepG L t b p T)
    (hin : ∀ i ∈ inners T, ∀ n, t.nodes[i]? = some n →
      ∃ n', t'.nodes[i]? = some n' ∧ n'.bp = n.bp ∧ n'.left = n.left ∧ n'.right = n.right)
    (hlf : ∀ i ∈ leafIdx T, ∀ n, t.nodes[i]? = some n →
      ∃ n', t'.nodes[i]? = some n' ∧ n'.key = n.key ∧ n'.val = n.val ∧ ∀ b', b ≤ b' → L i n b' → L' i n' b') :
    RepG L' t' b p T := by
  induction T generalizing b p with
  | leaf i k v =>
    obtain ⟨hp, n, hn, hb, hk, hv⟩ := h
    obtain ⟨n', hn', h1, h2, h3⟩ := hlf i (by simp [leafIdx]) n hn
    exact ⟨hp, n', hn', h3 b (Nat.le_refl _) hb, h1.trans hk, h2.trans hv⟩
  | inner i bp l r ihl ihr =>
    obtain ⟨hp, n, hn, hbp, hb, hl, hr⟩ := h
    obtain ⟨n', hn', h1, h2, h3⟩ := hin i (by simp [inners]) n hn
    refine ⟨hp, n', hn', h1.trans hbp, hb, ?_, ?_⟩
    · rw [h2]
      exact ihl hl (fun j hj => hin j (by simp [inners, hj])) fun j hj n hn =>
        (hlf j (by simp [leafIdx, hj]) n hn).imp fun _ h => ⟨h.1, h.2.1, h.2.2.1, fun b' hb' => h.2.2.2 b' (by omega)⟩
    · rw [h3]
      exact ihr hr (fun j hj => hin j (by simp [inners, hj])) fun j hj n hn =>
        (hlf j (by simp [leafIdx, hj]) n hn).imp fun _ h => ⟨h.1, h.2.1, h.2.2.1, fun b' hb' => h.2.2.2 b' (by omega)⟩

theorem RepG.node_ok {L : Nat → PNode V → Nat → Prop} {t : Patricia V} {T : PT V} {b : Nat} {p : Option Nat}
    (h : RepG L t b p T) : ∃ n, t.node p = .ok n := by
  cases T <;> (obtain ⟨rfl, n, hn, -⟩ := h; exact ⟨n, node_some hn⟩)

theorem RepG.congr {L : Nat → PNode V → Nat → Prop} {t t' : Patricia V} (hn : t'.nodes = t.nodes) {T : PT V} {b : Nat}
    {p : Option Nat} (h : RepG L t b p T) : RepG L t' b p T :=
  h.frame (fun _ _ n hj => ⟨n, by rw [hn]; exact hj, rfl, rfl, rfl⟩) fun _ _ n hj =>
    ⟨n, by rw [hn]; exact hj, rfl, rfl, fun _ _ h => h⟩

theorem Rep.shape {t : Patricia V} {T : PT V} {b : Nat} {p : Option Nat} (h : Rep t b p T) : Shape t b p T :=
  RepG.frame (rep_eq t ▸ h) (fun _ _ n hn => ⟨n, hn, rfl, rfl, rfl⟩) fun _ _ n hn => ⟨n, hn, rfl, rfl, fun _ _ _ => trivial⟩

theorem Rep.resize {t : Patricia V} {T : PT V} {b : Nat} {p : Option Nat} (h : Rep t b p T) (sz : Int) :
    Rep { t with size := sz } b p T := by
  rw [rep_eq] at h ⊢
  refine RepG.congr ?_ h
  rfl

theorem rep_fork {t : Patricia V} {b : Nat} {p : Option Nat} {d : Bool} {i bp : Nat} {P O : PT V} :
    Rep t b p (fork d i bp P O) ↔ p = some i ∧ ∃ n, t.nodes[i]? = some n ∧ n.bp = bp ∧ bp > b ∧
      Rep t bp (link n d) P ∧ Rep t bp (link n (!d)) O := by
  rw [rep_eq]
  exact repG_fork

def relink (n : PNode V) (sd : Bool) (ptr : Option Nat) : PNode V :=
  if sd then { n with right := ptr } else { n with left := ptr }

@[simp] theorem relink_bp (n : PNode V) (sd : Bool) (ptr : Option Nat) : (relink n sd ptr).bp = n.bp := by
  cases sd <;> rfl
@[simp] theorem relink_key (n : PNode V) (sd : Bool) (ptr : Option Nat) : (relink n sd ptr).key = n.key := by
  cases sd <;> rfl
@[simp] theorem relink_val (n : PNode V) (sd : Bool) (ptr : Option Nat) : (relink n sd ptr).val = n.val := by
  cases sd <;> rfl

theorem link_relink (n : PNode V) (d : Bool) (ptr : Option Nat) : link (relink n d ptr) d = ptr := by
  cases d <;> rfl

theorem link_relink_other (n : PNode V) (d : Bool) (ptr : Option Nat) : link (relink n d ptr) (!d) = link n (!d) := by
  cases d <;> rfl

theorem Rep.unique {t : Patricia V} {T T' : PT V} {b : Nat} {p : Option Nat} (h : Rep t b p T) (h' : Rep t b p T') :
    T = T' := by
  induction T generalizing b p T' with
  | leaf i k v =>
    obtain ⟨hp, n, hn, hb, hk, hv⟩ := h
    cases T' with
    | leaf i' k' v' =>
      obtain ⟨hp', n', hn', _, hk', hv'⟩ := h'
      cases hp.symm.trans hp'
      cases hn.symm.trans hn'
      rw [← hk, ← hv, ← hk', ← hv']
    | inner i' bp' l' r' =>
      obtain ⟨hp', n', hn', hbp', hb', _, _⟩ := h'
      cases hp.symm.trans hp'
      cases hn.symm.trans hn'
      omega
  | inner i bp l r ihl ihr =>
    obtain ⟨hp, n, hn, hbp, hb, hl, hr⟩ := h
    cases T' with
    | leaf i' k' v' =>
      obtain ⟨hp', n', hn', hb', _, _⟩ := h'
      cases hp.symm.trans hp'
      cases hn.symm.trans hn'
      omega
    | inner i' bp' l' r' =>
      obtain ⟨hp', n', hn', hbp', hb', hl', hr'⟩ := h'
      cases hp.symm.trans hp'
      cases hn.symm.trans hn'
      subst hbp; subst hbp'
      rw [ihl hl hl', ihr hr hr']

theorem Rep.raise {t : Patricia V} {T : PT V} {b b' : Nat} {p : Option Nat} (h : Rep t b p T) (hbb : b ≤ b')
    (hT : ∀ i bp l r, T = .inner i bp l r → b' < bp) : Rep t b' p T := by
  cases T with
  | leaf i k v =>
    obtain ⟨hp, n, hn, hb, hk, hv⟩ := h
    exact ⟨hp, n, hn, by omega, hk, hv⟩
  | inner i bp l r =>
    obtain ⟨hp, n, hn, hbp, hb, hl, hr⟩ := h
    exact ⟨hp, n, hn, hbp, hT i bp l r rfl, hl, hr⟩

theorem lt_size_of_getElem? {t : Patricia V} {i : Nat} {n : PNode V} (h : t.nodes[i]? = some n) : i < t.nodes.size := by
  by_cases hlt : i < t.nodes.size
  · exact hlt
  · rw [Array.getElem?_eq_none (by omega)] at h; cases h

theorem Rep.valid {t : Patricia V} {T : PT V} {b : Nat} {p : Option Nat} (h : Rep t b p T) :
    ∀ i, i ∈ leafIdx T ++ inners T → i < t.nodes.size := by
  induction T generalizing b p with
  | leaf i k v =>
    obtain ⟨_, n, hn, _⟩ := h
    intro j hj
    simp [leafIdx, inners] at hj
    subst hj
    exact lt_size_of_getElem? hn
  | inner i bp l r ihl ihr =>
    obtain ⟨_, n, hn, _, _, hl, hr⟩ := h
    intro j hj
    simp only [leafIdx, inners, List.mem_append, List.mem_cons] at hj
    rcases hj with (hj | hj) | (hj | hj | hj)
    · exact ihl hl j (List.mem_append.mpr (.inl hj))
    · exact ihr hr j (List.mem_append.mpr (.inl hj))
    · subst hj
      exact lt_size_of_getElem? hn
    · exact ihl hl j (List.mem_append.mpr (.inr hj))
    · exact ihr hr j (List.mem_append.mpr (.inr hj))

def setLink (t : Patricia V) (i : Nat) (sd : Bool) (ptr : Option Nat) : Patricia V :=
  if sd then t.setRight i ptr else t.setLeft i ptr

theorem setLink_nodes (t : Patricia V) (i : Nat) (sd : Bool) (ptr : Option Nat) (j : Nat) :
    (setLink t i sd ptr).nodes[j]? = if i = j then (t.nodes[j]?).map (fun n => relink n sd ptr) else t.nodes[j]? := by
  cases sd <;> simp [setLink, relink, setLeft, setRight, Array.getElem?_modify]

theorem setLink_root (t : Patricia V) (i : Nat) (sd : Bool) (ptr : Option Nat) :
    (setLink t i sd ptr).root = t.root ∧ (setLink t i sd ptr).size = t.size := by
  cases sd <;> simp [setLink, setLeft, setRight]

/-- `t'` is `t` with the link `e` (node and side) redirected to `x`; nodes may have been added -/
def Redirect (t t' : Patricia V) (e : Nat × Bool) (x : Option Nat) : Prop :=
  ∀ j n, t.nodes[j]? = some n → ∃ n', t'.nodes[j]? = some n' ∧ n'.bp = n.bp ∧ n'.key = n.key ∧ n'.val = n.val ∧
    ∀ d, link n' d = if (j, d) = e then x else link n d

theorem redirect_setLink (t : Patricia V) (i : Nat) (sd : Bool) (x : Option Nat) : Redirect t (setLink t i sd x) (i, sd) x := by
  intro j n h
  rw [setLink_nodes, h]
  by_cases hij : i = j
  · subst hij
    refine ⟨_, if_pos rfl, relink_bp .., relink_key .., relink_val .., fun d => ?_⟩
    by_cases hd : d = sd
    · rw [hd, if_pos rfl, link_relink]
    · rw [if_neg fun e => hd (Prod.mk.inj e).2, show d = !sd by cases d <;> cases sd <;> simp_all, link_relink_other]
  · exact ⟨n, if_neg hij, rfl, rfl, rfl, fun d => (if_neg fun e => hij (Prod.mk.inj e).1.symm).symm⟩

/-! `Links R t a C`: in the store the link owned by `a` (node and side) leads along the path `C`, and `R` holds of what
hangs off it.  `Rep` of `plug C X` is `Links` along `C` plus `Rep` of `X` below the link the path ends with
(`rep_plug`); a store update that leaves the path's nodes alone — the link it ends with excepted, which `Links` does not
read — keeps `Links` (`Links.frame`), so that an operation at the end of a path is proved there and nowhere else. -/

def Links (R : Nat → Option Nat → PT V → Prop) (t : Patricia V) : Nat × Bool → List (Step V) → Prop
  | _, [] => True
  | a, s :: C => ∃ an n, t.nodes[a.1]? = some an ∧ link an a.2 = some s.i ∧ t.nodes[s.i]? = some n ∧ n.bp = s.bp ∧
      an.bp < s.bp ∧ R s.bp (link n (!s.d)) s.O ∧ Links R t (s.i, s.d) C

theorem repG_plug {L : Nat → PNode V → Nat → Prop} {t : Patricia V} {C : List (Step V)} {X : PT V} {a : Nat × Bool}
    {an : PNode V} (ha : t.nodes[a.1]? = some an) :
    RepG L t an.bp (link an a.2) (plug C X) ↔ Links (RepG L t) t a C ∧
      ∃ en, t.nodes[(endOwner a C).1]? = some en ∧ RepG L t en.bp (link en (endOwner a C).2) X := by
  induction C generalizing a an with
  | nil => exact ⟨fun h => ⟨trivial, an, ha, h⟩, fun ⟨_, en, he, h⟩ => by cases ha.symm.trans he; exact h⟩
  | cons s C ih =>
    simp only [plug, repG_fork, Links, endOwner]
    constructor
    · rintro ⟨hp, n, hn, hbp, hb, hP, hO⟩
      obtain ⟨hL, en, he, hX⟩ := (ih (a := (s.i, s.d)) hn).mp (hbp.symm ▸ hP)
      exact ⟨⟨an, n, ha, hp, hn, hbp, hb, hO, hL⟩, en, he, hX⟩
    · rintro ⟨⟨an', n, ha', hp, hn, hbp, hb, hO, hL⟩, en, he, hX⟩
      cases ha.symm.trans ha'
      exact ⟨hp, n, hn, hbp, hb, hbp ▸ (ih (a := (s.i, s.d)) hn).mpr ⟨hL, en, he, hX⟩, hO⟩

theorem rep_plug {t : Patricia V} {C : List (Step V)} {X : PT V} {a : Nat × Bool} {an : PNode V}
    (ha : t.nodes[a.1]? = some an) :
    Rep t an.bp (link an a.2) (plug C X) ↔ Links (Rep t) t a C ∧
      ∃ en, t.nodes[(endOwner a C).1]? = some en ∧ Rep t en.bp (link en (endOwner a C).2) X := by
  rw [rep_eq]
  exact repG_plug ha

theorem Links.frame {R R' : Nat → Option Nat → PT V → Prop} {t t' : Patricia V} {a : Nat × Bool} {C : List (Step V)}
    (h : Links R t a C) (hnd : (a.1 :: C.map (·.i)).Nodup)
    (hn : ∀ j ∈ a.1 :: C.map (·.i), ∀ n, t.nodes[j]? = some n →
      ∃ n', t'.nodes[j]? = some n' ∧ n'.bp = n.bp ∧ ∀ d, (j, d) ≠ endOwner a C → link n' d = link n d)
    (hO : ∀ s ∈ C, ∀ b p, R b p s.O → R' b p s.O) : Links R' t' a C := by
  induction C generalizing a with
  | nil => trivial
  | cons s C ih =>
    obtain ⟨an, n, ha, hp, hn0, hbp, hb, hOs, hC⟩ := h
    obtain ⟨hna, hnd'⟩ := List.nodup_cons.mp hnd
    obtain ⟨an', ha', hb', hl'⟩ := hn a.1 (List.mem_cons_self ..) an ha
    obtain ⟨n', hn', hbn', hln'⟩ := hn s.i (List.mem_cons_of_mem _ (List.mem_cons_self ..)) n hn0
    -- the link the path ends with belongs to `s` or to a later node: it is neither `a`'s link nor the other link of `s`
    have hend := endOwner_eq_or_mem (s.i, s.d) C
    have h1 : (a.1, a.2) ≠ endOwner a (s :: C) := fun e => hna <| by
      rw [endOwner_cons] at e
      rcases hend with h | h
      · rw [h] at e; rw [(Prod.mk.inj e).1]; exact List.mem_cons_self ..
      · rw [← e] at h; exact List.mem_cons_of_mem _ h
    have h2 : (s.i, !s.d) ≠ endOwner a (s :: C) := fun e => by
      rw [endOwner_cons] at e
      rcases hend with h | h
      · rw [h] at e; cases hd : s.d <;> simp [hd] at e
      · rw [← e] at h; exact (List.nodup_cons.mp hnd').1 h
    refine ⟨an', n', ha', by rw [hl' a.2 h1]; exact hp, hn', hbn'.trans hbp, by omega, ?_,
      ih hC hnd' (fun j hj => hn j (List.mem_cons_of_mem _ hj)) fun c hc => hO c (List.mem_cons_of_mem _ hc)⟩
    rw [hln' _ h2]
    exact hO s (List.mem_cons_self ..) _ _ hOs

theorem Redirect.repG {L L' : Nat → PNode V → Nat → Prop} (hL : ∀ i n n' b, n'.bp = n.bp → L i n b → L' i n' b)
    {t t' : Patricia V} {e : Nat × Bool} {x : Option Nat} (hr : Redirect t t' e x) {X : PT V} (he : e.1 ∉ inners X)
    {b : Nat} {p : Option Nat} (h : RepG L t b p X) : RepG L' t' b p X := by
  refine h.frame (fun i hi n hn => ?_) fun i _ n hn => ?_
  · obtain ⟨n', hn', hb, -, -, hl⟩ := hr i n hn
    have hne : ∀ d, (i, d) ≠ e := fun d e' => he (e' ▸ hi)
    exact ⟨n', hn', hb, by simpa [link, hne] using hl false, by simpa [link, hne] using hl true⟩
  · obtain ⟨n', hn', hb, hk, hv, -⟩ := hr i n hn
    exact ⟨n', hn', hk, hv, fun b' _ => hL i n n' b' hb⟩

theorem RepG.redirect {L L' : Nat → PNode V → Nat → Prop} (hL : ∀ i n n' b, n'.bp = n.bp → L i n b → L' i n' b)
    {t t' : Patricia V} {C : List (Step V)} {X X' : PT V} {a : Nat × Bool} {an an' : PNode V} {x : Option Nat}
    (ha : t.nodes[a.1]? = some an) (h : RepG L t an.bp (link an a.2) (plug C X))
    (hnd : (a.1 :: inners (plug C X)).Nodup) (hr : Redirect t t' (endOwner a C) x)
    (hX : ∀ en, t.nodes[(endOwner a C).1]? = some en → RepG L t en.bp (link en (endOwner a C).2) X → RepG L' t' en.bp x X')
    (ha' : t'.nodes[a.1]? = some an') : RepG L' t' an'.bp (link an' a.2) (plug C X') := by
  obtain ⟨hL0, en, he, hXr⟩ := (repG_plug ha).mp h
  obtain ⟨en', he', hbe, -, -, hle⟩ := hr _ en he
  refine (repG_plug ha').mpr ⟨hL0.frame (nodup_path hnd) (fun j _ n hn => ?_)
    (fun s hs _ _ hO => hr.repG hL ((endOwner_not_inner hnd).2 s hs) hO), en', he', ?_⟩
  · obtain ⟨n', hn', hb, -, -, hl⟩ := hr j n hn
    exact ⟨n', hn', hb, fun d hne => by rw [hl d, if_neg hne]⟩
  · rw [hbe, hle, if_pos rfl]
    exact hX en he hXr

@[simp] theorem pure_eq_ok {α : Type} (a : α) : (pure a : Outcome α) = .ok a := rfl
@[simp] theorem bind_ok {α β : Type} (a : α) (f : α → Outcome β) : (Outcome.ok a >>= f) = f a := rfl

theorem Rep.leaf_fuel {t : Patricia V} {i : Nat} {k : Key} {v : V} {b f : Nat} {p : Option Nat}
    (h : Rep t b p (.leaf i k v)) (hf : above t b < f) :
    ∃ n f', f = f' + 1 ∧ p = some i ∧ t.nodes[i]? = some n ∧ n.bp ≤ b ∧ n.key = k ∧ n.val = v := by
  obtain ⟨hp, n, hn, hb, hk, hv⟩ := h
  exact ⟨n, f - 1, by omega, hp, hn, hb, hk, hv⟩

/-- `k = 0` for the threaded loops, which test a link before following it, `k = 1` for those that are called on a link and
read its node first -/
theorem Rep.fork_fuel {t : Patricia V} {d : Bool} {i bp : Nat} {P O : PT V} {b f : Nat} {p : Option Nat} (k : Nat)
    (h : Rep t b p (fork d i bp P O)) (hf : above t b + k ≤ f) :
    ∃ n f', f = f' + 1 ∧ p = some i ∧ t.nodes[i]? = some n ∧ n.bp = bp ∧ b < n.bp ∧
      Rep t n.bp (link n d) P ∧ Rep t n.bp (link n (!d)) O ∧ above t n.bp + k ≤ f' := by
  obtain ⟨hp, n, hn, rfl, hb, hP, hO⟩ := rep_fork.mp h
  have := above_lt hn hb
  exact ⟨n, f - 1, by omega, hp, hn, rfl, hb, hP, hO, by omega⟩

theorem searchLoop_plug {t : Patricia V} {key : Key} {C : List (Step V)} {j : Nat} {k : Key} {v : V}
    (hC : ∀ s ∈ C, s.d = xbit key (s.bp - 1)) {b : Nat} {p : Option Nat} {f : Nat}
    (h : Rep t b p (plug C (leaf j k v))) (hf : above t b < f) : searchLoop t key f b p = .ok (some j) := by
  induction C generalizing b p f with
  | nil =>
    obtain ⟨n, f, rfl, rfl, hn, hb, -, -⟩ := h.leaf_fuel hf
    simp [searchLoop, node_some hn, Nat.not_lt.mpr hb]
  | cons c C ih =>
    obtain ⟨n, f, rfl, rfl, hn, hbp, hb, hP, -, hf⟩ := Rep.fork_fuel (d := c.d) 1 h hf
    simp only [searchLoop, node_some hn, Outcome.ok_bind, gt_iff_lt, hb, if_true]
    rw [BitString.bit_ok_of_pos _ (by omega), Outcome.ok_bind, hbp, ← hC c (List.mem_cons_self ..)]
    exact ih (fun s hs => hC s (List.mem_cons_of_mem _ hs)) (hbp ▸ hP) (hbp ▸ hf)

/-- The threaded loops test a link before following it (`n.bp ≤ b`: a thread, the caller visits the node; else it calls
itself on the link).  The `*_link` lemmas are stated for that test, not for the call, so that one induction on the tree
serves a thread and a downward link alike. -/
theorem travAsc_link {σ : Type} {t : Patricia V} (visit : σ → PNode V → σ × Bool) (g : σ → Key → V → σ × Bool)
    (hv : ∀ s n, visit s n = g s n.key n.val) (T : PT V) :
    ∀ (b : Nat) (p : Option Nat) (f : Nat) (s : σ), Rep t b p T → (∀ i ∈ inners T, some i ≠ t.root) → above t b ≤ f →
      ∃ n, t.node p = .ok n ∧
        (if n.bp ≤ b then (.ok (visit s n) : Outcome (σ × Bool)) else travAsc t visit f p s) = .ok (foldE g (ents T) s) := by
  induction T with
  | leaf i k v =>
    intro b p f s h _ _
    obtain ⟨hp, n, hn, hb, hk, hv'⟩ := h
    subst hp
    refine ⟨n, node_some hn, ?_⟩
    simp only [hb, if_true, ents, foldE_singleton, hv, hk, hv']
  | inner i bp l r ihl ihr =>
    intro b p f s h hroot hf
    obtain ⟨n, f, rfl, rfl, hn, rfl, hb, hl, hr, hf⟩ := Rep.fork_fuel (d := false) 0 h hf
    refine ⟨n, node_some hn, ?_⟩
    simp only [Nat.not_le.mpr hb, if_false]
    have hrl : ∀ j ∈ inners l, some j ≠ t.root := fun j hj => hroot j (by simp [inners, hj])
    have hrr : ∀ j ∈ inners r, some j ≠ t.root := fun j hj => hroot j (by simp [inners, hj])
    have hi : (some i != t.root) = true := by simpa using hroot i (by simp [inners])
    obtain ⟨nl, hnl, hL⟩ := ihl n.bp n.left f s hl hrl hf
    obtain ⟨nr, hnr, hR⟩ := ihr n.bp n.right f (foldE g (ents l) s).1 hr hrr hf
    simp only [travAsc, node_some hn, hnl, hnr, hi, if_true, Outcome.ok_bind, Outcome.pure_eq, decide_eq_true_eq]
    rw [hL]
    simp only [Outcome.ok_bind, ents, foldE_append]
    by_cases h2 : (foldE g (ents l) s).2 = true
    · simp only [h2, Bool.not_true, Bool.false_eq_true, if_false]
      exact hR
    · simp [h2]

theorem travDesc_link {σ : Type} {t : Patricia V} (visit : σ → PNode V → σ × Bool) (g : σ → Key → V → σ × Bool)
    (hv : ∀ s n, visit s n = g s n.key n.val) (T : PT V) :
    ∀ (b : Nat) (p : Option Nat) (f : Nat) (s : σ), Rep t b p T → (∀ i ∈ inners T, some i ≠ t.root) → above t b ≤ f →
      ∃ n, t.node p = .ok n ∧
        (if n.bp ≤ b then (.ok (visit s n) : Outcome (σ × Bool)) else travDesc t visit f p s)
          = .ok (foldE g (ents T).reverse s) := by
  induction T with
  | leaf i k v =>
    intro b p f s h _ _
    obtain ⟨hp, n, hn, hb, hk, hv'⟩ := h
    subst hp
    refine ⟨n, node_some hn, ?_⟩
    simp only [hb, if_true, ents, List.reverse_cons, List.reverse_nil, List.nil_append, foldE_singleton, hv, hk, hv']
  | inner i bp l r ihl ihr =>
    intro b p f s h hroot hf
    obtain ⟨n, f, rfl, rfl, hn, rfl, hb, hl, hr, hf⟩ := Rep.fork_fuel (d := false) 0 h hf
    refine ⟨n, node_some hn, ?_⟩
    simp only [Nat.not_le.mpr hb, if_false]
    have hrl : ∀ j ∈ inners l, some j ≠ t.root := fun j hj => hroot j (by simp [inners, hj])
    have hrr : ∀ j ∈ inners r, some j ≠ t.root := fun j hj => hroot j (by simp [inners, hj])
    have hi : (some i != t.root) = true := by simpa using hroot i (by simp [inners])
    obtain ⟨nr, hnr, hR⟩ := ihr n.bp n.right f s hr hrr hf
    obtain ⟨nl, hnl, hL⟩ := ihl n.bp n.left f (foldE g (ents r).reverse s).1 hl hrl hf
    simp only [travDesc, node_some hn, hnl, hnr, hi, if_true, Outcome.ok_bind, Outcome.pure_eq, decide_eq_true_eq]
    rw [hR]
    simp only [Outcome.ok_bind, ents, List.reverse_append, foldE_append]
    by_cases h2 : (foldE g (ents r).reverse s).2 = true
    · simp only [h2, Bool.not_true, Bool.false_eq_true, if_false]
      exact hL
    · simp [h2]

theorem minLoop_link {t : Patricia V} (T : PT V) :
    ∀ (b : Nat) (p : Option Nat) (f : Nat), Rep t b p T → above t b ≤ f →
      ∃ n, t.node p = .ok n ∧
        (if n.bp ≤ b then (.ok (some (n.key, n.val)) : Outcome (Option (Key × V))) else minLoop t f p)
          = .ok (ents T).head? := by
  induction T with
  | leaf i k v =>
    intro b p f h _
    obtain ⟨hp, n, hn, hb, hk, hv'⟩ := h
    subst hp
    exact ⟨n, node_some hn, by simp [hb, ents, hk, hv']⟩
  | inner i bp l r ihl ihr =>
    intro b p f h hf
    obtain ⟨n, f, rfl, rfl, hn, rfl, hb, hl, -, hf⟩ := Rep.fork_fuel (d := false) 0 h hf
    refine ⟨n, node_some hn, ?_⟩
    obtain ⟨nl, hnl, hL⟩ := ihl n.bp n.left f hl hf
    simp only [Nat.not_le.mpr hb, if_false, minLoop, node_some hn, hnl, Outcome.ok_bind, Outcome.pure_eq]
    rw [hL]
    cases he : ents l with
    | nil => exact absurd he (ents_ne_nil l)
    | cons x xs => simp [ents, he]

/-- `_max` below a non-root node follows right links -/
theorem maxLoop_link {t : Patricia V} (T : PT V) :
    ∀ (b : Nat) (p : Option Nat) (f : Nat), Rep t b p T → (∀ i ∈ inners T, some i ≠ t.root) → above t b ≤ f →
      ∃ n, t.node p = .ok n ∧
        (if n.bp ≤ b then (.ok (some (n.key, n.val)) : Outcome (Option (Key × V))) else maxLoop t f p)
          = .ok (ents T).getLast? := by
  induction T with
  | leaf i k v =>
    intro b p f h _ _
    obtain ⟨hp, n, hn, hb, hk, hv'⟩ := h
    subst hp
    exact ⟨n, node_some hn, by simp [hb, ents, hk, hv']⟩
  | inner i bp l r ihl ihr =>
    intro b p f h hroot hf
    obtain ⟨n, f, rfl, rfl, hn, rfl, hb, -, hr, hf⟩ := Rep.fork_fuel (d := false) 0 h hf
    refine ⟨n, node_some hn, ?_⟩
    have hrr : ∀ j ∈ inners r, some j ≠ t.root := fun j hj => hroot j (by simp [inners, hj])
    have hi : (some i == t.root) = false := by simpa using hroot i (by simp [inners])
    obtain ⟨nr, hnr, hR⟩ := ihr n.bp n.right f hr hrr hf
    simp only [Nat.not_le.mpr hb, if_false, maxLoop, node_some hn, hi, Bool.false_eq_true, hnr, Outcome.ok_bind, Outcome.pure_eq]
    rw [hR]
    simp [ents, List.getLast?_append]
    cases he : (ents r).getLast? with
    | none => exact absurd (List.getLast?_eq_none_iff.mp he) (ents_ne_nil r)
    | some x => simp

end Patricia
end AlgoVerif.C06
