import AlgoVerif.Proofs.C04Tree
import AlgoVerif.Proofs.HeapOrder
/-!
# C04, binary heap: invariants and the refinement lemmas behind `C04_binary`

`abs h` = all non-nil cells of the array (the cells outside `1..n` are nil, which is part of the invariant,
as in the Go `verify()`).  Hole-based swim/sink are analysed on the keys as the loops see them: the moving key in
the hole, the array elsewhere (`vkey`).  A step copies a neighbour into the hole and moves the hole there, which
exchanges the two positions of `vkey` (`vkey_move`): the order argument is that of `Proofs/HeapOrder`, and writing
the moving entry into the hole at the end turns `vkey` into the keys of the array (`keyOf_fill`).
-/
namespace AlgoVerif.C04
open AlgoVerif.HeapOrder
variable {K V : Type} {cmp : K → K → Int}

def cellAt (a : Array (Cell K V)) (i : Nat) : Cell K V := (a[i]?).join

def cells (a : Array (Cell K V)) : Bag K V := a.toList.filterMap id

theorem cellAt_set (a : Array (Cell K V)) (i j : Nat) (x : Cell K V) (hi : i < a.size) :
    cellAt (a.setIfInBounds i x) j = if i = j then x else cellAt a j := by
  unfold cellAt
  rw [Array.getElem?_setIfInBounds]
  by_cases h : i = j
  · subst h; simp [hi]
  · simp [h]

theorem getElem?_of_cellAt (a : Array (Cell K V)) (i : Nat) (hi : i < a.size) : a[i]? = some (cellAt a i) := by
  unfold cellAt; simp [Array.getElem?_eq_getElem hi]

theorem deref_of_cellAt (a : Array (Cell K V)) (i : Nat) (p : K × V) (h : cellAt a i = some p) : deref a i = .ok p := by
  unfold deref
  unfold cellAt at h
  cases hx : a[i]? with
  | none => simp [hx] at h
  | some c => cases c with
    | none => simp [hx] at h
    | some q => simp [hx] at h; simp [h]

structure Shape (a : Array (Cell K V)) (n : Nat) : Prop where
  size : n < a.size
  some_ : ∀ i, 1 ≤ i → i ≤ n → ∃ p, cellAt a i = some p
  none_ : ∀ i, (i = 0 ∨ n < i) → cellAt a i = none

theorem mem_cells (a : Array (Cell K V)) (p : K × V) : p ∈ cells a ↔ ∃ i, cellAt a i = some p := by
  simp only [cells, cellAt, List.mem_filterMap, id, exists_eq_right, Array.mem_toList_iff, Array.mem_iff_getElem?,
    Option.join_eq_some_iff]

theorem cells_set (a : Array (Cell K V)) (i : Nat) (x : Cell K V) (hi : i < a.size) :
    ((cellAt a i).toList ++ cells (a.setIfInBounds i x)).Perm (x.toList ++ cells a) := by
  have hL : i < a.toList.length := by simpa using hi
  have h1 : cells (a.setIfInBounds i x) =
      List.filterMap id (a.toList.take i) ++ (x.toList ++ List.filterMap id (a.toList.drop (i + 1))) := by
    unfold cells
    rw [Array.toList_setIfInBounds, List.set_eq_take_append_cons_drop, if_pos hL, List.filterMap_append,
      List.filterMap_cons]
    cases x <;> simp
  have h2 : cells a =
      List.filterMap id (a.toList.take i) ++ ((cellAt a i).toList ++ List.filterMap id (a.toList.drop (i + 1))) := by
    unfold cells
    conv => lhs; rw [← List.take_append_drop i a.toList, List.drop_eq_getElem_cons hL]
    rw [List.filterMap_append, List.filterMap_cons]
    have : cellAt a i = a.toList[i] := by
      unfold cellAt; rw [Array.getElem?_eq_getElem hi]; simp
    rw [this]
    cases a.toList[i] <;> simp
  rw [h1, h2]
  c04_perm

theorem cellAt_resize (a : Array (Cell K V)) (m t : Nat) :
    cellAt (resize a m) t = if t < m then cellAt a t else none := by
  unfold resize cellAt
  rw [List.getElem?_toArray, List.getElem?_append, List.getElem?_take, List.getElem?_replicate,
    Array.getElem?_toList, List.length_take, Array.length_toList]
  by_cases h : t < m
  · rw [if_pos h]
    by_cases h2 : t < a.size
    · rw [if_pos (by omega), if_pos h]
    · rw [if_neg (by omega), if_pos (by omega), Array.getElem?_eq_none (by omega)]; simp
  · rw [if_neg h]
    rw [if_neg (by omega), if_neg (by omega)]; simp [h]

theorem size_resize (a : Array (Cell K V)) (m : Nat) : (resize a m).size = m := by
  unfold resize; simp; omega

theorem cells_resize (a : Array (Cell K V)) (m : Nat) (h : ∀ t, m ≤ t → cellAt a t = none) :
    cells (resize a m) = cells a := by
  unfold resize cells
  simp only [List.filterMap_append]
  have h1 : List.filterMap id (List.replicate (m - a.size) (none : Cell K V)) = [] := by
    rw [List.filterMap_eq_nil_iff]; intro x hx; rw [List.eq_of_mem_replicate hx]; rfl
  have h2 : List.filterMap id (a.toList.drop m) = [] := by
    rw [List.filterMap_eq_nil_iff]
    intro x hx
    obtain ⟨i, hi⟩ := List.mem_iff_getElem?.mp hx
    rw [List.getElem?_drop, Array.getElem?_toList] at hi
    have := h (m + i) (by omega)
    unfold cellAt at this; rw [hi] at this; simpa using this
  rw [h1, List.append_nil]
  conv => rhs; rw [← List.take_append_drop m a.toList, List.filterMap_append, h2, List.append_nil]

/-- one iteration of either loop, seen on the arrays that have the moving entry `x` in the hole:
the hole `k` receives the content of `j` and `j` becomes the hole -/
theorem cells_move (a : Array (Cell K V)) (k j : Nat) (x : Cell K V) (hk : k < a.size) (hj : j < a.size) (hkj : k ≠ j) :
    (cells ((a.setIfInBounds k (cellAt a j)).setIfInBounds j x)).Perm (cells (a.setIfInBounds k x)) := by
  have s1 := cells_set a k x hk
  have s2 := cells_set a k (cellAt a j) hk
  have s3 := cells_set (a.setIfInBounds k (cellAt a j)) j x (by simpa using hj)
  rw [cellAt_set _ _ _ _ hk, if_neg hkj] at s3
  apply perm_of_count
  intro _ y
  have c1 := s1.count_eq y
  have c2 := s2.count_eq y
  have c3 := s3.count_eq y
  simp only [List.count_append] at c1 c2 c3
  omega

def keyOf (a : Array (Cell K V)) (p : Nat) : Option K := (cellAt a p).map (·.1)

/-- the keys as a loop sees them: the moving key `x` in the hole `k`, the array elsewhere -/
def vkey (a : Array (Cell K V)) (k : Nat) (x : K) (p : Nat) : Option K := if p = k then some x else keyOf a p

abbrev HLe (cmp : K → K → Int) (f : Nat → Option K) : Nat → Nat → Prop := OnKeys (fun x y => cmp x y ≤ 0) f

theorem hle_trans (hc : LawfulCmp cmp) (f : Nat → Option K) : ∀ a b c, HLe cmp f a b → HLe cmp f b c → HLe cmp f a c :=
  OnKeys.trans hc.trans

theorem hle_of {a : Array (Cell K V)} {i j : Nat} {p q : K × V} (hp : cellAt a i = some p) (hq : cellAt a j = some q)
    (h : cmp p.1 q.1 ≤ 0) : HLe cmp (keyOf a) i j :=
  ⟨p.1, q.1, by unfold keyOf; rw [hp]; rfl, by unfold keyOf; rw [hq]; rfl, h⟩

theorem vkey_move {a : Array (Cell K V)} {k j : Nat} {p : K × V} (x : K) (hks : k < a.size)
    (hp : cellAt a j = some p) (hjk : j ≠ k) :
    Swapped (HLe cmp (vkey a k x)) (HLe cmp (vkey (a.setIfInBounds k (some p)) j x)) k j := by
  refine OnKeys.swapped fun y => ?_
  unfold vkey keyOf
  rw [cellAt_set _ _ _ _ hks]
  by_cases hyk : y = k
  · subst hyk; rw [tr_left, if_neg (Ne.symm hjk), if_pos rfl, if_neg hjk, hp]
  · by_cases hyj : y = j
    · subst hyj; rw [tr_right, if_pos rfl, if_pos rfl]
    · rw [tr_other hyk hyj, if_neg hyj, if_neg (Ne.symm hyk), if_neg hyk]

theorem keyOf_fill {a : Array (Cell K V)} {k : Nat} (x : K × V) (hks : k < a.size) :
    keyOf (a.setIfInBounds k (some x)) = vkey a k x.1 := by
  funext p
  unfold vkey keyOf
  rw [cellAt_set _ _ _ _ hks]
  by_cases h : k = p
  · rw [if_pos h, if_pos h.symm]; rfl
  · rw [if_neg h, if_neg (Ne.symm h)]

def Filled (a : Array (Cell K V)) (n k : Nat) : Prop := ∀ i, 1 ≤ i → i ≤ n → i ≠ k → ∃ p, cellAt a i = some p

theorem Filled.fill {a : Array (Cell K V)} {n k : Nat} (h : Filled a n k) (hks : k < a.size) (p : K × V) :
    ∀ i, 1 ≤ i → i ≤ n → ∃ q, cellAt (a.setIfInBounds k (some p)) i = some q := by
  intro i h1 h2
  rw [cellAt_set _ _ _ _ hks]
  split
  · exact ⟨p, rfl⟩
  · next hik => exact h i h1 h2 (Ne.symm hik)

theorem Filled.move {a : Array (Cell K V)} {n k : Nat} (h : Filled a n k) (hks : k < a.size) (p : K × V) (j : Nat) :
    Filled (a.setIfInBounds k (some p)) n j :=
  fun i h1 h2 _ => h.fill hks p i h1 h2

/-- what either loop has done when it stops with the hole at `k'` -/
structure Sifted (cmp : K → K → Int) (x : K × V) (n : Nat) (a : Array (Cell K V)) (k : Nat) (a' : Array (Cell K V))
    (k' : Nat) : Prop where
  size : a'.size = a.size
  lo : 1 ≤ k'
  some_ : Filled a' n k'
  ord : Ordered (HLe cmp (vkey a' k' x.1)) (Par 1 n)
  frame : ∀ t, (t = 0 ∨ n < t) → cellAt a' t = cellAt a t
  perm : (cells (a'.setIfInBounds k' (some x))).Perm (cells (a.setIfInBounds k (some x)))

theorem Sifted.step {x p : K × V} {n k j k' : Nat} {a a' : Array (Cell K V)}
    (h : Sifted cmp x n (a.setIfInBounds k (some p)) j a' k') (hp : cellAt a j = some p) (hk : 1 ≤ k) (hkn : k ≤ n)
    (hks : k < a.size) (hj : j < a.size) (hkj : k ≠ j) : Sifted cmp x n a k a' k' := by
  refine ⟨by simpa using h.size, h.lo, h.some_, h.ord, fun t ht => ?_, h.perm.trans ?_⟩
  · rw [h.frame t ht, cellAt_set _ _ _ _ hks, if_neg (by omega)]
  · have := cells_move a k j (some x) hks hj hkj
    rwa [hp] at this

/-- Fuel: the hole goes from `k` to `k / 2`, so `k + 1` iterations are enough (`Binary.insert` gives `n + 1` for
`k = n`). -/
theorem swim_spec (hc : LawfulCmp cmp) (key : K) (val : V) (n : Nat) :
    ∀ (fuel : Nat) (a : Array (Cell K V)) (k : Nat), k + 1 ≤ fuel → 1 ≤ k → k ≤ n → n < a.size → Filled a n k →
      Up (HLe cmp (vkey a k key)) (Par 1 n) k →
      ∃ a' k', Binary.swim cmp key fuel a k = .ok (a', k') ∧ k' ≤ n ∧ Sifted cmp (key, val) n a k a' k' := by
  intro fuel
  induction fuel with
  | zero => intro a k h; omega
  | succ fuel ih =>
    intro a k hf hk1 hkn hsz hsome hup
    unfold Binary.swim
    by_cases hk : 1 < k
    · rw [if_pos hk]
      obtain ⟨p, hp⟩ := hsome (k / 2) (by omega) (by omega) (by omega)
      rw [deref_of_cellAt _ _ _ hp, obind_ok]
      have hvk : vkey a k key k = some key := if_pos rfl
      have hvp : vkey a k key (k / 2) = some p.1 := by unfold vkey keyOf; rw [if_neg (by omega), hp]; rfl
      by_cases hgt : cmp p.1 key > 0
      · have hks : k < a.size := by omega
        rw [if_pos hgt, if_pos hks]
        obtain ⟨a', k', hrun, h1, hm⟩ := ih (a.setIfInBounds k (some p)) (k / 2) (by omega) (by omega) (by omega)
          (by simpa using hsz) (hsome.move hks p _)
          (hup.step (hle_trans hc _) (forest_par 1 n) (vkey_move key hks hp (by omega))
            ⟨hk, hkn, rfl, by omega⟩ ⟨key, p.1, hvk, hvp, hc.sign _ _ (by omega)⟩)
        exact ⟨a', k', hrun, h1, hm.step hp hk1 hkn hks (by omega) (by omega)⟩
      · rw [if_neg hgt]
        exact ⟨a, k, rfl, hkn, rfl, hk1, hsome,
          hup.stop fun _ hq => hq.half ▸ ⟨p.1, key, hvp, hvk, by omega⟩, fun _ _ => rfl, .refl _⟩
    · rw [if_neg hk]
      exact ⟨a, k, rfl, hkn, rfl, hk1, hsome, hup.stop fun _ hq => absurd hq.two hk, fun _ _ => rfl, .refl _⟩

/-- the child selection of the sink loop: `if j < n && cmp(heap[j+1], heap[j]) < 0 { j++ }` -/
theorem sink_pick (hc : LawfulCmp cmp) (heap : Array (Cell K V)) (n j : Nat) (b : K × V) (hj : j ≤ n)
    (hb : cellAt heap j = some b) (ha : j < n → ∃ a, cellAt heap (j + 1) = some a) :
    ∃ j' b', (if j < n then
               obind (deref heap (j + 1)) fun a => obind (deref heap j) fun b =>
                 .ok (if cmp a.1 b.1 < 0 then j + 1 else j)
             else Outcome.ok j) = .ok j' ∧ cellAt heap j' = some b' ∧ j ≤ j' ∧ j' ≤ j + 1 ∧ j' ≤ n ∧
      (∀ c, j ≤ c → c ≤ j + 1 → c ≤ n → HLe cmp (keyOf heap) j' c) := by
  by_cases hjn : j < n
  · obtain ⟨a, ha⟩ := ha hjn
    rw [if_pos hjn, deref_of_cellAt _ _ _ ha, deref_of_cellAt _ _ _ hb, obind_ok, obind_ok]
    by_cases hlt : cmp a.1 b.1 < 0
    · refine ⟨j + 1, a, by rw [if_pos hlt], ha, Nat.le_succ _, Nat.le_refl _, hjn, fun c h1 h2 _ => ?_⟩
      obtain rfl | rfl : c = j ∨ c = j + 1 := by omega
      · exact hle_of ha hb (by omega)
      · exact hle_of ha ha (hc.refl _)
    · refine ⟨j, b, by rw [if_neg hlt], hb, Nat.le_refl _, Nat.le_succ _, hj, fun c h1 h2 _ => ?_⟩
      obtain rfl | rfl : c = j ∨ c = j + 1 := by omega
      · exact hle_of hb hb (hc.refl _)
      · exact hle_of hb ha (hc.sign _ _ (by omega))
  · rw [if_neg hjn]
    refine ⟨j, b, rfl, hb, Nat.le_refl _, Nat.le_succ _, hj, fun c h1 h2 h3 => ?_⟩
    obtain rfl : c = j := by omega
    exact hle_of hb hb (hc.refl _)

/-- Fuel: an iteration takes the hole from `k` to a child `j ≥ 2 * k`, so `n + 2 - 2 * k` falls; that bound is asked
only while the hole has a child, and one iteration for the test that ends the loop (`Binary.delete` starts at `k = 1`
with `n + 2`, where `n`, already decremented, may be `0`). -/
theorem sink_spec (hc : LawfulCmp cmp) (q : K × V) (n : Nat) :
    ∀ (fuel : Nat) (a : Array (Cell K V)) (k : Nat), 1 ≤ fuel → (2 * k ≤ n → n + 2 ≤ fuel + 2 * k) → 1 ≤ k →
      k ≤ n + 1 → n + 1 < a.size → Filled a n k →
      Down (HLe cmp (vkey a k q.1)) (Par 1 n) k →
      ∃ a' k', Binary.sink cmp (some q) n fuel a k (2 * k) = .ok (a', k') ∧ k' ≤ n + 1 ∧ Sifted cmp q n a k a' k' := by
  intro fuel
  induction fuel with
  | zero => intro a k h; omega
  | succ fuel ih =>
    intro a k _ hfuel hk1 hkn hsz hsome hd
    unfold Binary.sink
    by_cases hj : 2 * k ≤ n
    · rw [if_pos hj]
      have hfuel' := hfuel hj
      clear hfuel
      obtain ⟨b, hb⟩ := hsome (2 * k) (by omega) hj (by omega)
      obtain ⟨j, b', hpick, hb', hj1, hj2, hjn, hmin⟩ := sink_pick hc a n (2 * k) b hj hb
        (fun h => hsome (2 * k + 1) (by omega) (by omega) (by omega))
      rw [hpick, obind_ok]
      simp only []
      rw [deref_of_cellAt _ _ _ hb', obind_ok]
      have hks : k < a.size := by omega
      have hkj : Par 1 n k j := ⟨by omega, hjn, by omega, hk1⟩
      have hvk : vkey a k q.1 k = some q.1 := if_pos rfl
      have hvj : vkey a k q.1 j = some b'.1 := by unfold vkey keyOf; rw [if_neg (by omega), hb']; rfl
      -- the children of the hole are not the hole: their keys are the array's
      have hmin' : ∀ s, Par 1 n k s → HLe cmp (vkey a k q.1) j s := fun s hs => by
        have := hs.le
        rcases hs.child with rfl | rfl <;>
          exact OnKeys.congr (if_neg (by omega)) (if_neg (by omega)) (hmin _ (by omega) (by omega) (by omega))
      by_cases hlt : cmp q.1 b'.1 < 0
      · rw [if_pos hlt]
        exact ⟨a, k, rfl, hkn, rfl, hk1, hsome,
          hd.stop fun s hs => hle_trans hc _ _ _ _ ⟨q.1, b'.1, hvk, hvj, by omega⟩ (hmin' s hs), fun _ _ => rfl, .refl _⟩
      · rw [if_neg hlt, if_pos hks]
        obtain ⟨a', k', hrun, h1, hm⟩ := ih (a.setIfInBounds k (some b')) j (by omega) (by omega) (by omega) (by omega)
          (by simpa using hsz) (hsome.move hks b' _)
          (hd.step (forest_par 1 n) (vkey_move q.1 hks hb' (by omega)) hkj hmin'
            ⟨b'.1, q.1, hvj, hvk, hc.sign _ _ (by omega)⟩)
        exact ⟨a', k', hrun, h1, hm.step hb' hk1 (by omega) hks (by omega) (by omega)⟩
    · rw [if_neg hj]
      exact ⟨a, k, rfl, hkn, rfl, hk1, hsome, hd.stop (below_leaf (by omega)), fun _ _ => rfl, .refl _⟩

structure BInv (cmp : K → K → Int) (h : Binary K V) : Prop where
  shape : Shape h.heap h.n
  ord : Ordered (HLe cmp (keyOf h.heap)) (Par 1 h.n)
  len : (cells h.heap).length = h.n

def Binary.abs (h : Binary K V) : Bag K V := cells h.heap

theorem cellAt_replicate (m t : Nat) : cellAt (Array.replicate m (none : Cell K V)) t = none := by
  unfold cellAt
  rw [Array.getElem?_replicate]
  split <;> rfl

theorem cells_replicate (m : Nat) : cells (Array.replicate m (none : Cell K V)) = [] := by
  unfold cells
  rw [List.filterMap_eq_nil_iff]
  intro x hx
  rw [Array.toList_replicate] at hx
  rw [List.eq_of_mem_replicate hx]; rfl

/-- `NewBinary`, `DeleteAll` -/
theorem BInv_replicate (cmp : K → K → Int) (m : Nat) (hm : 0 < m) :
    BInv cmp ({ n := 0, heap := Array.replicate m none } : Binary K V) :=
  ⟨⟨by simpa using hm, fun i h1 (h2 : i ≤ 0) => by omega, fun i _ => cellAt_replicate _ _⟩,
    fun _ _ hab => by have := hab.two; have : _ ≤ 0 := hab.le; omega, by simp [cells_replicate]⟩

theorem BInv_new (cmp : K → K → Int) (size : Nat) : BInv cmp (Binary.new size : Binary K V) :=
  BInv_replicate cmp (size + 1) (Nat.succ_pos size)

theorem abs_new (size : Nat) : (Binary.new size : Binary K V).abs = [] := cells_replicate (size + 1)

theorem BInv_resize {a : Array (Cell K V)} {n : Nat} (hinv : BInv cmp ⟨n, a⟩) (m : Nat) (hm : n < m) :
    BInv cmp ⟨n, resize a m⟩ ∧ cells (resize a m) = cells a := by
  obtain ⟨hsh, hord, hlen⟩ := hinv
  dsimp only at hsh hord hlen
  have hcells := cells_resize a m (fun t ht => hsh.none_ t (Or.inr (by omega)))
  have hin : ∀ t, t ≤ n → cellAt (resize a m) t = cellAt a t := fun t ht => by rw [cellAt_resize, if_pos (by omega)]
  have hkey : ∀ t, t ≤ n → keyOf (resize a m) t = keyOf a t := fun t ht => congrArg _ (hin t ht)
  refine ⟨⟨⟨by rw [size_resize]; exact hm, fun i h1 (hn : i ≤ n) => ?_, fun i hi => ?_⟩, fun p c hpc => ?_, ?_⟩, hcells⟩
  · rw [hin i hn]
    exact hsh.some_ i h1 hn
  · rw [cellAt_resize]
    split
    · exact hsh.none_ i hi
    · rfl
  · have : c ≤ n := hpc.le
    have := hpc.parent_lt
    exact OnKeys.congr (hkey p (by omega)) (hkey c (by omega)) (hord p c hpc)
  · rw [hcells]
    exact hlen

theorem root_extremal (hc : LawfulCmp cmp) (a : Array (Cell K V)) (n : Nat) (hsh : Shape a n)
    (hord : Ordered (HLe cmp (keyOf a)) (Par 1 n)) (e : K × V) (he : cellAt a 1 = some e) :
    Extremal cmp (cells a) e.1 := by
  intro p hp
  obtain ⟨i, hi⟩ := (mem_cells a p).mp hp
  by_cases h : i = 0 ∨ n < i
  · rw [hsh.none_ i h] at hi; cases hi
  · obtain ⟨x, y, hx, hy, hle⟩ :=
      hord.root_le (hle_trans hc _) (hle_of he he (hc.refl _)) i (by omega) (by omega)
    unfold keyOf at hx hy
    rw [he] at hx; rw [hi] at hy
    cases hx; cases hy; exact hle

theorem Binary.insert_spec (hc : LawfulCmp cmp) (h : Binary K V) (hinv : BInv cmp h) (k : K) (v : V) :
    ∃ h', h.insert cmp k v = .ok h' ∧ BInv cmp h' ∧ h'.abs.Perm ((k, v) :: h.abs) := by
  have h0 : ∃ heap0 : Array (Cell K V),
      (if h.n + 1 = h.heap.size then resize h.heap (h.heap.size * 2) else h.heap) = heap0 ∧
      h.n + 1 < heap0.size ∧ BInv cmp ⟨h.n, heap0⟩ ∧ cells heap0 = cells h.heap := by
    by_cases hfull : h.n + 1 = h.heap.size
    · obtain ⟨h1, h2⟩ := BInv_resize hinv (h.heap.size * 2) (by omega)
      exact ⟨_, if_pos hfull, by rw [size_resize]; omega, h1, h2⟩
    · exact ⟨_, if_neg hfull, by have := hinv.shape.size; omega, hinv, rfl⟩
  obtain ⟨heap0, hheap0, hsz0, ⟨hsh, hord, hlen⟩, hcells0⟩ := h0
  dsimp only at hsh hord hlen
  rw [hcells0] at hlen
  unfold Binary.insert
  simp only [hheap0]
  -- with the new key in the nil cell `n + 1` only the edge above it can be out of order
  have hup : Up (HLe cmp (vkey heap0 (h.n + 1) k)) (Par 1 (h.n + 1)) (h.n + 1) :=
    Ordered.up_last fun a b hab => by
      have := hab.le
      have := hab.parent_lt
      exact OnKeys.congr (if_neg (by omega)) (if_neg (by omega)) (hord a b hab)
  obtain ⟨a', k', hrun, hk'n, hsz', hk'1, hsome', hord', hframe, hperm⟩ :=
    swim_spec hc k v (h.n + 1) (h.n + 1 + 1) heap0 (h.n + 1) (Nat.le_refl _) (Nat.succ_pos _) (Nat.le_refl _) hsz0
      (fun i h1 hn hi => hsh.some_ i h1 (by omega)) hup
  rw [hrun, obind_ok]
  simp only []
  have hk's : k' < a'.size := by omega
  rw [if_pos hk's]
  have hperm2 : (cells (a'.setIfInBounds k' (some (k, v)))).Perm ((k, v) :: cells h.heap) := by
    have := cells_set heap0 (h.n + 1) (some (k, v)) hsz0
    rw [hsh.none_ (h.n + 1) (by omega), hcells0] at this
    exact hperm.trans (by simpa using this)
  refine ⟨_, rfl, ⟨⟨by simp; omega, fun i h1 hn => ?_, fun i hi => ?_⟩, ?_, ?_⟩, hperm2⟩
  · exact hsome'.fill hk's _ i h1 hn
  · show cellAt (a'.setIfInBounds k' _) i = none
    have hi : i = 0 ∨ h.n + 1 < i := hi
    rw [cellAt_set _ _ _ _ hk's, if_neg (by omega), hframe i hi]
    exact hsh.none_ i (by omega)
  · show Ordered (HLe cmp (keyOf (a'.setIfInBounds k' _))) (Par 1 (h.n + 1))
    rw [keyOf_fill _ hk's]
    exact hord'
  · have := hperm2.length_eq
    simp at this; simp; omega

theorem abs_nil_of_n_zero (h : Binary K V) (hinv : BInv cmp h) (hn : h.n = 0) : h.abs = [] := by
  have := hinv.len
  rw [hn] at this
  exact List.eq_nil_of_length_eq_zero this

theorem Binary.delete_spec (hc : LawfulCmp cmp) (h : Binary K V) (hinv : BInv cmp h) (hn : h.n ≠ 0) :
    ∃ h' e, h.delete cmp = .ok (h', some e) ∧ BInv cmp h' ∧ Extremal cmp h.abs e.1 ∧ h.abs.Perm (e :: h'.abs) := by
  obtain ⟨hsh, hord, hlen⟩ := hinv
  have hsz := hsh.size
  obtain ⟨e, he⟩ := hsh.some_ 1 (Nat.le_refl _) (by omega)
  obtain ⟨q, hq⟩ := hsh.some_ h.n (by omega) (Nat.le_refl _)
  unfold Binary.delete
  rw [if_neg hn, getElem?_of_cellAt _ 1 (by omega), getElem?_of_cellAt _ h.n hsz, he, hq]
  simp only []
  obtain ⟨m, hm⟩ : ∃ m, h.n = m + 1 := ⟨h.n - 1, by omega⟩
  simp only [hm, Nat.add_sub_cancel] at hsh hord hlen hq hsz ⊢
  -- with the last entry's key over the root, the keys away from the root are the array's
  obtain ⟨a', k', hrun, hk'n, hsz', hk1, hsome', hord', hframe, hperm⟩ :=
    sink_spec hc q m (m + 2) h.heap 1 (by omega) (by omega) (Nat.le_refl _) (by omega) (by omega)
      (fun i h1 hn _ => hsh.some_ i h1 (by omega))
      (hord.down_root fun _ _ _ _ _ _ hab => OnKeys.congr (if_neg (by omega)) (if_neg (by omega)) hab)
  have hrun' : Binary.sink cmp (some q) m (m + 2) h.heap 1 2 = .ok (a', k') := hrun
  rw [hrun', obind_ok]
  simp only []
  have hk's : k' < a'.size := by omega
  rw [if_pos hk's, if_pos (by simp; omega)]
  -- the array after `heap[k] = kv; heap[n+1] = nil`
  have hq' : cellAt (a'.setIfInBounds k' (some q)) (m + 1) = some q := by
    rw [cellAt_set _ _ _ _ hk's]
    split
    · rfl
    · rw [hframe _ (Or.inr (by omega)), hq]
  have s2 := cells_set (a'.setIfInBounds k' (some q)) (m + 1) none (by simp; omega)
  rw [hq'] at s2
  generalize hb : (a'.setIfInBounds k' (some q)).setIfInBounds (m + 1) none = b at s2 ⊢
  have hB : ∀ t, cellAt b t = if m + 1 = t then none else if k' = t then some q else cellAt a' t := by
    intro t
    rw [← hb, cellAt_set _ _ _ _ (by simp; omega), cellAt_set _ _ _ _ hk's]
  have hbs : b.size = h.heap.size := by rw [← hb]; simpa using hsz'
  -- the last entry replaces the root, the loop permutes, the old last cell is cleared
  have hfin : h.abs.Perm (e :: cells b) := by
    have s1 := cells_set h.heap 1 (some q) (by omega)
    rw [he] at s1
    apply perm_of_count
    intro _ x
    have c1 := s1.count_eq x
    have c2 := s2.count_eq x
    have c3 := hperm.count_eq x
    simp only [Binary.abs, Option.toList, List.count_append, List.count_cons, List.count_nil] at c1 c2 ⊢
    omega
  have hkey : ∀ t, t ≤ m → keyOf b t = vkey a' k' q.1 t := fun t ht => by
    unfold keyOf vkey
    rw [hB, if_neg (by omega)]
    by_cases hk't : k' = t
    · rw [if_pos hk't, if_pos hk't.symm]; rfl
    · rw [if_neg hk't, if_neg (Ne.symm hk't)]; rfl
  have hordb : Ordered (HLe cmp (keyOf b)) (Par 1 m) := fun a c hac => by
    have := hac.le
    have := hac.parent_lt
    exact OnKeys.congr (hkey a (by omega)) (hkey c (by omega)) (hord' a c hac)
  have hsh' : Shape b m := by
    refine ⟨by omega, fun i h1 hn => ?_, fun i hi => ?_⟩
    · rw [← hb, cellAt_set _ _ _ _ (by simp; omega), if_neg (by omega)]
      exact hsome'.fill hk's q i h1 hn
    · rw [hB]
      split
      · rfl
      · rw [if_neg (by omega), hframe i hi]
        exact hsh.none_ i (by omega)
  have hext : Extremal cmp (cells h.heap) e.1 := root_extremal hc h.heap (m + 1) hsh hord e he
  have hlen' : (cells b).length = m := by
    have := hfin.length_eq
    simp [Binary.abs] at this; omega
  by_cases hshrink : m < b.size / 4
  · rw [if_pos hshrink]
    obtain ⟨hinv', hcells⟩ := BInv_resize ⟨hsh', hordb, hlen'⟩ (b.size / 2) (by omega)
    exact ⟨_, e, rfl, hinv', hext, by show h.abs.Perm (e :: cells (resize _ _)); rw [hcells]; exact hfin⟩
  · rw [if_neg hshrink]
    exact ⟨_, e, rfl, ⟨hsh', hordb, hlen'⟩, hext, hfin⟩

theorem scan_spec (p : K × V → Bool) (a : Array (Cell K V)) (n : Nat) (hsh : Shape a n) :
    ∀ (fuel k : Nat), 1 ≤ k → k ≤ n + 1 → n + 2 ≤ fuel + k →
      ∃ b, Binary.scan p a n fuel k = .ok b ∧
        (b = true ↔ ∃ i x, k ≤ i ∧ i ≤ n ∧ cellAt a i = some x ∧ p x = true) := by
  intro fuel
  induction fuel with
  | zero => intro k h1 h2 h3; omega
  | succ fuel ih =>
    intro k h1 h2 h3
    unfold Binary.scan
    by_cases hk : k ≤ n
    · rw [if_pos hk]
      obtain ⟨x, hx⟩ := hsh.some_ k h1 hk
      rw [deref_of_cellAt _ _ _ hx, obind_ok]
      by_cases hp : p x = true
      · rw [if_pos hp]
        exact ⟨true, rfl, iff_of_true rfl ⟨k, x, Nat.le_refl _, hk, hx, hp⟩⟩
      · rw [if_neg hp]
        obtain ⟨b, hb, hiff⟩ := ih (k + 1) (by omega) (by omega) (by omega)
        refine ⟨b, hb, hiff.trans ⟨?_, ?_⟩⟩
        · rintro ⟨i, y, g1, g2, g3, g4⟩; exact ⟨i, y, by omega, g2, g3, g4⟩
        · rintro ⟨i, y, g1, g2, g3, g4⟩
          by_cases hik : i = k
          · rw [hik, hx] at g3; cases g3; exact absurd g4 hp
          · exact ⟨i, y, by omega, g2, g3, g4⟩
    · rw [if_neg hk]
      exact ⟨false, rfl, iff_of_false (fun h => nomatch h) fun ⟨i, _, hi1, hi2, _⟩ => by omega⟩

theorem contains_spec (p : K × V → Bool) (h : Binary K V) (hsh : Shape h.heap h.n) :
    Binary.scan p h.heap h.n (h.n + 1) 1 = .ok (h.abs.any p) := by
  obtain ⟨b, hb, hiff⟩ := scan_spec p h.heap h.n hsh (h.n + 1) 1 (Nat.le_refl _) (by omega) (by omega)
  rw [hb]
  congr 1
  rw [Bool.eq_iff_iff, hiff, List.any_eq_true]
  constructor
  · rintro ⟨i, x, _, _, hx, hp⟩
    exact ⟨x, (mem_cells _ _).mpr ⟨i, hx⟩, hp⟩
  · rintro ⟨x, hx, hp⟩
    obtain ⟨i, hi⟩ := (mem_cells _ _).mp hx
    by_cases hout : i = 0 ∨ h.n < i
    · rw [hsh.none_ i hout] at hi; cases hi
    · exact ⟨i, x, by omega, by omega, hi, hp⟩

theorem Binary.step_spec (hc : LawfulCmp cmp) (eqV : V → V → Bool) (h : Binary K V)
    (hinv : BInv cmp h) (op : Op K V) :
    ∃ h' out, Binary.step cmp eqV h op = .ok (h', out) ∧ BInv cmp h' ∧ Step cmp eqV h.abs op out h'.abs := by
  cases op with
  | insert k v =>
    obtain ⟨h', hrun, hinv', hperm⟩ := Binary.insert_spec hc h hinv k v
    exact ⟨h', .unit, by simp [Binary.step, hrun], hinv', hperm⟩
  | delete =>
    by_cases hn : h.n = 0
    · refine ⟨h, .kv none, by simp [Binary.step, Binary.delete, hn], hinv, ?_⟩
      have := abs_nil_of_n_zero h hinv hn
      exact ⟨this, this⟩
    · obtain ⟨h', e, hrun, hinv', hext, hperm⟩ := Binary.delete_spec hc h hinv hn
      exact ⟨h', .kv (some e), by simp [Binary.step, hrun], hinv', hext, hperm⟩
  | deleteAll =>
    exact ⟨h.deleteAll, .unit, rfl, BInv_replicate cmp _ (Nat.zero_lt_of_lt hinv.shape.size), cells_replicate _⟩
  | peek =>
    by_cases hn : h.n = 0
    · refine ⟨h, .kv none, by simp [Binary.step, Binary.peek, hn], hinv, ?_⟩
      have := abs_nil_of_n_zero h hinv hn
      exact ⟨this, this⟩
    · obtain ⟨e, he⟩ := hinv.shape.some_ 1 (Nat.le_refl _) (by omega)
      refine ⟨h, .kv (some e), by simp [Binary.step, Binary.peek, hn, deref_of_cellAt _ _ _ he], hinv, ?_, ?_, List.Perm.refl _⟩
      · exact (mem_cells _ _).mpr ⟨1, he⟩
      · exact root_extremal hc h.heap h.n hinv.shape hinv.ord e he
  | size =>
    refine ⟨h, .int h.n, rfl, hinv, ?_, List.Perm.refl _⟩
    show (h.n : Int) = ((cells h.heap).length : Int)
    rw [hinv.len]
  | isEmpty =>
    refine ⟨h, .bool (h.n == 0), rfl, hinv, ?_, List.Perm.refl _⟩
    show (h.n == 0) = (cells h.heap).isEmpty
    rw [← hinv.len]
    cases cells h.heap <;> rfl
  | containsKey k =>
    refine ⟨h, .bool (h.abs.any fun a => cmp a.1 k == 0), ?_, hinv, rfl, List.Perm.refl _⟩
    simp [Binary.step, Binary.containsKey, contains_spec _ h hinv.shape]
  | containsValue v =>
    refine ⟨h, .bool (h.abs.any fun a => eqV a.2 v), ?_, hinv, rfl, List.Perm.refl _⟩
    simp [Binary.step, Binary.containsValue, contains_spec _ h hinv.shape]

theorem binary_admitted (hc : LawfulCmp cmp) (eqV : V → V → Bool) :
    ∀ (ops : List (Op K V)) (h : Binary K V), BInv cmp h →
      Admitted1 cmp eqV h.abs ops (run1 (Binary.step cmp eqV) h ops) := by
  intro ops
  induction ops with
  | nil => intro h _; simp [run1, Admitted1]
  | cons op ops ih =>
    intro h hinv
    obtain ⟨h', out, hrun, hinv', hstep⟩ := Binary.step_spec hc eqV h hinv op
    simp only [run1, hrun, Admitted1]
    exact ⟨h'.abs, hstep, ih h' hinv'⟩

end AlgoVerif.C04
