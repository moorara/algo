import AlgoVerif.Proofs.C08Fresh
/-!
# Folding fresh non-terminals preserves the language

The general rewriting lemma behind `LeftFactor`.  Let `F` be a list of *prefix groups* `(key, sufs, name)`
of a non-terminal `A` of `g`: `A → key ++ s ∈ g` for every `s ∈ sufs`, and the `name`s are pairwise
different and not non-terminals of `g`.  Let `g'` have, besides productions of `g`, only the productions
`A → key ++ [name]` and `name → s` (`s ∈ sufs`), and let every production of `g` either survive in `g'` or
be one of the folded `A → key ++ s` whose two halves are in `g'` (`Factoring`).  Then `g'` and `g`
generate the same language (`Factoring.sameLanguage`), and `g'` is well-formed when `g` is.

* `L(g) ⊆ L(g')`: every production of `g` is a derivation of at most two steps in `g'`.
* `L(g') ⊆ L(g)`: a fresh `name` stands for any of its suffixes, every other symbol for itself (`Stands`, an expansion
  relation for `Gram.Derives.expands` like `DefStands` of `Proofs/C08Ext.lean`, but not a function of the name); every
  production of `g'` is matched in `g` under that reading (`Factoring.matched`: for `A → key ++ [name]` with `name`
  standing for `s` it is `A → key ++ s`), so `Gram.Language.of_expands` applies.
-/
namespace AlgoVerif.C08
open AlgoVerif AlgoVerif.Gram AlgoVerif.C08.Spec

/-- a prefix group that is factored out: `A → key ++ [name]`, `name → s` for `s ∈ sufs` -/
structure FGroup where
  key : List SSym
  sufs : List (List SSym)
  name : String

/-- `g'` is `g` with the prefix groups `F` of `A` folded into fresh non-terminals -/
structure Factoring (g g' : G) (A : String) (F : List FGroup) : Prop where
  start : g'.start = g.start
  terms : g'.terms = g.terms
  nts : ∀ n, n ∈ g'.nonterms ↔ n ∈ g.nonterms ∨ ∃ e ∈ F, e.name = n
  headA : A ∈ g.nonterms
  fresh : ∀ e ∈ F, e.name ∉ g.nonterms
  inj : ∀ e ∈ F, ∀ e' ∈ F, e.name = e'.name → e = e'
  nonempty : ∀ e ∈ F, e.sufs ≠ []
  old : ∀ e ∈ F, ∀ s ∈ e.sufs, (⟨A, e.key ++ s⟩ : SProd) ∈ g.prods
  new_prods : ∀ p ∈ g'.prods, p ∈ g.prods ∨ (∃ e ∈ F, p = ⟨A, e.key ++ [Sym.nonterm e.name]⟩) ∨
    (∃ e ∈ F, ∃ s ∈ e.sufs, p = ⟨e.name, s⟩)
  present : ∀ e ∈ F, (⟨A, e.key ++ [Sym.nonterm e.name]⟩ : SProd) ∈ g'.prods ∧
    ∀ s ∈ e.sufs, (⟨e.name, s⟩ : SProd) ∈ g'.prods
  kept : ∀ p ∈ g.prods, p ∈ g'.prods ∨ ∃ e ∈ F, ∃ s ∈ e.sufs, p = ⟨A, e.key ++ s⟩ ∧
    (⟨A, e.key ++ [Sym.nonterm e.name]⟩ : SProd) ∈ g'.prods ∧ (⟨e.name, s⟩ : SProd) ∈ g'.prods

def Clean (F : List FGroup) (α : List SSym) : Prop := ∀ e ∈ F, Free e.name α

/-- what a symbol of `g'` stands for in `g`: a fresh name for one of its suffixes, every other symbol for itself -/
def Stands (F : List FGroup) (s : SSym) (x : List SSym) : Prop :=
  (x = [s] ∧ ∀ e ∈ F, s ≠ Sym.nonterm e.name) ∨ ∃ e ∈ F, s = Sym.nonterm e.name ∧ x ∈ e.sufs

theorem Stands.clean {F : List FGroup} {α β : List SSym} (hα : Clean F α) (h : Expands (Stands F) α β) : β = α := by
  refine h.eq_of_id ?_
  rintro s hs x (⟨rfl, _⟩ | ⟨e, he, rfl, _⟩)
  · rfl
  · exact absurd hs (hα e he)

namespace Factoring
variable {g g' : G} {A : String} {F : List FGroup}

theorem body_clean (hF : Factoring g g' A F) (hw : WellFormed g) {p : SProd} (hp : p ∈ g.prods) : Clean F p.body :=
  fun e he => (hw.fresh_not_in (hF.fresh e he) p hp).2

theorem complete (hF : Factoring g g' A F) {α β : List SSym} (d : Derives g α β) : Derives g' α β := by
  refine Derives.of_derivable_prods (g := g') (g' := g) ?_ d
  intro p hp
  rcases hF.kept p hp with hp' | ⟨e, _, s, _, rfl, h₁, h₂⟩
  · exact Derives.of_prod hp'
  · have d₁ : Derives g' [Sym.nonterm A] (e.key ++ [Sym.nonterm e.name]) := Derives.of_prod h₁
    have d₂ : Derives g' [Sym.nonterm e.name] s := Derives.of_prod h₂
    exact d₁.trans (d₂.append_left e.key)

theorem matched (hF : Factoring g g' A F) (hw : WellFormed g) :
    ∀ p ∈ g'.prods, ∀ b, Expands (Stands F) p.body b → ∃ x, Stands F (Sym.nonterm p.head) x ∧ Derives g x b := by
  have old : ∀ n, n ∈ g.nonterms → Stands F (Sym.nonterm n) [Sym.nonterm n] := fun n hn =>
    .inl ⟨rfl, fun e he h => hF.fresh e he (by cases h; exact hn)⟩
  intro p hp b hb
  rcases hF.new_prods p hp with hp' | ⟨e, he, rfl⟩ | ⟨e, he, s, hs, rfl⟩
  · rw [Stands.clean (hF.body_clean hw hp') hb]
    exact ⟨_, old _ (hw.2 p hp').1, Derives.of_prod hp'⟩
  · -- `A → key ++ [name]`: `name` stands for one of its suffixes `s`, and `A → key ++ s` is old
    obtain ⟨bk, bn, rfl, hk, hn⟩ := hb.of_append
    obtain ⟨s₀, hs₀⟩ := List.exists_mem_of_ne_nil _ (hF.nonempty e he)
    have hkey : Clean F e.key := fun e' he' hm =>
      hF.body_clean hw (hF.old e he s₀ hs₀) e' he' (List.mem_append_left _ hm)
    rw [Stands.clean hkey hk]
    rcases hn.of_single with ⟨_, hne⟩ | ⟨e', he', hname, hs⟩
    · exact absurd rfl (hne e he)
    · obtain rfl := hF.inj e he e' he' (Sym.nonterm.inj hname)
      exact ⟨_, old _ hF.headA, Derives.of_prod (hF.old e he bn hs)⟩
  · -- `name → s`: `name` stands for `s`
    have hcl : Clean F s := fun e' he' hm =>
      hF.body_clean hw (hF.old e he s hs) e' he' (List.mem_append_right _ hm)
    rw [Stands.clean hcl hb]
    exact ⟨s, .inr ⟨e, he, rfl, hs⟩, Derives.refl _⟩

theorem sameLanguage (hF : Factoring g g' A F) (hw : WellFormed g) : SameLanguage g g' := by
  intro w
  constructor
  · refine Language.of_expands (Stands F) (fun t => .inl ⟨rfl, fun _ _ => nofun⟩) ?_ (hF.matched hw)
    rintro x (⟨rfl, _⟩ | ⟨e, he, hname, _⟩)
    · rw [hF.start]
    · refine absurd ?_ (hF.fresh e he)
      rw [← Sym.nonterm.inj hname, hF.start]
      exact hw.1
  · unfold Language
    rw [hF.start]
    exact hF.complete

theorem wellFormed (hF : Factoring g g' A F) (hw : WellFormed g) : WellFormed g' := by
  have hsym : ∀ s, SymDeclared g s → SymDeclared g' s := fun s hs =>
    hs.mono (fun _ h => hF.terms ▸ h) (fun n h => (hF.nts n).2 (.inl h))
  refine ⟨by rw [hF.start]; exact (hF.nts _).2 (.inl hw.1), ?_⟩
  intro p hp
  rcases hF.new_prods p hp with hp' | ⟨e, he, rfl⟩ | ⟨e, he, s, hs, rfl⟩
  · exact ⟨(hF.nts _).2 (.inl (hw.2 p hp').1), fun s hs => hsym s ((hw.2 p hp').2 s hs)⟩
  · refine ⟨(hF.nts _).2 (.inl hF.headA), ?_⟩
    intro s hs
    rcases List.mem_append.1 hs with hs | hs
    · obtain ⟨s', hs'⟩ := List.exists_mem_of_ne_nil _ (hF.nonempty e he)
      exact hsym s ((hw.2 _ (hF.old e he s' hs')).2 s (List.mem_append_left _ hs))
    · simp at hs
      subst hs
      exact (hF.nts _).2 (.inr ⟨e, he, rfl⟩)
  · refine ⟨(hF.nts _).2 (.inr ⟨e, he, rfl⟩), ?_⟩
    intro x hx
    have := (hw.2 _ (hF.old e he s hs)).2 x (List.mem_append_right _ hx)
    exact hsym x this

/-- `Verify()` still accepts the result: every declared non-terminal has a production -/
theorem valid (hF : Factoring g g' A F) (hv : Valid g) : Valid g' := by
  obtain ⟨hs, hp⟩ := hF.wellFormed hv.wellFormed
  refine ⟨hs, ?_, hp⟩
  intro n hn
  rcases (hF.nts n).1 hn with hn | ⟨e, he, rfl⟩
  · obtain ⟨p, hp, hh⟩ := hv.2.1 n hn
    rcases hF.kept p hp with hp' | ⟨e, _, s, _, rfl, h₁, _⟩
    · exact ⟨p, hp', hh⟩
    · exact ⟨_, h₁, hh⟩
  · obtain ⟨s, hs⟩ := List.exists_mem_of_ne_nil _ (hF.nonempty e he)
    exact ⟨_, (hF.present e he).2 s hs, rfl⟩

end Factoring

end AlgoVerif.C08
