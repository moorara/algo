import AlgoVerif.Model.C17
import AlgoVerif.Proofs.C17Spec
/-!
Parent-pointer forests over `[0, n)` stored in an `Array Int`, as used by the two quick-union types.
`Forest n a cnt`: `cnt` is the number of roots, and there is a **rank** `h` with `h i < h (par a i)` for every non-root
and `h i + cnt ≤ n` (so a climb takes at most `n - cnt` steps: this is why fuel `n` suffices).
-/
namespace AlgoVerif.C17
open AlgoVerif.C17.Spec

@[simp] theorem ok_bind {α β} (a : α) (f : α → Outcome β) : (Outcome.ok a >>= f) = f a := rfl
@[simp] theorem panic_bind {α β} (f : α → Outcome β) : (Outcome.panic >>= f) = Outcome.panic := rfl
@[simp] theorem diverge_bind {α β} (f : α → Outcome β) : (Outcome.diverge >>= f) = Outcome.diverge := rfl

def par (a : Array Int) (i : Int) : Int := a.getD i.toNat 0

theorem idx_ok {n : Nat} {a : Array Int} {i : Int} (hs : a.size = n) (hi : Valid n i) :
    idx a i = .ok (par a i) := by
  have := hi.1; have := hi.2
  simp [idx, par, *]

theorem setIdx_ok {n : Nat} {a : Array Int} {i : Int} {v : Int} (hs : a.size = n) (hi : Valid n i) :
    setIdx a i v = .ok (a.setIfInBounds i.toNat v) := by
  have := hi.1; have := hi.2
  simp [setIdx, *]

theorem getD_set (a : Array Int) (i j : Nat) (v : Int) (hi : i < a.size) :
    (a.setIfInBounds i v).getD j 0 = if j = i then v else a.getD j 0 := by
  simp only [Array.getD_eq_getD_getElem?, Array.getElem?_setIfInBounds]
  by_cases h : i = j
  · subst h; simp [hi]
  · simp [h, Ne.symm h]

theorem par_set {n : Nat} {a : Array Int} {r i : Int} (v : Int) (hs : a.size = n)
    (hr : Valid n r) (hi : Valid n i) :
    par (a.setIfInBounds r.toNat v) i = if i = r then v else par a i := by
  obtain ⟨k, hk, rfl⟩ := valid_exists_nat hr
  unfold par
  rw [getD_set _ _ _ _ (hs ▸ hk)]
  by_cases h : i = k
  · rw [if_pos h, if_pos (congrArg Int.toNat h)]
  · rw [if_neg h, if_neg fun e => h (by rw [← Int.toNat_of_nonneg hi.1, e]; rfl)]

theorem par_iota {n : Nat} {i : Int} (hi : Valid n i) : par (iota n) i = i := by
  have := hi.1; have := hi.2
  have h : i.toNat < n := by omega
  simp [par, iota, Array.getD_eq_getD_getElem?, h]
  omega

theorem size_iota (n : Nat) : (iota n).size = n := by simp [iota]

def rootCount (n : Nat) (a : Array Int) : Nat :=
  (List.range n).countP fun (i : Nat) => par a (i : Int) == (i : Int)

theorem rootCount_iota (n : Nat) : rootCount n (iota n) = n := by
  unfold rootCount
  rw [List.countP_eq_length_filter, List.filter_eq_self.2, List.length_range]
  intro i hi
  have : Valid n (i : Int) := valid_cast.2 (List.mem_range.1 hi)
  simp [par_iota this]

inductive Reaches (n : Nat) (a : Array Int) : Int → Int → Prop
  | root {i : Int} : Valid n i → par a i = i → Reaches n a i i
  | step {i r : Int} : Valid n i → par a i ≠ i → Reaches n a (par a i) r → Reaches n a i r

theorem Reaches.valid_left {n a i r} (h : Reaches n a i r) : Valid n i := by
  cases h <;> assumption

theorem Reaches.is_root {n a i r} (h : Reaches n a i r) : Valid n r ∧ par a r = r := by
  induction h with
  | root hv hr => exact ⟨hv, hr⟩
  | step _ _ _ ih => exact ih

theorem Reaches.unique {n a i r r'} (h : Reaches n a i r) (h' : Reaches n a i r') : r = r' := by
  induction h with
  | root _ hr =>
    cases h' with
    | root => rfl
    | step _ hne _ => exact absurd hr hne
  | step _ hne _ ih =>
    cases h' with
    | root _ hr => exact absurd hr hne
    | step _ _ h2 => exact ih h2

theorem Reaches.rank_le {n a i r} (h : Reaches n a i r) (rk : Int → Nat)
    (hrk : ∀ i, Valid n i → par a i ≠ i → rk i < rk (par a i)) : rk i ≤ rk r := by
  induction h with
  | root => exact Nat.le_refl _
  | step hv hne _ ih => have := hrk _ hv hne; omega

/-- the Go loop `for p != root[p] { p = root[p] }`: with a strictly increasing rank, fuel beyond the
rank distance to the root is enough -/
theorem findLoop_of_reaches {n a i r} (hs : a.size = n) (h : Reaches n a i r) (rk : Int → Nat)
    (hrk : ∀ i, Valid n i → par a i ≠ i → rk i < rk (par a i)) :
    ∀ fuel, rk r - rk i < fuel → findLoop a fuel i = .ok r := by
  induction h with
  | root hv hr =>
    intro fuel hf
    cases fuel with
    | zero => omega
    | succ f => simp [findLoop, idx_ok hs hv, hr]
  | @step i r hv hne hre ih =>
    intro fuel hf
    cases fuel with
    | zero => omega
    | succ f =>
      have h1 := hrk _ hv hne
      have h2 := hre.rank_le rk hrk
      have : i ≠ par a i := fun h => hne h.symm
      simp only [findLoop, idx_ok hs hv, ok_bind, ne_eq, this, not_false_eq_true, if_true]
      exact ih f (by omega)

structure Forest (n : Nat) (a : Array Int) (cnt : Int) : Prop where
  size : a.size = n
  range : ∀ i, Valid n i → Valid n (par a i)
  /-- the rank / measure that makes `Find` terminate -/
  rank : ∃ rk : Int → Nat, (∀ i, Valid n i → par a i ≠ i → rk i < rk (par a i)) ∧
    (∀ i, Valid n i → (rk i : Int) + cnt ≤ n)
  roots : cnt = rootCount n a

theorem Forest.iota (n : Nat) : Forest n (iota n) n where
  size := size_iota n
  range i hi := by rw [par_iota hi]; exact hi
  rank := ⟨fun _ => 0, fun i hi hne => absurd (par_iota hi) hne, fun i _ => by simp⟩
  roots := by rw [rootCount_iota]

theorem Forest.cnt_pos {n a cnt} (F : Forest n a cnt) {r : Int} (hv : Valid n r) (hr : par a r = r) :
    1 ≤ cnt := by
  obtain ⟨k, hk, rfl⟩ := valid_exists_nat hv
  have : 0 < rootCount n a := List.countP_pos_iff.2 ⟨k, List.mem_range.2 hk, beq_iff_eq.2 hr⟩
  rw [F.roots]
  omega

theorem Forest.reaches {n a cnt} (F : Forest n a cnt) : ∀ i, Valid n i → ∃ r, Reaches n a i r := by
  obtain ⟨rk, hrk, hbd⟩ := F.rank
  have hc : (0 : Int) ≤ cnt := by rw [F.roots]; omega
  -- induction on the distance `n - rk i` to the largest possible rank
  suffices ∀ k i, Valid n i → n - rk i ≤ k → ∃ r, Reaches n a i r from
    fun i hi => this (n - rk i) i hi (Nat.le_refl _)
  intro k
  induction k with
  | zero =>
    intro i hi hk
    refine ⟨i, .root hi (Decidable.not_not.1 fun hr => ?_)⟩
    have := hrk i hi hr
    have := hbd _ (F.range i hi)
    omega
  | succ k ih =>
    intro i hi hk
    by_cases hr : par a i = i
    · exact ⟨i, .root hi hr⟩
    · have := hrk i hi hr
      obtain ⟨r, hre⟩ := ih (par a i) (F.range i hi) (by omega)
      exact ⟨r, .step hi hr hre⟩

theorem Forest.findLoop_eq {n a cnt i r fuel} (F : Forest n a cnt) (h : Reaches n a i r) (hf : n ≤ fuel) :
    findLoop a fuel i = .ok r := by
  obtain ⟨rk, hrk, hbd⟩ := F.rank
  have := hbd r h.is_root.1
  have := F.cnt_pos h.is_root.1 h.is_root.2
  exact findLoop_of_reaches F.size h rk hrk fuel (by omega)

theorem Forest.terminates {n a cnt} (F : Forest n a cnt) :
    (0 < n → 1 ≤ cnt) ∧ ∀ p, Valid n p → ∃ r, findLoop a n p = .ok r ∧ Valid n r ∧ par a r = r := by
  refine ⟨fun hn => ?_, fun p hp => ?_⟩
  · obtain ⟨r, hr⟩ := F.reaches 0 ⟨Int.le_refl 0, Int.natCast_pos.2 hn⟩
    exact F.cnt_pos hr.is_root.1 hr.is_root.2
  · obtain ⟨r, hr⟩ := F.reaches p hp
    exact ⟨r, F.findLoop_eq hr (Nat.le_refl n), hr.is_root⟩

theorem Reaches.link {n a i r r0 s0} (hs : a.size = n) (h : Reaches n a i r)
    (hr0 : Valid n r0) (hr0r : par a r0 = r0) (hs0 : Valid n s0) (hs0r : par a s0 = s0) (hne : r0 ≠ s0) :
    Reaches n (a.setIfInBounds r0.toNat s0) i (if r = r0 then s0 else r) := by
  induction h with
  | @root i hv hr =>
    by_cases h : i = r0
    · subst h
      simp only [if_true]
      refine .step hv ?_ ?_
      · rw [par_set _ hs hv hv]; simpa using fun h => hne h.symm
      · rw [par_set _ hs hv hv]; simp only [if_true]
        refine .root hs0 ?_
        rw [par_set _ hs hr0 hs0]; simp [hs0r]
    · simp only [h, if_false]
      refine .root hv ?_
      rw [par_set _ hs hr0 hv]; simp [h, hr]
  | @step i r hv hnr _ ih =>
    have h : i ≠ r0 := fun h => hnr (h ▸ hr0r)
    refine .step hv ?_ ?_
    · rw [par_set _ hs hr0 hv]; simpa [h] using hnr
    · rw [par_set _ hs hr0 hv]; simpa [h] using ih

theorem Forest.link {n a cnt r0 s0} (F : Forest n a cnt)
    (hr0 : Valid n r0) (hr0r : par a r0 = r0) (hs0 : Valid n s0) (hs0r : par a s0 = s0) (hne : r0 ≠ s0) :
    Forest n (a.setIfInBounds r0.toNat s0) (cnt - 1) where
  size := by simp [F.size]
  range i hi := by
    rw [par_set _ F.size hr0 hi]
    split
    · exact hs0
    · exact F.range i hi
  rank := by
    obtain ⟨rk, hrk, hbd⟩ := F.rank
    -- only `s0` changes rank: it is lifted above its new child `r0`; `rk + cnt ≤ n` survives because
    -- `rk r0 + 1 + (cnt - 1) = rk r0 + cnt`
    refine ⟨fun x => if x = s0 then max (rk s0) (rk r0 + 1) else rk x, ?_, ?_⟩
    · intro i hi
      rw [par_set _ F.size hr0 hi]
      by_cases h : i = r0
      · subst h
        simp only [if_true, if_neg hne]
        intro _
        omega
      · simp only [h, if_false]
        intro hnr
        have his : i ≠ s0 := fun h => hnr (h ▸ hs0r)
        have := hrk i hi hnr
        simp only [his, if_false]
        by_cases hp : par a i = s0
        · rw [hp] at this; simp only [hp, if_true]; omega
        · simp only [hp, if_false]; omega
    · intro i hi
      have := hbd i hi
      have := hbd r0 hr0
      have := hbd s0 hs0
      by_cases h : i = s0
      · simp only [h, if_true]; omega
      · simp only [h, if_false]; omega
  roots := by
    obtain ⟨k, hk, rfl⟩ := valid_exists_nat hr0
    have := countP_range_update (fun (i : Nat) => par a (i : Int) == (i : Int))
      (fun (i : Nat) => par (a.setIfInBounds (k : Int).toNat s0) (i : Int) == (i : Int)) n k hk
      (beq_iff_eq.2 hr0r)
      (by rw [par_set _ F.size hr0 hr0, if_pos rfl]; exact beq_eq_false_iff_ne.2 fun h => hne h.symm)
      (fun i hin hi => by
        rw [par_set _ F.size hr0 (valid_cast.2 hin), if_neg fun h => hi (Int.ofNat_inj.1 h)])
    have h' := F.roots
    unfold rootCount at h' ⊢
    omega

end AlgoVerif.C17
