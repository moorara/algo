import AlgoVerif.Proofs.C12Sound
/-! `ParseAndBuildAST`: the tree built from the callbacks of an accepting run is complete and its
leaves, left to right, are the input tokens.

A tree under construction is abstracted to its frontier with holes (`fr`: completed leaves and incomplete nodes, left to
right).  Completing the leftmost incomplete node (`fillTree`) is, on frontiers, filling the first hole (`fillFr`,
`fillTree_fr`), so building the tree is replaying the events on frontiers (`buildFr`, `buildAST_fr`).  Along an accepting
run the frontier is the leaves done so far followed by the parser's stack as holes (`buildFr_of_parse`, by induction
along `parseLoop`); at the end it is all leaves, and a tree with such a frontier has exactly these leaves
(`frontier_of_done`). -/
set_option linter.unusedSectionVars false
namespace AlgoVerif.C10
open AlgoVerif AlgoVerif.Gram
variable {T N : Type} [DecidableEq T] [DecidableEq N]

/-- one position of the frontier of a tree under construction -/
inductive Item (T N : Type) where
  | done (t : T) (k : Nat)
  | hole (s : Sym T N)

mutual
def fr : Tree T N → List (Item T N)
  | .leaf t (some k) => [.done t k]
  | .leaf t none => [.hole (.term t)]
  | .node A none _ => [.hole (.nonterm A)]
  | .node _ (some _) kids => frKids kids
def frKids : List (Tree T N) → List (Item T N)
  | [] => []
  | k :: ks => fr k ++ frKids ks
end

/-- completing the first hole of a frontier (`none`: it has no hole) -/
def fillFr (e : Event T N) : List (Item T N) → Option (Outcome (List (Item T N)))
  | [] => none
  | .done t k :: rest =>
    match fillFr e rest with
    | none => none
    | some (.ok r) => some (.ok (.done t k :: r))
    | some .panic => some .panic
    | some .diverge => some .diverge
  | .hole (.term t) :: rest =>
    match e with
    | .tok _ pos => some (.ok (.done t pos :: rest))
    | .prod _ => some .panic
  | .hole (.nonterm _) :: rest =>
    match e with
    | .prod p => some (.ok (p.body.map Item.hole ++ rest))
    | .tok _ _ => some .panic

theorem fillFr_append (e : Event T N) (a b : List (Item T N)) :
    fillFr e (a ++ b) =
      match fillFr e a with
      | none =>
        (match fillFr e b with
         | none => none
         | some (.ok r) => some (.ok (a ++ r))
         | some .panic => some .panic
         | some .diverge => some .diverge)
      | some (.ok r) => some (.ok (r ++ b))
      | some .panic => some .panic
      | some .diverge => some .diverge := by
  induction a with
  | nil =>
    simp only [List.nil_append, fillFr]
    cases fillFr e b with
    | none => rfl
    | some r => cases r <;> rfl
  | cons x xs ih =>
    cases x with
    | done t k =>
      simp only [List.cons_append, fillFr, ih]
      cases fillFr e xs with
      | none =>
        cases fillFr e b with
        | none => rfl
        | some r => cases r <;> rfl
      | some r => cases r <;> rfl
    | hole s =>
      cases s with
      | term t => cases e <;> simp [fillFr]
      | nonterm A => cases e <;> simp [fillFr]

theorem frKids_newKids (body : List (Sym T N)) : frKids (newKids body) = body.map Item.hole := by
  induction body with
  | nil => rfl
  | cons s rest ih =>
    cases s <;> simpa [newKids, frKids, fr] using ih

/-- the answer of `fillTree` (`none`: no hole in this tree) seen on frontiers; `liftK` is the same for `fillKids` -/
def liftT (r : Option (Outcome (Tree T N))) : Option (Outcome (List (Item T N))) :=
  match r with
  | none => none
  | some (.ok t) => some (.ok (fr t))
  | some .panic => some .panic
  | some .diverge => some .diverge

def liftK (r : Option (Outcome (List (Tree T N)))) : Option (Outcome (List (Item T N))) :=
  match r with
  | none => none
  | some (.ok t) => some (.ok (frKids t))
  | some .panic => some .panic
  | some .diverge => some .diverge

mutual
theorem fillTree_fr (e : Event T N) : ∀ t : Tree T N, liftT (fillTree e t) = fillFr e (fr t)
  | .leaf t (some k) => by simp [fillTree, fr, fillFr, liftT]
  | .leaf t none => by cases e <;> simp [fillTree, fr, fillFr, liftT]
  | .node A none kids => by
    cases e with
    | tok _ _ => simp [fillTree, fr, fillFr, liftT]
    | prod p => simp [fillTree, fr, fillFr, liftT, frKids_newKids]
  | .node A (some p) kids => by
    have h := fillKids_fr e kids
    simp only [fillTree, fr]
    rw [← h]
    cases fillKids e kids with
    | none => rfl
    | some r => cases r <;> simp [liftT, liftK, fr]
theorem fillKids_fr (e : Event T N) : ∀ ks : List (Tree T N), liftK (fillKids e ks) = fillFr e (frKids ks)
  | [] => by simp [fillKids, frKids, fillFr, liftK]
  | k :: ks => by
    have h1 := fillTree_fr e k
    have h2 := fillKids_fr e ks
    simp only [fillKids, frKids, fillFr_append]
    rw [← h1, ← h2]
    cases fillTree e k with
    | none =>
      cases fillKids e ks with
      | none => rfl
      | some r => cases r <;> simp [liftT, liftK, frKids]
    | some r => cases r <;> simp [liftT, liftK, frKids]
end

/-- `buildAST` on frontiers; an event that finds no hole panics -/
def buildFr : List (Event T N) → List (Item T N) → Outcome (List (Item T N))
  | [], l => .ok l
  | e :: es, l =>
    match fillFr e l with
    | some (.ok l') => buildFr es l'
    | some .panic => .panic
    | some .diverge => .diverge
    | none => .panic

theorem buildAST_fr (es : List (Event T N)) (t : Tree T N) :
    (buildAST es t).map fr = buildFr es (fr t) := by
  induction es generalizing t with
  | nil => rfl
  | cons e es ih =>
    have h := fillTree_fr e t
    simp only [buildAST, buildFr]
    rw [← h]
    cases fillTree e t with
    | none => rfl
    | some r =>
      cases r with
      | ok t' => simp [liftT, ih]
      | panic => rfl
      | diverge => rfl

def doneItems : List (T × Nat) → List (Item T N) := List.map fun x => Item.done x.1 x.2

theorem fillFr_doneItems (e : Event T N) (d : List (T × Nat)) (rest : List (Item T N)) :
    fillFr e (doneItems d ++ rest) =
      match fillFr e rest with
      | none => none
      | some (.ok r) => some (.ok (doneItems d ++ r))
      | some .panic => some .panic
      | some .diverge => some .diverge := by
  have hd : fillFr e (doneItems d) = none := by
    induction d with
    | nil => rfl
    | cons x xs ih => simp only [doneItems, List.map_cons, fillFr] at ih ⊢; rw [ih]
  rw [fillFr_append, hd]

theorem doneItems_append (a b : List (T × Nat)) :
    (doneItems (a ++ b) : List (Item T N)) = doneItems a ++ doneItems b := by
  simp [doneItems]

theorem buildFr_of_parse {M : N → Option T → List (GProd T N)} :
    ∀ (fuel : Nat) (stack : List (Sym T N)) (input : List T) (pos : Nat) (evs E : List (Event T N))
      (d : List (T × Nat)) (tail : List (Item T N)),
      parseLoop M fuel stack input pos evs = .ok (.accept E) →
      ∃ E', E = evs.reverse ++ E' ∧
        buildFr E' (doneItems d ++ (stack.map Item.hole ++ tail)) =
          .ok (doneItems (d ++ withPos input pos) ++ tail) := by
  intro fuel stack input pos evs
  fun_induction parseLoop M fuel stack input pos evs <;> intro E d tail h
  case case2 => cases h; exact ⟨[], by simp, by simp [withPos, buildFr]⟩
  case case4 stack pos evs t rest ih =>
    obtain ⟨E', hE, hb⟩ := ih E (d ++ [(t, pos)]) tail h
    refine ⟨Event.tok t pos :: E', by simp [hE], ?_⟩
    have hf : fillFr (Event.tok t pos) (doneItems d ++ (Item.hole (Sym.term t) :: (stack.map Item.hole ++ tail)))
        = some (.ok (doneItems d ++ (Item.done t pos :: (stack.map Item.hole ++ tail)))) := by
      rw [fillFr_doneItems]; simp [fillFr]
    simp only [List.map_cons, List.cons_append, buildFr, hf]
    have e1 : (doneItems d ++ Item.done t pos :: (stack.map Item.hole ++ tail) : List (Item T N))
        = doneItems (d ++ [(t, pos)]) ++ (stack.map Item.hole ++ tail) := by
      simp [doneItems]
    rw [e1, hb]
    simp [withPos, List.append_assoc]
  case case8 A stack input pos evs p hp ih =>
    obtain ⟨E', hE, hb⟩ := ih E d tail h
    refine ⟨Event.prod p :: E', by simp [hE], ?_⟩
    have hf : fillFr (Event.prod p) (doneItems d ++ (Item.hole (Sym.nonterm A) :: (stack.map Item.hole ++ tail)))
        = some (.ok (doneItems d ++ (p.body.map Item.hole ++ (stack.map Item.hole ++ tail)))) := by
      rw [fillFr_doneItems]; simp [fillFr]
    simp only [List.map_cons, List.cons_append, buildFr, hf]
    simpa [List.map_append, List.append_assoc] using hb
  all_goals cases h

theorem doneItems_injective {a b : List (T × Nat)} (h : (doneItems a : List (Item T N)) = doneItems b) : a = b :=
  (List.map_inj_right fun _ _ e => Prod.ext (Item.done.inj e).1 (Item.done.inj e).2).1 h

mutual
theorem frontier_of_done : ∀ (t : Tree T N) (d : List (T × Nat)), fr t = doneItems d →
    t.frontier = d.map (fun x => (x.1, some x.2))
  | .leaf t (some k), d, h => by
    have : d = [(t, k)] := doneItems_injective (N := N) (by simpa [fr, doneItems] using h.symm)
    subst this
    simp [Tree.frontier]
  | .leaf t none, d, h => by cases d <;> simp [fr, doneItems] at h
  | .node A none kids, d, h => by cases d <;> simp [fr, doneItems] at h
  | .node A (some p) kids, d, h => by
    simp only [fr] at h
    simpa [Tree.frontier] using frontierKids_of_done kids d h
theorem frontierKids_of_done : ∀ (ks : List (Tree T N)) (d : List (T × Nat)), frKids ks = doneItems d →
    frontierKids ks = d.map (fun x => (x.1, some x.2))
  | [], d, h => by
    cases d with
    | nil => rfl
    | cons _ _ => simp [frKids, doneItems] at h
  | k :: ks, d, h => by
    simp only [frKids] at h
    obtain ⟨d₁, d₂, hd, h1, h2⟩ := List.map_eq_append_iff.1 h.symm
    have e1 := frontier_of_done k d₁ (by simpa [doneItems] using h1.symm)
    have e2 := frontierKids_of_done ks d₂ (by simpa [doneItems] using h2.symm)
    simp [frontierKids, e1, e2, hd]
end

theorem withPos_fst (w : List T) (k : Nat) : (withPos w k).map (·.1) = w := by
  induction w generalizing k with
  | nil => rfl
  | cons t ts ih => simp [withPos, ih]

theorem ast_of_parse {M : N → Option T → List (GProd T N)} {fuel : Nat} {S : N} {w : List T}
    {E : List (Event T N)} (h : parseLoop M fuel [Sym.nonterm S] w 0 [] = .ok (.accept E)) :
    ∃ t, buildAST E (Tree.node S none []) = .ok t ∧
      t.frontier = (withPos w 0).map (fun x => (x.1, some x.2)) ∧ t.yield = w := by
  obtain ⟨E', hE, hb⟩ := buildFr_of_parse fuel [Sym.nonterm S] w 0 [] E [] [] h
  have hE' : E' = E := by simpa using hE.symm
  subst hE'
  have hfr := buildAST_fr E' (Tree.node S none [] : Tree T N)
  have hroot : fr (Tree.node S none [] : Tree T N) = [Item.hole (Sym.nonterm S)] := by simp [fr]
  rw [hroot] at hfr
  have hb' : buildFr E' [Item.hole (Sym.nonterm S)] = .ok (doneItems (withPos w 0)) := by
    simpa [doneItems] using hb
  rw [hb'] at hfr
  generalize buildAST E' (Tree.node S none []) = o at hfr ⊢
  cases o with
  | ok t =>
    have hf := frontier_of_done t _ (Outcome.ok.inj hfr)
    refine ⟨t, rfl, hf, ?_⟩
    have hw := withPos_fst w 0
    simp only [Tree.yield, hf, List.map_map]
    exact hw
  | panic => cases hfr
  | diverge => cases hfr

end AlgoVerif.C10
