import AlgoVerif.Proofs.C11Sound
/-!
# C11 — the executable validator implies `SoundTable`

`soundOK g b = true` (the first group of checks of `Spec.tableCheck`) makes every table whose cells are subsets
of the raw table's cells (in particular the raw table itself and the table after `ResolveConflicts`) a
`SoundTable` for the item sets `itemsAt b.states`.
-/
namespace AlgoVerif.C11.Sound
open AlgoVerif AlgoVerif.Gram AlgoVerif.C11 AlgoVerif.C11.Spec

theorem lookup_mem {α β} [BEq α] [LawfulBEq α] (k : α) (l : List (α × β)) (v : β) (h : l.lookup k = some v) :
    (k, v) ∈ l := by
  obtain ⟨l₁, l₂, rfl, _⟩ := List.lookup_eq_some_iff.mp h
  simp

variable {T : Table} {s : Int}

theorem mem_cell {a : String} {act : Action} (h : act ∈ T.cell s a) :
    ∃ acts, ((s, a), acts) ∈ T.actions ∧ act ∈ acts := by
  unfold Table.cell at h
  cases hl : T.actions.lookup (s, a) with
  | none => rw [hl] at h; simp at h
  | some acts =>
    rw [hl] at h
    exact ⟨acts, lookup_mem _ _ _ hl, by simpa using h⟩

theorem mem_goto {A : String} {t : Int} (h : T.goto s A = some t) :
    ((s, A), t) ∈ T.gotos := lookup_mem _ _ _ h

theorem shift_mem_transitions {a : String} {acts : List Action} {t : Int}
    (he : ((s, a), acts) ∈ T.actions) (ht : Action.shift t ∈ acts) :
    (s, Sym.term a, t) ∈ transitions T := by
  unfold transitions
  apply List.mem_append_left
  rw [List.mem_flatMap]
  refine ⟨((s, a), acts), he, ?_⟩
  rw [List.mem_filterMap]
  exact ⟨Action.shift t, ht, rfl⟩

theorem goto_mem_transitions {A : String} {t : Int}
    (he : ((s, A), t) ∈ T.gotos) : (s, Sym.nonterm A, t) ∈ transitions T := by
  unfold transitions
  apply List.mem_append_right
  rw [List.mem_map]
  exact ⟨((s, A), t), he, rfl⟩

theorem justified_of_check {src : List Item} {X : Sy} {it : Item} (h : itemJustified src X it = true) :
    Justified src X it := by
  unfold itemJustified at h
  unfold Justified
  simp only [Bool.or_eq_true, Bool.and_eq_true, beq_iff_eq, List.any_eq_true] at h
  rcases h with h | ⟨h1, j, hj, h2, h3⟩
  · exact Or.inl h
  · exact Or.inr ⟨h1, j, hj, h2, h3⟩

theorem itemsAt_neg (S : StateMap) : itemsAt S (-1) = [] := by simp [itemsAt]

theorem itemsAt_mem_range {S : StateMap} {s : Int} {it : Item} (h : it ∈ itemsAt S s) :
    0 ≤ s ∧ s.toNat < S.length := by
  unfold itemsAt at h
  by_cases hs : s < 0
  · simp [hs] at h
  · simp only [hs, if_false] at h
    refine ⟨by omega, ?_⟩
    rcases Nat.lt_or_ge s.toNat S.length with hlt | hge
    · exact hlt
    · simp [List.getD, List.getElem?_eq_none hge] at h

theorem itemsAt_get {S : StateMap} {s : Int} {it : Item} (h : it ∈ itemsAt S s) :
    ∃ (n : Nat) (I : List Item), s = (n : Int) ∧ S[n]? = some I ∧ itemsAt S s = I := by
  obtain ⟨h0, hlt⟩ := itemsAt_mem_range h
  refine ⟨s.toNat, S[s.toNat], (Int.toNat_of_nonneg h0).symm, List.getElem?_eq_getElem hlt, ?_⟩
  unfold itemsAt
  have : ¬ s < 0 := by omega
  simp [this, List.getD, List.getElem?_eq_getElem hlt]

theorem itemsAt_bound (S : StateMap) (s : Int) (h : itemsAt S s ≠ []) : ∃ n : Nat, s = (n : Int) ∧ n < S.length := by
  obtain ⟨it, hit⟩ := List.exists_mem_of_ne_nil _ h
  obtain ⟨h0, hlt⟩ := itemsAt_mem_range hit
  exact ⟨s.toNat, (Int.toNat_of_nonneg h0).symm, hlt⟩

theorem soundTable_of_check (g : SGrammar) (b : Built) (T : Tbl)
    (hv : soundOK g b = true)
    (hcell : ∀ s a act, act ∈ T.cell s a → ∃ acts, ((s, a), acts) ∈ b.table.actions ∧ act ∈ acts)
    (hgoto : ∀ s A t, T.goto s A = some t → ((s, A), t) ∈ b.table.gotos) :
    SoundTable g b.start (itemsAt b.states) T := by
  unfold soundOK soundChecks at hv
  simp only [List.all_cons, List.all_nil, Bool.and_true, Bool.and_eq_true] at hv
  obtain ⟨hTr, hRed, hAcc, hInit, hNoEnd, _⟩ := hv
  unfold chkTransitions at hTr
  rw [List.all_eq_true] at hTr
  refine ⟨?_, ?_, ?_, ?_, ?_, ?_, itemsAt_neg _⟩
  · intro s a t hmem
    obtain ⟨acts, he, hact⟩ := hcell s a _ hmem
    have htr := hTr _ (shift_mem_transitions he hact)
    simp only [Bool.and_eq_true, bne_iff_ne, ne_eq, List.all_eq_true] at htr
    refine ⟨?_, htr.1, fun it hit => justified_of_check (htr.2 it hit)⟩
    unfold chkNoShiftEnd at hNoEnd
    rw [List.all_eq_true] at hNoEnd
    have := hNoEnd _ he
    simp only [Bool.or_eq_true, Bool.not_eq_true', beq_eq_false_iff_ne, ne_eq, List.all_eq_true] at this
    rcases this with h | h
    · exact h
    · have := h _ hact; simp [isShift] at this
  · intro s A t hg
    have htr := hTr _ (goto_mem_transitions (hgoto s A t hg))
    simp only [Bool.and_eq_true, bne_iff_ne, ne_eq, List.all_eq_true] at htr
    exact ⟨htr.1, fun it hit => justified_of_check (htr.2 it hit)⟩
  · intro s a p hmem
    obtain ⟨acts, he, hact⟩ := hcell s a _ hmem
    unfold chkReduces at hRed
    rw [List.all_eq_true] at hRed
    have := hRed _ he
    rw [List.all_eq_true] at this
    have := this _ hact
    simp only [Bool.and_eq_true, List.contains_iff_mem, List.any_eq_true, beq_iff_eq] at this
    exact ⟨this.1, this.2⟩
  · intro s a hmem
    obtain ⟨acts, he, hact⟩ := hcell s a _ hmem
    unfold chkAccepts at hAcc
    rw [List.all_eq_true] at hAcc
    have := hAcc _ he
    rw [List.all_eq_true] at this
    have := this _ hact
    simp only [Bool.and_eq_true, List.any_eq_true, beq_iff_eq] at this
    exact ⟨this.1, this.2⟩
  · intro it hit
    unfold chkInitial at hInit
    simp only [Bool.and_eq_true, List.all_eq_true, beq_iff_eq] at hInit
    exact hInit.1 it hit
  · intro s it hit hhead hdot
    obtain ⟨hs0, hlt⟩ := itemsAt_mem_range hit
    unfold chkInitial at hInit
    simp only [Bool.and_eq_true, List.all_eq_true, beq_iff_eq, List.mem_range, Bool.or_eq_true,
      Bool.not_eq_true', Bool.and_eq_false_iff, beq_eq_false_iff_ne, ne_eq] at hInit
    have h := hInit.2 s.toNat hlt
    rcases h with h | h
    · omega
    · have hs : ((s.toNat : Nat) : Int) = s := Int.toNat_of_nonneg hs0
      rw [hs] at h
      rcases h it hit with h | h
      · exact absurd hhead h
      · exact absurd hdot h

end AlgoVerif.C11.Sound
