import AlgoVerif.Model.C04Run
/-!
# C04: the trees of the binomial and the Fibonacci heap — nodes, heap order `Ord`, binomial shape `Binom` (hence
`2 ^ degree` nodes), `link`, and `Good`, what every tree of either heap is.
-/
namespace AlgoVerif.C04
variable {K V : Type}

/-- decidable equality is only needed for the counting and is supplied classically -/
theorem perm_of_count {α : Type} (l₁ l₂ : List α)
    (h : ∀ [DecidableEq α] (a : α), l₁.count a = l₂.count a) : l₁.Perm l₂ := by
  classical
  exact List.perm_iff_count.mpr (fun a => h a)

/-- closes `l₁.Perm l₂` goals that hold by associativity/commutativity of `++`, `::` and `reverse` -/
macro "c04_perm" : tactic =>
  `(tactic| (apply AlgoVerif.C04.perm_of_count; intro _ x;
             simp only [List.append_eq, List.count_append, List.count_cons, List.count_nil, List.count_reverse, List.count_singleton]; omega))

namespace Tree

mutual
def nodes : Tree K V → List (K × V)
  | .node k v _ cs => (k, v) :: nodesF cs
def nodesF : List (Tree K V) → List (K × V)
  | [] => []
  | t :: ts => nodes t ++ nodesF ts
end

/-- heap order (two premises, not one conjunction: a nested occurrence would cost the induction principle) -/
inductive Ord (cmp : K → K → Int) : Tree K V → Prop
  | node {k : K} {v : V} {d : Nat} {cs : List (Tree K V)} :
    (∀ c ∈ cs, cmp k c.key ≤ 0) → (∀ c ∈ cs, Ord cmp c) → Ord cmp (.node k v d cs)

@[simp] theorem nodesF_nil : nodesF ([] : List (Tree K V)) = [] := by simp [nodesF]
@[simp] theorem nodesF_cons (t : Tree K V) (ts : List (Tree K V)) : nodesF (t :: ts) = nodes t ++ nodesF ts := by
  simp [nodesF]

theorem nodes_eq (t : Tree K V) : nodes t = (t.key, t.val) :: nodesF t.children := by
  cases t; simp [nodes, key, val, children]

theorem nodesF_eq_flatMap (a : List (Tree K V)) : nodesF a = a.flatMap nodes := by
  induction a with
  | nil => rfl
  | cons t ts ih => rw [nodesF_cons, ih, List.flatMap_cons]

theorem nodesF_append (a b : List (Tree K V)) : nodesF (a ++ b) = nodesF a ++ nodesF b := by
  simp only [nodesF_eq_flatMap, List.flatMap_append]

theorem nodesF_perm {a b : List (Tree K V)} (h : a.Perm b) : (nodesF a).Perm (nodesF b) := by
  simp only [nodesF_eq_flatMap]; exact h.flatMap_right nodes

theorem nodesF_reverse (a : List (Tree K V)) : (nodesF a.reverse).Perm (nodesF a) :=
  nodesF_perm (List.reverse_perm a)

theorem nodesF_eq_nil (a : List (Tree K V)) : nodesF a = [] ↔ a = [] := by
  cases a with
  | nil => simp
  | cons t ts => simp [nodes_eq t]

theorem nodes_leaf (k : K) (v : V) : nodes (leaf k v) = [(k, v)] := by simp [leaf, nodes]

theorem nodes_link (c p : Tree K V) : (nodes (link c p)).Perm (nodes p ++ nodes c) := by
  cases p with
  | node k v d cs =>
    simp only [link, nodes, nodesF_cons, List.cons_append]
    exact (List.perm_cons _).mpr List.perm_append_comm

theorem key_link (c p : Tree K V) : (link c p).key = p.key := by cases p; rfl
theorem val_link (c p : Tree K V) : (link c p).val = p.val := by cases p; rfl
theorem deg_link (c p : Tree K V) : (link c p).deg = p.deg + 1 := by cases p; rfl

theorem Ord_leaf (cmp : K → K → Int) (k : K) (v : V) : Ord cmp (leaf k v) :=
  .node (fun _ h => nomatch h) (fun _ h => nomatch h)

theorem Ord_link {cmp : K → K → Int} (c p : Tree K V) (hc : Ord cmp c) (hp : Ord cmp p) (h : cmp p.key c.key ≤ 0) :
    Ord cmp (link c p) := by
  cases hp with
  | node h1 h2 => exact .node (List.forall_mem_cons.mpr ⟨h, h1⟩) (List.forall_mem_cons.mpr ⟨hc, h2⟩)

theorem Ord_children {cmp : K → K → Int} (t : Tree K V) (h : Ord cmp t) : ∀ c ∈ t.children, Ord cmp c := by
  cases h with
  | node _ h2 => exact h2

theorem key_le_nodes {cmp : K → K → Int} (hc : LawfulCmp cmp) (t : Tree K V) (h : Ord cmp t) :
    ∀ p ∈ nodes t, cmp t.key p.1 ≤ 0 := by
  induction h with
  | node h1 _ ih =>
    intro p hp
    rw [nodes, List.mem_cons, nodesF_eq_flatMap, List.mem_flatMap] at hp
    rcases hp with rfl | ⟨c, hc', hpc⟩
    · exact hc.refl _
    · exact hc.trans _ _ _ (h1 c hc') (ih c hc' p hpc)

mutual
theorem any_eq (p : K → V → Bool) : ∀ (t : Tree K V), any p t = (nodes t).any (fun q => p q.1 q.2)
  | .node k v d cs => by simp [any, nodes, anyF_eq p cs]
theorem anyF_eq (p : K → V → Bool) : ∀ (ts : List (Tree K V)), anyF p ts = (nodesF ts).any (fun q => p q.1 q.2)
  | [] => by simp [anyF]
  | t :: ts => by simp [anyF, any_eq p t, anyF_eq p ts]
end

mutual
/-- a tree whose root has `degree` children of degrees `degree-1, …, 0`, each again such a tree -/
def Binom : Tree K V → Prop
  | .node _ _ d cs => BinomF d cs
def BinomF : Nat → List (Tree K V) → Prop
  | 0, [] => True
  | d + 1, c :: cs => c.deg = d ∧ Binom c ∧ BinomF d cs
  | 0, _ :: _ => False
  | _ + 1, [] => False
end

theorem Binom_leaf (k : K) (v : V) : Binom (leaf k v) := by simp [leaf, Binom, BinomF]

theorem Binom_link (c p : Tree K V) (hc : Binom c) (hp : Binom p) (h : c.deg = p.deg) : Binom (link c p) := by
  cases p with
  | node k v d cs =>
    simp only [link, Binom, BinomF]
    exact ⟨h, hc, hp⟩

theorem BinomF_all : ∀ (d : Nat) (cs : List (Tree K V)), BinomF d cs → ∀ c ∈ cs, Binom c
  | 0, [], _, c, hc => by cases hc
  | d + 1, x :: cs, h, c, hc => by
    simp only [BinomF] at h
    rcases List.mem_cons.mp hc with rfl | hc
    · exact h.2.1
    · exact BinomF_all d cs h.2.2 c hc
  | 0, _ :: _, h, _, _ => by simp [BinomF] at h
  | _ + 1, [], h, _, _ => by simp [BinomF] at h

theorem Binom_children (t : Tree K V) (h : Binom t) : ∀ c ∈ t.children, Binom c := by
  cases t with
  | node k v d cs => exact BinomF_all d cs h

mutual
theorem Binom_size : ∀ (t : Tree K V), Binom t → (nodes t).length = 2 ^ t.deg
  | .node k v d cs, h => by
    have := BinomF_size d cs h
    simp only [nodes, List.length_cons, deg]
    omega
theorem BinomF_size : ∀ (d : Nat) (cs : List (Tree K V)), BinomF d cs → (nodesF cs).length + 1 = 2 ^ d
  | 0, [], _ => by simp
  | d + 1, c :: cs, h => by
    simp only [BinomF] at h
    have h1 := Binom_size c h.2.1
    have h2 := BinomF_size d cs h.2.2
    rw [h.1] at h1
    simp only [nodesF_cons, List.length_append, h1, Nat.pow_succ]
    omega
  | 0, _ :: _, h => by simp [BinomF] at h
  | _ + 1, [], h => by simp [BinomF] at h
end

end Tree
open Tree
variable {cmp : K → K → Int}

/-- what every tree of a binomial heap, and of a Fibonacci heap (`heap/fibonacci.go` has no `DecreaseKey`, so no
tree ever loses a child), is: heap ordered, and a binomial tree -/
def Good (cmp : K → K → Int) (t : Tree K V) : Prop := Ord cmp t ∧ Binom t

theorem Good_leaf (k : K) (v : V) : Good cmp (leaf k v) := ⟨Ord_leaf cmp k v, Binom_leaf k v⟩

theorem Good_link {c p : Tree K V} (hc : Good cmp c) (hp : Good cmp p) (hd : c.deg = p.deg) (h : cmp p.key c.key ≤ 0) :
    Good cmp (link c p) :=
  ⟨Ord_link c p hc.1 hp.1 h, Binom_link c p hc.2 hp.2 hd⟩

theorem Good_children {t : Tree K V} (h : Good cmp t) : ∀ c ∈ t.children, Good cmp c :=
  fun c hc => ⟨Ord_children t h.1 c hc, Binom_children t h.2 c hc⟩

/-- a root that is before all roots: the one `findExt` picks in the binomial heap, `h.ext` in the Fibonacci heap -/
theorem ext_extremal (hc : LawfulCmp cmp) (head : List (Tree K V)) (hord : ∀ t ∈ head, Ord cmp t)
    (e : Tree K V) (hmin : ∀ t ∈ head, cmp e.key t.key ≤ 0) : Extremal cmp (nodesF head) e.key := by
  intro p hp
  rw [nodesF_eq_flatMap, List.mem_flatMap] at hp
  obtain ⟨t, ht, hpt⟩ := hp
  exact hc.trans _ _ _ (hmin t ht) (key_le_nodes hc t (hord t ht) p hpt)

theorem isEmpty_nodesF (ts : List (Tree K V)) : ts.isEmpty = (nodesF ts).isEmpty := by
  cases ts with
  | nil => simp
  | cons t ts => simp [nodes_eq t]

/-- `ContainsKey` / `ContainsValue` of both heaps: a nil test on the root list, then the traversal -/
theorem anyRoots_eq (p : K → V → Bool) (ts : List (Tree K V)) :
    (if ts.isEmpty then false else anyF p ts) = (nodesF ts).any (fun q => p q.1 q.2) := by
  rw [anyF_eq]
  cases ts <;> simp

theorem nodesF_split (b a : List (Tree K V)) (e : Tree K V) :
    (nodesF (b ++ e :: a)).Perm ((e.key, e.val) :: (nodesF (b ++ a) ++ nodesF e.children)) := by
  simp only [nodesF_append, nodesF_cons, nodes_eq e]
  c04_perm

end AlgoVerif.C04
