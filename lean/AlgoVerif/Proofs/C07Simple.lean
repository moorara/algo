import AlgoVerif.Proofs.C07Basic
/-!
# C07 — Shuffle and selection sort (`sort/shuffle.go`, `sort/selection.go`)
-/
namespace AlgoVerif.C07
open AlgoVerif

variable {α : Type} {cmp : α → α → Int}

theorem shuffleLoop_spec {choice : Nat → Int} :
    ∀ (f : Nat) (i : Nat) (a : Array α), i ≤ a.size → a.size < f + i → IntnContract choice a.size →
      ∃ a', shuffleLoop choice a.size f (i : Int) a = .ok a' ∧ a'.Perm a := by
  intro f
  induction f with
  | zero => intro i a _ h; omega
  | succ f ih =>
    intro i a hi hf hc
    unfold shuffleLoop
    by_cases hlt : i < a.size
    · have h1 : (i : Int) < a.size := by omega
      have h2 : ¬ ((a.size : Int) - i ≤ 0) := by omega
      simp only [h1, ↓reduceIte, h2, Int.toNat_natCast]
      obtain ⟨c0, c1⟩ := hc i hlt
      rw [swap_ok (by omega) (by omega) (by omega) (by omega)]
      simp only [ok_bind]
      rw [← Int.natCast_add_one]
      have hsz : (a.swap (i : Int).toNat ((i : Int) + choice i).toNat (by omega) (by omega)).size = a.size := by simp
      obtain ⟨a', g1, g2⟩ := ih (i+1) (a.swap (i : Int).toNat ((i : Int) + choice i).toNat (by omega) (by omega))
        (by omega) (by omega) (by rw [hsz]; exact hc)
      rw [hsz] at g1
      exact ⟨a', g1, g2.trans (Array.swap_perm _ _)⟩
    · have : ¬ (i : Int) < a.size := by omega
      simp only [this, ↓reduceIte]
      exact ⟨a, rfl, Array.Perm.refl _⟩

theorem shuffle_spec {choice : Nat → Int} (a : Array α) (hc : IntnContract choice a.size) :
    ∃ out, shuffle choice a = .ok out ∧ out.Perm a := by
  obtain ⟨out, h1, h2⟩ := shuffleLoop_spec (choice := choice) (a.size + 1) 0 a (Nat.zero_le _) (by omega) hc
  exact ⟨out, by simpa [shuffle] using h1, h2⟩

theorem selMin_spec (tp : TotalPreorder cmp) (a : Array α) (i : Nat) :
    ∀ (f : Nat) (j m : Nat) (hm : m < a.size), i ≤ m → m < j → j ≤ a.size → a.size < f + j →
      AllSeg (fun x => cmp a[m] x ≤ 0) a i j →
      ∃ (m' : Nat) (hm' : m' < a.size), selMin cmp a a.size f (j : Int) (m : Int) = .ok (m' : Int) ∧ i ≤ m' ∧
        AllSeg (fun x => cmp a[m'] x ≤ 0) a i a.size := by
  intro f
  induction f with
  | zero => intro j m _ _ _ _ h; omega
  | succ f ih =>
    intro j m hm him hmj hj hf hmin
    unfold selMin
    split
    · have hj' : j < a.size := by omega
      rw [get_nat hj', get_nat hm]
      simp only [ok_bind]
      rw [← Int.natCast_add_one]
      split
      · next hc =>
        exact ih (j+1) j hj' (by omega) (by omega) (by omega) (by omega)
          ((hmin.imp fun _ h => tp.trans _ _ _ (TotalPreorder.le_of_lt hc) h).append (.single fun _ => tp.refl _))
      · next hc =>
        exact ih (j+1) m hm him (by omega) (by omega) (by omega) (hmin.append (.single fun _ => tp.le_of_not_lt hc))
    · obtain rfl : j = a.size := by omega
      exact ⟨m, hm, rfl, him, hmin⟩

structure SelInv (cmp : α → α → Int) (a : Array α) (i : Nat) : Prop where
  sorted : SortedSeg cmp a 0 i
  below : ∀ (p q : Nat), (hp : p < i) → (hiq : i ≤ q) → (hq : q < a.size) → cmp (a[p]'(by omega)) a[q] ≤ 0

theorem selLoop_spec (tp : TotalPreorder cmp) :
    ∀ (f : Nat) (i : Nat) (a : Array α), i ≤ a.size → a.size < f + i → SelInv cmp a i →
      ∃ a', selLoop cmp a.size f (i : Int) a = .ok a' ∧ a'.Perm a ∧ SortedSeg cmp a' 0 a'.size := by
  intro f
  induction f with
  | zero => intro i a _ h; omega
  | succ f ih =>
    intro i a hi hf inv
    unfold selLoop
    by_cases hlt : i < a.size
    · have h1 : (i : Int) < a.size := by omega
      simp only [h1, ↓reduceIte]
      rw [← Int.natCast_add_one]
      obtain ⟨m, hm, hm1, hm2, hm4⟩ := selMin_spec tp a i (Int.toNat (a.size : Int) + 1) (i+1) i hlt
        (Nat.le_refl _) (by omega) (by omega) (by omega) (.single fun _ => tp.refl _)
      rw [hm1]
      simp only [ok_bind]
      rw [swap_nat hlt hm]
      simp only [ok_bind]
      -- the minimum `a[m]` of `a[i..)` goes to `i`; the swap rearranges `a[i..)`, and being `≥` a fixed
      -- element (`a[m]`, or one before `i`) is a predicate on that segment
      have S : SegStep a (a.swap i m hlt hm) i a.size := SegStep.swap hlt hm (Nat.le_refl _) hlt hm2 hm
      have inv' : SelInv cmp (a.swap i m hlt hm) (i+1) := by
        constructor
        · intro p q _ hpq hq hq'
          rw [S.frame p (Or.inl (by omega)) (by omega) (by omega)]
          by_cases hqi : q = i
          · rw [getElem_swap_eq_left hqi]
            exact inv.below p m (by omega) hm2 hm
          · rw [S.frame q (Or.inl (by omega)) (by omega) hq']
            exact inv.sorted p q (Nat.zero_le _) hpq (by omega) (by omega)
        · intro p q hp hq hq'
          by_cases hpi : p = i
          · rw [getElem_swap_eq_left hpi]
            exact S.pres _ hm4 q (by omega) (S.size ▸ hq') hq'
          · rw [S.frame p (Or.inl (by omega)) (by omega) (by omega)]
            exact S.pres (fun x => cmp (a[p]'(by omega)) x ≤ 0) (fun q h1 _ hq => inv.below p q (by omega) h1 hq)
              q (by omega) (S.size ▸ hq') hq'
      obtain ⟨a', g1, g2, g3⟩ := ih (i+1) _ (by rw [S.size]; omega) (by rw [S.size]; omega) inv'
      rw [S.size] at g1
      exact ⟨a', g1, g2.trans S.perm, g3⟩
    · have : ¬ (i : Int) < a.size := by omega
      simp only [this, ↓reduceIte]
      have : i = a.size := by omega
      subst this
      exact ⟨a, rfl, Array.Perm.refl _, inv.sorted⟩

theorem selection_spec (tp : TotalPreorder cmp) (a : Array α) :
    ∃ out, selection cmp a = .ok out ∧ IsSortOf cmp out a := by
  obtain ⟨out, h1, h2, h3⟩ := selLoop_spec tp (a.size + 1) 0 a (Nat.zero_le _) (by omega)
    ⟨by intro p q _ _ h; omega, by intro p q hp; omega⟩
  exact ⟨out, by simpa [selection] using h1, isSortOf_of h3 h2⟩

end AlgoVerif.C07
