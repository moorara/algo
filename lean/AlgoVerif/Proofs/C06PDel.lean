import AlgoVerif.Proofs.C06PDelT
import AlgoVerif.Proofs.C06PRep
/-!
# C06 — Patricia deletion on the store: the two loops and the two halves of `remove`

On the path of the deletion the first loop runs to its end (`findLoop_plug`), the second one to the first link to the
removed leaf's node (`parentLoop_plug`).  `remove` then redirects the link to the leaf's parent (the referrer) to the
parent's other child (`contract_shape`) and, if the leaf's node is another one, lets the referrer take that node's place
(`rename_shape`); both are instances of `RepG.redirect`.  In between, the condition `Rep` puts on upward links fails
(the contraction lifts a subtree above the referrer).  It is not tracked: the surgery is done on `Shape`, `Rep` without that
condition, which the index invariants of the tree give back at the end (`Shape.toRep`).
-/
namespace AlgoVerif.C06
variable {V : Type}
open BitString (xbit Small)
open PT

namespace Patricia

/-- the direction the deletion loops take at a node with bit position `bp` -/
def dirM (key : Option BitString) (goRight : Bool) (bp : Nat) : Bool :=
  match key with
  | some k => xbit k (bp - 1)
  | none => goRight

theorem dirM_bit (key : Option BitString) (goRight : Bool) {bp : Nat} (h : 0 < bp) :
    (match key with
      | some k => k.bit bp
      | none => (pure goRight : Outcome Bool)) = .ok (dirM key goRight bp) := by
  cases key with
  | none => rfl
  | some k => simp [dirM, BitString.bit_ok_of_pos k h]

theorem findLoop_step {t : Patricia V} (key : Option BitString) (goRight : Bool) (f : Nat) (rp : Option Nat) {r n : Option Nat}
    {rn nn : PNode V} (hr : t.node r = .ok rn) (hn : t.node n = .ok nn) (hlt : rn.bp < nn.bp) :
    findLoop t key goRight (f + 1) rp r n =
      findLoop t key goRight f r n (link nn (dirM key goRight nn.bp)) := by
  cases key <;> simp [findLoop, hr, hn, hlt, dirM, link, BitString.bit_ok_of_pos _ (show 0 < nn.bp by omega)] <;> rfl

theorem parentLoop_step {t : Patricia V} (key : Option BitString) (goRight : Bool) (f : Nat) (np : Option Nat) {m n : Option Nat}
    {mn : PNode V} (hm : t.node m = .ok mn) (hne : m ≠ n) (hpos : 0 < mn.bp) :
    parentLoop t key goRight n (f + 1) np m =
      parentLoop t key goRight n f m (link mn (dirM key goRight mn.bp)) := by
  cases key <;> simp [parentLoop, hm, hne, dirM, link, BitString.bit_ok_of_pos _ hpos] <;> rfl

theorem Shape.lower {t : Patricia V} {T : PT V} {b b' : Nat} {p : Option Nat} (h : Shape t b p T) (hbb : b' ≤ b) :
    Shape t b' p T := by
  cases T with
  | leaf i k v => exact h
  | inner i bp l r =>
    obtain ⟨hp, n, hn, hbp, hb, hl, hr⟩ := h
    exact ⟨hp, n, hn, hbp, by omega, hl, hr⟩

/-- leaves that are not inner nodes of the tree they hang in point above it.  Below the root of the tree `remove` leaves,
the one such leaf is the root's thread (`DelPath.finish`): with `SelfBelow` and distinct leaves this is all `Shape.toRep` needs. -/
def UpOK (t : Patricia V) (T : PT V) (b : Nat) : Prop :=
  ∀ x ∈ leafIdx T, x ∉ inners T → ∃ nd, t.nodes[x]? = some nd ∧ nd.bp ≤ b

theorem UpOK.children {t : Patricia V} {i bp : Nat} {l r : PT V} {b : Nat} {n : PNode V}
    (h : UpOK t (.inner i bp l r) b) (hn : t.nodes[i]? = some n) (hbp : n.bp = bp) (hb : b < bp)
    (hs : SelfBelow (.inner i bp l r)) (hnd : (leafIdx (.inner i bp l r)).Nodup) : UpOK t l bp ∧ UpOK t r bp := by
  obtain ⟨_, hsl, hsr⟩ := hs
  simp only [leafIdx, List.nodup_append] at hnd
  obtain ⟨_, _, hdis⟩ := hnd
  constructor
  · intro x hx hxl
    by_cases hxi : x = i
    · subst hxi; exact ⟨n, hn, by omega⟩
    · by_cases hxr : x ∈ inners r
      · exact absurd rfl (hdis x hx x (mem_leafIdx_of_mem_inners hsr hxr))
      · obtain ⟨nd, h1, h2⟩ := h x (by simp [leafIdx, hx]) (by simp [inners, hxi, hxl, hxr])
        exact ⟨nd, h1, by omega⟩
  · intro x hx hxr
    by_cases hxi : x = i
    · subst hxi; exact ⟨n, hn, by omega⟩
    · by_cases hxl : x ∈ inners l
      · exact absurd rfl (hdis x (mem_leafIdx_of_mem_inners hsl hxl) x hx)
      · obtain ⟨nd, h1, h2⟩ := h x (by simp [leafIdx, hx]) (by simp [inners, hxi, hxl, hxr])
        exact ⟨nd, h1, by omega⟩

/-- the condition on upward links need not be tracked: where every node lies above its own thread, a thread to an inner
node of the tree is seen from a bit position at least that node's, and the other threads are those `UpOK` speaks of -/
theorem Shape.toRep {t : Patricia V} {T : PT V} {b : Nat} {p : Option Nat} (h : Shape t b p T) (hs : SelfBelow T)
    (hnd : (leafIdx T).Nodup) (hup : UpOK t T b) : Rep t b p T := by
  induction T generalizing b p with
  | leaf i k v =>
    obtain ⟨hp, n, hn, -, hk, hv⟩ := h
    obtain ⟨nd, hnd', hle⟩ := hup i (by simp [leafIdx]) (by simp [inners])
    cases hn.symm.trans hnd'
    exact ⟨hp, n, hn, hle, hk, hv⟩
  | inner i bp l r ihl ihr =>
    obtain ⟨hp, n, hn, hbp, hb, hl, hr⟩ := h
    obtain ⟨hul, hur⟩ := hup.children hn hbp hb hs hnd
    have hnd' := List.nodup_append.mp hnd
    exact ⟨hp, n, hn, hbp, hb, ihl hl hs.2.1 hnd'.1 hul, ihr hr hs.2.2 hnd'.2.1 hur⟩

theorem Rep.step_node {t : Patricia V} {C : List (Step V)} {X : PT V} {a : Nat × Bool} {an : PNode V}
    (ha : t.nodes[a.1]? = some an) (h : Rep t an.bp (link an a.2) (plug C X)) :
    ∀ c ∈ C, ∃ n, t.nodes[c.i]? = some n ∧ n.bp = c.bp := by
  induction C generalizing a an with
  | nil => simp
  | cons s C ih =>
    obtain ⟨-, n, hn, hbp, -, hP, -⟩ := rep_fork.mp h
    intro c hc
    rcases List.mem_cons.mp hc with rfl | hc
    · exact ⟨n, hn, hbp⟩
    · exact ih (a := (s.i, s.d)) hn (hbp.symm ▸ hP) c hc

theorem findLoop_plug {t : Patricia V} (key : Option BitString) (goRight : Bool) {C : List (Step V)} {s : Step V} {n : Nat}
    {k : Key} {v : V} (hC : ∀ c ∈ C ++ [s], c.d = dirM key goRight c.bp) {a : Nat × Bool} {an : PNode V} {rp f : Nat}
    (ha : t.nodes[a.1]? = some an) (h : Rep t an.bp (link an a.2) (plug (C ++ [s]) (leaf n k v)))
    (hf : above t an.bp < f) :
    findLoop t key goRight f (some rp) (some a.1) (link an a.2) = .ok (some (endOwner a C).1, some s.i, some n) := by
  induction C generalizing a an rp f with
  | nil =>
    obtain ⟨rrn, f, rfl, hp, hrr, hbp, hb, hP, -, hf⟩ := Rep.fork_fuel (d := s.d) 1 h hf
    obtain ⟨nn, f, rfl, hp', hnn, hle, -, -⟩ := hP.leaf_fuel hf
    rw [hp, findLoop_step key goRight _ _ (node_some ha) (node_some hrr) hb, hbp, ← hC s (by simp), hp']
    simp only [findLoop, node_some hrr, node_some hnn, Outcome.ok_bind, Nat.not_lt.mpr hle, if_false, Outcome.pure_eq, endOwner]
  | cons c C ih =>
    obtain ⟨cn, f, rfl, hp, hcn, hbp, hb, hP, -, hf⟩ := Rep.fork_fuel (d := c.d) 1 h hf
    rw [hp, findLoop_step key goRight _ _ (node_some ha) (node_some hcn) hb, hbp, ← hC c (by simp)]
    exact ih (a := (c.i, c.d)) (fun c' hc' => hC c' (List.mem_cons_of_mem _ hc')) hcn hP hf

theorem parentLoop_plug {t : Patricia V} (key : Option BitString) (goRight : Bool) {n : Nat} {C : List (Step V)} {X : PT V}
    (hC : ∀ c ∈ C, c.d = dirM key goRight c.bp) (hne : ∀ c ∈ C, c.i ≠ n) (hX : X.idx = n) {a : Nat × Bool} {an : PNode V}
    {f : Nat} (ha : t.nodes[a.1]? = some an) (h : Rep t an.bp (link an a.2) (plug C X)) (hf : above t an.bp < f) :
    parentLoop t key goRight (some n) f (some a.1) (link an a.2) = .ok (some (endOwner a C).1) := by
  induction C generalizing a an f with
  | nil =>
    obtain ⟨f, rfl⟩ : ∃ f', f = f' + 1 := ⟨f - 1, by omega⟩
    rw [h.shape.idx_eq]
    simp [parentLoop, plug, hX, endOwner]
  | cons c C ih =>
    obtain ⟨cn, f, rfl, hp, hcn, hbp, hb, hP, -, hf⟩ := Rep.fork_fuel (d := c.d) 1 h hf
    rw [hp, parentLoop_step key goRight f _ (node_some hcn)
      (fun e => hne c (List.mem_cons_self ..) (Option.some.inj e)) (by omega), hbp, ← hC c (List.mem_cons_self ..)]
    exact ih (a := (c.i, c.d)) (fun c' hc' => hC c' (List.mem_cons_of_mem _ hc'))
      (fun c' hc' => hne c' (List.mem_cons_of_mem _ hc')) hcn hP hf

theorem contract_shape {t : Patricia V} {C : List (Step V)} {s : Step V} {n : Nat} {k : Key} {v : V} {a : Nat × Bool}
    {an an' : PNode V} (ha : t.nodes[a.1]? = some an) (h : Rep t an.bp (link an a.2) (plug (C ++ [s]) (leaf n k v)))
    (hnd : (a.1 :: inners (plug (C ++ [s]) (leaf n k v))).Nodup)
    (ha' : (setLink t (endOwner a C).1 (endOwner a C).2 (some s.O.idx)).nodes[a.1]? = some an') :
    Shape (setLink t (endOwner a C).1 (endOwner a C).2 (some s.O.idx)) an'.bp (link an' a.2) (plug C s.O) := by
  rw [plug_append] at h hnd
  have hr := redirect_setLink t (endOwner a C).1 (endOwner a C).2 (some s.O.idx)
  refine RepG.redirect (fun _ _ _ _ _ _ => trivial) ha h.shape hnd hr (fun en _ hF => ?_) ha'
  obtain ⟨-, rrn, -, -, hb, -, hO⟩ := repG_fork.mp (hF : Shape t en.bp _ (fork s.d s.i s.bp (leaf n k v) s.O))
  rw [hO.idx_eq] at hO
  exact hr.repG (fun _ _ _ _ _ _ => trivial) (fun hm => (endOwner_not_inner hnd).1 (mem_inners_fork.mpr (.inr (.inr hm))))
    (Shape.lower hO (Nat.le_of_lt hb))

/-- `r.bp = n.bp; r.left, r.right = n.left, n.right` -/
def recycle (t2 : Patricia V) (r : Nat) (nn' : PNode V) : Patricia V :=
  { t2 with nodes := t2.nodes.modify r fun x => { x with bp := nn'.bp, left := nn'.left, right := nn'.right } }

theorem recycle_nodes (t : Patricia V) (r : Nat) (Nn : PNode V) (j : Nat) :
    (recycle t r Nn).nodes[j]? =
      if r = j then (t.nodes[j]?).map (fun x => { x with bp := Nn.bp, left := Nn.left, right := Nn.right })
      else t.nodes[j]? := by
  simp [recycle, Array.getElem?_modify]

theorem Shape.recycle {t : Patricia V} {X : PT V} {b : Nat} {p : Option Nat} (h : Shape t b p X) {r : Nat}
    (hr : r ∉ inners X) (Nn : PNode V) : Shape (recycle t r Nn) b p X := by
  refine RepG.frame h (fun x hx y hy => ⟨y, ?_, rfl, rfl, rfl⟩) fun x _ y hy => ?_
  · rw [recycle_nodes, if_neg fun e : r = x => hr (e ▸ hx)]; exact hy
  · rw [recycle_nodes, hy]
    split
    · exact ⟨_, rfl, rfl, rfl, fun _ _ _ => trivial⟩
    · exact ⟨y, rfl, rfl, rfl, fun _ _ _ => trivial⟩

/-- the store after the link to the removed leaf's node has been redirected to the referrer `rr` and the referrer has
taken over that node's bit position and links -/
def replaced (t1 : Patricia V) (np : Nat) (gr2 : Bool) (rr : Nat) (Nn : PNode V) : Patricia V :=
  recycle (setLink t1 np gr2 (some rr)) rr Nn

theorem replaced_nodes (t1 : Patricia V) (np : Nat) (gr2 : Bool) (rr : Nat) (Nn : PNode V) (j : Nat) :
    (replaced t1 np gr2 rr Nn).nodes[j]? =
      if rr = j then ((setLink t1 np gr2 (some rr)).nodes[j]?).map
        (fun x => { x with bp := Nn.bp, left := Nn.left, right := Nn.right })
      else (setLink t1 np gr2 (some rr)).nodes[j]? :=
  recycle_nodes ..

theorem replaced_root (t1 : Patricia V) (np : Nat) (gr2 : Bool) (rr : Nat) (Nn : PNode V) :
    (replaced t1 np gr2 rr Nn).root = t1.root ∧ (replaced t1 np gr2 rr Nn).size = t1.size := by
  simp [replaced, recycle, (setLink_root t1 np gr2 (some rr)).1, (setLink_root t1 np gr2 (some rr)).2]

theorem replaced_self (t1 : Patricia V) (rr : Nat) (gr2 : Bool) (Nn : PNode V) :
    (replaced t1 rr gr2 rr Nn).nodes = (recycle t1 rr Nn).nodes := by
  apply Array.ext_getElem?
  intro j
  rw [replaced_nodes, setLink_nodes, recycle_nodes]
  by_cases h : rr = j
  · simp only [h, if_true]
    cases t1.nodes[j]? <;> cases gr2 <;> rfl
  · simp only [h, if_false]

theorem redirect_replaced (t1 : Patricia V) {np rr : Nat} (gr2 : Bool) (Nn : PNode V) (hne : np ≠ rr) :
    Redirect (recycle t1 rr Nn) (replaced t1 np gr2 rr Nn) (np, gr2) (some rr) := by
  intro j y hy
  obtain ⟨y', hy', hl⟩ := redirect_setLink (recycle t1 rr Nn) np gr2 (some rr) j y hy
  refine ⟨y', ?_, hl⟩
  rw [← hy', replaced_nodes, setLink_nodes, setLink_nodes, recycle_nodes]
  by_cases h1 : rr = j <;> by_cases h2 : np = j <;> simp [h1, h2]
  exact absurd (h2.trans h1.symm) hne

/-- the second half of `remove`: recycled first, `rr` is a copy of `n`; the link to `n` is then redirected to the copy -/
theorem rename_shape {u : Patricia V} {C1 : List (Step V)} {d : Bool} {n bp rr : Nat} {Y O : PT V} {a : Nat × Bool}
    {an an' Nn rrn : PNode V} (ha : u.nodes[a.1]? = some an)
    (h : Shape u an.bp (link an a.2) (plug C1 (fork d n bp Y O)))
    (hnd : (a.1 :: inners (plug C1 (fork d n bp Y O))).Nodup) (hra : rr ≠ a.1) (hri : rr ∉ inners (plug C1 (fork d n bp Y O)))
    (hNn : u.nodes[n]? = some Nn) (hrrn : u.nodes[rr]? = some rrn)
    (ha' : (replaced u (endOwner a C1).1 (endOwner a C1).2 rr Nn).nodes[a.1]? = some an') :
    Shape (replaced u (endOwner a C1).1 (endOwner a C1).2 rr Nn) an'.bp (link an' a.2) (plug C1 (fork d rr bp Y O)) := by
  have hne : (endOwner a C1).1 ≠ rr := fun e => by
    rcases endOwner_eq_or_mem a C1 with e' | e'
    · exact hra (e ▸ congrArg Prod.fst e')
    · exact hri (e ▸ (inners_plug_perm _ _).symm.subset (List.mem_append_left _ e'))
  have hn : n ∈ inners (plug C1 (fork d n bp Y O)) :=
    (inners_plug_perm _ _).symm.subset (List.mem_append_right _ (List.mem_append_left _ (mem_inners_fork.mpr (.inl rfl))))
  have hr := redirect_replaced u (endOwner a C1).2 Nn hne
  refine RepG.redirect (a := a) (fun _ _ _ _ _ _ => trivial) (t := recycle u rr Nn)
    (by rw [recycle_nodes, if_neg hra]; exact ha) (h.recycle hri Nn) hnd hr (fun en _ hG => ?_) ha'
  obtain ⟨-, Nn', hNn', hNbp, hgt, hY, hO⟩ := repG_fork.mp hG
  rw [recycle_nodes, if_neg fun e : rr = n => hri (e ▸ hn), hNn] at hNn'
  cases hNn'
  have hoX := (endOwner_not_inner hnd).1
  refine repG_fork.mpr ⟨rfl, { rrn with bp := Nn.bp, left := Nn.left, right := Nn.right }, ?_, hNbp, hgt,
    hr.repG (fun _ _ _ _ _ _ => trivial) (fun hm => hoX (mem_inners_fork.mpr (.inr (.inl hm)))) hY,
    hr.repG (fun _ _ _ _ _ _ => trivial) (fun hm => hoX (mem_inners_fork.mpr (.inr (.inr hm)))) hO⟩
  rw [replaced_nodes, if_pos rfl, setLink_nodes, if_neg hne, hrrn]; rfl

end Patricia
end AlgoVerif.C06
