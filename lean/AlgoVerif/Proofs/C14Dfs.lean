import AlgoVerif.Proofs.C14Basic
/-!
# C14 proofs — a proof rule for the recursive `traverseDFS`

`dfs_rule`: for visitors that never answer `false`, a well-formed graph, and an unvisited start vertex
with enough fuel, `dfs` returns `ok`, `StdPost` holds, and any client invariant (`Pre`/`Mid`/`Post`, about what
the visitor closures mutate) that is preserved by the four kinds of steps holds of the result.
-/
namespace AlgoVerif.C14

variable {σ : Type}

/-- `StdPost.reach` is stated with it (the white-path form: a newly visited
vertex is reached through vertices unvisited at entry); the clients here need plain reachability only and weaken it at
once (`Reach.of_white`). -/
def WhiteArc (g : Graph) (a : Array Bool) (p q : Nat) : Prop := g.HasArc p q ∧ ¬ Vis a q

theorem WhiteArc.mono {g : Graph} {a c : Array Bool} (h : ∀ x, Vis a x → Vis c x) {p q : Nat}
    (w : WhiteArc g c p q) : WhiteArc g a p q := ⟨w.1, fun hq => w.2 (h q hq)⟩

theorem Reach.of_white {g : Graph} {a : Array Bool} {u v : Nat} (h : Reach (WhiteArc g a) u v) :
    Reach g.HasArc u v := h.mono (fun _ _ w => w.1)

/-- facts about the `visited` slice between entry (`a`) and return (`a'`) of `traverseDFS(v, …)` -/
structure StdPost (g : Graph) (v : Nat) (a a' : Array Bool) : Prop where
  size : a'.size = g.n
  grows : ∀ x, Vis a x → Vis a' x
  self : Vis a' v
  cnt : cntF a' < cntF a
  reach : ∀ x, Vis a' x → ¬ Vis a x → Reach (WhiteArc g a) v x
  closed : ∀ x, Vis a' x → ¬ Vis a x → ∀ y, g.HasArc x y → Vis a' y

/-- the same inside the adjacency loop of `v`, after the arcs `done`, before `rest` -/
structure StdMid (g : Graph) (v : Nat) (a : Array Bool) (done rest : List Arc) (c : Array Bool) : Prop where
  adj : g.adj.getD v [] = done ++ rest
  size : c.size = g.n
  grows : ∀ x, Vis a x → Vis c x
  self : Vis c v
  cnt : cntF c < cntF a
  reach : ∀ x, Vis c x → ¬ Vis a x → Reach (WhiteArc g a) v x
  closed : ∀ x, Vis c x → ¬ Vis a x → x ≠ v → ∀ y, g.HasArc x y → Vis c y
  done : ∀ x ∈ done, Vis c x.to

section rule

variable (g : Graph) (hg : g.WF) (vis : Visitors σ) (hv : vis.AllTrue)
  (Pre : Nat → TState σ → Prop) (Post : Nat → TState σ → TState σ → Prop)
  (Mid : Nat → TState σ → List Arc → List Arc → TState σ → Prop)

include hg hv

theorem dfsLoop_rule (fuel : Nat) (v : Nat) (st : TState σ)
    (h_skip : ∀ done x rest cur, Mid v st done (x :: rest) cur →
        StdMid g v st.visited done (x :: rest) cur.visited → cur.visited[x.to]? = some true →
        Mid v st (done ++ [x]) rest cur)
    (h_call : ∀ done x rest cur, Mid v st done (x :: rest) cur →
        StdMid g v st.visited done (x :: rest) cur.visited → cur.visited[x.to]? = some false →
        Pre x.to ⟨cur.visited, (callE vis.edge v x.to x.e.w cur.s).1⟩ ∧
        ∀ cur', Post x.to ⟨cur.visited, (callE vis.edge v x.to x.e.w cur.s).1⟩ cur' →
          StdPost g x.to cur.visited cur'.visited → Mid v st (done ++ [x]) rest cur')
    (ih : ∀ w st0, Pre w st0 → st0.visited.size = g.n → st0.visited[w]? = some false →
        cntF st0.visited ≤ fuel →
        ∃ st', dfs g vis fuel w st0 = .ok st' ∧ Post w st0 st' ∧ StdPost g w st0.visited st'.visited)
    (hfuel : cntF st.visited ≤ fuel + 1) (cur : TState σ) (hm : Mid v st [] (g.adj.getD v []) cur)
    (hs : StdMid g v st.visited [] (g.adj.getD v []) cur.visited) :
    ∃ cur', dfsLoop (dfs g vis fuel) vis v (g.adj.getD v []) cur = .ok (cur', true) ∧
      Mid v st (g.adj.getD v []) [] cur' ∧ StdMid g v st.visited (g.adj.getD v []) [] cur'.visited := by
  -- `Mid` and `StdMid` also name the arcs still to come; these are determined by the arcs already handled
  have key := list_loop_inv (loop := dfsLoop (dfs g vis fuel) vis v) (ret := fun cur => (cur, true))
    (I := fun done cur => ∃ rest, Mid v st done rest cur ∧ StdMid g v st.visited done rest cur.visited)
    (fun _ => rfl) (g.adj.getD v []) (fun done x rest cur hadj ⟨rest0, hm, hs⟩ => ?_) cur ⟨_, hm, hs⟩
  · obtain ⟨cur', h1, rest, h2, h3⟩ := key
    obtain rfl : rest = [] := List.self_eq_append_right.1 h3.adj
    exact ⟨cur', h1, h2, h3⟩
  · obtain rfl : rest0 = x :: rest := List.append_cancel_left (hs.adj.symm.trans hadj)
    have hxmem : x ∈ g.adj.getD v [] := by rw [hs.adj]; simp
    have hxlt : x.to < cur.visited.size := by rw [hs.size]; exact hg.bound v x hxmem
    have harc : g.HasArc v x.to := Graph.HasArc.of_mem hxmem
    rcases vis_or_false hxlt with hvis | hunv
    · exact ⟨cur, by rw [dfsLoop, show cur.visited[x.to]? = some true from hvis], rest, h_skip done x rest cur hm hs hvis,
        { hs with
          adj := by rw [hs.adj]; simp
          done := List.forall_mem_append.2 ⟨hs.done, List.forall_mem_singleton.2 hvis⟩ }⟩
    · obtain ⟨hpre, hcont⟩ := h_call done x rest cur hm hs hunv
      have hcnt : cntF cur.visited ≤ fuel := by have := hs.cnt; omega
      obtain ⟨st1, hd, hpost, hstd⟩ :=
        ih x.to ⟨cur.visited, (callE vis.edge v x.to x.e.w cur.s).1⟩ hpre hs.size hunv hcnt
      refine ⟨st1, by simp only [dfsLoop, hunv, hv.edge, if_true, hd], rest, hcont st1 hpost hstd, ?_⟩
      exact
        { adj := by rw [hs.adj]; simp
          size := hstd.size
          grows := fun y hy => hstd.grows y (hs.grows y hy)
          self := hstd.grows v hs.self
          cnt := by
            have h5 : cntF st1.visited < cntF cur.visited := hstd.cnt
            have := hs.cnt; omega
          reach := by
            intro y hy hny
            by_cases hc : Vis cur.visited y
            · exact hs.reach y hc hny
            · have hw : WhiteArc g st.visited v x.to :=
                ⟨harc, fun h => not_vis_of_false hunv (hs.grows _ h)⟩
              exact Reach.head hw ((hstd.reach y hy hc).mono (fun _ _ w => w.mono hs.grows))
          closed := by
            intro y hy hny hyv z hz
            by_cases hc : Vis cur.visited y
            · exact hstd.grows z (hs.closed y hc hny hyv z hz)
            · exact hstd.closed y hy hc z hz
          done := List.forall_mem_append.2
            ⟨fun y h => hstd.grows _ (hs.done y h), List.forall_mem_singleton.2 hstd.self⟩ }

theorem dfs_rule
    (h_enter : ∀ v st, Pre v st → st.visited.size = g.n → st.visited[v]? = some false →
        Mid v st [] (g.adj.getD v []) ⟨st.visited.set! v true, (callV vis.pre v st.s).1⟩)
    (h_skip : ∀ v st done x rest cur, Mid v st done (x :: rest) cur →
        StdMid g v st.visited done (x :: rest) cur.visited → cur.visited[x.to]? = some true →
        Mid v st (done ++ [x]) rest cur)
    (h_call : ∀ v st done x rest cur, Mid v st done (x :: rest) cur →
        StdMid g v st.visited done (x :: rest) cur.visited → cur.visited[x.to]? = some false →
        Pre x.to ⟨cur.visited, (callE vis.edge v x.to x.e.w cur.s).1⟩ ∧
        ∀ cur', Post x.to ⟨cur.visited, (callE vis.edge v x.to x.e.w cur.s).1⟩ cur' →
          StdPost g x.to cur.visited cur'.visited → Mid v st (done ++ [x]) rest cur')
    (h_exit : ∀ v st done cur, Mid v st done [] cur → StdMid g v st.visited done [] cur.visited →
        Post v st ⟨cur.visited, (callV vis.post v cur.s).1⟩) :
    ∀ fuel v st, Pre v st → st.visited.size = g.n → st.visited[v]? = some false →
      cntF st.visited ≤ fuel →
      ∃ st', dfs g vis fuel v st = .ok st' ∧ Post v st st' ∧ StdPost g v st.visited st'.visited := by
  intro fuel
  induction fuel with
  | zero =>
    intro v st _ _ hunv hc
    exfalso
    have := cntF_set hunv
    omega
  | succ fuel ih =>
    intro v st hpre hsize hunv hc
    have hvlt : v < st.visited.size := (Array.getElem?_eq_some_iff.1 hunv).1
    have hvn : v < g.n := hsize ▸ hvlt
    have hm0 := h_enter v st hpre hsize hunv
    have hs0 : StdMid g v st.visited [] (g.adj.getD v []) (st.visited.set! v true) :=
      { adj := by simp
        size := by rw [size_set!]; exact hsize
        grows := fun x hx => vis_set_of_vis hx
        self := vis_set_self hvlt
        cnt := by have := cntF_set hunv; omega
        reach := by
          intro x hx hnx
          rcases vis_set.1 hx with ⟨rfl, _⟩ | h
          · exact .refl _
          · exact absurd h hnx
        closed := by
          intro x hx hnx hxv
          rcases vis_set.1 hx with ⟨rfl, _⟩ | h
          · exact absurd rfl hxv
          · exact absurd h hnx
        done := by simp }
    obtain ⟨cur', h1, h2, h3⟩ :=
      dfsLoop_rule g hg vis hv Pre Post Mid fuel v st (h_skip v st) (h_call v st) ih hc
        ⟨st.visited.set! v true, (callV vis.pre v st.s).1⟩ hm0 hs0
    have hpost := h_exit v st _ cur' h2 h3
    refine ⟨⟨cur'.visited, (callV vis.post v cur'.s).1⟩, ?_, hpost, ?_⟩
    · unfold dfs
      simp only [hvlt, if_true, hv.pre]
      rw [hg.adj_get hvn]
      simp only [h1]
    · exact
        { size := h3.size
          grows := h3.grows
          self := h3.self
          cnt := h3.cnt
          reach := h3.reach
          closed := by
            intro x hx hnx y hy
            by_cases hxv : x = v
            · subst hxv
              obtain ⟨a, ha, rfl⟩ := hy
              rw [h3.adj] at ha
              exact h3.done a (by simpa using ha)
            · exact h3.closed x hx hnx hxv y hy }

end rule

end AlgoVerif.C14
