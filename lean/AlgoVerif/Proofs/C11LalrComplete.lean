import AlgoVerif.Proofs.C11LalrLA
import AlgoVerif.Proofs.C11LalrValid
/-!
# C11 — every conflict-free table BUILT by the LALR(1) construction of the Model passes the completeness validator,
hence the driver on it accepts exactly `L(G)`

`superset_found`: for every LALR state `I` (a row of the table fill) and every item `it` of `c = CLOSURE(I)` with `X` after the
dot, `findSuperset(S, GOTO(I, X))` succeeds and the state it returns contains `it.next`.  The state with the same
core exists because the lookaheads are closed under GOTO (`ker_goto`); it has the *same core* — which
`findSuperset` insists on — because every kernel item has a lookahead (`la_exists`) and every item of the LR(0) closure
carries one in the LR(1) closure, and that is where productivity of the grammar is needed.

`built_complete_lalr`: `buildLALR g fuel = .ok b`, `b.table` conflict-free ⇒ `completeLR1OK g b = true`, for every
well-formed grammar whose non-terminals are all productive (`Productive g`: each derives a terminal string — without it
`findSuperset`, which insists on equal cores, can fail to find the target of a transition; see the example in
`Props/C11.lean`).  No assumption on the fuel: the theorem is conditional on the builder returning `.ok`.
-/
namespace AlgoVerif.C11.Lalr
open AlgoVerif AlgoVerif.Gram AlgoVerif.C11 AlgoVerif.C11.Spec AlgoVerif.C11.Built AlgoVerif.C11.BuiltComplete
  AlgoVerif.C11.Sound AlgoVerif.C11.Complete

section
variable {g g' : SGrammar} (hv : ValidG g) (ht : TermsListed g) (ha : augment g = Outcome.ok g')
  (hprod : Productive g) {fuel : Nat} {K1 : List (List Item)} (R : LalrRun g' fuel K1)
include hv ht ha hprod R

theorem superset_found {I c : List Item} (hI : I ∈ buildStateMap g'.start K1)
    (hc : (A1 g' fuel).closure I = Outcome.ok c) {it : Item} (hit : it ∈ c) {X : Sy}
    (hd : it.dotSym = some X) :
    ∃ (n : Nat) (K : List Item), findSuperset (buildStateMap g'.start K1) (advance c X) = (n : Int) ∧
      (buildStateMap g'.start K1)[n]? = some K ∧ it.next ∈ K := by
  -- the LR(0) state `s` whose kernel `I` is
  obtain ⟨s, Is, hIs, hImem⟩ := kernel_src (augOK_of_augment hv ha) R hI
  have hcmem := mem_auto_closure_iff hc
  have hitn : it.next ∈ advance c X := mem_advance.mpr ⟨it, hit, hd, rfl⟩
  obtain ⟨n, Kn, ⟨nextI, hgo, _, hKn, hsame⟩, hker⟩ := ker_goto hv ht ha R.toLaRun hIs
    (fun y hy => clo_mono (fun z hz => (hImem z).mp hz) ((hcmem y).mp hy)) (List.ne_nil_of_mem hitn)
  -- the candidate: the kernel of LR(0) state n
  obtain ⟨Kc, hKc, hKcmem⟩ := kernels_all R n Kn hKn
  have hsub : ∀ x ∈ advance c X, x ∈ Kc := fun x hx => (hKcmem x).mpr (hker x hx)
  have hcore : ∀ z, z ∈ coreOf Kc ↔ z ∈ coreOf (advance c X) := by
    intro z
    constructor
    · intro hz
      obtain ⟨w, hw, rfl⟩ := mem_coreOf.mp hz
      obtain ⟨k', a', hLA', rfl⟩ := (hKcmem w).mp hw
      have hk'mem : k' ∈ Kn := la_mem hKn hLA'
      have hk'none : k'.la = none := k0_la_none R.hK0 Kn (List.mem_of_getElem? hKn) k' hk'mem
      rw [core_withLa, core_of_none hk'none]
      -- k' is the advanced version of an item of the LR(0) closure of Is
      obtain ⟨j0, b, hj0none, hj0d, rfl, hb⟩ := goto_item_lift hv ht ha hprod
        (fun i hi => (statesOK_good (k0_ok (augOK_of_augment hv ha) R.hK0) s Is hIs i hi).1)
        (fun i hi => k0_la_none R.hK0 Is (List.mem_of_getElem? hIs) i hi)
        (seed1 := fun i => i ∈ I)
        (fun i hi => (la_exists hv ht ha R.toLaRun hprod s Is hIs i hi).imp fun a hLA => (hImem _).mpr ⟨i, a, hLA, rfl⟩)
        hgo ((hsame _).mp hk'mem)
      have hbc : withLa j0 b ∈ c := (hcmem _).mpr hb
      apply mem_coreOf.mpr
      refine ⟨(withLa j0 b).next, mem_advance.mpr ⟨withLa j0 b, hbc, hj0d, rfl⟩, ?_⟩
      show j0.next.core = j0.next
      exact core_of_none hj0none
    · intro hz
      obtain ⟨w, hw, rfl⟩ := mem_coreOf.mp hz
      exact mem_coreOf.mpr ⟨w, hsub w hw, rfl⟩
  obtain ⟨n2, K2, hn2, hK2, hsub2⟩ := findSuperset_found (List.ne_nil_of_mem hitn) hKc hsub hcore
  exact ⟨n2, K2, hn2, hK2, hsub2 _ hitn⟩

end

theorem built_complete_lalr (g : SGrammar) (hv : ValidG g) (ht : TermsListed g) (hprod : Productive g) (fuel : Nat)
    (b : Built) (hb : buildLALR g fuel = Outcome.ok b) (hcf : chkConflictFree b.table = true) :
    completeLR1OK g b = true := by
  obtain ⟨g', K, T, cl, hg', hK, hrows, rfl⟩ := buildLALR_ok hb
  simp only at hcf
  obtain ⟨R⟩ := lalrRun_of_ok hK
  have h := augOK_of_augment hv hg'
  have hL := augListed hv ht hg'
  have hAg : (A1 g' fuel).g = g' := rfl
  have hAk : (A1 g' fuel).kernel = true := rfl
  have hinitEq := initialItem_eq h hAg
  have hinit := isInitial_initialItem h hAg
  have hCK := lalrKernels_spec h hK
  have hS := stateMap_spec hinit hCK
  obtain ⟨hfill, hrel⟩ := lalrRows_spec hAg hrows
  have hdone := fun i I hI => (fillRel_done hfill).2 i I (Nat.zero_le i) hI
  have hclo : ∀ (i : Nat) (I c : List Item), (buildStateMap g'.start K)[i]? = some I →
      (A1 g' fuel).closure I = Outcome.ok c →
      (∀ it ∈ c, Good g' it) ∧ (∀ it ∈ c, it.la.isSome = true) ∧
        ClosedSet g' (nullableOf g') (firstEnv g' (nullableOf g')) c ∧ (∀ x ∈ I, x ∈ c) := by
    intro i I c hI hc
    obtain ⟨_, _, hgood⟩ := auto_closure_spec h hAg hc (statesOK_good hS i I hI)
    have hc' : closure g' (nullableOf g') (firstEnv g' (nullableOf g')) fuel I = Outcome.ok c := hc
    obtain ⟨hcl, hsub, _⟩ := closure_fix _ _ _ _ _ _ hc'
    refine ⟨hgood, ?_, hcl, hsub⟩
    apply closure_all (itemProp_some _ _ _) _ _ _ hc'
    intro x hx
    obtain ⟨s, Is, hIs, hKs⟩ := kernel_src h R (List.mem_of_getElem? hI)
    obtain ⟨k, a, _, rfl⟩ := (hKs x).mp hx
    rfl
  unfold completeLR1OK
  rw [hg']
  simp only [Bool.and_eq_true, beq_iff_eq]
  refine ⟨⟨⟨⟨⟨⟨⟨⟨⟨trivial, ?_⟩, ?_⟩, ?_⟩, ?_⟩, ?_⟩, ?_⟩, ?_⟩, hcf⟩, chkFresh_of_aug h⟩
  · exact nullable_closed g' hL.listed.heads
  · exact first_closed g' hL.listed _
  · unfold chkInitLR1
    obtain ⟨J0, rest, hKeq, h0, hr⟩ := hCK
    subst hKeq
    obtain ⟨_, tail, hSeq, _⟩ := stateMap_spec' hinit h0 hr
    have hI0 : (buildStateMap g'.start (J0 :: rest))[0]? = some (sortBy (cmpItem g'.start) J0) := by
      rw [hSeq]; simp
    obtain ⟨c, hc, _⟩ := hrel.2 0 _ hI0
    have : (A1 g' fuel).initialItem ∈ itemsAt cl 0 :=
      (itemsAt_rows hrel hI0 hc _).mpr ((hclo 0 _ c hI0 hc).2.2.2 _ ((mem_sortBy _ _ _).mpr h0.1))
    rw [hinitEq] at this
    simpa [startProd, mkAuto] using this
  · unfold chkAllLR1
    rw [List.all_eq_true]
    intro Ic hIc
    obtain ⟨i, hi⟩ := List.mem_iff_getElem?.mp hIc
    obtain ⟨I, c, hI, hc, rfl⟩ := rowsRel_state hrel hi
    rw [List.all_eq_true]
    intro it hit
    exact (hclo i I c hI hc).2.1 it ((mem_sortBy _ _ _).mp hit)
  · apply chkClosed_of
    intro Ic hIc
    obtain ⟨i, hi⟩ := List.mem_iff_getElem?.mp hIc
    obtain ⟨I, c, hI, hc, rfl⟩ := rowsRel_state hrel hi
    exact closedSet_congr (fun x => (mem_sortBy _ c x).symm) (hclo i I c hI hc).2.2.1
  all_goals
    have hst : ∀ (i : Nat) Ic, cl[i]? = some Ic → ∃ I c, (buildStateMap g'.start K)[i]? = some I ∧
        (A1 g' fuel).closure I = Outcome.ok c ∧ ∀ it ∈ Ic, it ∈ c ∧ Good g' it := by
      intro i Ic hi
      obtain ⟨I, c, hI, hc, rfl⟩ := rowsRel_state hrel hi
      exact ⟨I, c, hI, hc, fun it hit => ⟨(mem_sortBy _ _ _).mp hit, (hclo i I c hI hc).1 it ((mem_sortBy _ _ _).mp hit)⟩⟩
  · -- the superset search finds the kernel whose closure holds the advanced item
    refine chkAdvance_of_done (A := A1 g' fuel) h hL.listed.terms hL.bodies hst hdone ?_
    intro i I c it X J hI hc hitc hd _ hJ
    obtain rfl := kgoto_eq hAk hc hJ
    obtain ⟨n, Kf, hn, hKf, hnext⟩ := superset_found hv ht hg' hprod R (List.mem_of_getElem? hI) hc hitc hd
    obtain ⟨cn, hcn, _⟩ := hrel.2 n Kf hKf
    exact ⟨n, hn, (itemsAt_rows hrel hKf hcn _).mpr ((hclo n Kf cn hKf hcn).2.2.2 _ hnext)⟩
  · exact chkReduceComplete_of_done (A := A1 g' fuel) hst hdone _ (fun _ _ _ _ _ => rfl)

theorem built_complete_all (k : Kind) (g : SGrammar) (hv : ValidG g) (ht : TermsListed g)
    (hprod : k = .lalr → Productive g) (fuel : Nat) (b : Built) (hb : build k g fuel = .ok b)
    (hcf : chkConflictFree b.table = true) : completeOKFor k g b = true := by
  by_cases hk : k = .lalr
  · subst hk
    exact built_complete_lalr g hv ht (hprod rfl) fuel b hb hcf
  · exact built_complete k hk g hv ht fuel b hb hcf

theorem built_exact (k : Kind) (g : SGrammar) (hv : ValidG g) (ht : TermsListed g) (hprod : k = .lalr → Productive g)
    (fuel : Nat) (b : Built) (hb : build k g fuel = .ok b) (hcf : chkConflictFree b.table = true) (w : List String)
    (hend : endmarker ∉ w) : Language g w ↔ ∃ fuel' π root, parse b.table.toTbl fuel' w = .ok (.accept π root) :=
  exact_of_sound_complete (soundOK_build hv hb) (built_complete_all k g hv ht hprod fuel b hb hcf) w hend

end AlgoVerif.C11.Lalr
