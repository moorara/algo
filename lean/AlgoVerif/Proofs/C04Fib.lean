import AlgoVerif.Proofs.C04Tree
import AlgoVerif.Proofs.C04MaxDegree
import AlgoVerif.Proofs.C04Machine
/-!
# C04, Fibonacci heap: `consolidate` keeps the multiset, heap order and binomial shape, never indexes
`roots` out of range, never follows a stale pointer, terminates within its fuel, and leaves `h.ext` on a
root with an extremal key; refinement of the multiset Spec.
-/
namespace AlgoVerif.C04
variable {K V : Type} {cmp : K → K → Int}
open Tree

/-- the type of `Cons.ring`: the circular root list of `consolidate`, each root with the id that stands for its
pointer in `roots[]` and `h.ext` -/
abbrev Ring (K V : Type) := List (Nat × Tree K V)
def ids (r : Ring K V) : List Nat := r.map (·.1)
def trees (r : Ring K V) : List (Tree K V) := r.map (·.2)

theorem ring_split (r : Ring K V) (i : Nat) (e : Nat × Tree K V) (h : r[i]? = some e) :
    r.Perm (e :: ringFrom r i) := by
  obtain ⟨hi, he⟩ := List.getElem?_eq_some_iff.mp h
  unfold ringFrom
  conv => lhs; rw [← List.take_append_drop i r, List.drop_eq_getElem_cons hi, he]
  c04_perm

theorem filter_ne_perm (L : Ring K V) (hnd : (ids L).Nodup) (a : Nat) (t : Tree K V) (h : (a, t) ∈ L) :
    L.Perm ((a, t) :: L.filter (fun e => e.1 != a)) := by
  obtain ⟨s, u, rfl⟩ := List.append_of_mem h
  have hp := List.pairwise_map.mp hnd
  rw [List.pairwise_append, List.pairwise_cons] at hp
  obtain ⟨_, ⟨hu, _⟩, hs⟩ := hp
  -- the filter removes `(a, t)` and nothing else
  rw [List.filter_append, List.filter_cons_of_neg (by simp),
    List.filter_eq_self.mpr fun x hx => by simpa using hs x hx _ List.mem_cons_self,
    List.filter_eq_self.mpr fun y hy => by simpa using (hu y hy).symm]
  exact List.perm_middle

theorem link_step_perm (r : Ring K V) (hnd : (ids r).Nodup) (pw pl wid lid : Nat) (w l : Tree K V)
    (hw : r[pw]? = some (wid, w)) (hl : r[pl]? = some (lid, l)) (hne : wid ≠ lid) :
    r.Perm ((wid, w) :: (lid, l) :: (ringFrom r pw).filter (fun e => e.1 != lid)) := by
  have h1 := ring_split r pw _ hw
  have h2 := filter_ne_perm _ ((h1.map fun e : Nat × Tree K V => e.1).nodup_iff.mp hnd) lid l
    (h1.mem_iff.mp (List.mem_of_getElem? hl))
  rw [List.filter_cons_of_pos (by simpa using hne)] at h2
  exact h1.trans (h2.trans (List.Perm.swap _ _ _))

/-- invariant of `consolidate`; `B` is the multiset of all nodes -/
structure CInv (cmp : K → K → Int) (B : Bag K V) (st : Cons K V) : Prop where
  nodup : (ids st.ring).Nodup
  good : ∀ e ∈ st.ring, Good cmp e.2
  bag : (nodesF (trees st.ring)).Perm B
  table : ∀ d id, st.table[d]? = some (some id) → ∃ t, (id, t) ∈ st.ring ∧ t.deg = d
  ext : ∃ e t, st.ext = some e ∧ (e, t) ∈ st.ring
  /-- `len(roots) = maxDegree(n)` is above the degree of any tree that fits into `n` nodes -/
  size : ∀ d, 2 ^ d ≤ B.length → d < st.table.size

theorem CInv.deg_lt {B : Bag K V} {st : Cons K V} (h : CInv cmp B st)
    (e : Nat × Tree K V) (he : e ∈ st.ring) : e.2.deg < st.table.size := by
  apply h.size
  rw [← Binom_size e.2 (h.good e he).2, ← h.bag.length_eq]
  obtain ⟨s, t, hst⟩ := List.append_of_mem he
  rw [hst]
  simp only [trees, List.map_append, List.map_cons, nodesF_append, nodesF_cons, List.length_append]
  omega

theorem mem_unique {r : Ring K V} (hnd : (ids r).Nodup) {a : Nat} {t t' : Tree K V}
    (h : (a, t) ∈ r) (h' : (a, t') ∈ r) : t = t' := by
  have hp : r.Pairwise (fun x y => x.1 ≠ y.1) := List.pairwise_map.mp hnd
  have := List.Pairwise.forall_of_forall_of_flip (R := fun x y : Nat × Tree K V => x.1 = y.1 → x = y) (fun _ _ _ => rfl)
    (hp.imp fun hxy e => absurd e hxy) (hp.imp fun hxy e => absurd e.symm hxy) h h' rfl
  exact (Prod.mk.inj this).2

theorem ids_ne_of_pos_ne {r : Ring K V} (hnd : (ids r).Nodup) {i j : Nat} {a b : Nat × Tree K V}
    (ha : r[i]? = some a) (hb : r[j]? = some b) (hij : i ≠ j) : a.1 ≠ b.1 := by
  have hp := List.pairwise_iff_getElem.mp (List.pairwise_map.mp hnd)
  obtain ⟨hi, rfl⟩ := List.getElem?_eq_some_iff.mp ha
  obtain ⟨hj, rfl⟩ := List.getElem?_eq_some_iff.mp hb
  rcases Nat.lt_or_gt_of_ne hij with h | h
  · exact hp i j hi hj h
  · exact fun e => hp j i hj hi h e.symm

theorem findIdx_id {r : Ring K V} (hnd : (ids r).Nodup) {a : Nat} {t : Tree K V} (h : (a, t) ∈ r) :
    ∃ j, r.findIdx? (fun e => e.1 == a) = some j ∧ r[j]? = some (a, t) := by
  cases hfind : r.findIdx? (fun e => e.1 == a) with
  | none =>
    have := List.findIdx?_eq_none_iff.mp hfind (a, t) h
    simp at this
  | some j =>
    obtain ⟨hj, hpj, _⟩ := List.findIdx?_eq_some_iff_getElem.mp hfind
    have h1 : (r[j]).1 = a := by simpa using hpj
    have hmem : ((r[j]).1, (r[j]).2) ∈ r := List.getElem_mem hj
    rw [h1] at hmem
    exact ⟨j, rfl, by rw [List.getElem?_eq_getElem hj]; exact congrArg some (Prod.ext h1 (mem_unique hnd hmem h))⟩

theorem CInv.setTable {B : Bag K V} {st : Cons K V} (h : CInv cmp B st) (d : Nat)
    (v : Option Nat) (hv : ∀ id, v = some id → ∃ t, (id, t) ∈ st.ring ∧ t.deg = d) :
    CInv cmp B { st with table := st.table.setIfInBounds d v } := by
  refine ⟨h.nodup, h.good, h.bag, fun d' id hd => ?_, h.ext, fun d' hd => ?_⟩
  · by_cases hdd : d = d'
    · subst hdd
      rw [Array.getElem?_setIfInBounds_self] at hd
      split at hd
      · exact hv id (Option.some.inj hd)
      · cases hd
    · rw [Array.getElem?_setIfInBounds_ne hdd] at hd
      exact h.table d' id hd
  · rw [Array.size_setIfInBounds]
    exact h.size d' hd

theorem CInv.link {B : Bag K V} {st : Cons K V} (hinv : CInv cmp B st)
    (pw pl wid lid : Nat) (w l : Tree K V)
    (hw : st.ring[pw]? = some (wid, w)) (hl : st.ring[pl]? = some (lid, l)) (hne : wid ≠ lid)
    (hdeg : l.deg = w.deg) (hcmp : cmp w.key l.key ≤ 0) (hclear : st.table[w.deg]? = some none) :
    CInv cmp B { ring := (wid, Tree.link l w) :: (ringFrom st.ring pw).filter (fun e => e.1 != lid),
                 table := st.table,
                 ext := cutHead st.ring st.ext pl lid } ∧
      ((ringFrom st.ring pw).filter (fun e => e.1 != lid)).length + 2 = st.ring.length := by
  have hp := link_step_perm st.ring hinv.nodup pw pl wid lid w l hw hl hne
  generalize hoth : (ringFrom st.ring pw).filter (fun e => e.1 != lid) = others at hp ⊢
  have hwmem : (wid, w) ∈ st.ring := List.mem_of_getElem? hw
  have hlmem : (lid, l) ∈ st.ring := List.mem_of_getElem? hl
  have hnd2 : (ids ((wid, w) :: (lid, l) :: others)).Nodup :=
    (hp.map fun e : Nat × Tree K V => e.1).nodup_iff.mp hinv.nodup
  simp only [ids, List.map_cons, List.nodup_cons, List.mem_cons, not_or] at hnd2
  have hsub : ∀ e ∈ others, e ∈ st.ring := fun e he =>
    hp.mem_iff.mpr (List.mem_cons_of_mem _ (List.mem_cons_of_mem _ he))
  have hcase : ∀ e ∈ st.ring, e = (wid, w) ∨ e = (lid, l) ∨ e ∈ others := fun e he => by
    simpa only [List.mem_cons] using hp.mem_iff.mp he
  have hkeep : ∀ a t, (a, t) ∈ st.ring → a ≠ lid → ∃ t', (a, t') ∈ (wid, Tree.link l w) :: others := by
    intro a t hat hal
    rcases hcase _ hat with h | h | h
    · cases h
      exact ⟨Tree.link l w, List.mem_cons_self⟩
    · cases h
      exact absurd rfl hal
    · exact ⟨t, List.mem_cons_of_mem _ h⟩
  refine ⟨⟨?_, ?_, ?_, ?_, ?_, hinv.size⟩, hp.length_eq.symm⟩
  · simp only [ids, List.map_cons, List.nodup_cons]
    exact ⟨hnd2.1.2, hnd2.2.2⟩
  · exact List.forall_mem_cons.mpr
      ⟨Good_link (hinv.good _ hlmem) (hinv.good _ hwmem) hdeg hcmp, fun e he => hinv.good e (hsub e he)⟩
  · refine List.Perm.trans ?_ hinv.bag
    refine List.Perm.trans ?_ (nodesF_perm (hp.map (fun e : Nat × Tree K V => e.2))).symm
    simp only [trees, List.map_cons, nodesF_cons]
    exact (List.Perm.append_right _ (nodes_link l w)).trans (by c04_perm)
  · intro d id hd
    obtain ⟨t, ht, rfl⟩ := hinv.table d id hd
    rcases hcase _ ht with h | h | h
    · cases h
      exact nomatch hclear.symm.trans hd
    · cases h
      rw [← hdeg] at hclear
      exact nomatch hclear.symm.trans hd
    · exact ⟨t, List.mem_cons_of_mem _ h, rfl⟩
  · obtain ⟨e0, t0, he0, hmem0⟩ := hinv.ext
    have hlen : 2 ≤ st.ring.length := by rw [hp.length_eq]; simp
    unfold cutHead
    rw [if_neg (by omega)]
    by_cases hel : st.ext = some lid
    · rw [if_pos hel]
      unfold ringNext
      have hpos : (pl + 1) % st.ring.length < st.ring.length := Nat.mod_lt _ (by omega)
      obtain ⟨e1, he1⟩ : ∃ e1, st.ring[(pl + 1) % st.ring.length]? = some e1 :=
        ⟨_, List.getElem?_eq_getElem hpos⟩
      have hpl : pl < st.ring.length := (List.getElem?_eq_some_iff.mp hl).1
      have hneq : (pl + 1) % st.ring.length ≠ pl := by
        intro h
        by_cases hlast : pl + 1 = st.ring.length
        · rw [hlast, Nat.mod_self] at h; omega
        · rw [Nat.mod_eq_of_lt (by omega)] at h; omega
      have hid : e1.1 ≠ lid := ids_ne_of_pos_ne hinv.nodup he1 hl hneq
      obtain ⟨t', ht'⟩ := hkeep e1.1 e1.2 (List.mem_of_getElem? he1) hid
      exact ⟨e1.1, t', by simp [he1], ht'⟩
    · rw [if_neg hel]
      have : e0 ≠ lid := fun h => hel (by rw [he0, h])
      obtain ⟨t', ht'⟩ := hkeep e0 t0 hmem0 this
      exact ⟨e0, t', he0, ht'⟩

/-- what the inner loop of `consolidate`, started in `st` at position `i`, returns -/
abbrev InnerPost (cmp : K → K → Int) (B : Bag K V) (st : Cons K V) (i : Nat) (o : Outcome (Cons K V × Nat)) : Prop :=
  ∃ st' i', o = .ok (st', i') ∧ CInv cmp B st' ∧ i' < st'.ring.length ∧
    (∃ xid x, st'.ring[i']? = some (xid, x) ∧
      (st'.table[x.deg]? = some none ∨ st'.table[x.deg]? = some (some xid))) ∧
    ((st' = st ∧ i' = i) ∨ (i' = 0 ∧ st'.ring.length < st.ring.length))

theorem inner_spec (hc : LawfulCmp cmp) (B : Bag K V) :
    ∀ (fuel : Nat) (st : Cons K V) (i : Nat), st.ring.length + 1 ≤ fuel → CInv cmp B st → i < st.ring.length →
      InnerPost cmp B st i (Cons.inner cmp fuel st i) := by
  intro fuel
  induction fuel with
  | zero => intro st i h; omega
  | succ fuel ih =>
    intro st i hfuel hinv hi
    obtain ⟨⟨xid, x⟩, hx⟩ : ∃ e, st.ring[i]? = some e := ⟨_, List.getElem?_eq_getElem hi⟩
    have hxmem : (xid, x) ∈ st.ring := List.mem_of_getElem? hx
    have hdlt : x.deg < st.table.size := hinv.deg_lt (xid, x) hxmem
    obtain ⟨c, hcell⟩ : ∃ c, st.table[x.deg]? = some c := ⟨_, Array.getElem?_eq_getElem hdlt⟩
    unfold Cons.inner
    simp only [hx, hcell]
    cases c with
    | none => exact ⟨st, i, rfl, hinv, hi, ⟨xid, x, hx, Or.inl hcell⟩, Or.inl ⟨rfl, rfl⟩⟩
    | some yid =>
      by_cases hyx : yid = xid
      · simp only [hyx, if_true]
        exact ⟨st, i, rfl, hinv, hi, ⟨xid, x, hx, Or.inr (by rw [hcell, hyx])⟩, Or.inl ⟨rfl, rfl⟩⟩
      · simp only [hyx, if_false]
        obtain ⟨y, hymem, hydeg⟩ := hinv.table x.deg yid hcell
        obtain ⟨j, hfind, hyj⟩ := findIdx_id hinv.nodup hymem
        simp only [hfind, hyj]
        have hclr := hinv.setTable x.deg none fun _ h => nomatch h
        have hnil := Array.getElem?_setIfInBounds_self_of_lt (a := (none : Option Nat)) hdlt
        -- after the link the loop starts again at the front of a ring that is one root shorter
        have hlink : ∀ (S : Cons K V) (n : Nat), CInv cmp B S ∧ n + 2 = st.ring.length → S.ring.length = n + 1 →
            InnerPost cmp B st i (Cons.inner cmp fuel S 0) := by
          intro S n ⟨hS, hlen⟩ hn
          obtain ⟨st', i', hrun, hinv', hi', hexit, hpos⟩ := ih S 0 (by omega) hS (by omega)
          refine ⟨st', i', hrun, hinv', hi', hexit, Or.inr ?_⟩
          rcases hpos with ⟨rfl, h2⟩ | ⟨h1, h2⟩
          · exact ⟨h2, by omega⟩
          · exact ⟨h1, by omega⟩
        by_cases hgt : cmp x.key y.key > 0
        · simp only [hgt, if_true]
          exact hlink _ _ (hclr.link j i yid xid y x hyj hx hyx hydeg.symm (hc.sign _ _ (by omega))
            (by rw [hydeg]; exact hnil)) rfl
        · simp only [hgt, if_false]
          exact hlink _ _ (hclr.link i j xid yid x y hx hyj (fun h => hyx h.symm) hydeg (by omega) hnil) rfl

def Registered (st : Cons K V) (j : Nat) : Prop :=
  ∃ id t, st.ring[j]? = some (id, t) ∧ st.table[t.deg]? = some (some id)

/-- `M` is the number of roots at the start: it bounds the ring, which only gets shorter, and the measure is
`length * (M + 1) + (length - i)` — an iteration moves `i` on, or links and restarts at `i = 0 < M + 1` on a shorter
ring. -/
theorem outer_spec (hc : LawfulCmp cmp) (B : Bag K V) (M : Nat) :
    ∀ (fuel : Nat) (st : Cons K V) (i : Nat), CInv cmp B st → i < st.ring.length →
      (∀ j, j < i → Registered st j) → st.ring.length ≤ M →
      st.ring.length * (M + 1) + (st.ring.length - i) ≤ fuel →
      ∃ st', Cons.outer cmp fuel st i = .ok st' ∧ CInv cmp B st' ∧ (∀ j, j < st'.ring.length → Registered st' j) := by
  intro fuel
  induction fuel with
  | zero =>
    intro st i _ hi _ _ hf
    have : 1 ≤ st.ring.length * (M + 1) := Nat.mul_pos (by omega) (by omega)
    omega
  | succ fuel ih =>
    intro st i hinv hi hreg hM hfuel
    obtain ⟨st1, i1, hrun, hinv1, hi1, ⟨xid, x, hx, hexit⟩, hpos⟩ :=
      inner_spec hc B (st.ring.length + 1) st i (Nat.le_refl _) hinv hi
    unfold Cons.outer
    rw [hrun, obind_ok]
    simp only [hx]
    have hxmem : (xid, x) ∈ st1.ring := List.mem_of_getElem? hx
    have hdlt : x.deg < st1.table.size := hinv1.deg_lt (xid, x) hxmem
    rw [if_pos hdlt]
    have hinv2 := hinv1.setTable x.deg (some xid) fun id h => by
      cases h
      exact ⟨x, hxmem, rfl⟩
    have hreg2 : ∀ j, j < i1 + 1 → Registered { st1 with table := st1.table.setIfInBounds x.deg (some xid) } j := by
      intro j hj
      by_cases hji : j = i1
      · subst hji
        exact ⟨xid, x, hx, Array.getElem?_setIfInBounds_self_of_lt hdlt⟩
      · rcases hpos with ⟨rfl, rfl⟩ | ⟨h1, _⟩
        · obtain ⟨id, t, hjt, htab⟩ := hreg j (by omega)
          refine ⟨id, t, hjt, ?_⟩
          by_cases hdd : x.deg = t.deg
          · -- the inner loop returns with `roots[x.degree]` nil or `x`, and `t` is another root
            exfalso
            rw [← hdd] at htab
            rcases hexit with h | h
            · cases h.symm.trans htab
            · cases h.symm.trans htab
              exact ids_ne_of_pos_ne hinv.nodup hjt hx hji rfl
          · rw [Array.getElem?_setIfInBounds_ne hdd]
            exact htab
        · omega
    by_cases hnext : i1 + 1 < st1.ring.length
    · simp only [hnext, if_true]
      have hdec : st1.ring.length ≤ st.ring.length ∧
          st1.ring.length * (M + 1) + (st1.ring.length - (i1 + 1)) ≤ fuel := by
        rcases hpos with ⟨rfl, rfl⟩ | ⟨_, h2⟩
        · omega
        · have hm := Nat.mul_le_mul_right (M + 1) (Nat.succ_le_of_lt h2)
          rw [Nat.succ_mul] at hm
          omega
      exact ih _ (i1 + 1) hinv2 hnext hreg2 (Nat.le_trans hdec.1 hM) hdec.2
    · simp only [hnext, if_false]
      exact ⟨_, rfl, hinv2, fun j hj => hreg2 j (by simp only [] at hj; omega)⟩

theorem lookup_of_mem {r : Ring K V} (hnd : (ids r).Nodup) {a : Nat} {t : Tree K V} (h : (a, t) ∈ r) :
    lookup r a = some t := by
  obtain ⟨j, hj, hjt⟩ := findIdx_id hnd h
  rw [lookup, List.find?_eq_bind_findIdx?_getElem?, hj, Option.bind_some, hjt]
  rfl

theorem pickLoop_spec (hc : LawfulCmp cmp) (r : Ring K V) (hnd : (ids r).Nodup) :
    ∀ (l : List (Option Nat)) (a : Nat) (ta : Tree K V), (∀ id, some id ∈ l → ∃ t, (id, t) ∈ r) → (a, ta) ∈ r →
      ∃ e te, pickLoop cmp r l (some a) = .ok (some e) ∧ (e, te) ∈ r ∧ cmp te.key ta.key ≤ 0 ∧
        (∀ id t, some id ∈ l → (id, t) ∈ r → cmp te.key t.key ≤ 0) := by
  intro l
  induction l with
  | nil => exact fun a ta _ hta => ⟨a, ta, rfl, hta, hc.refl _, fun id t h => nomatch h⟩
  | cons c rs ih =>
    intro a ta hl hta
    have hl' : ∀ id, some id ∈ rs → ∃ t, (id, t) ∈ r := fun id h => hl id (List.mem_cons_of_mem _ h)
    cases c with
    | none =>
      obtain ⟨e, te, hrun, hmem, h1, h2⟩ := ih a ta hl' hta
      refine ⟨e, te, hrun, hmem, h1, fun id t hid ht => ?_⟩
      rcases List.mem_cons.mp hid with h | h
      · cases h
      · exact h2 id t h ht
    | some rid =>
      obtain ⟨tr, htr⟩ := hl rid List.mem_cons_self
      have hpick : pickExtId cmp r (some a) rid = .ok (some (if cmp ta.key tr.key ≤ 0 then a else rid)) := by
        simp [pickExtId, lookup_of_mem hnd hta, lookup_of_mem hnd htr]
      obtain ⟨w, tw, hw, hwmem, hwa, hwr⟩ : ∃ w tw, (if cmp ta.key tr.key ≤ 0 then a else rid) = w ∧ (w, tw) ∈ r ∧
          cmp tw.key ta.key ≤ 0 ∧ cmp tw.key tr.key ≤ 0 := by
        by_cases hle : cmp ta.key tr.key ≤ 0
        · exact ⟨a, ta, if_pos hle, hta, hc.refl _, hle⟩
        · exact ⟨rid, tr, if_neg hle, htr, hc.sign _ _ (by omega), hc.refl _⟩
      obtain ⟨e, te, hrun, hmem, h1, h2⟩ := ih w tw hl' hwmem
      refine ⟨e, te, by simp only [pickLoop, hpick, hw, obind_ok]; exact hrun, hmem, hc.trans _ _ _ h1 hwa,
        fun id t hid ht => ?_⟩
      rcases List.mem_cons.mp hid with h | h
      · cases h
        rw [mem_unique hnd ht htr]
        exact hc.trans _ _ _ h1 hwr
      · exact h2 id t h ht

def HeadMin (cmp : K → K → Int) (l : List (Tree K V)) : Prop :=
  ∀ e rest, l = e :: rest → ∀ t ∈ l, cmp e.key t.key ≤ 0

theorem headMin_cons {e : Tree K V} {rest : List (Tree K V)} :
    HeadMin cmp (e :: rest) ↔ ∀ t ∈ e :: rest, cmp e.key t.key ≤ 0 :=
  ⟨fun h => h e rest rfl, fun h _ _ heq => (List.cons.inj heq).1 ▸ h⟩

/-- the invariant of the Fibonacci heap.  Binomial shape (in `Good`) is part of it although the Spec does not ask
for it: `consolidate` indexes `roots[x.degree]`, which is in range because `2 ^ degree ≤ n` (`CInv.deg_lt`). -/
structure FInv (cmp : K → K → Int) (h : Fib K V) : Prop where
  good : ∀ t ∈ h.roots, Good cmp t
  n : h.n = ((nodesF h.roots).length : Int)
  /-- `h.ext` (the first root) has an extremal key among the roots -/
  headMin : HeadMin cmp h.roots

def Fib.abs (h : Fib K V) : Bag K V := nodesF h.roots

theorem zipIdx_ids (l : List (Tree K V)) : ids (l.zipIdx.map fun p => (p.2, p.1)) = List.range l.length := by
  simp [ids, Function.comp_def, List.zipIdx_map_snd, List.range_eq_range']

theorem zipIdx_trees (l : List (Tree K V)) : trees (l.zipIdx.map fun p => (p.2, p.1)) = l := by
  simp [trees, Function.comp_def, List.zipIdx_map_fst]

theorem ringToRoots_spec {r : Ring K V} (hnd : (ids r).Nodup) {e : Nat} {te : Tree K V} (h : (e, te) ∈ r) :
    ∃ rest, ringToRoots r (some e) = te :: rest ∧ (te :: rest).Perm (trees r) := by
  obtain ⟨p, hfind, hpe⟩ := findIdx_id hnd h
  obtain ⟨hp, hpe'⟩ := List.getElem?_eq_some_iff.mp hpe
  refine ⟨trees (ringFrom r p), ?_, ((ring_split r p _ hpe).map fun x : Nat × Tree K V => x.2).symm⟩
  simp only [ringToRoots, hfind, List.drop_eq_getElem_cons hp, hpe', trees, ringFrom, List.cons_append, List.map_cons]

theorem consolidate_spec (hc : LawfulCmp cmp) (roots : List (Tree K V)) (hne : roots ≠ [])
    (hgood : ∀ t ∈ roots, Good cmp t) (n : Int) (hn : n = ((nodesF roots).length : Int)) :
    ∃ roots', Fib.consolidate cmp n roots = .ok roots' ∧ (nodesF roots').Perm (nodesF roots) ∧
      FInv cmp { n := n, roots := roots' } := by
  obtain ⟨r0, rest0, hroots⟩ := List.exists_cons_of_ne_nil hne
  have hNpos : 1 ≤ (nodesF roots).length := by
    rw [hroots, nodesF_cons, nodes_eq]; simp
  subst hn
  unfold Fib.consolidate
  rw [maxDegree_eq _ hNpos, obind_ok]
  simp only []
  have hinv0 : CInv cmp (nodesF roots)
      { ring := roots.zipIdx.map fun p => (p.2, p.1),
        table := Array.replicate (floorLogPhi (nodesF roots).length + 1) none, ext := some 0 } := by
    refine ⟨?_, fun e he => hgood _ (zipIdx_trees roots ▸ List.mem_map_of_mem (f := (·.2)) he), ?_, ?_, ?_, ?_⟩
    · simp only [zipIdx_ids]; exact List.nodup_range
    · simp only [zipIdx_trees]; exact List.Perm.refl _
    · intro d id hd
      simp only [Array.getElem?_replicate] at hd
      split at hd <;> simp at hd
    · refine ⟨0, r0, rfl, ?_⟩
      apply List.mem_iff_getElem?.mpr
      exact ⟨0, by simp [hroots]⟩
    · intro d hd
      rw [Array.size_replicate]
      exact deg_lt_maxDegree _ d hd
  have hlen0 : (roots.zipIdx.map fun p => (p.2, p.1)).length = roots.length := by simp
  obtain ⟨st, hrun, hinv, hreg⟩ := outer_spec hc (nodesF roots) roots.length
    ((roots.length + 1) * (roots.length + 1)) _ 0 hinv0
    (by simp only [hlen0]; rw [hroots]; simp) (by intro j hj; omega) (Nat.le_of_eq hlen0)
    (by simp only [hlen0]; rw [Nat.succ_mul]; omega)
  rw [hrun, obind_ok]
  obtain ⟨a, ta, hea, hta⟩ := hinv.ext
  obtain ⟨e, te, hpick, hemem, _, hmin⟩ := pickLoop_spec hc st.ring hinv.nodup st.table.toList a ta
    (by
      intro id hid
      obtain ⟨d, hd⟩ := List.mem_iff_getElem?.mp hid
      rw [Array.getElem?_toList] at hd
      obtain ⟨t, ht, _⟩ := hinv.table d id hd
      exact ⟨t, ht⟩)
    hta
  rw [hea, hpick, obind_ok]
  obtain ⟨rest, hread, hperm⟩ := ringToRoots_spec hinv.nodup hemem
  rw [hread]
  have hbag := (nodesF_perm hperm).trans hinv.bag
  have hring : ∀ t ∈ te :: rest, ∃ x ∈ st.ring, x.2 = t := fun t ht => List.mem_map.mp (hperm.mem_iff.mp ht)
  refine ⟨_, rfl, hbag, fun t ht => ?_, by rw [hbag.length_eq], headMin_cons.mpr fun t ht => ?_⟩
  · obtain ⟨x, hx, rfl⟩ := hring t ht
    exact hinv.good x hx
  · -- every root is recorded in `roots`, where `pickLoop` has seen it
    obtain ⟨x, hx, rfl⟩ := hring t ht
    obtain ⟨j, hj⟩ := List.mem_iff_getElem?.mp hx
    obtain ⟨id, t, hj', htab⟩ := hreg j (List.getElem?_eq_some_iff.mp hj).1
    cases hj.symm.trans hj'
    exact hmin id t (List.mem_iff_getElem?.mpr ⟨t.deg, by rw [Array.getElem?_toList]; exact htab⟩) hx

theorem FInv_nil (cmp : K → K → Int) {n : Int} (hn : n = 0) : FInv cmp ({ n := n, roots := [] } : Fib K V) :=
  ⟨fun _ ht => (nomatch ht), hn, fun _ _ heq => (nomatch heq)⟩

theorem append_snoc_perm {α : Type} (l r : List α) (b : α) : (l ++ r ++ [b]).Perm (l ++ b :: r) := by
  rw [List.append_assoc]
  exact List.perm_append_comm.append_left l

theorem meld_perm (a b : List (Tree K V)) : (meld a b).Perm (a ++ b) := by
  unfold meld
  split
  · exact List.Perm.refl _
  · rw [List.append_nil]
  · exact append_snoc_perm _ _ _

theorem mergeRoots_perm (cmp : K → K → Int) (a b : List (Tree K V)) : (Fib.mergeRoots cmp a b).Perm (a ++ b) := by
  unfold Fib.mergeRoots
  split
  · exact List.Perm.refl _
  · rw [List.append_nil]
  · split
    · exact append_snoc_perm _ _ _
    · exact List.perm_middle.symm

/-- `Insert` is a `Merge` with the heap of the one new node (`Fib.insert_eq`). -/
theorem FInv.mergeRoots (hc : LawfulCmp cmp) {a b : Fib K V} (ha : FInv cmp a) (hb : FInv cmp b) :
    (nodesF (Fib.mergeRoots cmp a.roots b.roots)).Perm (nodesF a.roots ++ nodesF b.roots) ∧
      FInv cmp { n := a.n + b.n, roots := Fib.mergeRoots cmp a.roots b.roots } := by
  obtain ⟨na, ra⟩ := a
  obtain ⟨nb, rb⟩ := b
  obtain ⟨hga, hna, hma⟩ := ha
  obtain ⟨hgb, hnb, hmb⟩ := hb
  simp only at *
  have hp := mergeRoots_perm cmp ra rb
  have hnodes : (nodesF (Fib.mergeRoots cmp ra rb)).Perm (nodesF ra ++ nodesF rb) := by
    rw [← nodesF_append]; exact nodesF_perm hp
  have hall : ∀ {P : Tree K V → Prop}, (∀ t ∈ ra, P t) → (∀ t ∈ rb, P t) → ∀ t ∈ Fib.mergeRoots cmp ra rb, P t :=
    fun h1 h2 t ht => (List.mem_append.mp (hp.mem_iff.mp ht)).elim (h1 t) (h2 t)
  refine ⟨hnodes, hall hga hgb, ?_, ?_⟩
  · rw [hna, hnb, hnodes.length_eq]; simp
  · cases ra with
    | nil => exact hmb
    | cons x r1 =>
      cases rb with
      | nil => exact hma
      | cons y r2 =>
        rw [headMin_cons] at hma hmb
        intro e rest heq
        by_cases hle : cmp x.key y.key ≤ 0
        · simp only [Fib.mergeRoots, if_pos hle, List.cons_append, List.cons.injEq] at heq
          rw [← heq.1]
          exact hall hma fun t ht => hc.trans _ _ _ hle (hmb t ht)
        · simp only [Fib.mergeRoots, if_neg hle, List.cons.injEq] at heq
          rw [← heq.1]
          exact hall (fun t ht => hc.trans _ _ _ (hc.sign _ _ (by omega)) (hma t ht)) hmb

theorem FInv_leaf (hc : LawfulCmp cmp) (k : K) (v : V) : FInv cmp { n := 1, roots := [leaf k v] } :=
  ⟨fun _ ht => List.mem_singleton.mp ht ▸ Good_leaf k v, by simp [nodes_leaf],
    headMin_cons.mpr fun _ ht => List.mem_singleton.mp ht ▸ hc.refl _⟩

theorem Fib.insert_eq (cmp : K → K → Int) (h : Fib K V) (k : K) (v : V) :
    h.insert cmp k v = { n := h.n + 1, roots := Fib.mergeRoots cmp h.roots [leaf k v] } := by
  unfold Fib.insert Fib.mergeRoots
  cases h.roots with
  | nil => rfl
  | cons e rest =>
    simp only [show (leaf k v).key = k from rfl, List.append_nil]
    split <;> rfl

theorem Fib.step_spec (hc : LawfulCmp cmp) (eqV : V → V → Bool) (h : Fib K V)
    (hinv : FInv cmp h) (op : Op K V) :
    ∃ h' out, Fib.step cmp eqV h op = .ok (h', out) ∧ FInv cmp h' ∧ Step cmp eqV h.abs op out h'.abs := by
  have ⟨hgood, hn, hmin⟩ := hinv
  have hord : ∀ t ∈ h.roots, Ord cmp t := fun t ht => (hgood t ht).1
  cases op with
  | insert k v =>
    obtain ⟨h1, h2⟩ := hinv.mergeRoots hc (FInv_leaf hc k v)
    refine ⟨h.insert cmp k v, .unit, rfl, ?_, ?_⟩
    · rw [Fib.insert_eq]; exact h2
    · show (nodesF (h.insert cmp k v).roots).Perm ((k, v) :: nodesF h.roots)
      rw [Fib.insert_eq]
      exact h1.trans (by simp only [nodesF_cons, nodesF_nil, nodes_leaf]; c04_perm)
  | delete =>
    cases hr : h.roots with
    | nil =>
      refine ⟨h, .kv none, by simp [Fib.step, Fib.delete, hr], hinv, ?_⟩
      exact ⟨congrArg nodesF hr, congrArg nodesF hr⟩
    | cons ext rest =>
      have hg := hgood
      rw [hr] at hg
      have hmp := meld_perm rest ext.children
      have hgood1 : ∀ t ∈ meld rest ext.children, Good cmp t := fun t ht =>
        (List.mem_append.mp (hmp.mem_iff.mp ht)).elim (fun h => hg t (List.mem_cons_of_mem _ h))
          (Good_children (hg ext List.mem_cons_self) t)
      have hperm : (nodesF h.roots).Perm ((ext.key, ext.val) :: nodesF (meld rest ext.children)) := by
        rw [hr, nodesF_cons, nodes_eq ext]
        refine (List.perm_cons _).mpr ?_
        refine List.Perm.trans ?_ (nodesF_perm hmp).symm
        rw [nodesF_append]; c04_perm
      have hext : Extremal cmp (nodesF h.roots) ext.key := ext_extremal hc h.roots hord ext (hmin ext rest hr)
      have hlen : h.n - 1 = ((nodesF (meld rest ext.children)).length : Int) := by
        have := hperm.length_eq
        rw [hn, this]; simp
      by_cases hempty : meld rest ext.children = []
      · refine ⟨{ n := h.n - 1, roots := [] }, .kv (some (ext.key, ext.val)), ?_, ?_, hext, ?_⟩
        · simp [Fib.step, Fib.delete, hr, hempty]
        · exact FInv_nil cmp (by rw [hempty] at hlen; simpa using hlen)
        · rw [hempty] at hperm; exact hperm
      · obtain ⟨roots', hrun, hperm', hinv'⟩ := consolidate_spec hc (meld rest ext.children) hempty hgood1 (h.n - 1) hlen
        have hne := List.isEmpty_eq_false_iff.mpr hempty
        refine ⟨{ n := h.n - 1, roots := roots' }, .kv (some (ext.key, ext.val)), ?_, hinv', hext,
          hperm.trans ((List.perm_cons _).mpr hperm'.symm)⟩
        simp only [Fib.step, Fib.delete, hr, hne, hrun, obind_ok, Bool.false_eq_true, if_false]
  | deleteAll => exact ⟨h.deleteAll, .unit, rfl, FInv_nil cmp rfl, rfl⟩
  | peek =>
    cases hr : h.roots with
    | nil =>
      refine ⟨h, .kv none, by simp [Fib.step, Fib.peek, hr], hinv, ?_⟩
      exact ⟨congrArg nodesF hr, congrArg nodesF hr⟩
    | cons e rest =>
      refine ⟨h, .kv (some (e.key, e.val)), by simp [Fib.step, Fib.peek, hr], hinv, ?_, ?_,
        List.Perm.refl _⟩
      · show (e.key, e.val) ∈ nodesF h.roots
        rw [hr, nodesF_cons, nodes_eq e]; simp
      · exact ext_extremal hc h.roots hord e (hmin e rest hr)
  | size => exact ⟨h, .int h.n, rfl, hinv, hn, List.Perm.refl _⟩
  | isEmpty => exact ⟨h, _, rfl, hinv, isEmpty_nodesF h.roots, List.Perm.refl _⟩
  | containsKey k => exact ⟨h, _, rfl, hinv, anyRoots_eq _ h.roots, List.Perm.refl _⟩
  | containsValue v => exact ⟨h, _, rfl, hinv, anyRoots_eq _ h.roots, List.Perm.refl _⟩

def fibRefines {cmp : K → K → Int} (hc : LawfulCmp cmp) (eqV : V → V → Bool) :
    Refines (fibImpl cmp eqV) cmp eqV where
  Inv := FInv cmp
  abs := Fib.abs
  init_inv := FInv_nil cmp rfl
  init_abs := rfl
  step_ok := fun s op hs => Fib.step_spec hc eqV s hs op
  merge_ok := fun _ _ ha hb =>
    have ⟨h1, h2⟩ := ha.mergeRoots hc hb
    ⟨_, _, rfl, h2, FInv_nil cmp rfl, h1, rfl⟩

end AlgoVerif.C04
