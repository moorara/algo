import AlgoVerif.Proofs.C08Empty
/-!
# Pruning and the ε-, unit- and unreachable-elimination preserve well-formedness; `EliminateCycles`, their
composition, preserves well-formedness and the language
-/
namespace AlgoVerif.C08
open AlgoVerif AlgoVerif.Gram AlgoVerif.C08.Spec

theorem pruneStep_wf {g g' : G} (h : pruneStep g = some g') (hw : WellFormed g) : WellFormed g' := by
  obtain ⟨n, _, hns, hnp, hs, ht, hnt, hp⟩ := pruneStep_spec h
  obtain ⟨h1, h2⟩ := hw
  refine ⟨?_, ?_⟩
  · rw [hs, hnt]
    exact List.mem_filter.mpr ⟨h1, by simpa using fun e => hns e.symm⟩
  · intro p hpp
    rw [hp] at hpp
    obtain ⟨hpg, hpn⟩ := List.mem_filter.mp hpp
    obtain ⟨hh, hb⟩ := h2 p hpg
    refine ⟨?_, ?_⟩
    · rw [hnt]
      refine List.mem_filter.mpr ⟨hh, ?_⟩
      have : p.head ≠ n := by
        intro e
        have : hasProd g.prods n = true := hasProd_iff.mpr ⟨p, hpg, e⟩
        rw [hnp] at this; cases this
      simpa using this
    · intro s hs'
      have := hb s hs'
      cases s with
      | term t => unfold SymDeclared at this ⊢; rw [ht]; exact this
      | nonterm m =>
        unfold SymDeclared at this ⊢
        rw [hnt]
        refine List.mem_filter.mpr ⟨this, ?_⟩
        have hne : m ≠ n := by
          intro e
          subst e
          simp at hpn
          exact hpn hs'
        simpa using hne

theorem prune_wf {g : G} (h : WellFormed g) : WellFormed (prune g) :=
  prune_induction (fun _ _ hs => pruneStep_wf hs) h

theorem elimEmpty_wf {g g' : G} (h : elimEmpty g = .ok g') (hw : WellFormed g) : WellFormed g' := by
  obtain ⟨nul, g1, _, rfl, ht, hst, hps⟩ := elimEmpty_built h
  have hold : ∀ n ∈ g.nonterms, n ∈ g1.nonterms := by
    rcases hst with ⟨_, e⟩ | ⟨_, _, e⟩ <;> rw [e]
    · exact fun _ h => h
    · exact fun _ h => List.mem_append_left _ h
  have hS : g1.start ∈ g1.nonterms := by
    rcases hst with ⟨e₁, e₂⟩ | ⟨_, _, e⟩
    · rw [e₁, e₂]; exact hw.1
    · rw [e]; simp
  refine prune_wf ⟨hS, fun p' hp' => ?_⟩
  rcases hps p' hp' with ⟨_, p, hp, hh, hv⟩ | ⟨_, hh, hb | hb⟩
  · exact ⟨hold _ (hh ▸ (hw.2 p hp).1), fun s hs => ((hw.2 p hp).2 s (hv.sub.2 s hs)).mono (fun _ h => ht ▸ h) hold⟩
  · exact ⟨hh ▸ hS, fun s hs => by rw [hb, List.mem_singleton] at hs; subst hs; exact hold _ hw.1⟩
  · exact ⟨hh ▸ hS, fun s hs => by rw [hb] at hs; cases hs⟩

theorem singleProds_wf {g : G} {cl : Closure} (hcl : closureOf g = .ok cl) (hw : WellFormed g) :
    WellFormed ({ g with prods := singleProds g cl } : G) := by
  -- heads are keys of the closure, i.e. declared non-terminals; bodies are bodies of g
  refine ⟨hw.1, fun p' hp' => ?_⟩
  obtain ⟨e, he, B, _, p, hp, _, _, rfl⟩ := mem_singleProds_iff.1 hp'
  exact ⟨(closureOf_sound hcl e he).1, fun s hs => by
    have := (hw.2 p hp).2 s hs
    cases s <;> exact this⟩

theorem elimSingle_wf {g g' : G} (h : elimSingle g = .ok g') (hw : WellFormed g) : WellFormed g' := by
  obtain ⟨cl, hc, rfl⟩ := elimSingle_ok h
  exact prune_wf (singleProds_wf hc hw)

theorem elimUnreachable_wf {g g' : G} (h : elimUnreachable g = .ok g') (hw : WellFormed g) : WellFormed g' := by
  obtain ⟨hs, hn, hp, ht⟩ := elimUnreachable_spec h
  refine ⟨(hn _).2 (hs ▸ .start), fun p hpp => ?_⟩
  obtain ⟨hpg, hh⟩ := (hp p).1 hpp
  refine ⟨(hn _).2 hh, fun s hs' => ?_⟩
  cases s with
  | nonterm n => exact (hn n).2 (.step p n hpg hh hs')
  | term t => exact (ht t).2 ⟨(hw.2 p hpg).2 _ hs', p, hpp, hs'⟩

theorem elimCycles_ok {g g' : G} (h : elimCycles g = .ok g') :
    ∃ g1 g2, elimEmpty g = .ok g1 ∧ elimSingle g1 = .ok g2 ∧ elimUnreachable g2 = .ok g' := by
  unfold elimCycles at h
  obtain ⟨g1, h1, h⟩ := bind_eq_ok h
  obtain ⟨g2, h2, h⟩ := bind_eq_ok h
  exact ⟨g1, g2, h1, h2, h⟩

theorem elimCycles_wf {g g' : G} (h : elimCycles g = .ok g') (hw : WellFormed g) : WellFormed g' := by
  obtain ⟨g1, g2, h1, h2, h3⟩ := elimCycles_ok h
  exact elimUnreachable_wf h3 (elimSingle_wf h2 (elimEmpty_wf h1 hw))

theorem elimCycles_language {g g' : G} (h : elimCycles g = .ok g') (hw : WellFormed g) (w : List String) :
    Language g' w ↔ Language g w := by
  obtain ⟨g1, g2, h1, h2, h3⟩ := elimCycles_ok h
  rw [elimUnreachable_language h3, elimSingle_language h2 (elimEmpty_wf h1 hw), elimEmpty_language h1 hw]

theorem elimCycles_sound {g g' : G} (h : elimCycles g = .ok g') (hv : WellFormed g) {w : List String}
    (hw : Language g' w) : Language g w :=
  (elimCycles_language h hv w).mp hw

end AlgoVerif.C08
