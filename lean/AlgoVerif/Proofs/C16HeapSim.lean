import AlgoVerif.Proofs.C16HeapMachine
import AlgoVerif.Proofs.C16Regs
/-!
# C16 helper lemmas: every operation of the heap machine simulates the functional one and keeps ownership
-/
namespace AlgoVerif.C16.Hp
open AlgoVerif AlgoVerif.C16
variable {α : Type} {σ : Type}

theorem length_map_abs (H : Heap α) (regs : List (Obj α)) : (regs.map (Obj.abs H)).length = regs.length := by simp

theorem stepOp_read (sh : Shuffle σ) (grow : Nat → Nat) (st : State α σ) {op : Op α} (hr : op.IsRead) :
    stepOp sh grow st op =
      (do let (r, obs) ← C16.stepOp sh (st.1.map (Obj.abs st.2.1), st.2.2) op; return ((st.1, st.2.1, r.2), obs)) := by
  cases op with
  | contains _ _ | size _ | isEmpty _ | all _ | equal _ _ | subset _ _ | superset _ _
  | anyMatch _ _ | allMatch _ _ | firstMatch _ _ => rfl
  | _ => exact hr.elim

/-! `C16.stepOp` on the current views and `Hp.stepOp` have the same skeleton (look the operand registers up, check the
destination, act); it is dealt with once per shape (`sim_reg`, `sim_regs`, `sim_if`).  What remains for each operation
is the simulation of the set operation itself (`add_owned`, `union_sim`, …) and the step that keeps `Holds`
(`Holds.mut` for a mutation in place, `Holds.fresh` / `Holds.put` for a new object stored into a register). -/

/-- the heap step returned the observation and shuffle state of the functional step; its registers hold the functional
registers, no two of them in one array -/
def StepQ (r : RegState α σ × Obs α) (r' : State α σ × Obs α) : Prop :=
  r'.1.2.2 = r.1.2 ∧ r'.2 = r.2 ∧ Holds r'.1.2.1 r'.1.1 r.1.1

abbrev StepSim (x : Outcome (RegState α σ × Obs α)) (y : Outcome (State α σ × Obs α)) : Prop := Outcome.Sim StepQ x y

section
variable {st : State α σ} (hown : Own st.2.1 st.1)
include hown

theorem sim_bad : StepSim (.ok ((st.1.map (Obj.abs st.2.1), st.2.2), .bad)) (.ok (st, .bad)) :=
  .ok ⟨rfl, rfl, hown, rfl⟩

theorem sim_reg (i : Nat) {k : MSet α → Outcome (RegState α σ × Obs α)} {k' : Obj α → Outcome (State α σ × Obs α)}
    (hk : ∀ o, st.1[i]? = some o → StepSim (k (o.abs st.2.1)) (k' o)) :
    StepSim (match (st.1.map (Obj.abs st.2.1))[i]? with
          | none => .ok ((st.1.map (Obj.abs st.2.1), st.2.2), .bad)
          | some s => k s)
      (match st.1[i]? with | none => .ok (st, .bad) | some o => k' o) := by
  rw [List.getElem?_map]
  cases hi : st.1[i]? with
  | none => exact sim_bad hown
  | some o => exact hk o hi

/-- `sim_reg` for the operations whose `match` lists the `some` case first -/
theorem sim_reg' (i : Nat) {k : MSet α → Outcome (RegState α σ × Obs α)} {k' : Obj α → Outcome (State α σ × Obs α)}
    (hk : ∀ o, st.1[i]? = some o → StepSim (k (o.abs st.2.1)) (k' o)) :
    StepSim (match (st.1.map (Obj.abs st.2.1))[i]? with
          | some s => k s
          | none => .ok ((st.1.map (Obj.abs st.2.1), st.2.2), .bad))
      (match st.1[i]? with | some o => k' o | none => .ok (st, .bad)) := by
  have := sim_reg hown i hk
  revert this
  cases (st.1.map (Obj.abs st.2.1))[i]? <;> cases st.1[i]? <;> exact id

theorem sim_regs (i : Nat) (js : List Nat) {k : MSet α → List (MSet α) → Outcome (RegState α σ × Obs α)}
    {k' : Obj α → List (Obj α) → Outcome (State α σ × Obs α)}
    (hk : ∀ o sets, st.1[i]? = some o → (∀ u ∈ sets, u ∈ st.1) →
      StepSim (k (o.abs st.2.1) (sets.map (Obj.abs st.2.1))) (k' o sets)) :
    StepSim (match (st.1.map (Obj.abs st.2.1))[i]?, C16.getRegs (st.1.map (Obj.abs st.2.1)) js with
          | some s, some sets => k s sets
          | _, _ => .ok ((st.1.map (Obj.abs st.2.1), st.2.2), .bad))
      (match st.1[i]?, getObjs st.1 js with | some o, some sets => k' o sets | _, _ => .ok (st, .bad)) := by
  obtain ⟨hgr, hmem⟩ := getRegs_map st.2.1 st.1 js
  rw [List.getElem?_map, hgr]
  cases hi : st.1[i]? with
  | none => exact sim_bad hown
  | some o =>
    cases hjs : getObjs st.1 js with
    | none => exact sim_bad hown
    | some sets => exact hk o sets hi (hmem sets hjs)

theorem sim_if {c c' : Prop} [Decidable c] [Decidable c'] (hc : c ↔ c') {x : Outcome (RegState α σ × Obs α)}
    {y : Outcome (State α σ × Obs α)} (hxy : StepSim x y) :
    StepSim (if c then x else .ok ((st.1.map (Obj.abs st.2.1), st.2.2), .bad)) (if c' then y else .ok (st, .bad)) := by
  by_cases hd : c
  · rw [if_pos hd, if_pos (hc.1 hd)]; exact hxy
  · rw [if_neg hd, if_neg (fun h' => hd (hc.2 h'))]; exact sim_bad hown

theorem sim_fresh (d : Nat) (impl : Impl α) (m : List α) :
    StepSim (.ok (((st.1.map (Obj.abs st.2.1)).set d ⟨impl, m⟩, st.2.2), .unit))
      (.ok ((st.1.set d (Obj.fresh st.2.1 impl m []).2, (Obj.fresh st.2.1 impl m []).1, st.2.2), .unit)) :=
  .ok ⟨rfl, rfl, (Holds.fresh ⟨hown, rfl⟩ impl m []).put d⟩

end

theorem length_map_iff (H : Heap α) (regs : List (Obj α)) (d : Nat) :
    d < (regs.map (Obj.abs H)).length ↔ d < regs.length := by rw [List.length_map]

theorem stepOp_sim (sh : Shuffle σ) (grow : Nat → Nat) {st : State α σ} (hown : Own st.2.1 st.1) (op : Op α) :
    StepSim (C16.stepOp sh (st.1.map (Obj.abs st.2.1), st.2.2) op) (stepOp sh grow st op) := by
  have hh : Holds st.2.1 st.1 (st.1.map (Obj.abs st.2.1)) := ⟨hown, rfl⟩
  by_cases hr : op.IsRead
  · rw [stepOp_read sh grow _ hr]
    exact .of_bind fun r h => .ok ⟨rfl, rfl, hown, (stepOp_read_regs sh _ op hr _ h).symm⟩
  cases op with
  | add i vs =>
    exact sim_reg hown i fun o hi => .bind (add_owned grow vs ⟨hown.1 o (List.mem_of_getElem? hi), rfl⟩)
      fun _ _ ht => .ok ⟨rfl, rfl, hh.mut hi ht⟩
  | remove i vs =>
    exact sim_reg hown i fun o hi => .bind (remove_owned vs ⟨hown.1 o (List.mem_of_getElem? hi), rfl⟩)
      fun _ _ ht => .ok ⟨rfl, rfl, hh.mut hi ht⟩
  | removeAll i => exact sim_reg hown i fun o _ => sim_fresh hown i o.impl []
  | clone d i =>
    exact sim_reg' hown i fun o _ => sim_if hown (length_map_iff _ _ d) (sim_fresh hown d o.impl (o.view st.2.1))
  | cloneEmpty d i => exact sim_reg' hown i fun o _ => sim_if hown (length_map_iff _ _ d) (sim_fresh hown d o.impl [])
  | new d impl => exact sim_if hown (length_map_iff _ _ d) (sim_fresh hown d impl [])
  -- the observation of a set-algebra call is the view of the working copy, which holds the functional result
  | union d i js =>
    exact sim_regs hown i js fun _ _ _ hsets => sim_if hown (length_map_iff _ _ d) <|
      .bind (union_sim hh sh grow hsets st.2.2) fun _ _ ⟨e, h⟩ => .ok ⟨e, by rw [← h.head.2]; rfl, h.put d⟩
  | inter d i js =>
    exact sim_regs hown i js fun _ _ _ hsets => sim_if hown (length_map_iff _ _ d) <|
      .bind (intersection_sim hh grow hsets) fun _ _ h => .ok ⟨rfl, by rw [← h.head.2]; rfl, h.put d⟩
  | diff d i js =>
    exact sim_regs hown i js fun _ _ _ hsets => sim_if hown (length_map_iff _ _ d) <|
      .bind (difference_sim hh sh hsets st.2.2) fun _ _ ⟨e, h⟩ => .ok ⟨e, by rw [← h.head.2]; rfl, h.put d⟩
  | select d i p =>
    exact sim_reg' hown i fun _ _ => sim_if hown (length_map_iff _ _ d) <|
      .bind (selectMatch_sim hh grow p) fun _ _ h => .ok ⟨rfl, by rw [← h.head.2]; rfl, h.put d⟩
  | partitionM d e i p =>
    -- the first working copy goes to `d` below the second one, then the second to `e`
    exact sim_reg' hown i fun _ _ => sim_if hown (and_congr (length_map_iff _ _ d) (length_map_iff _ _ e)) <|
      .bind (partitionMatch_sim hh grow p) fun _ _ h =>
        .ok ⟨rfl, by rw [← h.head.2, ← h.tail.head.2]; rfl, (h.put (d + 1)).put e⟩
  | _ => exact absurd trivial hr

theorem runOps_sim (sh : Shuffle σ) (grow : Nat → Nat) : ∀ (ops : List (Op α)) {regs : List (Obj α)} {H : Heap α}
    (_ : Own H regs) (g : σ) {R' : List (MSet α)} {g' : σ} {obs : List (Obs α)},
    C16.runOps sh ops (regs.map (Obj.abs H), g) = .ok ((R', g'), obs) →
    ∃ regs' H', runOps sh grow ops (regs, H, g) = .ok ((regs', H', g'), obs) ∧ regs'.map (Obj.abs H') = R' ∧
      Own H' regs' := by
  intro ops
  induction ops with
  | nil =>
    intro regs H hown g R' g' obs h
    cases h
    exact ⟨regs, H, rfl, rfl, hown⟩
  | cons op ops ih =>
    intro regs H hown g R' g' obs h
    simp only [C16.runOps] at h
    obtain ⟨⟨⟨R₁, g₁⟩, o⟩, h₁, h₂⟩ := bind_eq_ok h
    obtain ⟨⟨⟨R₂, g₂⟩, os⟩, h₃, h₄⟩ := bind_eq_ok h₂
    cases h₄
    obtain ⟨⟨⟨regs₁, H₁, _⟩, _⟩, e₁, hg, ho, hown₁, hm₁⟩ := (stepOp_sim sh grow (st := (regs, H, g)) hown op).elim h₁
    cases hg
    cases ho
    subst hm₁
    obtain ⟨regs₂, H₂, e₂, hm₂, hown₂⟩ := ih hown₁ g₁ h₃
    exact ⟨regs₂, H₂, by simp only [runOps, e₁, e₂, ok_bind, pure_eq_ok], hm₂, hown₂⟩

theorem initRegs_spec : ∀ (impls : List (Impl α)) (k : Nat),
    (∀ o ∈ initRegs k impls, k ≤ o.buf ∧ o.buf < k + impls.length ∧ o.len = 0) ∧
    ((initRegs k impls).map (·.buf)).Nodup ∧ (initRegs k impls).map (·.impl) = impls := by
  intro impls
  induction impls with
  | nil =>
    intro _
    exact ⟨by simp [initRegs], by simp [initRegs], rfl⟩
  | cons impl rest ih =>
    intro k
    obtain ⟨h₁, h₂, h₃⟩ := ih (k + 1)
    refine ⟨?_, ?_, by simp [initRegs, h₃]⟩
    · intro o ho
      simp only [initRegs, List.mem_cons] at ho
      rcases ho with rfl | ho
      · simp
      · have := h₁ o ho
        simp only [List.length_cons]
        omega
    · simp only [initRegs, List.map_cons]
      refine List.nodup_cons.2 ⟨?_, h₂⟩
      intro hm
      obtain ⟨o, ho, hb⟩ := List.mem_map.1 hm
      have := (h₁ o ho).1
      omega

theorem init_own (impls : List (Impl α)) : Own (initHeap impls) (initRegs 0 impls) := by
  obtain ⟨h₁, h₂, _⟩ := initRegs_spec impls 0
  refine ⟨fun o ho => ⟨?_, ?_⟩, h₂⟩
  · have := (h₁ o ho).2.1
    simpa [initHeap, Heap.size] using this
  · rw [(h₁ o ho).2.2]; exact Nat.zero_le _

theorem init_abs (impls : List (Impl α)) :
    (initRegs 0 impls).map (Obj.abs (initHeap impls)) = impls.map MSet.new := by
  obtain ⟨h₁, _, h₃⟩ := initRegs_spec impls 0
  have : (initRegs 0 impls).map (Obj.abs (initHeap impls)) = (initRegs 0 impls).map (fun o => MSet.new o.impl) := by
    apply List.map_congr_left
    intro o ho
    simp [Obj.abs, Obj.view, (h₁ o ho).2.2, MSet.new]
  have h₄ : impls.map MSet.new = ((initRegs 0 impls).map (·.impl)).map MSet.new := by rw [h₃]
  rw [this, h₄, List.map_map]
  rfl

end AlgoVerif.C16.Hp
