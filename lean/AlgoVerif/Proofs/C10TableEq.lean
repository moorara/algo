import AlgoVerif.Proofs.C12Sound
import AlgoVerif.Proofs.C10Cells
import AlgoVerif.Proofs.C10Sets
/-!
# The table built call by call (`buildTable`) has the cells `cell`

`tcell (buildTable fi fo ps rows) A a` is the list of the productions of `ps` that belong into `M[A,a]`, in
the order of `ps`, without repetitions; the synchronisation phase does not touch the productions.  For
`ps = g.prods` duplicate-free this is `cell g fi fo A a` literally, so `Conflicts()` and the parser see the
same table, and every theorem about `cell` / `conflicts` / `parseWithCells` is a theorem about the
table as the code builds it.

The table is read through `PTable.ent` (the entry `ensureEntry` hands out), on which `modify` is a point update;
both phases are loops of point updates of one row by a function that does nothing the second time
(`ent_foldl_modify`).
-/
set_option linter.unusedSectionVars false
namespace AlgoVerif.C10
open AlgoVerif AlgoVerif.Gram
variable {T N : Type} [DecidableEq T] [DecidableEq N]
variable {g : Grammar T N}

theorem get_modify (t : PTable T N) (A : N) (a : Option T) (f : Entry T N → Entry T N) (A' : N) (a' : Option T) :
    (t.modify A a f).get A' a' =
      if A' = A ∧ a' = a then some (f ((t.get A a).getD ⟨[], false⟩)) else t.get A' a' := by
  induction t with
  | nil =>
    by_cases h : A' = A ∧ a' = a
    · obtain ⟨h1, h2⟩ := h
      subst h1; subst h2
      simp [PTable.modify, PTable.get]
    · have h' : ¬ (A = A' ∧ a = a') := fun e => h ⟨e.1.symm, e.2.symm⟩
      simp [PTable.modify, PTable.get, h, h']
  | cons ke rest ih =>
    obtain ⟨k, e⟩ := ke
    by_cases hk : k.1 = A ∧ k.2 = a
    · by_cases h : A' = A ∧ a' = a
      · obtain ⟨h1, h2⟩ := h
        subst h1; subst h2
        simp [PTable.modify, PTable.get, hk]
      · have h' : ¬ (A = A' ∧ a = a') := fun e' => h ⟨e'.1.symm, e'.2.symm⟩
        simp [PTable.modify, PTable.get, hk, h, h']
    · by_cases h2 : k.1 = A' ∧ k.2 = a'
      · have h3 : ¬ (A' = A ∧ a' = a) := fun e' => hk ⟨h2.1.trans e'.1, h2.2.trans e'.2⟩
        simp [PTable.modify, PTable.get, h2, h3]
      · simp only [PTable.modify, hk, if_false, PTable.get, h2, ih]

/-- the entry `ensureEntry` hands out: the one that is there, or a fresh one -/
def PTable.ent (t : PTable T N) (A : N) (a : Option T) : Entry T N := (t.get A a).getD ⟨[], false⟩

theorem tcell_eq_ent (t : PTable T N) (A : N) (a : Option T) : tcell t A a = (t.ent A a).prods := by
  unfold tcell PTable.ent
  cases t.get A a <;> rfl

theorem ent_modify (t : PTable T N) (A : N) (a : Option T) (f : Entry T N → Entry T N) (A' : N) (a' : Option T) :
    (t.modify A a f).ent A' a' = if A' = A ∧ a' = a then f (t.ent A a) else t.ent A' a' := by
  unfold PTable.ent
  rw [get_modify]
  split <;> rfl

theorem ent_foldl_modify (A : N) {f : Entry T N → Entry T N} (hf : ∀ e, f (f e) = f e) (A' : N) (a' : Option T) :
    ∀ (cs : List (Option T)) (t : PTable T N),
      (cs.foldl (fun t c => t.modify A c f) t).ent A' a' =
        if A' = A ∧ a' ∈ cs then f (t.ent A' a') else t.ent A' a' := by
  intro cs
  induction cs with
  | nil => intro t; simp
  | cons c cs ih =>
    intro t
    rw [List.foldl_cons, ih, ent_modify]
    by_cases hA : A' = A
    · subst hA
      by_cases hc : a' = c
      · subst hc
        by_cases hcs : a' ∈ cs <;> simp [hcs, hf]
      · simp [hc]
    · simp [hA]

theorem insertNew_idem (p : GProd T N) (l : List (GProd T N)) : insertNew p (insertNew p l) = insertNew p l := by
  have h : p ∈ insertNew p l := mem_insertNew.2 (Or.inl rfl)
  generalize insertNew p l = m at h ⊢
  unfold insertNew
  simp [h]

/-- what `addProduction` does to the entry it finds -/
def addE (p : GProd T N) (e : Entry T N) : Entry T N := if e.sync then e else ⟨insertNew p e.prods, e.sync⟩

theorem addE_idem (p : GProd T N) (e : Entry T N) : addE p (addE p e) = addE p e := by
  unfold addE
  cases h : e.sync <;> simp [h, insertNew_idem]

theorem mem_prodColumns {fi : List (Sym T N) → TE T} {fo : N → TEnd T} {p : GProd T N} {c : Option T} :
    c ∈ prodColumns fi fo p ↔ inCell fi fo p c = true := by
  unfold prodColumns
  cases c <;> cases he : (fi p.body).eps <;> simp [inCell, he]

theorem ent_addProd (fi : List (Sym T N) → TE T) (fo : N → TEnd T) (t : PTable T N) (p : GProd T N) (A : N) (a : Option T) :
    (addProd fi fo t p).ent A a =
      if (decide (p.head = A) && inCell fi fo p a) = true then addE p (t.ent A a) else t.ent A a := by
  refine (ent_foldl_modify p.head (addE_idem p) A a _ t).trans ?_
  by_cases hA : p.head = A
  · subst hA; simp [mem_prodColumns]
  · simp [hA, show ¬ A = p.head from fun e => hA e.symm]

/-- the cell must not be marked sync (none is before the second phase) -/
theorem ent_addProds (fi : List (Sym T N) → TE T) (fo : N → TEnd T) (A : N) (a : Option T) :
    ∀ (ps : List (GProd T N)) (t : PTable T N), (t.ent A a).sync = false →
      (ps.foldl (addProd fi fo) t).ent A a =
        ⟨union (t.ent A a).prods (ps.filter fun p => decide (p.head = A) && inCell fi fo p a), false⟩ := by
  intro ps
  induction ps with
  | nil => intro t h; simp [union, ← h]
  | cons p ps ih =>
    intro t h
    rw [List.foldl_cons, List.filter_cons]
    split
    · rw [ih _ (by simp [ent_addProd, *, addE]), ent_addProd]; simp [*, addE, union_cons]
    · rw [ih _ (by simp [ent_addProd, *]), ent_addProd]; simp [*]

/-- what `setSync` does to the entry it finds -/
def syncE (s : Bool) (e : Entry T N) : Entry T N := if e.prods.isEmpty then ⟨e.prods, s⟩ else e

theorem syncE_idem (s : Bool) (e : Entry T N) : syncE s (syncE s e) = syncE s e := by
  unfold syncE
  cases h : e.prods.isEmpty <;> simp [h]

theorem syncRows_prods (fo : N → TEnd T) (rows : List N) (t : PTable T N) (A' : N) (a' : Option T) :
    ((rows.foldl (syncRow fo) t).ent A' a').prods = (t.ent A' a').prods := by
  induction rows generalizing t with
  | nil => rfl
  | cons A rows ih =>
    rw [List.foldl_cons, ih, syncRow]
    generalize (fo A).terms.map some ++ (if (fo A).endm then [none] else []) = cs
    rw [show (fun t c => setSync t A c true) = fun t c => t.modify A c (syncE true) from rfl,
      ent_foldl_modify A (syncE_idem true)]
    unfold syncE
    split
    · split <;> rfl
    · rfl

theorem union_eq_append {α : Type} [DecidableEq α] (acc l : List α) (h : (acc ++ l).Nodup) :
    union acc l = acc ++ l := by
  induction l generalizing acc with
  | nil => simp [union]
  | cons p l ih =>
    have hp : p ∉ acc := fun hm => (List.nodup_append.1 h).2.2 p hm p (List.mem_cons_self ..) rfl
    rw [union_cons, insertNew, if_neg hp, ih (acc ++ [p]) (by simpa [List.append_assoc] using h)]
    simp

theorem tcell_buildTable (fi : List (Sym T N) → TE T) (fo : N → TEnd T) (ps : List (GProd T N)) (rows : List N)
    (A : N) (a : Option T) :
    tcell (buildTable fi fo ps rows) A a =
      dedup (ps.filter fun p => decide (p.head = A) && inCell fi fo p a) := by
  rw [tcell_eq_ent, buildTable, syncRows_prods, ent_addProds fi fo A a ps [] rfl]
  rfl

theorem mem_tcell_buildTable {fi : List (Sym T N) → TE T} {fo : N → TEnd T} {ps : List (GProd T N)}
    {rows : List N} {A : N} {a : Option T} {p : GProd T N} :
    p ∈ tcell (buildTable fi fo ps rows) A a ↔ p ∈ ps ∧ p.head = A ∧ inCell fi fo p a = true := by
  rw [tcell_buildTable, mem_dedup, List.mem_filter]
  simp

theorem tcell_eq_cell (hnd : g.prods.Nodup) (fi : List (Sym T N) → TE T) (fo : N → TEnd T)
    (rows : List N) : tcell (buildTable fi fo g.prods rows) = cell g fi fo := by
  funext A a
  rw [tcell_buildTable, dedup, union_eq_append _ _ (by rw [List.nil_append]; exact hnd.filter _)]
  simp [cell]

theorem tconflicts_eq (hnd : g.prods.Nodup) (fi : List (Sym T N) → TE T) (fo : N → TEnd T)
    (rows : List N) :
    tconflicts (buildTable fi fo g.prods rows) g.nonterms (columns g) = conflicts g fi fo := by
  unfold tconflicts conflicts
  rw [tcell_eq_cell hnd]

theorem parseWith_eq_cells (hnd : g.prods.Nodup) (an : Analysis T N) (fuel : Nat) (w : List T) :
    parseWith g an fuel w = parseWithCells g an fuel w := by
  unfold parseWith parseWithCells
  simp only [tconflicts_eq hnd, tcell_eq_cell hnd]

theorem parseWith_of_loop (hnd : g.prods.Nodup) {an : Analysis T N}
    (hcf : conflicts g (firstStr an.first) an.follow = []) {fuel₀ : Nat} {w : List T} {r : PResult T N}
    (hr : parseLoop (cell g (firstStr an.first) an.follow) fuel₀ [Sym.nonterm g.start] w 0 [] = .ok r) :
    ∀ fuel, fuel ≥ fuel₀ → parseWith g an fuel w = .ok (.done r) := by
  intro fuel hf
  obtain ⟨k, rfl⟩ : ∃ k, fuel = fuel₀ + k := ⟨fuel - fuel₀, by omega⟩
  rw [parseWith_eq_cells hnd]
  unfold parseWithCells
  simp [hcf, parseLoop_mono _ _ _ _ _ _ hr k, Outcome.map]

theorem tcell_tableSound (g : Grammar T N) (fi : List (Sym T N) → TE T) (fo : N → TEnd T) (rows : List N) :
    TableSound g (tcell (buildTable fi fo g.prods rows)) := by
  intro A col p h
  obtain ⟨h1, h2, _⟩ := mem_tcell_buildTable.1 (by rw [h]; exact List.mem_singleton.2 rfl)
  exact ⟨h1, h2⟩

theorem tconflicts_nil_iff (t : PTable T N) {rows rows' : List N} {cols cols' : List (Option T)}
    (hr : ∀ A, A ∈ rows ↔ A ∈ rows') (hc : ∀ c, c ∈ cols ↔ c ∈ cols') :
    tconflicts t rows cols = [] ↔ tconflicts t rows' cols' = [] := by
  unfold tconflicts
  rw [conflictList_eq_nil_iff (M := tcell t), conflictList_eq_nil_iff (M := tcell t)]
  constructor
  · intro h A hA c hc'; exact h A ((hr A).2 hA) c ((hc c).2 hc')
  · intro h A hA c hc'; exact h A ((hr A).1 hA) c ((hc c).1 hc')

end AlgoVerif.C10
