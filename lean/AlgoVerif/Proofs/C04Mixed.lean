import AlgoVerif.Model.C04Run
/-!
# C04: families whose heaps were built with different comparators of the same order

The heaps read a comparator only through the tests `> 0`, `< 0`, `≤ 0`, `== 0`.  Two comparators that agree in sign
(`SignEq`: `cmpAsc`, `a - b`, `7 * (a - b)` on the integers, say) therefore make every Model function the same function,
and a family in which every heap was built with its own comparator of that kind (`ImplC.run`) has the trace of the
family built with one of them (`Impl.run`), to which `C04_binomial` / `C04_fibonacci` apply.
-/
namespace AlgoVerif.C04
variable {K V : Type}

def SignEq (c1 c2 : K → K → Int) : Prop := ∀ a b, (c1 a b < 0 ↔ c2 a b < 0) ∧ (0 < c1 a b ↔ 0 < c2 a b)

theorem SignEq.refl (c : K → K → Int) : SignEq c c := fun _ _ => ⟨Iff.rfl, Iff.rfl⟩

theorem SignEq.lawful {c1 c2 : K → K → Int} (h : SignEq c1 c2) (hc : LawfulCmp c2) : LawfulCmp c1 := by
  constructor
  · intro a b hab
    have h1 := (h a b).1
    have h2 := (h b a).2
    have := hc.sign a b (by omega)
    omega
  · intro a b c hab hbc
    have h1 := (h a b).2
    have h2 := (h b c).2
    have h3 := (h a c).2
    have := hc.trans a b c (by omega) (by omega)
    omega

section
variable {c1 c2 : K → K → Int} (h : SignEq c1 c2)
include h

theorem SignEq.lt (a b : K) : (c1 a b < 0) = (c2 a b < 0) :=
  propext (h a b).1

theorem SignEq.gt (a b : K) : (c1 a b > 0) = (c2 a b > 0) :=
  propext (h a b).2

theorem SignEq.le (a b : K) : (c1 a b ≤ 0) = (c2 a b ≤ 0) := by
  have := (h a b).2
  apply propext
  constructor <;> intro hh <;> omega

theorem SignEq.beq0 (a b : K) : (c1 a b == 0) = (c2 a b == 0) := by
  have h1 := (h a b).1
  have h2 := (h a b).2
  have : (c1 a b = 0) ↔ (c2 a b = 0) := by constructor <;> intro hh <;> omega
  rw [Bool.eq_iff_iff]
  simpa using this

theorem consLoop_signEq :
    ∀ (rest pre : List (Tree K V)) (curr : Tree K V),
      Binomial.consLoop c1 pre curr rest = Binomial.consLoop c2 pre curr rest := by
  intro rest
  induction rest with
  | nil => intro pre curr; simp [Binomial.consLoop]
  | cons next rest ih =>
    intro pre curr
    simp only [Binomial.consLoop, h.gt, ih]

theorem consolidate_signEq (l : List (Tree K V)) :
    Binomial.consolidate c1 l = Binomial.consolidate c2 l := by
  cases l with
  | nil => rfl
  | cons a l => simp only [Binomial.consolidate, consLoop_signEq h]

theorem union_signEq (a b : List (Tree K V)) :
    Binomial.union c1 a b = Binomial.union c2 a b := by
  simp only [Binomial.union, consolidate_signEq h]

theorem findExtLoop_signEq :
    ∀ (rest pre : List (Tree K V)) (ext : Tree K V) (mid : List (Tree K V)),
      Binomial.findExtLoop c1 pre ext mid rest = Binomial.findExtLoop c2 pre ext mid rest := by
  intro rest
  induction rest with
  | nil => intro pre ext mid; simp [Binomial.findExtLoop]
  | cons s rest ih =>
    intro pre ext mid
    simp only [Binomial.findExtLoop, h.lt, ih]

theorem findExt_signEq (l : List (Tree K V)) :
    Binomial.findExt c1 l = Binomial.findExt c2 l := by
  cases l with
  | nil => rfl
  | cons a l => simp only [Binomial.findExt, findExtLoop_signEq h]

theorem Binomial.step_signEq (eqV : V → V → Bool) (s : Binomial K V)
    (op : Op K V) : Binomial.step c1 eqV s op = Binomial.step c2 eqV s op := by
  cases op <;>
    simp only [Binomial.step, Binomial.insert, Binomial.delete, Binomial.peek, Binomial.containsKey,
      union_signEq h, findExt_signEq h, h.beq0]

theorem Binomial.mergeWith_signEq (a b : Binomial K V) :
    a.mergeWith c1 b = a.mergeWith c2 b := by
  simp only [Binomial.mergeWith, union_signEq h]

theorem Cons.inner_signEq :
    ∀ (fuel : Nat) (st : Cons K V) (i : Nat), Cons.inner c1 fuel st i = Cons.inner c2 fuel st i := by
  intro fuel
  induction fuel with
  | zero => intro st i; rfl
  | succ fuel ih =>
    intro st i
    simp only [Cons.inner, h.gt, ih]

theorem Cons.outer_signEq :
    ∀ (fuel : Nat) (st : Cons K V) (i : Nat), Cons.outer c1 fuel st i = Cons.outer c2 fuel st i := by
  intro fuel
  induction fuel with
  | zero => intro st i; rfl
  | succ fuel ih =>
    intro st i
    simp only [Cons.outer, Cons.inner_signEq h, ih]

theorem pickExtId_signEq (ring : List (Nat × Tree K V)) (a : Option Nat)
    (b : Nat) : pickExtId c1 ring a b = pickExtId c2 ring a b := by
  simp only [pickExtId, h.le]

theorem pickLoop_signEq (ring : List (Nat × Tree K V)) :
    ∀ (l : List (Option Nat)) (ext : Option Nat), pickLoop c1 ring l ext = pickLoop c2 ring l ext := by
  intro l
  induction l with
  | nil => intro ext; rfl
  | cons r rs ih =>
    intro ext
    cases r with
    | none => simp only [pickLoop, ih]
    | some r => simp only [pickLoop, pickExtId_signEq h, ih]

theorem Fib.consolidate_signEq (n : Int) (roots : List (Tree K V)) :
    Fib.consolidate c1 n roots = Fib.consolidate c2 n roots := by
  simp only [Fib.consolidate, Cons.outer_signEq h, pickLoop_signEq h]

theorem Fib.step_signEq (eqV : V → V → Bool) (s : Fib K V)
    (op : Op K V) : Fib.step c1 eqV s op = Fib.step c2 eqV s op := by
  cases op <;>
    simp only [Fib.step, Fib.insert, Fib.delete, Fib.containsKey, Fib.consolidate_signEq h, h.le, h.beq0]

theorem Fib.mergeWith_signEq (a b : Fib K V) :
    a.mergeWith c1 b = a.mergeWith c2 b := by
  simp only [Fib.mergeWith, Fib.mergeRoots, h.le]

end

theorem ImplC.runFrom_eq (I : ImplC K V) (cmps : Nat → K → K → Int) (cmp : K → K → Int)
    (hstep : ∀ r s op, I.step (cmps r) s op = I.step cmp s op)
    (hmerge : ∀ r a b, I.merge (cmps r) a b = I.merge cmp a b) :
    ∀ (ops : List (MOp K V)) (regs : Nat → I.σ), I.runFrom cmps regs ops = (I.at cmp).runFrom regs ops := by
  intro ops
  induction ops with
  | nil => intro regs; rfl
  | cons op ops ih =>
    intro regs
    have hm : I.mstep cmps regs op = (I.at cmp).mstep regs op := by
      cases op <;> simp only [ImplC.mstep, Impl.mstep, ImplC.at, hstep, hmerge]
    simp only [ImplC.runFrom, Impl.runFrom, hm]
    cases (I.at cmp).mstep regs op with
    | ok p => exact congrArg (Outcome.ok p.2 :: ·) (ih p.1)
    | panic => rfl
    | diverge => rfl

theorem binomial_mixed_run (cmp : K → K → Int) (eqV : V → V → Bool) (cmps : Nat → K → K → Int)
    (hs : ∀ r, SignEq (cmps r) cmp) (ops : List (MOp K V)) :
    (binomialImplC eqV).run cmps ops = (binomialImpl cmp eqV).run ops :=
  ImplC.runFrom_eq (binomialImplC eqV) cmps cmp
    (fun r s op => Binomial.step_signEq (hs r) eqV s op)
    (fun r a b => congrArg Outcome.ok (Binomial.mergeWith_signEq (hs r) a b)) ops _

theorem fib_mixed_run (cmp : K → K → Int) (eqV : V → V → Bool) (cmps : Nat → K → K → Int)
    (hs : ∀ r, SignEq (cmps r) cmp) (ops : List (MOp K V)) :
    (fibImplC eqV).run cmps ops = (fibImpl cmp eqV).run ops :=
  ImplC.runFrom_eq (fibImplC eqV) cmps cmp
    (fun r s op => Fib.step_signEq (hs r) eqV s op)
    (fun r a b => congrArg Outcome.ok (Fib.mergeWith_signEq (hs r) a b)) ops _

theorem signEq_cmpSub : SignEq cmpSub cmpAsc := by
  intro a b; unfold cmpSub cmpAsc; constructor <;> (split <;> try split) <;> omega
theorem signEq_cmpSub7 : SignEq cmpSub7 cmpAsc := by
  intro a b; unfold cmpSub7 cmpAsc; constructor <;> (split <;> try split) <;> omega
theorem signEq_cmpRevSub : SignEq cmpRevSub cmpDesc := by
  intro a b; unfold cmpRevSub cmpDesc; constructor <;> (split <;> try split) <;> omega

end AlgoVerif.C04
