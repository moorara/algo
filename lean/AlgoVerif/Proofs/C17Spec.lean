import AlgoVerif.Spec.C17
/-!
Lemmas about the specification of C17.  `Conn n us` is the least equivalence holding the valid pairs of `us`
(`Conn.of_pairs`, `Conn.ker`); the number of classes is determined (`IsClassCount.unique`), and two structures tracking
the same history give the same answers (`Tracks.agree`).

Then the one invariant all three implementations share, with no array in it: `Represents n us rt` — the function `rt`
picks a representative of every class of `Conn n us`.  What one more `Union` call does to it, to the number of its fixed
points and to `numMerges` is proved here once; an implementation only has to say which `rt` its array stands for.
-/
namespace AlgoVerif.C17.Spec

variable {n : Nat} {us us' : List (Int × Int)} {p q a b : Int}

theorem Conn.valid (h : Conn n us p q) : Valid n p ∧ Valid n q := by
  induction h with
  | refl h => exact ⟨h, h⟩
  | pair _ hp hq => exact ⟨hp, hq⟩
  | symm _ ih => exact ⟨ih.2, ih.1⟩
  | trans _ _ ih1 ih2 => exact ⟨ih1.1, ih2.2⟩

theorem Conn.of_pairs (h : ∀ x ∈ us, Valid n x.1 → Valid n x.2 → Conn n us' x.1 x.2) (c : Conn n us p q) :
    Conn n us' p q := by
  induction c with
  | refl h => exact .refl h
  | pair hm hp hq => exact h _ hm hp hq
  | symm _ ih => exact .symm ih
  | trans _ _ ih1 ih2 => exact .trans ih1 ih2

theorem Conn.ker {β : Type} (f : Int → β) (h : ∀ x ∈ us, Valid n x.1 → Valid n x.2 → f x.1 = f x.2)
    (c : Conn n us p q) : f p = f q := by
  induction c with
  | refl => rfl
  | pair hm hp hq => exact h _ hm hp hq
  | symm _ ih => exact ih.symm
  | trans _ _ ih1 ih2 => exact ih1.trans ih2

theorem Conn.snoc (h : Conn n us p q) : Conn n (us ++ [(a, b)]) p q :=
  h.of_pairs fun _ hx hp hq => .pair (List.mem_append_left _ hx) hp hq

theorem conn_new {x : Int × Int} (hx : x = (a, b) ∨ x = (b, a)) (ha : Valid n a) (hb : Valid n b) :
    Conn n (us ++ [x]) a b := by
  have hm : x ∈ us ++ [x] := List.mem_append_right _ (List.mem_singleton.2 rfl)
  rcases hx with rfl | rfl
  · exact .pair hm ha hb
  · exact .symm (.pair hm hb ha)

theorem conn_snoc_skip (h : ¬ (Valid n a ∧ Valid n b) ∨ Conn n us a b) :
    Conn n (us ++ [(a, b)]) p q ↔ Conn n us p q :=
  ⟨Conn.of_pairs fun x hx hp hq => (List.mem_append.1 hx).elim (.pair · hp hq) fun e => by
    cases List.mem_singleton.1 e; exact h.resolve_left fun k => k ⟨hp, hq⟩, Conn.snoc⟩

theorem length_le_of_injective_rel {α β : Type} [DecidableEq β] (R : α → β → Prop) :
    ∀ (l : List α) (l' : List β), l.Nodup → (∀ a ∈ l, ∃ b ∈ l', R a b) →
      (∀ a ∈ l, ∀ a' ∈ l, ∀ b, R a b → R a' b → a = a') → l.length ≤ l'.length := by
  intro l
  induction l with
  | nil => intro l' _ _ _; simp
  | cons a t ih =>
    intro l' hnd hex hinj
    obtain ⟨hat, hndt⟩ := List.nodup_cons.1 hnd
    obtain ⟨b, hb, hab⟩ := hex a (List.mem_cons_self ..)
    have := ih (l'.erase b) hndt
      (fun a' ha' => by
        obtain ⟨b', hb', hab'⟩ := hex a' (List.mem_cons_of_mem _ ha')
        have hne : b' ≠ b := by
          intro h
          subst h
          have := hinj a (List.mem_cons_self ..) a' (List.mem_cons_of_mem _ ha') b' hab hab'
          exact hat (this ▸ ha')
        exact ⟨b', (List.mem_erase_of_ne hne).2 hb', hab'⟩)
      (fun x hx y hy => hinj x (List.mem_cons_of_mem _ hx) y (List.mem_cons_of_mem _ hy))
    rw [List.length_erase_of_mem hb] at this
    have : 0 < l'.length := List.length_pos_of_mem hb
    simp only [List.length_cons]
    omega

theorem IsClassCount.le {k k' : Nat} (h : IsClassCount n us k) (h' : IsClassCount n us k') : k ≤ k' := by
  obtain ⟨reps, hl, hnd, hlt, _, hsep⟩ := h
  obtain ⟨reps', hl', _, _, hcov', _⟩ := h'
  rw [← hl, ← hl']
  refine length_le_of_injective_rel (fun (r r' : Nat) => Conn n us (r : Int) (r' : Int)) reps reps' hnd ?_ ?_
  · intro r hr
    exact hcov' r ⟨by omega, by have := hlt r hr; omega⟩
  · intro r hr s hs b h1 h2
    exact hsep r hr s hs (h1.trans h2.symm)

theorem IsClassCount.unique {k k' : Nat} (h : IsClassCount n us k) (h' : IsClassCount n us k') : k = k' :=
  Nat.le_antisymm (h.le h') (h'.le h)

theorem Tracks.agree {find find' : Int → Outcome (Int × Bool)} {conn conn' : Int → Int → Outcome Bool} {k k' : Int}
    (T : Tracks n us find conn k) (T' : Tracks n us find' conn' k') :
    (∀ p q, conn p q = conn' p q) ∧ k = k' := by
  refine ⟨fun p q => ?_, by rw [T.count_merges, T'.count_merges]⟩
  obtain ⟨b, e, i⟩ := T.connected_iff p q
  obtain ⟨b', e', i'⟩ := T'.connected_iff p q
  rw [e, e', Bool.eq_iff_iff.2 (i.trans i'.symm)]

end AlgoVerif.C17.Spec

namespace AlgoVerif.C17
open AlgoVerif.C17.Spec

theorem valid_iff {n : Nat} {i : Int} : Valid n i ↔ 0 ≤ i ∧ i < n := Iff.rfl

theorem valid_cast {n i : Nat} : Valid n (i : Int) ↔ i < n := by
  simp [Valid]

theorem valid_exists_nat {n : Nat} {i : Int} (h : Valid n i) : ∃ k : Nat, k < n ∧ i = k :=
  ⟨i.toNat, by have := h.1; have := h.2; omega⟩

theorem countP_range_update (f g : Nat → Bool) (n k : Nat) (hk : k < n) (hf : f k = true)
    (hg : g k = false) (hagree : ∀ i, i < n → i ≠ k → f i = g i) :
    (List.range n).countP f = (List.range n).countP g + 1 := by
  induction n with
  | zero => omega
  | succ n ih =>
    rw [List.range_succ, List.countP_append, List.countP_append]
    by_cases hkn : k = n
    · subst hkn
      have : (List.range k).countP f = (List.range k).countP g := by
        apply List.countP_congr
        intro x hx
        have := List.mem_range.1 hx
        rw [hagree x (by omega) (by omega)]
      simp [this, hf, hg]
    · have := ih (by omega) (fun i hi hik => hagree i (by omega) hik)
      have hn : f n = g n := hagree n (by omega) (fun h => hkn h.symm)
      simp [this, hn]
      omega

/-- `rt` picks a canonical element of every class of `Conn n us` -/
structure Represents (n : Nat) (us : List (Int × Int)) (rt : Int → Int) : Prop where
  valid : ∀ i, Valid n i → Valid n (rt i)
  idem : ∀ i, Valid n i → rt (rt i) = rt i
  conn : ∀ i j, Valid n i → Valid n j → (rt i = rt j ↔ Conn n us i j)

theorem Represents.conn_rt {n us rt} (R : Represents n us rt) {i : Int} (hi : Valid n i) :
    Conn n us i (rt i) :=
  (R.conn i (rt i) hi (R.valid i hi)).1 (R.idem i hi).symm

theorem Represents.of_pairs {n us rt} (hv : ∀ i, Valid n i → Valid n (rt i))
    (hpairs : ∀ x ∈ us, Valid n x.1 → Valid n x.2 → rt x.1 = rt x.2)
    (hconn : ∀ i, Valid n i → Conn n us i (rt i)) : Represents n us rt where
  valid := hv
  idem i hi := (Conn.ker rt hpairs (hconn i hi)).symm
  conn i j hi hj := ⟨fun e => (hconn i hi).trans (e ▸ (hconn j hj).symm), Conn.ker rt hpairs⟩

theorem Represents.pairs {n us rt} (R : Represents n us rt) :
    ∀ x ∈ us, Valid n x.1 → Valid n x.2 → rt x.1 = rt x.2 :=
  fun _ hx hp hq => (R.conn _ _ hp hq).2 (.pair hx hp hq)

theorem Represents.init (n : Nat) : Represents n [] id :=
  .of_pairs (fun _ h => h) (fun _ h => nomatch h) fun _ hi => .refl hi

theorem Represents.ext {n us rt rt'} (R : Represents n us rt) (h : ∀ i, Valid n i → rt' i = rt i) :
    Represents n us rt' where
  valid i hi := by rw [h i hi]; exact R.valid i hi
  idem i hi := by rw [h i hi, h _ (R.valid i hi)]; exact R.idem i hi
  conn i j hi hj := by rw [h i hi, h j hj]; exact R.conn i j hi hj

theorem Represents.classCount {n us rt} (R : Represents n us rt) :
    IsClassCount n us ((List.range n).countP fun (i : Nat) => rt (i : Int) == (i : Int)) := by
  refine ⟨(List.range n).filter fun (i : Nat) => rt (i : Int) == (i : Int), ?_, ?_, ?_, ?_, ?_⟩
  · rw [List.countP_eq_length_filter]
  · exact List.Pairwise.filter _ List.nodup_range
  · intro r hr
    exact List.mem_range.1 (List.mem_filter.1 hr).1
  · intro p hp
    obtain ⟨k, hk, hrt⟩ := valid_exists_nat (R.valid p hp)
    exact ⟨k, List.mem_filter.2 ⟨List.mem_range.2 hk, beq_iff_eq.2 (by rw [← hrt, R.idem p hp])⟩,
      hrt ▸ R.conn_rt hp⟩
  · intro r hr s hs hc
    have hr' := List.mem_filter.1 hr
    have hs' := List.mem_filter.1 hs
    have hvr : Valid n (r : Int) := valid_cast.2 (List.mem_range.1 hr'.1)
    have hvs : Valid n (s : Int) := valid_cast.2 (List.mem_range.1 hs'.1)
    have := (R.conn _ _ hvr hvs).2 hc
    have h1 : rt (r : Int) = r := by simpa using hr'.2
    have h2 : rt (s : Int) = s := by simpa using hs'.2
    omega

/-- `x` is the call `Union(a, b)` or `Union(b, a)`: what is asked of the new pair is symmetric -/
theorem Represents.merge {n us rt a b} (R : Represents n us rt) (ha : Valid n a) (hb : Valid n b) {x : Int × Int}
    (hx : x = (a, b) ∨ x = (b, a)) :
    Represents n (us ++ [x]) (fun i => if rt i = rt a then rt b else rt i) := by
  refine .of_pairs (fun i hi => ?_) (fun y hy hp hq => ?_) fun i hi => ?_
  · split
    · exact R.valid b hb
    · exact R.valid i hi
  · rcases List.mem_append.1 hy with hy | hy
    · rw [R.pairs y hy hp hq]
    · rcases hx with rfl | rfl <;> cases List.mem_singleton.1 hy <;> simp only [if_true, ite_self]
  · -- `i` is connected to its new representative: as before, or over `a`, the new pair and `b`
    split
    next h => exact ((R.conn i a hi ha).1 h).snoc.trans ((conn_new hx ha hb).trans (R.conn_rt hb).snoc)
    next => exact (R.conn_rt hi).snoc

theorem Represents.merge_count {n us rt a b} {rt' : Int → Int} (R : Represents n us rt) (ha : Valid n a) (hb : Valid n b)
    (hne : rt a ≠ rt b) (hrt' : ∀ i, Valid n i → rt' i = if rt i = rt a then rt b else rt i) :
    ((List.range n).countP fun (i : Nat) => rt (i : Int) == (i : Int)) =
      ((List.range n).countP fun (i : Nat) => rt' (i : Int) == (i : Int)) + 1 := by
  have hva := R.valid a ha
  obtain ⟨k, hk, hcast⟩ := valid_exists_nat hva
  apply countP_range_update _ _ n k hk
  · simp only [← hcast, R.idem a ha, beq_self_eq_true]
  · simp only [← hcast, hrt' _ hva, R.idem a ha, if_true, beq_eq_false_iff_ne]
    exact fun h => hne h.symm
  · intro i hin hi
    have hia : (i : Int) ≠ rt a := fun h => hi (Int.ofNat_inj.1 (h.trans hcast))
    rw [hrt' _ (valid_cast.2 hin)]
    split
    next h =>
      -- `i` is in the class of `a` but is not its representative: not a fixed point before or after
      have hib : rt b ≠ (i : Int) := fun k => hia (by rw [← k, ← h, ← k, R.idem b hb])
      rw [h, beq_eq_false_iff_ne.2 hib, beq_eq_false_iff_ne.2 (Ne.symm hia)]
    next => rfl

theorem Represents.skip {n us rt a b} (R : Represents n us rt)
    (h : ¬ (Valid n a ∧ Valid n b) ∨ Conn n us a b) : Represents n (us ++ [(a, b)]) rt :=
  ⟨R.valid, R.idem, fun i j hi hj => (R.conn i j hi hj).trans (conn_snoc_skip h).symm⟩

theorem numMerges_nil (n : Nat) : numMerges n [] = 0 := rfl

theorem mergesAfter_snoc (n : Nat) (done rest : List (Int × Int)) (a b : Int) :
    mergesAfter n done (rest ++ [(a, b)]) = mergesAfter n done rest +
      (open Classical in if Valid n a ∧ Valid n b ∧ ¬ Conn n (done ++ rest) a b then 1 else 0) := by
  induction rest generalizing done with
  | nil => rw [List.append_nil]; simp [mergesAfter]
  | cons x rest ih =>
    obtain ⟨p, q⟩ := x
    simp only [List.cons_append, mergesAfter]
    rw [ih, List.append_assoc, List.singleton_append]
    simp [Nat.add_assoc]

theorem numMerges_snoc (n : Nat) (us : List (Int × Int)) (a b : Int) :
    numMerges n (us ++ [(a, b)]) = numMerges n us +
      (open Classical in if Valid n a ∧ Valid n b ∧ ¬ Conn n us a b then 1 else 0) := by
  simpa [numMerges] using mergesAfter_snoc n [] us a b

theorem numMerges_skip {n us a b} (h : ¬ (Valid n a ∧ Valid n b) ∨ Conn n us a b) :
    numMerges n (us ++ [(a, b)]) = numMerges n us := by
  rw [numMerges_snoc, if_neg fun ⟨h1, h2, h3⟩ => h.elim (fun k => k ⟨h1, h2⟩) h3, Nat.add_zero]

theorem numMerges_merge {n us a b} {x : Int × Int} (hx : x = (a, b) ∨ x = (b, a)) (ha : Valid n a) (hb : Valid n b)
    (h : ¬ Conn n us a b) : numMerges n (us ++ [x]) = numMerges n us + 1 := by
  rcases hx with rfl | rfl
  · rw [numMerges_snoc, if_pos ⟨ha, hb, h⟩]
  · rw [numMerges_snoc, if_pos ⟨hb, ha, fun k => h k.symm⟩]

end AlgoVerif.C17
