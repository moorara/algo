import AlgoVerif.Generated.C02Gen
import AlgoVerif.Proofs.GoRt
import AlgoVerif.Model.C02
/-!
# The GENERATED model of `symboltable/hash_table.go` (the arithmetic helpers of the hash tables) and the hand Model

`Generated/C02Gen.lean` holds `gcd`, `isPowerOf2`, `isPrime`, `largestPrimeSmallerThan`, `smallestPrimeLargerThan` — the
functions the capacity checks, the second hash of double hashing and the rehash sizes are computed with.  The hand Model
(`Model/C02.lean`) writes them over `Nat` with the loop fuel built in (enough, by the argument beside each; only the
upward prime search keeps a `diverge` for fuel running out); the generated definitions are over `UInt64` / `Int`, take
the caller's fuel and `diverge` without it.  Each theorem says: on the image of the natural numbers, with at least the
stated fuel, the generated definition returns exactly the hand Model's value (`smallestPrimeLargerThan`: the hand
Model's outcome `≼` the generated one).  Of the three open-addressing table files only `probe`,
`Get`, `Size`, `IsEmpty` of `linear_hash_table.go` are inside the translator's subset (`Proofs/C02LinGen.lean`; what
excludes the rest: DESIGN.md §4.5).
-/
namespace AlgoVerif.C02.Gen
open AlgoVerif AlgoVerif.Outcome AlgoVerif.C02 AlgoVerif.Generated

/-- `for b != 0 { a, b = b, a%b }` -/
theorem gcd_loop (F : Nat) : ∀ (f d : Nat) (a b : UInt64), b.toNat < f →
    (HashHelp.gcd.loop1 F (f + d) a b).map (fun r => r.1.toNat) = .ok (gcdLoop f a.toNat b.toNat) := by
  intro f
  induction f with
  | zero => intro d a b h; omega
  | succ f ih =>
    intro d a b hb
    rw [show f + 1 + d = (f + d) + 1 by omega]
    simp only [HashHelp.gcd.loop1, gcdLoop]
    by_cases h0 : b = 0
    · subst h0; simp
    · have hn : b.toNat ≠ 0 := fun h => h0 (UInt64.toNat_inj.1 (by simpa using h))
      have hne : (b != (0 : UInt64)) = true := by simpa using h0
      simp only [hne, Bool.not_true, Bool.false_eq_true, if_false, Go.modU64, h0, hn, Outcome.ok_bind,
        Outcome.pure_eq]
      have := ih d b (a % b) (by
        rw [UInt64.toNat_mod]
        have := Nat.mod_lt a.toNat (Nat.pos_of_ne_zero hn)
        omega)
      rw [UInt64.toNat_mod] at this
      exact this

theorem gcd_eq (a b : UInt64) (F : Nat) (hF : min a.toNat b.toNat + 1 ≤ F) :
    (HashHelp.gcd F a b).map UInt64.toNat = .ok (gcdGo a.toNat b.toNat) := by
  obtain ⟨d, rfl⟩ : ∃ d, F = min a.toNat b.toNat + 1 + d := ⟨F - (min a.toNat b.toNat + 1), by omega⟩
  have hmax : (if a < b then b else a).toNat = max a.toNat b.toNat := by
    split <;> rename_i h <;> rw [UInt64.lt_iff_toNat_lt] at h <;> omega
  have hmin : (if b < a then b else a).toNat = min a.toNat b.toNat := by
    split <;> rename_i h <;> rw [UInt64.lt_iff_toNat_lt] at h <;> omega
  have := gcd_loop (min a.toNat b.toNat + 1 + d) (min a.toNat b.toNat + 1) d (if a < b then b else a)
    (if b < a then b else a) (by rw [hmin]; omega)
  rw [hmax, hmin] at this
  simp only [HashHelp.gcd, gcdGo, Outcome.pure_eq, Outcome.map_bind, Outcome.map_ok]
  revert this
  cases HashHelp.gcd.loop1 (min a.toNat b.toNat + 1 + d) (min a.toNat b.toNat + 1 + d) (if a < b then b else a)
    (if b < a then b else a) <;> simp

theorem andInt_natCast (x y : Nat) (hx : x < 2 ^ 63) (hy : y < 2 ^ 63) : Go.andInt (x : Int) (y : Int) = ((x &&& y : Nat) : Int) := by
  unfold Go.andInt
  have e1 : BitVec.ofInt 64 (x : Int) = BitVec.ofNat 64 x := by
    apply BitVec.eq_of_toNat_eq; simp
  have e2 : BitVec.ofInt 64 (y : Int) = BitVec.ofNat 64 y := by
    apply BitVec.eq_of_toNat_eq; simp
  rw [e1, e2]
  have hle : x &&& y ≤ x := Nat.and_le_left
  have hn : (BitVec.ofNat 64 x &&& BitVec.ofNat 64 y).toNat = x &&& y := by
    rw [BitVec.toNat_and, BitVec.toNat_ofNat, BitVec.toNat_ofNat, Nat.mod_eq_of_lt (by omega), Nat.mod_eq_of_lt (by omega)]
  rw [BitVec.toInt_eq_toNat_of_lt (by rw [hn]; omega), hn]

theorem isPowerOf2_eq (n : Nat) (hn : n < 2 ^ 63) : HashHelp.isPowerOf2 (n : Int) = C02.isPowerOf2 n := by
  unfold HashHelp.isPowerOf2 C02.isPowerOf2
  cases n with
  | zero => decide
  | succ m =>
    have e : (((m + 1 : Nat) : Int) - 1) = ((m : Nat) : Int) := by omega
    rw [e, andInt_natCast (m + 1) m hn (by omega)]
    simp only [Nat.add_sub_cancel]
    by_cases h : (m + 1) &&& m = 0
    · simp [h]
    · have h1 : ((((m + 1) &&& m : Nat) : Int) == 0) = false := by rw [beq_eq_false_iff_ne]; omega
      have h2 : ((m + 1) &&& m == 0) = false := by rw [beq_eq_false_iff_ne]; exact h
      rw [h1, h2]

/-- `for i := 2; i*i <= n; i++ { if n%i == 0 { return false } }` with enough fuel (`n + 2 ≤ i + f`; the generated loop
needs one unit more than the hand Model's, which returns `true` when its fuel is used up) -/
theorem isPrime_loop (F n : Nat) : ∀ (f d i : Nat), 2 ≤ i → n + 2 ≤ i + f →
    (HashHelp.isPrime.loop1 F (n : Int) (f + 1 + d) (i : Int)).map (Go.found true) = .ok (isPrimeLoop n f i) := by
  intro f
  induction f with
  | zero =>
    intro d i hi hf
    have hlt : n < i := by omega
    have : ¬ i * i ≤ n := by
      have : i ≤ i * i := Nat.le_mul_self i
      omega
    have hc : decide (((i : Int) * (i : Int)) ≤ (n : Int)) = false := by
      simp only [decide_eq_false_iff_not]; intro h; exact this (by exact_mod_cast h)
    rw [show 0 + 1 + d = d + 1 by omega]
    simp [HashHelp.isPrime.loop1, isPrimeLoop, hc, Go.found]
  | succ f ih =>
    intro d i hi hf
    rw [show f + 1 + 1 + d = (f + 1 + d) + 1 by omega]
    simp only [HashHelp.isPrime.loop1, isPrimeLoop]
    by_cases hc : i * i ≤ n
    · have hc' : decide (((i : Int) * (i : Int)) ≤ (n : Int)) = true := by
        simp only [decide_eq_true_eq]; exact_mod_cast hc
      have hi0 : (i : Int) ≠ 0 := by omega
      have hm : Go.mod (n : Int) (i : Int) = .ok (((n % i : Nat)) : Int) := by
        simp only [Go.mod, hi0, if_false]
        rw [Int.tmod_eq_emod_of_nonneg (by omega)]
        congr 1
      simp only [hc, hc', if_true, Bool.not_true, Bool.false_eq_true, if_false, hm, Outcome.ok_bind,
        Outcome.pure_eq]
      by_cases hz : n % i = 0
      · simp [hz, Go.found]
      · have hz' : ((((n % i : Nat)) : Int) == 0) = false := by
          rw [beq_eq_false_iff_ne]; omega
        simp only [hz, hz', Bool.false_eq_true, if_false]
        have := ih d (i + 1) (by omega) (by omega)
        rwa [show ((i + 1 : Nat) : Int) = (i : Int) + 1 by omega] at this
    · have hc' : decide (((i : Int) * (i : Int)) ≤ (n : Int)) = false := by
        simp only [decide_eq_false_iff_not]; intro h; exact hc (by exact_mod_cast h)
      simp only [hc, hc', Bool.not_false, if_true, if_false, Outcome.pure_eq, Outcome.map_ok, Go.found]

/-- the chain of `n == p` the translator writes for `isPrime`'s `switch` is membership in the first tie's regenerated
table `symboltable_isPrime_small`.  The left side has to retype the primes as the generated TEXT has them: a changed
table in the source changes both files and this stops checking. -/
theorem smallPrimes_chain (n : Nat) :
    ((((((((((((((((((((((((((n : Int) == 2) || ((n : Int) == 3)) || ((n : Int) == 5)) || ((n : Int) == 7)) || ((n : Int) == 11)) || ((n : Int) == 13)) || ((n : Int) == 17)) || ((n : Int) == 19)) || ((n : Int) == 23)) || ((n : Int) == 29)) || ((n : Int) == 31)) || ((n : Int) == 37)) || ((n : Int) == 41)) || ((n : Int) == 43)) || ((n : Int) == 47)) || ((n : Int) == 53)) || ((n : Int) == 59)) || ((n : Int) == 61)) || ((n : Int) == 67)) || ((n : Int) == 71)) || ((n : Int) == 73)) || ((n : Int) == 79)) || ((n : Int) == 83)) || ((n : Int) == 89)) || ((n : Int) == 97)) =
      smallPrimes.contains n := by
  have key : ∀ k : Nat, ((n : Int) == (OfNat.ofNat k : Int)) = (n == (OfNat.ofNat k : Nat)) := by
    intro k
    by_cases h : n = OfNat.ofNat k
    · rw [h]
      exact (beq_self_eq_true (OfNat.ofNat k : Int)).trans (beq_self_eq_true (OfNat.ofNat k : Nat)).symm
    · have h1 : ((n : Int) == (OfNat.ofNat k : Int)) = false := by
        rw [beq_eq_false_iff_ne]; intro e; exact h (Int.ofNat.inj e)
      have h2 : (n == (OfNat.ofNat k : Nat)) = false := by rw [beq_eq_false_iff_ne]; exact h
      rw [h1, h2]
  simp only [smallPrimes, symboltable_isPrime_small, List.contains_cons, List.contains_nil, Bool.or_false, key, Bool.or_assoc]

theorem isPrime_eq (n F : Nat) (hF : n + 1 ≤ F) : HashHelp.isPrime F (n : Int) = .ok (C02.isPrime n) := by
  obtain ⟨d, rfl⟩ : ∃ d, F = n + 1 + d := ⟨F - (n + 1), by omega⟩
  unfold HashHelp.isPrime C02.isPrime
  by_cases h1 : n ≤ 1
  · have : decide ((n : Int) ≤ 1) = true := by simp only [decide_eq_true_eq]; omega
    simp [h1, this]
  · have h1' : decide ((n : Int) ≤ 1) = false := by simp only [decide_eq_false_iff_not]; omega
    simp only [h1, h1', Bool.false_eq_true, if_false, smallPrimes_chain]
    by_cases h2 : smallPrimes.contains n = true
    · simp only [h2, if_true, Outcome.pure_eq]
    · have h2' : smallPrimes.contains n = false := by simpa using h2
      simp only [h2', Bool.false_eq_true, if_false]
      have hb : symboltable_isPrime_smallBound = 100 := rfl
      by_cases h3 : n ≤ 100
      · have : decide ((n : Int) ≤ 100) = true := by simp only [decide_eq_true_eq]; omega
        simp [h3, this, hb]
      · have h3' : decide ((n : Int) ≤ 100) = false := by simp only [decide_eq_false_iff_not]; omega
        simp only [h3, h3', hb, Bool.false_eq_true, if_false, Outcome.pure_eq]
        exact (Go.ret_or _ true _ (fun _ => rfl) (fun _ => rfl)).trans
          (isPrime_loop (n + 1 + d) n n d 2 (by omega) (by omega))

theorem largestPrime_loop (F : Nat) : ∀ (p : Nat), p + 1 ≤ F → 1 ≤ p →
    (HashHelp.largestPrimeSmallerThan.loop1 F (p - 1) (p : Int)).map (Go.found (-1)) = .ok (C02.largestPrimeSmallerThan p) := by
  intro p
  induction p with
  | zero => intro _ h; omega
  | succ q ih =>
    intro hF _
    simp only [C02.largestPrimeSmallerThan]
    by_cases hq : q = 0
    · subst hq
      simp [HashHelp.largestPrimeSmallerThan.loop1, Go.found]
    · have hlt : ¬ q + 1 < 2 := by omega
      rw [show q + 1 - 1 = (q - 1) + 1 by omega]
      simp only [HashHelp.largestPrimeSmallerThan.loop1, isPrime_eq (q + 1) F (by omega), Outcome.ok_bind, hlt, if_false]
      by_cases hp : C02.isPrime (q + 1) = true
      · simp [hp, Go.found]
      · have hp' : C02.isPrime (q + 1) = false := by simpa using hp
        simp only [hp', Bool.false_eq_true, if_false]
        have := ih (by omega) (by omega)
        rwa [show (((q + 1 : Nat) : Int) - 1) = ((q : Nat) : Int) by omega]

theorem largestPrime_eq (n F : Nat) (hF : n + 1 ≤ F) :
    HashHelp.largestPrimeSmallerThan F (n : Int) = .ok (C02.largestPrimeSmallerThan n) := by
  unfold HashHelp.largestPrimeSmallerThan
  by_cases h2 : n < 2
  · have : decide ((n : Int) < 2) = true := by simp only [decide_eq_true_eq]; omega
    have hv : C02.largestPrimeSmallerThan n = -1 := by
      cases n with
      | zero => rfl
      | succ m =>
        have : m = 0 := by omega
        subst this
        simp [C02.largestPrimeSmallerThan]
    simp [this, hv]
  · have h2' : decide ((n : Int) < 2) = false := by simp only [decide_eq_false_iff_not]; omega
    simp only [h2', Bool.false_eq_true, if_false, Outcome.pure_eq]
    rw [show ((n : Int) + 1 - 2).toNat = n - 1 by omega]
    exact (Go.ret_or _ (-1) _ (fun _ => rfl) (fun _ => rfl)).trans (largestPrime_loop F n hF (by omega))

/-- `for p := n; ; p++ { if isPrime(p) { return p } }`: the hand Model's fuel `f`, every candidate `< F` -/
theorem smallestPrime_loop (F : Nat) : ∀ (f d p : Nat), p + f ≤ F →
    (smallestPrimeLoop f p).map (fun q => ((q : Nat) : Int)) ≼
      (HashHelp.smallestPrimeLargerThan.loop1 F (f + d) (p : Int) >>= fun c =>
        match c with
        | .ret r => .ok r
        | .next _ => .diverge) := by
  intro f
  induction f with
  | zero => intro d p _; simp [smallestPrimeLoop]
  | succ f ih =>
    intro d p hF
    rw [show f + 1 + d = (f + d) + 1 by omega]
    simp only [smallestPrimeLoop, HashHelp.smallestPrimeLargerThan.loop1, isPrime_eq p F (by omega), Outcome.ok_bind]
    by_cases hp : C02.isPrime p = true
    · simp [hp]
    · have hp' : C02.isPrime p = false := by simpa using hp
      simp only [hp', Bool.false_eq_true, if_false]
      have := ih d (p + 1) (by omega)
      rwa [show ((p + 1 : Nat) : Int) = (p : Int) + 1 by omega] at this

/-- `smallestPrimeLargerThan` on a natural number, with any fuel `≥ 2n + 3`: the hand Model tries `n + 3` candidates (enough
by Bertrand's postulate, `smallestPrimeLargerThan_terminates` in `C02Num`), and `isPrime` of a candidate needs fuel above it -/
theorem smallestPrime_le (n F : Nat) (hF : 2 * n + 3 ≤ F) :
    (C02.smallestPrimeLargerThan n).map (fun q => ((q : Nat) : Int)) ≼ HashHelp.smallestPrimeLargerThan F (n : Int) := by
  obtain ⟨d, rfl⟩ : ∃ d, F = n + 3 + d := ⟨F - (n + 3), by omega⟩
  have := smallestPrime_loop (n + 3 + d) (n + 3) d n (by omega)
  simp only [C02.smallestPrimeLargerThan, HashHelp.smallestPrimeLargerThan]
  refine this.trans_eq ?_
  congr 1 <;> (funext c; cases c <;> rfl)

end AlgoVerif.C02.Gen
