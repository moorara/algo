import AlgoVerif.Proofs.C13Refine
/-! C13: `Minimize` of a DFA without unreachable or dead states has the fewest states of any equivalent DFA. -/
namespace AlgoVerif.C13
open AlgoVerif AlgoVerif.C13.Spec

abbrev DFA.acc (d : DFA) (s : Int) (v : Word) : Prop := accFrom d.δ (fun f => f ∈ d.final) s v

theorem DFA.acc_cons_some (d : DFA) {s a s' : Int} (h : d.δ s a = some s') (v : Word) : d.acc s (a :: v) ↔ d.acc s' v := by
  simp [DFA.acc, accFrom_cons, h]

theorem DFA.acc_cons_none (d : DFA) {s a : Int} (h : d.δ s a = none) (v : Word) : ¬ d.acc s (a :: v) := by
  simp [DFA.acc, accFrom_cons, h]

def Dist (d : DFA) (P : Partition) : Prop :=
  ∀ s ∈ d.states, ∀ t ∈ d.states, P.rep s ≠ P.rep t → ∃ v, ¬ (d.acc s v ↔ d.acc t v)

theorem dist_init (d : DFA) (hfs : SSorted d.final) : Dist d d.initPartition := by
  have hP := d.initPartition_pinv hfs
  intro s hs t ht hne
  obtain ⟨Gs, hGs, hsG⟩ := hP.cover s hs
  obtain ⟨Gt, hGt, htG⟩ := hP.cover t ht
  have hdiff : Gs.1 ≠ Gt.1 := by
    intro he
    have : Gs = Gt := hP.wf.same_group hGs hGt hsG (by rw [← he]; exact hsG)
    apply hne
    rw [hP.wf.rep_of_mem hGs hsG, hP.wf.rep_of_mem hGt htG, this]
  refine ⟨[], ?_⟩
  simp only [DFA.acc]
  rw [accFrom_nil, accFrom_nil]
  rcases d.initPartition_groups hfs Gs hGs with h1 | h1 <;> rcases d.initPartition_groups hfs Gt hGt with h2 | h2
  · exact absurd (h1.trans h2.symm) hdiff
  · rw [h1] at hsG; rw [h2] at htG
    have := ((mem_sdiff).1 hsG).2
    intro hiff; exact this (hiff.2 htG)
  · rw [h1] at hsG; rw [h2] at htG
    have := ((mem_sdiff).1 htG).2
    intro hiff; exact this (hiff.1 hsG)
  · exact absurd (h1.trans h2.symm) hdiff

theorem dist_refine (d : DFA) (hwf : d.WF) (P : Partition) (hP : PInv d P) (hD : Dist d P)
    (hlive : ∀ s ∈ d.states, ∃ v, d.acc s v) : Dist d (refine d P) := by
  have hR := refine_spec P d hwf hP.wf
  have hPn := refine_pinv P d hwf hP
  intro s hs t ht hne
  by_cases hPr : P.rep s = P.rep t
  · -- same old group, different new groups: the signatures differ
    obtain ⟨G, hG, hsG⟩ := hP.cover s hs
    obtain ⟨G2, hG2, htG2⟩ := hP.cover t ht
    have : G = G2 := hP.wf.eq_of_rep_eq hG hG2 hsG htG2 hPr
    subst this
    obtain ⟨H, hH, hsH⟩ := hR.covered G hG s hsG
    obtain ⟨K, hK, htK⟩ := hR.covered G hG t htG2
    have hHK : H ≠ K := by
      intro he
      apply hne
      rw [hR.wf.rep_of_mem hH hsH, hR.wf.rep_of_mem hK htK, he]
    have hns : ¬ SigEq P d s t := fun hse => hHK (hR.sep H hH K hK s hsH t htK hse ⟨G, hG, hsG, htG2⟩)
    obtain ⟨a, ha⟩ := Classical.not_forall.1 hns
    have hrepO : ∀ x ∈ d.states, repO P x = some (P.rep x) := by
      intro x hx
      obtain ⟨Gx, hGx, hxG⟩ := hP.cover x hx
      simp [repO, hP.wf.rep_ne hGx hxG]
    cases hs1 : d.δ s a with
    | none =>
      cases ht1 : d.δ t a with
      | none => rw [hs1, ht1] at ha; exact absurd rfl ha
      | some t' =>
        obtain ⟨v, hv⟩ := hlive t' (d.step_mem_states ht1).2
        exact ⟨a :: v, fun hiff => d.acc_cons_none hs1 v (hiff.2 ((d.acc_cons_some ht1 v).2 hv))⟩
    | some s' =>
      cases ht1 : d.δ t a with
      | none =>
        obtain ⟨v, hv⟩ := hlive s' (d.step_mem_states hs1).2
        exact ⟨a :: v, fun hiff => d.acc_cons_none ht1 v (hiff.1 ((d.acc_cons_some hs1 v).2 hv))⟩
      | some t' =>
        have hs' := (d.step_mem_states hs1).2
        have ht' := (d.step_mem_states ht1).2
        rw [hs1, ht1] at ha
        simp only [Option.bind_some, hrepO s' hs', hrepO t' ht'] at ha
        obtain ⟨v, hv⟩ := hD s' hs' t' ht' (fun h => ha (by rw [h]))
        exact ⟨a :: v, by rw [d.acc_cons_some hs1, d.acc_cons_some ht1]; exact hv⟩
  · -- already in different old groups
    apply hD s hs t ht hPr

/-- the groups of the next round are non-empty, pairwise different as sets, and each is (as a set) a group of `P`;
with an empty group `P` would have too few for that -/
theorem final_no_empty (d : DFA) (hwf : d.WF) (P : Partition) (hP : PInv d P) (he : (refine d P).equal P = true) :
    ∀ G ∈ P.groups, G.1 ≠ [] := by
  have hR := refine_spec P d hwf hP.wf
  simp only [Partition.equal, Bool.and_eq_true, beq_iff_eq, List.all_eq_true, List.any_eq_true] at he
  obtain ⟨⟨hlen, hall⟩, _⟩ := he
  intro G hG hGe
  have hle := length_le_of_injOn (fun H : List Int × Int => H.1) (refine d P).groups
    ((P.groups.filter (fun K => !K.1.isEmpty)).map (·.1)) hR.wf.groups_nodup ?_ ?_
  · have hlt : (P.groups.filter (fun K => !K.1.isEmpty)).length < P.groups.length :=
      List.length_filter_lt_length_iff_exists.2 ⟨G, hG, by simp [hGe]⟩
    rw [List.length_map] at hle
    omega
  · intro H1 h1 H2 h2 he
    have he' : H1.1 = H2.1 := he
    obtain ⟨x, hx⟩ := List.exists_mem_of_ne_nil _ (hR.ne H1 h1)
    exact hR.wf.same_group h1 h2 hx (he' ▸ hx)
  · intro H hH
    obtain ⟨K, hK, hKe⟩ := hall H hH
    have hKH : K.1 = H.1 := (setEq_iff (hP.wf.sorted K hK) (hR.wf.sorted H hH)).1 hKe
    exact List.mem_map.2 ⟨K, List.mem_filter.2 ⟨hK, by rw [hKH]; simpa using hR.ne H hH⟩, hKH⟩

theorem DFA.minimize_minimal (d d' : DFA) (hwf : d.WF) (hfs : SSorted d.final)
    (hreach : ∀ s ∈ d.states, ∃ u, dfaRun d.δ (some d.start) u = some s)
    (hlive : ∀ s ∈ d.states, ∃ v, d.acc s v)
    (h : d.minimize = .ok d')
    (δ2 : Int → Int → Option Int) (start2 : Int) (final2 : Int → Prop) (Q2 : List Int)
    (hQ2 : ∀ u t, dfaRun δ2 (some start2) u = some t → t ∈ Q2)
    (hlang : ∀ w, d.lang w ↔ dfaLang δ2 start2 final2 w) :
    d'.states.length ≤ Q2.length := by
  have hlang' : ∀ w, d'.lang w ↔ d.lang w := fun w => d.minimize_lang d' hwf hfs h w
  obtain ⟨P, hl, rfl, hP, he⟩ := all_of_total (d.minimize_total hwf hfs) d' h
  -- every round keeps states in different groups distinguishable
  have hD : Dist d P := (all_of_total (refineLoop_total d hwf (fun P => PInv d P ∧ Dist d P) (fun _ h => h.1)
    (fun P hI => ⟨refine_pinv P d hwf hI.1, dist_refine d hwf P hI.1 hI.2 hlive⟩) d.minimizeFuel d.initPartition
    ⟨d.initPartition_pinv hfs, dist_init d hfs⟩ (by simp [DFA.minimizeFuel])) P hl).1.2
  have hne := final_no_empty d hwf P hP he
  have hs := stable_of_exit d hwf P hP he
  obtain ⟨fstart, ffin, -, fsound, fwf⟩ := buildMin_facts d hwf P hs
  have hH := buildMin_hom d hwf P hs
  have hstart : d.start ∈ d.states := d.mem_states_of _ (Or.inl rfl)
  have hfinal : ∀ f ∈ d.final, f ∈ d.states := fun f hf => d.mem_states_of _ (Or.inr (Or.inl hf))
  have hstates : ∀ x ∈ (buildMin d P).states, ∃ s ∈ d.states, x = P.rep s := by
    intro x hx
    rcases ((buildMin d P).mem_states_iff x).1 hx with h1 | h1 | ⟨r, a, r', hm, hx'⟩
    · exact ⟨d.start, hstart, by rw [h1, fstart]⟩
    · obtain ⟨f, hf, hfx⟩ := (ffin x).1 h1
      exact ⟨f, hfinal f hf, hfx.symm⟩
    · have hδ := (mem_entries_DFA fwf _ _ _).1 hm
      obtain ⟨G, hG, hr, t, ht, hrt⟩ := fsound _ _ _ hδ
      rcases hx' with rfl | rfl
      · have hg := headD_mem (hne G hG)
        exact ⟨G.1.headD 0, hP.sub G hG _ hg, by rw [hr, hP.wf.rep_of_mem hG hg]⟩
      · exact ⟨t, (d.step_mem_states ht).2, hrt.symm⟩
  have hacc : ∀ s ∈ d.states, ∀ v, accFrom (buildMin d P).δ (fun f => f ∈ (buildMin d P).final) (P.rep s) v ↔ d.acc s v :=
    fun s hs' v => hH.acc hs' v
  apply minimal_of_distinguishable (buildMin d P).δ (buildMin d P).start (fun f => f ∈ (buildMin d P).final)
    (buildMin d P).states (ssorted_nodup (buildMin d P).states_sorted) ?_ ?_ ?_ δ2 start2 final2 Q2 hQ2
    (fun w => (hlang' w).trans (hlang w))
  · intro x hx
    obtain ⟨s, hs', rfl⟩ := hstates x hx
    obtain ⟨u, hu⟩ := hreach s hs'
    exact ⟨u, by rw [fstart, hH.run u hstart, hu]; rfl⟩
  · intro x hx
    obtain ⟨s, hs', rfl⟩ := hstates x hx
    obtain ⟨v, hv⟩ := hlive s hs'
    exact ⟨v, (hacc s hs' v).2 hv⟩
  · intro x hx y hy hxy
    obtain ⟨s, hs', rfl⟩ := hstates x hx
    obtain ⟨t, ht', rfl⟩ := hstates y hy
    obtain ⟨v, hv⟩ := hD s hs' t ht' hxy
    exact ⟨v, by rw [hacc s hs' v, hacc t ht' v]; exact hv⟩

end AlgoVerif.C13
