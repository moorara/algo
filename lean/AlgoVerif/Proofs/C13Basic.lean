import AlgoVerif.Model.C13
import AlgoVerif.Spec.C13
import AlgoVerif.Proofs.Outcome
/-! Throughout C13, "the operation returns, and what it returns satisfies `P`" is stated once per operation, as
`X_total : ∃ r, X … = .ok r ∧ P r`; where the result already has a name, `all_of_total X_total r h : P r`. -/
namespace AlgoVerif.C13
open AlgoVerif AlgoVerif.C13.Spec

theorem all_of_total {α : Type} {x : Outcome α} {P : α → Prop} (h : ∃ r, x = .ok r ∧ P r) : x.All P :=
  fun _ e => let ⟨_, hr, hp⟩ := h; Outcome.ok.inj (hr.symm.trans e) ▸ hp

theorem foldl_keeps_mem {σ α : Type} {P : σ → Prop} {f : σ → α → σ} {xs : List α}
    (hf : ∀ acc, ∀ e ∈ xs, P acc → P (f acc e)) {acc : σ} (h : P acc) : P (xs.foldl f acc) :=
  List.foldlRecOn xs f h fun acc hacc e he => hf acc e he hacc

theorem foldl_keeps {σ α : Type} {P : σ → Prop} {f : σ → α → σ} (hf : ∀ acc e, P acc → P (f acc e))
    (xs : List α) {acc : σ} (h : P acc) : P (xs.foldl f acc) :=
  foldl_keeps_mem (fun acc e _ => hf acc e) h

theorem foldlIdx_keeps {σ α : Type} {P : σ → Prop} {f : σ → Nat → α → σ} (hf : ∀ acc i e, P acc → P (f acc i e))
    (xs : List α) (k : Nat) {acc : σ} (h : P acc) : P (foldlIdx f acc xs k) := by
  induction xs generalizing k acc with
  | nil => exact h
  | cons e xs ih => exact ih _ (hf _ _ _ h)

theorem foldl_grow {σ α β : Type} (obs : σ → β → Prop) {f : σ → α → σ} {Q : α → β → Prop}
    (hf : ∀ acc e b, obs (f acc e) b ↔ obs acc b ∨ Q e b) (xs : List α) (acc : σ) (b : β) :
    obs (xs.foldl f acc) b ↔ obs acc b ∨ ∃ e ∈ xs, Q e b := by
  induction xs generalizing acc with
  | nil => simp
  | cons e xs ih => rw [List.foldl_cons, ih, hf, or_assoc]; simp

theorem exists_getElem?_cons {α : Type} {e : α} {xs : List α} {P : Nat → α → Prop} :
    (∃ i e', (e :: xs)[i]? = some e' ∧ P i e') ↔ P 0 e ∨ ∃ i e', xs[i]? = some e' ∧ P (i + 1) e' := by
  constructor
  · rintro ⟨i, e', he', h⟩
    cases i with
    | zero => obtain rfl : e = e' := by simpa using he'
              exact Or.inl h
    | succ i => exact Or.inr ⟨i, e', he', h⟩
  · rintro (h | ⟨i, e', he', h⟩)
    · exact ⟨0, e, rfl, h⟩
    · exact ⟨i + 1, e', he', h⟩

theorem foldlIdx_grow {σ α β : Type} (obs : σ → β → Prop) {f : σ → Nat → α → σ} {Q : Nat → α → β → Prop}
    (hf : ∀ acc i e b, obs (f acc i e) b ↔ obs acc b ∨ Q i e b) (xs : List α) (k : Nat) (acc : σ) (b : β) :
    obs (foldlIdx f acc xs k) b ↔ obs acc b ∨ ∃ i e, xs[i]? = some e ∧ Q (k + i) e b := by
  induction xs generalizing k acc with
  | nil => simp [foldlIdx]
  | cons e xs ih =>
    rw [foldlIdx, ih, hf, or_assoc, exists_getElem?_cons]
    simp only [Nat.add_zero, Nat.add_assoc, Nat.add_comm 1]

theorem pairwise_lt_inj {α : Type} (f : α → Int) (l : List α) (h : (l.map f).Pairwise (· < ·))
    {a b : α} (ha : a ∈ l) (hb : b ∈ l) (hab : f a = f b) : a = b := by
  induction l with
  | nil => simp at ha
  | cons x l ih =>
    simp only [List.map_cons, List.pairwise_cons] at h
    simp at ha hb
    rcases ha with rfl | ha <;> rcases hb with rfl | hb
    · rfl
    · have := h.1 (f b) (by simp; exact ⟨b, hb, rfl⟩); omega
    · have := h.1 (f a) (by simp; exact ⟨a, ha, rfl⟩); omega
    · exact ih h.2 ha hb

theorem getElem?_prefix {α : Type} {q q' : List α} (h : q <+: q') {i : Nat} {x : α} (hx : q[i]? = some x) :
    q'[i]? = some x := by
  obtain ⟨r, rfl⟩ := h
  rw [List.getElem?_append_left]
  · exact hx
  · rw [List.getElem?_eq_some_iff] at hx; exact hx.1

theorem foldl_snoc_map {α β : Type} (f : α → β) (xs : List α) (out : List β) :
    xs.foldl (fun a x => a ++ [f x]) out = out ++ xs.map f := by
  induction xs generalizing out with
  | nil => simp
  | cons x xs ih => simp [ih]

theorem headD_mem {l : List Int} (h : l ≠ []) : l.headD 0 ∈ l := by
  cases l with
  | nil => exact absurd rfl h
  | cons x xs => exact List.mem_cons_self ..

theorem mem_head_or_drop {G : List Int} {x : Int} (h : x ∈ G) : G.head? = some x ∨ x ∈ G.drop 1 := by
  cases G with
  | nil => simp at h
  | cons y G =>
    rcases List.mem_cons.1 h with rfl | h
    · exact Or.inl rfl
    · exact Or.inr h

theorem flatMap_length {α β : Type} (f : α → List β) (g : α → β) (l : List α) (h : ∀ a ∈ l, f a ≠ [])
    (h1 : ∀ a ∈ l, (f a).length = 1 → f a = [g a]) :
    l.length ≤ (l.flatMap f).length ∧ ((l.flatMap f).length = l.length → l.flatMap f = l.map g) := by
  induction l with
  | nil => exact ⟨Nat.le_refl _, fun _ => rfl⟩
  | cons a l ih =>
    obtain ⟨i1, i2⟩ := ih (fun b hb => h b (List.mem_cons_of_mem _ hb)) (fun b hb => h1 b (List.mem_cons_of_mem _ hb))
    have := List.length_pos_iff.2 (h a List.mem_cons_self)
    simp only [List.flatMap_cons, List.length_append, List.length_cons, List.map_cons]
    refine ⟨by omega, fun he => ?_⟩
    rw [h1 a List.mem_cons_self (by omega), i2 (by omega)]; rfl

@[simp] theorem mem_sins {x y : Int} {l : List Int} : y ∈ sins x l ↔ y = x ∨ y ∈ l := by
  induction l with
  | nil => simp [sins]
  | cons z zs ih =>
    unfold sins
    split
    · simp
    · split
      · rename_i h; subst h; simp
      · simp [ih]; grind

@[simp] theorem mem_saddAll {y : Int} {xs s : List Int} : y ∈ saddAll s xs ↔ y ∈ s ∨ y ∈ xs :=
  (foldl_grow (fun l y => y ∈ l) (Q := fun x y => y = x) (fun _ _ _ => by rw [mem_sins, or_comm]) xs s y).trans
    (by simp)

@[simp] theorem mem_mkSet {y : Int} {xs : List Int} : y ∈ mkSet xs ↔ y ∈ xs := by simp [mkSet]

@[simp] theorem mem_sunion {y : Int} {a b : List Int} : y ∈ sunion a b ↔ y ∈ a ∨ y ∈ b := by simp [sunion]

@[simp] theorem mem_sdiff {y : Int} {a b : List Int} : y ∈ sdiff a b ↔ y ∈ a ∧ y ∉ b := by
  simp [sdiff]

def SSorted (l : List Int) : Prop := l.Pairwise (· < ·)

theorem ssorted_sins {x : Int} {l : List Int} (h : SSorted l) : SSorted (sins x l) := by
  induction l with
  | nil => simp [sins, SSorted]
  | cons z zs ih =>
    unfold sins
    simp only [SSorted, List.pairwise_cons] at h
    split
    · simp only [SSorted, List.pairwise_cons]
      refine ⟨?_, h⟩
      intro a ha; simp at ha; rcases ha with rfl | ha
      · assumption
      · have := h.1 a ha; omega
    · split
      · exact List.pairwise_cons.mpr h
      · simp only [SSorted, List.pairwise_cons]
        refine ⟨?_, ih h.2⟩
        intro a ha; simp at ha; rcases ha with rfl | ha
        · omega
        · exact h.1 a ha

theorem ssorted_saddAll {xs s : List Int} (h : SSorted s) : SSorted (saddAll s xs) :=
  foldl_keeps (P := SSorted) (fun _ _ h => ssorted_sins h) xs h

theorem ssorted_mkSet (xs : List Int) : SSorted (mkSet xs) := ssorted_saddAll (by simp [SSorted])

theorem ssorted_nodup {l : List Int} (h : SSorted l) : l.Nodup := by
  unfold SSorted at h
  exact h.imp (fun hab => by omega)

theorem ssorted_ext {a b : List Int} (ha : SSorted a) (hb : SSorted b)
    (h : ∀ x, x ∈ a ↔ x ∈ b) : a = b :=
  List.Perm.eq_of_pairwise (le := (· < ·)) (fun x y _ _ h1 h2 => by omega) ha hb
    ((List.perm_ext_iff_of_nodup (ssorted_nodup ha) (ssorted_nodup hb)).2 h)

theorem setEq_iff {a b : List Int} (ha : SSorted a) (hb : SSorted b) : setEq a b = true ↔ a = b := by
  constructor
  · intro h
    simp [setEq] at h
    obtain ⟨hl, hs⟩ := h
    apply ssorted_ext ha hb
    intro x
    constructor
    · exact hs x
    · intro hxb
      -- a ⊆ b, |a| = |b|: if x ∈ b \ a then a ⊆ b.erase x, which is shorter
      by_cases hxa : x ∈ a
      · exact hxa
      · exfalso
        have hsub : a ⊆ b.filter (· ≠ x) := fun z hz =>
          List.mem_filter.2 ⟨hs z hz, by simpa using fun (h : z = x) => hxa (h ▸ hz)⟩
        have h1 := (ssorted_nodup ha).length_le_of_subset hsub
        have h2 : (b.filter (· ≠ x)).length < b.length := by
          have := List.length_filter_lt_length_iff_exists (p := (· ≠ x)) (l := b)
          apply this.2
          exact ⟨x, hxb, by simp⟩
        omega
  · rintro rfl
    simp [setEq]

theorem setEq_refl (a : List Int) : setEq a a = true := by simp [setEq]

def ASorted {β : Type} (l : List (Int × β)) : Prop := (l.map (·.1)).Pairwise (· < ·)

theorem aget_aput {β : Type} (k k' : Int) (v : β) (l : List (Int × β)) :
    aget k' (aput k v l) = if k' = k then some v else aget k' l := by
  induction l with
  | nil => simp only [aput, aget]
  | cons p r ih =>
    obtain ⟨k2, v2⟩ := p
    unfold aput
    split
    · simp only [aget]
    · split
      · rename_i h2; subst h2; by_cases h : k' = k <;> simp [aget, h]
      · rename_i h2
        by_cases h : k' = k
        · subst h; simp [aget, ih, h2]
        · simp [aget, ih, h]

theorem aget_aput_self {β : Type} (k : Int) (v : β) (l : List (Int × β)) : aget k (aput k v l) = some v := by
  rw [aget_aput, if_pos rfl]

theorem aget_aput_ne {β : Type} {k k' : Int} (v : β) (l : List (Int × β)) (h : k' ≠ k) :
    aget k' (aput k v l) = aget k' l := by
  rw [aget_aput, if_neg h]

theorem keys_aput {β : Type} {k a : Int} {v : β} {l : List (Int × β)} (h : a ∈ (aput k v l).map (·.1)) :
    a = k ∨ a ∈ l.map (·.1) := by
  induction l with
  | nil => simpa [aput] using h
  | cons p r ih =>
    unfold aput at h
    split at h
    · simpa only [List.map_cons, List.mem_cons] using h
    · split at h
      · simp only [List.map_cons, List.mem_cons] at h ⊢
        exact h.imp_right Or.inr
      · simp only [List.map_cons, List.mem_cons] at h ⊢
        rcases h with h | h
        · exact Or.inr (Or.inl h)
        · exact (ih h).imp_right Or.inr

theorem asorted_aput {β : Type} {k : Int} {v : β} {l : List (Int × β)} (h : ASorted l) : ASorted (aput k v l) := by
  induction l with
  | nil => simp [aput, ASorted]
  | cons p r ih =>
    obtain ⟨k', v'⟩ := p
    simp only [ASorted, List.map_cons, List.pairwise_cons] at h
    unfold aput
    split
    · refine List.pairwise_cons.2 ⟨fun a ha => ?_, List.pairwise_cons.2 h⟩
      show k < a
      rcases List.mem_cons.1 ha with rfl | ha
      · assumption
      · have := h.1 a ha; omega
    · split
      · exact List.pairwise_cons.2 (by rename_i h2; exact h2 ▸ h)
      · refine List.pairwise_cons.2 ⟨fun a ha => ?_, ih h.2⟩
        show k' < a
        rcases keys_aput ha with rfl | ha
        · omega
        · exact h.1 a ha

theorem mem_iff_aget {β : Type} {l : List (Int × β)} (h : ASorted l) (k : Int) (v : β) :
    (k, v) ∈ l ↔ aget k l = some v := by
  induction l with
  | nil => simp [aget]
  | cons p r ih =>
    obtain ⟨k', v'⟩ := p
    simp only [ASorted, List.map_cons, List.pairwise_cons] at h
    simp only [List.mem_cons, aget]
    split
    · rename_i hk; subst hk
      constructor
      · rintro (h1 | h1)
        · simp at h1; simp [h1]
        · have := h.1 k (by simp; exact ⟨v, h1⟩); omega
      · intro h1; simp at h1; left; simp [h1]
    · rename_i hk
      rw [← ih h.2]
      constructor
      · rintro (h1 | h1)
        · simp at h1; exact absurd h1.1 hk
        · exact h1
      · intro h1; right; exact h1

theorem aget_mem {β : Type} {l : List (Int × β)} {k : Int} {v : β} (h : aget k l = some v) : (k, v) ∈ l := by
  induction l with
  | nil => simp [aget] at h
  | cons p r ih =>
    obtain ⟨k', v'⟩ := p
    simp only [aget] at h
    split at h
    · rename_i hk; subst hk; simp at h; simp [h]
    · simp [ih h]

def unvisited (U vis : List Int) : Nat := (U.filter (fun x => !vis.contains x)).length

theorem unvisited_mono (U v v' : List Int) (h : ∀ x ∈ v, x ∈ v') : unvisited U v' ≤ unvisited U v := by
  simp only [unvisited]
  have : U.filter (fun x => !v'.contains x) = (U.filter (fun x => !v.contains x)).filter (fun x => !v'.contains x) := by
    rw [List.filter_filter]
    apply List.filter_congr
    intro x _
    by_cases hx : x ∈ v
    · simp [hx, h x hx]
    · simp [hx]
  rw [this]
  exact List.length_filter_le _ _

theorem unvisited_lt (U vis vis' : List Int) (u : Int) (hU : u ∈ U) (hu : u ∉ vis)
    (h : ∀ x, x ∈ vis' ↔ x = u ∨ x ∈ vis) : unvisited U vis' < unvisited U vis := by
  have h1 : U.filter (fun x => !vis'.contains x) = (U.filter (fun x => !vis.contains x)).filter (fun x => x ≠ u) := by
    rw [List.filter_filter]
    apply List.filter_congr
    intro x _
    simp [h x]
  rw [unvisited, h1]
  exact List.length_filter_lt_length_iff_exists.2 ⟨u, by simp [hU, hu], by simp⟩

theorem unvisited_le (U vis : List Int) : unvisited U vis ≤ U.length := List.length_filter_le _ _

/-- work list (the stack of the ε-closure, the queue of the BFS) plus nodes not yet visited: a round of either search pops
one node and pushes only nodes it visits for the first time -/
def searchMeasure (U vis work : List Int) : Nat := work.length + unvisited U vis

end AlgoVerif.C13
