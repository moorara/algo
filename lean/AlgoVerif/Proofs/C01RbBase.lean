import AlgoVerif.Proofs.C01Run
/-!
# C01 / C15: the LLRB helpers (`rotateLeft`, `rotateRight`, `flipColors`, the fix-up sequence, `moveRedLeft`,
`moveRedRight`) as pure functions `…P` that the Model's `Outcome`-valued ones equal where they do not panic, and what
the pure ones do to listings, sizes and node counts (colours and black heights: `C01RbColor`)
-/
namespace AlgoVerif.C01
open Tree

variable {K V : Type}

@[simp] theorem isRed_nil : (Tree.nil : Tree K V).isRed = false := rfl
@[simp] theorem isRed_node (l : Tree K V) (k v s h c r) : (Tree.node l k v s h c r).isRed = c := rfl
@[simp] theorem isNil_nil : (Tree.nil : Tree K V).isNil = true := rfl
@[simp] theorem isNil_node (l : Tree K V) (k v s h c r) : (Tree.node l k v s h c r).isNil = false := rfl
@[simp] theorem nodes_nil : (Tree.nil : Tree K V).nodes = 0 := rfl
@[simp] theorem nodes_node (l : Tree K V) (k v s h c r) :
    (Tree.node l k v s h c r).nodes = 1 + l.nodes + r.nodes := rfl

/-- `lt`/`rt` read "left tree", "right tree": no order is meant in `lt_nil`, `length_lt_lt`, … -/
def Tree.lt : Tree K V → Tree K V
  | .nil => .nil
  | .node l _ _ _ _ _ _ => l

def Tree.rt : Tree K V → Tree K V
  | .nil => .nil
  | .node _ _ _ _ _ _ r => r

@[simp] theorem lt_nil : (Tree.nil : Tree K V).lt = .nil := rfl
@[simp] theorem rt_nil : (Tree.nil : Tree K V).rt = .nil := rfl
@[simp] theorem lt_node (l : Tree K V) (k v s h c r) : (Tree.node l k v s h c r).lt = l := rfl
@[simp] theorem rt_node (l : Tree K V) (k v s h c r) : (Tree.node l k v s h c r).rt = r := rfl

@[simp] theorem leftOf_node (l : Tree K V) (k v s h c r) : leftOf (.node l k v s h c r) = .ok l := rfl
@[simp] theorem rightOf_node (l : Tree K V) (k v s h c r) : rightOf (.node l k v s h c r) = .ok r := rfl
@[simp] theorem kvOf_node (l : Tree K V) (k v s h c r) : kvOf (.node l k v s h c r) = .ok (k, v) := rfl

theorem leftOf_eq {n : Tree K V} (h : n.isNil = false) : leftOf n = .ok n.lt := by
  cases n <;> simp_all [leftOf]

theorem rightOf_eq {n : Tree K V} (h : n.isNil = false) : rightOf n = .ok n.rt := by
  cases n <;> simp_all [rightOf]

/-- `!a && !b` is how the Go code asks whether a red link has to be moved down -/
theorem or_of_not_and_not {a b : Bool} (h : (!a && !b) = false) : a = true ∨ b = true := by
  cases a <;> cases b <;> simp at h ⊢

theorem isNil_of_isRed {t : Tree K V} (h : t.isRed = true) : t.isNil = false := by
  cases t <;> simp_all

/-! ### pure versions (identity where the Go code would dereference nil) -/

def rotLP : Tree K V → Tree K V
  | .node a k v s h c (.node b rk rv _ rh _ d) =>
    .node (.node a k v (1 + a.sz + b.sz) h true b) rk rv s rh c d
  | t => t

def rotRP : Tree K V → Tree K V
  | .node (.node a lk lv _ lh _ b) k v s h c d =>
    .node a lk lv s lh c (.node b k v (1 + b.sz + d.sz) h true d)
  | t => t

def flipP : Tree K V → Tree K V
  | .node (.node a lk lv ls lh lc b) k v s h c (.node e rk rv rs rh rc d) =>
    .node (.node a lk lv ls lh (!lc) b) k v s h (!c) (.node e rk rv rs rh (!rc) d)
  | t => t

def fixSizeP : Tree K V → Tree K V
  | .nil => .nil
  | .node l k v _ h c r => .node l k v (1 + l.sz + r.sz) h c r

def fix1P (strict : Bool) (n : Tree K V) : Tree K V :=
  if n.rt.isRed && (!strict || !n.lt.isRed) then rotLP n else n

def fix2P (n : Tree K V) : Tree K V :=
  if n.lt.isRed && n.lt.lt.isRed then rotRP n else n

def fix3P (n : Tree K V) : Tree K V :=
  if n.lt.isRed && n.rt.isRed then flipP n else n

def fixP (strict : Bool) (n : Tree K V) : Tree K V :=
  fixSizeP (fix3P (fix2P (fix1P strict n)))

theorem rbRotateLeft_eq {n : Tree K V} (h : n.rt.isRed = true) : rbRotateLeft n = .ok (rotLP n) := by
  rcases n with _ | ⟨a, k, v, s, hh, c, _ | ⟨b, rk, rv, rs, rh, rc, d⟩⟩ <;> simp_all [rbRotateLeft, rotLP]

theorem rbRotateRight_eq {n : Tree K V} (h : n.lt.isRed = true) : rbRotateRight n = .ok (rotRP n) := by
  rcases n with _ | ⟨_ | ⟨a, lk, lv, ls, lh, lc, b⟩, k, v, s, hh, c, d⟩ <;> simp_all [rbRotateRight, rotRP]

theorem rbFlipColors_eq {n : Tree K V} (h1 : n.lt.isNil = false) (h2 : n.rt.isNil = false) :
    rbFlipColors n = .ok (flipP n) := by
  rcases n with _ | ⟨_ | ⟨a, lk, lv, ls, lh, lc, b⟩, k, v, s, hh, c, _ | ⟨e, rk, rv, rs, rh, rc, d⟩⟩ <;>
    simp_all [rbFlipColors, flipP]

theorem isNil_rotLP (n : Tree K V) : (rotLP n).isNil = n.isNil := by
  unfold rotLP; split <;> rfl

theorem isNil_rotRP (n : Tree K V) : (rotRP n).isNil = n.isNil := by
  unfold rotRP; split <;> rfl

theorem isNil_flipP (n : Tree K V) : (flipP n).isNil = n.isNil := by
  unfold flipP; split <;> rfl

theorem isNil_fix1P (strict : Bool) (n : Tree K V) : (fix1P strict n).isNil = n.isNil := by
  unfold fix1P; split <;> simp [isNil_rotLP]

theorem isNil_fix2P (n : Tree K V) : (fix2P n).isNil = n.isNil := by
  unfold fix2P; split <;> simp [isNil_rotRP]

theorem isNil_fix3P (n : Tree K V) : (fix3P n).isNil = n.isNil := by
  unfold fix3P; split <;> simp [isNil_flipP]

theorem isNil_fixSizeP (n : Tree K V) : (fixSizeP n).isNil = n.isNil := by cases n <;> rfl

theorem isNil_fixP (strict : Bool) (n : Tree K V) : (fixP strict n).isNil = n.isNil := by
  unfold fixP; rw [isNil_fixSizeP, isNil_fix3P, isNil_fix2P, isNil_fix1P]

theorem rbFix1_eq (strict : Bool) {n : Tree K V} (hn : n.isNil = false) :
    rbFix1 strict n = .ok (fix1P strict n) := by
  rcases n with _ | ⟨l, k, v, s, hh, c, r⟩
  · simp at hn
  · cases hr : r.isRed <;> cases hl : l.isRed <;> cases strict <;>
      simp [rbFix1, rightOf, leftOf, fix1P, hr, hl] <;>
      exact rbRotateLeft_eq (by simp [hr])

theorem rbFix2_eq {n : Tree K V} (hn : n.isNil = false) : rbFix2 n = .ok (fix2P n) := by
  rcases n with _ | ⟨l, k, v, s, hh, c, r⟩
  · simp at hn
  · rcases l with _ | ⟨ll, lk, lv, ls, lh, lc, lr⟩
    · simp [rbFix2, leftOf, fix2P]
    · cases lc <;> cases hll : ll.isRed <;>
        simp [rbFix2, leftOf, fix2P, hll] <;>
        exact rbRotateRight_eq (by simp)

theorem rbFix3_eq {n : Tree K V} (hn : n.isNil = false) : rbFix3 n = .ok (fix3P n) := by
  rcases n with _ | ⟨l, k, v, s, hh, c, r⟩
  · simp at hn
  · cases hr : r.isRed <;> cases hl : l.isRed <;>
      simp [rbFix3, rightOf, leftOf, fix3P, hr, hl] <;>
      exact rbFlipColors_eq (isNil_of_isRed (by simp [hl])) (isNil_of_isRed (by simp [hr]))

theorem rbFixSize_eq {n : Tree K V} (hn : n.isNil = false) : rbFixSize n = .ok (fixSizeP n) := by
  cases n <;> simp_all [rbFixSize, fixSizeP]

theorem rbFixUp_eq (strict : Bool) {n : Tree K V} (hn : n.isNil = false) :
    rbFixUp strict n = .ok (fixP strict n) := by
  unfold rbFixUp fixP
  rw [rbFix1_eq strict hn]
  simp only [Outcome.ok_bind]
  rw [rbFix2_eq (by rw [isNil_fix1P]; exact hn)]
  simp only [Outcome.ok_bind]
  rw [rbFix3_eq (by rw [isNil_fix2P, isNil_fix1P]; exact hn)]
  simp only [Outcome.ok_bind]
  rw [rbFixSize_eq (by rw [isNil_fix3P, isNil_fix2P, isNil_fix1P]; exact hn)]

theorem fix123P_preserves (P : Tree K V → Prop) (hL : ∀ n, P n → P (rotLP n)) (hR : ∀ n, P n → P (rotRP n))
    (hF : ∀ n, P n → P (flipP n)) (strict : Bool) {n : Tree K V} (h : P n) :
    P (fix3P (fix2P (fix1P strict n))) := by
  have h1 : P (fix1P strict n) := by
    unfold fix1P; split
    · exact hL _ h
    · exact h
  have h2 : P (fix2P (fix1P strict n)) := by
    unfold fix2P; split
    · exact hR _ h1
    · exact h1
  unfold fix3P; split
  · exact hF _ h2
  · exact h2

@[simp] theorem toList_rotLP (n : Tree K V) : (rotLP n).toList = n.toList := by
  unfold rotLP; split <;> simp

@[simp] theorem toList_rotRP (n : Tree K V) : (rotRP n).toList = n.toList := by
  unfold rotRP; split <;> simp

@[simp] theorem toList_flipP (n : Tree K V) : (flipP n).toList = n.toList := by
  unfold flipP; split <;> simp

@[simp] theorem toList_fixSizeP (n : Tree K V) : (fixSizeP n).toList = n.toList := by
  cases n <;> simp [fixSizeP]

@[simp] theorem toList_fixP (strict : Bool) (n : Tree K V) : (fixP strict n).toList = n.toList := by
  unfold fixP
  rw [toList_fixSizeP]
  exact fix123P_preserves (fun m => m.toList = n.toList) (fun m h => (toList_rotLP m).trans h)
    (fun m h => (toList_rotRP m).trans h) (fun m h => (toList_flipP m).trans h) strict rfl

@[simp] theorem nodes_rotLP (n : Tree K V) : (rotLP n).nodes = n.nodes := by
  unfold rotLP; split <;> simp <;> omega

@[simp] theorem nodes_rotRP (n : Tree K V) : (rotRP n).nodes = n.nodes := by
  unfold rotRP; split <;> simp <;> omega

@[simp] theorem nodes_flipP (n : Tree K V) : (flipP n).nodes = n.nodes := by
  unfold flipP; split <;> simp

@[simp] theorem nodes_fixSizeP (n : Tree K V) : (fixSizeP n).nodes = n.nodes := by
  cases n <;> simp [fixSizeP]

@[simp] theorem nodes_fixP (strict : Bool) (n : Tree K V) : (fixP strict n).nodes = n.nodes := by
  unfold fixP
  rw [nodes_fixSizeP]
  exact fix123P_preserves (fun m => m.nodes = n.nodes) (fun m h => (nodes_rotLP m).trans h)
    (fun m h => (nodes_rotRP m).trans h) (fun m h => (nodes_flipP m).trans h) strict rfl

/-- both children have consistent sizes (the root's own `size` may be stale) -/
def SizeOKc (n : Tree K V) : Prop := SizeOK n.lt ∧ SizeOK n.rt

theorem sizeOKc_rotLP {n : Tree K V} (h : SizeOKc n) : SizeOKc (rotLP n) := by
  rcases n with _ | ⟨a, k, v, s, hh, c, _ | ⟨b, rk, rv, rs, rh, rc, d⟩⟩ <;>
    simp_all [rotLP, SizeOKc, SizeOK]

theorem sizeOKc_rotRP {n : Tree K V} (h : SizeOKc n) : SizeOKc (rotRP n) := by
  rcases n with _ | ⟨_ | ⟨a, lk, lv, ls, lh, lc, b⟩, k, v, s, hh, c, d⟩ <;>
    simp_all [rotRP, SizeOKc, SizeOK]

theorem sizeOKc_flipP {n : Tree K V} (h : SizeOKc n) : SizeOKc (flipP n) := by
  rcases n with _ | ⟨_ | ⟨a, lk, lv, ls, lh, lc, b⟩, k, v, s, hh, c, _ | ⟨e, rk, rv, rs, rh, rc, d⟩⟩ <;>
    simp_all [flipP, SizeOKc, SizeOK]

theorem sizeOK_fixSizeP {n : Tree K V} (h : SizeOKc n) : SizeOK (fixSizeP n) := by
  cases n <;> simp_all [fixSizeP, SizeOKc, SizeOK]

theorem sizeOK_fixP (strict : Bool) {n : Tree K V} (h : SizeOKc n) : SizeOK (fixP strict n) :=
  sizeOK_fixSizeP (fix123P_preserves SizeOKc (fun _ => sizeOKc_rotLP) (fun _ => sizeOKc_rotRP)
    (fun _ => sizeOKc_flipP) strict h)

theorem sizeOKc_of_sizeOK {n : Tree K V} (h : SizeOK n) : SizeOKc n := by
  cases n <;> simp_all [SizeOKc, SizeOK]

def setRightP (n x : Tree K V) : Tree K V :=
  match n with
  | .nil => .nil
  | .node l k v s h c _ => .node l k v s h c x

def setLeftP (n x : Tree K V) : Tree K V :=
  match n with
  | .nil => .nil
  | .node _ k v s h c r => .node x k v s h c r

theorem setLeft_eq {n : Tree K V} (x : Tree K V) (h : n.isNil = false) : setLeft n x = .ok (setLeftP n x) := by
  cases n <;> simp_all [setLeft, setLeftP]

theorem setRight_eq {n : Tree K V} (x : Tree K V) (h : n.isNil = false) :
    setRight n x = .ok (setRightP n x) := by
  cases n <;> simp_all [setRight, setRightP]

/-- `moveRedLeft(n)`, pure like `rotLP` … `fixP` -/
def mrlP (n : Tree K V) : Tree K V :=
  if (flipP n).rt.lt.isRed then flipP (rotLP (setRightP (flipP n) (rotRP (flipP n).rt))) else flipP n

/-- `moveRedRight(n)`, likewise -/
def mrrP (n : Tree K V) : Tree K V :=
  if (flipP n).lt.lt.isRed then flipP (rotRP (flipP n)) else flipP n

theorem rbMoveRedLeft_eq {n : Tree K V} (h1 : n.lt.isNil = false) (h2 : n.rt.isNil = false) :
    rbMoveRedLeft n = .ok (mrlP n) := by
  rcases n with _ | ⟨_ | ⟨a, lk, lv, ls, lh, lc, b⟩, k, v, s, hh, c, _ | ⟨e, rk, rv, rs, rh, rc, d⟩⟩
  · cases h1
  · cases h1
  · cases h1
  · cases h2
  · rcases e with _ | ⟨ea, ek, ev, es, eh, _ | _, eb⟩ <;> rfl

theorem rbMoveRedRight_eq {n : Tree K V} (h1 : n.lt.isNil = false) (h2 : n.rt.isNil = false) :
    rbMoveRedRight n = .ok (mrrP n) := by
  rcases n with _ | ⟨_ | ⟨a, lk, lv, ls, lh, lc, b⟩, k, v, s, hh, c, _ | ⟨e, rk, rv, rs, rh, rc, d⟩⟩
  · cases h1
  · cases h1
  · cases h1
  · cases h2
  · rcases a with _ | ⟨aa, ak, av, as, ah, _ | _, ab⟩ <;> rfl

@[simp] theorem toList_setRightP_rotRP (n : Tree K V) : (setRightP n (rotRP n.rt)).toList = n.toList := by
  cases n <;> simp [setRightP]

@[simp] theorem toList_mrlP (n : Tree K V) : (mrlP n).toList = n.toList := by
  unfold mrlP; split <;> simp

@[simp] theorem toList_mrrP (n : Tree K V) : (mrrP n).toList = n.toList := by
  unfold mrrP; split <;> simp

/-- the part of the listing that `rotateRight` and `moveRedRight` can only enlarge (as `moveRedLeft` the left
listing), so that a pair found there stays there -/
def Tree.rpart : Tree K V → List (K × V)
  | .nil => []
  | .node _ k v _ _ _ r => (k, v) :: r.toList

@[simp] theorem rpart_node (l : Tree K V) (k v s h c r) :
    (Tree.node l k v s h c r).rpart = (k, v) :: r.toList := rfl

theorem rpart_sub_toList (n : Tree K V) : ∀ x ∈ n.rpart, x ∈ n.toList := by
  cases n <;> simp +contextual [Tree.rpart]

theorem rpart_flipP (n : Tree K V) : (flipP n).rpart = n.rpart := by
  unfold flipP; split <;> simp

theorem rpart_sub_rotRP (n : Tree K V) : ∀ x ∈ n.rpart, x ∈ (rotRP n).rpart := by
  unfold rotRP; split <;> simp +contextual

theorem rpart_sub_mrrP (n : Tree K V) : ∀ x ∈ n.rpart, x ∈ (mrrP n).rpart := by
  unfold mrrP
  split
  · rw [rpart_flipP, ← rpart_flipP n]; exact rpart_sub_rotRP _
  · rw [rpart_flipP]; exact fun _ => id

theorem lt_sub_mrlP (l : Tree K V) (k : K) (v : V) (s h : Nat) (c : Bool) (r : Tree K V) (hln : l.isNil = false) :
    ∀ x ∈ l.toList, x ∈ (mrlP (.node l k v s h c r)).lt.toList := by
  rcases l with _ | ⟨ll, lk, lv, ls, lh, lc, lr⟩
  · simp at hln
  · rcases r with _ | ⟨_ | ⟨rll, rlk, rlv, rls, rlh, _ | _, rlr⟩, rk, rv, rs, rh, rc, rr⟩ <;>
      simp +contextual [mrlP, flipP, rotRP, rotLP, setRightP] <;> grind

theorem sizeOK_rotRP_of_sizeOK {n : Tree K V} (h : SizeOK n) : SizeOK (fixSizeP (rotRP n)) :=
  sizeOK_fixSizeP (sizeOKc_rotRP (sizeOKc_of_sizeOK h))

theorem sizeOKc_mrlP {n : Tree K V} (h : SizeOKc n) : SizeOKc (mrlP n) := by
  rcases n with _ | ⟨_ | ⟨a, lk, lv, ls, lh, lc, b⟩, k, v, s, hh, c, _ | ⟨e, rk, rv, rs, rh, rc, d⟩⟩
  all_goals try (rcases e with _ | ⟨ea, ek, ev, es, eh, ec, eb⟩)
  all_goals try (cases ec)
  all_goals simp_all [mrlP, flipP, SizeOKc, SizeOK, rotRP, rotLP, setRightP]

theorem sizeOKc_mrrP {n : Tree K V} (h : SizeOKc n) : SizeOKc (mrrP n) := by
  unfold mrrP
  split
  · exact sizeOKc_flipP (sizeOKc_rotRP (sizeOKc_flipP h))
  · exact sizeOKc_flipP h

/-- what the rotations and `moveRedLeft`/`moveRedRight` do to a node, whatever its colours -/
structure Reshape (n n1 : Tree K V) : Prop where
  toList : n1.toList = n.toList
  size : SizeOKc n → SizeOKc n1

theorem Reshape.refl (n : Tree K V) : Reshape n n := ⟨rfl, id⟩

theorem Reshape.trans {a b c : Tree K V} (h1 : Reshape a b) (h2 : Reshape b c) : Reshape a c :=
  ⟨h2.toList.trans h1.toList, fun h => h2.size (h1.size h)⟩

theorem reshape_rotRP (n : Tree K V) : Reshape n (rotRP n) := ⟨toList_rotRP n, sizeOKc_rotRP⟩
theorem reshape_mrlP (n : Tree K V) : Reshape n (mrlP n) := ⟨toList_mrlP n, sizeOKc_mrlP⟩
theorem reshape_mrrP (n : Tree K V) : Reshape n (mrrP n) := ⟨toList_mrrP n, sizeOKc_mrrP⟩

theorem isNil_mrlP (n : Tree K V) : (mrlP n).isNil = n.isNil := by
  rcases n with _ | ⟨_ | ⟨a, lk, lv, ls, lh, lc, b⟩, k, v, s, hh, c, _ | ⟨e, rk, rv, rs, rh, rc, d⟩⟩
  all_goals try (rcases e with _ | ⟨ea, ek, ev, es, eh, ec, eb⟩)
  all_goals try (cases ec)
  all_goals simp [mrlP, flipP, rotRP, rotLP, setRightP]

theorem isNil_mrrP (n : Tree K V) : (mrrP n).isNil = n.isNil := by
  unfold mrrP; split <;> simp [isNil_flipP, isNil_rotRP]

theorem length_lt_lt {n : Tree K V} (h : n.isNil = false) : n.lt.toList.length < n.toList.length := by
  cases n <;> simp_all <;> omega

theorem length_rt_lt {n : Tree K V} (h : n.isNil = false) : n.rt.toList.length < n.toList.length := by
  cases n <;> simp_all <;> omega

end AlgoVerif.C01
