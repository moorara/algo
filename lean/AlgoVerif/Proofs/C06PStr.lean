import AlgoVerif.Proofs.C06PSim
/-!
# C06 — Patricia trie: Match, LongestPrefixOf, WithPrefix on the represented tree
-/
namespace AlgoVerif.C06
variable {V : Type}
open BitString (xbit Small xbit_lt xbit_ge lenPos)
open PT

theorem kmatches_length {pat k : Key} (h : kmatches pat k = true) : k.length = pat.length := by
  induction pat generalizing k with
  | nil => cases k <;> simp_all [kmatches]
  | cons p ps ih =>
    cases k with
    | nil => simp [kmatches] at h
    | cons c cs =>
      simp only [kmatches, Bool.and_eq_true] at h
      simp [ih h.2]

theorem kmatches_getElem {pat k : Key} (h : kmatches pat k = true) (i : Nat) (x : UInt8) (hx : pat[i]? = some x)
    (hs : x ≠ star) : k[i]? = some x := by
  induction pat generalizing k i with
  | nil => simp at hx
  | cons p ps ih =>
    cases k with
    | nil => simp [kmatches] at h
    | cons c cs =>
      simp only [kmatches, Bool.and_eq_true, Bool.or_eq_true, beq_iff_eq] at h
      cases i with
      | zero =>
        simp only [List.getElem?_cons_zero, Option.some.injEq] at hx ⊢
        subst hx
        rcases h.1 with h1 | h1
        · exact absurd h1 hs
        · exact h1.symm
      | succ i =>
        simp only [List.getElem?_cons_succ] at hx ⊢
        exact ih h.2 i hx

theorem patBit_cases (pat : Key) (bp : Nat) (hbp : 1 ≤ bp) :
    BitString.patBit pat bp = .ok star ∨
    ∃ b : Bool, BitString.patBit pat bp = .ok (if b then 49 else 48) ∧ ∀ k, kmatches pat k = true → xbit k (bp - 1) = b := by
  unfold BitString.patBit BitString.len
  by_cases h1 : bp > lenPos
  · refine .inr ⟨decide (bp - lenPos ≤ pat.length), ?_, fun k hk => ?_⟩
    · rw [if_pos h1]; simp only [decide_eq_true_eq]
    · rw [xbit_ge k (by omega), kmatches_length hk, show bp - 1 + 1 = bp by omega]
  · rw [if_neg h1]
    by_cases h2 : bp > 8 * pat.length
    · refine .inr ⟨false, by rw [if_pos h2]; rfl, fun k hk => ?_⟩
      rw [xbit_lt k (by omega)]
      exact kbit_of_len_le k (by rw [kmatches_length hk]; omega)
    · have hlt : (bp - 1) / 8 < pat.length := by omega
      rw [if_neg h2, if_neg (by omega), List.getElem?_eq_getElem hlt]
      simp only
      by_cases h3 : (pat[(bp - 1) / 8] == star) = true
      · exact .inl (if_pos h3)
      · refine .inr ⟨(pat[(bp - 1) / 8]).toNat.testBit (7 - (bp - 1) % 8), ?_, fun k hk => ?_⟩
        · rw [if_neg h3, ← mask_testBit _ (Nat.mod_lt _ (by omega)), bne]
          cases (pat[(bp - 1) / 8] &&& ((0x80 : UInt8) >>> ((bp - 1) % 8).toUInt8)) == 0 <;> rfl
        · rw [xbit_lt k (by omega), kbit,
            kmatches_getElem hk ((bp - 1) / 8) _ (List.getElem?_eq_getElem hlt) (fun e => h3 (beq_iff_eq.mpr e))]

namespace Patricia
open Spec

theorem filter_side_nil {X : PT V} (p : Key × V → Bool) (bit : Bool) (d : Nat)
    (hX : ∀ k ∈ keys X, xbit k d = bit) (hp : ∀ k, (∃ v, p (k, v) = true) → xbit k d = !bit) :
    (ents X).filter p = [] := by
  apply filter_eq_nil_of_all_false
  intro e he
  cases h : p e with
  | false => rfl
  | true =>
    have h1 := hX e.1 (List.mem_map.mpr ⟨e, he, rfl⟩)
    have h2 := hp e.1 ⟨e.2, h⟩
    rw [h1] at h2
    cases bit <;> simp at h2

theorem matchLoop_rep {t : Patricia V} (pat : Key) (T : PT V) :
    ∀ (b : Nat) (p : Option Nat) (f : Nat), Rep t b p T → Crit T → above t b < f →
      matchLoop t pat f b p = .ok ((ents T).filter (fun e => kmatches pat e.1)) := by
  induction T with
  | leaf i k v =>
    intro b p f h _ hf
    obtain ⟨n, f, rfl, rfl, hn, hb, hk, hv⟩ := h.leaf_fuel hf
    have : b ≥ n.bp := hb
    simp only [matchLoop, node_some hn, Outcome.ok_bind, this, if_true, Outcome.pure_eq, BitString.patMatches, ents, hk, hv]
    cases hm : kmatches pat k <;> simp [hm]
  | inner i bp l r ihl ihr =>
    intro b p f h hc hf
    obtain ⟨n, f, rfl, rfl, hn, rfl, hb, hl, hr, hf⟩ := Rep.fork_fuel (d := false) 1 h hf
    obtain ⟨hbp1, hcl1, hcr1, _, hcl, hcr⟩ := hc
    simp only [matchLoop, node_some hn, Outcome.ok_bind, ge_iff_le, Nat.not_le.mpr hb, if_false, ents, List.filter_append]
    have hL := ihl n.bp n.left f hl hcl hf
    have hR := ihr n.bp n.right f hr hcr hf
    rcases patBit_cases pat n.bp hbp1 with hs | ⟨b, hb, hall⟩
    · rw [hs]
      simp only [Outcome.ok_bind, hL, hR, Outcome.pure_eq]
      have e1 : (star == (48 : UInt8)) = false := by decide
      have e2 : (star == (49 : UInt8)) = false := by decide
      simp [e1, e2]
    · rw [hb]
      cases b
      · have hrn : (ents r).filter (fun e => kmatches pat e.1) = [] :=
          filter_side_nil _ true (n.bp - 1) hcr1 (fun k ⟨_, hk⟩ => hall k hk)
        simp [hL, hrn]
      · have hln : (ents l).filter (fun e => kmatches pat e.1) = [] :=
          filter_side_nil _ false (n.bp - 1) hcl1 (fun k ⟨_, hk⟩ => hall k hk)
        simp [hR, hln]

theorem match_sim {t : Patricia V} {m : Map V} (h : PInv t m) (pat : Key) : t.match pat = .ok (m.match pat) := by
  unfold Patricia.match
  rcases h with ⟨hr, rfl, _⟩ | ⟨r, rn, T, h⟩
  · simp [hr, Map.match]
  · have hnode : t.node t.root = .ok rn := by rw [h.hroot]; exact node_some h.hrn
    rw [h.hroot]
    simp only [← h.hroot, hnode, Outcome.ok_bind, h.hbp]
    rw [matchLoop_rep pat T 0 rn.left t.fuel h.rep h.crit (by have := above_le_size t 0; unfold fuel; omega), h.ents]
    rfl

theorem longestLoop_eq {t : Patricia V} {m : Map V} (h : PInvN t m) (s : Key) (i : Nat) (hi : i ≤ s.length) :
    t.longestLoop s i = .ok (m.filter (fun e => e.1.isPrefixOf (s.take i))).getLast? := by
  have hs := h.inv.sorted
  induction i with
  | zero =>
    simp only [longestLoop, List.take_zero]
    congr 1
    symm
    rw [filter_eq_nil_of_all_false]
    · rfl
    · intro e he
      have := h.ne e he
      cases h : e.1 with
      | nil => exact absurd h this
      | cons => simp [List.isPrefixOf]
  | succ i ih =>
    have hlt : i < s.length := by omega
    have htake : s.take (i + 1) = s.take i ++ [s[i]] := (List.take_append_getElem hlt).symm
    have hpre : ∀ a : Key, a.isPrefixOf (s.take (i + 1)) = (a == s.take (i + 1) || a.isPrefixOf (s.take i)) := by
      intro a
      rw [Bool.eq_iff_iff]
      simp only [List.isPrefixOf_iff_prefix, Bool.or_eq_true, beq_iff_eq]
      rw [htake, List.prefix_concat_iff]
    simp only [longestLoop, get_sim h.inv, Outcome.ok_bind]
    cases hg : Map.get m (s.take (i + 1)) with
    | some v =>
      simp only [Outcome.pure_eq]
      congr 1
      have hmem : (s.take (i + 1), v) ∈ m := (Map.get_eq_some hs _ _).mp hg
      symm
      apply getLast?_of_sorted_max (hs.filter _)
      · rw [List.mem_filter]; exact ⟨hmem, by simp [List.isPrefixOf_iff_prefix]⟩
      · intro x hx
        rw [List.mem_filter] at hx
        obtain ⟨hxm, hxp⟩ := hx
        by_cases hk : x.1 = s.take (i + 1)
        · left
          have : x = (x.1, x.2) := rfl
          rw [this, hk]
          congr 1
          exact hs.unique (hk ▸ hxm) hmem
        · right
          rw [List.isPrefixOf_iff_prefix] at hxp
          obtain ⟨z, hz⟩ := hxp
          have hzne : z ≠ [] := by
            rintro rfl
            simp at hz
            exact hk hz
          show klt x.1 (s.take (i + 1)) = true
          rw [← hz]
          exact klt_append_right _ hzne
    | none =>
      simp only
      rw [ih (by omega)]
      congr 2
      apply List.filter_congr
      intro e he
      rw [hpre]
      have : (e.1 == s.take (i + 1)) = false := by
        rw [beq_eq_false_iff_ne]
        intro heq
        have : Map.get m (s.take (i + 1)) = some e.2 := (Map.get_eq_some hs _ _).mpr (heq ▸ he)
        rw [hg] at this; cases this
      simp [this]

theorem longestPrefixOf_sim {t : Patricia V} {m : Map V} (h : PInvN t m) (s : Key) :
    t.longestPrefixOf s = .ok (m.longestPrefixOf s) := by
  unfold Patricia.longestPrefixOf Map.longestPrefixOf
  rw [longestLoop_eq h s s.length (Nat.le_refl _), List.take_length]

/-- the test `WithPrefix` applies to every candidate -/
theorem prefix_test (k key : Key) :
    (decide (BitString.len k ≥ BitString.len key) && BitString.hasPrefix k key) = key.isPrefixOf k := by
  by_cases h : key.length ≤ k.length
  · have : BitString.len k ≥ BitString.len key := by unfold BitString.len; omega
    simp [this, hasPrefix_eq_isPrefixOf k key h]
  · have h1 : ¬ BitString.len k ≥ BitString.len key := by unfold BitString.len; omega
    have h2 : key.isPrefixOf k = false := by
      cases hp : key.isPrefixOf k with
      | false => rfl
      | true =>
        have := (List.isPrefixOf_iff_prefix.mp hp).length_le
        omega
    simp [h1, h2]

/-! ## what the nodes hold (`WithPrefix` looks at a node's own key; the structural traversals show the nodes) -/

def nodeKV (t : Patricia V) (is : List Nat) : List (Key × V) :=
  is.filterMap fun i => (t.nodes[i]?).map fun n => (n.key, n.val)

theorem nodeKV_append (t : Patricia V) (a b : List Nat) : nodeKV t (a ++ b) = nodeKV t a ++ nodeKV t b := by
  simp [nodeKV, List.filterMap_append]

theorem nodeKV_cons {t : Patricia V} {i : Nat} {n : PNode V} (h : t.nodes[i]? = some n) (is : List Nat) :
    nodeKV t (i :: is) = (n.key, n.val) :: nodeKV t is := by
  simp [nodeKV, h]

theorem nodeKV_nil (t : Patricia V) : nodeKV t [] = [] := rfl

theorem nodeKV_leafIdx {t : Patricia V} {T : PT V} {b : Nat} {p : Option Nat} (h : Rep t b p T) :
    nodeKV t (leafIdx T) = ents T := by
  induction T generalizing b p with
  | leaf i k v =>
    obtain ⟨_, n, hn, _, hk, hv⟩ := h
    simp [leafIdx, ents, nodeKV_cons hn, nodeKV_nil, hk, hv]
  | inner i bp l r ihl ihr =>
    obtain ⟨_, n, _, _, _, hl, hr⟩ := h
    simp [leafIdx, ents, nodeKV_append, ihl hl, ihr hr]

theorem Rep.leaf_key_mem {t : Patricia V} {T : PT V} {b : Nat} {p : Option Nat} (h : Rep t b p T) {i : Nat}
    (hi : i ∈ leafIdx T) {n : PNode V} (hn : t.nodes[i]? = some n) : n.key ∈ keys T := by
  have : (n.key, n.val) ∈ nodeKV t (leafIdx T) := List.mem_filterMap.mpr ⟨i, hi, by simp [hn]⟩
  rw [nodeKV_leafIdx h] at this
  exact List.mem_map.mpr ⟨_, this, rfl⟩

/-- what `WithPrefix` does once the descent has stopped at `(prev, curr)`: the rest of the Model's text, which it has to follow -/
def prefixTail (t : Patricia V) (key : Key) (p c : PNode V) (curr : Option Nat) : Outcome (List (Key × V)) :=
  let visit := fun (kvs : List (Key × V)) (n : PNode V) =>
    if n.key.len ≥ BitString.len key && n.key.hasPrefix key then (kvs ++ [(n.key, n.val)], true) else (kvs, true)
  if c.bp ≤ p.bp then pure (visit [] c).1
  else if c.key.hasPrefix key then do
    let r ← t.travAsc visit t.fuel curr []
    pure r.1
  else pure []

/-- the descent of `WithPrefix` is the descent of `_put` for a key that first differs just behind the prefix -/
theorem prefixLoop_eq_putLoop (t : Patricia V) (key : Key) (f : Nat) : ∀ prev curr,
    prefixLoop t key f prev curr = putLoop t key (8 * key.length + 1) f prev curr := by
  induction f with
  | zero => intro _ _; rfl
  | succ f ih => intro prev curr; simp only [prefixLoop, putLoop, ih, Nat.lt_succ_iff]; rfl

theorem filter_prefix_plug {key : Key} (hsk : Small key) {C : List (Step V)} {X : PT V} (hc : Crit (plug C X))
    (hC : ∀ s ∈ C, s.d = xbit key (s.bp - 1)) (hlen : ∀ s ∈ C, s.bp ≤ 8 * key.length) :
    (ents (plug C X)).filter (fun e => key.isPrefixOf e.1) = (ents X).filter (fun e => key.isPrefixOf e.1) := by
  induction C with
  | nil => rfl
  | cons s C ih =>
    obtain ⟨hbp, -, hO, -, hcP, -⟩ := crit_fork.mp hc
    have hlt : s.bp - 1 < 8 * key.length := by have := hlen s (List.mem_cons_self ..); omega
    have hOn : (ents s.O).filter (fun e => key.isPrefixOf e.1) = [] :=
      filter_side_nil _ (!s.d) (s.bp - 1) hO fun k ⟨_, hk⟩ => by
        rw [xbit_of_isPrefixOf hsk hk hlt, ← hC s (List.mem_cons_self ..), Bool.not_not]
    have hP := ih hcP (fun s' hs' => hC s' (List.mem_cons_of_mem _ hs')) (fun s' hs' => hlen s' (List.mem_cons_of_mem _ hs'))
    cases hd : s.d <;> simp [plug, fork, hd, ents, List.filter_append, hOn, hP]

theorem prefixTail_rep {t : Patricia V} {key : Key} (hsk : Small key) {X : PT V} {pn : PNode V} {p : Option Nat}
    (hX : Rep t pn.bp p X) (hc : Crit X) (hs : SelfBelow X) (hroot : ∀ i ∈ inners X, some i ≠ t.root)
    (hbig : ∀ i bp l r, X = .inner i bp l r → 8 * key.length < bp) :
    ∃ cn, t.node p = .ok cn ∧ prefixTail t key pn cn p = .ok ((ents X).filter fun e => key.isPrefixOf e.1) := by
  cases X with
  | leaf i k v =>
    obtain ⟨rfl, n, hn, hb, hk, hv⟩ := hX
    refine ⟨n, node_some hn, ?_⟩
    simp only [prefixTail, hb, if_true, Outcome.pure_eq, ents, prefix_test, hk, hv]
    cases hq : key.isPrefixOf k <;> simp [hq]
  | inner i bp l r =>
    have hT := hX
    obtain ⟨rfl, n, hn, rfl, hb, -, -⟩ := hX
    have hlen := hbig _ _ _ _ rfl
    refine ⟨n, node_some hn, ?_⟩
    -- the node's own key is one of the keys below it
    have hkey : n.key ∈ keys (.inner i n.bp l r) := Rep.leaf_key_mem hT (by simpa [leafIdx] using hs.1) hn
    -- all keys below agree with it on the bits of the prefix
    have huni : ∀ k ∈ keys (.inner i n.bp l r), BitString.hasPrefix k key = BitString.hasPrefix n.key key :=
      fun k hk => hasPrefix_congr hsk fun j hj => hc.2.2.2.1 k (keys_inner .. ▸ hk) n.key (keys_inner .. ▸ hkey) j (by omega)
    simp only [prefixTail, Nat.not_le.mpr hb, if_false]
    by_cases hpre : BitString.hasPrefix n.key key = true
    · simp only [hpre, if_true]
      obtain ⟨n', hn', hL⟩ := travAsc_link (t := t) _
        (fun (kvs : List (Key × V)) k v =>
          if (decide (BitString.len k ≥ BitString.len key) && BitString.hasPrefix k key) then (kvs ++ [(k, v)], true) else (kvs, true))
        (fun _ _ => rfl) (.inner i n.bp l r) pn.bp (some i) t.fuel [] hT hroot
        (by have := above_le_size t pn.bp; unfold fuel; omega)
      rw [node_some hn] at hn'
      cases hn'
      simp only [Nat.not_le.mpr hb, if_false] at hL
      rw [hL]
      simp only [Outcome.ok_bind, Outcome.pure_eq, foldE_filter, List.nil_append]
      congr 1
      exact List.filter_congr fun e _ => prefix_test e.1 key
    · have hpre' : BitString.hasPrefix n.key key = false := by simpa using hpre
      simp only [hpre', Bool.false_eq_true, if_false, Outcome.pure_eq]
      congr 1
      symm
      apply filter_eq_nil_of_all_false
      intro e he
      rw [← prefix_test e.1 key, huni e.1 (List.mem_map.mpr ⟨e, he, rfl⟩), hpre']
      simp

theorem withPrefix_root {t : Patricia V} {r : Nat} {rn : PNode V} {T : PT V} {m : Map V} (h : PInvS t r rn T m)
    (key : Key) (hsk : Small key) : t.withPrefix key = .ok (m.withPrefix key) := by
  -- the prefix's path, split where its bits end
  obtain ⟨C, j, k, v', hC, hT⟩ := exists_plug (fun bp => xbit key (bp - 1)) T
  obtain ⟨C1, C2, rfl, h1, h2⟩ := split_first (fun s : Step V => s.bp < 8 * key.length + 1) C
  have hrep : Rep t rn.bp (link rn false) (plug (C1 ++ C2) (leaf j k v')) := by rw [← hT, h.hbp]; exact h.rep
  have hloop := putLoop_plug hC h1 h2 (a := (r, false)) (f := t.fuel) h.hrn hrep
    (by rw [h.hbp]; have := above_le_size t 0; unfold fuel; omega)
  rw [plug_append] at hrep hT
  obtain ⟨-, en, hen, hX⟩ := (rep_plug (a := (r, false)) h.hrn).mp hrep
  have hcrit : Crit (plug C1 (plug C2 (leaf j k v'))) := hT ▸ h.crit
  obtain ⟨cn, hcn, htail⟩ := prefixTail_rep hsk hX (crit_plug hcrit) (selfBelow_plug (hT ▸ h.selfBelow))
    (fun i hi => h.innerNotRoot i (hT ▸ (inners_plug_perm ..).symm.subset
      (List.mem_append_right _ (List.mem_append_left _ hi))))
    (fun i bp l r' e => by
      obtain ⟨s, D, rfl, rfl⟩ := plug_eq_inner e
      have := h2 s D rfl
      omega)
  unfold Patricia.withPrefix
  unfold prefixTail at htail
  rw [h.hroot]
  simp only [node_some h.hrn, Outcome.ok_bind, prefixLoop_eq_putLoop]
  rw [show rn.left = link rn false from rfl, hloop]
  simp only [Outcome.ok_bind, node_some hen, ← hX.shape.idx_eq, hcn, ← h.ents, hT, Map.withPrefix]
  rw [← filter_prefix_plug hsk hcrit (fun s hs => hC s (List.mem_append_left _ hs)) fun s hs => Nat.lt_succ_iff.mp (h1 s hs)] at htail
  exact htail

theorem withPrefix_sim {t : Patricia V} {m : Map V} (h : PInv t m) (key : Key) (hsk : Small key) :
    t.withPrefix key = .ok (m.withPrefix key) := by
  rcases h with ⟨hr, rfl, _⟩ | ⟨r, rn, T, h⟩
  · simp [Patricia.withPrefix, hr, Map.withPrefix]
  · exact withPrefix_root h key hsk

end Patricia
end AlgoVerif.C06
