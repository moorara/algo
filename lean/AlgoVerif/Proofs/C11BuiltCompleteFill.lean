import AlgoVerif.Proofs.C11Fill
/-!
# C11 — a table fill (`FillRel`: SLR, canonical LR(1), LALR) leaves no entry out

For every state `I = S[i]` of the state map, with `c` the items of its row and `find` the lookup of a target, the filled
table has

* `shift find(GOTO(I,a)) ∈ ACTION[i,a]` for every item of `c` with the terminal `a` after the dot,
* `GOTO[i,B] = find(GOTO(I,B))` for every listed non-terminal `B ≠ S′` (unless the lookup fails),
* `reduce A→α ∈ ACTION[i,a]` for every complete item `A → α•` of `c` other than `S′ → S•` and every `a` of its lookaheads,
* `accept ∈ ACTION[i,$]` if `S′ → S• ∈ c`.

(`AddACTION` only ever adds to a cell; `SetGOTO` of later rows does not touch earlier rows.)  With a lookup that finds a
state holding the advanced item this is `Spec.chkAdvance` and `Spec.chkReduceComplete`.
-/
namespace AlgoVerif.C11.BuiltComplete
open AlgoVerif AlgoVerif.Gram AlgoVerif.C11 AlgoVerif.C11.Spec AlgoVerif.C11.Built

theorem cell_addAction (T : Table) (s : Int) (a : String) (act : Action) (s' : Int) (a' : String) :
    (T.addAction s a act).cell s' a' = if (s', a') = (s, a) then addNew (T.cell s a) act else T.cell s' a' := by
  have := lookup_upsert (s, a) (fun acts => addNew acts act) [act] (s', a') T.actions
  unfold Table.addAction Table.cell
  rw [apply_ite Table.actions, this]
  by_cases hk : (s', a') = (s, a)
  · rw [hk]
    cases T.actions.lookup (s, a) <;> simp [addNew]
  · have hb : ((s', a') == (s, a)) = false := by simpa using hk
    simp [hb, hk]

theorem addAction_gotos (T : Table) (s : Int) (a : String) (act : Action) : (T.addAction s a act).gotos = T.gotos := by
  unfold Table.addAction
  split <;> rfl

theorem setGoto_actions (T : Table) (s : Int) (B : String) (t : Int) : (T.setGoto s B t).actions = T.actions := by
  unfold Table.setGoto
  split
  · rfl
  · split <;> rfl

theorem goto_setGoto (T : Table) (s : Int) (B : String) (t : Int) (s' : Int) (B' : String) :
    (T.setGoto s B t).goto s' B' = if t ≠ -1 ∧ (s', B') = (s, B) then some t else T.goto s' B' := by
  have := lookup_upsert (s, B) (fun _ => t) t (s', B') T.gotos
  unfold Table.setGoto Table.goto
  split
  · rename_i ht
    simp [ht]
  · rename_i ht
    rw [apply_ite Table.gotos, this]
    by_cases hk : (s', B') = (s, B)
    · rw [hk]
      cases T.gotos.lookup (s, B) <;> simp [ht]
    · have hb : ((s', B') == (s, B)) = false := by simpa using hk
      simp [hb, hk]

/-- `Sound.Within` of `C11Resolve` is the same order read entry by entry, as `resolveAll` works; a fill is followed cell by cell. -/
def ActMono (T T' : Table) : Prop :=
  (∀ s a act, act ∈ T.cell s a → act ∈ T'.cell s a) ∧ T'.gotos = T.gotos

theorem actMono_refl (T : Table) : ActMono T T := ⟨fun _ _ _ h => h, rfl⟩

theorem actMono_trans {T1 T2 T3 : Table} (h1 : ActMono T1 T2) (h2 : ActMono T2 T3) : ActMono T1 T3 :=
  ⟨fun s a act h => h2.1 s a act (h1.1 s a act h), h2.2.trans h1.2⟩

theorem actMono_addAction (T : Table) (s : Int) (a : String) (act : Action) : ActMono T (T.addAction s a act) := by
  refine ⟨?_, addAction_gotos T s a act⟩
  intro s' a' x hx
  rw [cell_addAction]
  split
  · rename_i hk
    simp only [Prod.mk.injEq] at hk
    rw [hk.1, hk.2] at hx
    exact mem_addNew.mpr (Or.inl hx)
  · exact hx

theorem mem_cell_addAction (T : Table) (s : Int) (a : String) (act : Action) : act ∈ (T.addAction s a act).cell s a := by
  rw [cell_addAction]
  simp only [if_true]
  exact mem_addNew.mpr (Or.inr rfl)

theorem foldl_addAction_spec (s : Int) (act : Action) : ∀ (l : List String) (T : Table),
    ActMono T (l.foldl (fun T a => T.addAction s a act) T) ∧
      ∀ a ∈ l, act ∈ (l.foldl (fun T a => T.addAction s a act) T).cell s a
  | [], T => ⟨actMono_refl T, by simp⟩
  | b :: l, T => by
    simp only [List.foldl_cons]
    obtain ⟨h1, h2⟩ := foldl_addAction_spec s act l (T.addAction s b act)
    refine ⟨actMono_trans (actMono_addAction T s b act) h1, ?_⟩
    intro a ha
    rcases List.mem_cons.mp ha with rfl | ha'
    · exact h1.1 _ _ _ (mem_cell_addAction T s a act)
    · exact h2 a ha'

section

/-- `find` looks the target of a transition up (`FindItemSet` for the complete-item-set constructions, the superset search for
LALR), `start` is `S′`.  In the words of `C11Fill`: every action the item asks for (`Asks`) is in its cell; spelt out per kind of
action because that is how `itemActions` proceeds -/
def ItemDone (A : Auto) (find : List Item → Int) (start : String) (reduceOn : Item → List String) (i : Nat)
    (I : List Item) (it : Item) (T : Table) : Prop :=
  (∀ a, it.dotSym = some (Sym.term a) →
    ∃ J, A.goto I (Sym.term a) = Outcome.ok J ∧ Action.shift (find J) ∈ T.cell (i : Int) a) ∧
  (it.isComplete = true → it.isFinal start = false → ∀ a ∈ reduceOn it, Action.reduce it.prod ∈ T.cell (i : Int) a) ∧
  (it.isFinal start = true → Action.accept ∈ T.cell (i : Int) endmarker)

variable {A : Auto} {find : List Item → Int} {start : String} {reduceOn : Item → List String} {i : Nat} {I : List Item}

theorem itemDone_mono {it : Item} {T T' : Table} (hm : ∀ s a act, act ∈ T.cell s a → act ∈ T'.cell s a)
    (h : ItemDone A find start reduceOn i I it T) : ItemDone A find start reduceOn i I it T' := by
  obtain ⟨h1, h2, h3⟩ := h
  refine ⟨?_, ?_, ?_⟩
  · intro a hd
    obtain ⟨J, hJ, hmem⟩ := h1 a hd
    exact ⟨J, hJ, hm _ _ _ hmem⟩
  · intro hc hf a ha
    exact hm _ _ _ (h2 hc hf a ha)
  · intro hf
    exact hm _ _ _ (h3 hf)

theorem itemReduce_spec (start : String) (i : Int) (item : Item) (reduceOn : Item → List String) (T : Table) :
    ActMono T (itemReduce start i item reduceOn T) ∧
    (item.isComplete = true → item.isFinal start = false →
      ∀ a ∈ reduceOn item, Action.reduce item.prod ∈ (itemReduce start i item reduceOn T).cell i a) ∧
    (item.isFinal start = true → Action.accept ∈ (itemReduce start i item reduceOn T).cell i endmarker) := by
  unfold itemReduce
  simp only
  have h1 : ActMono T (if (item.isComplete && !item.isFinal start) = true then
        (reduceOn item).foldl (fun T a => T.addAction i a (Action.reduce item.prod)) T else T) ∧
      (item.isComplete = true → item.isFinal start = false → ∀ a ∈ reduceOn item,
        Action.reduce item.prod ∈ (if (item.isComplete && !item.isFinal start) = true then
          (reduceOn item).foldl (fun T a => T.addAction i a (Action.reduce item.prod)) T else T).cell i a) := by
    split
    · have := foldl_addAction_spec i (Action.reduce item.prod) (reduceOn item) T
      exact ⟨this.1, fun _ _ => this.2⟩
    · rename_i hc
      refine ⟨actMono_refl T, ?_⟩
      intro h1 h2
      simp [h1, h2] at hc
  split
  · rename_i hf
    refine ⟨actMono_trans h1.1 (actMono_addAction _ _ _ _), ?_, fun _ => mem_cell_addAction _ _ _ _⟩
    intro hc hf'
    rw [hf] at hf'
    cases hf'
  · rename_i hf
    refine ⟨h1.1, h1.2, ?_⟩
    intro hf'
    exact absurd hf' hf

theorem itemActions_done {item : Item} {T T' : Table}
    (hr : itemActions start (i : Int) item
      (fun a => A.goto I (Sym.term a) >>= fun J => pure (find J)) reduceOn T = Outcome.ok T') :
    ActMono T T' ∧ ItemDone A find start reduceOn i I item T' := by
  unfold itemActions at hr
  obtain ⟨T1, hT1, hrest⟩ := bind_eq_ok hr
  rw [← pure_eq_ok hrest]
  obtain ⟨m2, r2, r3⟩ := itemReduce_spec start (i : Int) item reduceOn T1
  unfold itemShift at hT1
  split at hT1
  · rename_i a hd
    obtain ⟨j, hj, hrest1⟩ := bind_eq_ok hT1
    obtain ⟨J, hJ, hrest2⟩ := bind_eq_ok hj
    have hjeq : find J = j := pure_eq_ok hrest2
    have hT1eq : T.addAction (i : Int) a (Action.shift j) = T1 := pure_eq_ok hrest1
    refine ⟨actMono_trans (hT1eq ▸ actMono_addAction T _ _ _) m2, ?_, r2, r3⟩
    intro a' hd'
    rw [hd] at hd'
    simp only [Option.some.injEq, Sym.term.injEq] at hd'
    subst hd'
    refine ⟨J, hJ, m2.1 _ _ _ ?_⟩
    rw [← hT1eq, hjeq]
    exact mem_cell_addAction _ _ _ _
  · rename_i hnt
    have hT1eq : T = T1 := pure_eq_ok hT1
    subst hT1eq
    refine ⟨m2, ?_, r2, r3⟩
    intro a hd
    exact absurd hd (hnt a)

theorem items_fold_done (l : List Item) (T T' : Table)
    (h : l.foldlM (fun T item => itemActions start (i : Int) item
      (fun a => A.goto I (Sym.term a) >>= fun J => pure (find J)) reduceOn T) T = Outcome.ok T') :
    ActMono T T' ∧ ∀ it ∈ l, ItemDone A find start reduceOn i I it T' :=
  foldlM_done _ ActMono actMono_refl (fun _ _ _ => actMono_trans) (ItemDone A find start reduceOn i I)
    (fun _ _ _ m d => itemDone_mono m.1 d) l T T' (fun _ _ _ _ hstep => itemActions_done hstep) h

def GotoDone (A : Auto) (find : List Item → Int) (start : String) (i : Nat) (I : List Item) (n : String) (T : Table) :
    Prop :=
  n ≠ start → ∃ J, A.goto I (Sym.nonterm n) = Outcome.ok J ∧ (find J ≠ -1 → T.goto (i : Int) n = some (find J))

/-- a later write for the same non-terminal writes the same value (`A.goto` is a function), so every entry asked for is there -/
theorem gotos_fold_done :
    ∀ (ns : List String) (T T' : Table),
      ns.foldlM (fun T n =>
        if n = start then pure T else do
          let J ← A.goto I (Sym.nonterm n)
          pure (T.setGoto (i : Int) n (find J))) T = Outcome.ok T' →
      T'.actions = T.actions ∧ (∀ (s : Int) m, s ≠ (i : Int) → T'.goto s m = T.goto s m) ∧
      (∀ m, T'.goto (i : Int) m = T.goto (i : Int) m ∨
        ∃ J, A.goto I (Sym.nonterm m) = Outcome.ok J ∧ T'.goto (i : Int) m = some (find J)) ∧
      ∀ n ∈ ns, GotoDone A find start i I n T'
  | [], T, T', h => by
    have : T = T' := by simpa [List.foldlM, pure] using h
    subst this
    exact ⟨rfl, fun _ _ _ => rfl, fun _ => Or.inl rfl, by simp⟩
  | n :: ns, T, T', h => by
    rw [List.foldlM_cons] at h
    obtain ⟨T1, hstep, hrest⟩ := bind_eq_ok h
    obtain ⟨a2, o2, r2, d2⟩ := gotos_fold_done ns T1 T' hrest
    split at hstep
    · rename_i hn
      have hT1 : T = T1 := pure_eq_ok hstep
      subst hT1
      refine ⟨a2, o2, r2, ?_⟩
      intro m hm
      rcases List.mem_cons.mp hm with rfl | hm'
      · intro hne; exact absurd hn hne
      · exact d2 m hm'
    · obtain ⟨J, hJ, hrest1⟩ := bind_eq_ok hstep
      have hT1 : T.setGoto (i : Int) n (find J) = T1 := pure_eq_ok hrest1
      refine ⟨?_, ?_, ?_, ?_⟩
      · rw [a2, ← hT1, setGoto_actions]
      · intro s m hs
        rw [o2 s m hs, ← hT1, goto_setGoto]
        have : ¬ (s, m) = ((i : Int), n) := by
          intro he; simp only [Prod.mk.injEq] at he; exact hs he.1
        simp [this]
      · intro m
        rcases r2 m with h1 | h1
        · rw [h1, ← hT1, goto_setGoto]
          by_cases hc : find J ≠ -1 ∧ ((i : Int), m) = ((i : Int), n)
          · right
            simp only [Prod.mk.injEq, true_and] at hc
            rw [hc.2]
            exact ⟨J, hJ, by simp [hc.1]⟩
          · left
            rw [if_neg hc]
        · exact Or.inr h1
      · intro m hm
        rcases List.mem_cons.mp hm with rfl | hm'
        · intro _
          refine ⟨J, hJ, ?_⟩
          intro hfound
          rcases r2 m with h1 | ⟨J', hJ', h1⟩
          · rw [h1, ← hT1, goto_setGoto]
            simp [hfound]
          · rw [hJ] at hJ'
            simp only [Outcome.ok.injEq] at hJ'
            rw [h1, hJ']
        · exact d2 m hm'

end

/-- what row `i` (state `I`) must have put into the table -/
def RowDone (rowItems : List Item → Outcome (List Item)) (A : Auto) (find : List Item → Int)
    (reduceOn : Item → List String) (i : Nat) (I : List Item) (T : Table) : Prop :=
  ∃ c, rowItems I = Outcome.ok c ∧ (∀ it ∈ c, ItemDone A find A.g.start reduceOn i I it T) ∧
    ∀ n ∈ A.g.nonterms, GotoDone A find A.g.start i I n T

/-- later rows do not disturb earlier ones -/
def RowKeep (i : Nat) (T T' : Table) : Prop :=
  (∀ s a act, act ∈ T.cell s a → act ∈ T'.cell s a) ∧
  ∀ (k : Nat) m, k < i → T'.goto (k : Int) m = T.goto (k : Int) m

theorem cell_of_actions_eq {T T' : Table} (h : T'.actions = T.actions) (s : Int) (a : String) : T'.cell s a = T.cell s a := by
  unfold Table.cell; rw [h]

theorem goto_of_gotos_eq {T T' : Table} (h : T'.gotos = T.gotos) (s : Int) (B : String) : T'.goto s B = T.goto s B := by
  unfold Table.goto; rw [h]

theorem fillRel_done {rowItems : List Item → Outcome (List Item)} {A : Auto} {find : List Item → Int}
    {reduceOn : Item → List String} {S : StateMap} {i : Nat} {T T' : Table}
    (hr : FillRel rowItems A find reduceOn S i T T') :
    RowKeep i T T' ∧ ∀ k I, i ≤ k → S[k]? = some I → RowDone rowItems A find reduceOn k I T' := by
  induction hr with
  | @done i T hlen =>
    refine ⟨⟨fun _ _ _ h => h, fun _ _ _ => rfl⟩, fun k I hk hI => ?_⟩
    have := (List.getElem?_eq_some_iff.mp hI).1
    omega
  | @row i I c T T1 T2 T' hI hc hT1 hT2 _ ih =>
    obtain ⟨m1, d1⟩ := items_fold_done c T T1 hT1
    obtain ⟨a2, o2, _, d2⟩ := gotos_fold_done A.g.nonterms T1 T2 hT2
    obtain ⟨k3, d3⟩ := ih
    refine ⟨⟨fun s a act h => k3.1 _ _ _ (by rw [cell_of_actions_eq a2]; exact m1.1 _ _ _ h), fun k m hk => ?_⟩, ?_⟩
    · rw [k3.2 k m (by omega), o2 (k : Int) m (by omega), goto_of_gotos_eq m1.2]
    · intro k I' hk hI'
      rcases Nat.eq_or_lt_of_le hk with rfl | hlt
      · cases hI.symm.trans hI'
        refine ⟨c, hc, fun it hit => itemDone_mono k3.1 (itemDone_mono
          (fun s a act h => by rw [cell_of_actions_eq a2]; exact h) (d1 it hit)), fun n hn hne => ?_⟩
        obtain ⟨J, hJ, hg⟩ := d2 n hn hne
        exact ⟨J, hJ, fun hf => by rw [k3.2 i n (Nat.lt_succ_self i)]; exact hg hf⟩
      · exact d3 k I' hlt hI'

theorem asks_of_rowDone {rowItems : List Item → Outcome (List Item)} {A : Auto} {find : List Item → Int}
    {reduceOn : Item → List String} {S : StateMap} {i : Nat} {I : List Item} {T : Table} (hI : S[i]? = some I)
    (h : RowDone rowItems A find reduceOn i I T) {c : List Item} (hc : rowItems I = Outcome.ok c) {a : String}
    {act : Action} (hask : Asks A.g.start reduceOn c (fun a j => Tgt A find S i (Sym.term a) j) a act) :
    act ∈ T.cell (i : Int) a := by
  obtain ⟨c', hc', hitems, _⟩ := h
  cases hc.symm.trans hc'
  cases act with
  | shift j =>
    obtain ⟨⟨it, hit, hd⟩, I', J, hI', hJ, rfl⟩ := hask
    cases hI.symm.trans hI'
    obtain ⟨J', hJ', hmem⟩ := (hitems it hit).1 a hd
    cases hJ.symm.trans hJ'
    exact hmem
  | reduce p =>
    obtain ⟨it, hit, rfl, hcm, hf, ha⟩ := hask
    exact (hitems it hit).2.1 hcm hf a ha
  | accept =>
    obtain ⟨rfl, it, hit, hf⟩ := hask
    exact (hitems it hit).2.2 hf

section
variable {g : SGrammar} {rowItems : List Item → Outcome (List Item)} {A : Auto} (h : AugOK g A.g)
  (hterms : ∀ p ∈ A.g.prods, ∀ t, Sym.term t ∈ p.body → t ∈ A.g.terms)
  (hbodies : ∀ p ∈ A.g.prods, ∀ B, Sym.nonterm B ∈ p.body → B ∈ A.g.nonterms)
  {find : List Item → Int} {reduceOn : Item → List String} {S states : StateMap} {T : Table}
  (hst : ∀ (i : Nat) Ic, states[i]? = some Ic → ∃ I c, S[i]? = some I ∧ rowItems I = Outcome.ok c ∧
      ∀ it ∈ Ic, it ∈ c ∧ Good A.g it)
  (hdone : ∀ i I, S[i]? = some I → RowDone rowItems A find reduceOn i I T)
include h hterms hbodies hst hdone

theorem chkAdvance_of_done
    (hfound : ∀ (i : Nat) I c it X J, S[i]? = some I → rowItems I = Outcome.ok c → it ∈ c → it.dotSym = some X →
      X ∈ allSymbols A.g → A.goto I X = Outcome.ok J →
      ∃ n : Nat, find J = (n : Int) ∧ it.next ∈ itemsAt states (n : Int)) :
    chkAdvance states T = true := by
  unfold chkAdvance
  rw [List.all_eq_true]
  rintro ⟨Ic, i⟩ hIi
  obtain ⟨I, c, hI, hc, hIc⟩ := hst i Ic (List.mem_zipIdx_iff_getElem?.mp hIi)
  obtain ⟨c', hc', hitems, hgotos⟩ := hdone i I hI
  cases hc.symm.trans hc'
  rw [List.all_eq_true]
  intro it hit
  obtain ⟨hitc, hg⟩ := hIc it hit
  cases hd : it.dotSym with
  | none => rfl
  | some X =>
    have hXbody := dotSym_mem hd
    cases X with
    | term a =>
      simp only
      obtain ⟨J, hJ, hmem⟩ := (hitems it hitc).1 a hd
      have hX : Sym.term a ∈ allSymbols A.g :=
        List.mem_append_left _ (List.mem_map.mpr ⟨a, hterms _ hg.1 a hXbody, rfl⟩)
      obtain ⟨n, hn, hnext⟩ := hfound i I c it _ J hI hc hitc hd hX hJ
      rw [List.any_eq_true]
      refine ⟨_, hmem, ?_⟩
      simp only
      rw [hn]
      simpa using hnext
    | nonterm B =>
      simp only
      have hBN : B ∈ A.g.nonterms := hbodies _ hg.1 B hXbody
      obtain ⟨J, hJ, hgo⟩ := hgotos B hBN (body_nonterm_ne h hg.1 hXbody)
      have hX : Sym.nonterm B ∈ allSymbols A.g := List.mem_append_right _ (List.mem_map.mpr ⟨B, hBN, rfl⟩)
      obtain ⟨n, hn, hnext⟩ := hfound i I c it _ J hI hc hitc hd hX hJ
      rw [hgo (by rw [hn]; omega)]
      simp only
      rw [hn]
      simpa using hnext

omit h hterms hbodies in
theorem chkReduceComplete_of_done (follow : String → List String)
    (hred : ∀ (i : Nat) Ic, states[i]? = some Ic → ∀ it ∈ Ic,
      (match it.la with | some a => [a] | none => follow it.prod.head) = reduceOn it) :
    chkReduceComplete A.g.start follow states T = true := by
  unfold chkReduceComplete
  rw [List.all_eq_true]
  rintro ⟨Ic, i⟩ hIi
  have hi := List.mem_zipIdx_iff_getElem?.mp hIi
  obtain ⟨I, c, hI, hc, hIc⟩ := hst i Ic hi
  obtain ⟨c', hc', hitems, _⟩ := hdone i I hI
  cases hc.symm.trans hc'
  rw [List.all_eq_true]
  intro it hit
  obtain ⟨hitc, hg⟩ := hIc it hit
  obtain ⟨_, hr2, hr3⟩ := hitems it hitc
  by_cases hcomp : it.isComplete = true
  · simp only [hcomp, if_true]
    by_cases hh : it.prod.head = A.g.start
    · have hfin : it.isFinal A.g.start = true := by
        simp [Item.isFinal, hh, hcomp, hg.2 hh]
      have hb : (it.prod.head == A.g.start) = true := by simpa using hh
      simp only [hb, if_true]
      simpa using hr3 hfin
    · have hfin : it.isFinal A.g.start = false := by
        simp [Item.isFinal, hh]
      have hb : (it.prod.head == A.g.start) = false := by simpa using hh
      simp only [hb, Bool.false_eq_true, if_false]
      rw [List.all_eq_true]
      intro a ha'
      simpa using hr2 hcomp hfin a (hred i Ic hi it hit ▸ ha')
  · simp [hcomp]

end

end AlgoVerif.C11.BuiltComplete
