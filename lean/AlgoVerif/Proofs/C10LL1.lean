import AlgoVerif.Proofs.C10Follow
import AlgoVerif.Proofs.C10Cells
import AlgoVerif.Proofs.C10Valid
/-! What `IsLL1` reports as a statement about set membership (`PairBad`, `LL1Bad`), against the conflicts of the
predictive table; and the statements about `analyse` assembled from the closed/least lemmas of the analyses. -/
set_option linter.unusedSectionVars false
namespace AlgoVerif.C10
open AlgoVerif AlgoVerif.Gram
variable {T N : Type} [DecidableEq T] [DecidableEq N]
variable {g : Grammar T N} {fi : List (Sym T N) → TE T} {fo : N → TEnd T}

theorem mem_pairs {α : Type} {l : List α} (hnd : l.Nodup) {x y : α} (h : (x, y) ∈ pairs l) :
    x ∈ l ∧ y ∈ l ∧ x ≠ y := by
  induction l with
  | nil => cases h
  | cons z zs ih =>
    obtain ⟨hz, hzs⟩ := List.nodup_cons.1 hnd
    simp only [pairs, List.mem_append, List.mem_map] at h
    rcases h with ⟨w, hw, e⟩ | h
    · cases e
      exact ⟨List.mem_cons_self .., List.mem_cons_of_mem _ hw, fun e => hz (e ▸ hw)⟩
    · obtain ⟨h1, h2, h3⟩ := ih hzs h
      exact ⟨List.mem_cons_of_mem _ h1, List.mem_cons_of_mem _ h2, h3⟩

theorem mem_pairs_of_ne {α : Type} {l : List α} {x y : α} (hx : x ∈ l) (hy : y ∈ l) (hne : x ≠ y) :
    (x, y) ∈ pairs l ∨ (y, x) ∈ pairs l := by
  induction l with
  | nil => cases hx
  | cons z zs ih =>
    simp only [pairs, List.mem_append, List.mem_map]
    rcases List.mem_cons.1 hx with hxz | hxs
    · rcases List.mem_cons.1 hy with hyz | hys
      · exact absurd (hxz.trans hyz.symm) hne
      · exact Or.inl (Or.inl ⟨y, hys, by rw [hxz]⟩)
    · rcases List.mem_cons.1 hy with hyz | hys
      · exact Or.inr (Or.inl ⟨x, hxs, by rw [hyz]⟩)
      · rcases ih hxs hys with h | h
        · exact Or.inl (Or.inr h)
        · exact Or.inr (Or.inr h)

theorem inter_nonempty_iff {a b : List T} : (!(inter a b).isEmpty) = true ↔ ∃ x, x ∈ a ∧ x ∈ b := by
  rw [Bool.not_eq_true', ← Bool.not_eq_true, List.isEmpty_iff, inter, List.filter_eq_nil_iff]
  simp

/-- the three conditions `IsLL1` tests for a pair of alternatives of `A` -/
def PairBad (fi : List (Sym T N) → TE T) (fo : N → TEnd T) (A : N) (α β : List (Sym T N)) : Prop :=
  ((∃ a, a ∈ (fi α).terms ∧ a ∈ (fi β).terms) ∨ ((fi α).eps = true ∧ (fi β).eps = true)) ∨
  ((fi α).eps = true ∧ ∃ a, a ∈ (fi β).terms ∧ a ∈ (fo A).terms) ∨
  ((fi β).eps = true ∧ ∃ a, a ∈ (fi α).terms ∧ a ∈ (fo A).terms)

theorem PairBad.symm {A : N} {α β : List (Sym T N)}
    (h : PairBad fi fo A α β) : PairBad fi fo A β α := by
  rcases h with (⟨a, h1, h2⟩ | ⟨h1, h2⟩) | h | h
  · exact Or.inl (Or.inl ⟨a, h2, h1⟩)
  · exact Or.inl (Or.inr ⟨h2, h1⟩)
  · exact Or.inr (Or.inr h)
  · exact Or.inr (Or.inl h)

theorem ll1Pair_ne_nil_iff {A : N} {α β : List (Sym T N)} :
    ll1Pair fi fo A α β ≠ [] ↔ PairBad fi fo A α β := by
  -- each of the three tests contributes its error or nothing
  have e2 : ∀ (c : Prop) [Decidable c] (x : LL1Err T N), ¬ (if c then [x] else []) = [] ↔ c := by
    intro c _ x; split <;> simp [*]
  have e3 : ∀ a b : List (LL1Err T N), ¬ a ++ b = [] ↔ ¬ a = [] ∨ ¬ b = [] := by
    intro a b; rw [List.append_eq_nil_iff, Classical.not_and_iff_not_or_not]
  simp only [ll1Pair, PairBad, e3, e2, Bool.or_eq_true, Bool.and_eq_true, inter_nonempty_iff, or_assoc]

def LL1Bad (g : Grammar T N) (fi : List (Sym T N) → TE T) (fo : N → TEnd T) : Prop :=
  ∃ p q, p ∈ g.prods ∧ q ∈ g.prods ∧ p ≠ q ∧ p.head = q.head ∧ PairBad fi fo p.head p.body q.body

theorem ll1Errors_ne_nil_iff (hnd : g.prods.Nodup)
    : ll1Errors g fi fo ≠ [] ↔ LL1Bad g fi fo := by
  constructor
  · intro h
    obtain ⟨e, hm⟩ := List.exists_mem_of_ne_nil _ h
    unfold ll1Errors at hm
    obtain ⟨A, _, hm⟩ := List.mem_flatMap.1 hm
    obtain ⟨⟨p, q⟩, hpq, hm⟩ := List.mem_flatMap.1 hm
    have hbad : PairBad fi fo A p.body q.body := ll1Pair_ne_nil_iff.1 (List.ne_nil_of_mem hm)
    obtain ⟨hp, hq, hne⟩ := mem_pairs (hnd.filter _) hpq
    obtain ⟨p1, p2⟩ := List.mem_filter.1 hp
    obtain ⟨q1, q2⟩ := List.mem_filter.1 hq
    simp at p2 q2
    exact ⟨p, q, p1, q1, hne, p2.trans q2.symm, p2 ▸ hbad⟩
  · rintro ⟨p, q, hp, hq, hne, hh, hbad⟩
    have hp' : p ∈ g.prods.filter (fun r => decide (r.head = p.head)) := List.mem_filter.2 ⟨hp, by simp⟩
    have hq' : q ∈ g.prods.filter (fun r => decide (r.head = p.head)) := List.mem_filter.2 ⟨hq, by simp [hh]⟩
    have hA : p.head ∈ headsOf g := mem_dedup.2 (List.mem_map.2 ⟨p, hp, rfl⟩)
    rcases mem_pairs_of_ne hp' hq' hne with hpair | hpair
    · obtain ⟨e, he⟩ := List.exists_mem_of_ne_nil _ (ll1Pair_ne_nil_iff.2 hbad)
      apply List.ne_nil_of_mem (a := e)
      unfold ll1Errors
      exact List.mem_flatMap.2 ⟨p.head, hA, List.mem_flatMap.2 ⟨(p, q), hpair, he⟩⟩
    · obtain ⟨e, he⟩ := List.exists_mem_of_ne_nil _ (ll1Pair_ne_nil_iff.2 hbad.symm)
      apply List.ne_nil_of_mem (a := e)
      unfold ll1Errors
      exact List.mem_flatMap.2 ⟨p.head, hA, List.mem_flatMap.2 ⟨(q, p), hpair, he⟩⟩

/-- two analyses stand for the same sets (as lists they may differ): all that the verdicts depend on -/
structure SameSets (fi fi' : List (Sym T N) → TE T) (fo fo' : N → TEnd T) : Prop where
  ft : ∀ α a, a ∈ (fi α).terms ↔ a ∈ (fi' α).terms
  fe : ∀ α, (fi α).eps = true ↔ (fi' α).eps = true
  ot : ∀ A a, a ∈ (fo A).terms ↔ a ∈ (fo' A).terms
  oe : ∀ A, (fo A).endm = true ↔ (fo' A).endm = true

theorem SameSets.inCellP {fi fi' : List (Sym T N) → TE T} {fo fo' : N → TEnd T}
    (h : SameSets fi fi' fo fo') {p : GProd T N} {col : Option T} :
    InCellP fi fo p col ↔ InCellP fi' fo' p col := by
  cases col with
  | none => simp only [InCellP, h.fe, h.oe]
  | some a => simp only [InCellP, h.ft, h.fe, h.ot]

theorem SameSets.conflict {g : Grammar T N} {fi fi' : List (Sym T N) → TE T} {fo fo' : N → TEnd T}
    (h : SameSets fi fi' fo fo') : Conflict g fi fo ↔ Conflict g fi' fo' := by
  unfold Conflict
  simp only [h.inCellP]

theorem SameSets.pairBad {fi fi' : List (Sym T N) → TE T} {fo fo' : N → TEnd T}
    (h : SameSets fi fi' fo fo') {A : N} {α β : List (Sym T N)} :
    PairBad fi fo A α β ↔ PairBad fi' fo' A α β := by
  simp only [PairBad, h.ft, h.fe, h.ot]

theorem SameSets.ll1Bad {fi fi' : List (Sym T N) → TE T} {fo fo' : N → TEnd T}
    (h : SameSets fi fi' fo fo') : LL1Bad g fi fo ↔ LL1Bad g fi' fo' := by
  unfold LL1Bad
  simp only [h.pairBad]

theorem conflict_ll1Bad (h : Conflict g fi fo) : LL1Bad g fi fo := by
  obtain ⟨p, q, col, hp, hq, hne, hh, _, _, cp, cq⟩ := h
  refine ⟨p, q, hp, hq, hne, hh, ?_⟩
  cases col with
  | none =>
    exact Or.inl (Or.inr ⟨cp.1, cq.1⟩)
  | some a =>
    rcases cp with cp | ⟨cp1, cp2⟩
    · rcases cq with cq | ⟨cq1, cq2⟩
      · exact Or.inl (Or.inl ⟨a, cp, cq⟩)
      · exact Or.inr (Or.inr ⟨cq1, a, cp, hh ▸ cq2⟩)
    · rcases cq with cq | ⟨cq1, cq2⟩
      · exact Or.inr (Or.inl ⟨cp1, a, cq, cp2⟩)
      · exact Or.inl (Or.inr ⟨cp1, cq1⟩)

theorem follow_nonempty (hv : validB g = true) (hreach : Spec.AllReachable g)
    (hprod : Spec.AllProductive g) {A : N} (hA : A ∈ g.nonterms) :
    Spec.FollowEnd g A ∨ ∃ a, a ∈ g.terms ∧ Spec.Follow g A a := by
  obtain ⟨x, y, hxy⟩ := hreach A hA
  have hdecl := sentential_declared hv hxy
  obtain ⟨w, hw⟩ := productive_string hprod y (fun s hs => hdecl s (by simp [hs]))
  have h2 : Derives g [Sym.nonterm g.start] (x ++ [Sym.nonterm A] ++ w.map Sym.term) :=
    hxy.trans (hw.append_left _)
  cases w with
  | nil => left; exact ⟨x, by simpa using h2⟩
  | cons a w' =>
    right
    refine ⟨a, ?_, x, w'.map Sym.term, by simpa [List.append_assoc] using h2⟩
    simpa [symDeclared] using sentential_declared hv h2 (Sym.term a) (by simp)

variable {o₁ o₂ : IterOrder T N} {an : Analysis T N}

theorem analyse_ok (h : analyse g o₁ o₂ = .ok an) :
    computeFirst g o₁ = .ok an.first ∧ computeFollow g o₂ (firstStr an.first) = .ok an.follow := by
  unfold analyse at h
  split at h
  · rename_i fi hfi
    split at h
    · rename_i fo hfo
      cases h
      exact ⟨hfi, hfo⟩
    · cases h
    · cases h
  · cases h
  · cases h

theorem analyse_follow_closed (h₁ : o₁.Fair) (h₂ : o₂.Fair)
    (h : analyse g o₁ o₂ = .ok an) :
    FollowClosed g (Spec.First g) (Spec.Eps g) (Fst (asTE an.follow)) (Est (asTE an.follow)) := by
  obtain ⟨hf, ho⟩ := analyse_ok h
  exact computeFollow_closed h₂
    (fun β a ha => (first_exact_terms h₁ hf β a).2 ha)
    (fun β he => (first_exact_eps h₁ hf β).2 he) ho

theorem analyse_follow_least (h₁ : o₁.Fair) (h₂ : o₂.Fair)
    (h : analyse g o₁ o₂ = .ok an) {Fo : N → T → Prop} {En : N → Prop}
    (hc : FollowClosed g (Spec.First g) (Spec.Eps g) Fo En) : BelowFo an.follow Fo En := by
  obtain ⟨hf, ho⟩ := analyse_ok h
  exact computeFollow_least h₂
    (fun β a ha => (first_exact_terms h₁ hf β a).1 ha)
    (fun β he => (first_exact_eps h₁ hf β).1 he) hc ho

theorem analyse_sameSets {o₁ o₂ o₃ o₄ : IterOrder T N}
    (h₁ : o₁.Fair) (h₂ : o₂.Fair) (h₃ : o₃.Fair) (h₄ : o₄.Fair) {an an' : Analysis T N}
    (h : analyse g o₁ o₂ = .ok an) (h' : analyse g o₃ o₄ = .ok an') :
    SameSets (firstStr an.first) (firstStr an'.first) an.follow an'.follow := by
  have c := analyse_follow_closed h₁ h₂ h
  have c' := analyse_follow_closed h₃ h₄ h'
  have l := analyse_follow_least h₁ h₂ h c'
  have l' := analyse_follow_least h₃ h₄ h' c
  constructor
  · intro α a
    rw [first_exact_terms h₁ (analyse_ok h).1, first_exact_terms h₃ (analyse_ok h').1]
  · intro α
    rw [first_exact_eps h₁ (analyse_ok h).1, first_exact_eps h₃ (analyse_ok h').1]
  · intro A a; exact ⟨l.1 A a, l'.1 A a⟩
  · intro A; exact ⟨l.2 A, l'.2 A⟩

theorem follow_exact {g : Grammar T N} {o₁ o₂ : IterOrder T N} (h₁ : o₁.Fair) (h₂ : o₂.Fair)
    (hv : validB g = true) (hreach : Spec.AllReachable g) {an : Analysis T N}
    (h : analyse g o₁ o₂ = .ok an) (A : N) :
    (∀ a, a ∈ (an.follow A).terms ↔ Spec.Follow g A a) ∧ ((an.follow A).endm = true ↔ Spec.FollowEnd g A) := by
  -- ⊆ only needs the hypotheses: the Spec's FOLLOW is closed when every production HEAD occurs in a sentential form,
  -- and `AllReachable` speaks of the declared non-terminals
  have hc : FollowClosed g (Spec.First g) (Spec.Eps g) (Spec.Follow g) (Spec.FollowEnd g) :=
    spec_follow_closed fun p hp => hreach p.head (valid_prod hv hp).1
  have l := analyse_follow_least h₁ h₂ h hc
  have c := spec_follow_least (analyse_follow_closed h₁ h₂ h) A
  exact ⟨fun a => ⟨l.1 A a, c.1 a⟩, ⟨l.2 A, c.2⟩⟩

theorem follow_complete (h₁ : o₁.Fair) (h₂ : o₂.Fair)
    (h : analyse g o₁ o₂ = .ok an) (A : N) :
    (∀ a, Spec.Follow g A a → a ∈ (an.follow A).terms) ∧ (Spec.FollowEnd g A → (an.follow A).endm = true) :=
  spec_follow_least (analyse_follow_closed h₁ h₂ h) A

theorem ll1Bad_conflict (h₁ : o₁.Fair) (h₂ : o₂.Fair)
    (hv : validB g = true) (hreach : Spec.AllReachable g) (hprod : Spec.AllProductive g)
    (h : analyse g o₁ o₂ = .ok an)
    (hbad : LL1Bad g (firstStr an.first) an.follow) : Conflict g (firstStr an.first) an.follow := by
  obtain ⟨p, q, hp, hq, hne, hh, hb⟩ := hbad
  have hf := (analyse_ok h).1
  have hA := (valid_prod hv hp).1
  have decl : ∀ (r : GProd T N), r ∈ g.prods → ∀ (a : T), a ∈ (firstStr an.first r.body).terms → a ∈ g.terms :=
    fun r hr a ha => by
      obtain ⟨β, hβ⟩ := (first_exact_terms h₁ hf _ a).1 ha
      simpa [symDeclared] using derives_declared hv hβ (valid_prod hv hr).2 (Sym.term a) (by simp)
  rcases hb with (⟨a, ha1, ha2⟩ | ⟨e1, e2⟩) | ⟨e1, a, ha1, ha2⟩ | ⟨e2, a, ha1, ha2⟩
  · exact ⟨p, q, some a, hp, hq, hne, hh, hA, mem_columns_some (decl p hp a ha1), Or.inl ha1, Or.inl ha2⟩
  · rcases follow_nonempty hv hreach hprod hA with he | ⟨a, hat, ha⟩
    · have := (follow_complete h₁ h₂ h p.head).2 he
      exact ⟨p, q, none, hp, hq, hne, hh, hA, mem_columns_none, ⟨e1, this⟩, ⟨e2, hh ▸ this⟩⟩
    · have := (follow_complete h₁ h₂ h p.head).1 a ha
      exact ⟨p, q, some a, hp, hq, hne, hh, hA, mem_columns_some hat, Or.inr ⟨e1, this⟩, Or.inr ⟨e2, hh ▸ this⟩⟩
  · exact ⟨p, q, some a, hp, hq, hne, hh, hA, mem_columns_some (decl q hq a ha1), Or.inr ⟨e1, ha2⟩, Or.inl ha1⟩
  · exact ⟨p, q, some a, hp, hq, hne, hh, hA, mem_columns_some (decl p hp a ha1), Or.inl ha1, Or.inr ⟨e2, hh ▸ ha2⟩⟩

end AlgoVerif.C10
