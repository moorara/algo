import AlgoVerif.Proofs.C02Sim
import AlgoVerif.Proofs.C02Num
/-!
# C02/C03 — open addressing on an array of optional entries, whatever the entry type

What quadratic probing, double hashing and linear probing share: the search loop `walk` over a probe sequence, and the
invariant `ProbedF` — no key in two slots, every entry reached by the probe sequence of its key through occupied slots —
stated over the key function `kAt : Nat → Option K` of the slot array (`keyAt s` for entries with a soft-delete flag,
`keyAtL s` for plain pairs); `OA.InvCore.probed` and `Lin.InvCore.probed` read it off the fields `uniq`, `reach` of the two
invariants, which spell it out with `isUsed s i = (keyAt s i).isSome` (`isUsedL`, `keyAtL` alike).
-/
set_option linter.unusedSectionVars false
namespace AlgoVerif.C02
variable {K α : Type}

theorem exists_least {P : Nat → Prop} (h : ∃ i, P i) : ∃ i, P i ∧ ∀ j, j < i → ¬ P j := by
  classical
  exact ⟨Nat.find h, Nat.find_spec h, fun j hj => Nat.find_min h hj⟩

theorem get_set {α : Type} (s : Array α) (idx : Nat) (hidx : idx < s.size) (x : α) (j : Nat) :
    (s.setIfInBounds idx x)[j]? = if j = idx then some x else s[j]? := by
  rw [Array.getElem?_setIfInBounds]
  by_cases h : idx = j
  · rw [if_pos h, if_pos h.symm, if_pos hidx]
  · rw [if_neg h, if_neg (Ne.symm h)]

theorem get_replicate_ne {α : Type} (m j : Nat) (e : α) : (Array.replicate m (none : Option α))[j]? ≠ some (some e) := by
  simp only [Array.getElem?_replicate]
  split <;> simp

theorem cnt_update {P Q : Nat → Bool} {n idx : Nat} (hidx : idx < n) (hrest : ∀ i, i ≠ idx → Q i = P i) :
    cnt Q n + (if P idx then 1 else 0) = cnt P n + (if Q idx then 1 else 0) := by
  cases hp : P idx <;> cases hq : Q idx
  · exact congrArg (· + 0) (cnt_congr fun i _ => if hi : i = idx then by rw [hi, hq, hp] else hrest i hi)
  · exact cnt_flip_true hidx hp hq hrest
  · exact cnt_flip_false hidx hp hq hrest
  · exact congrArg (· + 1) (cnt_congr fun i _ => if hi : i = idx then by rw [hi, hq, hp] else hrest i hi)

/-- a counter field `n` that equalled the count `c` and was updated as `cnt_update` says the count changes (`b`: the written slot
counted before, `d`: it counts afterwards) equals the new count `c'` -/
theorem counter_follows {b d : Bool} {c c' : Nat} {n n' : Int} (h : n = (c : Int))
    (hc : c' + (if b then 1 else 0) = c + (if d then 1 else 0))
    (hn : n' + (if b then 1 else 0) = n + (if d then 1 else 0)) : n' = (c' : Int) := by
  cases b <;> cases d <;> simp only [Bool.false_eq_true, ↓reduceIte] at hc hn <;> omega

theorem lt_size_of_get {α : Type} {s : Array α} {i : Nat} {x : α} (h : s[i]? = some x) : i < s.size := by
  by_contra hc
  rw [Array.getElem?_eq_none (Nat.le_of_not_lt hc)] at h
  cases h

def walk {α β : Type} (slots : Array (Option α)) (P : Nat → Nat) (stop : Nat → Option α → Option β) :
    Nat → Nat → Outcome β
  | 0, _ => .diverge
  | fuel + 1, i =>
    match slots[P i]? with
    | none => .panic
    | some x =>
      match stop i x with
      | some r => .ok r
      | none => walk slots P stop fuel (i + 1)

theorem walk_spec {α β : Type} (slots : Array (Option α)) (P : Nat → Nat) (stop : Nat → Option α → Option β) :
    ∀ fuel i i1 x1 r, i ≤ i1 → i1 < i + fuel →
      (∀ j, i ≤ j → j < i1 → ∃ x, slots[P j]? = some x ∧ stop j x = none) →
      slots[P i1]? = some x1 → stop i1 x1 = some r →
      walk slots P stop fuel i = .ok r := by
  intro fuel
  induction fuel with
  | zero => intro i i1 _ _ h1 h2; omega
  | succ f ih =>
    intro i i1 x1 r h1 h2 hbefore hx hs
    unfold walk
    rcases Nat.eq_or_lt_of_le h1 with rfl | hlt
    · simp only [hx, hs]
    · obtain ⟨x, hx', hs'⟩ := hbefore i (Nat.le_refl i) hlt
      simp only [hx', hs']
      exact ih (i + 1) i1 x1 r (by omega) (by omega) (fun j hj1 hj2 => hbefore j (by omega) hj2) hx hs

/-- how the Model's probe counters report a walk -/
def okVal {β : Type} : Outcome β → Option β
  | .ok r => some r
  | _ => none

/-- a loop function that satisfies the recursion equations of `walk` (up to `emb`, which tells how it reports the
outcome) is that walk -/
theorem walk_eq {α β γ : Type} (slots : Array (Option α)) (P : Nat → Nat) (stop : Nat → Option α → Option β)
    (emb : Outcome β → γ) (F : Nat → Nat → γ) (h0 : ∀ i, F 0 i = emb .diverge)
    (hs : ∀ f i, F (f + 1) i = match slots[P i]? with
      | none => emb .panic
      | some x => match stop i x with
        | some r => emb (.ok r)
        | none => F f (i + 1)) :
    ∀ fuel i, F fuel i = emb (walk slots P stop fuel i) := by
  intro fuel
  induction fuel with
  | zero => exact h0
  | succ f ih =>
    intro i
    rw [hs, walk]
    cases slots[P i]? with
    | none => rfl
    | some x =>
      simp only [ih]
      cases stop i x <;> rfl

/-- The walk's value is stated for every payload `f`: `Put`, `Get`, `Delete` and the probe counters run the same search and
differ only in what they return where it stops. If it stops at a nil slot, `stop` rejects every entry that the sequence reaches
through occupied slots (`used`) only: such an entry comes before the nil slot. -/
theorem walk_stop {α : Type} (slots : Array (Option α)) (P : Nat → Nat) (hin : ∀ i, P i < slots.size)
    (c fuel : Nat) (hc : c ≤ fuel) (hfree : ∃ i, i < c ∧ slots[P i]? = some none)
    (used : Nat → Bool) (hused : ∀ i, slots[i]? = some none → used i = false)
    (stop : Option α → Bool) (hnil : stop none = true) :
    ∃ i1 x1, i1 < c ∧ slots[P i1]? = some x1 ∧ stop x1 = true ∧
      (∀ j, j < i1 → ∃ e, slots[P j]? = some (some e) ∧ stop (some e) = false) ∧
      (∀ (β : Type) (f : Nat → Option α → β),
        walk slots P (fun i x => if stop x then some (f i x) else none) fuel 0 = .ok (f i1 x1)) ∧
      (x1 = none → ∀ (idx : Nat) (e : α), slots[idx]? = some (some e) →
        (∃ i, P i = idx ∧ ∀ j, j < i → used (P j) = true) → stop (some e) = false) := by
  obtain ⟨i0, hi0, hfree⟩ := hfree
  obtain ⟨i1, ⟨x1, hx1, hstop⟩, hmin⟩ := exists_least (P := fun i => ∃ x, slots[P i]? = some x ∧ stop x = true)
    ⟨i0, none, hfree, hnil⟩
  have hle : i1 ≤ i0 := Nat.le_of_not_lt fun hc => hmin i0 hc ⟨none, hfree, hnil⟩
  have hbefore' : ∀ j, j < i1 → ∃ e, slots[P j]? = some (some e) ∧ stop (some e) = false := by
    intro j hj
    obtain ⟨x, hx⟩ : ∃ x, slots[P j]? = some x := ⟨slots[P j]'(hin j), by simp [hin j]⟩
    cases x with
    | none => exact absurd ⟨none, hx, hnil⟩ (hmin j hj)
    | some e => exact ⟨e, hx, Bool.eq_false_iff.2 fun hs => hmin j hj ⟨some e, hx, hs⟩⟩
  refine ⟨i1, x1, by omega, hx1, hstop, hbefore', ?_, ?_⟩
  · intro β f
    apply walk_spec _ _ _ fuel 0 i1 x1 (f i1 x1) (Nat.zero_le _) (by omega)
    · intro j _ hj
      obtain ⟨e, he, hk⟩ := hbefore' j hj
      exact ⟨some e, he, by simp [hk]⟩
    · exact hx1
    · simp [hstop]
  · rintro rfl idx e he ⟨i', hpi, hpath⟩
    rcases Nat.lt_trichotomy i' i1 with hlt | heq | hgt
    · obtain ⟨e', he', hne⟩ := hbefore' i' hlt
      rw [hpi, he] at he'
      cases he'
      exact hne
    · subst heq
      rw [hpi, he] at hx1
      cases hx1
    · have := hpath i1 hgt
      rw [hused _ hx1] at this
      cases this

structure ProbedF (kAt : Nat → Option K) (pr : K → Nat → Nat) (c : Nat) : Prop where
  uniq : ∀ i j k, kAt i = some k → kAt j = some k → i = j
  reach : ∀ idx k, kAt idx = some k → ∃ i, i < c ∧ pr k i = idx ∧ ∀ j, j < i → (kAt (pr k j)).isSome = true

theorem uniq_set {kAt kAt' : Nat → Option K} {idx : Nat} {k' : K} (h : ∀ i j k, kAt i = some k → kAt j = some k → i = j)
    (hset : ∀ j, kAt' j = if j = idx then some k' else kAt j) (hother : ∀ i, i ≠ idx → kAt i ≠ some k') :
    ∀ i j k, kAt' i = some k → kAt' j = some k → i = j := by
  intro i j k hi hj
  rw [hset] at hi hj
  by_cases hii : i = idx <;> by_cases hjj : j = idx <;>
    simp only [hii, hjj, if_true, if_false, Option.some.injEq] at hi hj
  · exact hii.trans hjj.symm
  · exact absurd hj (hi ▸ hother j hjj)
  · exact absurd hi (hj ▸ hother i hii)
  · exact h i j k hi hj

theorem ProbedF.set {kAt kAt' : Nat → Option K} {pr : K → Nat → Nat} {c idx : Nat} {k' : K} (h : ProbedF kAt pr c)
    (hset : ∀ j, kAt' j = if j = idx then some k' else kAt j)
    (hother : ∀ i, i ≠ idx → kAt i ≠ some k')
    (hreach : ∃ i, i < c ∧ pr k' i = idx ∧ ∀ j, j < i → (kAt (pr k' j)).isSome = true) : ProbedF kAt' pr c := by
  have hmono : ∀ j, (kAt j).isSome = true → (kAt' j).isSome = true := by
    intro j hj
    rw [hset]; split <;> simp [hj]
  refine ⟨uniq_set h.uniq hset hother, ?_⟩
  · intro idx' k hk'
    rw [hset] at hk'
    by_cases hii : idx' = idx
    · simp only [hii, if_true, Option.some.injEq] at hk'
      subst hk'
      obtain ⟨i, hi, hpi, hused⟩ := hreach
      exact ⟨i, hi, hpi.trans hii.symm, fun j hj => hmono _ (hused j hj)⟩
    · simp only [hii, if_false] at hk'
      obtain ⟨i, hi, hpi, hused⟩ := h.reach idx' k hk'
      exact ⟨i, hi, hpi, fun j hj => hmono _ (hused j hj)⟩

def Holds (s : Array (Option α)) (e : α) : Prop := ∃ i : Nat, s[i]? = some (some e)

theorem holds_set {s : Array (Option α)} {idx : Nat} (hidx : idx < s.size) (keyOf : α → K) (e' : α)
    (hother : ∀ i x, i ≠ idx → s[i]? = some (some x) → keyOf x ≠ keyOf e')
    (hold : ∀ e, s[idx]? = some (some e) → keyOf e = keyOf e') (x : α) :
    Holds (s.setIfInBounds idx (some e')) x ↔ x = e' ∨ (keyOf x ≠ keyOf e' ∧ Holds s x) := by
  unfold Holds
  simp only [get_set s idx hidx]
  constructor
  · rintro ⟨i, he⟩
    by_cases hii : i = idx
    · rw [if_pos hii] at he
      exact Or.inl (Option.some.inj (Option.some.inj he)).symm
    · rw [if_neg hii] at he
      exact Or.inr ⟨hother i x hii he, i, he⟩
  · rintro (rfl | ⟨hne, i, he⟩)
    · exact ⟨idx, by rw [if_pos rfl]⟩
    · exact ⟨i, by rw [if_neg (fun hii : i = idx => hne (hold x (hii ▸ he)))]; exact he⟩

theorem free_of_count {s : Array (Option α)} {m c : Nat} (used : Nat → Bool)
    (hnone : ∀ i, i < s.size → used i = false → s[i]? = some none) (hm : s.size = m) (P : Nat → Nat)
    (hlt : ∀ i, P i < m) (hinj : ∀ i j, i < j → j < c → P i ≠ P j) (hcnt : cnt used m < c) :
    ∃ i, i < c ∧ s[P i]? = some none := by
  by_contra hc
  have := pigeonhole used P c m (fun i _ => hlt i) hinj fun i hi => by
    by_contra hu
    exact hc ⟨i, hi, hnone _ (hm ▸ hlt i) (by simpa using hu)⟩
  omega

/-- the search for `key` along `P` stopped at probe `i1 < c` on the slot content `x1` -/
structure Found (s : Array (Option α)) (kAt : Nat → Option K) (P : Nat → Nat) (stop : Option α → Bool) (key : K)
    (c fuel i1 : Nat) (x1 : Option α) : Prop where
  lt : i1 < c
  get : s[P i1]? = some x1
  stops : stop x1 = true
  before : ∀ j, j < i1 → (kAt (P j)).isSome = true
  returns : ∀ (β : Type) (f : Nat → Option α → β),
    walk s P (fun i x => if stop x then some (f i x) else none) fuel 0 = .ok (f i1 x1)
  other : ∀ i, i ≠ P i1 → kAt i ≠ some key

/-- the search loop of `Put`/`Delete` (stop at a nil slot or at `key`); `hk`: `kAt` is the key function of the array `s` -/
theorem ProbedF.found {s : Array (Option α)} {kAt : Nat → Option K} {pr : K → Nat → Nat} {c fuel : Nat}
    (h : ProbedF kAt pr c) (keyOf : α → K)
    (hk : ∀ i k, kAt i = some k ↔ ∃ e, s[i]? = some (some e) ∧ keyOf e = k) (key : K)
    (hin : ∀ i, pr key i < s.size) (hc : c ≤ fuel) (hfree : ∃ i, i < c ∧ s[pr key i]? = some none)
    (stop : Option α → Bool) (hnil : stop none = true) (hstop : ∀ e, stop (some e) = true ↔ keyOf e = key) :
    ∃ i1 x1, Found s kAt (pr key) stop key c fuel i1 x1 := by
  have hused : ∀ i, s[i]? = some none → (kAt i).isSome = false := fun i hi =>
    Bool.eq_false_iff.2 fun hs => by
      obtain ⟨k, hkk⟩ := Option.isSome_iff_exists.1 hs
      obtain ⟨e, he, _⟩ := (hk i k).1 hkk
      rw [hi] at he; cases he
  obtain ⟨i1, x1, hi1, hx1, hs, hbefore, hwalk, hnone⟩ := walk_stop s (pr key) hin c fuel hc hfree
    (fun i => (kAt i).isSome) hused stop hnil
  refine ⟨i1, x1, hi1, hx1, hs, fun j hj => ?_, hwalk, fun i hi hki => ?_⟩
  · obtain ⟨e, he, _⟩ := hbefore j hj
    rw [(hk _ _).2 ⟨e, he, rfl⟩]; rfl
  · obtain ⟨e', he', hk'⟩ := (hk i key).1 hki
    cases x1 with
    | some e => exact hi (h.uniq _ _ _ hki ((hk _ _).2 ⟨e, hx1, (hstop e).1 hs⟩))
    | none =>
      obtain ⟨i', _, hpi, hpath⟩ := h.reach i key hki
      have := hnone rfl i e' he' ⟨i', hpi, hpath⟩
      rw [(hstop e').2 hk'] at this
      cases this

end AlgoVerif.C02
