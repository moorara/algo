import AlgoVerif.Proofs.C01Spec
/-!
# C01: `Equal` between tables built with different comparators

`Spec.equal cmp₁ cmp₂ eqVal m₁ m₂` looks every key of `m₁` up in `m₂` with `m₂`'s comparator and every key
of `m₂` up in `m₁` with `m₁`'s comparator.  For lawful comparators (three-way comparisons of strict total
orders, so `cmp a b = 0 ↔ a = b` for both) this is the comparator-free statement `Spec.SamePairs`: the two
maps hold the same keys with `eqVal`-equal values — whatever order each of them enumerates its keys in.
-/
namespace AlgoVerif.C01
open Spec

variable {K V : Type} {cmp : K → K → Int}

theorem get_eq_some_iff (h : LawfulCmp cmp) (k : K) (w : V) :
    ∀ {m : Map K V}, m.Pairwise (fun a b => a.1 ≠ b.1) → (Spec.get cmp k m = some w ↔ (k, w) ∈ m)
  | [], _ => by simp [Spec.get]
  | (a, b) :: t, hp => by
    rw [get_cons]
    have ht := List.pairwise_cons.1 hp
    by_cases he : cmp k a = 0
    · have hka : k = a := (h.eq_iff k a).1 he
      subst hka
      simp only [he, if_true, Option.some.injEq, List.mem_cons, Prod.mk.injEq, true_and]
      constructor
      · intro e; exact Or.inl e.symm
      · rintro (e | hm)
        · exact e.symm
        · exact absurd rfl (ht.1 (k, w) hm)
    · have hka : k ≠ a := fun e => he ((h.eq_iff k a).2 e)
      simp only [he, if_false, List.mem_cons, Prod.mk.injEq, hka, false_and, false_or]
      exact get_eq_some_iff h k w ht.2

theorem includes_iff (h : LawfulCmp cmp) (eqVal : V → V → Bool) (m₁ : Map K V) {m₂ : Map K V}
    (hp : m₂.Pairwise (fun a b => a.1 ≠ b.1)) :
    Spec.includes cmp eqVal m₁ m₂ = true ↔ ∀ p ∈ m₁, ∃ q ∈ m₂, q.1 = p.1 ∧ eqVal p.2 q.2 = true := by
  unfold Spec.includes
  rw [List.all_eq_true]
  constructor
  · intro hall p hpm
    have := hall p hpm
    cases hg : Spec.get cmp p.1 m₂ with
    | none => rw [hg] at this; exact absurd this (by simp)
    | some w =>
      rw [hg] at this
      exact ⟨(p.1, w), (get_eq_some_iff h p.1 w hp).1 hg, rfl, this⟩
  · intro hall p hpm
    obtain ⟨⟨qk, qv⟩, hq, hk, hv⟩ := hall p hpm
    simp only at hk hv
    subst hk
    rw [(get_eq_some_iff h p.1 qv hp).2 hq]
    exact hv

theorem equal_iff_samePairs {cmp₁ cmp₂ : K → K → Int} (h₁ : LawfulCmp cmp₁) (h₂ : LawfulCmp cmp₂)
    (eqVal : V → V → Bool) {m₁ m₂ : Map K V} (s₁ : Sorted cmp₁ m₁) (s₂ : Sorted cmp₂ m₂) :
    Spec.equal cmp₁ cmp₂ eqVal m₁ m₂ = true ↔ Spec.SamePairs eqVal m₁ m₂ := by
  unfold Spec.equal Spec.SamePairs
  rw [Bool.and_eq_true, includes_iff h₂ eqVal m₁ (sorted_keys_ne h₂ s₂),
    includes_iff h₁ eqVal m₂ (sorted_keys_ne h₁ s₁)]

end AlgoVerif.C01
