import AlgoVerif.Model.C07Sub
import AlgoVerif.Proofs.C07Basic
/-!
# C07 — a sort applied to a sub-slice `a[lo:hi]`

`onSub_spec` holds for whatever relation `R` the sort establishes between its output and its input (sorted permutation
for the comparison sorts, equality with the reference sort for the radix sorts).
-/
namespace AlgoVerif.C07

variable {α : Type}

theorem onSub_spec (R : Array α → Array α → Prop) (f : Array α → Outcome (Array α))
    (hf : ∀ x, ∃ y, f x = .ok y ∧ y.size = x.size ∧ R y x)
    (a : Array α) (lo hi : Nat) (h1 : lo ≤ hi) (h2 : hi ≤ a.size) :
    ∃ out, onSub f a lo hi = .ok out ∧ out.size = a.size ∧
      (∀ i, i < lo → out[i]? = a[i]?) ∧ (∀ i, hi ≤ i → out[i]? = a[i]?) ∧
      R (out.extract lo hi) (a.extract lo hi) := by
  obtain ⟨y, hy, hsz, hR⟩ := hf (a.extract lo hi)
  -- on lists the result is `a` with the window replaced by `y`
  obtain ⟨s1, s2, s3⟩ := splice_spec (a := a) (a' := a.extract 0 lo ++ y ++ a.extract hi a.size)
    (M := y.toList) h1 h2 (by simp [hsz]; omega) (by simp [List.take_of_length_le])
  refine ⟨_, ?_, s1, fun i h => s2 i (Or.inl h), fun i h => s2 i (Or.inr h), ?_⟩
  · have hc : (0 : Int) ≤ (lo : Int) ∧ (lo : Int) ≤ (hi : Int) ∧ (hi : Int) ≤ (a.size : Int) := by omega
    simp only [onSub, hc, and_self, if_true, Int.toNat_natCast]
    show (f (a.extract lo hi)).bind _ = _
    rw [hy]; rfl
  · rw [Array.toList_inj.1 s3]; exact hR

end AlgoVerif.C07
