import AlgoVerif.Model.C11Core
import AlgoVerif.Spec.C11
/-!
# C11 — soundness of the LR driver on a validated table

`SoundTable g start' items T`: every action of `T` is justified by the item sets `items`.  Under it the driver
`parse` keeps the stack invariant (`lr_stack_invariant`): the states on the stack spell a string of grammar
symbols `X₁ … Xₙ`, and every item `A → α•β` of the top state has `α` as a suffix of that string, with `A → •αβ`
in the state below `α`.

The invariant of a run (`Inv`) is stated on the frames of a configuration — the state stack zipped with the node stack
(`frames`), each frame a state, the symbol it was pushed on and the tree built for it: consecutive frames are what the
driver pushed (`Link`, which needs no hypothesis on the table), every tree is a derivation tree of its symbol, the yields
of the trees followed by the remaining input are the input, and the productions emitted so far, latest first, are a
rightmost derivation of the input from `X₁ … Xₙ · (remaining input)`.  Soundness follows (`accept_sound`): the AST is a
derivation tree of the input, the output its rightmost derivation.

Three namespaces: `Complete` for the two facts about forests that the completeness proof shares; `Term` for what one turn of
the driver does (`pstep_*`) and the frames of a configuration (`TFrame`, `frames`, `Link`, `FrL`), the vocabulary in which the
termination modules `C11Term*` go on; `Sound` for the validated table, the invariant of a run and soundness.
-/
namespace AlgoVerif.C11.Complete
open AlgoVerif AlgoVerif.Gram AlgoVerif.C11 AlgoVerif.C11.Spec

theorem yieldL_append : ∀ (a b : List Tree), Tree.yieldL (a ++ b) = Tree.yieldL a ++ Tree.yieldL b
  | [], b => by simp [Tree.yieldL]
  | t :: ts, b => by simp [Tree.yieldL, yieldL_append ts b, List.append_assoc]

theorem derivesL_append {g : SGrammar} : ∀ {k1 k2 : List Tree} {a b : List Sy},
    derivesL g k1 a → derivesL g k2 b → derivesL g (k1 ++ k2) (a ++ b)
  | [], k2, a, b, h1, h2 => by simp [derivesL] at h1; subst h1; simpa using h2
  | t :: tr, k2, a, b, h1, h2 => by
    simp only [derivesL] at h1
    obtain ⟨X, Xr, rfl, ht, hr⟩ := h1
    simp only [List.cons_append, derivesL]
    exact ⟨X, Xr ++ b, rfl, ht, derivesL_append hr h2⟩

end AlgoVerif.C11.Complete

namespace AlgoVerif.C11.Term
open AlgoVerif AlgoVerif.Gram AlgoVerif.C11 AlgoVerif.C11.Spec AlgoVerif.C11.Complete

theorem pstep_inl {T : Tbl} {a b : PState} (h : pstep T a = .inl b) :
    (∃ t, T.cell (peekState a.stack) a.tok = [Action.shift t] ∧
      b = { a with stack := t :: a.stack, input := a.input.tail, nodes := Tree.leaf a.tok :: a.nodes,
                   shifted := a.shifted + 1 }) ∨
    (∃ p, T.cell (peekState a.stack) a.tok = [Action.reduce p] ∧
      b = { a with stack := (T.goto (peekState (a.stack.drop p.body.length)) p.head).getD (-1) ::
                              a.stack.drop p.body.length,
                   out := p :: a.out,
                   nodes := Tree.node p (popKids p.body.length a.nodes) :: a.nodes.drop p.body.length }) := by
  unfold pstep at h
  simp only at h
  generalize hc : T.cell (peekState a.stack) a.tok = c at h
  match c, h with
  | [], h => simp at h
  | [Action.shift t], h =>
    simp only [Sum.inl.injEq] at h
    exact Or.inl ⟨t, rfl, h.symm⟩
  | [Action.reduce p], h =>
    simp only [Sum.inl.injEq] at h
    exact Or.inr ⟨p, rfl, h.symm⟩
  | [Action.accept], h => simp at h
  | _ :: _ :: _, h => simp at h

theorem pstep_of_shift {T : Tbl} {a : PState} {t : Int} (hc : T.cell (peekState a.stack) a.tok = [Action.shift t]) :
    pstep T a = .inl { a with stack := t :: a.stack, input := a.input.tail, nodes := Tree.leaf a.tok :: a.nodes,
                              shifted := a.shifted + 1 } := by
  unfold pstep; simp only [hc]

theorem pstep_of_reduce {T : Tbl} {a : PState} {p : Pr} (hc : T.cell (peekState a.stack) a.tok = [Action.reduce p]) :
    pstep T a = .inl { a with stack := (T.goto (peekState (a.stack.drop p.body.length)) p.head).getD (-1) ::
                                a.stack.drop p.body.length,
                              out := p :: a.out,
                              nodes := Tree.node p (popKids p.body.length a.nodes) :: a.nodes.drop p.body.length } := by
  unfold pstep; simp only [hc]

theorem pstep_accept {T : Tbl} {a : PState} {π : List Pr} {root : Tree} (h : pstep T a = .inr (.accept π root)) :
    T.cell (peekState a.stack) a.tok = [Action.accept] ∧ π = a.out.reverse ∧
      root = (match a.nodes with | [] => Tree.nil | r :: _ => r) := by
  unfold pstep at h
  simp only at h
  generalize hc : T.cell (peekState a.stack) a.tok = c at h
  match c, h with
  | [], h => simp at h
  | [Action.shift t], h => simp at h
  | [Action.reduce p], h => simp at h
  | [Action.accept], h =>
    simp only [Sum.inr.injEq, PResult.accept.injEq] at h
    exact ⟨rfl, h.1.symm, h.2.symm⟩
  | _ :: _ :: _, h => simp at h

/-- `s'` is the state the table pushes when `X` has been completed above `s`.  Stronger than `Link` below (the GOTO entry
exists): what a complete table provides (`Complete.ProcT`) and what makes the pushed state unique (`link_unique`) -/
def Target (T : Tbl) (s : Int) (X : Sy) (s' : Int) : Prop :=
  match X with
  | .term a => Action.shift s' ∈ T.cell s a
  | .nonterm A => T.goto s A = some s'

structure TFrame where
  state : Int
  sym : Sy
  tree : Tree

def statesF (fr : List TFrame) : List Int := fr.map (·.state)

def treesF (fr : List TFrame) : List Tree := fr.map (·.tree)

def topF : List TFrame → Int
  | [] => 0
  | f :: _ => f.state

/-- the input the frames were built from -/
def yieldF (fr : List TFrame) : List String := Tree.yieldL (treesF fr).reverse

theorem yieldF_cons (f : TFrame) (fr : List TFrame) : yieldF (f :: fr) = yieldF fr ++ f.tree.yield := by
  simp [yieldF, treesF, yieldL_append, Tree.yieldL]

theorem yieldF_append (π fr : List TFrame) : yieldF (π ++ fr) = yieldF fr ++ yieldF π := by
  simp [yieldF, treesF, yieldL_append]

theorem treeSizeL_append : ∀ (a b : List Tree), treeSizeL (a ++ b) = treeSizeL a + treeSizeL b
  | [], b => by simp [treeSizeL]
  | t :: a, b => by simp [treeSizeL, treeSizeL_append a b]; omega

theorem treeSizeL_reverse : ∀ (a : List Tree), treeSizeL a.reverse = treeSizeL a
  | [] => rfl
  | t :: a => by simp [treeSizeL_append, treeSizeL, treeSizeL_reverse a]; omega

def rootSym : Tree → Sy
  | .leaf a => Sym.term a
  | .node p _ => Sym.nonterm p.head
  | .nil => Sym.term ""

theorem rootSym_of_derivesT {g : SGrammar} {t : Tree} {X : Sy} (h : derivesT g t X) : X = rootSym t := by
  cases t with
  | leaf a => simpa [derivesT, rootSym] using h
  | node p ks => simp only [derivesT] at h; exact h.1
  | nil => simp [derivesT] at h

def frames : List Int → List Tree → List TFrame
  | s :: ss, t :: ts => ⟨s, rootSym t, t⟩ :: frames ss ts
  | _, _ => []

theorem frames_nil_right : ∀ ss : List Int, frames ss [] = []
  | [] => rfl
  | _ :: _ => rfl

theorem frames_eq : ∀ (fr : List TFrame) (rest : List Int), (∀ f ∈ fr, f.sym = rootSym f.tree) →
    frames (statesF fr ++ rest) (treesF fr) = fr
  | [], rest, _ => by simp [statesF, treesF, frames_nil_right]
  | f :: fr, rest, h => by
    have := frames_eq fr rest (fun f' hf' => h f' (List.mem_cons_of_mem _ hf'))
    simp only [statesF, treesF] at this
    simp only [statesF, treesF, List.map_cons, List.cons_append, frames, this, ← h f (by simp)]

/-- what the driver pushed on `X` above `s`: needs no hypothesis on the table (a missing GOTO entry pushes `ErrState`) -/
def Link (T : Tbl) (s : Int) (X : Sy) (s' : Int) : Prop :=
  match X with
  | .term a => Action.shift s' ∈ T.cell s a
  | .nonterm A => s' = (T.goto s A).getD (-1)

theorem link_of_target {T : Tbl} {s : Int} {X : Sy} {s' : Int} (h : Target T s X s') : Link T s X s' := by
  cases X with
  | term a => exact h
  | nonterm A => simp only [Target] at h; simp [Link, h]

def FrL (g : SGrammar) (T : Tbl) : List TFrame → Prop
  | [] => True
  | f :: rest => Link T (topF rest) f.sym f.state ∧ derivesT g f.tree f.sym ∧ FrL g T rest

theorem frL_drop {g : SGrammar} {T : Tbl} : ∀ (fr : List TFrame) (n : Nat), FrL g T fr → FrL g T (fr.drop n)
  | [], n, _ => by simp [FrL]
  | _ :: _, 0, h => by simpa using h
  | _ :: rest, n + 1, h => by simpa using frL_drop rest n h.2.2

theorem frL_trees {g : SGrammar} {T : Tbl} : ∀ (fr : List TFrame), FrL g T fr → ∀ f ∈ fr, derivesT g f.tree f.sym
  | [], _, f, hf => by simp at hf
  | f0 :: rest, h, f, hf => by
    rcases List.mem_cons.mp hf with rfl | h'
    · exact h.2.1
    · exact frL_trees rest h.2.2 f h'

end AlgoVerif.C11.Term

namespace AlgoVerif.C11.Sound
open AlgoVerif AlgoVerif.Gram AlgoVerif.C11 AlgoVerif.C11.Spec AlgoVerif.C11.Complete AlgoVerif.C11.Term

def Justified (src : List Item) (X : Sy) (it : Item) : Prop :=
  it.dot = 0 ∨ (it.prod.body[it.dot - 1]? = some X ∧ ∃ j ∈ src, j.prod = it.prod ∧ j.dot + 1 = it.dot)

/-- what `Spec.soundOK` checks, as a predicate on the table: every action is justified by the item sets.  `noItems`: `-1` is
the `ErrState` the driver pushes where a GOTO entry is missing; with no items there, that frame is justified like any other,
so the invariant needs no hypothesis that GOTO entries exist (`link_justified`) -/
structure SoundTable (g : SGrammar) (start' : String) (items : Int → List Item) (T : Tbl) : Prop where
  shiftOK : ∀ s a t, Action.shift t ∈ T.cell s a →
    a ≠ endmarker ∧ t ≠ 0 ∧ ∀ it ∈ items t, Justified (items s) (Sym.term a) it
  gotoOK : ∀ s A t, T.goto s A = some t → t ≠ 0 ∧ ∀ it ∈ items t, Justified (items s) (Sym.nonterm A) it
  reduceOK : ∀ s a p, Action.reduce p ∈ T.cell s a →
    p ∈ g.prods ∧ ∃ j ∈ items s, j.prod = p ∧ j.dot = p.body.length
  acceptOK : ∀ s a, Action.accept ∈ T.cell s a →
    a = endmarker ∧ ∃ j ∈ items s, j.prod = { head := start', body := [Sym.nonterm g.start] } ∧ j.dot = 1
  init0 : ∀ it ∈ items 0, it.dot = 0
  initOnly : ∀ s it, it ∈ items s → it.prod.head = start' → it.dot = 0 → s = 0
  noItems : items (-1) = []

/-- a stack entry without its tree: `lr_stack_invariant` speaks of states and symbols only (`Chain`).  A run is followed on
`Term.TFrame`s; `framesOf` forgets the trees and `chain_of_frL` carries `FrL` over -/
abbrev Frame := Int × Sy

def topOf : List Frame → Int
  | [] => 0
  | f :: _ => f.1

def Chain (items : Int → List Item) : List Frame → Prop
  | [] => True
  | f :: rest => f.1 ≠ 0 ∧ (∀ it ∈ items f.1, Justified (items (topOf rest)) f.2 it) ∧ Chain items rest

def symsOf (fr : List Frame) : List Sy := fr.reverse.map (·.2)

theorem lr_stack_invariant {g : SGrammar} {start' : String} {items : Int → List Item} {T : Tbl}
    (hT : SoundTable g start' items T) :
    ∀ (d : Nat) (fr : List Frame) (it : Item), Chain items fr → it ∈ items (topOf fr) → it.dot = d →
      d ≤ fr.length ∧ symsOf (fr.take d) = it.prod.body.take d ∧
      ∃ j ∈ items (topOf (fr.drop d)), j.prod = it.prod ∧ j.dot = 0 := by
  intro d
  induction d with
  | zero =>
    intro fr it _ hit hd
    refine ⟨Nat.zero_le _, by simp [symsOf], it, by simpa using hit, rfl, hd⟩
  | succ d ih =>
    intro fr it hch hit hd
    match fr, hch, hit with
    | [], _, hit =>
      have := hT.init0 it (by simpa [topOf] using hit)
      omega
    | f :: rest, hch, hit =>
      have hj := hch.2.1 it (by simpa [topOf] using hit)
      rcases hj with h0 | ⟨hX, j, hjm, hjp, hjd⟩
      · omega
      · have hjd' : j.dot = d := by omega
        obtain ⟨hle, hsy, j0, hj0m, hj0p, hj0d⟩ := ih rest j hch.2.2 hjm hjd'
        refine ⟨by simp; omega, ?_, j0, by simpa using hj0m, by rw [hj0p, hjp], hj0d⟩
        have hX' : it.prod.body[d]? = some f.2 := by
          have : it.dot - 1 = d := by omega
          rw [this] at hX; exact hX
        have hlt : d < it.prod.body.length := by
          rcases Nat.lt_or_ge d it.prod.body.length with h | h
          · exact h
          · rw [List.getElem?_eq_none h] at hX'; cases hX'
        have hget : it.prod.body[d] = f.2 := by
          rw [List.getElem?_eq_getElem hlt] at hX'; exact Option.some.inj hX'
        simp only [symsOf, List.take_succ_cons, List.reverse_cons, List.map_append, List.map_cons, List.map_nil]
        have h1 : List.map (fun x : Frame => x.2) (List.take d rest).reverse = it.prod.body.take d := by
          have := hsy; simp only [symsOf] at this; rw [this, hjp]
        rw [h1, List.take_add_one, List.getElem?_eq_getElem hlt, hget]
        rfl

def framesOf (fr : List TFrame) : List Frame := fr.map fun f => (f.state, f.sym)

theorem topOf_framesOf (fr : List TFrame) : topOf (framesOf fr) = topF fr := by
  cases fr <;> simp [framesOf, topOf, topF]

theorem derivesL_frames {g : SGrammar} : ∀ (fr : List TFrame), (∀ f ∈ fr, derivesT g f.tree f.sym) →
    derivesL g (treesF fr).reverse (symsOf (framesOf fr))
  | [], _ => by simp [treesF, symsOf, framesOf, derivesL]
  | f :: rest, h => by
    have ih := derivesL_frames rest (fun f' hf' => h f' (List.mem_cons_of_mem _ hf'))
    simp only [treesF, List.map_cons, List.reverse_cons, symsOf, framesOf, List.map_append, List.map_nil]
    apply derivesL_append
    · simpa [treesF, symsOf, framesOf] using ih
    · simp only [derivesL]
      exact ⟨f.sym, [], rfl, h f (by simp), rfl⟩

structure Inv (g : SGrammar) (T : Tbl) (w : List String) (st : PState) (fr : List TFrame) : Prop where
  stack : st.stack = statesF fr ++ [0]
  nodes : st.nodes = treesF fr
  ok : FrL g T fr
  yield : yieldF fr ++ st.input = w
  noEnd : endmarker ∉ st.input
  deriv : RDeriv g st.out (symsOf (framesOf fr) ++ st.input.map Sym.term) (w.map Sym.term)

theorem inv_frames {g : SGrammar} {T : Tbl} {w : List String} {st : PState} {fr : List TFrame} (hI : Inv g T w st fr) :
    frames st.stack st.nodes = fr := by
  rw [hI.stack, hI.nodes]
  exact frames_eq fr [0] fun f hf => rootSym_of_derivesT (frL_trees fr hI.ok f hf)

theorem inv_init (g : SGrammar) (T : Tbl) (w : List String) (hw : endmarker ∉ w) : Inv g T w (pinit w) [] :=
  ⟨rfl, rfl, trivial, by simp [yieldF, treesF, Tree.yieldL, pinit], by simpa [pinit] using hw,
    by simpa [pinit, symsOf, framesOf] using RDeriv.nil (g := g) (w.map Sym.term)⟩

theorem peek_inv {g : SGrammar} {T : Tbl} {w : List String} {st : PState} {fr : List TFrame} (hI : Inv g T w st fr) :
    peekState st.stack = topF fr := by
  rw [hI.stack]
  cases fr <;> simp [statesF, peekState, topF]

section
variable {g : SGrammar} {start' : String} {items : Int → List Item} {T : Tbl} (hT : SoundTable g start' items T)
include hT

theorem link_justified {s : Int} {X : Sy} {s' : Int} (h : Link T s X s') :
    s' ≠ 0 ∧ ∀ it ∈ items s', Justified (items s) X it := by
  cases X with
  | term a => exact (hT.shiftOK s a s' h).2
  | nonterm A =>
    simp only [Link] at h
    cases hg : T.goto s A with
    | none =>
      rw [hg] at h; subst h
      exact ⟨by decide, fun it hit => by simp [hT.noItems] at hit⟩
    | some t =>
      rw [hg, Option.getD_some] at h; rw [h]
      exact hT.gotoOK s A t hg

theorem chain_of_frL : ∀ (fr : List TFrame), FrL g T fr → Chain items (framesOf fr)
  | [], _ => by simp [framesOf, Chain]
  | f :: rest, h => by
    obtain ⟨h1, h2⟩ := link_justified hT h.1
    simp only [framesOf, List.map_cons, Chain]
    refine ⟨h1, ?_, chain_of_frL rest h.2.2⟩
    have := topOf_framesOf rest
    simp only [framesOf] at this
    rw [this]
    exact h2

/-- The shift/reduce alternative is the measure of `C11Term`; the tree size (one node per turn) and `items (topF fr) ≠ []` at a
reduction are for `C11TermMain`, which counts the turns of an endless run in the trees and starts its cases (A) and (B) from an
item of the state reduced in -/
theorem step_inv {w : List String} {st st' : PState} {fr : List TFrame} (hI : Inv g T w st fr)
    (hs : pstep T st = .inl st') :
    ∃ fr', Inv g T w st' fr' ∧ treeSizeL (treesF fr') = treeSizeL (treesF fr) + 1 ∧
      ((st'.input.length < st.input.length ∧ st'.out = st.out) ∨
       (st'.input = st.input ∧ st'.out.length = st.out.length + 1 ∧
        ∃ (f : TFrame) (p : Pr), fr' = f :: fr.drop p.body.length ∧
          f.sym = Sym.nonterm p.head ∧ p ∈ g.prods ∧ items (topF fr) ≠ [])) := by
  have hpeek := peek_inv hI
  rcases pstep_inl hs with ⟨t, hc, rfl⟩ | ⟨p, hc, rfl⟩
  · have hsh : Action.shift t ∈ T.cell (topF fr) st.tok := by rw [← hpeek, hc]; simp
    have hne := (hT.shiftOK _ _ _ hsh).1
    obtain ⟨a, rest, hin⟩ : ∃ a rest, st.input = a :: rest := by
      cases hinp : st.input with
      | nil => exfalso; apply hne; simp [PState.tok, hinp]
      | cons a rest => exact ⟨a, rest, rfl⟩
    have htok : st.tok = a := by simp [PState.tok, hin]
    refine ⟨⟨t, Sym.term st.tok, Tree.leaf st.tok⟩ :: fr, ⟨?_, ?_, ?_, ?_, ?_, ?_⟩, ?_, Or.inl ⟨by simp [hin], rfl⟩⟩
    · simp [statesF, hI.stack]
    · simp [treesF, hI.nodes]
    · exact ⟨hsh, by simp [derivesT], hI.ok⟩
    · rw [yieldF_cons, ← hI.yield, hin, htok]; simp [Tree.yield]
    · have := hI.noEnd
      rw [hin] at this ⊢
      simp only [List.tail_cons]
      intro hmem; exact this (List.mem_cons_of_mem _ hmem)
    · have := hI.deriv
      rw [hin] at this
      simpa [symsOf, framesOf, htok, hin, List.append_assoc] using this
    · simp [treesF, treeSizeL, treeSize]; omega
  · -- reduce: the body of `p` is spelt by the top frames `top`, the rest of the stack is `below`
    have hrd : Action.reduce p ∈ T.cell (topF fr) st.tok := by rw [← hpeek, hc]; simp
    obtain ⟨hp, j, hj, hjp, hjd⟩ := hT.reduceOK _ _ _ hrd
    obtain ⟨hle, hsy, -⟩ :=
      lr_stack_invariant hT p.body.length (framesOf fr) j (chain_of_frL hT fr hI.ok) (by rw [topOf_framesOf]; exact hj) hjd
    obtain ⟨top, below, rfl, hlen⟩ : ∃ top below, fr = top ++ below ∧ top.length = p.body.length :=
      ⟨fr.take p.body.length, fr.drop p.body.length, (List.take_append_drop _ _).symm,
        List.length_take_of_le (by simpa [framesOf] using hle)⟩
    have hsyms : symsOf (framesOf top) = p.body := by
      rw [hjp, List.take_length] at hsy
      simpa [framesOf, ← hlen] using hsy
    have hstk : st.stack.drop p.body.length = statesF below ++ [0] := by simp [hI.stack, statesF, ← hlen]
    have hnodes : st.nodes.drop p.body.length = treesF below := by simp [hI.nodes, treesF, ← hlen]
    have hkids : popKids p.body.length st.nodes = (treesF top).reverse := by simp [popKids, hI.nodes, treesF, ← hlen]
    have hexp : peekState (st.stack.drop p.body.length) = topF below := by
      rw [hstk]; cases below <;> simp [statesF, peekState, topF]
    have hok := hI.ok
    refine ⟨⟨(T.goto (topF below) p.head).getD (-1), Sym.nonterm p.head, Tree.node p (treesF top).reverse⟩ :: below,
      ⟨?_, ?_, ?_, ?_, hI.noEnd, ?_⟩, ?_, Or.inr ⟨rfl, by simp, _, p, by rw [← hlen, List.drop_left], rfl, hp, ?_⟩⟩
    · show (T.goto (peekState (st.stack.drop p.body.length)) p.head).getD (-1) :: st.stack.drop p.body.length = _
      rw [hexp, hstk]; rfl
    · simp [hnodes, hkids, treesF]
    · refine ⟨rfl, ?_, by simpa [← hlen] using frL_drop _ p.body.length hok⟩
      simp only [derivesT]
      exact ⟨trivial, hp, hsyms ▸ derivesL_frames top fun f hf => frL_trees _ hok f (List.mem_append_left _ hf)⟩
    · rw [yieldF_cons, ← hI.yield, yieldF_append]
      simp [Tree.yield, yieldF]
    · -- the derivation: u ++ [A] ++ v  ⇒rm  u ++ β ++ v
      have := RDeriv.cons (g := g) (symsOf (framesOf below)) st.input p hp
        (by simpa [symsOf, framesOf, ← hsyms] using hI.deriv)
      simpa [symsOf, framesOf] using this
    · simp [treesF, treeSizeL, treeSize, treeSizeL_append, treeSizeL_reverse]; omega
    · intro he; rw [he] at hj; simp at hj

theorem frL_top_zero {fr : List TFrame} (hfr : FrL g T fr) (h0 : topF fr = 0) : fr = [] := by
  cases fr with
  | nil => rfl
  | cons f rest => exact absurd h0 (link_justified hT hfr.1).1

theorem accept_sound {w : List String} {st : PState} {fr : List TFrame} (hI : Inv g T w st fr) {π : List Pr} {root : Tree}
    (hs : pstep T st = .inr (.accept π root)) :
    RDeriv g π.reverse [Sym.nonterm g.start] (w.map Sym.term) ∧ derivesT g root (Sym.nonterm g.start) ∧
      root.yield = w := by
  obtain ⟨hc, rfl, rfl⟩ := pstep_accept hs
  have hacc : Action.accept ∈ T.cell (topF fr) st.tok := by rw [← peek_inv hI, hc]; simp
  obtain ⟨hae, j, hjm, hjp, hjd⟩ := hT.acceptOK _ _ hacc
  have hin : st.input = [] := by
    cases h : st.input with
    | nil => rfl
    | cons a rest =>
      exfalso; apply hI.noEnd
      have : st.tok = a := by simp [PState.tok, h]
      rw [h, ← this, hae]; simp
  obtain ⟨hle, hsy, j0, hj0m, hj0p, hj0d⟩ :=
    lr_stack_invariant hT 1 (framesOf fr) j (chain_of_frL hT fr hI.ok) (by rw [topOf_framesOf]; exact hjm) hjd
  have h0 : topF (fr.drop 1) = 0 := by
    have := hT.initOnly _ j0 hj0m (by rw [hj0p, hjp]) hj0d
    rwa [show List.drop 1 (framesOf fr) = framesOf (fr.drop 1) by simp [framesOf], topOf_framesOf] at this
  have hnil := frL_top_zero hT (frL_drop fr 1 hI.ok) h0
  obtain ⟨f, rfl⟩ : ∃ f, fr = [f] := by
    match fr, hle, hnil with
    | [f], _, _ => exact ⟨f, rfl⟩
  have hf : f.sym = Sym.nonterm g.start := by simpa [symsOf, framesOf, hjp] using hsy
  refine ⟨?_, ?_, ?_⟩
  · simpa [symsOf, framesOf, hf, hin] using hI.deriv
  · rw [hI.nodes, ← hf]; exact hI.ok.2.1
  · rw [hI.nodes]; simpa [yieldF, treesF, Tree.yieldL, hin] using hI.yield

theorem run_sound (w : List String) :
    ∀ (fuel : Nat) (st : PState) (fr : List TFrame), Inv g T w st fr → ∀ π root, prun T fuel st = .ok (.accept π root) →
      RDeriv g π.reverse [Sym.nonterm g.start] (w.map Sym.term) ∧ derivesT g root (Sym.nonterm g.start) ∧
        root.yield = w := by
  intro fuel
  induction fuel with
  | zero => intro st _ _ π root h; simp [prun] at h
  | succ n ih =>
    intro st fr hI π root h
    unfold prun at h
    cases hstep : pstep T st with
    | inl st' =>
      rw [hstep] at h
      obtain ⟨fr', hI', -⟩ := step_inv hT hI hstep
      exact ih st' fr' hI' π root h
    | inr r =>
      rw [hstep] at h
      simp only [Outcome.ok.injEq] at h
      subst h
      exact accept_sound hT hI hstep

omit hT in
theorem derives_of_rderiv {g : SGrammar} : ∀ {π : List Pr} {α β : List Sy}, RDeriv g π α β → Derives g α β := by
  intro π α β hd
  induction hd with
  | nil α => exact Derives.refl α
  | cons u v p hp _ ih => exact (Derives.single (Step.mk u (v.map Sym.term) p hp)).trans ih

theorem parse_sound (w : List String) (hw : endmarker ∉ w) (fuel : Nat) (π : List Pr) (root : Tree)
    (h : parse T fuel w = .ok (.accept π root)) :
    RightmostDerivation g π.reverse w ∧ root.yield = w :=
  have := run_sound hT w fuel (pinit w) [] (inv_init g T w hw) π root h
  ⟨this.1, this.2.2⟩

end

end AlgoVerif.C11.Sound
