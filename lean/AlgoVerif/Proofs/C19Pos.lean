import AlgoVerif.Proofs.C19Top
import AlgoVerif.Model.C19X
/-!
# C19 — positions as a caller sees them

`String_at_posAfter`: the position of the rune that follows any list of runes has a positive line and a positive
column, so `Position.String` renders it as `line:column` (after `filename:` when there is a file name) — never as
the bare offset.
-/
namespace AlgoVerif.C19
open AlgoVerif

theorem Spec.advance_pos (cs : List Char) : ∀ (l c : Nat), 0 < l → 0 < c →
    0 < (Spec.advance (l, c) cs).1 ∧ 0 < (Spec.advance (l, c) cs).2 := by
  induction cs with
  | nil => intro l c hl hc; exact ⟨hl, hc⟩
  | cons ch cs ih =>
    intro l c hl hc
    simp only [Spec.advance]
    split
    · exact ih _ _ (Nat.succ_pos l) Nat.one_pos
    · exact ih _ _ hl (Nat.succ_pos c)

theorem Spec.posAfter_offset (cs : List Char) : (Spec.posAfter cs).offset = cs.length := rfl

/-- what `Position.String` prints in front of the numbers -/
def filePrefix (filename : String) : String := if filename = "" then "" else filename ++ ":"

theorem String_at_posAfter (filename : String) (cs : List Char) :
    ((Spec.posAfter cs).at filename).String =
      filePrefix filename ++ toString (Spec.advance (1, 1) cs).1 ++ ":" ++ toString (Spec.advance (1, 1) cs).2 := by
  obtain ⟨hl, hc⟩ := Spec.advance_pos cs 1 1 Nat.one_pos Nat.one_pos
  have hl' : ((Spec.posAfter cs).line : Int) > 0 := Int.natCast_pos.mpr hl
  have hc' : (Spec.posAfter cs).column > 0 := Int.natCast_pos.mpr hc
  have hif : (0 < filename.utf8ByteSize) = ¬ (filename = "") := by
    rw [← String.utf8ByteSize_eq_zero_iff]; exact propext Nat.pos_iff_ne_zero
  simp only [Position.String, Pos.at, gt_iff_lt, hif]
  rw [if_pos ⟨hl', hc'⟩]
  -- by definition: `posAfter` takes line and column from `advance`, and `toString ((k : Nat) : Int)` is `toString k`
  show _ ++ toString (Spec.advance (1, 1) cs).1 ++ ":" ++ toString (Spec.advance (1, 1) cs).2 = _
  unfold filePrefix
  by_cases h : filename = "" <;> simp [h]

theorem Spec.final_tail (s : Spec.State) (ops : List Op) : (Spec.final s ops).tail = s.tail := by
  induction ops generalizing s with
  | nil => rfl
  | cons op ops ih => simp only [Spec.final]; rw [ih, Spec.step_tail]

/-- A source made of the well-formed runes `cs` followed by an ill-formed `tail`; a call sequence `ops` within the
precondition during which the ill-formed sequence was not reached (`hclean`) and after which every rune of `cs` has
been read (`hall`).  Then the next `Next` returns the `*InputError` with the position that follows `cs` — and the
trace before it is the Spec's. -/
theorem invalid_position (cs : List Char) (tail : List UInt8) (k : Nat) (hbad : decodeRune tail = .invalid k)
    (hnul : NulFree (Spec.encode cs ++ tail)) (n : Nat) (hn : 0 < n)
    (script : List Answer) (tailEof : Bool) (hio : ∀ a ∈ script, a.flag ≠ .ioerr)
    (ops : List Op) (hkeep : Spec.Keeps n (Spec.initT cs tail) (ops ++ [.next]))
    (hclean : ∀ o ∈ Spec.run (Spec.initT cs tail) ops, o.isInvalid = false)
    (hall : (Spec.final (Spec.initT cs tail) ops).rest = []) :
    runNew ⟨Spec.encode cs ++ tail, script, tailEof⟩ n (ops ++ [.next]) =
      .ran ((Spec.run (Spec.initT cs tail) ops).map .ok ++ [.ok (.invalid (Spec.posAfter cs))]) := by
  have htail := ne_nil_of_invalid hbad
  rcases new_spec (Spec.encode cs ++ tail) script tailEof n hn hio with ⟨hS, _⟩ | ⟨_, i, hnew, hinv, hfresh⟩
  · exact absurd (List.append_eq_nil_iff.mp hS).2 htail
  obtain ⟨hk1, hk2⟩ := Spec.Keeps.append hkeep
  obtain ⟨i', p', B', cnt', s', hrel', hrun⟩ :=
    run_sim hnul ops i _ _ _ _ _ (new_rel cs tail rfl (Or.inr ⟨k, hbad⟩) hinv hfresh) hk1 hclean
  obtain ⟨i'', hstep, -⟩ := step_refines hrel' hnul .next (hk2 _ (by simp [Spec.states]))
  have hfp : (Spec.final (Spec.initT cs tail) ops).flushed ++ (Spec.final (Spec.initT cs tail) ops).pending = cs := by
    have := Spec.final_partition (Spec.initT cs tail) ops
    rwa [hall, List.append_nil] at this
  have ht : (Spec.final (Spec.initT cs tail) ops).tail = tail := by rw [Spec.final_tail]; rfl
  simp only [Spec.step, hall, ht, if_neg htail, hfp] at hstep
  simp only [runNew, hnew, hrun, Input.run, hstep]

end AlgoVerif.C19
