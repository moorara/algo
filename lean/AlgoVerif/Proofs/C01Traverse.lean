import AlgoVerif.Proofs.C01Query
/-!
# C01: `_traverse` with a stateful, stoppable visitor is a left-to-right scan of a listing
-/
namespace AlgoVerif.C01
open Tree

variable {K V σ : Type}

def foldUntil (visit : K → V → σ → Bool × σ) : List (K × V) → σ → Bool × σ
  | [], s => (true, s)
  | (k, v) :: xs, s =>
    match visit k v s with
    | (true, s') => foldUntil visit xs s'
    | (false, s') => (false, s')

theorem foldUntil_cons (visit : K → V → σ → Bool × σ) (k : K) (v : V) (xs : List (K × V)) :
    foldUntil visit ((k, v) :: xs) = andThen (visit k v) (foldUntil visit xs) := by
  funext s
  cases hv : visit k v s with
  | mk b s' => cases b <;> simp [foldUntil, andThen, hv]

theorem foldUntil_nil (visit : K → V → σ → Bool × σ) :
    foldUntil visit [] = fun s => (true, s) := by
  funext s; rfl

theorem andThen_assoc (f g h : σ → Bool × σ) : andThen (andThen f g) h = andThen f (andThen g h) := by
  funext s; simp only [andThen]
  rcases f s with ⟨_ | _, s'⟩ <;> simp

theorem andThen_true_left (g : σ → Bool × σ) : andThen (fun s => (true, s)) g = g := by
  funext s; simp [andThen]

theorem andThen_true_right (f : σ → Bool × σ) : andThen f (fun s => (true, s)) = f := by
  funext s; simp only [andThen]
  rcases f s with ⟨_ | _, s'⟩ <;> simp

theorem foldUntil_append (visit : K → V → σ → Bool × σ) (xs ys : List (K × V)) :
    foldUntil visit (xs ++ ys) = andThen (foldUntil visit xs) (foldUntil visit ys) := by
  induction xs with
  | nil => rw [List.nil_append, foldUntil_nil, andThen_true_left]
  | cons x xs ih =>
    obtain ⟨k, v⟩ := x
    rw [List.cons_append, foldUntil_cons, ih, foldUntil_cons, andThen_assoc]

/-- the order in which `_traverse` reaches the nodes -/
def listing : Order → Tree K V → List (K × V)
  | _, .nil => []
  | o, .node l k v _ _ _ r =>
    match o with
    | .vlr => (k, v) :: (listing o l ++ listing o r)
    | .vrl => (k, v) :: (listing o r ++ listing o l)
    | .lvr | .ascending => listing o l ++ (k, v) :: listing o r
    | .rvl | .descending => listing o r ++ (k, v) :: listing o l
    | .lrv => listing o l ++ (listing o r ++ [(k, v)])
    | .rlv => listing o r ++ (listing o l ++ [(k, v)])
    | .other => []

theorem traverse_eq (o : Order) (ho : o ≠ .other) (visit : K → V → σ → Bool × σ) :
    ∀ t : Tree K V, traverse o visit t = foldUntil visit (listing o t)
  | .nil => by simp only [traverse, listing, foldUntil_nil]
  | .node l k v s h c r => by
    have ihl := traverse_eq o ho visit l
    have ihr := traverse_eq o ho visit r
    cases o <;>
      simp only [traverse, listing, ihl, ihr, foldUntil_append, foldUntil_cons, foldUntil_nil,
        andThen_true_right, ne_eq, not_true_eq_false] at ho ⊢

theorem traverse_other (visit : K → V → σ → Bool × σ) (t : Tree K V) (s : σ) :
    traverse .other visit t s = (t.isNil, s) := by
  cases t <;> rfl

theorem listing_lvr (t : Tree K V) : listing .lvr t = t.toList := by
  induction t with
  | nil => rfl
  | node l k v s h c r ihl ihr => simp only [listing, ihl, ihr, toList_node]

theorem listing_ascending (t : Tree K V) : listing .ascending t = t.toList := by
  induction t with
  | nil => rfl
  | node l k v s h c r ihl ihr => simp only [listing, ihl, ihr, toList_node]

theorem listing_rvl (t : Tree K V) : listing .rvl t = t.toList.reverse := by
  induction t with
  | nil => rfl
  | node l k v s h c r ihl ihr => simp [listing, ihl, ihr]

theorem listing_descending (t : Tree K V) : listing .descending t = t.toList.reverse := by
  induction t with
  | nil => rfl
  | node l k v s h c r ihl ihr => simp [listing, ihl, ihr]

theorem listing_perm (o : Order) (ho : o ≠ .other) : ∀ t : Tree K V, (listing o t).Perm t.toList
  | .nil => by simp [listing]
  | .node l k v s h c r => by
    have ihl := listing_perm o ho l
    have ihr := listing_perm o ho r
    cases o
    case other => exact absurd rfl ho
    case vlr =>
      simp only [listing, toList_node]
      exact (List.Perm.cons _ (ihl.append ihr)).trans List.perm_middle.symm
    case vrl =>
      simp only [listing, toList_node]
      exact (List.Perm.cons _ ((ihr.append ihl).trans List.perm_append_comm)).trans List.perm_middle.symm
    case lvr => rw [listing_lvr]
    case ascending => rw [listing_ascending]
    case rvl => rw [listing_rvl]; exact List.reverse_perm _
    case descending => rw [listing_descending]; exact List.reverse_perm _
    case lrv =>
      simp only [listing, toList_node]
      exact (ihl.append (ihr.append (List.Perm.refl _))).trans
        (List.Perm.append_left _ (List.perm_append_comm))
    case rlv =>
      simp only [listing, toList_node]
      refine (ihr.append (ihl.append (List.Perm.refl _))).trans ?_
      refine List.perm_append_comm.trans ?_
      simp only [List.append_assoc, List.singleton_append]
      exact List.Perm.refl _

theorem foldUntil_collect_zero (xs : List (K × V)) (acc : List (K × V)) :
    foldUntil (collectVisit 0) xs acc = (true, acc ++ xs) := by
  induction xs generalizing acc with
  | nil => simp [foldUntil]
  | cons x xs ih =>
    obtain ⟨k, v⟩ := x
    have hv : collectVisit 0 k v acc = (true, acc ++ [(k, v)]) := by simp [collectVisit]
    simp only [foldUntil, hv]
    rw [ih]; simp

theorem foldUntil_collect_pos (limit : Nat) (xs : List (K × V)) (acc : List (K × V))
    (hacc : acc.length < limit) :
    (foldUntil (collectVisit limit) xs acc).2 = acc ++ xs.take (limit - acc.length) := by
  induction xs generalizing acc with
  | nil => simp [foldUntil]
  | cons x xs ih =>
    obtain ⟨k, v⟩ := x
    have hl : limit ≠ 0 := by omega
    obtain ⟨d, hd⟩ : ∃ d, limit - acc.length = d + 1 := ⟨limit - acc.length - 1, by omega⟩
    by_cases hlt : (acc ++ [(k, v)]).length < limit
    · have hlt' : acc.length + 1 < limit := by simpa using hlt
      have hv : collectVisit limit k v acc = (true, acc ++ [(k, v)]) := by
        simp [collectVisit, hl, hlt']
      simp only [foldUntil, hv]
      rw [ih _ hlt, hd, List.take_succ_cons]
      have : limit - (acc ++ [(k, v)]).length = d := by simp; omega
      rw [this]; simp
    · have hlt' : limit ≤ acc.length + 1 := by simpa using hlt
      have hv : collectVisit limit k v acc = (false, acc ++ [(k, v)]) := by
        simp [collectVisit, hl, hlt']
      simp only [foldUntil, hv]
      have : d = 0 := by simp at hlt; omega
      rw [hd, this]; simp

theorem traverseCollect_eq (o : Order) (limit : Nat) (t : Tree K V) :
    traverseCollect o limit t = if o = .other then [] else Spec.takeLim limit (listing o t) := by
  unfold traverseCollect Spec.takeLim
  split
  · rename_i ho; subst ho; rw [traverse_other]
  · rename_i ho
    rw [traverse_eq o ho]
    by_cases hl : limit = 0
    · subst hl; rw [foldUntil_collect_zero]; simp
    · rw [if_neg hl, foldUntil_collect_pos limit _ [] (by simp; omega)]; simp

theorem all_eq (t : Tree K V) : all t = t.toList := by
  unfold all
  rw [traverse_eq _ (by decide), foldUntil_collect_zero, listing_ascending]; simp

theorem allUntil_eq (limit : Nat) (t : Tree K V) : allUntil limit t = Spec.takeLim limit t.toList :=
  (traverseCollect_eq .ascending limit t).trans (by rw [if_neg (by decide), listing_ascending])

theorem foldUntil_test (f : K → V → Bool) (xs : List (K × V)) :
    (foldUntil (fun k v (_ : Unit) => (f k v, ())) xs ()).1 = xs.all (fun x => f x.1 x.2) := by
  induction xs with
  | nil => rfl
  | cons x xs ih =>
    obtain ⟨k, v⟩ := x
    simp only [foldUntil, List.all_cons]
    cases hf : f k v
    · simp
    · simpa using ih

theorem anyMatch_eq (p : K → V → Bool) (t : Tree K V) :
    anyMatch p t = t.toList.any (fun x => p x.1 x.2) := by
  unfold anyMatch
  rw [traverse_eq _ (by decide), foldUntil_test, ← (listing_perm .vlr (by decide) t).any_eq]
  simp [List.all_eq_not_any_not]

theorem allMatch_eq (p : K → V → Bool) (t : Tree K V) :
    allMatch p t = t.toList.all (fun x => p x.1 x.2) := by
  unfold allMatch
  rw [traverse_eq _ (by decide), foldUntil_test, (listing_perm .vlr (by decide) t).all_eq]

theorem foldUntil_first (p : K → V → Bool) (xs : List (K × V)) (st : Option (K × V)) :
    (foldUntil (fun k v (st : Option (K × V)) =>
        if p k v then (false, some (k, v)) else (true, st)) xs st).2 =
      (xs.find? (fun x => p x.1 x.2)).or st := by
  induction xs generalizing st with
  | nil => simp [foldUntil]
  | cons x xs ih =>
    obtain ⟨k, v⟩ := x
    simp only [foldUntil, List.find?_cons]
    cases hp : p k v
    · simp [ih]
    · simp

theorem firstMatch_eq (p : K → V → Bool) (t : Tree K V) :
    firstMatch p t = (listing .vlr t).find? (fun x => p x.1 x.2) := by
  unfold firstMatch
  rw [traverse_eq _ (by decide), foldUntil_first]; simp

theorem firstMatch_admits (p : K → V → Bool) (t : Tree K V) :
    (firstMatch p t = none ∧ ∀ x ∈ t.toList, p x.1 x.2 = false) ∨
      (∃ x ∈ t.toList, p x.1 x.2 = true ∧ firstMatch p t = some x) := by
  rw [firstMatch_eq]
  have hperm := listing_perm .vlr (by decide) t
  cases hf : (listing .vlr t).find? (fun x => p x.1 x.2) with
  | none =>
    left
    refine ⟨rfl, ?_⟩
    intro x hx
    have := List.find?_eq_none.1 hf x (hperm.mem_iff.2 hx)
    simpa using this
  | some x =>
    right
    exact ⟨x, hperm.mem_iff.1 (List.mem_of_find?_eq_some hf), by have := List.find?_some hf; simpa using this, rfl⟩

theorem equal_eq (cmp cmp2 : K → K → Int) (h : LawfulCmp cmp) (h' : LawfulCmp cmp2) (eqVal : V → V → Bool)
    {t t2 : Tree K V} (h1 : Spec.Sorted cmp t.toList) (h2 : Spec.Sorted cmp2 t2.toList) :
    equal cmp cmp2 eqVal t t2 = Spec.equal cmp cmp2 eqVal t.toList t2.toList := by
  unfold equal Spec.equal Spec.includes
  rw [traverse_eq _ (by decide), traverse_eq _ (by decide), foldUntil_test, foldUntil_test,
    listing_ascending, listing_ascending]
  congr 1
  · congr 1; funext x; rw [get_eq h' _ h2]; cases Spec.get cmp2 x.1 t2.toList <;> rfl
  · congr 1; funext x; rw [get_eq h _ h1]; cases Spec.get cmp x.1 t.toList <;> rfl

end AlgoVerif.C01
