import AlgoVerif.Proofs.C11CompleteCheck
/-!
# C11 — completeness of the driver on a validated SLR(1) table (LR(0) items, reductions on FOLLOW)

An SLR(1) table is read as a table over LR(1) items: state `s` holds `[it, a]` for every LR(0) item `it` of the state and
every `a` in FOLLOW of its head (`$` only, for the items of `S′`).  Closedness of FOLLOW under the productions is exactly
closedness of these virtual item sets under CLOSURE, so the table is a `CompleteTable` for them (`completeTable_virt`) and
`complete_language` applies.
-/
namespace AlgoVerif.C11.Complete
open AlgoVerif AlgoVerif.Gram AlgoVerif.C11 AlgoVerif.C11.Spec

/-- `CompleteTable` over LR(0) items (`la := none`): a complete item is reduced on all of `fo` of its head, and instead of
lookaheads handed down in `closed`, `fo` is closed as FOLLOW is (`followClosed`, `followStart`) -/
structure CompleteTable0 (g : SGrammar) (start' : String) (nl : List String) (fe fo : Env)
    (items : Int → List Item) (T : Tbl) : Prop where
  init : ({ prod := { head := start', body := [Sym.nonterm g.start] }, dot := 0, la := none } : Item) ∈ items 0
  closed : ∀ s it B, it ∈ items s → it.dotSym = some (Sym.nonterm B) →
    ∀ p ∈ g.prods, p.head = B → ({ prod := p, dot := 0, la := none } : Item) ∈ items s
  advT : ∀ s it a, it ∈ items s → it.dotSym = some (Sym.term a) →
    ∃ t, Action.shift t ∈ T.cell s a ∧ it.next ∈ items t
  advN : ∀ s it A, it ∈ items s → it.dotSym = some (Sym.nonterm A) →
    ∃ t, T.goto s A = some t ∧ it.next ∈ items t
  red : ∀ s it, it ∈ items s → it.isComplete = true → it.prod.head ≠ start' →
    ∀ a ∈ envGet fo it.prod.head, Action.reduce it.prod ∈ T.cell s a
  acc : ∀ s it, it ∈ items s → it.isComplete = true → it.prod.head = start' → Action.accept ∈ T.cell s endmarker
  conflictFree : ∀ s a, (T.cell s a).length ≤ 1
  nullClosed : ∀ p ∈ g.prods, p.body.all (symNullable nl) = true → p.head ∈ nl
  firstClosed : ∀ p ∈ g.prods, ∀ c ∈ firstOfStr nl fe p.body, c ∈ envGet fe p.head
  followClosed : ∀ p ∈ g.prods, ∀ (pre : List Sy) (B : String) (σ : List Sy), p.body = pre ++ Sym.nonterm B :: σ →
    (∀ c ∈ firstOfStr nl fe σ, c ∈ envGet fo B) ∧
    (σ.all (symNullable nl) = true → ∀ c ∈ envGet fo p.head, c ∈ envGet fo B)
  followStart : endmarker ∈ envGet fo g.start
  fresh : ∀ p ∈ g.prods, p.head ≠ start'

/-- the lookaheads an SLR(1) table reduces (or accepts) the LR(0) item `it` on: the endmarker for `S′ → S`, FOLLOW of
the head for a production of `g`; an item of any other production never takes part in a run -/
def laSet (g : SGrammar) (start' : String) (fo : Env) (it : Item) : List String :=
  if it.prod = { head := start', body := [Sym.nonterm g.start] } then [endmarker]
  else if it.prod ∈ g.prods then envGet fo it.prod.head else []

def virt (g : SGrammar) (start' : String) (fo : Env) (items0 : Int → List Item) (s : Int) : List Item :=
  (items0 s).flatMap fun it => (laSet g start' fo it).map fun a => { it with la := some a }

section
variable {g : SGrammar} {start' : String} {fo : Env} {items0 : Int → List Item}

theorem mem_virt {s : Int} {x : Item} :
    x ∈ virt g start' fo items0 s ↔ ∃ it ∈ items0 s, ∃ a ∈ laSet g start' fo it, x = { it with la := some a } := by
  unfold virt
  simp only [List.mem_flatMap, List.mem_map]
  constructor
  · rintro ⟨it, hit, a, ha, rfl⟩; exact ⟨it, hit, a, ha, rfl⟩
  · rintro ⟨it, hit, a, ha, rfl⟩; exact ⟨it, hit, a, ha, rfl⟩

theorem laSet_congr {i j : Item} (h : i.prod = j.prod) : laSet g start' fo i = laSet g start' fo j := by
  unfold laSet; rw [h]

theorem mem_laSet (hfresh : ∀ p ∈ g.prods, p.head ≠ start') {it : Item} {a : String} :
    a ∈ laSet g start' fo it ↔
      (it.prod = { head := start', body := [Sym.nonterm g.start] } ∧ a = endmarker) ∨
      (it.prod ∈ g.prods ∧ a ∈ envGet fo it.prod.head) := by
  unfold laSet
  split
  · rename_i hs
    have hn : ({ head := start', body := [Sym.nonterm g.start] } : Pr) ∉ g.prods := fun hp => hfresh _ hp rfl
    simp [hs, hn]
  · rename_i hs
    by_cases hp : it.prod ∈ g.prods <;> simp [hs, hp]

end

section
variable {g : SGrammar} {start' : String} {nl : List String} {fe fo : Env} {items0 : Int → List Item} {T : Tbl}
  (hC0 : CompleteTable0 g start' nl fe fo items0 T)
include hC0

/-- FOLLOW-closedness, read as the CLOSURE rule for lookaheads -/
theorem laSet_child {i : Item} {B : String} (hd : i.dotSym = some (Sym.nonterm B)) {a b : String}
    (ha : a ∈ laSet g start' fo i) (hb : b ∈ lookaheadsFor nl fe i a) {p : Pr} (hp : p ∈ g.prods) (hph : p.head = B) :
    b ∈ laSet g start' fo { prod := p, dot := 0, la := none } := by
  refine (mem_laSet hC0.fresh).mpr (Or.inr ⟨hp, ?_⟩)
  show b ∈ envGet fo p.head
  rw [hph]
  have hb' := Built.mem_lookaheadsFor.mp hb
  rcases (mem_laSet hC0.fresh).mp ha with ⟨hi, rfl⟩ | ⟨hi, ha⟩
  · have hbody : i.prod.body = [Sym.nonterm g.start] := by rw [hi]
    have hdot0 : i.dot = 0 ∧ B = g.start := by
      unfold Item.dotSym at hd
      rw [hbody] at hd
      cases hdt : i.dot with
      | zero => rw [hdt] at hd; simp at hd; exact ⟨rfl, hd.symm⟩
      | succ n => rw [hdt] at hd; simp at hd
    have : b = endmarker := by
      rcases hb' with hf | ⟨_, rfl⟩
      · rw [hbody, hdot0.1] at hf; simp [firstOfStr] at hf
      · rfl
    rw [this, hdot0.2]
    exact hC0.followStart
  · obtain ⟨h1, h2⟩ := hC0.followClosed _ hi _ B _ (dotSym_split hd)
    rcases hb' with hf | ⟨hn, rfl⟩
    · exact h1 b hf
    · exact h2 hn b ha

theorem completeTable_virt : CompleteTable g start' nl fe (virt g start' fo items0) T := by
  refine ⟨?_, ?_, ?_, ?_, ?_, ?_, hC0.conflictFree, hC0.nullClosed, hC0.firstClosed, hC0.fresh⟩
  · exact mem_virt.mpr ⟨_, hC0.init, endmarker, by simp [laSet], rfl⟩
  · intro s it' B a hit' hdot hla p hp hhead b hb
    obtain ⟨it, hit, a0, ha0, rfl⟩ := mem_virt.mp hit'
    have haa : a = a0 := by simpa using hla.symm
    subst haa
    exact mem_virt.mpr ⟨_, hC0.closed s it B hit hdot p hp hhead, b, laSet_child hC0 hdot ha0 hb hp hhead, rfl⟩
  · intro s it' a hit' hdot
    obtain ⟨it, hit, a0, ha0, rfl⟩ := mem_virt.mp hit'
    obtain ⟨t, hsh, hnext⟩ := hC0.advT s it a hit hdot
    exact ⟨t, hsh, mem_virt.mpr ⟨_, hnext, a0, laSet_congr (i := it.next) (j := it) rfl ▸ ha0, rfl⟩⟩
  · intro s it' A hit' hdot
    obtain ⟨it, hit, a0, ha0, rfl⟩ := mem_virt.mp hit'
    obtain ⟨t, hgo, hnext⟩ := hC0.advN s it A hit hdot
    exact ⟨t, hgo, mem_virt.mpr ⟨_, hnext, a0, laSet_congr (i := it.next) (j := it) rfl ▸ ha0, rfl⟩⟩
  · intro s it' a hit' hcomp hla hhead
    obtain ⟨it, hit, a0, ha0, rfl⟩ := mem_virt.mp hit'
    have haa : a = a0 := by simpa using hla.symm
    subst haa
    have hh : it.prod.head ≠ start' := hhead
    rcases (mem_laSet hC0.fresh).mp ha0 with ⟨hi, _⟩ | ⟨_, ha⟩
    · exact absurd (by rw [hi]) hh
    · exact hC0.red s it hit hcomp hh a ha
  · intro s it' hit' hcomp hhead
    obtain ⟨it, hit, a0, _, rfl⟩ := mem_virt.mp hit'
    exact hC0.acc s it hit hcomp hhead

theorem complete_language0 (w : List String) (hw : Language g w) :
    ∃ fuel t, derivesT g t (Sym.nonterm g.start) ∧ t.yield = w ∧
      parse T fuel w = Outcome.ok (PResult.accept (postT t) t) :=
  complete_language (completeTable_virt hC0) w hw

end

theorem followClosedBody_spec {nl : List String} {fe fo : Env} {head : String} :
    ∀ (body pre : List Sy) (B : String) (σ : List Sy), followClosedBody nl fe fo head body = true →
      body = pre ++ Sym.nonterm B :: σ →
      (∀ c ∈ firstOfStr nl fe σ, c ∈ envGet fo B) ∧
      (σ.all (symNullable nl) = true → ∀ c ∈ envGet fo head, c ∈ envGet fo B)
  | [], pre, B, σ, _, hb => by simp at hb
  | X :: rest, [], B, σ, h, hb => by
    simp only [List.nil_append, List.cons.injEq] at hb
    obtain ⟨rfl, rfl⟩ := hb
    simp only [followClosedBody, Bool.and_eq_true, List.all_eq_true, List.contains_eq_mem, decide_eq_true_eq,
      Bool.or_eq_true, Bool.not_eq_true'] at h
    refine ⟨h.1.1, fun hn c hc => ?_⟩
    rcases h.1.2 with h2 | h2
    · rw [List.all_eq_true] at hn
      have : (rest.all (symNullable nl)) = true := by rw [List.all_eq_true]; exact hn
      rw [this] at h2; cases h2
    · exact h2 c hc
  | X :: rest, Y :: pre, B, σ, h, hb => by
    simp only [List.cons_append, List.cons.injEq] at hb
    obtain ⟨rfl, hb'⟩ := hb
    have hrest : followClosedBody nl fe fo head rest = true := by
      cases X with
      | term a => simpa [followClosedBody] using h
      | nonterm C =>
        simp only [followClosedBody, Bool.and_eq_true] at h
        exact h.2
    exact followClosedBody_spec rest pre B σ hrest hb'

theorem completeTable0_of_check (g : SGrammar) (b : Built) (hv : completeSLROK g b = true) :
    ∃ nl fe fo, CompleteTable0 g b.start nl fe fo (itemsAt b.states) b.table.toTbl := by
  unfold completeSLROK at hv
  cases ha : augment g with
  | panic => simp [ha] at hv
  | diverge => simp [ha] at hv
  | ok g' =>
    simp only [ha, Bool.and_eq_true, beq_iff_eq] at hv
    obtain ⟨⟨⟨⟨⟨⟨⟨⟨⟨⟨⟨hstart, hnull⟩, hfirst⟩, hfollow⟩, hfs⟩, hinit⟩, hall⟩, hclosed⟩, hadv⟩, hred⟩, hcf⟩, hfresh⟩ := hv
    refine ⟨nullableOf g', firstEnv g' (nullableOf g'), followEnv g' (nullableOf g') (firstEnv g' (nullableOf g')), ?_⟩
    have hsub := prods_sub_augment ha
    have hla : ∀ s it, it ∈ itemsAt b.states s → it.la = none := by
      intro s it hit
      obtain ⟨n, I, _, hI, heq⟩ := Sound.itemsAt_get hit
      simp only [List.all_eq_true] at hall
      simpa using hall I (List.mem_of_getElem? hI) it (heq ▸ hit)
    refine ⟨by simpa using hinit, ?_, fun s it a hit hdot => advT_of_check hadv hit hdot,
      fun s it A hit hdot => advN_of_check hadv hit hdot, ?_,
      fun s it hit hcomp hhead => acc_of_check hred hit hcomp hhead, cell_len hcf,
      fun p hp => nullClosed_of_check hnull p (hsub p hp), fun p hp => firstClosed_of_check hfirst p (hsub p hp),
      ?_, by simpa using hfs, fresh_of_check hfresh⟩
    · intro s it B hit hdot p hp hhead
      have := closed_of_check hclosed hit hdot (p := p) (by simp [prodsOf, hsub p hp, hhead])
      rwa [hla s it hit] at this
    · intro s it hit hcomp hhead
      have := red_of_check hred hit hcomp hhead
      rwa [hla s it hit] at this
    · intro p hp pre B σ hb
      unfold chkFollowClosed at hfollow
      rw [List.all_eq_true] at hfollow
      exact followClosedBody_spec p.body pre B σ (hfollow p (hsub p hp)) hb

theorem complete_of_check (k : Kind) (g : SGrammar) (b : Built) (hc : completeOKFor k g b = true)
    (w : List String) (hw : Language g w) :
    ∃ fuel t, derivesT g t (Sym.nonterm g.start) ∧ t.yield = w ∧
      parse b.table.toTbl fuel w = .ok (.accept (postT t) t) := by
  cases k with
  | slr =>
    obtain ⟨nl, fe, fo, hC⟩ := completeTable0_of_check g b hc
    exact complete_language0 hC w hw
  | lalr =>
    obtain ⟨g', nl, fe, hC, _⟩ := completeTable_of_check g b hc
    exact complete_language hC w hw
  | lr1 =>
    obtain ⟨g', nl, fe, hC, _⟩ := completeTable_of_check g b hc
    exact complete_language hC w hw

end AlgoVerif.C11.Complete
