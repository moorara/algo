import AlgoVerif.Proofs.Outcome
import AlgoVerif.Proofs.C01Traverse
/-!
# C01: from per-mutator refinement lemmas to whole histories

`KindOK kind cmp Good` packages what has to be shown for one tree kind: an invariant `Good` that
holds of the empty tree, implies the shared invariant `Inv`, and is preserved by the four
mutators, each of which refines the corresponding operation of the abstract map and returns what
the abstract map returns.  Everything else (queries, `Equal`, the `*Match` family, whole
histories) is derived here once.
-/
namespace AlgoVerif.C01
open Tree

variable {K V : Type}

/- Copies of the `@[simp]` laws `Outcome.ok_bind`, `panic_bind`, `diverge_bind`, `pure_eq` of `Proofs/Outcome.lean`,
in a namespace `AlgoVerif.C01.Outcome` of their own; the proofs name the unprimed ones. -/
@[simp] theorem Outcome.ok_bind' {α β : Type} (a : α) (f : α → Outcome β) :
    (Outcome.ok a >>= f) = f a := rfl
@[simp] theorem Outcome.panic_bind' {α β : Type} (f : α → Outcome β) :
    (Outcome.panic >>= f) = Outcome.panic := rfl
@[simp] theorem Outcome.diverge_bind' {α β : Type} (f : α → Outcome β) :
    (Outcome.diverge >>= f) = Outcome.diverge := rfl
@[simp] theorem Outcome.pure_eq' {α : Type} (a : α) : (pure a : Outcome α) = Outcome.ok a := rfl

structure KindOK (kind : Kind) (cmp : K → K → Int) (Good : Tree K V → Prop) : Prop where
  good_nil : Good .nil
  inv : ∀ t, Good t → Inv cmp t
  put : ∀ t k v, Good t →
    ∃ t', put kind cmp t k v = .ok t' ∧ Good t' ∧ t'.toList = Spec.upsert cmp k v t.toList
  delete : ∀ t k, Good t →
    ∃ t', delete kind cmp t k = .ok (t', Spec.get cmp k t.toList) ∧ Good t' ∧
      t'.toList = Spec.remove cmp k t.toList
  deleteMin : ∀ t, Good t →
    ∃ t', deleteMin kind t = .ok (t', Spec.first t.toList) ∧ Good t' ∧ t'.toList = t.toList.tail
  deleteMax : ∀ t, Good t →
    ∃ t', deleteMax kind t = .ok (t', Spec.last t.toList) ∧ Good t' ∧ t'.toList = t.toList.dropLast

def absT (t : Table K V) : Spec.Tab K V := ⟨t.cmp, t.eqVal, t.root.toList⟩

def abs (s : State K V) : Spec.State K V := (absT s.1, absT s.2.1, absT s.2.2)

def GoodT (Good : (K → K → Int) → Tree K V → Prop) (t : Table K V) : Prop :=
  LawfulCmp t.cmp ∧ Good t.cmp t.root

def GoodS (Good : (K → K → Int) → Tree K V → Prop) (s : State K V) : Prop :=
  GoodT Good s.1 ∧ GoodT Good s.2.1 ∧ GoodT Good s.2.2

section
variable {kind : Kind} {cmp : K → K → Int} {Good : Tree K V → Prop}

def putAll (kind : Kind) (cmp : K → K → Int) (xs : List (K × V)) (m : Tree K V) : Outcome (Tree K V) :=
  xs.foldlM (fun m x => put kind cmp m x.1 x.2) m

theorem putAll_cons (x : K × V) (xs : List (K × V)) (m : Tree K V) :
    putAll kind cmp (x :: xs) m = put kind cmp m x.1 x.2 >>= putAll kind cmp xs := rfl

theorem scan_select (p : K → V → Bool) : ∀ (xs : List (K × V)) (st : Outcome (Tree K V)),
    (foldUntil (selectVisit kind cmp p) xs st).2 = st >>= putAll kind cmp (xs.filter fun x => p x.1 x.2)
  | [], st => by cases st <;> rfl
  | (k, v) :: xs, st => by
    simp only [foldUntil, selectVisit]
    rw [scan_select p xs, List.filter_cons]
    cases st with
    | ok m => cases hp : p k v <;> simp [putAll_cons]
    | panic => rfl
    | diverge => rfl

theorem selectMatch_eq (p : K → V → Bool) (t : Tree K V) :
    selectMatch kind cmp p t = putAll kind cmp ((listing .vlr t).filter fun x => p x.1 x.2) .nil := by
  unfold selectMatch
  rw [traverse_eq _ (by decide), scan_select]; rfl

/-- Not an equation: `Outcome` has two failures, and which one the scan reports when a `Put` fails depends on
how the two sequences of `Put`s interleave. -/
theorem scan_partition (p : K → V → Bool) :
    ∀ (xs : List (K × V)) (st : Outcome (Tree K V × Tree K V)) (r : Tree K V × Tree K V),
      (foldUntil (partitionVisit kind cmp p) xs st).2 = .ok r ↔
        ∃ s, st = .ok s ∧ putAll kind cmp (xs.filter fun x => p x.1 x.2) s.1 = .ok r.1 ∧
          putAll kind cmp (xs.filter fun x => !p x.1 x.2) s.2 = .ok r.2
  | [], st, r => by
    simp only [foldUntil, List.filter_nil, putAll, List.foldlM_nil, Outcome.pure_eq, Outcome.ok.injEq]
    constructor
    · intro e; exact ⟨r, e, rfl, rfl⟩
    · rintro ⟨s, e, h1, h2⟩; rw [e, Prod.ext h1 h2]
  | (k, v) :: xs, st, r => by
    simp only [foldUntil, partitionVisit]
    rw [scan_partition p xs, List.filter_cons, List.filter_cons]
    cases st with
    | ok s =>
      cases hp : p k v
      · cases hu : put kind cmp s.2 k v <;> simp [putAll_cons, hu]
      · cases hm : put kind cmp s.1 k v <;> simp [putAll_cons, hm]
    | panic => simp
    | diverge => simp

theorem partitionMatch_iff (p : K → V → Bool) (t m u : Tree K V) :
    partitionMatch kind cmp p t = .ok (m, u) ↔
      putAll kind cmp ((listing .vlr t).filter fun x => p x.1 x.2) .nil = .ok m ∧
        putAll kind cmp ((listing .vlr t).filter fun x => !p x.1 x.2) .nil = .ok u := by
  unfold partitionMatch
  rw [traverse_eq _ (by decide), scan_partition]
  simp

theorem putAll_ok (hk : KindOK kind cmp Good) : ∀ (xs : List (K × V)) (m : Tree K V), Good m →
    ∃ m', putAll kind cmp xs m = .ok m' ∧ Good m' ∧ m'.toList = ins cmp xs m.toList
  | [], m, hm => ⟨m, rfl, hm, rfl⟩
  | x :: xs, m, hm => by
    obtain ⟨m1, h1, h2, h3⟩ := hk.put m x.1 x.2 hm
    obtain ⟨m', h4, h5, h6⟩ := putAll_ok hk xs m1 h2
    exact ⟨m', by rw [putAll_cons, h1]; exact h4, h5, by rw [h6, h3]; rfl⟩

theorem putAll_filter_ok (hk : KindOK kind cmp Good) (h : LawfulCmp cmp) (q : K × V → Bool) (t : Tree K V)
    (ht : Good t) :
    ∃ m, putAll kind cmp ((listing .vlr t).filter q) .nil = .ok m ∧ Good m ∧ m.toList = t.toList.filter q := by
  obtain ⟨m, h1, h2, h3⟩ := putAll_ok hk ((listing .vlr t).filter q) .nil hk.good_nil
  exact ⟨m, h1, h2,
    h3.trans (ins_perm h ((hk.inv t ht).1.filter q) ((listing_perm .vlr (by decide) t).filter q))⟩

end

section
variable {kind : Kind} {Good : (K → K → Int) → Tree K V → Prop}

attribute [local simp] Spec.admits abs absT

theorem step_ok (hk : ∀ cmp : K → K → Int, LawfulCmp cmp → KindOK kind cmp (Good cmp)) (s : State K V)
    (hs : GoodS Good s) (op : Op K V) :
    ∃ s' o, step kind s op = .ok (s', o) ∧ GoodS Good s' ∧
      abs s' = Spec.next (abs s) op ∧ Spec.admits (abs s) op o := by
  obtain ⟨⟨c1, q1, s1⟩, ⟨c2, q2, s2⟩, ⟨c3, q3, s3⟩⟩ := s
  have ⟨⟨h, g1⟩, ⟨h2, g2⟩, ⟨h3, g3⟩⟩ := hs
  have hk1 := hk c1 h
  have i1 := hk1.inv s1 g1
  have i2 := (hk c2 h2).inv s2 g2
  cases op with
  | put k v =>
    obtain ⟨t', e, g, l⟩ := hk1.put s1 k v g1
    exact ⟨(⟨c1, q1, t'⟩, ⟨c2, q2, s2⟩, ⟨c3, q3, s3⟩), .unit, by simp [step, Table.set, e],
      ⟨⟨h, g⟩, hs.2⟩, by simp [Spec.next, Spec.Tab.set, l], rfl⟩
  | delete k =>
    obtain ⟨t', e, g, l⟩ := hk1.delete s1 k g1
    exact ⟨(⟨c1, q1, t'⟩, ⟨c2, q2, s2⟩, ⟨c3, q3, s3⟩), .optV (Spec.get c1 k s1.toList), by simp [step, Table.set, e],
      ⟨⟨h, g⟩, hs.2⟩, by simp [Spec.next, Spec.Tab.set, l], rfl⟩
  | deleteMin =>
    obtain ⟨t', e, g, l⟩ := hk1.deleteMin s1 g1
    exact ⟨(⟨c1, q1, t'⟩, ⟨c2, q2, s2⟩, ⟨c3, q3, s3⟩), .optKV (Spec.first s1.toList), by simp [step, Table.set, e],
      ⟨⟨h, g⟩, hs.2⟩, by simp [Spec.next, Spec.Tab.set, l], rfl⟩
  | deleteMax =>
    obtain ⟨t', e, g, l⟩ := hk1.deleteMax s1 g1
    exact ⟨(⟨c1, q1, t'⟩, ⟨c2, q2, s2⟩, ⟨c3, q3, s3⟩), .optKV (Spec.last s1.toList), by simp [step, Table.set, e],
      ⟨⟨h, g⟩, hs.2⟩, by simp [Spec.next, Spec.Tab.set, l], rfl⟩
  | deleteAll =>
    exact ⟨(⟨c1, q1, .nil⟩, ⟨c2, q2, s2⟩, ⟨c3, q3, s3⟩), .unit, rfl, ⟨⟨h, hk1.good_nil⟩, hs.2⟩, rfl, rfl⟩
  | swap => exact ⟨(⟨c2, q2, s2⟩, ⟨c1, q1, s1⟩, ⟨c3, q3, s3⟩), .unit, rfl, ⟨⟨h2, g2⟩, ⟨h, g1⟩, ⟨h3, g3⟩⟩, rfl, rfl⟩
  | swapC => exact ⟨(⟨c3, q3, s3⟩, ⟨c2, q2, s2⟩, ⟨c1, q1, s1⟩), .unit, rfl, ⟨⟨h3, g3⟩, ⟨h2, g2⟩, ⟨h, g1⟩⟩, rfl, rfl⟩
  | size =>
    exact ⟨_, _, rfl, hs, rfl, by simp [sz_eq_length i1.2]⟩
  | isEmpty =>
    exact ⟨_, _, rfl, hs, rfl, by simp [isNil_iff_toList]⟩
  | height => exact ⟨_, _, rfl, hs, rfl, ⟨_, rfl⟩⟩
  | get k => exact ⟨_, _, rfl, hs, rfl, by simp [get_eq h k i1.1]⟩
  | min => exact ⟨_, _, rfl, hs, rfl, by simp [minKV_eq]⟩
  | max => exact ⟨_, _, rfl, hs, rfl, by simp [maxKV_eq]⟩
  | floor k => exact ⟨_, _, rfl, hs, rfl, by simp [floor_eq h k i1.1]⟩
  | ceiling k =>
    exact ⟨_, _, rfl, hs, rfl, by simp [ceiling_eq h k i1.1]⟩
  | select i =>
    exact ⟨(⟨c1, q1, s1⟩, ⟨c2, q2, s2⟩, ⟨c3, q3, s3⟩), .optKV (Spec.select s1.toList i), by simp [step, select_eq i1.2],
      hs, rfl, rfl⟩
  | rank k => exact ⟨_, _, rfl, hs, rfl, by simp [rank_eq h k i1]⟩
  | range lo hi =>
    exact ⟨_, _, rfl, hs, rfl, by simp [range_eq h lo hi i1.1]⟩
  | rangeSize lo hi =>
    refine ⟨_, _, rfl, hs, rfl, ?_⟩
    simp only [Spec.admits, abs, absT, rangeSize, get_eq h _ i1.1, rank_eq h _ i1]
    rw [← rangeSize_spec h lo hi i1.1]
  | all => exact ⟨_, _, rfl, hs, rfl, by simp [all_eq]⟩
  | allUntil limit =>
    exact ⟨_, _, rfl, hs, rfl, by simp [allUntil_eq]⟩
  | equalOther => exact ⟨_, _, rfl, hs, rfl, rfl⟩
  | traverse o limit =>
    refine ⟨_, _, rfl, hs, rfl, ?_⟩
    have e := traverseCollect_eq o limit s1
    have hp := fun ho => listing_perm o ho s1
    cases o
    case other => simp [e]
    case lvr => simp [e, listing_lvr]
    case ascending => simp [e, listing_ascending]
    case rvl => simp [e, listing_rvl]
    case descending => simp [e, listing_descending]
    all_goals exact ⟨_, hp (by decide), by rw [e, if_neg (by decide)]⟩
  | equal =>
    exact ⟨_, _, rfl, hs, rfl,
      by simp [equal_eq c1 c2 h h2 q1 i1.1 i2.1]⟩
  | equalSelf =>
    exact ⟨_, _, rfl, hs, rfl,
      by simp [equal_eq c1 c1 h h q1 i1.1 i1.1]⟩
  | anyMatch p => exact ⟨_, _, rfl, hs, rfl, by simp [anyMatch_eq]⟩
  | allMatch p => exact ⟨_, _, rfl, hs, rfl, by simp [allMatch_eq]⟩
  | firstMatch p =>
    refine ⟨_, _, rfl, hs, rfl, ?_⟩
    simp only [Spec.admits, abs, absT]
    rcases firstMatch_admits p s1 with ⟨e, hall⟩ | ⟨x, hx, hp, e⟩
    · left; exact ⟨by rw [e], hall⟩
    · right; exact ⟨x, hx, hp, by rw [e]⟩
  | selectMatch p =>
    obtain ⟨m, e, g, l⟩ := putAll_filter_ok hk1 h (fun x => p x.1 x.2) s1 g1
    exact ⟨(⟨c1, q1, s1⟩, ⟨c1, q1, m⟩, ⟨c3, q3, s3⟩), .list (all m), by simp [step, Table.set, selectMatch_eq, e],
      ⟨⟨h, g1⟩, ⟨h, g⟩, ⟨h3, g3⟩⟩, by simp [Spec.next, Spec.Tab.set, l],
      by simp [all_eq, l]⟩
  | partitionMatch p =>
    obtain ⟨m, em, gm, lm⟩ := putAll_filter_ok hk1 h (fun x => p x.1 x.2) s1 g1
    obtain ⟨u, eu, gu, lu⟩ := putAll_filter_ok hk1 h (fun x => !p x.1 x.2) s1 g1
    have e := (partitionMatch_iff p s1 m u).2 ⟨em, eu⟩
    exact ⟨(⟨c1, q1, s1⟩, ⟨c1, q1, m⟩, ⟨c1, q1, u⟩), .list2 (all m) (all u), by simp [step, Table.set, e],
      ⟨⟨h, g1⟩, ⟨h, gm⟩, ⟨h, gu⟩⟩, by simp [Spec.next, Spec.Tab.set, lm, lu],
      by simp [all_eq, lm, lu]⟩

theorem runFrom_ok (hk : ∀ cmp : K → K → Int, LawfulCmp cmp → KindOK kind cmp (Good cmp)) :
    ∀ (ops : List (Op K V)) (s : State K V), GoodS Good s →
      ∃ s' outs, runFrom kind s ops = .ok (s', outs) ∧ GoodS Good s' ∧ Spec.accepts (abs s) ops outs
  | [], s, hs => ⟨s, [], rfl, hs, trivial⟩
  | op :: ops, s, hs => by
    obtain ⟨s1, o, e1, g1, a1, ad1⟩ := step_ok hk s hs op
    obtain ⟨s2, outs, e2, g2, acc⟩ := runFrom_ok hk ops s1 g1
    refine ⟨s2, o :: outs, ?_, g2, ?_⟩
    · simp [runFrom, e1, e2]
    · exact ⟨ad1, by rw [← a1]; exact acc⟩

theorem run_ok (hk : ∀ cmp : K → K → Int, LawfulCmp cmp → KindOK kind cmp (Good cmp))
    {cmpA cmpB cmpC : K → K → Int} (hA : LawfulCmp cmpA) (hB : LawfulCmp cmpB) (hC : LawfulCmp cmpC)
    (eqA eqB eqC : V → V → Bool) (ops : List (Op K V)) :
    ∃ s outs, run kind (.new cmpA eqA) (.new cmpB eqB) (.new cmpC eqC) ops = .ok (s, outs) ∧ GoodS Good s ∧
      Spec.accepts (.new cmpA eqA, .new cmpB eqB, .new cmpC eqC) ops outs :=
  runFrom_ok hk ops _ ⟨⟨hA, (hk cmpA hA).good_nil⟩, ⟨hB, (hk cmpB hB).good_nil⟩, ⟨hC, (hk cmpC hC).good_nil⟩⟩

theorem run_good (hk : ∀ cmp : K → K → Int, LawfulCmp cmp → KindOK kind cmp (Good cmp))
    {cmpA cmpB cmpC : K → K → Int} (hA : LawfulCmp cmpA) (hB : LawfulCmp cmpB) (hC : LawfulCmp cmpC)
    {eqA eqB eqC : V → V → Bool} {ops : List (Op K V)} {s : State K V} {outs : List (Out K V)}
    (hrun : run kind (.new cmpA eqA) (.new cmpB eqB) (.new cmpC eqC) ops = .ok (s, outs)) : GoodS Good s := by
  obtain ⟨s', outs', e, g, -⟩ := run_ok hk hA hB hC eqA eqB eqC ops
  cases e.symm.trans hrun
  exact g

end
end AlgoVerif.C01
