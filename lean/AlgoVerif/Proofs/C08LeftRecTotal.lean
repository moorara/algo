import AlgoVerif.Proofs.C09LeftRecMain
import AlgoVerif.Proofs.C08TotalCnf
/-!
# `EliminateLeftRecursion` returns a grammar (C08, totality)

For every valid hygienic grammar `elimLeftRec` answers `.ok` — no `diverge`
(`elimCycles_total`, `orderNT_total`; `lrLoop` has no fuel) and no `panic`: the only panic path is
`AddNewNonTerminal` running out of the four prime suffixes in `lrImmediate`, and that cannot happen.

Why a prime-suffixed name is always free.  After `EliminateCycles` every declared name is hygienic or is the
start symbol `x` (the `S′` of ε-elimination).  While the loop runs, every declared name is hygienic, or `x`,
or the one name `alloc B = base B ++ s` (`s` a prime suffix, `base` = the name with its prime suffixes
trimmed) given to an already processed `B`.  When `Aᵢ` (not yet processed, base `b`) needs a name, a taken
candidate `b ++ s` is not hygienic, so it is `x`, or `alloc B` with `base B = b` — and then `B = b` (if `B` is
hygienic) or `B = x`.  So at most three of the four candidates `b′ b″ b‴ b⁗` are taken.
-/
namespace AlgoVerif.C08
open AlgoVerif AlgoVerif.Gram AlgoVerif.C08.Spec AlgoVerif.C09.Spec

theorem primes_eq : primes = ["′", "″", "‴", "⁗"] := by decide

theorem primes_single (s : String) (hs : s ∈ primes) : ∃ c, s.toList = [c] :=
  List.length_eq_one_iff.mp ((by decide : ∀ s ∈ primes, s.toList.length = 1) s hs)

theorem append_prime_inj {a b s s' : String} (hs : s ∈ primes) (hs' : s' ∈ primes) (h : a ++ s = b ++ s') :
    a = b ∧ s = s' := by
  obtain ⟨c, hc⟩ := primes_single s hs
  obtain ⟨d, hd⟩ := primes_single s' hs'
  have h' := congrArg String.toList h
  rw [String.toList_append, String.toList_append, hc, hd] at h'
  obtain ⟨h1, h2⟩ := append_single_cancel h'
  refine ⟨h1, ?_⟩
  apply String.toList_inj.mp
  rw [hc, hd, h2]

/-- the base name `AddNewNonTerminal(pre, primes…)` appends to -/
def baseOf (n : String) : String := primes.foldl trimSuffix n

theorem baseOf_hyg {n : String} (h : hygienicName n = true) : baseOf n = n :=
  foldl_trim_hyg h primes primes_reserved

theorem elimCycles_names {g g0 : G} (h : elimCycles g = .ok g0) (hw : WellFormed g)
    (hh : ∀ n ∈ g.nonterms, hygienicName n = true) :
    ∀ n ∈ g0.nonterms, hygienicName n = true ∨ n = g0.start := by
  obtain ⟨g1, g2, h1, h2, h3⟩ := elimCycles_ok h
  have n1 : ∀ n ∈ g1.nonterms, hygienicName n = true ∨ n = g1.start := by
    obtain ⟨nul, _, hcase⟩ := elimEmpty_ok h1
    rcases hcase with ⟨_, rfl⟩ | ⟨_, s', _, rfl⟩
    · intro n hn
      have := prune_nonterms_subset _ n hn
      exact Or.inl (hh n this)
    · intro n hn
      have := prune_nonterms_subset _ n hn
      simp only [List.mem_append, List.mem_singleton] at this
      rcases this with h | h
      · exact Or.inl (hh n h)
      · right; rw [prune_start]; exact h
  have n2 : ∀ n ∈ g2.nonterms, hygienicName n = true ∨ n = g2.start := by
    obtain ⟨cl, _, rfl⟩ := elimSingle_ok h2
    intro n hn
    rw [prune_start]
    have := prune_nonterms_subset _ n hn
    exact n1 n this
  have w2 : WellFormed g2 := elimSingle_wf h2 (elimEmpty_wf h1 hw)
  obtain ⟨hs, hn, _⟩ := elimUnreachable_spec h3
  intro n hnm
  rw [hs]
  exact n2 n (reach_declared w2 ((hn n).1 hnm))

/-- every declared name is hygienic, or `x`, or the name given to a processed non-terminal -/
def NamesInv (x : String) (done : List String) (g : G) : Prop :=
  ∃ alloc : String → String,
    (∀ n, n ∈ g.nonterms → hygienicName n = true ∨ n = x ∨ ∃ B, B ∈ done ∧ n = alloc B) ∧
    (∀ B, B ∈ done → ∃ s, s ∈ primes ∧ alloc B = baseOf B ++ s)

theorem lrSubst_nonterms (g : G) (Ai Aj : String) : (lrSubst g Ai Aj).nonterms = g.nonterms := by
  unfold lrSubst
  simp only
  split <;> rfl

theorem lrSubst_fold_nonterms (Ai : String) (done : List String) (g : G) :
    (done.foldl (fun g Aj => lrSubst g Ai Aj) g).nonterms = g.nonterms := by
  induction done generalizing g with
  | nil => rfl
  | cons Aj done ih => simp only [List.foldl_cons]; rw [ih, lrSubst_nonterms]

theorem NamesInv.snoc {x : String} {done : List String} {g g' : G} {Ai A' s : String} (hAi : Ai ∉ done)
    (hinv : NamesInv x done g) (hs : s ∈ primes) (hA' : A' = baseOf Ai ++ s)
    (hsub : ∀ n ∈ g'.nonterms, n ∈ g.nonterms ∨ n = A') : NamesInv x (done ++ [Ai]) g' := by
  obtain ⟨alloc, ha1, ha2⟩ := hinv
  refine ⟨fun B => if B = Ai then A' else alloc B, ?_, ?_⟩
  · intro n hn
    rcases hsub n hn with hn | hn
    · rcases ha1 n hn with h | h | ⟨B, hB, h⟩
      · exact Or.inl h
      · exact Or.inr (Or.inl h)
      · refine Or.inr (Or.inr ⟨B, by simp [hB], ?_⟩)
        have : B ≠ Ai := fun e => hAi (e ▸ hB)
        simp [this, h]
    · exact Or.inr (Or.inr ⟨Ai, by simp, by simp [hn]⟩)
  · intro B hB
    by_cases e : B = Ai
    · subst e; exact ⟨s, hs, by simpa using hA'⟩
    · rcases List.mem_append.1 hB with hB | hB
      · simpa [e] using ha2 B hB
      · simp at hB; exact absurd hB e

theorem four_in_three {α : Type} [DecidableEq α] {c1 c2 c3 c4 u v w : α}
    (h12 : c1 ≠ c2) (h13 : c1 ≠ c3) (h14 : c1 ≠ c4) (h23 : c2 ≠ c3) (h24 : c2 ≠ c4) (h34 : c3 ≠ c4)
    (m1 : c1 = u ∨ c1 = v ∨ c1 = w) (m2 : c2 = u ∨ c2 = v ∨ c2 = w) (m3 : c3 = u ∨ c3 = v ∨ c3 = w)
    (m4 : c4 = u ∨ c4 = v ∨ c4 = w) : False := by
  have hnd : [c1, c2, c3, c4].Nodup := by simp [h12, h13, h14, h23, h24, h34]
  have hsub : ∀ x ∈ [c1, c2, c3, c4], x ∈ [u, v, w] := by
    simpa using ⟨m1, m2, m3, m4⟩
  exact absurd (hnd.length_le_of_subset hsub) (by simp)

theorem candidate_free {x : String} {nts done : List String} {g : G} {Ai : String}
    (hnts : ∀ B, B ∈ nts → hygienicName B = true ∨ B = x) (hdone : ∀ B, B ∈ done → B ∈ nts)
    (hinv : NamesInv x done g) :
    ∃ s, s ∈ primes ∧ baseOf Ai ++ s ∉ g.nonterms := by
  obtain ⟨alloc, ha1, ha2⟩ := hinv
  -- a taken candidate is one of three names
  have taken : ∀ s, s ∈ primes → baseOf Ai ++ s ∈ g.nonterms →
      baseOf Ai ++ s = x ∨ baseOf Ai ++ s = alloc (baseOf Ai) ∨ baseOf Ai ++ s = alloc x := by
    intro s hs hm
    rcases ha1 _ hm with hh | he | ⟨B, hB, he⟩
    · rw [not_hyg_append _ (primes_reserved s hs)] at hh; cases hh
    · exact Or.inl he
    · obtain ⟨s', hs', hal⟩ := ha2 B hB
      have hb : baseOf Ai = baseOf B := (append_prime_inj hs hs' (he.trans hal)).1
      rcases hnts B (hdone B hB) with hhB | hBx
      · right; left
        rw [he, hb, baseOf_hyg hhB]
      · right; right
        rw [he, hBx]
  apply Classical.byContradiction
  intro hno
  have all : ∀ s, s ∈ primes → baseOf Ai ++ s ∈ g.nonterms := by
    intro s hs
    apply Classical.byContradiction
    intro hn
    exact hno ⟨s, hs, hn⟩
  have ne : ∀ {s s' : String}, s ∈ primes → s' ∈ primes → s ≠ s' → baseOf Ai ++ s ≠ baseOf Ai ++ s' :=
    fun hs hs' hne e => hne (append_prime_inj hs hs' e).2
  have m1 : "′" ∈ primes := by decide
  have m2 : "″" ∈ primes := by decide
  have m3 : "‴" ∈ primes := by decide
  have m4 : "⁗" ∈ primes := by decide
  exact four_in_three (ne m1 m2 (by decide)) (ne m1 m3 (by decide)) (ne m1 m4 (by decide))
    (ne m2 m3 (by decide)) (ne m2 m4 (by decide)) (ne m3 m4 (by decide))
    (taken _ m1 (all _ m1)) (taken _ m2 (all _ m2)) (taken _ m3 (all _ m3)) (taken _ m4 (all _ m4))

theorem lrImmediate_total {x : String} {nts done : List String} {g : G} {Ai : String}
    (hnts : ∀ B, B ∈ nts → hygienicName B = true ∨ B = x) (hdone : ∀ B, B ∈ done → B ∈ nts)
    (hAi : Ai ∉ done) (hinv : NamesInv x done g) :
    ∃ g', lrImmediate g Ai = .ok g' ∧ NamesInv x (done ++ [Ai]) g' := by
  by_cases hany : (prodsOf g.prods Ai).any isLeftRec = true
  · obtain ⟨s, hs, hfree⟩ := candidate_free (Ai := Ai) hnts hdone hinv
    obtain ⟨r, hr⟩ := addNew_total_of_exists (g := g) (pre := Ai) (sufs := primes) ⟨s, hs, hfree⟩
    obtain ⟨g1, A'⟩ := r
    obtain ⟨s', hs', hA'⟩ := addNew_form hr
    obtain ⟨_, rfl⟩ := addNew_ok hr
    have hres : lrImmediate g Ai = .ok
        { terms := g.terms, nonterms := g.nonterms ++ [A'], start := g.start,
          prods := ins (insAll (insAll (g.prods.filter (fun p => p.head ≠ Ai))
            (((prodsOf g.prods Ai).filter (fun p => !isLeftRec p)).map
              (fun p => ({ head := Ai, body := p.body ++ [Sym.nonterm A'] } : SProd))))
            (((prodsOf g.prods Ai).filter isLeftRec).map
              (fun p => ({ head := A', body := p.body.tail ++ [Sym.nonterm A'] } : SProd))))
            { head := A', body := [] } } := by
      unfold lrImmediate
      simp only [hany, if_true, hr, bind, Outcome.bind, pure]
    exact ⟨_, hres, hinv.snoc hAi hs' (by simpa [baseOf] using hA') (fun n hn => by simpa using hn)⟩
  · refine ⟨g, ?_, hinv.snoc hAi (s := "′") (by decide) rfl (fun n hn => .inl hn)⟩
    unfold lrImmediate
    simp only [hany, Bool.false_eq_true, if_false, pure]

theorem lrLoop_total {x : String} {nts : List String} (hnd : nts.Nodup)
    (hnts : ∀ B, B ∈ nts → hygienicName B = true ∨ B = x) :
    ∀ (rest done : List String) (g : G), nts = done ++ rest → NamesInv x done g →
      ∃ g', lrLoop done rest g = .ok g' := by
  intro rest
  induction rest with
  | nil => intro done g _ _; exact ⟨g, rfl⟩
  | cons Ai rest ih =>
    intro done g hsplit hinv
    have hnd' : (done ++ Ai :: rest).Nodup := hsplit ▸ hnd
    have hAid : Ai ∉ done := by
      intro hmem
      exact (List.nodup_append.1 hnd').2.2 Ai hmem Ai (by simp) rfl
    have hdone : ∀ B, B ∈ done → B ∈ nts := by intro B hB; rw [hsplit]; simp [hB]
    have hinv1 : NamesInv x done (done.foldl (fun g Aj => lrSubst g Ai Aj) g) := by
      obtain ⟨alloc, ha1, ha2⟩ := hinv
      exact ⟨alloc, by rw [lrSubst_fold_nonterms]; exact ha1, ha2⟩
    obtain ⟨g2, h2, hinv2⟩ := lrImmediate_total hnts hdone hAid hinv1
    obtain ⟨g', hg'⟩ := ih (done ++ [Ai]) g2 (by rw [hsplit]; simp) hinv2
    refine ⟨g', ?_⟩
    simp only [lrLoop, h2, bind, Outcome.bind]
    exact hg'

theorem elimLeftRec_total {g : G} (hv : Valid g) (hh : Hygienic g) : ∃ g', elimLeftRec g = .ok g' := by
  obtain ⟨g0, h0⟩ := elimCycles_total hv hh
  obtain ⟨nts, hn⟩ := orderNT_total g0
  have hw0 := elimCycles_wf h0 hv.wellFormed
  obtain ⟨hnd, hmem⟩ := orderNT_spec hn hw0 (elimCycles_nodup h0)
  have names := elimCycles_names h0 hv.wellFormed hh.1
  have hnts : ∀ B, B ∈ nts → hygienicName B = true ∨ B = g0.start :=
    fun B hB => names B ((hmem B).1 hB)
  have hinit : NamesInv g0.start [] g0 :=
    ⟨fun B => B, fun n hn => by
      rcases names n hn with h | h
      · exact Or.inl h
      · exact Or.inr (Or.inl h), fun B hB => by cases hB⟩
  obtain ⟨g1, h1⟩ := lrLoop_total hnd hnts nts [] g0 (by simp) hinit
  refine ⟨prune g1, ?_⟩
  unfold elimLeftRec
  simp only [h0, hn, h1, bind, Outcome.bind, pure]

/-- **Totality and correctness of `EliminateLeftRecursion` in one statement**: for every valid hygienic
grammar the Model returns a grammar (no panic: a prime-suffixed name is always free; no divergence), with the
same language and without left recursion. -/
theorem C08_leftrec_total (g : G) (hv : Valid g) (hh : Hygienic g) :
    ∃ g', elimLeftRec g = .ok g' ∧ SameLanguage g g' ∧ NoLeftRecursion g' := by
  obtain ⟨g', hg'⟩ := elimLeftRec_total hv hh
  exact ⟨g', hg', C08_leftrec g g' hv hg', C09_leftrec_noLeftRecursion g g' hv hg'⟩

end AlgoVerif.C08
