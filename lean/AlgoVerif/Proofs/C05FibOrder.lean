import AlgoVerif.Proofs.C05FibShape
import AlgoVerif.Proofs.C05BinomialOrder
/-!
# Heap order of the indexed Fibonacci heap Model

`(parent id, child id)` pairs of child lists and root lists; `cutAndCascade`, `meldChildren`, rotations only drop or
regroup pairs, `link` adds the pair it has just compared.  `Trees cmp f S l` collects what these routines keep of a root
list `l` (the nodes `S`, the shape, heap order for the keys `f`), one lemma per routine; `Mid` and `InvS` are the
invariants of a Model state built on it.
-/
namespace AlgoVerif.C05
open AlgoVerif.C05.Hole

namespace FT

def chainIds : FT → List Nat
  | nil => []
  | node id _ _ _ nx => id :: chainIds nx

def pairs : FT → List (Nat × Nat)
  | nil => []
  | node id _ _ c nx => (chainIds c).map (fun y => (id, y)) ++ (pairs c ++ pairs nx)

/-- the links of a child list as a binomial-style tree (`degree` and `mark` forgotten): ids, sibling chains and
(parent, child) pairs are those of `BT`, and so are the facts about them -/
def skel : FT → BT
  | nil => .nil
  | node id _ _ c nx => .node id 0 (skel c) (skel nx)

theorem ids_skel : ∀ t : FT, (skel t).ids = ids t
  | nil => rfl
  | node _ _ _ c nx => by simp only [skel, BT.ids, ids, ids_skel c, ids_skel nx]

theorem chainIds_skel : ∀ t : FT, (skel t).chainIds = chainIds t
  | nil => rfl
  | node _ _ _ _ nx => by simp only [skel, BT.chainIds, chainIds, chainIds_skel nx]

theorem pairs_skel : ∀ t : FT, (skel t).pairs = pairs t
  | nil => rfl
  | node _ _ _ c nx => by simp only [skel, BT.pairs, pairs, pairs_skel c, pairs_skel nx, chainIds_skel c]

theorem mem_pairs_node {id : Nat} {d : Int} {m : Bool} {c nx : FT} {a b : Nat} :
    (a, b) ∈ pairs (node id d m c nx) ↔ (a = id ∧ b ∈ chainIds c) ∨ (a, b) ∈ pairs c ∨ (a, b) ∈ pairs nx := by
  rw [← pairs_skel, ← pairs_skel c, ← pairs_skel nx, ← chainIds_skel]
  exact BT.mem_pairs_node

theorem chainIds_sub (t : FT) (x : Nat) (h : x ∈ chainIds t) : x ∈ ids t := by
  rw [← ids_skel]; rw [← chainIds_skel] at h
  exact BT.chainIds_sub _ x h

theorem pairs_mem_ids (t : FT) (a b : Nat) (h : (a, b) ∈ pairs t) : a ∈ ids t ∧ b ∈ ids t := by
  rw [← ids_skel]; rw [← pairs_skel] at h
  exact BT.pairs_mem_ids _ a b h

theorem chainIds_toList : ∀ t : FT, (toList t).map (·.id) = chainIds t
  | nil => rfl
  | node _ _ _ _ nx => by simp [toList, chainIds, chainIds_toList nx]

end FT

namespace FN
def pairs (r : FN) : List (Nat × Nat) := (r.child.chainIds).map (fun y => (r.id, y)) ++ r.child.pairs

theorem mem_pairs {r : FN} {a b : Nat} :
    (a, b) ∈ pairs r ↔ (a = r.id ∧ b ∈ r.child.chainIds) ∨ (a, b) ∈ r.child.pairs := by
  simp only [pairs, List.mem_append, List.mem_map, Prod.mk.injEq]
  constructor
  · rintro (⟨y, hy, rfl, rfl⟩ | h)
    · exact Or.inl ⟨rfl, hy⟩
    · exact Or.inr h
  · rintro (⟨rfl, hb⟩ | h)
    · exact Or.inl ⟨b, hb, rfl, rfl⟩
    · exact Or.inr h

theorem pairs_mem_ids {r : FN} {a b : Nat} (h : (a, b) ∈ pairs r) : a ∈ ids r ∧ b ∈ r.child.ids := by
  rcases mem_pairs.mp h with ⟨rfl, hb⟩ | h
  · exact ⟨by simp [ids], FT.chainIds_sub _ _ hb⟩
  · have := FT.pairs_mem_ids _ _ _ h
    exact ⟨by simp [ids, this.1], this.2⟩
end FN

def rootsPairs (l : List FN) : List (Nat × Nat) := l.flatMap FN.pairs

theorem mem_rootsPairs {l : List FN} {p : Nat × Nat} : p ∈ rootsPairs l ↔ ∃ r, r ∈ l ∧ p ∈ FN.pairs r := by
  simp [rootsPairs]

theorem rootsPairs_cons (r : FN) (l : List FN) : rootsPairs (r :: l) = FN.pairs r ++ rootsPairs l := by
  simp [rootsPairs]

theorem rootsPairs_toList : ∀ (t : FT) (p : Nat × Nat), p ∈ rootsPairs (FT.toList t) ↔ p ∈ FT.pairs t
  | .nil, p => by simp [FT.toList, rootsPairs, FT.pairs]
  | .node id d m c nx, p => by
    obtain ⟨a, b⟩ := p
    rw [FT.toList, rootsPairs_cons, List.mem_append, rootsPairs_toList nx, FT.mem_pairs_node, FN.mem_pairs]
    simp only []
    constructor
    · rintro ((h | h) | h)
      · exact Or.inl h
      · exact Or.inr (Or.inl h)
      · exact Or.inr (Or.inr h)
    · rintro (h | h | h)
      · exact Or.inl (Or.inl h)
      · exact Or.inl (Or.inr h)
      · exact Or.inr h

namespace FT

theorem cutIn_chain (target : Nat) : ∀ (t t' : FT) (cuts : List FN) (b : Bool),
    cutIn target t = some (t', cuts, b) → ∀ x, x ∈ chainIds t' → x ∈ chainIds t
  | nil, _, _, _, h => by simp [cutIn] at h
  | node id d m c nx, t', cuts, b, h => by
    intro x hx
    simp only [chainIds, List.mem_cons]
    rcases cutIn_node h with ⟨-, rfl, -, -⟩ | ⟨c', cuts', -, ⟨-, rfl, -, -⟩ | ⟨-, rfl, -, -⟩⟩ |
      ⟨c', -, rfl, -⟩ | ⟨nx', hn, rfl⟩
    · exact Or.inr hx
    · simpa [chainIds] using hx
    · exact Or.inr hx
    · simpa [chainIds] using hx
    · simp only [chainIds, List.mem_cons] at hx
      exact hx.imp_right (cutIn_chain target nx nx' cuts b hn x)

theorem cutIn_pairs (target : Nat) : ∀ (t t' : FT) (cuts : List FN) (b : Bool),
    cutIn target t = some (t', cuts, b) → ∀ p, (p ∈ pairs t' ∨ p ∈ rootsPairs cuts) → p ∈ pairs t
  | nil, _, _, _, h => by simp [cutIn] at h
  | node id d m c nx, t', cuts, b, h => by
    rintro ⟨a, b'⟩ hp
    rw [mem_pairs_node]
    have hnode : ∀ {c' cuts' r d' m'}, cutIn target c = some (c', cuts', r) →
        (a, b') ∈ pairs (node id d' m' c' nx) →
        (a = id ∧ b' ∈ chainIds c) ∨ (a, b') ∈ pairs c ∨ (a, b') ∈ pairs nx := by
      intro c' cuts' r d' m' hc hp
      rcases mem_pairs_node.mp hp with ⟨ha, hb⟩ | h1 | h1
      · exact Or.inl ⟨ha, cutIn_chain target c c' cuts' r hc _ hb⟩
      · exact Or.inr (Or.inl (cutIn_pairs target c c' cuts' r hc _ (Or.inl h1)))
      · exact Or.inr (Or.inr h1)
    rcases cutIn_node h with ⟨-, rfl, rfl, -⟩ | ⟨c', cuts', hc, ⟨-, rfl, rfl, -⟩ | ⟨-, rfl, rfl, -⟩⟩ |
      ⟨c', hc, rfl, -⟩ | ⟨nx', hn, rfl⟩
    · rcases hp with hp | hp
      · exact Or.inr (Or.inr hp)
      · simp only [rootsPairs, List.flatMap_cons, List.flatMap_nil, List.append_nil] at hp
        rcases FN.mem_pairs.mp hp with h1 | h1
        · exact Or.inl h1
        · exact Or.inr (Or.inl h1)
    · rcases hp with hp | hp
      · exact hnode hc hp
      · exact Or.inr (Or.inl (cutIn_pairs target c c' _ _ hc _ (Or.inr hp)))
    · rcases hp with hp | hp
      · exact Or.inr (Or.inr hp)
      · simp only [rootsPairs, List.flatMap_append, List.mem_append, List.flatMap_cons, List.flatMap_nil,
          List.append_nil] at hp
        rcases hp with hp | hp
        · exact Or.inr (Or.inl (cutIn_pairs target c c' _ _ hc _ (Or.inr hp)))
        · rcases FN.mem_pairs.mp hp with ⟨ha, hb⟩ | h1
          · exact Or.inl ⟨ha, cutIn_chain target c c' _ _ hc _ hb⟩
          · exact Or.inr (Or.inl (cutIn_pairs target c c' _ _ hc _ (Or.inl h1)))
    · rcases hp with hp | hp
      · exact hnode hc hp
      · exact Or.inr (Or.inl (cutIn_pairs target c c' _ _ hc _ (Or.inr hp)))
    · rcases hp with hp | hp
      · rcases mem_pairs_node.mp hp with h1 | h1 | h1
        · exact Or.inl h1
        · exact Or.inr (Or.inl h1)
        · exact Or.inr (Or.inr (cutIn_pairs target nx nx' _ _ hn _ (Or.inl h1)))
      · exact Or.inr (Or.inr (cutIn_pairs target nx nx' _ _ hn _ (Or.inr hp)))

end FT

theorem toList_ofList : ∀ l : List FN, FT.toList (FT.ofList l) = l
  | [] => rfl
  | f :: rest => by rw [FT.ofList, FT.toList, toList_ofList rest]

theorem rootsIds_skel (l : List FN) : (FT.ofList l).skel.ids = rootsIds l := by
  rw [FT.ids_skel, ← FT.toList_ids, toList_ofList]

theorem topIds_skel (l : List FN) : (FT.ofList l).skel.chainIds = l.map (·.id) := by
  rw [FT.chainIds_skel, ← FT.chainIds_toList, toList_ofList]

theorem rootsPairs_skel (l : List FN) (p : Nat × Nat) : p ∈ (FT.ofList l).skel.pairs ↔ p ∈ rootsPairs l := by
  rw [FT.pairs_skel, ← rootsPairs_toList, toList_ofList]

theorem rootsPairs_mem_ids {l : List FN} {a b : Nat} (h : (a, b) ∈ rootsPairs l) :
    a ∈ rootsIds l ∧ b ∈ rootsIds l := by
  rw [← rootsIds_skel]
  exact BT.pairs_mem_ids _ a b ((rootsPairs_skel l _).mpr h)

theorem rootsPairs_irrefl (l : List FN) (hnd : (rootsIds l).Nodup) (a : Nat) : (a, a) ∉ rootsPairs l := by
  rw [← rootsIds_skel] at hnd
  exact fun h => BT.pair_irrefl _ hnd a ((rootsPairs_skel l _).mpr h)

namespace IFib
variable {K V : Type} {cmp : K → K → Int}

/-- the key of node `id`; `none` where `keyOf` panics (`keyOf_eq`) -/
def kf (h : IFib K V) (id : Nat) : Option K := (h.cells[id]?).map (·.key)

theorem keyOf_eq (h : IFib K V) (id : Nat) :
    h.keyOf id = match kf h id with | some k => .ok k | none => .panic := by
  unfold keyOf kf
  cases h.cells[id]? <;> rfl

theorem kf_of_keyOf {h : IFib K V} {id : Nat} {k : K} (hk : h.keyOf id = .ok k) : kf h id = some k := by
  rw [keyOf_eq] at hk
  cases hx : kf h id with
  | none => rw [hx] at hk; cases hk
  | some k' => rw [hx] at hk; cases hk; rfl

theorem kf_some {h : IFib K V} {S : List Nat} (rd : Readable h.cells S) {id : Nat} (hid : id ∈ S) :
    ∃ k, kf h id = some k :=
  let ⟨c, hc⟩ := rd id hid
  ⟨c.key, by unfold kf; rw [hc]; rfl⟩

theorem keyOf_of_kf {h : IFib K V} {id : Nat} {k : K} (hk : kf h id = some k) : h.keyOf id = .ok k := by
  rw [keyOf_eq, hk]

/-- heap order of the forest hanging off a root list: `IBinomial.HO cmp f (FT.ofList l).skel` read through
`rootsPairs_skel` -/
def HO (cmp : K → K → Int) (f : Nat → Option K) (l : List FN) : Prop :=
  ∀ a b, (a, b) ∈ rootsPairs l → LeP cmp f a b

/-- the entry root (`h.ext`) is before every node -/
def ExtAll (cmp : K → K → Int) (f : Nat → Option K) (l : List FN) : Prop :=
  ∀ e, l.head? = some e → ∀ y, y ∈ rootsIds l → LeP cmp f e.id y

theorem root_no_parent (l : List FN) (hnd : (rootsIds l).Nodup) (x a : Nat) (hx : x ∈ topIds l) :
    (a, x) ∉ rootsPairs l := by
  rw [← rootsIds_skel] at hnd
  exact fun h => BT.root_no_parent _ hnd x a (by rw [topIds_skel]; exact hx) ((rootsPairs_skel l _).mpr h)

theorem findRoot_pairs {l : List FN} {x : Nat} {xn : FN} (h : findRoot x l = some xn) :
    ∀ p, p ∈ FN.pairs xn → p ∈ rootsPairs l :=
  fun _ hp => mem_rootsPairs.mpr ⟨xn, findRoot_mem l x xn h, hp⟩

theorem linked_pairs {ch r : FN} {a b : Nat} (h : (a, b) ∈ FN.pairs (linked ch r)) :
    (a = r.id ∧ b = ch.id) ∨ (a, b) ∈ FN.pairs ch ∨ (a, b) ∈ FN.pairs r := by
  rcases FN.mem_pairs.mp h with ⟨ha, hb⟩ | h1
  · simp only [linked, FT.chainIds, List.mem_cons] at hb
    rcases hb with hb | hb
    · exact Or.inl ⟨ha, hb⟩
    · exact Or.inr (Or.inr (FN.mem_pairs.mpr (Or.inl ⟨ha, hb⟩)))
  · rcases FT.mem_pairs_node.mp h1 with ⟨ha, hb⟩ | h2 | h2
    · exact Or.inr (Or.inl (FN.mem_pairs.mpr (Or.inl ⟨ha, hb⟩)))
    · exact Or.inr (Or.inl (FN.mem_pairs.mpr (Or.inr h2)))
    · exact Or.inr (Or.inr (FN.mem_pairs.mpr (Or.inr h2)))

theorem ho_perm {f : Nat → Option K} {l l' : List FN} (hp : l'.Perm l) (h : HO cmp f l) : HO cmp f l' := by
  intro a b hab
  obtain ⟨r, hr, hpr⟩ := mem_rootsPairs.mp hab
  exact h a b (mem_rootsPairs.mpr ⟨r, hp.mem_iff.mp hr, hpr⟩)

theorem ho_root (hc : LawfulCmp cmp) {f : Nat → Option K} {l : List FN} (ho : HO cmp f l)
    (hf : ∀ y, y ∈ rootsIds l → ∃ k, f y = some k) :
    ∀ y, y ∈ rootsIds l → ∃ r, r ∈ topIds l ∧ LeP cmp f r y := by
  rw [← rootsIds_skel] at hf ⊢
  rw [show topIds l = (FT.ofList l).skel.chainIds from (topIds_skel l).symm]
  exact IBinomial.ho_root hc _ (fun a b hab => ho a b ((rootsPairs_skel l _).mp hab)) hf

theorem cutInRoots_spec (target : Nat) : ∀ (l : List FN), target ∈ rootsIds l →
    ∃ l' cuts, cutInRoots target l = some (l', cuts) ∧ (rootsIds (l' ++ cuts)).Perm (rootsIds l) ∧
      ((∀ f, f ∈ l → f.OK) → ∀ f, f ∈ l' ++ cuts → f.OK) ∧ (∀ p, p ∈ rootsPairs (l' ++ cuts) → p ∈ rootsPairs l) ∧
      target ∈ topIds (l' ++ cuts) ∧ (l' ++ cuts).head?.map (·.id) = l.head?.map (·.id)
  | [], h => by simp [rootsIds] at h
  | r :: rs, h => by
    simp only [cutInRoots]
    by_cases hid : r.id = target
    · rw [if_pos hid]
      exact ⟨_, _, rfl, by simp, by simp, by simp, by simp [topIds, hid], by simp⟩
    · rw [if_neg hid]
      cases hc : r.child.cutIn target with
      | some res =>
        obtain ⟨c', cuts, removed⟩ := res
        -- the root over its new child chain
        obtain ⟨r', hr', hrid, hch, hdeg⟩ : ∃ r' : FN, (if removed = true then
              some ({ r with degree := r.degree - 1, mark := !r.mark, child := c' } :: rs, cuts)
            else some ({ r with child := c' } :: rs, cuts)) = some (r' :: rs, cuts) ∧
            r'.id = r.id ∧ r'.child = c' ∧ r'.degree = r.degree - (if removed = true then 1 else 0) := by
          cases removed
          · exact ⟨_, rfl, rfl, rfl, by simp⟩
          · exact ⟨_, rfl, rfl, rfl, by simp⟩
        obtain ⟨f, hf, hfid⟩ := FT.cutIn_target target _ _ _ _ hc
        have hpairs := FT.cutIn_pairs target _ _ _ _ hc
        have hchain := FT.cutIn_chain target _ _ _ _ hc
        refine ⟨_, _, hr', ?_, fun hl => ?_, ?_, ?_, by simp [hrid]⟩
        · simp only [List.cons_append, rootsIds_append, rootsIds_cons, FN.ids, hrid, hch]
          perm_count using FT.cutIn_perm target _ _ _ _ hc
        · have hr := hl r List.mem_cons_self
          obtain ⟨hc', hok, hlen⟩ := FT.cutIn_wf target _ _ _ _ hr.2 hc
          have hr'ok : r'.OK := ⟨by rw [hdeg, hr.1, hch]; split at hlen <;> simp_all <;> omega, by rw [hch]; exact hc'⟩
          intro g hg
          rcases List.mem_append.mp hg with hg | hg
          · rcases List.mem_cons.mp hg with rfl | hg
            · exact hr'ok
            · exact hl g (List.mem_cons_of_mem _ hg)
          · exact hok g hg
        · rintro ⟨a, b⟩ hp
          simp only [rootsPairs, List.flatMap_append, List.flatMap_cons, List.mem_append] at hp ⊢
          rcases hp with (hp | hp) | hp
          · left
            rcases FN.mem_pairs.mp hp with ⟨ha, hb⟩ | h1
            · exact FN.mem_pairs.mpr (Or.inl ⟨by rw [ha, hrid], hchain _ (by rw [← hch]; exact hb)⟩)
            · exact FN.mem_pairs.mpr (Or.inr (hpairs _ (Or.inl (by rw [← hch]; exact h1))))
          · exact Or.inr hp
          · exact Or.inl (FN.mem_pairs.mpr (Or.inr (hpairs _ (Or.inr hp))))
        · simp only [topIds, List.map_append, List.mem_append, List.mem_map]
          exact Or.inr ⟨f, hf, hfid⟩
      | none =>
        simp only []
        have hrs : target ∈ rootsIds rs := by
          rw [rootsIds_cons, List.mem_append] at h
          refine h.resolve_left fun h => ?_
          rcases List.mem_cons.mp h with h | h
          · exact hid h.symm
          · obtain ⟨_, he⟩ := FT.cutIn_some target _ h
            rw [hc] at he; cases he
        obtain ⟨rs', cuts, he, hperm, hok, hpairs, htop, _⟩ := cutInRoots_spec target rs hrs
        rw [he]
        refine ⟨_, _, rfl, ?_, fun hl g hg => ?_, fun p hp => ?_, ?_, by simp⟩
        · simp only [List.cons_append, rootsIds_cons]
          exact hperm.append_left _
        · rcases List.mem_cons.mp hg with rfl | hg
          · exact hl _ List.mem_cons_self
          · exact hok (fun g hg => hl g (List.mem_cons_of_mem _ hg)) g hg
        · simp only [List.cons_append, rootsPairs_cons, List.mem_append] at hp ⊢
          exact hp.imp_right (hpairs p)
        · simp only [topIds, List.cons_append, List.map_cons, List.mem_cons]
          exact Or.inr htop

/-- a root list over the node set `S`.  The routines that only regroup the links keep it for the same `S`, so nothing about
the store (index map, count) has to be shown again after them. -/
structure Trees (cmp : K → K → Int) (f : Nat → Option K) (S : List Nat) (l : List FN) : Prop where
  perm : (rootsIds l).Perm S
  ok : ∀ r, r ∈ l → r.OK
  ho : LawfulCmp cmp → HO cmp f l

section
variable {f g : Nat → Option K} {S : List Nat} {l l' : List FN}

namespace Trees

theorem of_perm (F : Trees cmp f S l) (hp : l'.Perm l) : Trees cmp f S l' :=
  ⟨(rootsIds_perm hp).trans F.perm, fun r hr => F.ok r (hp.mem_iff.mp hr), fun hc => ho_perm hp (F.ho hc)⟩

theorem meld (F : Trees cmp f S l) {x : Nat} {rn : FN} (hrn : findRoot x l = some rn) :
    Trees cmp f (rootsIds (meldChildren (eraseRoot x l) rn.child.toList))
      (meldChildren (eraseRoot x l) rn.child.toList) := by
  refine ⟨.refl _, meldChildren_ok (fun r hr => F.ok r (eraseRoot_sub _ _ _ hr))
    (FT.WFc.toList_ok _ (F.ok rn (findRoot_mem _ _ _ hrn)).2), fun hc a b hab => ?_⟩
  obtain ⟨r, hr, hpr⟩ := mem_rootsPairs.mp hab
  rcases List.mem_append.mp ((meldChildren_perm _ _).mem_iff.mp hr) with h1 | h1
  · exact F.ho hc a b (mem_rootsPairs.mpr ⟨r, eraseRoot_sub _ _ _ h1, hpr⟩)
  · have h2 : (a, b) ∈ rootsPairs (FT.toList rn.child) := mem_rootsPairs.mpr ⟨r, h1, hpr⟩
    rw [rootsPairs_toList] at h2
    exact F.ho hc a b (findRoot_pairs hrn _ (FN.mem_pairs.mpr (Or.inr h2)))

theorem congr (F : Trees cmp f S l) (hfg : ∀ y, y ∈ S → g y = f y) : Trees cmp g S l :=
  ⟨F.perm, F.ok, fun hc a b hab =>
    have hm := rootsPairs_mem_ids hab
    LeP.congr (hfg a (F.perm.mem_iff.mp hm.1)) (hfg b (F.perm.mem_iff.mp hm.2)) (F.ho hc a b hab)⟩

theorem cons_leaf (F : Trees cmp f S l) (x : Nat) : Trees cmp f (x :: S) (⟨x, 0, false, .nil⟩ :: l) := by
  refine ⟨by rw [rootsIds_cons]; exact F.perm.cons x, fun r hr => ?_, fun hc a b hab => ?_⟩
  · rcases List.mem_cons.mp hr with rfl | hr
    · exact ⟨by simp [FT.len], trivial⟩
    · exact F.ok r hr
  · rw [rootsPairs_cons] at hab
    exact F.ho hc a b (by simpa [FN.pairs, FT.chainIds, FT.pairs] using hab)

end Trees

theorem cutAndCascade_spec {h : IFib K V} (F : Trees cmp f S h.roots) {id : Nat} (hid : id ∈ S) :
    ∃ l, cutAndCascade h id = .ok { h with roots := l } ∧ Trees cmp f S l ∧ id ∈ topIds l ∧
      l.head?.map (·.id) = h.roots.head?.map (·.id) := by
  obtain ⟨l', cuts, hcut, hperm, hok, hpairs, htop, hhead⟩ := cutInRoots_spec id h.roots (F.perm.mem_iff.mpr hid)
  exact ⟨_, by unfold cutAndCascade; rw [hcut], ⟨hperm.trans F.perm, hok F.ok, fun hc a b hab => F.ho hc a b (hpairs _ hab)⟩,
    htop, hhead⟩

end

/-- a heap between two steps of an operation: index map, count, shape and (under a lawful comparator) heap order; which
root is the entry is left open -/
structure Mid (cmp : K → K → Int) (cap : Nat) (h : IFib K V) : Prop where
  inv : Inv cap h
  nlen : h.n = ((rootsIds h.roots).length : Int)
  trees : Trees cmp (kf h) (rootsIds h.roots) h.roots

namespace Mid

/-- the index map and the count speak of the node set only: a forest over any listing `S` of it will do -/
theorem of_trees {cap : Nat} {S : List Nat} {h : IFib K V} (r : Reg cap S h.nodes h.cells)
    (hcard : h.n = (Spec.card cap (abs h) : Int)) (hn : h.n = (S.length : Int)) (F : Trees cmp (kf h) S h.roots) :
    Mid cmp cap h :=
  ⟨⟨r.perm F.perm.symm, hcard⟩, by rw [hn, F.perm.length_eq], .refl _, F.ok, F.ho⟩

theorem roots {cap : Nat} {h : IFib K V} (m : Mid cmp cap h) {l : List FN}
    (F : Trees cmp (kf h) (rootsIds h.roots) l) : Mid cmp cap { h with roots := l } :=
  of_trees (h := { h with roots := l }) m.inv.reg m.inv.card m.nlen F

end Mid

/-- the invariant of a state between two operations, for every comparator: `Mid`, and under a lawful comparator the
entry root is before every node.  The order facts sit inside the invariant, under `LawfulCmp cmp →`, and not in the
conclusion of the step as for the binomial heap, because here a step needs them of the state it starts from in order to
return (`finishDecrease`), so a run has to carry them along. -/
structure InvS (cmp : K → K → Int) (cap : Nat) (h : IFib K V) : Prop extends Mid cmp cap h where
  ext : LawfulCmp cmp → ExtAll cmp (kf h) h.roots

end IFib
end AlgoVerif.C05
