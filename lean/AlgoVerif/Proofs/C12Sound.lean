import AlgoVerif.Model.C10
import AlgoVerif.Spec.C10
/-! The predictive parser's loop: what an `accept` answer means (soundness), for any table whose entries are productions
of their row (`TableSound`); nothing about FIRST/FOLLOW is used.  The vocabulary of the C12 statements (`eventProds`,
`eventToks`, `withPos`) is here. -/
set_option linter.unusedSectionVars false
namespace AlgoVerif.C10
open AlgoVerif AlgoVerif.Gram
variable {T N : Type} [DecidableEq T] [DecidableEq N]
variable {g : Grammar T N} {M : N → Option T → List (GProd T N)}

/-- the productions handed to the production callback, in order -/
def eventProds : List (Event T N) → List (GProd T N)
  | [] => []
  | .prod p :: es => p :: eventProds es
  | .tok _ _ :: es => eventProds es

/-- the tokens handed to the token callback, in order, with their positions -/
def eventToks : List (Event T N) → List (T × Nat)
  | [] => []
  | .prod _ :: es => eventToks es
  | .tok t k :: es => (t, k) :: eventToks es

def withPos : List T → Nat → List (T × Nat)
  | [], _ => []
  | t :: ts, k => (t, k) :: withPos ts (k + 1)

theorem eventProds_append (a b : List (Event T N)) : eventProds (a ++ b) = eventProds a ++ eventProds b := by
  induction a with
  | nil => rfl
  | cons e es ih => cases e <;> simp [eventProds, ih]

theorem eventToks_append (a b : List (Event T N)) : eventToks (a ++ b) = eventToks a ++ eventToks b := by
  induction a with
  | nil => rfl
  | cons e es ih => cases e <;> simp [eventToks, ih]

theorem Spec.LeftmostDerives.cons_term {π : List (GProd T N)} {α β : List (Sym T N)}
    (h : Spec.LeftmostDerives g π α β) (t : T) :
    Spec.LeftmostDerives g π (Sym.term t :: α) (Sym.term t :: β) := by
  induction h with
  | nil => exact Spec.LeftmostDerives.nil _
  | cons u p v hp _ ih =>
    have := Spec.LeftmostDerives.cons (g := g) (t :: u) p v hp (by simpa using ih)
    simpa using this

theorem Spec.LeftmostDerives.toDerives {π : List (GProd T N)} {α β : List (Sym T N)}
    (h : Spec.LeftmostDerives g π α β) : Derives g α β := by
  induction h with
  | nil => exact Derives.refl _
  | cons u p v hp _ ih => exact (Derives.single (Step.mk _ v p hp)).trans ih

def TableSound (g : Grammar T N) (M : N → Option T → List (GProd T N)) : Prop :=
  ∀ A col p, M A col = [p] → p ∈ g.prods ∧ p.head = A

theorem parseLoop_sound (hM : TableSound g M) :
    ∀ (fuel : Nat) (stack : List (Sym T N)) (input : List T) (pos : Nat) (evs E : List (Event T N)),
      parseLoop M fuel stack input pos evs = .ok (.accept E) →
      ∃ E', E = evs.reverse ++ E' ∧
        Spec.LeftmostDerives g (eventProds E') stack (input.map Sym.term) ∧
        eventToks E' = withPos input pos := by
  intro fuel stack input pos evs
  fun_induction parseLoop M fuel stack input pos evs <;> intro E h
  -- the cases of `parseLoop` that go on or accept: empty stack and input, a terminal matched, a production expanded
  case case2 => cases h; exact ⟨[], by simp, Spec.LeftmostDerives.nil _, rfl⟩
  case case4 pos _ a _ ih =>
    obtain ⟨E', hE, hd, ht⟩ := ih E h
    refine ⟨Event.tok a pos :: E', by simp [hE], ?_, ?_⟩
    · simpa [eventProds] using hd.cons_term a
    · simp [eventToks, withPos, ht]
  case case8 p hp ih =>
    obtain ⟨hpg, hph⟩ := hM _ _ _ hp
    obtain ⟨E', hE, hd, ht⟩ := ih E h
    refine ⟨Event.prod p :: E', by simp [hE], ?_, ?_⟩
    · have := Spec.LeftmostDerives.cons (g := g) [] p _ hpg (by simpa using hd)
      simpa [eventProds, hph] using this
    · simpa [eventToks] using ht
  all_goals cases h

theorem parse_sound (hM : TableSound g M)
    {fuel : Nat} {w : List T} {E : List (Event T N)}
    (h : parseLoop M fuel [Sym.nonterm g.start] w 0 [] = .ok (.accept E)) :
    Spec.LeftmostDerives g (eventProds E) [Sym.nonterm g.start] (w.map Sym.term) ∧
    eventToks E = withPos w 0 := by
  obtain ⟨E', hE, hd, ht⟩ := parseLoop_sound hM _ _ _ _ _ _ h
  simp at hE; subst hE
  exact ⟨hd, ht⟩

theorem parseLoop_mono :
    ∀ (fuel : Nat) (stack : List (Sym T N)) (input : List T) (pos : Nat) (evs : List (Event T N))
      (r : PResult T N), parseLoop M fuel stack input pos evs = .ok r →
      ∀ k, parseLoop M (fuel + k) stack input pos evs = .ok r := by
  intro fuel stack input pos evs
  fun_induction parseLoop M fuel stack input pos evs <;> intro r h k
  case case1 => cases h
  all_goals rw [Nat.succ_add]
  case case4 ih => rw [parseLoop, if_pos rfl]; exact ih r h k
  case case8 hp ih => rw [parseLoop, hp]; exact ih r h k
  case case5 hne => rw [parseLoop, if_neg hne]; exact h
  case case7 hp => rw [parseLoop, hp]; exact h
  case case9 hp => rw [parseLoop, hp]; exact h
  all_goals exact h

end AlgoVerif.C10
