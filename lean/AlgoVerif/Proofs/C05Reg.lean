import AlgoVerif.Model.C05Binomial
import AlgoVerif.Proofs.C05Spec
/-!
# The index-map invariant shared by the binomial and the Fibonacci Model

`Reg cap S nodes cells`: `S` (the ids of the nodes linked into the heap, without repetition) and the non-nil
entries of `nodes[]` are in bijection, and `nodes[i]` names the node whose `index` field is `i`.
`absOf nodes cells` is the abstract map `i ↦ (key, val)` of the node `nodes[i]`.
-/
namespace AlgoVerif.C05
variable {K V : Type}

def absOf (nodes : Array (Option Nat)) (cells : Array (Cell K V)) : Spec.Map K V := fun i =>
  if 0 ≤ i ∧ i < (nodes.size : Int) then
    match nodes[i.toNat]? with
    | some (some id) => (cells[id]?).map fun c => (c.key, c.val)
    | _ => none
  else none

structure Reg (cap : Nat) (S : List Nat) (nodes : Array (Option Nat)) (cells : Array (Cell K V)) : Prop where
  nsize : nodes.size = cap
  nodup : S.Nodup
  reg : ∀ id, id ∈ S → ∃ c, cells[id]? = some c ∧ nodes[c.index]? = some (some id)
  back : ∀ i id, nodes[i]? = some (some id) → id ∈ S ∧ ∃ c, cells[id]? = some c ∧ c.index = i

variable {cap : Nat} {S : List Nat} {nodes : Array (Option Nat)} {cells : Array (Cell K V)}

theorem absOf_nat {i : Nat} (hi : i < nodes.size) :
    absOf nodes cells (i : Int) = match nodes[i]? with
      | some (some id) => (cells[id]?).map fun c => (c.key, c.val)
      | _ => none := by
  unfold absOf
  rw [if_pos (by omega)]
  simp

theorem absOf_out {nodes : Array (Option Nat)} {cells : Array (Cell K V)} {cap : Nat} (hs : nodes.size = cap)
    {i : Int} (hi : ¬ Spec.InRange cap i) : absOf nodes cells i = none := by
  unfold absOf Spec.InRange at *
  rw [if_neg (by omega)]

theorem absOf_held {i id : Nat} {c : Cell K V}
    (hn : nodes[i]? = some (some id)) (hc : cells[id]? = some c) :
    absOf nodes cells (i : Int) = some (c.key, c.val) := by
  rw [absOf_nat (Array.getElem?_eq_some_iff.1 hn).1, hn]; simp [hc]

theorem absOf_free {i : Nat}
    (hn : nodes[i]? = some none ∨ nodes[i]? = none) : absOf nodes cells (i : Int) = none := by
  by_cases hi : i < nodes.size
  · rw [absOf_nat hi]; rcases hn with hn | hn <;> rw [hn]
  · unfold absOf; rw [if_neg (by omega)]

theorem absOf_congr {nodes' : Array (Option Nat)} {cells' : Array (Cell K V)} {j : Int}
    (hs : nodes'.size = nodes.size)
    (hn : 0 ≤ j ∧ j < (nodes.size : Int) → nodes'[j.toNat]? = nodes[j.toNat]?)
    (hc : 0 ≤ j ∧ j < (nodes.size : Int) → ∀ id, nodes[j.toNat]? = some (some id) → cells'[id]? = cells[id]?) :
    absOf nodes' cells' j = absOf nodes cells j := by
  unfold absOf
  rw [hs]
  split
  · rename_i hr
    rw [hn hr]
    split
    · rename_i id hid; rw [hc hr id hid]
    · rfl
  · rfl

theorem absOf_some (r : Reg cap S nodes cells) {i : Int} {e : K × V} (ha : absOf nodes cells i = some e) :
    Spec.InRange cap i ∧ ∃ id c, nodes[i.toNat]? = some (some id) ∧ id ∈ S ∧ cells[id]? = some c ∧
      c.index = i.toNat ∧ e = (c.key, c.val) := by
  have ns := r.nsize
  unfold absOf at ha
  split at ha
  · rename_i hr
    refine ⟨⟨hr.1, by omega⟩, ?_⟩
    split at ha
    · rename_i id hid
      obtain ⟨hmem, c, hc, hci⟩ := r.back _ _ hid
      refine ⟨id, c, hid, hmem, hc, hci, ?_⟩
      rw [hc] at ha; simp at ha; exact ha.symm
    · cases ha
  · cases ha

theorem absOf_none_iff (r : Reg cap S nodes cells) {i : Nat} (hi : i < cap) :
    absOf nodes cells (i : Int) = none ↔ nodes[i]? = some none := by
  have ns := r.nsize
  constructor
  · intro ha
    cases hx : nodes[i]? with
    | none => rw [Array.getElem?_eq_none_iff] at hx; omega
    | some o =>
      cases o with
      | none => rfl
      | some id =>
        obtain ⟨_, c, hc, _⟩ := r.back _ _ hx
        rw [absOf_held hx hc] at ha; cases ha
  · intro hn; exact absOf_free (Or.inl hn)

theorem Reg.perm {S' : List Nat} (r : Reg cap S nodes cells) (hp : S.Perm S') : Reg cap S' nodes cells :=
  ⟨r.nsize, hp.nodup_iff.mp r.nodup, fun id h => r.reg id (hp.mem_iff.mpr h),
   fun i id h => let ⟨h1, h2⟩ := r.back i id h; ⟨hp.mem_iff.mp h1, h2⟩⟩

theorem Reg.empty (cap : Nat) : Reg cap [] (Array.replicate cap none) (#[] : Array (Cell K V)) := by
  refine ⟨by simp, List.nodup_nil, by simp, ?_⟩
  intro i id h
  rw [Array.getElem?_replicate] at h
  split at h <;> cases h

theorem Reg.clear (r : Reg cap S nodes cells) : Reg cap [] (Array.replicate nodes.size none) cells := by
  refine ⟨by simp [r.nsize], List.nodup_nil, by simp, ?_⟩
  intro i id h
  rw [Array.getElem?_replicate] at h
  split at h <;> cases h

theorem absOf_replicate (n : Nat) (cells : Array (Cell K V)) :
    absOf (Array.replicate n none) cells = Spec.Map.empty := by
  funext i
  unfold absOf Spec.Map.empty
  split
  · rw [Array.getElem?_replicate]; by_cases h : i.toNat < n <;> simp [h]
  · rfl

/-- the `card` field of either `Inv` after `new` and `DeleteAll`, where `n = 0` -/
theorem card_replicate (cap n : Nat) (cells : Array (Cell K V)) :
    (0 : Int) = (Spec.card cap (absOf (Array.replicate n none) cells) : Int) := by
  rw [absOf_replicate, Spec.card_empty]; rfl

theorem Reg.fresh (r : Reg cap S nodes cells) : cells.size ∉ S := by
  intro h
  obtain ⟨c, hc, _⟩ := r.reg _ h
  rw [Array.getElem?_eq_none (by omega)] at hc; cases hc

theorem Reg.insert {cap : Nat} {S : List Nat} {nodes : Array (Option Nat)} {cells : Array (Cell K V)}
    (r : Reg cap S nodes cells) {i : Nat} (hi : i < cap) (hfree : nodes[i]? = some none) (key : K) (val : V) :
    Reg cap (cells.size :: S) (nodes.setIfInBounds i (some cells.size))
      (cells.push { index := i, key := key, val := val }) ∧
    absOf (nodes.setIfInBounds i (some cells.size)) (cells.push { index := i, key := key, val := val })
      = (absOf nodes cells).set (i : Int) (some (key, val)) := by
  have ns := r.nsize
  have hin : i < nodes.size := by omega
  have hpush : (cells.push { index := i, key := key, val := val })[cells.size]? =
      some { index := i, key := key, val := val } := by
    rw [Array.getElem?_push, if_pos rfl]
  have hset : (nodes.setIfInBounds i (some cells.size))[i]? = some (some cells.size) := by
    rw [Array.getElem?_setIfInBounds, if_pos rfl, if_pos hin]
  have hlt : ∀ id, id ∈ S → id < cells.size := fun id h =>
    let ⟨_, hc, _⟩ := r.reg _ h; (Array.getElem?_eq_some_iff.1 hc).1
  constructor
  · refine ⟨by simp [ns], List.nodup_cons.mpr ⟨r.fresh, r.nodup⟩, ?_, ?_⟩
    · intro id hid
      rcases List.mem_cons.mp hid with rfl | hid
      · exact ⟨_, hpush, hset⟩
      · obtain ⟨c, hc, hn⟩ := r.reg _ hid
        have := hlt _ hid
        refine ⟨c, by rw [Array.getElem?_push]; rw [if_neg (by omega)]; exact hc, ?_⟩
        rw [Array.getElem?_setIfInBounds]
        have : i ≠ c.index := by intro h; rw [← h, hfree] at hn; cases hn
        rw [if_neg this]; exact hn
    · intro j id hj
      rw [Array.getElem?_setIfInBounds] at hj
      by_cases hij : i = j
      · subst hij
        rw [if_pos rfl] at hj
        rw [if_pos hin] at hj
        cases hj
        exact ⟨List.mem_cons_self, _, hpush, rfl⟩
      · rw [if_neg hij] at hj
        obtain ⟨hmem, c, hc, hci⟩ := r.back _ _ hj
        have := hlt _ hmem
        exact ⟨List.mem_cons_of_mem _ hmem, c, by rw [Array.getElem?_push, if_neg (by omega)]; exact hc, hci⟩
  · funext j
    unfold Spec.Map.set
    by_cases hji : j = (i : Int)
    · subst hji
      rw [if_pos rfl]
      exact absOf_held hset hpush
    · rw [if_neg hji]
      refine absOf_congr Array.size_setIfInBounds (fun hr => ?_) fun _ id hid => ?_
      · rw [Array.getElem?_setIfInBounds, if_neg (by omega)]
      · have := hlt _ (r.back _ _ hid).1
        rw [Array.getElem?_push, if_neg (by omega)]

theorem Reg.remove {cap : Nat} {S S' : List Nat} {nodes : Array (Option Nat)} {cells : Array (Cell K V)}
    (r : Reg cap S nodes cells) {e : Nat} (hp : S.Perm (e :: S')) {c : Cell K V} (hc : cells[e]? = some c) :
    Reg cap S' (nodes.setIfInBounds c.index none) cells ∧
    absOf (nodes.setIfInBounds c.index none) cells = (absOf nodes cells).set (c.index : Int) none ∧
    absOf nodes cells (c.index : Int) = some (c.key, c.val) ∧ c.index < cap := by
  have ns := r.nsize
  have r' := r.perm hp
  have hnd := List.nodup_cons.mp r'.nodup
  obtain ⟨c', hc', hne⟩ := r'.reg e List.mem_cons_self
  have : c' = c := by rw [hc] at hc'; exact (Option.some.inj hc').symm
  subst this
  have hcl : c'.index < cap := ns ▸ (Array.getElem?_eq_some_iff.1 hne).1
  refine ⟨⟨by simp [ns], hnd.2, ?_, ?_⟩, ?_, absOf_held hne hc, hcl⟩
  · intro id hid
    obtain ⟨d, hd, hnd'⟩ := r'.reg id (List.mem_cons_of_mem _ hid)
    refine ⟨d, hd, ?_⟩
    rw [Array.getElem?_setIfInBounds]
    have : c'.index ≠ d.index := by
      intro h; rw [h] at hne; rw [hne] at hnd'
      have : e = id := by cases hnd'; rfl
      subst this; exact hnd.1 hid
    rw [if_neg this]; exact hnd'
  · intro i id hi
    rw [Array.getElem?_setIfInBounds] at hi
    by_cases hci : c'.index = i
    · rw [if_pos hci] at hi; split at hi <;> cases hi
    · rw [if_neg hci] at hi
      obtain ⟨hmem, d, hd, hdi⟩ := r'.back _ _ hi
      rcases List.mem_cons.mp hmem with rfl | hmem
      · rw [hc] at hd; cases hd; exact absurd hdi hci
      · exact ⟨hmem, d, hd, hdi⟩
  · funext j
    unfold Spec.Map.set
    by_cases hji : j = (c'.index : Int)
    · subst hji
      rw [if_pos rfl]
      exact absOf_free (Or.inl (by simp [Array.getElem?_setIfInBounds]; omega))
    · rw [if_neg hji]
      exact absOf_congr Array.size_setIfInBounds
        (fun hr => by rw [Array.getElem?_setIfInBounds, if_neg (by omega)]) fun _ _ _ => rfl

theorem Reg.setKey (r : Reg cap S nodes cells) {id : Nat} (hid : id ∈ S) {c : Cell K V} (hc : cells[id]? = some c)
    (key : K) :
    Reg cap S nodes (cells.setIfInBounds id { c with key := key }) ∧
    absOf nodes (cells.setIfInBounds id { c with key := key })
      = (absOf nodes cells).set (c.index : Int) (some (key, c.val)) := by
  have hlt : id < cells.size := (Array.getElem?_eq_some_iff.1 hc).1
  obtain ⟨c', hc', hn⟩ := r.reg id hid
  have : c' = c := by rw [hc] at hc'; exact (Option.some.inj hc').symm
  subst this
  constructor
  · refine ⟨r.nsize, r.nodup, ?_, ?_⟩
    · intro id' hid'
      rw [Array.getElem?_setIfInBounds]
      by_cases h : id = id'
      · subst h; exact ⟨{ c' with key := key }, by simp [hlt], hn⟩
      · rw [if_neg h]; exact r.reg id' hid'
    · intro i id' hi
      obtain ⟨hmem, d, hd, hdi⟩ := r.back _ _ hi
      refine ⟨hmem, ?_⟩
      rw [Array.getElem?_setIfInBounds]
      by_cases h : id = id'
      · subst h
        rw [hc] at hd; cases hd
        exact ⟨{ c' with key := key }, by simp [hlt], hdi⟩
      · rw [if_neg h]; exact ⟨d, hd, hdi⟩
  · funext j
    unfold Spec.Map.set
    by_cases hji : j = (c'.index : Int)
    · subst hji
      rw [if_pos rfl]
      exact absOf_held (c := { c' with key := key }) hn (by simp [hlt])
    · rw [if_neg hji]
      refine absOf_congr rfl (fun _ => rfl) fun hr id' hid' => ?_
      have : id ≠ id' := by
        intro h; subst h
        obtain ⟨_, d, hd, hdi⟩ := r.back _ _ hid'
        rw [hc] at hd; cases hd
        omega
      rw [Array.getElem?_setIfInBounds, if_neg this]

theorem anyCell_eq (cells : Array (Cell K V)) (p : Cell K V → Bool) : ∀ l : List (Option Nat),
    (∀ id, some id ∈ l → ∃ c, cells[id]? = some c) →
    anyCell cells p l = .ok (l.any fun o => o.any fun id => (cells[id]?).any p) := by
  intro l
  induction l with
  | nil => intro _; rfl
  | cons x rest ih =>
    intro hl
    have hrest := ih fun id hid => hl id (List.mem_cons_of_mem _ hid)
    cases x with
    | none => simpa only [anyCell, List.any_cons, Option.any_none, Bool.false_or] using hrest
    | some id =>
      obtain ⟨c, hc⟩ := hl id List.mem_cons_self
      simp only [anyCell, hc, List.any_cons, Option.any_some]
      cases p c
      · simpa only [Bool.false_eq_true, if_false, Bool.false_or] using hrest
      · rfl

theorem Reg.listed (r : Reg cap S nodes cells) {id : Nat} (hid : some id ∈ nodes.toList) :
    ∃ (i : Nat) (c : Cell K V), nodes[i]? = some (some id) ∧ cells[id]? = some c := by
  obtain ⟨i, hi⟩ := List.getElem?_of_mem hid
  rw [Array.getElem?_toList] at hi
  obtain ⟨_, c, hc, _⟩ := r.back _ _ hi
  exact ⟨i, c, hi, hc⟩

theorem Reg.scan (r : Reg cap S nodes cells) (p : Cell K V → Bool) :
    anyCell cells p nodes.toList = .ok (nodes.toList.any fun o => o.any fun id => (cells[id]?).any p) :=
  anyCell_eq cells p _ fun _ hid => let ⟨_, c, _, hc⟩ := r.listed hid; ⟨c, hc⟩

theorem anyCell_total (r : Reg cap S nodes cells) (p : Cell K V → Bool) : ∃ b, anyCell cells p nodes.toList = .ok b :=
  ⟨_, r.scan p⟩

/-- `ContainsKey` / `ContainsValue` -/
theorem anyCell_spec (r : Reg cap S nodes cells) (p : Cell K V → Bool) (q : K × V → Bool)
    (hpq : ∀ c, p c = q (c.key, c.val))
    {b : Bool} (hb : anyCell cells p nodes.toList = .ok b) :
    (b = true ↔ ∃ i k v, absOf nodes cells i = some (k, v) ∧ q (k, v) = true) := by
  rw [r.scan p] at hb
  cases hb
  rw [List.any_eq_true]
  constructor
  · rintro ⟨o, hm, ho⟩
    cases o with
    | none => cases ho
    | some id =>
      obtain ⟨i, c, hi, hc⟩ := r.listed hm
      rw [Option.any_some, hc, Option.any_some, hpq] at ho
      exact ⟨i, c.key, c.val, absOf_held hi hc, ho⟩
  · rintro ⟨i, k, v, ha, hq⟩
    obtain ⟨_, id, c, hn, _, hc, _, he⟩ := absOf_some r ha
    cases he
    refine ⟨some id, Array.mem_toList_iff.2 (Array.mem_of_getElem? hn), ?_⟩
    rw [Option.any_some, hc, Option.any_some, hpq]; exact hq

end AlgoVerif.C05
