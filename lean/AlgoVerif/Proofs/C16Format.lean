import AlgoVerif.Model.C16X
import AlgoVerif.Proofs.C16Regs
/-!
# C16 helper lemmas: the `format` field is ghost state

Forgetting the formats (`eraseX`) turns the register machine with formats (`stepX`, `runX` of
`Model/C16X.lean`) into the functional register machine (`C16.stepOp`, `C16.runOps`), step by step and
history by history; and the format a result carries is the receiver's.
-/
namespace AlgoVerif.C16
variable {α : Type} {σ : Type}

@[simp] theorem map_ok {β γ} (f : β → γ) (a : β) : (Outcome.ok a).map f = .ok (f a) := rfl
@[simp] theorem map_panic {β γ} (f : β → γ) : (Outcome.panic : Outcome β).map f = .panic := rfl
@[simp] theorem map_diverge {β γ} (f : β → γ) : (Outcome.diverge : Outcome β).map f = .diverge := rfl

theorem getRegs_erase (regs : List (FmtSet α)) : ∀ js : List Nat,
    getRegs (regs.map (·.set)) js = (getRegsX regs js).map (List.map (·.set)) := by
  intro js
  induction js with
  | nil =>
    rfl
  | cons j js ih =>
    simp only [getRegs, getRegsX, ih, List.getElem?_map]
    cases regs[j]? <;> cases getRegsX regs js <;> rfl

theorem FmtSet.add_set (s : FmtSet α) (vs : List α) :
    (s.add vs).map (·.set) = s.set.add vs := by
  simp only [FmtSet.add]
  cases s.set.add vs <;> rfl

theorem FmtSet.remove_set (s : FmtSet α) (vs : List α) :
    (s.remove vs).map (·.set) = s.set.remove vs := by
  simp only [FmtSet.remove]
  cases s.set.remove vs <;> rfl

theorem FmtSet.newWithFormat_set (impl : Impl α) (format : StringFormat α) (vals : List α) :
    (FmtSet.newWithFormat impl format vals).map (·.set) = MSet.newWith impl vals :=
  FmtSet.add_set _ _

theorem FmtSet.new_set (pv : α → String) (impl : Impl α) (vals : List α) :
    (FmtSet.new pv impl vals).map (·.set) = MSet.newWith impl vals :=
  FmtSet.add_set _ _

theorem FmtSet.union_set (sh : Shuffle σ) (s : FmtSet α) (sets : List (FmtSet α)) (g : σ) :
    (s.union sh sets g).map (fun r => (r.1.set, r.2)) = s.set.union sh (sets.map (·.set)) g := by
  simp only [FmtSet.union, MSet.union, FmtSet.clone]
  cases unionLoop sh s.set.clone (sets.map (·.set)) g <;> rfl

theorem FmtSet.difference_set (sh : Shuffle σ) (s : FmtSet α) (sets : List (FmtSet α)) (g : σ) :
    (s.difference sh sets g).map (fun r => (r.1.set, r.2)) = s.set.difference sh (sets.map (·.set)) g := by
  simp only [FmtSet.difference, MSet.difference, FmtSet.clone]
  cases diffLoop sh s.set.clone (sets.map (·.set)) g <;> rfl

theorem FmtSet.intersection_set (s : FmtSet α) (sets : List (FmtSet α)) :
    (s.intersection sets).map (·.set) = s.set.intersection (sets.map (·.set)) := by
  simp only [FmtSet.intersection, MSet.intersection, FmtSet.cloneEmpty]
  cases interLoop (sets.map (·.set)) s.set.cloneEmpty s.set.members <;> rfl

theorem FmtSet.selectMatch_set (s : FmtSet α) (p : α → Bool) :
    (s.selectMatch p).map (·.set) = s.set.selectMatch p := by
  simp only [FmtSet.selectMatch, MSet.selectMatch, FmtSet.cloneEmpty]
  cases selectLoop p s.set.cloneEmpty s.set.members <;> rfl

theorem FmtSet.partitionMatch_set (s : FmtSet α) (p : α → Bool) :
    (s.partitionMatch p).map (fun r => (r.1.set, r.2.set)) = s.set.partitionMatch p := by
  simp only [FmtSet.partitionMatch, MSet.partitionMatch, FmtSet.cloneEmpty]
  cases partitionLoop p s.set.cloneEmpty s.set.cloneEmpty s.set.members <;> rfl

theorem FmtSet.add_format {s t : FmtSet α} {vs : List α} (h : s.add vs = .ok t) : t.format = s.format := by
  simp only [FmtSet.add] at h
  cases hm : s.set.add vs <;> rw [hm] at h <;> cases h
  rfl

theorem FmtSet.remove_format {s t : FmtSet α} {vs : List α} (h : s.remove vs = .ok t) : t.format = s.format := by
  simp only [FmtSet.remove] at h
  cases hm : s.set.remove vs <;> rw [hm] at h <;> cases h
  rfl

theorem FmtSet.union_format {sh : Shuffle σ} {s t : FmtSet α} {sets : List (FmtSet α)} {g g' : σ}
    (h : s.union sh sets g = .ok (t, g')) : t.format = s.format := by
  simp only [FmtSet.union, FmtSet.clone] at h
  cases hm : unionLoop sh s.set.clone (sets.map (·.set)) g <;> rw [hm] at h <;> cases h
  rfl

theorem FmtSet.difference_format {sh : Shuffle σ} {s t : FmtSet α} {sets : List (FmtSet α)} {g g' : σ}
    (h : s.difference sh sets g = .ok (t, g')) : t.format = s.format := by
  simp only [FmtSet.difference, FmtSet.clone] at h
  cases hm : diffLoop sh s.set.clone (sets.map (·.set)) g <;> rw [hm] at h <;> cases h
  rfl

theorem FmtSet.intersection_format {s t : FmtSet α} {sets : List (FmtSet α)}
    (h : s.intersection sets = .ok t) : t.format = s.format := by
  simp only [FmtSet.intersection, FmtSet.cloneEmpty] at h
  cases hm : interLoop (sets.map (·.set)) s.set.cloneEmpty s.set.members <;> rw [hm] at h <;> cases h
  rfl

theorem FmtSet.selectMatch_format {s t : FmtSet α} {p : α → Bool}
    (h : s.selectMatch p = .ok t) : t.format = s.format := by
  simp only [FmtSet.selectMatch, FmtSet.cloneEmpty] at h
  cases hm : selectLoop p s.set.cloneEmpty s.set.members <;> rw [hm] at h <;> cases h
  rfl

theorem FmtSet.partitionMatch_format {s t u : FmtSet α} {p : α → Bool}
    (h : s.partitionMatch p = .ok (t, u)) : t.format = s.format ∧ u.format = s.format := by
  simp only [FmtSet.partitionMatch, FmtSet.cloneEmpty] at h
  cases hm : partitionLoop p s.set.cloneEmpty s.set.cloneEmpty s.set.members <;> rw [hm] at h <;> cases h
  exact ⟨rfl, rfl⟩

/-! `stepX` and `C16.stepOp` have the same skeleton (look the operand registers up, check the destination, act); it is dealt
with once per shape (`erase_reg`, `erase_regs`, `erase_if`).  What remains for each operation is that the set part of
the operation on sets with formats is the functional one (`FmtSet.…_set`). -/

/-- forgetting the formats and the `String()` column of the outcome `y` gives `x` -/
def Er (y : Outcome (StateX α σ × Obs α × List String)) (x : Outcome (RegState α σ × Obs α)) : Prop :=
  y.map (fun r => (eraseX r.1, r.2.1)) = x

theorem Er.bind {β γ : Type} {y : Outcome β} {x : Outcome γ} {f : β → γ} (hyx : y.map f = x)
    {k : β → Outcome (StateX α σ × Obs α × List String)} {k' : γ → Outcome (RegState α σ × Obs α)}
    (hk : ∀ b, Er (k b) (k' (f b))) : Er (y >>= k) (x >>= k') := by
  subst hyx
  cases y with
  | ok b => exact hk b
  | panic => rfl
  | diverge => rfl

theorem Er.set (st : StateX α σ) (d : Nat) (t : FmtSet α) (g : σ) (o : Obs α) (l : List String) :
    Er (.ok ((st.1.set d t, g), o, l)) (.ok (((eraseX st).1.set d t.set, g), o)) := by
  simp only [Er, map_ok, eraseX, List.map_set]

theorem erase_reg (st : StateX α σ) (i : Nat) {k : FmtSet α → Outcome (StateX α σ × Obs α × List String)}
    {k' : MSet α → Outcome (RegState α σ × Obs α)} (hk : ∀ s, Er (k s) (k' s.set)) :
    Er (match st.1[i]? with | none => .ok (st, .bad, []) | some s => k s)
      (match (eraseX st).1[i]? with | none => .ok (eraseX st, .bad) | some s => k' s) := by
  simp only [eraseX, List.getElem?_map]
  cases st.1[i]? with
  | none => rfl
  | some s => exact hk s

/-- `erase_reg` for the operations whose `match` lists the `some` case first -/
theorem erase_reg' (st : StateX α σ) (i : Nat) {k : FmtSet α → Outcome (StateX α σ × Obs α × List String)}
    {k' : MSet α → Outcome (RegState α σ × Obs α)} (hk : ∀ s, Er (k s) (k' s.set)) :
    Er (match st.1[i]? with | some s => k s | none => .ok (st, .bad, []))
      (match (eraseX st).1[i]? with | some s => k' s | none => .ok (eraseX st, .bad)) := by
  have := erase_reg st i hk
  revert this
  cases st.1[i]? <;> cases (eraseX st).1[i]? <;> exact id

theorem erase_regs (st : StateX α σ) (i : Nat) (js : List Nat)
    {k : FmtSet α → List (FmtSet α) → Outcome (StateX α σ × Obs α × List String)}
    {k' : MSet α → List (MSet α) → Outcome (RegState α σ × Obs α)}
    (hk : ∀ s sets, Er (k s sets) (k' s.set (sets.map (·.set)))) :
    Er (match st.1[i]?, getRegsX st.1 js with | some s, some sets => k s sets | _, _ => .ok (st, .bad, []))
      (match (eraseX st).1[i]?, getRegs (eraseX st).1 js with
        | some s, some sets => k' s sets
        | _, _ => .ok (eraseX st, .bad)) := by
  simp only [eraseX, List.getElem?_map, getRegs_erase]
  cases st.1[i]? with
  | none => cases getRegsX st.1 js <;> rfl
  | some s =>
    cases getRegsX st.1 js with
    | none => rfl
    | some sets => exact hk s sets

theorem erase_if (st : StateX α σ) {c c' : Prop} [Decidable c] [Decidable c'] (hc : c ↔ c')
    {y : Outcome (StateX α σ × Obs α × List String)} {x : Outcome (RegState α σ × Obs α)} (hyx : Er y x) :
    Er (if c then y else .ok (st, .bad, [])) (if c' then x else .ok (eraseX st, .bad)) := by
  by_cases hd : c
  · rw [if_pos hd, if_pos (hc.1 hd)]; exact hyx
  · rw [if_neg hd, if_neg (fun h' => hd (hc.2 h'))]; rfl

theorem lt_length_erase (st : StateX α σ) (d : Nat) : d < st.1.length ↔ d < (eraseX st).1.length := by
  simp only [eraseX, List.length_map]

theorem stepX_read (sh : Shuffle σ) (pv : α → String) (st : StateX α σ) {op : Op α} (hr : op.IsRead) :
    stepX sh pv st (.base op) =
      (do let (r, obs) ← C16.stepOp sh (eraseX st) op; return ((st.1, r.2), obs, [])) := by
  cases op with
  | contains _ _ | size _ | isEmpty _ | all _ | equal _ _ | subset _ _ | superset _ _
  | anyMatch _ _ | allMatch _ _ | firstMatch _ _ => rfl
  | _ => exact hr.elim

theorem read_pair_eq {regs : List (MSet α)} (a : RegState α σ × Obs α) (h : a.1.1 = regs) :
    ((regs, a.1.2), a.2) = a := by
  obtain ⟨⟨r, g⟩, obs⟩ := a
  simp only at h
  subst h
  rfl

theorem stepX_erase_read (sh : Shuffle σ) (pv : α → String) (st : StateX α σ) {op : Op α} (hr : op.IsRead) :
    Er (stepX sh pv st (.base op)) (C16.stepOp sh (eraseX st) op) := by
  rw [stepX_read sh pv st hr]
  cases hx : C16.stepOp sh (eraseX st) op with
  | ok a => exact congrArg Outcome.ok (read_pair_eq a (stepOp_read_regs sh _ _ hr _ hx))
  | panic => rfl
  | diverge => rfl

theorem stepX_erase (sh : Shuffle σ) (pv : α → String) (st : StateX α σ) (op : Op α) :
    (stepX sh pv st (.base op)).map (fun r => (eraseX r.1, r.2.1)) = C16.stepOp sh (eraseX st) op := by
  by_cases hr : op.IsRead
  · exact stepX_erase_read sh pv st hr
  cases op with
  | add i vs => exact erase_reg st i fun s => .bind (FmtSet.add_set s vs) fun t => .set st i t _ _ _
  | remove i vs => exact erase_reg st i fun s => .bind (FmtSet.remove_set s vs) fun t => .set st i t _ _ _
  | removeAll i => exact erase_reg st i fun s => .set st i s.removeAll _ _ _
  | clone d i => exact erase_reg' st i fun s => erase_if st (lt_length_erase st d) (.set st d s.clone _ _ _)
  | cloneEmpty d i =>
    exact erase_reg' st i fun s => erase_if st (lt_length_erase st d) (.set st d s.cloneEmpty _ _ _)
  | new d impl => exact erase_if st (lt_length_erase st d) (.set st d ⟨MSet.new impl, defaultStringFormat pv⟩ _ _ _)
  | union d i js =>
    exact erase_regs st i js fun s sets => erase_if st (lt_length_erase st d)
      (.bind (FmtSet.union_set sh s sets st.2) fun ⟨t, g⟩ => .set st d t g _ _)
  | inter d i js =>
    exact erase_regs st i js fun s sets => erase_if st (lt_length_erase st d)
      (.bind (FmtSet.intersection_set s sets) fun t => .set st d t _ _ _)
  | diff d i js =>
    exact erase_regs st i js fun s sets => erase_if st (lt_length_erase st d)
      (.bind (FmtSet.difference_set sh s sets st.2) fun ⟨t, g⟩ => .set st d t g _ _)
  | select d i p =>
    exact erase_reg' st i fun s => erase_if st (lt_length_erase st d)
      (.bind (FmtSet.selectMatch_set s p) fun t => .set st d t _ _ _)
  | partitionM d e i p =>
    refine erase_reg' st i fun s => erase_if st (and_congr (lt_length_erase st d) (lt_length_erase st e))
      (.bind (FmtSet.partitionMatch_set s p) fun ⟨t, u⟩ => ?_)
    simp only [Er, pure_eq_ok, map_ok, eraseX, List.map_set]
  | _ => exact absurd trivial hr

/-- a constructor with initial values (`y` builds the set with its format) is `New` followed by `Add(vals...)` -/
theorem lower_new (sh : Shuffle σ) (st : StateX α σ) (d : Nat) (impl : Impl α) (vals : List α)
    {y : Outcome (FmtSet α)} (hy : y.map (·.set) = MSet.newWith impl vals) :
    (if d < st.1.length then do let s ← y; return ((st.1.set d s, st.2), Obs.unit, [])
      else .ok (st, .bad, []) : Outcome (StateX α σ × Obs α × List String)).map (fun r => eraseX r.1) =
      (C16.runOps sh [.new d impl, .add d vals] (eraseX st)).map (·.1) := by
  obtain ⟨regs, g⟩ := st
  simp only [C16.runOps, C16.stepOp, eraseX, List.length_map]
  by_cases hd : d < regs.length
  · have hd' : d < (regs.map (·.set)).length := by simpa using hd
    simp only [hd, ↓reduceIte, ok_bind, List.getElem?_set_self hd', Outcome.map_bind, List.set_set]
    simp only [MSet.newWith] at hy
    rw [← hy]
    cases y <;> simp [List.map_set]
  · simp [hd]

theorem stepX_lower (sh : Shuffle σ) (pv : α → String) (st : StateX α σ) (opx : OpX α) :
    (stepX sh pv st opx).map (fun r => eraseX r.1) = (C16.runOps sh opx.lower (eraseX st)).map (·.1) := by
  cases opx with
  | base op =>
    simp only [OpX.lower, runOps_single, ← stepX_erase sh pv st op, Outcome.map_map]
  | newWith d impl vals => exact lower_new sh st d impl vals (FmtSet.new_set pv impl vals)
  | newWithFormat d impl format vals => exact lower_new sh st d impl vals (FmtSet.newWithFormat_set impl format vals)
  | string i =>
    simp only [stepX, OpX.lower, C16.runOps]
    cases st.1[i]? <;> rfl

theorem runX_lower (sh : Shuffle σ) (pv : α → String) : ∀ (ops : List (OpX α)) (st : StateX α σ),
    (runX sh pv ops st).map (fun r => eraseX r.1) =
      (C16.runOps sh (ops.flatMap OpX.lower) (eraseX st)).map (·.1) := by
  intro ops
  induction ops with
  | nil =>
    intro st
    rfl
  | cons opx ops ih =>
    intro st
    simp only [List.flatMap_cons, runOps_append, ← stepX_lower sh pv st opx, runX, Outcome.map_bind]
    cases stepX sh pv st opx with
    | ok r =>
      obtain ⟨st₁, o⟩ := r
      simp only [ok_bind, map_ok, ← ih st₁]
      cases runX sh pv ops st₁ <;> rfl
    | panic => rfl
    | diverge => rfl

end AlgoVerif.C16
