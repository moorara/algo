import AlgoVerif.Proofs.Outcome
import AlgoVerif.Model.C11
/-!
# C11 — membership in what the set functions of the Model return (`addNew`, `unionNew`, `dedupProds`, `lookaheadsFor`),
sorting (`insertBy`, `sortBy`), monadic folds, `lookup` in an association list after the update-or-append of `AddACTION`,
`SetGOTO` and the lookahead table (`lookup_upsert`).  Namespace `Built`.
-/
namespace AlgoVerif.C11.Built
open AlgoVerif AlgoVerif.Gram AlgoVerif.C11

-- for `decide` in the witness theorems that state what a builder returns
deriving instance DecidableEq for Table, Built

theorem mem_addNew {α} [DecidableEq α] {l : List α} {x y : α} : y ∈ addNew l x ↔ y ∈ l ∨ y = x := by
  unfold addNew
  split
  · rename_i h
    exact ⟨Or.inl, fun h' => h'.elim id fun e => e ▸ h⟩
  · simp

theorem mem_foldl_addNew {α} [DecidableEq α] (add : List α) : ∀ (l : List α) (y : α),
    y ∈ add.foldl addNew l ↔ y ∈ l ∨ y ∈ add := by
  induction add with
  | nil => intro l y; simp
  | cons a add ih =>
    intro l y
    simp only [List.foldl_cons, ih, mem_addNew, List.mem_cons, or_assoc]

theorem mem_unionNew {α} [DecidableEq α] {l add : List α} {y : α} : y ∈ unionNew l add ↔ y ∈ l ∨ y ∈ add :=
  mem_foldl_addNew add l y

theorem ext_addNew {α} [DecidableEq α] (l : List α) (x : α) : l <+: addNew l x := by
  unfold addNew
  split
  · exact List.prefix_refl l
  · exact ⟨[x], rfl⟩

theorem ext_unionNew {α} [DecidableEq α] (add : List α) : ∀ (l : List α), l <+: unionNew l add := by
  unfold unionNew
  induction add with
  | nil => intro l; exact List.prefix_refl l
  | cons a add ih => intro l; exact (ext_addNew l a).trans (ih _)

theorem nodup_addNew {α} [DecidableEq α] {l : List α} (h : l.Nodup) (x : α) : (addNew l x).Nodup := by
  unfold addNew
  split
  · exact h
  · rename_i hx
    rw [List.nodup_append]
    refine ⟨h, by simp, ?_⟩
    intro a ha b hb
    simp at hb
    subst hb
    intro he
    exact hx (he ▸ ha)

theorem nodup_unionNew {α} [DecidableEq α] (add : List α) : ∀ {l : List α}, l.Nodup → (unionNew l add).Nodup := by
  unfold unionNew
  induction add with
  | nil => intro l h; exact h
  | cons a add ih => intro l h; exact ih (nodup_addNew h a)

theorem mem_dedupProds {ps : List Pr} {p : Pr} : p ∈ dedupProds ps ↔ p ∈ ps := by
  unfold dedupProds
  rw [mem_foldl_addNew]; simp

theorem mem_lookaheadsFor {nl : List String} {fe : Env} {i : Item} {a b : String} :
    b ∈ lookaheadsFor nl fe i a ↔ b ∈ firstOfStr nl fe (i.prod.body.drop (i.dot + 1)) ∨
      ((i.prod.body.drop (i.dot + 1)).all (symNullable nl) = true ∧ b = a) := by
  unfold lookaheadsFor
  simp only
  split
  · rename_i hn
    rw [mem_unionNew]
    simp [hn]
  · rename_i hn
    simp [hn]

theorem subsetOf_iff {α} [DecidableEq α] {a b : List α} : subsetOf a b = true ↔ ∀ x ∈ a, x ∈ b := by
  simp [subsetOf, List.all_eq_true]

theorem sameSet_iff {α} [DecidableEq α] {a b : List α} : sameSet a b = true ↔ ∀ x, x ∈ a ↔ x ∈ b := by
  simp only [sameSet, Bool.and_eq_true, subsetOf_iff]
  constructor
  · rintro ⟨h1, h2⟩ x; exact ⟨h1 x, h2 x⟩
  · intro h; exact ⟨fun x hx => (h x).mp hx, fun x hx => (h x).mpr hx⟩

theorem insertBy_perm {α} (cmp : α → α → Int) (x : α) : ∀ l : List α, (insertBy cmp x l).Perm (x :: l)
  | [] => by simp [insertBy]
  | y :: ys => by
    unfold insertBy
    split
    · exact List.Perm.refl _
    · exact ((insertBy_perm cmp x ys).cons y).trans (List.Perm.swap x y ys)

theorem foldl_insertBy_perm {α} (cmp : α → α → Int) : ∀ (l acc : List α),
    (l.foldl (fun acc x => insertBy cmp x acc) acc).Perm (l ++ acc)
  | [], acc => by simp
  | x :: l, acc => by
    simp only [List.foldl_cons]
    refine (foldl_insertBy_perm cmp l _).trans ?_
    refine (List.Perm.append_left l (insertBy_perm cmp x acc)).trans ?_
    simpa using (List.perm_middle (a := x) (l₁ := l) (l₂ := acc))

theorem sortBy_perm {α} (cmp : α → α → Int) (l : List α) : (sortBy cmp l).Perm l := by
  simpa [sortBy] using foldl_insertBy_perm cmp l []

theorem mem_sortBy {α} (cmp : α → α → Int) (l : List α) (y : α) : y ∈ sortBy cmp l ↔ y ∈ l :=
  (sortBy_perm cmp l).mem_iff

/-- `x` is put in front of every other element -/
def Dominates {α} (cmp : α → α → Int) (x : α) (l : List α) : Prop :=
  ∀ y ∈ l, y ≠ x → cmp x y ≤ 0 ∧ ¬ cmp y x ≤ 0

theorem head_insertBy {α} (cmp : α → α → Int) (x y : α) (acc : List α)
    (hdom : Dominates cmp x (y :: acc))
    (hinv : x ∈ acc → acc.head? = some x) :
    x ∈ insertBy cmp y acc → (insertBy cmp y acc).head? = some x := by
  intro hmem
  cases acc with
  | nil =>
    simp only [insertBy, List.mem_cons, List.not_mem_nil, or_false] at hmem
    simp [insertBy, hmem]
  | cons z zs =>
    unfold insertBy at hmem ⊢
    by_cases hc : cmp y z ≤ 0
    · simp only [hc, if_true] at hmem ⊢
      by_cases hyx : y = x
      · simp [hyx]
      · -- x is in the old list, so it is its head z; then cmp y x ≤ 0 contradicts dominance
        have hx : x ∈ z :: zs := by
          rcases List.mem_cons.mp hmem with h | h
          · exact absurd h.symm hyx
          · exact h
        have hz : z = x := by simpa using hinv hx
        subst hz
        exact absurd hc (hdom y (by simp) hyx).2
    · simp only [hc, if_false] at hmem ⊢
      by_cases hzx : z = x
      · simp [hzx]
      · -- x is not the head of the old list, so it is not in it; it must be y, but then cmp y z ≤ 0
        have hxacc : x ∉ z :: zs := by
          intro h
          have := hinv h
          simp at this
          exact hzx this
        have hyx : y = x := by
          rcases List.mem_cons.mp hmem with h | h
          · exact absurd h.symm hzx |> False.elim
          · have := (insertBy_perm cmp y zs).mem_iff.mp h
            rcases List.mem_cons.mp this with h' | h'
            · exact h'.symm
            · exact absurd (List.mem_cons_of_mem _ h') hxacc
        subst hyx
        exact absurd (hdom z (by simp) hzx).1 hc

theorem head_foldl_insertBy {α} (cmp : α → α → Int) (x : α) : ∀ (l acc : List α),
    Dominates cmp x (l ++ acc) →
    (x ∈ acc → acc.head? = some x) →
    x ∈ l.foldl (fun acc y => insertBy cmp y acc) acc →
    (l.foldl (fun acc y => insertBy cmp y acc) acc).head? = some x
  | [], acc, _, hinv, hmem => by simpa using hinv (by simpa using hmem)
  | y :: l, acc, hdom, hinv, hmem => by
    simp only [List.foldl_cons] at hmem ⊢
    apply head_foldl_insertBy cmp x l (insertBy cmp y acc)
    · intro z hz
      apply hdom
      rcases List.mem_append.mp hz with h | h
      · simp [h]
      · have := (insertBy_perm cmp y acc).mem_iff.mp h
        rcases List.mem_cons.mp this with h' | h'
        · simp [h']
        · simp [h']
    · exact head_insertBy cmp x y acc (fun z hz => hdom z (by
        rcases List.mem_cons.mp hz with h | h
        · simp [h]
        · simp [h])) hinv
    · exact hmem

theorem head_sortBy {α} (cmp : α → α → Int) (x : α) (l : List α) (hx : x ∈ l) (hdom : Dominates cmp x l) :
    (sortBy cmp l).head? = some x := by
  unfold sortBy
  apply head_foldl_insertBy cmp x l []
  · intro z hz; exact hdom z (by simpa using hz)
  · intro h; simp at h
  · exact (mem_sortBy cmp l x).mpr hx

theorem sortBy_eq_cons {α} (cmp : α → α → Int) (x : α) (l : List α) (hx : x ∈ l) (hdom : Dominates cmp x l) :
    ∃ tail, sortBy cmp l = x :: tail ∧ (x :: tail).Perm l := by
  have hhead := head_sortBy cmp x l hx hdom
  have hperm := sortBy_perm cmp l
  cases hs : sortBy cmp l with
  | nil => rw [hs] at hhead; cases hhead
  | cons a as =>
    rw [hs] at hhead hperm
    cases hhead
    exact ⟨as, rfl, hperm⟩

theorem findIdx?_some {α} (p : α → Bool) (l : List α) (i : Nat) (h : l.findIdx? p = some i) :
    ∃ x, l[i]? = some x ∧ p x = true := by
  obtain ⟨hi, hp, _⟩ := List.findIdx?_eq_some_iff_getElem.mp h
  exact ⟨l[i], List.getElem?_eq_getElem hi, hp⟩

theorem findIdx?_of_mem {α} {p : α → Bool} {l : List α} {x : α} (hx : x ∈ l) (hp : p x = true) :
    ∃ (n : Nat) (y : α), l.findIdx? p = some n ∧ l[n]? = some y ∧ p y = true := by
  cases hf : l.findIdx? p with
  | none =>
    rw [List.findIdx?_eq_none_iff] at hf
    rw [hf x hx] at hp
    cases hp
  | some n =>
    obtain ⟨y, hy, hpy⟩ := findIdx?_some p l n hf
    exact ⟨n, y, rfl, hy, hpy⟩

theorem pure_eq_ok {α} {a r : α} (h : (pure a : Outcome α) = Outcome.ok r) : a = r := by
  simpa [pure] using h

/-- a fold that only adds: what each step establishes still holds at the end -/
theorem foldlM_done {α β : Type} (f : β → α → Outcome β) (le : β → β → Prop)
    (hrefl : ∀ b, le b b) (htrans : ∀ a b c, le a b → le b c → le a c)
    (D : α → β → Prop) (hmono : ∀ a b b', le b b' → D a b → D a b') (l : List α) (init r : β)
    (hstep : ∀ b a b', a ∈ l → f b a = Outcome.ok b' → le b b' ∧ D a b') (h : l.foldlM f init = Outcome.ok r) :
    le init r ∧ ∀ a ∈ l, D a r := by
  refine Outcome.All.foldlM_prefix (P := fun pre b => le init b ∧ ∀ a ∈ pre, D a b) l [] init ⟨hrefl _, by simp⟩ ?_ r h
  intro pre b a ha ⟨h1, h2⟩ b' hb'
  obtain ⟨h3, h4⟩ := hstep b a b' ha hb'
  exact ⟨htrans _ _ _ h1 h3, List.forall_mem_append.mpr
    ⟨fun x hx => hmono _ _ _ h3 (h2 x hx), List.forall_mem_singleton.mpr h4⟩⟩

theorem foldlM_mem_iff {α β : Type} {f : List β → α → Outcome (List β)} {Q : α → β → Prop} (l : List α) (init r : List β)
    (hstep : ∀ b a b', a ∈ l → f b a = Outcome.ok b' → ∀ x, x ∈ b' ↔ x ∈ b ∨ Q a x)
    (h : l.foldlM f init = Outcome.ok r) : ∀ x, x ∈ r ↔ x ∈ init ∨ ∃ a ∈ l, Q a x := by
  refine Outcome.All.foldlM_prefix (P := fun pre b => ∀ x, x ∈ b ↔ x ∈ init ∨ ∃ a ∈ pre, Q a x) l [] init (by simp) ?_ r h
  intro pre b a ha hb b' hb' x
  rw [hstep b a b' ha hb' x, hb x]
  simp [or_assoc, or_and_right, exists_or]

theorem foldlM_nil {α β : Type} (f : List β → α → Outcome (List β)) (hf : ∀ b a, f b a = Outcome.ok [] → b = [])
    (l : List α) (init : List β) (h : l.foldlM f init = Outcome.ok []) : init = [] ∧ ∀ a ∈ l, f [] a = Outcome.ok [] := by
  refine Outcome.All.foldlM_prefix (P := fun pre b => b = [] → init = [] ∧ ∀ a ∈ pre, f [] a = Outcome.ok [])
    l [] init (fun e => ⟨e, by simp⟩) ?_ [] h rfl
  intro pre b a _ hb b' hb' e
  subst e
  obtain rfl := hf _ _ hb'
  exact ⟨(hb rfl).1, List.forall_mem_append.mpr ⟨(hb rfl).2, List.forall_mem_singleton.mpr hb'⟩⟩

section
variable {K V : Type} [BEq K] [LawfulBEq K]

theorem lookup_upd (k : K) (h : V → V) (k' : K) : ∀ (l : List (K × V)),
    (l.map fun e => if e.1 == k then (e.1, h e.2) else e).lookup k' =
      if k' == k then (l.lookup k').map h else l.lookup k'
  | [] => by simp
  | (k0, v0) :: l => by
    rw [List.map_cons, List.lookup_cons, List.lookup_cons, lookup_upd k h k' l]
    by_cases h1 : k' = k0
    · subst h1; by_cases h0 : k' = k <;> simp [h0]
    · have hb : (k' == k0) = false := by simpa using h1
      by_cases h0 : k0 = k
      · subst h0; simp [hb]
      · simp [h0, hb]

theorem lookup_eq_none_iff_any (k : K) (l : List (K × V)) :
    l.lookup k = none ↔ l.any (fun e => e.1 == k) = false := by
  rw [List.lookup_eq_none_iff, List.any_eq_false]
  exact forall₂_congr fun e _ => by rw [bne_iff_ne, beq_iff_eq, ne_comm]

/-- the shape of `AddACTION` and `SetGOTO` -/
theorem lookup_upsert (k : K) (h : V → V) (v0 : V) (k' : K) (l : List (K × V)) :
    (if l.any (fun e => e.1 == k) then l.map fun e => if e.1 == k then (e.1, h e.2) else e
      else l ++ [(k, v0)]).lookup k' =
      if k' == k then some (match l.lookup k with | some v => h v | none => v0) else l.lookup k' := by
  split
  · rename_i hany
    rw [lookup_upd]
    by_cases hk : k' = k
    · subst hk
      cases hv : l.lookup k' with
      | none => rw [(lookup_eq_none_iff_any k' l).mp hv] at hany; cases hany
      | some v => simp
    · simp [hk]
  · rename_i hany
    have hnone := (lookup_eq_none_iff_any k l).mpr (Bool.not_eq_true _ ▸ hany)
    rw [List.lookup_append]
    by_cases hk : k' = k
    · simp [hk, hnone]
    · have : (k' == k) = false := by simpa using hk
      cases hl : l.lookup k' <;> simp [List.lookup_cons, this]

end

end AlgoVerif.C11.Built
