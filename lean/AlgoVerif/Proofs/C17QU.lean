import AlgoVerif.Proofs.C17Forest
/-!
The invariant shared by quick-union and weighted quick-union, and that it survives the two ways a
`Union` call ends: the early return and the link of two different roots (in either direction).
-/
namespace AlgoVerif.C17
open AlgoVerif.C17.Spec

/-- what holds of the parent array `a` and the counter `cnt` after the history `us` -/
structure QUInv (n : Nat) (us : List (Int × Int)) (a : Array Int) (cnt : Int) : Prop where
  forest : Forest n a cnt
  repr : ∃ rt : Int → Int, Represents n us rt ∧ ∀ i, Valid n i → Reaches n a i (rt i)
  merges : cnt + numMerges n us = n

theorem QUInv.init (n : Nat) : QUInv n [] (iota n) n where
  forest := Forest.iota n
  repr := ⟨id, .init n, fun i hi => .root hi (par_iota hi)⟩
  merges := by rw [numMerges_nil]; rfl

theorem QUInv.skip {n us a cnt p q} (I : QUInv n us a cnt)
    (h : ¬ (Valid n p ∧ Valid n q) ∨ Conn n us p q) : QUInv n (us ++ [(p, q)]) a cnt where
  forest := I.forest
  repr := by
    obtain ⟨rt, R, hre⟩ := I.repr
    exact ⟨rt, R.skip h, hre⟩
  merges := by rw [numMerges_skip h]; exact I.merges

theorem QUInv.conn_iff {n us a cnt p q rp rq} (I : QUInv n us a cnt)
    (hp : Reaches n a p rp) (hq : Reaches n a q rq) : rp = rq ↔ Conn n us p q := by
  obtain ⟨rt, R, hre⟩ := I.repr
  rw [← (hre p hp.valid_left).unique hp, ← (hre q hq.valid_left).unique hq]
  exact R.conn p q hp.valid_left hq.valid_left

/-- `root[rp] = rq` where `rp`, `rq` are the different roots of `p`, `q`: right for `Union(p, q)` and for
`Union(q, p)`, which is why weighted quick-union may choose the direction of the link -/
theorem QUInv.link {n us a cnt p q rp rq} {x : Int × Int} (I : QUInv n us a cnt)
    (hp : Reaches n a p rp) (hq : Reaches n a q rq) (hne : rp ≠ rq) (hx : x = (p, q) ∨ x = (q, p)) :
    QUInv n (us ++ [x]) (a.setIfInBounds rp.toNat rq) (cnt - 1) := by
  obtain ⟨rt, R, hre⟩ := I.repr
  have hvp := hp.valid_left
  have hvq := hq.valid_left
  obtain rfl : rt p = rp := (hre p hvp).unique hp
  obtain rfl : rt q = rq := (hre q hvq).unique hq
  refine ⟨I.forest.link hp.is_root.1 hp.is_root.2 hq.is_root.1 hq.is_root.2 hne, ⟨_, R.merge hvp hvq hx, fun i hi =>
    (hre i hi).link I.forest.size hp.is_root.1 hp.is_root.2 hq.is_root.1 hq.is_root.2 hne⟩, ?_⟩
  · rw [numMerges_merge hx hvp hvq (mt (I.conn_iff hp hq).2 hne)]; have := I.merges; omega

theorem QUInv.findLoop_eq {n us a cnt i r} (I : QUInv n us a cnt) (h : Reaches n a i r) :
    findLoop a a.size i = .ok r :=
  I.forest.findLoop_eq h (Nat.le_of_eq I.forest.size.symm)

end AlgoVerif.C17
