import AlgoVerif.Model.C05
import AlgoVerif.Proofs.C05Hole
import AlgoVerif.Proofs.C05Spec
/-!
# The indexed binary heap Model keeps its invariant and refines the Spec

`Wf` (the index bookkeeping: `heap`, `pos`, `kvs`) has one lemma per primitive (`swap_spec`, `clear_spec`, `wf_insertRaw`,
…); the order is `Hole.Ord` on the keys `keyP` read through `heap`, and `promote_spec`/`demote_spec` move the hole of
`Proofs/HeapOrder` along `Par 1 n`.  Each mutating operation is first written as the sequence of calls it makes
(`insert_eq … deleteIndex_eq`), then shown to keep `Inv` and to answer admissibly (`*_sim`, together `step_sim`).
`Delete` and `DeleteIndex` are one argument (`remove_spec`).
-/
namespace AlgoVerif.C05.Gen

/-- a checked read: the value of `s[k]?` if there is one, else the panic of Go's `s[k]`.  The `*_eq` lemmas
below state the operations with it; it stands in namespace `Gen` because `C05Gen` brings the reads `Go.idx` of the generated
Model into this form (`idx_eq_at?`). -/
def at? {α : Type} (o : Option α) : Outcome α := match o with | some x => .ok x | none => .panic

@[simp] theorem at?_some {α : Type} (x : α) : at? (some x) = .ok x := rfl
@[simp] theorem at?_none {α : Type} : at? (none : Option α) = .panic := rfl
@[simp] theorem at?_ne_diverge {α : Type} (o : Option α) : (at? o = .diverge) = False := by cases o <;> simp [at?]

end AlgoVerif.C05.Gen

namespace AlgoVerif.C05.IBinary
open AlgoVerif.C05.Hole AlgoVerif.C05.Gen AlgoVerif.HeapOrder
variable {K V : Type}

/-- key at heap position `p` (`none` where the Go expression `h.kvs[h.heap[p]].Key` would panic) -/
def keyP (h : IBinary K V) (p : Nat) : Option K :=
  match h.heap[p]? with
  | none => none
  | some i =>
    match h.kvs[i]? with
    | some (some (k, _)) => some k
    | _ => none

theorem keyAt_eq (h : IBinary K V) (p : Nat) :
    h.keyAt p = match keyP h p with | some k => .ok k | none => .panic := by
  unfold keyAt keyP
  split
  · simp [*]
  · rename_i i hi
    simp only [hi]
    split <;> simp_all

/-- `heap` and `pos` are mutually inverse on positions `1..N`, `pos[i] = -1 ↔ kvs[i] = nil`.  `N` is not tied to `h.n`:
`Delete` and `DeleteIndex` lower `h.n` first, while the entry to remove still sits at position `N = h.n + 1` until
`clearIndex` takes it out (`remove_spec`: `Wf cap (m + 1)` through `promote`/`demote`, then `clear_spec` to `Wf cap m`). -/
structure Wf (cap N : Nat) (h : IBinary K V) : Prop where
  hsize : h.heap.size = cap + 1
  psize : h.pos.size = cap
  ksize : h.kvs.size = cap
  nle : N ≤ cap
  fwd : ∀ k, 1 ≤ k → k ≤ N →
    ∃ i, h.heap[k]? = some i ∧ i < cap ∧ h.pos[i]? = some (k : Int) ∧ ∃ e, h.kvs[i]? = some (some e)
  bwd : ∀ i, i < cap →
    (h.pos[i]? = some (-1) ∧ h.kvs[i]? = some none) ∨
    (∃ k, 1 ≤ k ∧ k ≤ N ∧ h.pos[i]? = some (k : Int) ∧ h.heap[k]? = some i ∧ ∃ e, h.kvs[i]? = some (some e))

variable {cap N m : Nat} {h h' : IBinary K V}

theorem swap_spec (w : Wf cap N h) {i j : Nat}
    (hi1 : 1 ≤ i) (hiN : i ≤ N) (hj1 : 1 ≤ j) (hjN : j ≤ N) :
    ∃ h', h.swap i j = .ok h' ∧ Wf cap N h' ∧ h'.n = h.n ∧ h'.kvs = h.kvs ∧
      (∀ p, h'.heap[p]? = h.heap[tr i j p]?) := by
  obtain ⟨a, ha, hac, hpa, ea, hka⟩ := w.fwd i hi1 hiN
  obtain ⟨b, hb, hbc, hpb, eb, hkb⟩ := w.fwd j hj1 hjN
  have hsz := w.hsize; have psz := w.psize; have nle := w.nle
  have hab : a = b → i = j := fun e => by
    rw [e, hpb] at hpa; exact Int.ofNat_inj.1 (Option.some.inj hpa).symm
  have hij : i = j → a = b := fun e => by rw [e, hb] at ha; exact (Option.some.inj ha).symm
  have hH := getElem?_set_set h.heap b a (i := i) (j := j) (by omega) (by omega)
  have hP := getElem?_set_set h.pos (i : Int) (j : Int) (i := b) (j := a) (by omega) (by omega)
  refine ⟨{ h with heap := (h.heap.setIfInBounds i b).setIfInBounds j a,
                      pos := (h.pos.setIfInBounds b (i : Int)).setIfInBounds a (j : Int) }, ?_, ?_, rfl, rfl, ?_⟩
  · unfold swap; simp only [ha, hb]; rw [if_pos (by omega)]
  · refine ⟨by simpa using hsz, by simpa using psz, w.ksize, nle, fun k hk1 hkN => ?_, fun x hx => ?_⟩
    · simp only [hH, hP]
      by_cases hkj : k = j
      · subst hkj
        exact ⟨a, if_pos rfl, hac, if_pos rfl, ea, hka⟩
      · by_cases hki : k = i
        · subst hki
          refine ⟨b, by rw [if_neg hkj, if_pos rfl], hbc, ?_, eb, hkb⟩
          rw [if_neg fun e => hkj (hab e.symm), if_pos rfl]
        · obtain ⟨c, hc, hcc, hpc, ec, hkc⟩ := w.fwd k hk1 hkN
          refine ⟨c, by rw [if_neg hkj, if_neg hki]; exact hc, hcc, ?_, ec, hkc⟩
          have hca : c ≠ a := fun e => by rw [e, hpa] at hpc; exact hki (Int.ofNat_inj.1 (Option.some.inj hpc)).symm
          have hcb : c ≠ b := fun e => by rw [e, hpb] at hpc; exact hkj (Int.ofNat_inj.1 (Option.some.inj hpc)).symm
          rw [if_neg hca, if_neg hcb]; exact hpc
    · simp only [hH, hP]
      by_cases hxa : x = a
      · subst hxa
        exact Or.inr ⟨j, hj1, hjN, if_pos rfl, if_pos rfl, ea, hka⟩
      · by_cases hxb : x = b
        · subst hxb
          refine Or.inr ⟨i, hi1, hiN, by rw [if_neg hxa, if_pos rfl], ?_, eb, hkb⟩
          rw [if_neg fun e => hxa (hij e).symm, if_pos rfl]
        · rcases w.bwd x hx with ⟨h1, h2⟩ | ⟨k, hk1, hkN, hpk, hhk, e, hke⟩
          · exact Or.inl ⟨by rw [if_neg hxa, if_neg hxb]; exact h1, h2⟩
          · refine Or.inr ⟨k, hk1, hkN, by rw [if_neg hxa, if_neg hxb]; exact hpk, ?_, e, hke⟩
            have hkj : k ≠ j := fun e => by rw [e, hb] at hhk; exact hxb (Option.some.inj hhk).symm
            have hki : k ≠ i := fun e => by rw [e, ha] at hhk; exact hxa (Option.some.inj hhk).symm
            rw [if_neg hkj, if_neg hki]; exact hhk
  · intro p
    simp only [hH]
    by_cases hpj : p = j
    · rw [if_pos hpj, hpj, tr_right, ha]
    · by_cases hpi : p = i
      · rw [if_neg hpj, if_pos hpi, hpi, tr_left, hb]
      · rw [if_neg hpj, if_neg hpi, tr_other hpi hpj]

theorem keyP_of_heap_eq (hk : h'.kvs = h.kvs) {p q : Nat}
    (hh : h'.heap[p]? = h.heap[q]?) : keyP h' p = keyP h q := by
  unfold keyP; rw [hh, hk]

theorem keyP_some (w : Wf cap N h) {p : Nat} (h1 : 1 ≤ p) (hN : p ≤ N) :
    ∃ k, keyP h p = some k := by
  obtain ⟨i, hi, _, _, ⟨k, v⟩, hk⟩ := w.fwd p h1 hN
  exact ⟨k, by unfold keyP; simp [hi, hk]⟩

variable {cmp : K → K → Int} {eq : V → V → Bool}

theorem leP_self (hc : LawfulCmp cmp) (w : Wf cap N h) {p : Nat} (h1 : 1 ≤ p) (hN : p ≤ N) :
    LeP cmp (keyP h) p p :=
  let ⟨_, hk⟩ := keyP_some w h1 hN
  LeP.refl hc hk

theorem compare_spec (hc : LawfulCmp cmp) (w : Wf cap N h) {a b : Nat}
    (ha1 : 1 ≤ a) (haN : a ≤ N) (hb1 : 1 ≤ b) (hbN : b ≤ N) :
    ∃ c, h.compare cmp a b = .ok c ∧ (c ≤ 0 ↔ LeP cmp (keyP h) a b) ∧ (0 ≤ c → LeP cmp (keyP h) b a) := by
  obtain ⟨ka, hka⟩ := keyP_some w ha1 haN
  obtain ⟨kb, hkb⟩ := keyP_some w hb1 hbN
  refine ⟨cmp ka kb, by unfold compare; rw [keyAt_eq, keyAt_eq, hka, hkb],
    ⟨fun hle => ⟨ka, kb, hka, hkb, hle⟩, ?_⟩, fun hge => ⟨kb, ka, hkb, hka, hc.anti _ _ hge⟩⟩
  rintro ⟨ka', kb', ha', hb', hle⟩
  cases hka.symm.trans ha'
  cases hkb.symm.trans hb'
  exact hle

/-- the loop of `promote` stops at the root and at a position whose parent is before it
(`DeleteIndex` of the last position relies on the second) -/
theorem promote_stop (hc : LawfulCmp cmp) (w : Wf cap N h) {k fuel : Nat} (hk1 : 1 ≤ k)
    (hkN : k ≤ N) (hle : k ≤ 1 ∨ LeP cmp (keyP h) (k / 2) k) :
    h.promote cmp (fuel + 1) k = .ok h := by
  rw [promote]
  by_cases hk : 1 < k
  · obtain ⟨c, hcmp, hiff, _⟩ := compare_spec hc w (a := k / 2) (b := k) (by omega) (by omega) hk1 hkN
    rw [if_pos hk, hcmp]
    simp only [Int.not_lt.2 (hiff.2 (hle.resolve_left (Nat.not_le.2 hk))), if_false]
  · rw [if_neg hk]

/-- `promote(k)` with the order broken only around `k`: one level per round (`k < fuel`); the entry of `k` ends at some
`k' ≤ k`, below which the order may still be broken (`Down … k'`).  The last conjunct says when it is whole: the entry
has moved (`remove_spec`: `demote(k)` then starts from a heap in order) or `k` was before its children (`Insert`: the new
last position has none). -/
theorem promote_spec (hc : LawfulCmp cmp) :
    ∀ (fuel : Nat) (h : IBinary K V) (k : Nat), Wf cap N h → h.n ≤ N → 1 ≤ k → k ≤ h.n → k < fuel →
      Hole (LeP cmp (keyP h)) (Par 1 h.n) k →
      ∃ h' k', h.promote cmp fuel k = .ok h' ∧ Wf cap N h' ∧ h'.n = h.n ∧ h'.kvs = h.kvs ∧
        1 ≤ k' ∧ k' ≤ k ∧ h'.heap[k']? = h.heap[k]? ∧ Down (LeP cmp (keyP h')) (Par 1 h.n) k' ∧
        (∀ p, k < p → h'.heap[p]? = h.heap[p]?) ∧
        (k' < k ∨ Below (LeP cmp (keyP h)) (Par 1 h.n) k → Ord cmp (keyP h') h.n) := by
  intro fuel
  induction fuel with
  | zero => intro h k _ _ _ _ hf; omega
  | succ fuel ih =>
    intro h k w hnN hk1 hkn hf hole
    have hkN : k ≤ N := Nat.le_trans hkn hnN
    by_cases hstop : k ≤ 1 ∨ LeP cmp (keyP h) (k / 2) k
    · have hd := hole.down fun _ hp => hp.half ▸ hstop.resolve_left (Nat.not_le.2 hp.two)
      exact ⟨h, k, promote_stop hc w hk1 hkN hstop, w, rfl, rfl, hk1, Nat.le_refl _, rfl, hd, fun _ _ => rfl,
        fun hch => ord_iff.2 (hd.stop (hch.resolve_left (Nat.lt_irrefl k)))⟩
    · have hk : 1 < k := Nat.lt_of_not_le fun h1 => hstop (.inl h1)
      have hp1 : 1 ≤ k / 2 := by omega
      have hpN : k / 2 ≤ N := Nat.le_trans (Nat.div_le_self k 2) hkN
      obtain ⟨c, hcmp, hiff, hge⟩ := compare_spec hc w (a := k / 2) (b := k) hp1 hpN hk1 hkN
      have hpos : 0 < c := Int.not_le.1 fun hle => hstop (.inr (hiff.1 hle))
      rw [promote, if_pos hk, hcmp]
      simp only [hpos, if_true]
      obtain ⟨h1, hsw, w1, hn1, hkv1, hheap1⟩ := swap_spec w (i := k) (j := k / 2) hk1 hkN hp1 hpN
      rw [hsw]
      have hkey : ∀ p, keyP h1 p = keyP h (tr k (k / 2) p) := fun p => keyP_of_heap_eq hkv1 (hheap1 p)
      have hlt : LeP cmp (keyP h) k (k / 2) := hge (Int.le_of_lt hpos)
      obtain ⟨hole1, hch1⟩ :=
        hn1 ▸ hole.step_up (leP_trans hc) (forest_par 1 h.n) (swapped hkey) ⟨hk, hkn, rfl, hp1⟩
      -- the new contents of `k / 2` are before its children, so the order is whole wherever the loop stops
      obtain ⟨h', k', hpr, w', hn', hkv', hk'1, hk'k, hheap', hdown, hrest, hord⟩ :=
        ih h1 (k / 2) w1 (Nat.le_trans (Nat.le_of_eq hn1) hnN) hp1 (by omega) (by omega) hole1
      refine ⟨h', k', hpr, w', hn'.trans hn1, hkv'.trans hkv1, hk'1, Nat.le_trans hk'k (Nat.div_le_self k 2),
        ?_, ?_, ?_, ?_⟩
      · rw [hheap', hheap1, tr_right]
      · rw [← hn1]; exact hdown
      · intro p hp
        rw [hrest p (Nat.lt_of_le_of_lt (Nat.div_le_self k 2) hp), hheap1,
          tr_other (Nat.ne_of_gt hp) (by omega)]
      · intro _; rw [← hn1]; exact hord (Or.inr (hch1 hlt))

theorem pickChild_spec (hc : LawfulCmp cmp) (w : Wf cap N h)
    (hnN : h.n ≤ N) {k : Nat} (hk1 : 1 ≤ k) (h2k : 2 * k ≤ h.n) :
    ∃ j, h.pickChild cmp (2 * k) = .ok j ∧ Par 1 h.n k j ∧ ∀ s, Par 1 h.n k s → LeP cmp (keyP h) j s := by
  have e0 : 2 * k / 2 = k := by omega
  have e1 : (2 * k + 1) / 2 = k := by omega
  have h10 : 1 ≤ 2 * k := by omega
  have h20 : 2 ≤ 2 * k := by omega
  have r0 := leP_self hc w h10 (Nat.le_trans h2k hnN)
  unfold pickChild
  by_cases hlt : 2 * k < h.n
  · rw [if_pos hlt]
    have h1N : 2 * k + 1 ≤ N := Nat.le_trans hlt hnN
    obtain ⟨c, hcmp, hiff, hge⟩ :=
      compare_spec hc w (a := 2 * k + 1) (b := 2 * k) (Nat.le_add_left 1 _) h1N h10 (Nat.le_trans h2k hnN)
    rw [hcmp]
    by_cases hneg : c < 0
    · refine ⟨2 * k + 1, by simp [hneg], ⟨Nat.le_succ_of_le h20, hlt, e1, hk1⟩, fun s hs => ?_⟩
      rcases hs.child with rfl | rfl
      · exact hiff.1 (Int.le_of_lt hneg)
      · exact leP_self hc w (Nat.le_add_left 1 _) h1N
    · refine ⟨2 * k, by simp [hneg], ⟨h20, h2k, e0, hk1⟩, fun s hs => ?_⟩
      rcases hs.child with rfl | rfl
      · exact r0
      · exact hge (Int.not_lt.1 hneg)
  · rw [if_neg hlt]
    refine ⟨2 * k, rfl, ⟨h20, h2k, e0, hk1⟩, fun s hs => ?_⟩
    rcases hs.child with rfl | rfl
    · exact r0
    · exact absurd hs.le hlt

/-- `h.n < fuel + k`: a round moves `k` to a child `j > k`, and the loop ends once `2 * k > h.n` -/
theorem demote_spec (hc : LawfulCmp cmp) :
    ∀ (fuel : Nat) (h : IBinary K V) (k : Nat), Wf cap N h → h.n ≤ N → 1 ≤ k → k ≤ N → h.n < fuel + k →
      0 < fuel → Down (LeP cmp (keyP h)) (Par 1 h.n) k →
      ∃ h', h.demote cmp fuel k = .ok h' ∧ Wf cap N h' ∧ h'.n = h.n ∧ h'.kvs = h.kvs ∧
        Ord cmp (keyP h') h.n ∧ (∀ p, h.n < p → h'.heap[p]? = h.heap[p]?) := by
  intro fuel
  induction fuel with
  | zero =>
    intro h k w hnN hk1 hkN hf hf0 hd
    omega
  | succ fuel ih =>
    intro h k w hnN hk1 hkN hf _ hd
    rw [demote]
    by_cases h2k : 2 * k ≤ h.n
    · rw [if_pos h2k]
      obtain ⟨j, hpick, hkj', hsib⟩ := pickChild_spec hc w hnN hk1 h2k
      rw [hpick]
      have hjn := hkj'.le
      have hkj_lt := hkj'.parent_lt
      have hj1 : 1 ≤ j := Nat.le_of_succ_le hkj'.two
      have hjN : j ≤ N := Nat.le_trans hjn hnN
      obtain ⟨c, hcmp, hiff, hge⟩ := compare_spec hc w (a := k) (b := j) hk1 hkN hj1 hjN
      simp only [hcmp]
      by_cases hneg : c < 0
      · rw [if_pos hneg]
        exact ⟨h, rfl, w, rfl, rfl, ord_iff.2 (hd.stop fun s hs =>
          leP_trans hc _ _ _ (hiff.1 (Int.le_of_lt hneg)) (hsib s hs)), fun _ _ => rfl⟩
      · rw [if_neg hneg]
        obtain ⟨h1, hsw, w1, hn1, hkv1, hheap1⟩ := swap_spec w (i := k) (j := j) hk1 hkN hj1 hjN
        rw [hsw]
        have hkey : ∀ p, keyP h1 p = keyP h (tr k j p) := fun p => keyP_of_heap_eq hkv1 (hheap1 p)
        have hle : LeP cmp (keyP h) j k := hge (Int.not_lt.1 hneg)
        have hd1 : Down (LeP cmp (keyP h1)) (Par 1 h1.n) j := by
          rw [hn1]
          exact hd.step (forest_par 1 h.n) (swapped hkey) hkj' hsib hle
        obtain ⟨h', hde, w', hn', hkv', hord, hrest⟩ :=
          ih h1 j w1 (Nat.le_trans (Nat.le_of_eq hn1) hnN) hj1 hjN (by omega) (by omega) hd1
        refine ⟨h', hde, w', hn'.trans hn1, hkv'.trans hkv1, hn1 ▸ hord, ?_⟩
        intro p hp
        rw [hrest p (by omega), hheap1, tr_other (by omega) (by omega)]
    · rw [if_neg h2k]
      exact ⟨h, rfl, w, rfl, rfl, ord_iff.2 (hd.stop (below_leaf (by omega))), fun _ _ => rfl⟩

def abs (h : IBinary K V) : Spec.Map K V := fun i =>
  if 0 ≤ i ∧ i < (h.kvs.size : Int) then (h.kvs[i.toNat]?).join else none

/-- the representation invariant (`C05_ibinary_invariant`) -/
structure Inv (cmp : K → K → Int) (cap : Nat) (h : IBinary K V) : Prop where
  wf : Wf cap h.n h
  ord : Ord cmp (keyP h) h.n
  card : h.n = Spec.card cap (abs h)

theorem abs_nat {i : Nat} (hi : i < h.kvs.size) : abs h (i : Int) = (h.kvs[i]?).join := by
  unfold abs
  rw [if_pos (by omega)]
  simp

theorem abs_out (hs : h.kvs.size = cap) {i : Int} (hi : ¬ Spec.InRange cap i) :
    abs h i = none := by
  unfold abs Spec.InRange at *
  rw [if_neg (by omega)]

theorem abs_congr (hk : h'.kvs = h.kvs) : abs h' = abs h := by
  unfold abs; rw [hk]

theorem abs_set {i : Nat} {e : Option (K × V)} (hi : i < h.kvs.size)
    (hk : h'.kvs = h.kvs.setIfInBounds i e) : abs h' = (abs h).set (i : Int) e := by
  funext j
  unfold abs Spec.Map.set
  rw [hk]
  simp only [Array.size_setIfInBounds]
  by_cases hj : 0 ≤ j ∧ j < (h.kvs.size : Int)
  · rw [if_pos hj, if_pos hj]
    by_cases hji : j = (i : Int)
    · subst hji; simp [hi]
    · rw [if_neg hji, Array.getElem?_setIfInBounds]
      rw [if_neg (by omega)]
  · rw [if_neg hj, if_neg hj]
    rw [if_neg (by omega)]

theorem held_of_abs (w : Wf cap N h) {i : Int} {e : K × V}
    (ha : abs h i = some e) :
    Spec.InRange cap i ∧ h.kvs[i.toNat]? = some (some e) ∧
      ∃ k, 1 ≤ k ∧ k ≤ N ∧ h.pos[i.toNat]? = some (k : Int) ∧ h.heap[k]? = some i.toNat := by
  have ks := w.ksize
  unfold abs at ha
  split at ha
  · rename_i hr
    have hlt : i.toNat < cap := by omega
    have hkv : h.kvs[i.toNat]? = some (some e) := by
      cases hx : h.kvs[i.toNat]? with
      | none => simp [hx] at ha
      | some o => cases o with
        | none => simp [hx] at ha
        | some e' => simp [hx] at ha; rw [ha]
    refine ⟨⟨hr.1, by omega⟩, hkv, ?_⟩
    rcases w.bwd i.toNat hlt with ⟨_, h2⟩ | ⟨k, hk1, hkN, hp, hh, _⟩
    · rw [hkv] at h2; simp at h2
    · exact ⟨k, hk1, hkN, hp, hh⟩
  · simp at ha

theorem containsIndex_spec (w : Wf cap N h) (i : Int) :
    h.containsIndex i = .ok (abs h i).isSome := by
  have ks := w.ksize
  unfold containsIndex
  by_cases hr : 0 ≤ i ∧ i < (h.kvs.size : Int)
  · rw [if_pos hr]
    have hlt : i.toNat < cap := by omega
    have hi : ((i.toNat : Nat) : Int) = i := by omega
    rcases w.bwd i.toNat hlt with ⟨h1, h2⟩ | ⟨k, hk1, hkN, hp, hh, e, he⟩
    · have : abs h i = none := by
        rw [← hi, abs_nat (by omega), h2]; rfl
      simp [h1, this]
    · have : abs h i = some e := by
        rw [← hi, abs_nat (by omega), he]; rfl
      simp [hp, this]
  · rw [if_neg hr]
    have : abs h i = none := abs_out ks (by unfold Spec.InRange; omega)
    simp [this]

theorem keyP_congr_kvs {p : Nat} (hh : h'.heap[p]? = h.heap[p]?)
    (hk : ∀ i, h.heap[p]? = some i → h'.kvs[i]? = h.kvs[i]?) : keyP h' p = keyP h p := by
  unfold keyP
  rw [hh]
  cases hx : h.heap[p]? with
  | none => rfl
  | some i => simp only []; rw [hk i hx]

theorem heap_ne_of_pos (w : Wf cap N h) {q c j p : Nat} (hq1 : 1 ≤ q) (hqN : q ≤ N)
    (hc : h.heap[q]? = some c) (hp : h.pos[j]? = some (p : Int)) (hqp : q ≠ p) : c ≠ j := by
  obtain ⟨c', hc', _, hpc, _⟩ := w.fwd q hq1 hqN
  rw [hc] at hc'
  cases hc'
  intro hcj
  rw [hcj, hp] at hpc
  exact hqp (Int.ofNat_inj.1 (Option.some.inj hpc)).symm

theorem clear_spec (w : Wf cap (m + 1) h) {i : Nat}
    (hi : h.heap[m + 1]? = some i) :
    ∃ h', h.clearIndex i = .ok h' ∧ Wf cap m h' ∧ h'.n = h.n ∧
      h'.kvs = h.kvs.setIfInBounds i none ∧ i < h.kvs.size ∧ (∀ p, 1 ≤ p → p ≤ m → keyP h' p = keyP h p) := by
  obtain ⟨i', hi', hic, hpi, ei, hki⟩ := w.fwd (m + 1) (by omega) (by omega)
  rw [hi] at hi'
  cases hi'
  have hsz := w.hsize; have psz := w.psize; have ksz := w.ksize; have nle := w.nle
  have hne : ∀ k, 1 ≤ k → k ≤ m → ∀ c, h.heap[k]? = some c → c ≠ i := fun k hk1 hkm c hc =>
    heap_ne_of_pos w hk1 (by omega) hc hpi (by omega)
  have hP := getElem?_set_one h.pos (i := i) (-1) (by omega)
  have hK := getElem?_set_one h.kvs (i := i) none (by omega)
  refine ⟨{ h with pos := h.pos.setIfInBounds i (-1), kvs := h.kvs.setIfInBounds i none }, ?_, ?_, rfl, rfl,
    by omega, ?_⟩
  · unfold clearIndex; rw [if_pos (by omega)]
  · refine ⟨hsz, by simpa using psz, by simpa using ksz, by omega, fun k hk1 hkm => ?_, fun x hx => ?_⟩
    · simp only [hP, hK]
      obtain ⟨c, hc, hcc, hpc, ec, hkc⟩ := w.fwd k hk1 (by omega)
      have hci := hne k hk1 hkm c hc
      exact ⟨c, hc, hcc, by rw [if_neg hci]; exact hpc, ec, by rw [if_neg hci]; exact hkc⟩
    · simp only [hP, hK]
      by_cases hxi : x = i
      · exact Or.inl ⟨if_pos hxi, if_pos hxi⟩
      · rcases w.bwd x hx with ⟨h1, h2⟩ | ⟨k, hk1, hkN, hp, hh, e, he⟩
        · exact Or.inl ⟨by rw [if_neg hxi]; exact h1, by rw [if_neg hxi]; exact h2⟩
        · have hkm : k ≤ m := by
            by_cases hkk : k = m + 1
            · subst hkk; rw [hi] at hh; exact absurd (Option.some.inj hh).symm hxi
            · omega
          exact Or.inr ⟨k, hk1, hkm, by rw [if_neg hxi]; exact hp, hh, e, by rw [if_neg hxi]; exact he⟩
  · intro p hp1 hpm
    exact keyP_congr_kvs (h := h) rfl fun c hc => (hK c).trans (if_neg (hne p hp1 hpm c hc))

/-- the tail shared by `Delete` and `DeleteIndex` -/
theorem clear_sim {h4 : IBinary K V} (inv : Inv cmp cap h) (hm : h.n = m + 1)
    (w4 : Wf cap (m + 1) h4) (hn4 : h4.n = m) (hkv4 : h4.kvs = h.kvs) (hord4 : Ord cmp (keyP h4) m)
    {j : Nat} (hlast : h4.heap[m + 1]? = some j) {e : K × V} (ha : abs h (j : Int) = some e) :
    ∃ h5, h4.clearIndex j = .ok h5 ∧ Inv cmp cap h5 ∧ abs h5 = (abs h).set (j : Int) none := by
  obtain ⟨h5, hcl, w5, hn5, hkv5, his, hkey5⟩ := clear_spec w4 hlast
  have habs : abs h5 = (abs h).set (j : Int) none := by rw [abs_set (h := h4) his hkv5, abs_congr hkv4]
  refine ⟨h5, hcl, ⟨?_, ?_, ?_⟩, habs⟩
  · rw [hn5, hn4]; exact w5
  · rw [hn5, hn4]; exact ord_congr hkey5 hord4
  · rw [hn5, hn4, habs]
    have := Spec.card_set_none e (held_of_abs inv.wf ha).1 ha
    have := inv.card
    omega

/-- the state of `Insert` just before `promote` -/
def insertRaw (h : IBinary K V) (j : Nat) (key : K) (val : V) : IBinary K V :=
  { n := h.n + 1, heap := h.heap.setIfInBounds (h.n + 1) j,
    pos := h.pos.setIfInBounds j ((h.n + 1 : Nat) : Int),
    kvs := h.kvs.setIfInBounds j (some (key, val)) }

/-- the state of `ChangeKey` after `h.kvs[i].Key = key` -/
def setKeyRaw (h : IBinary K V) (j : Nat) (key : K) (v : V) : IBinary K V :=
  { h with kvs := h.kvs.setIfInBounds j (some (key, v)) }

/-- `h.n--` -/
def decN (h : IBinary K V) : IBinary K V := { h with n := h.n - 1 }

/-! `C05Gen` compares the generated Model with the right-hand sides of the `*_eq` lemmas below. -/

theorem insert_eq (cmp : K → K → Int) (h : IBinary K V) (i : Int) (key : K) (val : V) :
    h.insert cmp i key val =
      if i < 0 ∨ i ≥ (h.kvs.size : Int) then .ok (h, false) else
        h.containsIndex i >>= fun b =>
          if b then .ok (h, false) else
            if h.n + 1 < h.heap.size ∧ i.toNat < h.pos.size ∧ i.toNat < h.kvs.size then
              (insertRaw h i.toNat key val).promote cmp (h.n + 1 + 1) (h.n + 1) >>= fun h2 => .ok (h2, true)
            else .panic := by
  unfold insert insertRaw
  split
  · rfl
  · cases h.containsIndex i with
    | ok b =>
      cases b with
      | true => rfl
      | false =>
        simp only [Outcome.ok_bind, Bool.false_eq_true, if_false]
        split
        · cases promote cmp (h.n + 1 + 1) _ (h.n + 1) <;> rfl
        · rfl
    | panic => rfl
    | diverge => rfl

theorem changeKey_eq (cmp : K → K → Int) (h : IBinary K V) (i : Int) (key : K) :
    h.changeKey cmp i key =
      (h.containsIndex i >>= fun b =>
        if !b then .ok (h, false) else
          at? h.kvs[i.toNat]? >>= fun c => at? c >>= fun e =>
            (setKeyRaw h i.toNat key e.2).posOf i.toNat >>= fun p =>
              (setKeyRaw h i.toNat key e.2).promote cmp (p + 1) p >>= fun h2 =>
                h2.posOf i.toNat >>= fun p2 => h2.demote cmp (h2.n + 1) p2 >>= fun h3 => .ok (h3, true)) := by
  unfold changeKey setKeyRaw
  cases h.containsIndex i with
  | ok b =>
    cases b with
    | false => rfl
    | true =>
      simp only [Outcome.ok_bind, Bool.not_true, Bool.false_eq_true, if_false]
      rcases h.kvs[i.toNat]? with _ | _ | ⟨k0, v⟩
      · rfl
      · rfl
      · simp only [at?_some, Outcome.ok_bind]
        cases posOf _ i.toNat with
        | ok p =>
          simp only [Outcome.ok_bind]
          cases promote cmp (p + 1) _ p with
          | ok h2 =>
            simp only [Outcome.ok_bind]
            cases h2.posOf i.toNat with
            | ok p2 =>
              simp only [Outcome.ok_bind]
              cases demote cmp (h2.n + 1) h2 p2 <;> rfl
            | panic => rfl
            | diverge => rfl
          | panic => rfl
          | diverge => rfl
        | panic => rfl
        | diverge => rfl
  | panic => rfl
  | diverge => rfl

theorem delete_eq (cmp : K → K → Int) (h : IBinary K V) :
    h.delete cmp =
      if h.n = 0 then .ok (h, none) else
        at? h.heap[1]? >>= fun i => at? h.kvs[i]? >>= fun c => at? c >>= fun e =>
          h.swap 1 h.n >>= fun h1 =>
            (decN h1).demote cmp ((decN h1).n + 1) 1 >>= fun h3 =>
              h3.clearIndex i >>= fun h4 => .ok (h4, some (Int.ofNat i, e.1, e.2)) := by
  unfold delete decN
  split
  · rfl
  · cases h.heap[1]? with
    | none => rfl
    | some i =>
      simp only [at?_some, Outcome.ok_bind]
      rcases h.kvs[i]? with _ | _ | ⟨k, v⟩
      · rfl
      · rfl
      · simp only [at?_some, Outcome.ok_bind]
        cases h.swap 1 h.n with
        | ok h1 =>
          simp only [Outcome.ok_bind]
          cases demote cmp _ _ 1 with
          | ok h3 =>
            simp only [Outcome.ok_bind]
            cases h3.clearIndex i <;> rfl
          | panic => rfl
          | diverge => rfl
        | panic => rfl
        | diverge => rfl

theorem deleteIndex_eq (cmp : K → K → Int) (h : IBinary K V) (i : Int) :
    h.deleteIndex cmp i =
      (h.containsIndex i >>= fun b =>
        if !b then .ok (h, none) else
          h.posOf i.toNat >>= fun k => at? h.kvs[i.toNat]? >>= fun c => at? c >>= fun e =>
            h.swap k h.n >>= fun h1 =>
              if h1.n = 0 then .panic else
                (decN h1).promote cmp (k + 1) k >>= fun h3 =>
                  h3.demote cmp (h3.n + 1) k >>= fun h4 =>
                    h4.clearIndex i.toNat >>= fun h5 => .ok (h5, some e)) := by
  unfold deleteIndex decN
  cases h.containsIndex i with
  | ok b =>
    cases b with
    | false => rfl
    | true =>
      simp only [Outcome.ok_bind, Bool.not_true, Bool.false_eq_true, if_false]
      cases h.posOf i.toNat with
      | ok k =>
        simp only [Outcome.ok_bind]
        rcases h.kvs[i.toNat]? with _ | _ | ⟨key, val⟩
        · rfl
        · rfl
        · simp only [at?_some, Outcome.ok_bind]
          cases h.swap k h.n with
          | ok h1 =>
            simp only [Outcome.ok_bind]
            split
            · rfl
            · cases promote cmp (k + 1) _ k with
              | ok h3 =>
                simp only [Outcome.ok_bind]
                cases demote cmp (h3.n + 1) h3 k with
                | ok h4 =>
                  simp only [Outcome.ok_bind]
                  cases h4.clearIndex i.toNat <;> rfl
                | panic => rfl
                | diverge => rfl
              | panic => rfl
              | diverge => rfl
          | panic => rfl
          | diverge => rfl
      | panic => rfl
      | diverge => rfl
  | panic => rfl
  | diverge => rfl

theorem free_of_abs_none (w : Wf cap N h) {j : Nat} (hj : j < cap)
    (ha : abs h (j : Int) = none) : h.pos[j]? = some (-1) ∧ h.kvs[j]? = some none := by
  rcases w.bwd j hj with hl | ⟨k, _, _, _, _, e, he⟩
  · exact hl
  · rw [abs_nat (by rw [w.ksize]; exact hj), he] at ha
    simp at ha

theorem ne_of_free (w : Wf cap N h) {j : Nat} (hfree : h.kvs[j]? = some none)
    {k c : Nat} (hk1 : 1 ≤ k) (hkN : k ≤ N) (hc : h.heap[k]? = some c) : c ≠ j := by
  obtain ⟨c', hc', _, _, e, he⟩ := w.fwd k hk1 hkN
  rw [hc] at hc'
  cases hc'
  intro hcj
  rw [hcj, hfree] at he
  cases he

theorem wf_insertRaw (w : Wf cap h.n h) (hn : h.n < cap) {j : Nat} (hj : j < cap)
    (hfree : h.kvs[j]? = some none) (key : K) (val : V) : Wf cap (h.n + 1) (insertRaw h j key val) := by
  have hs := w.hsize; have ps := w.psize; have ks := w.ksize
  have hH := getElem?_set_one h.heap (i := h.n + 1) j (by omega)
  have hP := getElem?_set_one h.pos (i := j) ((h.n + 1 : Nat) : Int) (by omega)
  have hK := getElem?_set_one h.kvs (i := j) (some (key, val)) (by omega)
  refine ⟨by simpa [insertRaw] using hs, by simpa [insertRaw] using ps, by simpa [insertRaw] using ks, hn,
    fun k hk1 hkn => ?_, fun x hx => ?_⟩
  · simp only [insertRaw, hH, hP, hK]
    by_cases hk : k = h.n + 1
    · exact ⟨j, if_pos hk, hj, by rw [if_pos rfl, hk], (key, val), if_pos rfl⟩
    · obtain ⟨c, hc, hcc, hpc, e, he⟩ := w.fwd k hk1 (by omega)
      have hcj := ne_of_free w hfree hk1 (by omega) hc
      exact ⟨c, by rw [if_neg hk]; exact hc, hcc, by rw [if_neg hcj]; exact hpc, e, by rw [if_neg hcj]; exact he⟩
  · simp only [insertRaw, hH, hP, hK]
    by_cases hxj : x = j
    · exact Or.inr ⟨h.n + 1, by omega, Nat.le_refl _, if_pos hxj, by rw [if_pos rfl, hxj], (key, val), if_pos hxj⟩
    · rcases w.bwd x hx with ⟨p1, p2⟩ | ⟨k, hk1, hkn, hp, hh, e, he⟩
      · exact Or.inl ⟨by rw [if_neg hxj]; exact p1, by rw [if_neg hxj]; exact p2⟩
      · exact Or.inr ⟨k, hk1, by omega, by rw [if_neg hxj]; exact hp, by rw [if_neg (by omega)]; exact hh, e,
          by rw [if_neg hxj]; exact he⟩

theorem insert_sim (hc : LawfulCmp cmp) (inv : Inv cmp cap h) (i : Int) (key : K) (val : V) :
    ∃ h' b, h.insert cmp i key val = .ok (h', b) ∧ Inv cmp cap h' ∧
      Spec.Admit cmp eq cap (abs h) (.insert i key val) (.bool b) (abs h') := by
  have w := inv.wf
  have ks := w.ksize; have ps := w.psize; have hs := w.hsize
  by_cases hr : i < 0 ∨ i ≥ (h.kvs.size : Int)
  · refine ⟨h, false, by unfold insert; rw [if_pos hr], inv, .insert_fail ?_⟩
    intro hh; unfold Spec.InRange at hh; omega
  · have hci := containsIndex_spec w i
    cases ha : abs h i with
    | some e =>
      rw [ha] at hci
      refine ⟨h, false, by unfold insert; rw [if_neg hr, hci]; rfl, inv, .insert_fail ?_⟩
      intro hh; rw [ha] at hh; exact absurd hh.2 (by simp)
    | none =>
      rw [ha] at hci
      have hrange : Spec.InRange cap i := by unfold Spec.InRange; omega
      have hjc : i.toNat < cap := by omega
      have hji : ((i.toNat : Nat) : Int) = i := by omega
      have hncap : h.n < cap := by rw [inv.card]; exact Spec.card_lt_of_free hrange ha
      have hkj := (free_of_abs_none w hjc (by rw [hji]; exact ha)).2
      rw [insert_eq, if_neg hr, hci, Outcome.ok_bind]
      simp only [Option.isSome_none, Bool.false_eq_true, if_false]
      rw [if_pos (by omega)]
      generalize hh1 : insertRaw h i.toNat key val = h1
      have h1n : h1.n = h.n + 1 := by rw [← hh1]; rfl
      have h1heap : h1.heap = h.heap.setIfInBounds (h.n + 1) i.toNat := by rw [← hh1]; rfl
      have h1kvs : h1.kvs = h.kvs.setIfInBounds i.toNat (some (key, val)) := by rw [← hh1]; rfl
      have w1 : Wf cap (h.n + 1) h1 := hh1 ▸ wf_insertRaw w hncap hjc hkj key val
      have hkey : ∀ q, 1 ≤ q → q ≤ h.n → keyP h1 q = keyP h q := by
        intro q hq1 hqn
        refine keyP_congr_kvs ?_ fun c hcc => ?_
        · rw [h1heap, Array.getElem?_setIfInBounds, if_neg (by omega)]
        · rw [h1kvs, Array.getElem?_setIfInBounds, if_neg (ne_of_free w hkj hq1 hqn hcc).symm]
      have hup : Up (LeP cmp (keyP h1)) (Par 1 h1.n) (h.n + 1) :=
        h1n ▸ (ord_iff.1 (ord_congr hkey inv.ord)).up_last
      obtain ⟨h2, k', hpr, w2, hn2, hkv2, _, _, _, _, _, hord⟩ :=
        promote_spec hc (h.n + 1 + 1) h1 (h.n + 1) w1 (Nat.le_of_eq h1n) (Nat.le_add_left 1 _) (Nat.le_of_eq h1n.symm)
          (Nat.lt_succ_self _) hup.hole
      rw [hpr]
      have habs : abs h2 = (abs h).set i (some (key, val)) := by
        rw [abs_congr hkv2, abs_set (h := h) (i := i.toNat) (by omega) h1kvs, hji]
      refine ⟨h2, true, rfl, ⟨?_, ?_, ?_⟩, ?_⟩
      · rw [hn2, h1n]; exact w2
      · rw [hn2]; exact hord (Or.inr (hup.below (forest_par 1 _)))
      · rw [hn2, h1n, habs, Spec.card_set_some_new _ hrange ha, ← inv.card]
      · rw [habs]; exact .insert_ok hrange ha

theorem posOf_spec {j p : Nat} (hp : h.pos[j]? = some (p : Int)) : h.posOf j = .ok p := by
  unfold posOf; rw [hp]; simp

theorem wf_setKey (w : Wf cap N h) {j : Nat} {e0 : K × V}
    (hkv : h.kvs[j]? = some (some e0)) (key : K) (v : V) : Wf cap N (setKeyRaw h j key v) := by
  have hK := getElem?_set_one h.kvs (some (key, v)) (Array.getElem?_eq_some_iff.1 hkv).1
  refine ⟨w.hsize, w.psize, by simpa [setKeyRaw] using w.ksize, w.nle, fun k hk1 hkN => ?_, fun x hx => ?_⟩
  · obtain ⟨c, hc, hcc, hpc, e, he⟩ := w.fwd k hk1 hkN
    refine ⟨c, hc, hcc, hpc, ?_⟩
    simp only [setKeyRaw, hK]
    by_cases hcj : c = j
    · exact ⟨(key, v), if_pos hcj⟩
    · exact ⟨e, by rw [if_neg hcj]; exact he⟩
  · simp only [setKeyRaw, hK]
    by_cases hxj : x = j
    · rcases w.bwd x hx with ⟨_, p2⟩ | ⟨k, hk1, hkN, hp, hh, e, he⟩
      · rw [hxj, hkv] at p2; cases p2
      · exact Or.inr ⟨k, hk1, hkN, hp, hh, (key, v), if_pos hxj⟩
    · rw [if_neg hxj]; exact w.bwd x hx

theorem changeKey_sim (hc : LawfulCmp cmp) (inv : Inv cmp cap h) (i : Int) (key : K) :
    ∃ h' b, h.changeKey cmp i key = .ok (h', b) ∧ Inv cmp cap h' ∧
      Spec.Admit cmp eq cap (abs h) (.changeKey i key) (.bool b) (abs h') := by
  have w := inv.wf
  have hci := containsIndex_spec w i
  cases ha : abs h i with
  | none =>
    rw [ha] at hci
    exact ⟨h, false, by unfold changeKey; rw [hci]; rfl, inv, .changeKey_fail ha⟩
  | some e =>
    obtain ⟨k0, v⟩ := e
    rw [ha] at hci
    obtain ⟨hrange, hkv, p, hp1, hpn, hpos, hheap⟩ := held_of_abs w ha
    have hji : ((i.toNat : Nat) : Int) = i := by unfold Spec.InRange at hrange; omega
    have hjc : i.toNat < cap := by unfold Spec.InRange at hrange; omega
    rw [changeKey_eq, hci]
    simp only [Outcome.ok_bind, Option.isSome_some, Bool.not_true, Bool.false_eq_true, if_false, hkv, at?_some]
    generalize hh1 : setKeyRaw h i.toNat key v = h1
    have w1 : Wf cap h.n h1 := by rw [← hh1]; exact wf_setKey w hkv key v
    have h1n : h1.n = h.n := by rw [← hh1]; rfl
    have h1heap : h1.heap = h.heap := by rw [← hh1]; rfl
    have h1pos : h1.pos = h.pos := by rw [← hh1]; rfl
    have h1kvs : h1.kvs = h.kvs.setIfInBounds i.toNat (some (key, v)) := by rw [← hh1]; rfl
    rw [posOf_spec (by rw [h1pos]; exact hpos), Outcome.ok_bind]
    have hkey : ∀ q, 1 ≤ q → q ≤ h.n → q ≠ p → keyP h1 q = keyP h q := by
      intro q hq1 hqn hqp
      refine keyP_congr_kvs (by rw [h1heap]) fun c hcc => ?_
      rw [h1kvs, Array.getElem?_setIfInBounds, if_neg (heap_ne_of_pos w hq1 hqn hcc hpos hqp).symm]
    have hole1 : Hole (LeP cmp (keyP h1)) (Par 1 h1.n) p := by
      rw [h1n]; exact hole_congr hkey (ord_hole hc inv.ord)
    obtain ⟨h2, k', hpr, w2, hn2, hkv2, hk'1, hk'p, hheap2, hdown, _, _⟩ :=
      promote_spec hc (p + 1) h1 p w1 (Nat.le_of_eq h1n) hp1 (Nat.le_trans hpn (Nat.le_of_eq h1n.symm))
        (Nat.lt_succ_self p) hole1
    rw [hpr, Outcome.ok_bind]
    have hpos2 : h2.pos[i.toNat]? = some (k' : Int) := by
      obtain ⟨c, hcc, _, hpc, _⟩ := w2.fwd k' hk'1 (Nat.le_trans hk'p hpn)
      rw [hheap2, h1heap, hheap] at hcc
      have : c = i.toNat := (Option.some.inj hcc).symm
      subst this; exact hpc
    rw [posOf_spec hpos2, Outcome.ok_bind]
    obtain ⟨h3, hde, w3, hn3, hkv3, hord3, _⟩ :=
      demote_spec hc (h2.n + 1) h2 k' w2 (Nat.le_of_eq (hn2.trans h1n)) hk'1 (Nat.le_trans hk'p hpn) (by omega)
        (Nat.succ_pos _) (by rw [hn2]; exact hdown)
    rw [hde]
    have habs : abs h3 = (abs h).set i (some (key, v)) := by
      rw [abs_congr hkv3, abs_congr hkv2, abs_set (h := h) (i := i.toNat) (by rw [w.ksize]; exact hjc) h1kvs, hji]
    refine ⟨h3, true, rfl, ⟨?_, ?_, ?_⟩, ?_⟩
    · rw [hn3, hn2, h1n]; exact w3
    · rw [hn3]; exact hord3
    · rw [hn3, hn2, h1n, habs, Spec.card_set_some_old _ _ hrange ha, ← inv.card]
    · rw [habs]; exact .changeKey_ok ha (Or.inl rfl)

theorem wf_decN (w : Wf cap N h) : Wf cap N (decN h) :=
  ⟨w.hsize, w.psize, w.ksize, w.nle, w.fwd, w.bwd⟩

theorem root_spec (hc : LawfulCmp cmp) (inv : Inv cmp cap h) (hn : h.n ≠ 0) :
    ∃ (i0 : Nat) (k : K) (v : V), h.heap[1]? = some i0 ∧ h.kvs[i0]? = some (some (k, v)) ∧
      abs h (i0 : Int) = some (k, v) ∧
      Spec.Extremal cmp (abs h) k := by
  obtain ⟨i0, h1, hi0c, _, ⟨k, v⟩, hkv⟩ := inv.wf.fwd 1 (Nat.le_refl 1) (by omega)
  refine ⟨i0, k, v, h1, hkv, by rw [abs_nat (by rw [inv.wf.ksize]; exact hi0c), hkv]; rfl, ?_⟩
  intro j kj vj hj
  obtain ⟨_, hkvj, p, hp1, hpn, _, hheap⟩ := held_of_abs inv.wf hj
  have hk1 : keyP h 1 = some k := by unfold keyP; simp [h1, hkv]
  have hkp : keyP h p = some kj := by unfold keyP; simp [hheap, hkvj]
  obtain ⟨ka, kb, ha, hb, hle⟩ := (ord_iff.1 inv.ord).root_le (leP_trans hc) (LeP.refl hc hk1) p hp1 hpn
  rw [hk1] at ha; rw [hkp] at hb
  cases ha; cases hb; exact hle

theorem empty_of_n_zero (w : Wf cap h.n h) (hn : h.n = 0) (i : Int) : abs h i = none := by
  cases ha : abs h i with
  | none => rfl
  | some e =>
    obtain ⟨_, _, p, hp1, hp0, _⟩ := held_of_abs w ha
    omega

/-- what `Delete` (`k = 1`) and `DeleteIndex` share -/
theorem remove_spec (hc : LawfulCmp cmp) (inv : Inv cmp cap h) {k j : Nat} {e : K × V}
    (hk1 : 1 ≤ k) (hkn : k ≤ h.n) (hheap : h.heap[k]? = some j) (ha : abs h (j : Int) = some e) :
    ∃ h1 h3 h4 h5, h.swap k h.n = .ok h1 ∧ h1.n = h.n ∧ (decN h1).promote cmp (k + 1) k = .ok h3 ∧
      h3.demote cmp (h3.n + 1) k = .ok h4 ∧ h4.clearIndex j = .ok h5 ∧
      Inv cmp cap h5 ∧ abs h5 = (abs h).set (j : Int) none := by
  obtain ⟨m, hm⟩ : ∃ m, h.n = m + 1 := ⟨h.n - 1, by omega⟩
  obtain ⟨h1, hsw, w1, hn1, hkv1, hheap1⟩ := swap_spec inv.wf hk1 hkn (Nat.le_trans hk1 hkn) (Nat.le_refl _)
  have w2 : Wf cap h.n (decN h1) := wf_decN w1
  have hn2 : (decN h1).n = m := by show h1.n - 1 = m; omega
  have hle2 : (decN h1).n ≤ h.n := by omega
  have hkey2 : ∀ q, keyP (decN h1) q = keyP h (tr k h.n q) := fun q =>
    keyP_of_heap_eq (h' := decN h1) hkv1 (hheap1 q)
  have hordm : Ord cmp (keyP h) m := ord_mono inv.ord (by omega)
  -- after `promote`: only the edges below `k` can be out of order, the entry to remove is still at `m + 1`
  obtain ⟨h3, hpr, w3, hn3, hkv3, hd3, hlast3⟩ : ∃ h3, (decN h1).promote cmp (k + 1) k = .ok h3 ∧ Wf cap h.n h3 ∧
      h3.n = m ∧ h3.kvs = h.kvs ∧ Down (LeP cmp (keyP h3)) (Par 1 m) k ∧ h3.heap[h.n]? = h1.heap[h.n]? := by
    by_cases hkl : k = h.n
    · -- the last position: its parent is before it, `promote` does nothing
      have hkeq : ∀ q, keyP (decN h1) q = keyP h q := fun q => by rw [hkey2, hkl, tr_self]
      refine ⟨_, promote_stop hc w2 hk1 hkn ?_, w2, hn2, hkv1, ord_down hc (ord_congr (fun q _ _ => hkeq q) hordm), rfl⟩
      by_cases hk2 : k ≤ 1
      · exact Or.inl hk2
      · exact Or.inr (LeP.congr (hkeq _) (hkeq _) (inv.ord k (Nat.lt_of_not_le hk2) hkn))
    · have hole2 : Hole (LeP cmp (keyP (decN h1))) (Par 1 m) k :=
        hole_congr (fun q hq1 hqm hqk => by rw [hkey2, tr_other hqk (by omega)]) (ord_hole hc hordm)
      obtain ⟨h3, k', hpr, w3, hn3, hkv3, hk'1, hk'k, _, hdown3, hrest3, hmoved⟩ :=
        promote_spec hc (k + 1) (decN h1) k w2 hle2 hk1 (by omega) (Nat.lt_succ_self k) (hn2 ▸ hole2)
      refine ⟨h3, hpr, w3, hn3.trans hn2, hkv3.trans hkv1, ?_, hrest3 h.n (by omega)⟩
      rw [hn2] at hdown3 hmoved
      by_cases hk'' : k' < k
      · exact ord_down hc (hmoved (Or.inl hk''))
      · exact Nat.le_antisymm hk'k (Nat.not_lt.1 hk'') ▸ hdown3
  obtain ⟨h4, hde, w4, hn4, hkv4, hord4, hrest4⟩ :=
    demote_spec hc (h3.n + 1) h3 k w3 (by omega) hk1 hkn (by omega) (Nat.succ_pos _) (hn3 ▸ hd3)
  have hlast4 : h4.heap[m + 1]? = some j := by
    rw [← hm, hrest4 h.n (by omega), hlast3, hheap1, tr_right, hheap]
  obtain ⟨h5, hcl, inv5, habs⟩ :=
    clear_sim inv hm (hm ▸ w4) (hn4.trans hn3) (hkv4.trans hkv3) (hn3 ▸ hord4) hlast4 ha
  exact ⟨h1, h3, h4, h5, hsw, hn1, hpr, hde, hcl, inv5, habs⟩

theorem delete_sim (hc : LawfulCmp cmp) (inv : Inv cmp cap h) :
    ∃ h' r, h.delete cmp = .ok (h', r) ∧ Inv cmp cap h' ∧
      Spec.Admit cmp eq cap (abs h) .delete (.ikv r) (abs h') := by
  by_cases hn : h.n = 0
  · exact ⟨h, none, by unfold delete; rw [if_pos hn], inv, .delete_none (empty_of_n_zero inv.wf hn)⟩
  · obtain ⟨i0, k, v, h1, hkv, habs0, hext⟩ := root_spec hc inv hn
    obtain ⟨h1', h3, h4, h5, hsw, _, hpr, hde, hcl, inv5, habs⟩ :=
      remove_spec hc inv (Nat.le_refl 1) (Nat.pos_of_ne_zero hn) h1 habs0
    -- `promote` at the root returns at once: `Delete` is `DeleteIndex` of the index at the root
    cases hpr
    rw [delete_eq, if_neg hn]
    simp only [h1, hkv, at?_some, Outcome.ok_bind, hsw, hde, hcl]
    exact ⟨h5, _, rfl, inv5, habs ▸ .delete_some habs0 hext⟩

theorem deleteIndex_sim (hc : LawfulCmp cmp) (inv : Inv cmp cap h) (i : Int) :
    ∃ h' r, h.deleteIndex cmp i = .ok (h', r) ∧ Inv cmp cap h' ∧
      Spec.Admit cmp eq cap (abs h) (.deleteIndex i) (.kv r) (abs h') := by
  have hci := containsIndex_spec inv.wf i
  cases ha : abs h i with
  | none =>
    rw [ha] at hci
    exact ⟨h, none, by unfold deleteIndex; rw [hci]; rfl, inv, .deleteIndex_none ha⟩
  | some e =>
    rw [ha] at hci
    obtain ⟨hrange, hkv, k, hk1, hkn, hpos, hheap⟩ := held_of_abs inv.wf ha
    have hji : ((i.toNat : Nat) : Int) = i := by unfold Spec.InRange at hrange; omega
    obtain ⟨h1, h3, h4, h5, hsw, hn1, hpr, hde, hcl, inv5, habs⟩ := remove_spec hc inv hk1 hkn hheap (hji.symm ▸ ha)
    rw [deleteIndex_eq, hci]
    simp only [Outcome.ok_bind, Option.isSome_some, Bool.not_true, Bool.false_eq_true, if_false, posOf_spec hpos, hkv,
      at?_some, hsw]
    rw [if_neg (by omega), hpr, Outcome.ok_bind, hde, Outcome.ok_bind, hcl]
    rw [hji] at habs
    exact ⟨h5, some e, rfl, inv5, habs ▸ .deleteIndex_some ha⟩

theorem peek_sim (hc : LawfulCmp cmp) (inv : Inv cmp cap h) :
    ∃ r, h.peek = .ok r ∧ Spec.Admit cmp eq cap (abs h) .peek (.ikv r) (abs h) := by
  have w := inv.wf
  by_cases hn : h.n = 0
  · exact ⟨none, by unfold peek; rw [if_pos hn], .peek_none (empty_of_n_zero inv.wf hn)⟩
  · obtain ⟨i0, k, v, h1, hkv, habs0, hext⟩ := root_spec hc inv hn
    exact ⟨some (Int.ofNat i0, k, v), by unfold peek; rw [if_neg hn, h1]; simp only []; rw [hkv],
      .peek_some habs0 hext⟩

theorem peekIndex_sim (inv : Inv cmp cap h) (i : Int) :
    ∃ r, h.peekIndex i = .ok r ∧ Spec.Admit cmp eq cap (abs h) (.peekIndex i) (.kv r) (abs h) := by
  refine ⟨abs h i, ?_, .peekIndex⟩
  unfold peekIndex
  rw [containsIndex_spec inv.wf i]
  cases ha : abs h i with
  | none => rfl
  | some e =>
    obtain ⟨_, hkv, _⟩ := held_of_abs inv.wf ha
    simp only [Option.isSome_some, hkv]

theorem any_kvs_iff (f : Option (K × V) → Bool) (h0 : f none = false) :
    h.kvs.toList.any f = true ↔ ∃ i k v, abs h i = some (k, v) ∧ f (some (k, v)) = true := by
  rw [List.any_eq_true]
  constructor
  · rintro ⟨e, hmem, hp⟩
    obtain ⟨j, hj, hje⟩ := List.getElem_of_mem hmem
    rw [Array.length_toList] at hj
    rw [Array.getElem_toList] at hje
    cases e with
    | none => rw [h0] at hp; cases hp
    | some kv =>
      refine ⟨(j : Int), kv.1, kv.2, ?_, hp⟩
      rw [abs_nat hj, Array.getElem?_eq_getElem hj, hje]; rfl
  · rintro ⟨i, k, v, ha, hp⟩
    unfold abs at ha
    split at ha
    · rename_i hr
      have hlt : i.toNat < h.kvs.size := by omega
      rw [Array.getElem?_eq_getElem hlt, Option.join_some] at ha
      exact ⟨some (k, v), ha ▸ Array.getElem_mem_toList hlt, hp⟩
    · cases ha

theorem containsKey_sim (key : K) :
    Spec.Admit cmp eq cap (abs h) (.containsKey key) (.bool (h.containsKey cmp key)) (abs h) :=
  Spec.AdmitG.containsKey <| (any_kvs_iff _ rfl).trans <| by simp only [beq_iff_eq]

theorem containsValue_sim (val : V) :
    Spec.Admit cmp eq cap (abs h) (.containsValue val) (.bool (h.containsValue eq val)) (abs h) :=
  Spec.AdmitG.containsValue (any_kvs_iff _ rfl)

theorem replicate_join {α : Type} (n j : Nat) :
    ((Array.replicate n (none : Option α))[j]?).join = none := by
  rw [Array.getElem?_replicate]; split <;> rfl

theorem inv_new (cmp : K → K → Int) (cap : Nat) : Inv cmp cap (new cap : IBinary K V) := by
  refine ⟨⟨by simp [new], by simp [new], by simp [new], Nat.zero_le _, ?_, ?_⟩, ?_, ?_⟩
  · intro k hk1 hk0; exact absurd hk0 (by simp [new]; omega)
  · intro i hi; left; simp [new, hi]
  · intro j hj2 hj0; exact absurd hj0 (by simp [new]; omega)
  · show 0 = Spec.card cap _
    rw [Spec.card_eq_zero]
    intro i
    unfold abs
    split
    · exact replicate_join _ _
    · rfl

theorem abs_new (cap : Nat) : abs (new cap : IBinary K V) = Spec.Map.empty := by
  funext i
  unfold abs Spec.Map.empty
  split
  · exact replicate_join _ _
  · rfl

theorem deleteAll_eq_new (inv : Inv cmp cap h) :
    h.deleteAll = (new cap : IBinary K V) := by
  unfold deleteAll new
  rw [inv.wf.hsize, inv.wf.psize, inv.wf.ksize]

theorem step_sim (hc : LawfulCmp cmp) (eq : V → V → Bool) (h : IBinary K V) (op : Op K V)
    (inv : Inv cmp cap h) :
    ∃ h' r, step cmp eq h op = .ok (h', r) ∧ Inv cmp cap h' ∧ Spec.Admit cmp eq cap (abs h) op r (abs h') := by
  cases op with
  | insert i k v =>
    obtain ⟨h', b, he, hi, ha⟩ := insert_sim (eq := eq) hc inv i k v
    exact ⟨h', .bool b, congrArg (Outcome.map _) he, hi, ha⟩
  | changeKey i k =>
    obtain ⟨h', b, he, hi, ha⟩ := changeKey_sim (eq := eq) hc inv i k
    exact ⟨h', .bool b, congrArg (Outcome.map _) he, hi, ha⟩
  | delete =>
    obtain ⟨h', r, he, hi, ha⟩ := delete_sim (eq := eq) hc inv
    exact ⟨h', .ikv r, congrArg (Outcome.map _) he, hi, ha⟩
  | deleteIndex i =>
    obtain ⟨h', r, he, hi, ha⟩ := deleteIndex_sim (eq := eq) hc inv i
    exact ⟨h', .kv r, congrArg (Outcome.map _) he, hi, ha⟩
  | deleteAll =>
    refine ⟨h.deleteAll, .unit, rfl, ?_, ?_⟩
    · rw [deleteAll_eq_new inv]; exact inv_new cmp cap
    · rw [deleteAll_eq_new inv, abs_new]; exact .deleteAll
  | peek =>
    obtain ⟨r, he, ha⟩ := peek_sim (eq := eq) hc inv
    exact ⟨h, .ikv r, congrArg (Outcome.map _) he, inv, ha⟩
  | peekIndex i =>
    obtain ⟨r, he, ha⟩ := peekIndex_sim (eq := eq) inv i
    exact ⟨h, .kv r, congrArg (Outcome.map _) he, inv, ha⟩
  | containsIndex i =>
    exact ⟨h, _, congrArg (Outcome.map _) (containsIndex_spec inv.wf i), inv, .containsIndex⟩
  | containsKey k => exact ⟨h, _, rfl, inv, containsKey_sim k⟩
  | containsValue v => exact ⟨h, _, rfl, inv, containsValue_sim v⟩
  | size =>
    refine ⟨h, .int h.n, rfl, inv, ?_⟩
    rw [inv.card]; exact .size
  | isEmpty =>
    refine ⟨h, .bool (h.n == 0), rfl, inv, .isEmpty ?_⟩
    constructor
    · intro hb
      exact empty_of_n_zero inv.wf (by simpa using hb)
    · intro hall
      have := inv.card
      rw [Spec.card_eq_zero hall] at this
      simp [this]

end AlgoVerif.C05.IBinary
