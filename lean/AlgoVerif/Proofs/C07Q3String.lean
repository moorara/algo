import AlgoVerif.Proofs.C07StrCommon
import AlgoVerif.Proofs.C07Simple
import AlgoVerif.Proofs.C07Quick3
/-!
# C07 — 3-way string quicksort (`radixsort/quick.go`, `Quick3WayString`)
-/
namespace AlgoVerif.C07
open AlgoVerif AlgoVerif.Generated

def chrCmp (d : Nat) (x y : List UInt8) : Int := chr x d - chr y d

theorem q3sLoop_eq (x0 : List UInt8) (d : Nat) : ∀ (f : Nat) (lt i gt : Int) (a : Array (List UInt8)),
    q3sLoop (chr x0 d) (d : Int) f lt i gt a = q3Loop (chrCmp d) x0 f lt i gt a := by
  intro f
  induction f with
  | zero => intros; rfl
  | succ f ih =>
    intro lt i gt a
    unfold q3sLoop q3Loop
    by_cases h : i ≤ gt
    · simp only [h, ↓reduceIte]
      cases hx : get a i with
      | panic => rfl
      | diverge => rfl
      | ok x =>
        simp only [ok_bind, charAt_nat, chrCmp]
        have e1 : (chr x d - chr x0 d < 0) ↔ (chr x d < chr x0 d) := by omega
        have e2 : (chr x d - chr x0 d > 0) ↔ (chr x d > chr x0 d) := by omega
        simp only [e1, e2, ih]
    · simp only [h, ↓reduceIte]

/-- On `[lo, hi1)` every string has the prefix `w` of length `d` and at most `M` bytes.  The measure is
`(hi1 - lo) + (M - d)`: the outer calls shrink the segment; the middle call keeps it and deepens `d`, and `d < M`
there because its strings have a character at `d`.  The blocks are separated by `chrCmp d` while the order is
`bytesCmp`, so `sortedSeg_of_pivot` does not apply: across blocks `bytesCmp_lt_of_chr` decides (common prefix,
smaller character at `d`). -/
theorem q3StringAux_spec (M : Nat) : ∀ (f : Nat) (a : Array (List UInt8)) (lo hi1 d : Nat) (w : List UInt8),
    lo ≤ hi1 → hi1 ≤ a.size → w.length = d →
    AllSeg (fun s => s.take d = w ∧ s.length ≤ M) a lo hi1 →
    (hi1 - lo) + (M - d) < f →
    ∃ a', q3StringAux f a (lo : Int) ((hi1 : Int) - 1) (d : Int) = .ok a' ∧
      SegStep a a' lo hi1 ∧ SortedSeg bytesCmp a' lo hi1 := by
  intro f
  induction f with
  | zero => intros; omega
  | succ f ih =>
    intro a lo hi1 d w hlh hsz hw hQ hf
    unfold q3StringAux
    by_cases hcut : hi1 ≤ lo + 16
    · obtain ⟨n, rfl⟩ : ∃ n, hi1 = lo + n := ⟨hi1 - lo, by omega⟩
      have c1 : (((lo + n : Nat) : Int) - 1 ≤ (lo : Int) + ((radixsort_quick3WayString_CUTOFF : Nat) : Int)) := by
        simp only [radixsort_quick3WayString_CUTOFF]; omega
      simp only [c1, ↓reduceIte]
      exact rInsertion_segStep bytesCmp_tp bytesLt_iff a lo n hsz
    · have c1 : ¬ ((hi1 : Int) - 1 ≤ (lo : Int) + ((radixsort_quick3WayString_CUTOFF : Nat) : Int)) := by
        simp only [radixsort_quick3WayString_CUTOFF]; omega
      simp only [c1, ↓reduceIte]
      clear c1
      have hlo : lo < a.size := by omega
      rw [get_nat hlo]
      simp only [ok_bind, charAt_nat, q3sLoop_eq]
      have e1 : (lo:Int)+1 = ((lo+1:Nat):Int) := rfl
      rw [e1]
      obtain ⟨a1, lt, gt1, r1, S1, r6, r7, r8, r9, r10, r11⟩ :=
        q3Loop_spec (cmp := chrCmp d) (a[lo]'hlo) lo hi1 (a.size + 1) lo (lo+1) hi1 a (by omega) hsz
          (fun p _ _ _ => by omega) (.single fun _ => Int.sub_self _) (fun p _ _ _ => by omega)
      rw [r1]
      simp only [ok_bind]
      have e2 : (gt1 : Int) - 1 + 1 = (gt1 : Int) := by omega
      rw [e2]
      have hsz1 := S1.size
      have hQ1 := S1.pres _ hQ
      obtain ⟨a2, s1, S2, sorted2⟩ := ih a1 lo lt d w (by omega) (by omega) hw
        (hQ1.sub (Nat.le_refl _) (by omega)) (by omega)
      rw [s1]
      simp only [ok_bind]
      have W2 := S2.widen (Nat.le_refl lo) (by omega : lt ≤ hi1)
      have hQ2 := W2.pres _ hQ1
      have ZM2 := S2.allSeg_disjoint (Or.inr (Nat.le_refl _)) r10
      have hsz2 := S2.size
      have hmid : ∃ a2', (if chr (a[lo]'hlo) d ≥ 0 then q3StringAux f a2 (lt : Int) ((gt1 : Int) - 1) ((d : Int) + 1)
          else .ok a2 : Outcome (Array (List UInt8))) = .ok a2' ∧ SegStep a2 a2' lt gt1 ∧
          SortedSeg bytesCmp a2' lt gt1 := by
        split
        · next hv =>
          obtain ⟨b, _, hb⟩ := chr_nonneg hv
          have e3 : (d:Int)+1 = ((d+1:Nat):Int) := rfl
          rw [e3]
          have hQm : AllSeg (fun s => s.take (d+1) = w ++ [b] ∧ s.length ≤ M) a2 lt gt1 := by
            intro p hp1 hp2 hpa
            have h1 := hQ2 p (by omega) (by omega) hpa
            have h2 := ZM2 p hp1 hp2 hpa
            simp only [chrCmp] at h2
            exact ⟨(take_succ_of_chr h1.1 (by omega)).1, h1.2⟩
          have hdM : d < M := by
            have h1 := hQ2 lt (by omega) (by omega) (by omega)
            have h2 := ZM2 lt (Nat.le_refl _) (by omega) (by omega)
            simp only [chrCmp] at h2
            have := (take_succ_of_chr (b := b) h1.1 (by omega)).2
            omega
          exact ih a2 lt gt1 (d+1) (w ++ [b]) (by omega) (by omega) (by simp [hw]) hQm (by omega)
        · next hv =>
          refine ⟨a2, rfl, SegStep.refl _ _ _, ?_⟩
          intro p q hp hpq hq hqa
          have h1 := hQ2 p (by omega) (by omega) (by omega)
          have h2 := ZM2 p hp (by omega) (by omega)
          have g1 := hQ2 q (by omega) (by omega) hqa
          have g2 := ZM2 q (by omega) hq hqa
          simp only [chrCmp] at h2 g2
          rw [eq_of_chr_neg h1.1 (by omega), eq_of_chr_neg g1.1 (by omega), bytesCmp_self]
          omega
      obtain ⟨a2', m1, S2', sortedM⟩ := hmid
      rw [m1]
      simp only [ok_bind]
      have W2' := S2'.widen (by omega : lo ≤ lt) (by omega : gt1 ≤ hi1)
      have hQ2' := W2'.pres _ hQ2
      have hsz2' := S2'.size
      obtain ⟨a3, t1, S3, sorted3⟩ := ih a2' gt1 hi1 d w (by omega) (by omega) hw
        (hQ2'.sub (by omega) (Nat.le_refl _)) (by omega)
      have hsz3 := S3.size
      have W3 := S3.widen (by omega : lo ≤ gt1) (Nat.le_refl hi1)
      have hQ3 := W3.pres _ hQ2'
      refine ⟨a3, t1, S1.trans (W2.trans (W2'.trans W3)), ?_⟩
      have ZL3 :=
        S3.allSeg_disjoint (Or.inl (by omega)) (S2'.allSeg_disjoint (Or.inl (Nat.le_refl _)) (S2.pres _ r9))
      have ZM3 :=
        S3.allSeg_disjoint (Or.inl (Nat.le_refl _)) (S2'.pres _ ZM2)
      have ZR3 :=
        S3.pres _ (S2'.allSeg_disjoint (Or.inr (Nat.le_refl _)) (S2.allSeg_disjoint (Or.inr (by omega)) r11))
      have sortedL : SortedSeg bytesCmp a3 lo lt :=
        S3.sortedSeg_disjoint (Or.inl (by omega)) (S2'.sortedSeg_disjoint (Or.inl (Nat.le_refl _)) sorted2)
      have sortedM3 : SortedSeg bytesCmp a3 lt gt1 := S3.sortedSeg_disjoint (Or.inl (Nat.le_refl _)) sortedM
      intro p q hp hpq hq hqa
      -- both in one block: that block's call; else the characters at `d` differ in sign against the pivot's
      by_cases c1 : q < lt
      · exact sortedL p q hp hpq c1 hqa
      · by_cases c2 : gt1 ≤ p
        · exact sorted3 p q c2 hpq hq hqa
        · by_cases c3 : lt ≤ p ∧ q < gt1
          · exact sortedM3 p q c3.1 hpq c3.2 hqa
          · have h1 := hQ3 p hp (by omega) (by omega)
            have h2 := hQ3 q (by omega) hq hqa
            refine Int.le_of_lt (bytesCmp_lt_of_chr hw h1.1 h2.1 ?_)
            by_cases c4 : p < lt
            · have hp' : chr _ d - _ < 0 := ZL3 p hp c4 (by omega)
              by_cases c5 : q < gt1
              · have hq' : chr _ d - _ = 0 := ZM3 q (by omega) c5 hqa
                omega
              · have hq' : chr _ d - _ > 0 := ZR3 q (by omega) hq hqa
                omega
            · have hp' : chr _ d - _ = 0 := ZM3 p (by omega) (by omega) (by omega)
              have hq' : chr _ d - _ > 0 := ZR3 q (by omega) hq hqa
              omega

theorem q3String_spec (choice : Nat → Int) (a : Array (List UInt8)) (hc : IntnContract choice a.size) :
    ∃ out, q3String choice a = .ok out ∧ out.toList = a.toList.mergeSort bytesLe := by
  obtain ⟨a0, h1, h2⟩ := shuffle_spec (choice := choice) a hc
  obtain ⟨out, g1, S, g3⟩ := q3StringAux_spec (maxLen a0) (a0.size + maxLen a0 + 2) a0 0 a0.size 0 []
    (Nat.zero_le _) (Nat.le_refl _) rfl
    (fun p _ _ hpa => ⟨List.take_zero, maxLen_ge a0 p hpa⟩) (by omega)
  refine ⟨out, ?_, eq_mergeSort_of_sorted_perm (S.size ▸ g3) (S.perm.trans h2)⟩
  unfold q3String
  rw [h1]
  simpa [q3StringAt] using g1

end AlgoVerif.C07
