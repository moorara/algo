import AlgoVerif.Proofs.C09LeftFactorPost
import AlgoVerif.Proofs.C08TotalCnf
/-!
# LeftFactor terminates (C08): the Model's fuel is never exhausted

`leftFactor g = lfLoop (4 * sizeOf g + 8) g`; every pass that changes the grammar uses one unit of fuel.

**Why the passes stop.**  The productions of a non-terminal change only when that non-terminal itself is
folded, and a folded non-terminal has alternatives with pairwise different first symbols, so it is never
folded again (`lfHead_changed`: it is `lfStable` afterwards).  A pass visits every declared non-terminal, so
after a pass the only non-terminals that can still be folded are the fresh ones made during that pass — and
their bodies are bodies of a non-terminal folded in that pass with the first symbol removed.  Hence the
bound `Bnd m g` — "every non-terminal that can be folded has bodies of length ≤ m" — goes from `m+1` to `m`
in every pass (`lfPass_bnd`), a non-terminal whose bodies are all empty cannot be folded, and a pass over a
grammar in which nothing can be folded reports "unchanged".  So at most `max body length` passes change
the grammar, which is at most `sizeOf g`.

**Panics.**  The Model's only `.panic` on this path is `addNew`'s in `lfStep`: `AddNewNonTerminal` finds all four
primed names taken (`lfHead_panic` records the failed search, not the grammar it failed in).  `lfNamesSuffice g` is the
run itself — `leftFactor g` is not `.panic` —; with it `leftFactor` returns a grammar, which generates the language of
`g` (`C08_leftfactor_total`).
-/
namespace AlgoVerif.C08
open AlgoVerif AlgoVerif.Gram AlgoVerif.C08.Spec
open LF

namespace LF

theorem take_one_eq_nil {α : Type} {l : List α} (h : l.take 1 = []) : l = [] := by
  cases l with
  | nil => rfl
  | cons a l => simp at h

theorem body_le_foldl (ps : List SProd) : ∀ (a : Nat), a ≤ ps.foldl (fun a p => a + p.body.length + 1) a ∧
    ∀ p ∈ ps, p.body.length ≤ ps.foldl (fun a p => a + p.body.length + 1) a := by
  induction ps with
  | nil => intro a; simp
  | cons q ps ih =>
    intro a
    obtain ⟨h₁, h₂⟩ := ih (a + q.body.length + 1)
    simp only [List.foldl_cons]
    refine ⟨by omega, ?_⟩
    intro p hp
    rcases List.mem_cons.1 hp with rfl | hp
    · omega
    · exact h₂ p hp

theorem body_le_sizeOf (g : G) : ∀ p ∈ g.prods, p.body.length ≤ sizeOf g := by
  intro p hp
  have := (body_le_foldl g.prods 0).2 p hp
  unfold sizeOf
  exact Nat.le_trans this (Nat.le_add_left _ _)

end LF

theorem groupsOK_two {AP : List SProd} {gs : Groups} (hok : GroupsOK AP gs) {e : List SSym × List (List SSym)}
    (he : e ∈ gs) (h2 : 2 ≤ e.2.length) :
    ∃ p ∈ AP, ∃ q ∈ AP, p.body.take 1 = e.1 ∧ q.body.take 1 = e.1 ∧ p.body.drop 1 ≠ q.body.drop 1 ∧ p.body ≠ [] := by
  obtain ⟨s, hs⟩ := List.exists_mem_of_ne_nil _ (hok.nonempty e he)
  obtain ⟨s', hs', hne⟩ := exists_ne_of_nodup (hok.sufs e he) h2 s
  obtain ⟨p, hp, hpk, hps⟩ := hok.from_prod e he s hs
  obtain ⟨q, hq, hqk, hqs⟩ := hok.from_prod e he s' hs'
  refine ⟨p, hp, q, hq, hpk, hqk, fun h => hne (by rw [← hqs, ← hps, h]), fun hnil => ?_⟩
  have hq0 : q.body = [] := take_one_eq_nil (by rw [hqk, ← hpk, hnil]; rfl)
  exact hne (by rw [← hqs, ← hps, hnil, hq0])

theorem unst_witness {g : G} {A : String} (h : lfStable g A = false) :
    ∃ p ∈ g.prods, ∃ q ∈ g.prods, p.head = A ∧ q.head = A ∧ p ≠ q ∧ p.body.take 1 = q.body.take 1 ∧ p.body ≠ [] := by
  unfold lfStable at h
  simp only [Bool.or_eq_false_iff] at h
  have hpg : (groupsOf (prodsOf g.prods A)).filter (fun e => e.2.length ≥ 2) ≠ [] := by
    intro hnil
    rw [hnil] at h
    simp at h
  obtain ⟨e, he⟩ := List.exists_mem_of_ne_nil _ hpg
  obtain ⟨he, hlen⟩ := List.mem_filter.1 he
  obtain ⟨p, hp, q, hq, hpk, hqk, hd, hne⟩ := groupsOK_two (groupsOf_ok (prodsOf g.prods A)) he (by simpa using hlen)
  have hp' := mem_prodsOf.1 hp
  have hq' := mem_prodsOf.1 hq
  exact ⟨p, hp'.1, q, hq'.1, hp'.2, hq'.2, fun e' => hd (by rw [e']), by rw [hpk, hqk], hne⟩

theorem stable_of_distinct {g : G} {A : String}
    (h : ∀ p ∈ g.prods, ∀ q ∈ g.prods, p.head = A → q.head = A → p.body.take 1 = q.body.take 1 → p = q) :
    lfStable g A = true := by
  cases hs : lfStable g A with
  | true => rfl
  | false =>
    obtain ⟨p, hp, q, hq, hpA, hqA, hne, hk, _⟩ := unst_witness hs
    exact absurd (h p hp q hq hpA hqA hk) hne

def Bnd (m : Nat) (g : G) : Prop :=
  ∀ A, lfStable g A = false → ∀ p ∈ g.prods, p.head = A → p.body.length ≤ m

theorem stable_of_bnd_zero {g : G} (h : Bnd 0 g) (A : String) : lfStable g A = true := by
  cases hs : lfStable g A with
  | true => rfl
  | false =>
    obtain ⟨p, hp, _, _, hpA, _, _, _, hne⟩ := unst_witness hs
    have := h A hs p hp hpA
    exact absurd (List.eq_nil_of_length_eq_zero (by omega)) hne

theorem lfHead_stable {g : G} {A : String} (h : lfStable g A = true) : lfHead g A = .ok (g, false) := by
  rw [lfHead_eq, if_pos h]
  rfl

theorem lfHead_ne_diverge (g : G) (A : String) : lfHead g A ≠ .diverge := by
  rw [lfHead_eq]
  split
  · simp [pure]
  · refine bind_ne_diverge (foldlM_ne_diverge (lfStep A) (fun g e => ?_) _ _) fun _ h => nomatch h
    unfold lfStep
    exact bind_ne_diverge (addNew_ne_diverge g A primes) fun _ h => nomatch h

/-- The statement does not tie `g₁` to `g` (in the proof it is the grammar the fold has reached); without that tie the
conclusion holds of every `A`. -/
theorem lfHead_panic {g : G} {A : String} (h : lfHead g A = .panic) :
    ∃ g₁ : G, freshName g₁.nonterms A primes = none := by
  have key : ∀ (l : Groups) (g0 : G), l.foldlM (lfStep A) g0 = .panic →
      ∃ g₁ : G, freshName g₁.nonterms A primes = none := by
    intro l
    induction l with
    | nil => intro g0 h0; cases h0
    | cons e l ih =>
      intro g0 h0
      rw [foldlM_cons] at h0
      rcases bind_eq_panic h0 with hs | ⟨gm, _, h0⟩
      · unfold lfStep at hs
        rcases bind_eq_panic hs with hn | ⟨_, _, h'⟩
        · refine ⟨g0, ?_⟩
          unfold addNew at hn
          split at hn
          · cases hn
          · assumption
        · cases h'
      · exact ih gm h0
  rw [lfHead_eq] at h
  split at h
  · cases h
  · rcases bind_eq_panic h with hf | ⟨_, _, h'⟩
    · exact key _ _ hf
    · cases h'

theorem lfHead_changed {g g' : G} {A : String} (h : lfHead g A = .ok (g', true)) (hw : WellFormed g) :
    lfStable g A = false ∧ lfStable g' A = true ∧
    (∀ B, B ≠ A → B ∈ g.nonterms → prodsOf g'.prods B = prodsOf g.prods B) ∧
    (∀ p ∈ g'.prods, (p ∈ g.prods ∧ p.head ≠ A) ∨ p.head = A ∨
      (p.head ∉ g.nonterms ∧ ∃ x, (⟨A, x :: p.body⟩ : SProd) ∈ g.prods)) := by
  obtain ⟨hunst, hA, F, hgrp, hgnd, _, hfresh, _, _, _, hother, hmem⟩ := lfHead_true h hw
  have hok := groupsOf_ok (prodsOf g.prods A)
  generalize groupsOf (prodsOf g.prods A) = gs at hgrp hmem hok
  have hin : ∀ e ∈ F, e.grp ∈ gs ∧ 2 ≤ e.sufs.length := fun e he => (hgrp _).1 (List.mem_map.2 ⟨e, he, rfl⟩)
  have hkey : ∀ e ∈ F, ∃ x, e.key = [x] := by
    intro e he
    obtain ⟨p, _, _, _, hpk, _, _, hne⟩ := groupsOK_two hok (hin e he).1 (hin e he).2
    cases hb : p.body with
    | nil => exact absurd hb hne
    | cons x xs => exact ⟨x, by rw [hb] at hpk; exact hpk.symm⟩
  refine ⟨hunst, ?_, hother, ?_⟩
  · apply stable_of_distinct
    intro p hp q hq hpA hqA hk
    -- an alternative of `A` in the result belongs to a group, begins with its key, and is determined by it
    have halt : ∀ r ∈ g'.prods, r.head = A → ∃ e ∈ gs, r.body.take 1 = e.1 ∧
        ((2 ≤ e.2.length ∧ ∃ f ∈ F, f.grp = e ∧ r = ⟨A, e.1 ++ [Sym.nonterm f.name]⟩) ∨
         (e.2.length = 1 ∧ ∃ s ∈ e.2, r = ⟨A, e.1 ++ s⟩)) := by
      intro r hr hrA
      rcases (hmem r).1 hr with ⟨_, hne⟩ | ⟨f, hf, rfl | ⟨s, _, rfl⟩⟩ | ⟨e, he, h1, s, hs, rfl⟩
      · exact absurd hrA hne
      · obtain ⟨x, hx⟩ := hkey f hf
        exact ⟨f.grp, (hin f hf).1, by simp [hx], .inl ⟨(hin f hf).2, f, hf, rfl, rfl⟩⟩
      · simp only at hrA
        exact absurd (hrA ▸ hA) (hfresh f hf)
      · exact ⟨e, he, (groupsOK_body hok he hs).2, .inr ⟨h1, s, hs, rfl⟩⟩
    obtain ⟨e, he, hpk, hpe⟩ := halt p hp hpA
    obtain ⟨e', he', hqk, hqe⟩ := halt q hq hqA
    obtain rfl : e = e' := inj_of_nodup_map Prod.fst hok.keys e he e' he' (by rw [← hpk, ← hqk, hk])
    rcases hpe with ⟨h2, f, hf, hfe, rfl⟩ | ⟨h1, s, hs, rfl⟩ <;> rcases hqe with ⟨h2', f', hf', hfe', rfl⟩ | ⟨h1', s', hs', rfl⟩
    · rw [inj_of_nodup_map FGroup.grp hgnd f hf f' hf' (hfe.trans hfe'.symm)]
    · omega
    · omega
    · match hm : e.2, h1, hs, hs' with
      | [t], _, hs, hs' => simp at hs hs'; rw [hs, hs']
  · intro p hp
    rcases (hmem p).1 hp with h₁ | ⟨f, hf, rfl | ⟨s, hs, rfl⟩⟩ | ⟨e, _, _, s, _, rfl⟩
    · exact .inl h₁
    · exact .inr (.inl rfl)
    · obtain ⟨x, hx⟩ := hkey f hf
      have : (⟨A, f.key ++ s⟩ : SProd) ∈ g.prods := (groupsOK_body hok (hin f hf).1 (e := f.grp) hs).1
      rw [hx] at this
      exact .inr (.inr ⟨hfresh f hf, x, by simpa using this⟩)
    · exact .inr (.inl rfl)

/-- invariant of the loop over the non-terminals of one pass: a non-terminal that can be folded has
bodies of length ≤ `m`, or is still to be visited and has bodies of length ≤ `m+1` -/
def PassInv (m : Nat) (todo : List String) (g : G) : Prop :=
  WellFormed g ∧ ∀ B, lfStable g B = false →
    (∀ p ∈ g.prods, p.head = B → p.body.length ≤ m) ∨ (B ∈ todo ∧ ∀ p ∈ g.prods, p.head = B → p.body.length ≤ m + 1)

theorem lfFold_inv (m : Nat) : ∀ (todo : List String) (st st' : G × Bool), PassInv m todo st.1 →
    todo.foldlM (fun (st : G × Bool) A => do
      let (g', ch) ← lfHead st.1 A
      pure (g', st.2 || ch)) st = .ok st' → PassInv m [] st'.1
  | [], st, st', hinv, h => by
    cases h
    exact hinv
  | A :: todo, st, st', hinv, h => by
    rw [foldlM_cons] at h
    obtain ⟨st₁, h₁, h₂⟩ := bind_eq_ok h
    obtain ⟨⟨g₁, ch⟩, hh, hp⟩ := bind_eq_ok h₁
    cases hp
    refine lfFold_inv m todo _ st' ?_ h₂
    simp only
    obtain ⟨hw, hB⟩ := hinv
    cases ch with
    | false =>
      obtain ⟨rfl, hstA⟩ := lfHead_flag hh rfl
      refine ⟨hw, fun B hBu => ?_⟩
      rcases hB B hBu with h | ⟨hmem, h⟩
      · exact .inl h
      · rcases List.mem_cons.1 hmem with rfl | hmem
        · rw [hstA] at hBu; cases hBu
        · exact .inr ⟨hmem, h⟩
    | true =>
      obtain ⟨hAu, hAs, hother, hprods⟩ := lfHead_changed hh hw
      refine ⟨(lfHead_good hh hw).1, fun B hBu => ?_⟩
      have hBA : B ≠ A := fun e => by rw [e, hAs] at hBu; cases hBu
      have hAlen : ∀ p ∈ st.1.prods, p.head = A → p.body.length ≤ m + 1 := by
        rcases hB A hAu with h | ⟨_, h⟩
        · exact fun p hp hpA => Nat.le_succ_of_le (h p hp hpA)
        · exact h
      obtain ⟨p₀, hp₀, _, _, hp₀B, _⟩ := unst_witness hBu
      by_cases hBdecl : B ∈ st.1.nonterms
      · -- an old non-terminal: nothing about it changed
        have heq := hother B hBA hBdecl
        have hBu' : lfStable st.1 B = false := by
          unfold lfStable at hBu ⊢
          rw [← heq]; exact hBu
        have hsame : ∀ p, p ∈ g₁.prods ∧ p.head = B ↔ p ∈ st.1.prods ∧ p.head = B := by
          intro p
          rw [← mem_prodsOf, ← mem_prodsOf, heq]
        rcases hB B hBu' with h | ⟨hmem, h⟩
        · exact .inl (fun p hp hpB => h p ((hsame p).1 ⟨hp, hpB⟩).1 hpB)
        · rcases List.mem_cons.1 hmem with rfl | hmem
          · exact absurd rfl hBA
          · exact .inr ⟨hmem, fun p hp hpB => h p ((hsame p).1 ⟨hp, hpB⟩).1 hpB⟩
      · -- a fresh non-terminal: its bodies are bodies of `A` without the first symbol
        left
        intro p hp hpB
        rcases hprods p hp with ⟨hp', _⟩ | hpA | ⟨_, x, hx⟩
        · exact absurd (hpB ▸ (hw.2 p hp').1) hBdecl
        · exact absurd (hpB.symm.trans hpA) hBA
        · have := hAlen _ hx rfl
          simp only [List.length_cons] at this
          omega

theorem lfPass_bnd {g g' : G} {ch : Bool} {m : Nat} (h : lfPass g = .ok (g', ch)) (hw : WellFormed g)
    (hb : Bnd (m + 1) g) : WellFormed g' ∧ Bnd m g' := by
  unfold lfPass at h
  obtain ⟨nts, hnts, h'⟩ := bind_eq_ok h
  have hinv : PassInv m nts g := by
    refine ⟨hw, fun B hBu => .inr ⟨?_, hb B hBu⟩⟩
    obtain ⟨p, hp, _, _, hpB, _⟩ := unst_witness hBu
    exact orderNT_mem hnts B (hpB ▸ (hw.2 p hp).1)
  obtain ⟨hw', hB⟩ := lfFold_inv m nts (g, false) (g', ch) hinv h'
  refine ⟨hw', fun B hBu => ?_⟩
  rcases hB B hBu with h | ⟨hmem, _⟩
  · exact h
  · cases hmem

theorem lfFold_stable : ∀ (nts : List String) (g : G) (b : Bool), (∀ A, lfStable g A = true) →
    nts.foldlM (fun (st : G × Bool) A => do
      let (g', ch) ← lfHead st.1 A
      pure (g', st.2 || ch)) (g, b) = .ok (g, b)
  | [], _, _, _ => rfl
  | A :: nts, g, b, h => by
    rw [foldlM_cons]
    simp only [lfHead_stable (h A), bind, Outcome.bind, pure, Bool.or_false]
    exact lfFold_stable nts g b h

theorem lfPass_stable {g : G} (h : ∀ A, lfStable g A = true) : lfPass g = .ok (g, false) := by
  obtain ⟨nts, hnts⟩ := orderNT_total g
  unfold lfPass
  simp only [hnts, bind, Outcome.bind]
  exact lfFold_stable nts g false h

theorem lfPass_ne_diverge (g : G) : lfPass g ≠ .diverge := by
  obtain ⟨nts, hnts⟩ := orderNT_total g
  unfold lfPass
  simp only [hnts, bind, Outcome.bind]
  refine foldlM_ne_diverge _ ?_ nts (g, false)
  intro st A
  exact bind_ne_diverge (lfHead_ne_diverge _ _) fun _ h => nomatch h

theorem lfLoop_ne_diverge : ∀ (m fuel : Nat) (g : G), WellFormed g → Bnd m g → m < fuel → lfLoop fuel g ≠ .diverge
  | _, 0, _, _, _, hf => by omega
  | m, fuel + 1, g, hw, hb, hf => by
    simp only [lfLoop]
    cases hp : lfPass g with
    | diverge => exact absurd hp (lfPass_ne_diverge g)
    | panic => simp [bind, Outcome.bind]
    | ok r =>
      obtain ⟨g', ch⟩ := r
      simp only [bind, Outcome.bind]
      cases ch with
      | false => simp [pure]
      | true =>
        simp only [↓reduceIte]
        cases m with
        | zero =>
          have := lfPass_stable (stable_of_bnd_zero hb)
          rw [this] at hp
          cases hp
        | succ m =>
          obtain ⟨hw', hb'⟩ := lfPass_bnd hp hw hb
          exact lfLoop_ne_diverge m fuel g' hw' hb' (by omega)

/-- **LeftFactor never runs out of fuel**: no body is longer than `sizeOf g` -/
theorem C08_leftfactor_ne_diverge {g : G} (hw : WellFormed g) : leftFactor g ≠ .diverge :=
  lfLoop_ne_diverge (sizeOf g) _ g hw (fun _ _ p hp _ => body_le_sizeOf g p hp) (by omega)

/-- "LeftFactor does not run out of primed names", as a computable condition: running the Model does not end
in `.panic` (its only one on this path is `addNew`'s, in `lfStep`) -/
def lfNamesSuffice (g : G) : Bool :=
  match leftFactor g with
  | .panic => false
  | _ => true

/-- **LeftFactor returns, with the same language,** unless it panics: divergence is excluded by
`C08_leftfactor_ne_diverge`, `.panic` by the hypothesis -/
theorem C08_leftfactor_total {g : G} (hv : Valid g) (hn : lfNamesSuffice g = true) :
    ∃ g', leftFactor g = .ok g' ∧ SameLanguage g g' := by
  cases h : leftFactor g with
  | ok g' => exact ⟨g', rfl, C08_leftfactor_of_wellFormed hv.wellFormed h⟩
  | panic => simp [lfNamesSuffice, h] at hn
  | diverge => exact absurd h (C08_leftfactor_ne_diverge hv.wellFormed)

theorem C08_leftfactor_total_full {g : G} (hv : Valid g) (hn : lfNamesSuffice g = true) :
    ∃ g', leftFactor g = .ok g' ∧ SameLanguage g g' ∧ Valid g' ∧ UniformHeads g' := by
  obtain ⟨g', h, hl⟩ := C08_leftfactor_total hv hn
  exact ⟨g', h, hl, C09_leftfactor_valid hv h, C09_leftfactor_uniformHeads h⟩

/-- the hypotheses hold for `S → a b | a c | d`, on which a group really is folded -/
example : ∃ g', leftFactor leftFactorExample = .ok g' ∧ SameLanguage leftFactorExample g' :=
  C08_leftfactor_total leftFactorExample_run.1 (by decide +kernel)

end AlgoVerif.C08
