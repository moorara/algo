import AlgoVerif.Proofs.C16Heap
/-!
# C16 helper lemmas: the heap register machine keeps set objects apart

`Own H regs`: every register holds a valid slice header and no two registers share an array.
It is the invariant of `stepOp_sim` (`Proofs/C16HeapSim.lean`): from such a state, whatever the functional machine
`C16.stepOp` does on the current views, the heap machine `Hp.stepOp` does too — same observation, same views
afterwards — and `Own` holds again.  `Holds` adds what the registers hold; the set-algebra calls keep it.
-/
namespace AlgoVerif.C16.Hp
open AlgoVerif AlgoVerif.C16
variable {α : Type} {σ : Type}

theorem nodup_getElem?_ne {β : Type} : ∀ {l : List β}, l.Nodup → ∀ {i j : Nat} {a b : β},
    l[i]? = some a → l[j]? = some b → i ≠ j → a ≠ b := by
  rintro l h i j a b hi hj hij rfl
  exact hij ((List.getElem?_inj (List.getElem?_eq_some_iff.1 hi).1 h).1 (hi.trans hj.symm))

theorem nodup_set {β : Type} : ∀ {l : List β} (i : Nat) {x : β}, l.Nodup → x ∉ l → (l.set i x).Nodup
  | [], _, _, _, _ => by simp
  | y :: l, i, x, h, hx => by
    have h' := List.nodup_cons.1 h
    cases i with
    | zero =>
      simp only [List.set_cons_zero]
      exact List.nodup_cons.2 ⟨fun hm => hx (List.mem_cons_of_mem _ hm), h'.2⟩
    | succ i =>
      simp only [List.set_cons_succ]
      refine List.nodup_cons.2 ⟨?_, nodup_set i h'.2 (fun hm => hx (List.mem_cons_of_mem _ hm))⟩
      intro hm
      rcases List.mem_or_eq_of_mem_set hm with hm | hm
      · exact h'.1 hm
      · exact hx (hm ▸ List.mem_cons_self ..)

theorem set_same {β : Type} {l : List β} {i : Nat} {a : β} (h : l[i]? = some a) : l.set i a = l := by
  obtain ⟨hi, rfl⟩ := List.getElem?_eq_some_iff.1 h
  exact List.set_getElem_self hi

def Own (H : Heap α) (regs : List (Obj α)) : Prop :=
  (∀ o ∈ regs, Valid H o) ∧ (regs.map (·.buf)).Nodup

theorem getElem?_set_cases {β : Type} {l : List β} {i j : Nat} {a p : β} (hi : i < l.length)
    (h : (l.set i a)[j]? = some p) : (j = i ∧ p = a) ∨ (j ≠ i ∧ l[j]? = some p) := by
  by_cases hji : j = i
  · subst hji
    rw [List.getElem?_set_self hi] at h
    cases h
    exact .inl ⟨rfl, rfl⟩
  · rw [List.getElem?_set_ne (fun e => hji e.symm)] at h
    exact .inr ⟨hji, h⟩

theorem not_mem_bufs_of_ge {H : Heap α} {regs : List (Obj α)} (hown : Own H regs) {b : Nat} (hb : H.size ≤ b) :
    b ∉ regs.map (·.buf) := by
  intro hm
  obtain ⟨p, hp, hpb⟩ := List.mem_map.1 hm
  have := (hown.1 p hp).1
  omega

theorem own_mut {H H' : Heap α} {regs : List (Obj α)} {i : Nat} {o o' : Obj α} {m' : List α} (hown : Own H regs)
    (hi : regs[i]? = some o) (ht : Trans H H' o o' m') :
    Own H' (regs.set i o') ∧ (regs.set i o').map (Obj.abs H') = (regs.map (Obj.abs H)).set i ⟨o.impl, m'⟩ := by
  have hilt := (List.getElem?_eq_some_iff.1 hi).1
  have hother : ∀ j p, regs[j]? = some p → j ≠ i → Valid H' p ∧ p.view H' = p.view H ∧ p.buf ≠ o'.buf := by
    intro j p hj hji
    have hne : p.buf ≠ o.buf :=
      nodup_getElem?_ne hown.2 (by rw [List.getElem?_map, hj]; rfl) (by rw [List.getElem?_map, hi]; rfl) hji
    exact ht.other (hown.1 p (List.mem_of_getElem? hj)) hne
  refine ⟨⟨?_, ?_⟩, ?_⟩
  · intro p hp
    obtain ⟨j, hj⟩ := List.getElem?_of_mem hp
    rcases getElem?_set_cases hilt hj with ⟨_, rfl⟩ | ⟨hji, hj'⟩
    · exact ht.valid
    · exact (hother j p hj' hji).1
  · rw [List.map_set]
    rcases ht.buf with hb | hb
    · rw [hb, set_same (by rw [List.getElem?_map, hi]; rfl)]
      exact hown.2
    · exact nodup_set i hown.2 (not_mem_bufs_of_ge hown hb)
  · apply List.ext_getElem?
    intro j
    rw [List.getElem?_map]
    by_cases hji : j = i
    · subst hji
      rw [List.getElem?_set_self hilt, List.getElem?_set_self (by simpa using hilt)]
      simp [ht.abs]
    · rw [List.getElem?_set_ne (fun e => hji e.symm), List.getElem?_set_ne (fun e => hji e.symm), List.getElem?_map]
      cases hj : regs[j]? with
      | none => rfl
      | some p =>
        have := (hother j p hj hji).2.1
        simp [Obj.abs, this]

theorem own_ext {H H' : Heap α} {regs : List (Obj α)} (hown : Own H regs) (h : Ext H H') :
    Own H' regs ∧ regs.map (Obj.abs H') = regs.map (Obj.abs H) :=
  ⟨⟨fun o ho => ((hown.1 o ho).ext h).1, hown.2⟩,
    List.map_congr_left fun o ho => by simp [Obj.abs, ((hown.1 o ho).ext h).2]⟩

theorem own_set {H : Heap α} {regs : List (Obj α)} (d : Nat) {t : Obj α} (hown : Own H regs) (hv : Valid H t)
    (hb : t.buf ∉ regs.map (·.buf)) :
    Own H (regs.set d t) ∧ (regs.set d t).map (Obj.abs H) = (regs.map (Obj.abs H)).set d (t.abs H) := by
  refine ⟨⟨?_, ?_⟩, List.map_set⟩
  · intro p hp
    rcases List.mem_or_eq_of_mem_set hp with hp | rfl
    · exact hown.1 p hp
    · exact hv
  · rw [List.map_set]
    exact nodup_set d hown.2 hb

theorem getRegs_map (H : Heap α) (regs : List (Obj α)) : ∀ js : List Nat,
    C16.getRegs (regs.map (Obj.abs H)) js = (getObjs regs js).map (List.map (Obj.abs H)) ∧
    ∀ sets, getObjs regs js = some sets → ∀ u ∈ sets, u ∈ regs := by
  intro js
  induction js with
  | nil =>
    exact ⟨rfl, fun sets h u hu => by cases h; cases hu⟩
  | cons j js ih =>
    obtain ⟨ih₁, ih₂⟩ := ih
    simp only [C16.getRegs, getObjs, List.getElem?_map, ih₁]
    cases hj : regs[j]? with
    | none => exact ⟨rfl, fun sets h => by cases h⟩
    | some o =>
      cases hjs : getObjs regs js with
      | none => exact ⟨rfl, fun sets h => by cases h⟩
      | some ss =>
        refine ⟨rfl, fun sets h => ?_⟩
        cases h
        exact List.forall_mem_cons.2 ⟨List.mem_of_getElem? hj, ih₂ ss hjs⟩

/-! Inside a set-algebra call the working copy (the clone being filled) is treated as one more register, at the head of the
list: making it, every round of every loop, and storing it into its destination are then steps that keep `Holds`. -/

def Holds (H : Heap α) (regs : List (Obj α)) (R : List (MSet α)) : Prop :=
  Own H regs ∧ regs.map (Obj.abs H) = R

section
variable {H H' H₁ : Heap α} {regs : List (Obj α)} {R : List (MSet α)} {t u : Obj α} {s a b : MSet α}

theorem Holds.mut {i : Nat} {o o' : Obj α} {s' : MSet α} (h : Holds H regs R) (hi : regs[i]? = some o)
    (ht : Owned H o s' (H', o')) : Holds H' (regs.set i o') (R.set i s') := by
  obtain ⟨hown, hmap⟩ := own_mut h.1 hi ht.1
  exact ⟨hown, by rw [hmap, h.2, ← ht.1.abs, ht.2]⟩

theorem Holds.fresh (h : Holds H regs R) (impl : Impl α) (m pad : List α) :
    Holds (Obj.fresh H impl m pad).1 ((Obj.fresh H impl m pad).2 :: regs) (⟨impl, m⟩ :: R) := by
  obtain ⟨_, _, hv, hbuf, hext⟩ := fresh_spec H impl m pad
  obtain ⟨hown, hmap⟩ := own_ext h.1 hext
  refine ⟨⟨List.forall_mem_cons.2 ⟨hv, hown.1⟩, List.nodup_cons.2 ⟨?_, hown.2⟩⟩, by rw [List.map_cons, fresh_abs, hmap, h.2]⟩
  show (Obj.fresh H impl m pad).2.buf ∉ _
  rw [hbuf]
  exact not_mem_bufs_of_ge h.1 (Nat.le_refl _)

theorem Holds.head (h : Holds H (t :: regs) (s :: R)) : Valid H t ∧ t.abs H = s :=
  ⟨h.1.1 t (List.mem_cons_self ..), (List.cons.inj h.2).1⟩

theorem Holds.tail (h : Holds H (t :: regs) (s :: R)) : Holds H regs R :=
  ⟨⟨fun o ho => h.1.1 o (List.mem_cons_of_mem _ ho), (List.nodup_cons.1 h.1.2).2⟩, (List.cons.inj h.2).2⟩

theorem Holds.put (h : Holds H (t :: regs) (s :: R)) (d : Nat) : Holds H (regs.set d t) (R.set d s) := by
  obtain ⟨hown, hmap⟩ := own_set d h.tail.1 h.head.1 (List.nodup_cons.1 h.1.2).1
  exact ⟨hown, by rw [hmap, h.head.2, h.tail.2]⟩

theorem Holds.swap (h : Holds H (t :: u :: regs) (a :: b :: R)) : Holds H (u :: t :: regs) (b :: a :: R) := by
  obtain ⟨⟨hv, hn⟩, hm⟩ := h
  simp only [List.map_cons, List.cons.injEq] at hm
  refine ⟨⟨fun o ho => hv o ((List.Perm.swap ..).mem_iff.1 ho), (List.Perm.swap ..).nodup_iff.1 hn⟩, ?_⟩
  simp only [List.map_cons, hm]

theorem Holds.work (h : Holds H (t :: regs) (s :: R)) {x : Outcome (MSet α)} {y : Outcome (Heap α × Obj α)}
    (hxy : Outcome.Sim (Owned H t) x y) : Outcome.Sim (fun s' r => Holds r.1 (r.2 :: regs) (s' :: R)) x y :=
  hxy.mono fun _ _ ht => h.mut (i := 0) rfl ht

theorem Holds.same (h : Holds H regs R) (h₁ : Holds H₁ regs R) {us : List (Obj α)} (hus : ∀ u ∈ us, u ∈ regs) :
    us.map (Obj.abs H₁) = us.map (Obj.abs H) :=
  List.map_congr_left fun u hu => List.map_inj_left.1 (h₁.2.trans h.2.symm) u (hus u hu)

end

section
variable {regs : List (Obj α)} {R : List (MSet α)}

/-- what a set-algebra loop returns -/
def Worked (regs : List (Obj α)) (R : List (MSet α)) (r : MSet α × σ) (y : Heap α × Obj α × σ) : Prop :=
  y.2.2 = r.2 ∧ Holds y.1 (y.2.1 :: regs) (r.1 :: R)

theorem unionLoop_sim (sh : Shuffle σ) (grow : Nat → Nat) (us : List (Obj α)) (hus : ∀ u ∈ us, u ∈ regs) :
    ∀ {H : Heap α} {t : Obj α} {s : MSet α} (g : σ), Holds H (t :: regs) (s :: R) →
    Outcome.Sim (Worked regs R) (C16.unionLoop sh s (us.map (Obj.abs H)) g) (unionLoop sh grow H t us g) := by
  induction us with
  | nil => exact fun _ h => .ok ⟨rfl, h⟩
  | cons u us ih =>
    intro H t s g h
    have hus' := fun w hw => hus w (List.mem_cons_of_mem _ hw)
    refine .bind_same fun (ms, g₁) _ => .bind (h.work (addEach_owned grow ms h.head)) fun _ _ h₁ => ?_
    rw [← h.tail.same h₁.tail hus']
    exact ih hus' g₁ h₁

theorem diffLoop_sim (sh : Shuffle σ) (us : List (Obj α)) (hus : ∀ u ∈ us, u ∈ regs) :
    ∀ {H : Heap α} {t : Obj α} {s : MSet α} (g : σ), Holds H (t :: regs) (s :: R) →
    Outcome.Sim (Worked regs R) (C16.diffLoop sh s (us.map (Obj.abs H)) g) (diffLoop sh H t us g) := by
  induction us with
  | nil => exact fun _ h => .ok ⟨rfl, h⟩
  | cons u us ih =>
    intro H t s g h
    have hus' := fun w hw => hus w (List.mem_cons_of_mem _ hw)
    refine .bind_same fun (ms, g₁) _ => .bind (h.work (removeEach_owned ms h.head)) fun _ _ h₁ => ?_
    rw [← h.tail.same h₁.tail hus']
    exact ih hus' g₁ h₁

theorem interLoop_sim (grow : Nat → Nat) (sets : List (Obj α)) (hsets : ∀ u ∈ sets, u ∈ regs) (ms : List α) :
    ∀ {H : Heap α} {t : Obj α} {s : MSet α}, Holds H (t :: regs) (s :: R) →
    Outcome.Sim (fun r y => Holds y.1 (y.2 :: regs) (r :: R)) (C16.interLoop (sets.map (Obj.abs H)) s ms)
      (interLoop grow sets H t ms) := by
  induction ms with
  | nil => exact fun h => .ok h
  | cons m ms ih =>
    exact fun h => .bind_same fun _ _ => .ite
      (fun _ => .bind (h.work (add_owned grow [m] h.head)) fun _ _ h₁ => by
        rw [← h.tail.same h₁.tail hsets]
        exact ih h₁)
      (fun _ => ih h)

theorem selectLoop_sim (grow : Nat → Nat) (p : α → Bool) (ms : List α) :
    ∀ {H : Heap α} {t : Obj α} {s : MSet α}, Holds H (t :: regs) (s :: R) →
    Outcome.Sim (fun r y => Holds y.1 (y.2 :: regs) (r :: R)) (C16.selectLoop p s ms) (selectLoop grow p H t ms) := by
  induction ms with
  | nil => exact fun h => .ok h
  | cons m ms ih =>
    exact fun h => .ite (fun _ => .bind (h.work (add_owned grow [m] h.head)) fun _ _ h₁ => ih h₁) (fun _ => ih h)

theorem partitionLoop_sim (grow : Nat → Nat) (p : α → Bool) (ms : List α) :
    ∀ {H : Heap α} {t u : Obj α} {a b : MSet α}, Holds H (t :: u :: regs) (a :: b :: R) →
    Outcome.Sim (fun r y => Holds y.1 (y.2.1 :: y.2.2 :: regs) (r.1 :: r.2 :: R))
      (C16.partitionLoop p a b ms) (partitionLoop grow p H t u ms) := by
  induction ms with
  | nil => exact fun h => .ok h
  | cons m ms ih =>
    exact fun h => .ite
      (fun _ => .bind (add_owned grow [m] h.head) fun _ _ ht => ih (h.mut (i := 0) rfl ht))
      (fun _ => .bind (add_owned grow [m] h.tail.head) fun _ _ hu => ih (h.mut (i := 1) rfl hu))

variable {H : Heap α} {s : Obj α} (h : Holds H regs R)
include h

theorem union_sim (sh : Shuffle σ) (grow : Nat → Nat) {sets : List (Obj α)} (hsets : ∀ u ∈ sets, u ∈ regs) (g : σ) :
    Outcome.Sim (Worked regs R) ((s.abs H).union sh (sets.map (Obj.abs H)) g) (union sh grow H s sets g) := by
  have h₀ := h.fresh s.impl (s.view H) []
  rw [h₀.tail.same h hsets]
  exact unionLoop_sim sh grow sets hsets g h₀

theorem difference_sim (sh : Shuffle σ) {sets : List (Obj α)} (hsets : ∀ u ∈ sets, u ∈ regs) (g : σ) :
    Outcome.Sim (Worked regs R) ((s.abs H).difference sh (sets.map (Obj.abs H)) g) (difference sh H s sets g) := by
  have h₀ := h.fresh s.impl (s.view H) []
  rw [h₀.tail.same h hsets]
  exact diffLoop_sim sh sets hsets g h₀

theorem intersection_sim (grow : Nat → Nat) {sets : List (Obj α)} (hsets : ∀ u ∈ sets, u ∈ regs) :
    Outcome.Sim (fun r y => Holds y.1 (y.2 :: regs) (r :: R)) ((s.abs H).intersection (sets.map (Obj.abs H)))
      (intersection grow H s sets) := by
  have h₀ := h.fresh s.impl [] []
  rw [h₀.tail.same h hsets]
  exact interLoop_sim grow sets hsets (s.view H) h₀

theorem selectMatch_sim (grow : Nat → Nat) (p : α → Bool) :
    Outcome.Sim (fun r y => Holds y.1 (y.2 :: regs) (r :: R)) ((s.abs H).selectMatch p) (selectMatch grow H s p) :=
  selectLoop_sim grow p (s.view H) (h.fresh s.impl [] [])

/-- the second `CloneEmpty` is made after the first, so it stands first in the list until the two are swapped -/
theorem partitionMatch_sim (grow : Nat → Nat) (p : α → Bool) :
    Outcome.Sim (fun r y => Holds y.1 (y.2.1 :: y.2.2 :: regs) (r.1 :: r.2 :: R))
      ((s.abs H).partitionMatch p) (partitionMatch grow H s p) :=
  partitionLoop_sim grow p (s.view H) ((h.fresh s.impl [] []).fresh s.impl [] []).swap

end

end AlgoVerif.C16.Hp
