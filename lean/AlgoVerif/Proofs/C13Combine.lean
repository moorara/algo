import AlgoVerif.Proofs.C13SubsetTerm
import AlgoVerif.Proofs.C13DfaOps
import AlgoVerif.Proofs.C13Union
/-! C13: `CombineDFA` always returns and accepts the union of the operand languages. -/
namespace AlgoVerif.C13
open AlgoVerif AlgoVerif.C13.Spec

/-- the finals loop of `combineStep`, with the recorded list -/
def combineFinals (id : Nat) (fin : List Int) (m : SM) (u : NFA) (l : List Int) : (SM × NFA) × List Int :=
  fin.foldl (fun (a : (SM × NFA) × List State) f =>
    (((a.1.1.get id f).1, a.1.2.add (a.1.1.get id f).2 E [1]), a.2 ++ [(a.1.1.get id f).2])) ((m, u), l)

theorem combineFinals_fst (id : Nat) (fin : List Int) (m : SM) (u : NFA) (l : List Int) :
    (combineFinals id fin m u l).1 = finalsFold id fin m u := by
  induction fin generalizing m u l with
  | nil => rfl
  | cons f fin ih => simp only [combineFinals, finalsFold, List.foldl_cons]; exact ih _ _ _

theorem combineStep_fst (acc : (SM × NFA) × List (List State)) (id : Nat) (nfa : NFA) :
    (combineStep acc id nfa).1 = unionStep acc.1 id nfa :=
  combineFinals_fst id nfa.final _ _ []

theorem combineFold_fst (ns : List NFA) (k : Nat) (acc : (SM × NFA) × List (List State)) :
    (foldlIdx combineStep acc ns k).1 = foldlIdx unionStep acc.1 ns k := by
  induction ns generalizing k acc with
  | nil => rfl
  | cons n ns ih =>
    simp only [foldlIdx]
    rw [ih, combineStep_fst]

/-- "Remap the final states from the old indices to new indices": the state manager is threaded through -/
def remapThreaded (fm : List (List Int)) (m : SM) (out : List (List Int)) : SM × List (List Int) :=
  fm.foldl (fun (acc : SM × List (List State)) states =>
    let r := states.foldl (fun (a : SM × List State) f => ((a.1.get 0 f).1, sins (a.1.get 0 f).2 a.2)) (acc.1, [])
    (r.1, acc.2 ++ [r.2])) (m, out)

theorem remapThreaded_numbers (lo : Int) (fm out : List (List Int)) :
    Numbers lo (fun m => remapThreaded fm m out) (fun ν => out ++ fm.map (fun l => mkSet (l.map (ν 0))))
      (fun i s => i = 0 ∧ ∃ l ∈ fm, s ∈ l) := by
  have h := Numbers.foldl (lo := lo) fm out (fun out states =>
    Numbers.bind (Numbers.foldl states ([] : List Int) (fun l f =>
      Numbers.bind (Numbers.get 0 f) (fun y => Numbers.pure (sins y l)))) (fun r => Numbers.pure (out ++ [r])))
  intro m hm
  obtain ⟨h1, h2, h3⟩ := h m hm
  refine ⟨h1, h2, fun M hM => ⟨((h3 M hM).1).trans ?_, fun i s ⟨hi, l, hl, hs⟩ =>
    (h3 M hM).2 i s ⟨l, hl, Or.inl ⟨s, hs, Or.inl ⟨hi, rfl⟩⟩⟩⟩⟩
  simp only [mkSet, saddAll, List.foldl_map]
  exact foldl_snoc_map _ fm out

theorem combineDFA_total (ds : List DFA) : ∃ R, combineDFA ds = .ok R ∧
    ∃ (r : List (List Int) × DFA) (combined : DFA) (m : SM),
      (foldlIdx combineStep ((SM.new 1, NFA.new 0 [1]), []) (ds.map DFA.toNFA)).1.2.subsets = .ok r ∧
      r.2.elimDead = .ok combined ∧ combined.bfsNumbering = .ok m ∧ combined.WF ∧
      R = ((reindexWith combined m).2,
        (remapThreaded (remapSubsets r.1 (foldlIdx combineStep ((SM.new 1, NFA.new 0 [1]), []) (ds.map DFA.toNFA)).2)
          (reindexWith combined m).1 []).2) := by
  obtain ⟨r, hr, -⟩ := NFA.subsets_total (foldlIdx combineStep ((SM.new 1, NFA.new 0 [1]), []) (ds.map DFA.toNFA)).1.2
  obtain ⟨c, hc, -⟩ := r.2.elimDead_total
  obtain ⟨m, hm, -⟩ := c.bfsNumbering_total
  exact ⟨_, by simp only [combineDFA, hr, hc, hm]; rfl, r, c, m, hr, hc, hm, (r.2.elimDead_sub c hc).2.2.1, rfl⟩

theorem combineDFA_lang (ds : List DFA) (hwf : ∀ d ∈ ds, d.WF) (hne : ∀ d ∈ ds, d.NoEps)
    (D : DFA) (fm : List (List Int)) (h : combineDFA ds = .ok (D, fm)) (w : Word) (hE : E ∉ w) :
    D.lang w ↔ ∃ d ∈ ds, d.lang w := by
  obtain ⟨r, combined, m, hs, he, hb, hcwf, ⟨⟩⟩ := all_of_total (combineDFA_total ds) (D, fm) h
  have hU : (foldlIdx combineStep ((SM.new 1, NFA.new 0 [1]), []) (ds.map DFA.toNFA)).1.2 = NFA.union (ds.map DFA.toNFA) := by
    rw [combineFold_fst]; rfl
  rw [hU] at hs
  obtain ⟨rwf, rpr, _, _, _⟩ := all_of_total (NFA.subsets_total _) r hs
  have hre : combined.reindex = .ok (reindexWith combined m).2 := by simp [DFA.reindex, hb]
  rw [combined.reindex_lang _ hcwf hre w, r.2.elimDead_lang combined rwf rpr he w,
    NFA.subsets_lang _ r hs w hE,
    NFA.union_lang _ (List.forall_mem_map.2 fun d _ => d.toNFA_WF) w hE]
  constructor
  · rintro ⟨n, hn, hl⟩
    obtain ⟨d, hd, rfl⟩ := List.mem_map.1 hn
    exact ⟨d, hd, (DFA.toNFA_lang (hwf d hd) (hne d hd) w).1 hl⟩
  · rintro ⟨d, hd, hl⟩
    exact ⟨d.toNFA, List.mem_map.2 ⟨d, hd, rfl⟩, (DFA.toNFA_lang (hwf d hd) (hne d hd) w).2 hl⟩

end AlgoVerif.C13
