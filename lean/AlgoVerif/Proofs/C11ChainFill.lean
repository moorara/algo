import AlgoVerif.Proofs.C11BuiltCompleteFill
import AlgoVerif.Proofs.C11CompleteCheck
/-!
# C11 — conflicts of a built table, read off the item sets; conflict-freeness handed from one table to another

A cell `ACTION[i, a]` of a table built by any of the three constructions has a conflict iff the items of row `i` ask for
two different *kinds* of action on `a` (a shift — all shifts of a cell have the same target —, a reduction by `p`, accept).
Hence `fillRel_cf_of_le`: a fill each of whose rows asks for no more than some row of a conflict-free fill is conflict-free.
-/
namespace AlgoVerif.C11.Chain
open AlgoVerif AlgoVerif.Gram AlgoVerif.C11 AlgoVerif.C11.Spec AlgoVerif.C11.Built AlgoVerif.C11.BuiltComplete

theorem length_le_one {α : Type} {l : List α} (hnd : l.Nodup) (h : ∀ x ∈ l, ∀ y ∈ l, x = y) : l.length ≤ 1 :=
  match l, hnd, h with
  | [], _, _ => by simp
  | [_], _, _ => by simp
  | x :: y :: _, hnd, h => absurd (h x (by simp) y (by simp)) (by intro e; subst e; simp at hnd)

/-- kinds of actions (shift targets dropped) -/
inductive ActKind where
  | shift
  | reduce (p : Pr)
  | accept
  deriving DecidableEq

def kindOf : Action → ActKind
  | .shift _ => .shift
  | .reduce p => .reduce p
  | .accept => .accept

/-- the items `c` ask for `act` on `a`, wherever a shift may lead -/
abbrev AsksK (start : String) (reduceOn : Item → List String) (c : List Item) (a : String) (act : Action) : Prop :=
  Asks start reduceOn c (fun _ _ => True) a act

def SemCF (start : String) (reduceOn : Item → List String) (c : List Item) : Prop :=
  ∀ a act1 act2, AsksK start reduceOn c a act1 → AsksK start reduceOn c a act2 → kindOf act1 = kindOf act2

def RowFilled (start : String) (reduceOn : Item → List String) (T : Table) (i : Nat) (c : List Item) : Prop :=
  ∀ a act, AsksK start reduceOn c a act → ∃ act' ∈ T.cell (i : Int) a, kindOf act' = kindOf act

theorem semCF_of_cf {start : String} {reduceOn : Item → List String} {T : Table} {i : Nat} {c : List Item}
    (hcf : chkConflictFree T = true) (hf : RowFilled start reduceOn T i c) : SemCF start reduceOn c := by
  intro a act1 act2 h1 h2
  obtain ⟨x, hx, hkx⟩ := hf a act1 h1
  obtain ⟨y, hy, hky⟩ := hf a act2 h2
  rw [← hkx, ← hky, Complete.cell_unique hcf hx hy]

def CellsNodup (T : Table) : Prop := ∀ e ∈ T.actions, e.2.Nodup

theorem cf_of_semCF {start : String} {reduceOn : Item → List String} {Rw : Nat → List Item → Prop}
    {Tg : Nat → Sy → Int → Prop} {PG : Int → String → Int → Prop} {T : Table}
    (hrowfun : ∀ i c c', Rw i c → Rw i c' → c = c')
    (htgtfun : ∀ i X j j', Tg i X j → Tg i X j' → j = j')
    (hsem : ∀ i c, Rw i c → SemCF start reduceOn c)
    (hnd : CellsNodup T)
    (hprov : Prov (ActSrc start reduceOn Rw Tg) PG T) :
    chkConflictFree T = true := by
  unfold chkConflictFree
  rw [List.all_eq_true]
  intro e he
  simp only [decide_eq_true_eq]
  refine length_le_one (hnd e he) fun x hx y hy => ?_
  obtain ⟨i, c, hs, hrow, hx⟩ := hprov.1 e he x hx
  obtain ⟨i', c', hs', hrow', hy⟩ := hprov.1 e he y hy
  obtain rfl : i' = i := by rw [hs] at hs'; omega
  cases hrowfun _ _ _ hrow hrow'
  have hk := hsem _ _ hrow _ _ _ (hx.mono (fun _ h => h) fun _ _ _ => trivial)
    (hy.mono (fun _ h => h) fun _ _ _ => trivial)
  -- of the same kind, and with the same target if they are shifts: the same action
  cases x <;> cases y <;> simp [kindOf] at hk ⊢
  · exact htgtfun _ _ _ _ hx.2 hy.2
  · exact hk

theorem cellsNodup_addAction {T : Table} (h : CellsNodup T) (s : Int) (a : String) (act : Action) :
    CellsNodup (T.addAction s a act) := by
  unfold Table.addAction
  split
  · intro e he
    simp only [List.mem_map] at he
    obtain ⟨e0, he0, rfl⟩ := he
    by_cases hk : (e0.1 == (s, a)) = true
    · simp only [hk, if_true]
      exact nodup_addNew (h e0 he0) act
    · simp only [hk]
      exact h e0 he0
  · intro e he
    rcases List.mem_append.mp he with h1 | h1
    · exact h e h1
    · simp only [List.mem_singleton] at h1
      subst h1
      simp

theorem cellsNodup_setGoto {T : Table} (h : CellsNodup T) (s : Int) (n : String) (t : Int) :
    CellsNodup (T.setGoto s n t) := by
  unfold CellsNodup
  rw [setGoto_actions]
  exact h

section
variable {rowItems : List Item → Outcome (List Item)} {A : Auto} {find : List Item → Int}
  {reduceOn : Item → List String} {S : StateMap} {n : Nat} {T : Table}
  (hr : FillRel rowItems A find reduceOn S 0 { nstates := n, actions := [], gotos := [] } T)
include hr

theorem fillRel_filled : ∀ i c, Row rowItems S i c → RowFilled A.g.start reduceOn T i c := by
  rintro i c ⟨I, hI, hc⟩ a act hask
  have hdone := (fillRel_done hr).2 i I (Nat.zero_le i) hI
  cases act with
  | shift j =>
    -- the row has a target on `a`, whatever `j` is
    obtain ⟨c', hc', hitems, _⟩ := hdone
    cases hc.symm.trans hc'
    obtain ⟨⟨it, hit, hd⟩, _⟩ := hask
    obtain ⟨J, _, hmem⟩ := (hitems it hit).1 a hd
    exact ⟨_, hmem, rfl⟩
  -- what a row asks for other than shifts does not depend on the targets
  | reduce p => exact ⟨_, asks_of_rowDone (act := .reduce p) hI hdone hc hask, rfl⟩
  | accept => exact ⟨_, asks_of_rowDone (act := .accept) hI hdone hc hask, rfl⟩

theorem fillRel_nodup : CellsNodup T :=
  fillRel_inv hr (by intro e he; simp at he) (fun _ _ _ _ _ h => cellsNodup_setGoto h _ _ _)
    fun _ _ _ _ _ _ _ h => cellsNodup_addAction h _ _ _

end

/-- a conflict in a cell of `T'` would be two kinds of action its row asks for on one terminal, both of which stand in one cell
of `T` -/
theorem fillRel_cf_of_le {rowItems rowItems' : List Item → Outcome (List Item)} {A A' : Auto}
    {find find' : List Item → Int} {reduceOn reduceOn' : Item → List String} {S S' : StateMap} {n n' : Nat} {T T' : Table}
    (hr : FillRel rowItems A find reduceOn S 0 { nstates := n, actions := [], gotos := [] } T)
    (hr' : FillRel rowItems' A' find' reduceOn' S' 0 { nstates := n', actions := [], gotos := [] } T')
    (hle : ∀ i c, Row rowItems' S' i c → ∃ k d, Row rowItems S k d ∧
      ∀ a act, AsksK A'.g.start reduceOn' c a act → AsksK A.g.start reduceOn d a act)
    (hcf : chkConflictFree T = true) : chkConflictFree T' = true := by
  refine cf_of_semCF (row_fun _ _) (tgt_fun _ _ _) (fun i c hrow => ?_) (fillRel_nodup hr') (fillRel_prov hr')
  obtain ⟨k, d, hd, hask⟩ := hle i c hrow
  intro a act1 act2 h1 h2
  exact semCF_of_cf hcf (fillRel_filled hr k d hd) a act1 act2 (hask a act1 h1) (hask a act2 h2)

end AlgoVerif.C11.Chain
