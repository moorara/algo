import AlgoVerif.Proofs.C09LeftRecInv
/-! The invariant of `EliminateLeftRecursion` across `lrImmediate` and `lrLoop` (C09). -/
namespace AlgoVerif.C08
open AlgoVerif AlgoVerif.Gram AlgoVerif.C08.Spec AlgoVerif.C09.Spec

theorem not_leftRec_first {p : SProd} (h : isLeftRec p = false) {Y : String} {rest : List SSym}
    (hb : p.body = Sym.nonterm Y :: rest) : Y ≠ p.head := by
  intro e
  have : isLeftRec p = true := isLeftRec_iff.2 ⟨rest, by rw [hb, e]⟩
  rw [h] at this; cases this

theorem lrImmediate_inv {nts : List String} {g g' : G} {A : String} {i : Nat}
    (hA : A ∈ nts) (hi : pos nts A = i) (hinv : LRInv9 nts (thr i i) g) (h : lrImmediate g A = .ok g') :
    LRInv9 nts (thr i (i + 1)) g' := by
  -- an `A`-body that does not begin with `A` begins above `A`
  have nlr : ∀ p, p ∈ g.prods → (p.head = A → isLeftRec p = false) →
      FrontOK nts g (thr i (i + 1) (pos nts p.head)) (p.head ∈ nts) p.body := fun p hp hl =>
    hinv.raise hA hi hA hi hp fun tl hpA hb => absurd hpA.symm (not_leftRec_first (hl hpA) hb)
  rcases lrImmediate_spec h with ⟨rfl, hnone⟩ | ⟨A', hfresh, _, hn, _, hp, p0, hp0, hp0A, hp0l⟩
  · exact ⟨hinv.wf, hinv.decl, fun p hp => nlr p hp (hnone p hp)⟩
  · have hA'n : A' ∉ nts := fun hmem => hfresh (hinv.decl A' hmem)
    -- `A` begins a body, so its productions are non-empty
    obtain ⟨tl0, htl0⟩ := isLeftRec_iff.1 hp0l
    have nonemptyA : ∀ p, p ∈ g.prods → p.head = A → p.body ≠ [] :=
      (hinv.front p0 hp0 A tl0 (hp0A ▸ htl0)).1.2
    have env : EnvMono nts g g' := by
      intro q hq hqn
      rcases (hp q).1 hq with ⟨hq1, _⟩ | ⟨p, hp1, hp2, _, rfl⟩ | ⟨p, _, _, _, rfl⟩ | rfl
      · exact .inl hq1
      · exact .inr ⟨by simp, p, hp1, hp2⟩
      · exact absurd hqn hA'n
      · exact absurd hqn hA'n
    refine ⟨lrImmediate_wf h hinv.wf, fun X hX => by rw [hn]; simp [hinv.decl X hX], fun q hq => ?_⟩
    rcases (hp q).1 hq with ⟨hq1, hqA⟩ | ⟨p, hp1, hp2, hp3, rfl⟩ | ⟨p, hp1, hp2, hp3, rfl⟩ | rfl
    · exact (nlr q hq1 fun e => absurd e hqA).mono env
    · -- `A → β A′` begins like `A → β`
      have := nlr p hp1 fun _ => hp3
      rw [hp2] at this
      exact (this.append hA (nonemptyA p hp1 hp2) _).mono env
    · -- `A′ → α A′` begins with the second symbol of `A → A α`
      obtain ⟨tl, htl⟩ := isLeftRec_iff.1 hp3
      have := hinv.front p hp1
      rw [htl] at this
      simpa [htl] using (this.tail (hp2 ▸ hA) hA'n [Sym.nonterm A']).mono env
    · exact fun _ _ e => nomatch e

theorem lrLoop_inv9 {nts : List String} (hnd : nts.Nodup) :
    ∀ (rest done : List String) (g g' : G), nts = done ++ rest → LRInv9 nts (thr done.length 0) g →
      lrLoop done rest g = .ok g' → LRInv9 nts (thr nts.length 0) g' := by
  intro rest
  induction rest with
  | nil =>
    intro done g g' hnts hinv h
    simp [lrLoop, pure] at h
    subst h
    simp at hnts; subst hnts; exact hinv
  | cons Ai rest ih =>
    intro done g g' hnts hinv h
    simp only [lrLoop] at h
    have h1 := lrSubst_fold_inv9 hnd hnts done [] g rfl hinv
    generalize done.foldl (fun g Aj => lrSubst g Ai Aj) g = g1 at h h1
    obtain ⟨g2, hi2, h⟩ := bind_eq_ok h
    have h3 := lrImmediate_inv (by rw [hnts]; simp) (pos_of_nodup hnd hnts) h1 hi2
    rw [thr_next] at h3
    exact ih (done ++ [Ai]) g2 g' (by rw [hnts]; simp) (by simpa using h3) h

theorem cert_of_inv {nts : List String} {g : G} (h : LRInv9 nts (thr nts.length 0) g) :
    LRCert g (fun X => if X ∈ nts then pos nts X + 1 else 0) := by
  constructor
  intro p hp Y rest hb
  obtain ⟨⟨hY, hne⟩, hs⟩ := h.front p hp Y rest hb
  by_cases hh : p.head ∈ nts
  · have hlt := pos_lt_of_mem hh
    simp only [thr, hlt, if_true] at hs
    rcases (hs hh).1 with hd | hle
    · exact Or.inl hd
    · exact Or.inr ⟨by simp only [hh, hY, if_true]; omega, hne⟩
  · exact Or.inr ⟨by simp only [hh, hY, if_true, if_false]; omega, hne⟩

end AlgoVerif.C08
