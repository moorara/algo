import AlgoVerif.Proofs.C07CountList
/-!
# C07 — proof of `CountingPassSpec`: the array code of one key-indexed counting pass computes the
stable bucket concatenation; `layout` says where each bucket lies afterwards
-/
namespace AlgoVerif.C07
open AlgoVerif

variable {α : Type}

def Rep (count : Array Int) (R : Nat) (F : Nat → Int) : Prop :=
  count.size = R + 1 ∧ ∀ s, s ≤ R → count[s]? = some (F s)

theorem Rep.congr {count : Array Int} {R : Nat} {F G : Nat → Int} (h : Rep count R F)
    (hg : ∀ s, s ≤ R → F s = G s) : Rep count R G :=
  ⟨h.1, fun s hs => by rw [h.2 s hs, hg s hs]⟩

theorem get_of_getElem? {count : Array Int} {r : Nat} {v : Int} (h : count[r]? = some v) :
    get count (r : Int) = .ok v := by
  obtain ⟨hr, hv⟩ := Array.getElem?_eq_some_iff.1 h
  rw [get_nat hr, hv]

theorem Rep.get {count : Array Int} {R : Nat} {F : Nat → Int} (h : Rep count R F) {s : Nat} (hs : s ≤ R) :
    get count (s : Int) = .ok (F s) :=
  get_of_getElem? (h.2 s hs)

theorem Rep.set {count : Array Int} {R : Nat} {F : Nat → Int} (h : Rep count R F) {s : Nat} (hs : s ≤ R) (v : Int) :
    ∃ count', set count (s : Int) v = .ok count' ∧ Rep count' R (fun t => if t = s then v else F t) := by
  have hsz : s < count.size := by rw [h.1]; omega
  refine ⟨count.set s v hsz, ?_, ?_, ?_⟩
  · rw [set_ok (by omega) (by omega)]; simp
  · simp [h.1]
  · intro t ht
    rw [Array.getElem?_set]
    by_cases hts : s = t
    · subst hts; simp
    · have : ¬ t = s := fun h => hts h.symm
      simp [hts, this, h.2 t ht]

theorem rep_replicate (R : Nat) : Rep (Array.replicate ((R : Int).toNat + 1) (0 : Int)) R (fun _ => 0) := by
  refine ⟨by simp, ?_⟩
  intro s hs
  simp [Array.getElem?_replicate]
  omega

theorem freqLoop_spec (key : α → Outcome Int) (k : α → Nat) (R : Nat) (a : Array α) (m : Nat) (hm : m ≤ a.size) :
    ∀ (f i : Nat) (l : List α) (count : Array Int) (F : Nat → Int), segL a i m = l → m - i < f →
      (∀ x, x ∈ l → key x = .ok ((k x : Nat) : Int) ∧ k x < R) → Rep count R F →
      ∃ count', freqLoop key a ((m : Int) - 1) f (i : Int) count = .ok count' ∧
        Rep count' R (fun s => F s + (l.countP (fun x => k x + 1 == s) : Nat)) := by
  intro f
  induction f with
  | zero => intro i _ _ _ _ hf; omega
  | succ f ih =>
    intro i l count F hl hf hkey hrep
    unfold freqLoop
    by_cases hlt : i < m
    · have c1 : (i : Int) ≤ (m : Int) - 1 := by omega
      simp only [c1, ↓reduceIte]
      have hlt' : i < a.size := by omega
      rw [get_nat hlt']
      simp only [ok_bind]
      rw [segL_cons a hm hlt] at hl
      subst hl
      obtain ⟨hk1, hk2⟩ := hkey _ List.mem_cons_self
      generalize a[i]'hlt' = x at hk1 hk2 hkey ⊢
      rw [hk1]
      simp only [ok_bind]
      have e : ((k x : Nat) : Int) + 1 = ((k x + 1 : Nat) : Int) := rfl
      rw [e, hrep.get (by omega)]
      simp only [ok_bind]
      obtain ⟨c1', hs1, hr1⟩ := hrep.set (s := k x + 1) (by omega) (F (k x + 1) + 1)
      rw [hs1]
      simp only [ok_bind]
      obtain ⟨c2, hs2, hr2⟩ := ih (i+1) _ c1' _ rfl (by omega) (fun y hy => hkey y (List.mem_cons_of_mem _ hy)) hr1
      refine ⟨c2, hs2, hr2.congr ?_⟩
      intro s hs
      rw [List.countP_cons]
      by_cases hsk : s = k x + 1
      · simp [hsk]; omega
      · have : ¬ (k x + 1 = s) := fun h => hsk h.symm
        simp [hsk, this]
    · have c1 : ¬ (i : Int) ≤ (m : Int) - 1 := by omega
      simp only [c1, ↓reduceIte]
      rw [segL_nil (by omega)] at hl
      subst hl
      exact ⟨count, rfl, hrep.congr (by simp)⟩

theorem cumLoop_spec (R : Nat) (H G : Nat → Int) (hG : ∀ r, r < R → G (r + 1) = H (r + 1) + G r) :
    ∀ (f : Nat) (r : Nat) (count : Array Int), r ≤ R → R < f + r →
      Rep count R (fun s => if s ≤ r then G s else H s) →
      ∃ count', cumLoop (R : Int) f (r : Int) count = .ok count' ∧ Rep count' R G := by
  intro f
  induction f with
  | zero => intro r _ _ hf; omega
  | succ f ih =>
    intro r count hr hf hrep
    unfold cumLoop
    by_cases hlt : r < R
    · have c1 : (r : Int) < (R : Int) := by omega
      simp only [c1, ↓reduceIte]
      rw [← Int.natCast_add_one, hrep.get (by omega : r + 1 ≤ R), hrep.get (by omega : r ≤ R)]
      simp only [ok_bind]
      obtain ⟨c1', hs1, hr1⟩ := hrep.set (s := r + 1) (by omega)
        ((if r + 1 ≤ r then G (r + 1) else H (r + 1)) + (if r ≤ r then G r else H r))
      rw [hs1]
      simp only [ok_bind]
      apply ih (r+1) c1' (by omega) (by omega)
      apply hr1.congr
      intro s hs
      by_cases hsr : s = r + 1
      · subst hsr
        rw [if_pos rfl, if_neg (by omega), if_pos (Nat.le_refl _), if_pos (Nat.le_refl _), hG r hlt]
      · rw [if_neg hsr]
        by_cases h2 : s ≤ r
        · rw [if_pos h2, if_pos (by omega)]
        · rw [if_neg h2, if_neg (by omega)]
    · have c1 : ¬ (r : Int) < (R : Int) := by omega
      simp only [c1, ↓reduceIte]
      exact ⟨count, rfl, hrep.congr fun s hs => if_pos (by omega)⟩

theorem addLoop_spec (R : Nat) (to : Nat) (delta : Int) (hto : to ≤ R + 1) :
    ∀ (f : Nat) (r : Nat) (count : Array Int) (F : Nat → Int), to - r < f → Rep count R F →
      ∃ count', addLoop (to : Int) delta f (r : Int) count = .ok count' ∧
        Rep count' R (fun s => if r ≤ s ∧ s < to then F s + delta else F s) := by
  intro f
  induction f with
  | zero => intro r _ _ hf; omega
  | succ f ih =>
    intro r count F hf hrep
    unfold addLoop
    by_cases hlt : r < to
    · have c1 : (r : Int) < (to : Int) := by omega
      simp only [c1, ↓reduceIte]
      rw [hrep.get (by omega : r ≤ R)]
      simp only [ok_bind]
      obtain ⟨c1', hs1, hr1⟩ := hrep.set (s := r) (by omega) (F r + delta)
      rw [hs1]
      simp only [ok_bind]
      obtain ⟨c2, hs2, hr2⟩ := ih (r+1) c1' _ (by omega) hr1
      refine ⟨c2, hs2, hr2.congr ?_⟩
      intro s hs
      by_cases hsr : s = r
      · subst hsr
        have h3 : ¬ (s + 1 ≤ s) := by omega
        simp [h3, hlt]
      · by_cases h2 : r ≤ s ∧ s < to
        · have : r + 1 ≤ s ∧ s < to := by omega
          simp [hsr, h2, this]
        · have : ¬ (r + 1 ≤ s ∧ s < to) := by omega
          simp [hsr, h2, this]
    · have c1 : ¬ (r : Int) < (to : Int) := by omega
      simp only [c1, ↓reduceIte]
      refine ⟨count, rfl, hrep.congr ?_⟩
      intro s hs
      have : ¬ (r ≤ s ∧ s < to) := by omega
      simp [this]

/-- offset (within the segment) at which bucket `r` starts -/
def startPos (k : α → Nat) (R : Nat) (rot : Option Bool) (seg : List α) (r : Nat) : Nat :=
  match rot with
  | none => cntLt k seg r
  | some _ => if r < R / 2 then cntIn k seg (R / 2) R + cntLt k seg r else cntIn k seg (R / 2) r

/-- content of `count[R]` after the prefix sums / rotation -/
def topVal (k : α → Nat) (R : Nat) (rot : Option Bool) (seg : List α) : Int :=
  match rot with
  | some true => ((cntIn k seg (R / 2) R + cntLt k seg 1 : Nat) : Int)
  | _ => (seg.length : Int)

/-- the rotation turns the prefix sums `#(k < s)` into the bucket starts for the order "upper half first": the cells
`s < R/2` gain `#(R/2 ≤ k)`, the cells `R/2 ≤ s < R` lose `#(k < R/2)`, and `count[R]` changes only under `setTop` -/
theorem signRotate_spec (k : α → Nat) (seg : List α) (R : Nat) (hR : 0 < R) (heven : R % 2 = 0)
    (hall : ∀ x, x ∈ seg → k x < R) (setTop : Bool) (count : Array Int)
    (hrep : Rep count R (fun s => (cntLt k seg s : Int))) :
    ∃ count', signRotate (R : Int) setTop count = .ok count' ∧
      Rep count' R (fun s => if s < R then (startPos k R (some setTop) seg s : Int) else topVal k R (some setTop) seg) := by
  unfold signRotate
  have eH : ((R : Int) / 2) = ((R / 2 : Nat) : Int) := rfl
  rw [eH, hrep.get (Nat.le_refl R), hrep.get (by omega : R / 2 ≤ R)]
  simp only [ok_bind]
  have hn : cntLt k seg R = seg.length := cntLt_all k seg R hall
  have hsplit := cntLt_add_cntIn k seg (R / 2) R (by omega)
  have hstep1 : ∃ c1, (if setTop = true then do
        let c1 ← get count 1
        set count (R : Int) ((cntLt k seg R : Int) - (cntLt k seg (R / 2) : Int) + c1)
      else Outcome.ok count : Outcome (Array Int)) = .ok c1 ∧
      Rep c1 R (fun s => if s < R then (cntLt k seg s : Int) else topVal k R (some setTop) seg) := by
    cases setTop with
    | true =>
      simp only [↓reduceIte]
      have e1 : (1 : Int) = ((1 : Nat) : Int) := rfl
      rw [e1, hrep.get (by omega : 1 ≤ R)]
      simp only [ok_bind]
      obtain ⟨c1, hs, hr⟩ := hrep.set (s := R) (Nat.le_refl R)
        ((cntLt k seg R : Int) - (cntLt k seg (R / 2) : Int) + (cntLt k seg 1 : Int))
      refine ⟨c1, hs, hr.congr ?_⟩
      intro s hs
      by_cases hsR : s = R
      · subst hsR
        simp [topVal]
        omega
      · have : s < R := by omega
        simp [hsR, this]
    | false =>
      simp only [Bool.false_eq_true, ↓reduceIte]
      refine ⟨count, rfl, hrep.congr ?_⟩
      intro s hs
      by_cases hsR : s < R
      · simp [hsR]
      · have : s = R := by omega
        subst this
        simp [topVal, hn]
  obtain ⟨c1, hc1, hr1⟩ := hstep1
  rw [hc1]
  simp only [ok_bind]
  have e0 : (0 : Int) = ((0 : Nat) : Int) := rfl
  obtain ⟨c2, hc2, hr2⟩ := addLoop_spec R (R / 2) ((cntLt k seg R : Int) - (cntLt k seg (R / 2) : Int)) (by omega)
    ((R : Int).toNat + 1) 0 c1 _ (by omega) hr1
  rw [e0, hc2]
  simp only [ok_bind]
  obtain ⟨c3, hc3, hr3⟩ := addLoop_spec R R (-(cntLt k seg (R / 2) : Int)) (by omega)
    ((R : Int).toNat + 1) (R / 2) c2 _ (by omega) hr2
  refine ⟨c3, hc3, hr3.congr ?_⟩
  intro s hs
  have hsp := cntLt_add_cntIn k seg (R / 2) s
  by_cases h1 : s < R / 2
  · have h2 : ¬ (R / 2 ≤ s) := by omega
    have h4 : s < R := by omega
    simp [h2, h4, startPos, h1]
    omega
  · by_cases h2 : s < R
    · have h3 : R / 2 ≤ s := by omega
      simp [h3, h2, startPos, h1]
      have := hsp h3
      omega
    · have h3 : ¬ (s < R / 2) := h1
      simp [h2, h1]

/-- state of the distribution loop after `t` elements of the segment: `count` holds the next free cell of
every bucket, and the cells filled so far hold what the target list `Tgt` holds there -/
structure DistInv (k : α → Nat) (R : Nat) (S : Nat → Nat) (T : Int) (seg Tgt : List α) (t : Nat)
    (count : Array Int) (aux : Array α) : Prop where
  rep : Rep count R (fun r => if r < R then ((S r + cnt k (seg.take t) r : Nat) : Int) else T)
  placed : ∀ r, r < R → ∀ p, S r ≤ p → p < S r + cnt k (seg.take t) r → aux[p]? = Tgt[p]?

/-- Every step writes an element into the cell where `Tgt` has it (`hpos`), so whatever is filled agrees with
`Tgt`, whether or not a cell is written twice: neither bounds on the bucket ranges nor their disjointness
are needed here. -/
theorem distLoop_spec (key : α → Outcome Int) (k : α → Nat) (R : Nat) (a : Array α) (lo n : Nat)
    (hsz : lo + n ≤ a.size) (seg : List α) (hseg : segL a lo (lo + n) = seg)
    (hkey : ∀ x, x ∈ seg → key x = .ok ((k x : Nat) : Int) ∧ k x < R)
    (S : Nat → Nat) (T : Int) (Tgt : List α) (asz : Nat) (hasz : Tgt.length ≤ asz)
    (hpos : ∀ t (ht : t < seg.length), Tgt[S (k seg[t]) + cnt k (seg.take t) (k seg[t])]? = some seg[t]) :
    ∀ (f : Nat) (t : Nat) (count : Array Int) (aux : Array α), t ≤ n → n < f + t → aux.size = asz →
      DistInv k R S T seg Tgt t count aux →
      ∃ count' aux', distLoop key a (((lo + n : Nat) : Int) - 1) f ((lo + t : Nat) : Int) count aux = .ok (count', aux') ∧
        aux'.size = asz ∧ DistInv k R S T seg Tgt n count' aux' := by
  intro f
  induction f with
  | zero => intro t _ _ _ hf; omega
  | succ f ih =>
    intro t count aux ht hf haux inv
    unfold distLoop
    by_cases hlt : t < n
    · have c1 : ((lo + t : Nat) : Int) ≤ ((lo + n : Nat) : Int) - 1 := by omega
      simp only [c1, ↓reduceIte]
      have hlt' : lo + t < a.size := by omega
      rw [get_nat hlt']
      simp only [ok_bind]
      have htl : t < seg.length := by rw [← hseg, segL_length hsz]; omega
      have hx : seg[t] = a[lo + t] := by subst hseg; exact segL_getElem hsz htl
      obtain ⟨hk1, hk2⟩ := hkey _ (List.getElem_mem htl)
      have hp := hpos t htl
      rw [← hx, hk1]
      simp only [ok_bind]
      have hrg := inv.rep.get (s := k seg[t]) (by omega)
      rw [if_pos hk2] at hrg
      rw [hrg]
      simp only [ok_bind]
      have := (List.getElem?_eq_some_iff.1 hp).1
      rw [set_nat (by omega)]
      simp only [ok_bind]
      obtain ⟨c1', hs1, hr1⟩ := inv.rep.set (s := k seg[t]) (by omega)
        (((S (k seg[t]) + cnt k (seg.take t) (k seg[t]) : Nat) : Int) + 1)
      rw [hs1]
      simp only [ok_bind]
      apply ih (t+1) c1' _ (by omega) (by omega) (by simp [haux])
      constructor
      · apply hr1.congr
        intro s hs
        rw [cnt_take_succ k _ t htl s]
        by_cases hsk : s = k seg[t]
        · simp [hsk, hk2]; omega
        · have h' : ¬ (k seg[t] = s) := fun h => hsk h.symm
          simp [hsk, h']
      · intro r hr p hp1 hp2
        rw [cnt_take_succ k _ t htl r] at hp2
        rw [Array.getElem?_set]
        -- the cell just written holds what `Tgt` has there; any other cell of the longer ranges was filled before
        split
        · next e => rw [← e, hp]
        · next ne =>
          apply inv.placed r hr p hp1
          split at hp2
          · next e => subst e; omega
          · omega
    · have c1 : ¬ ((lo + t : Nat) : Int) ≤ ((lo + n : Nat) : Int) - 1 := by omega
      simp only [c1, ↓reduceIte]
      have : t = n := by omega
      subst this
      exact ⟨count, aux, rfl, haux, inv⟩

theorem copyBack_spec (aux : Array α) (lo n : Nat) (asz : Nat) (hsz : lo + n ≤ asz) (haux : n ≤ aux.size) :
    ∀ (f : Nat) (t : Nat) (a1 : Array α), t ≤ n → n < f + t → a1.size = asz →
      ∃ a', copyBack aux (lo : Int) (((lo + n : Nat) : Int) - 1) f ((lo + t : Nat) : Int) a1 = .ok a' ∧
        a'.size = asz ∧
        ∀ p, a'[p]? = if lo + t ≤ p ∧ p < lo + n then aux[p - lo]? else a1[p]? := by
  intro f
  induction f with
  | zero => intro t _ _ hf; omega
  | succ f ih =>
    intro t a1 ht hf ha1
    unfold copyBack
    by_cases hlt : t < n
    · have c1 : ((lo + t : Nat) : Int) ≤ ((lo + n : Nat) : Int) - 1 := by omega
      simp only [c1, ↓reduceIte]
      have e1 : (((lo + t : Nat) : Int) - (lo : Int)) = ((t : Nat) : Int) := by omega
      have htx : t < aux.size := by omega
      rw [e1, get_nat htx]
      simp only [ok_bind]
      rw [set_nat (by omega)]
      simp only [ok_bind]
      obtain ⟨a', h1, h2, h3⟩ := ih (t+1) (a1.set (lo + t) (aux[t]'htx) (by omega)) (by omega) (by omega) (by simp [ha1])
      refine ⟨a', h1, h2, ?_⟩
      intro p
      rw [h3 p, Array.getElem?_set]
      by_cases hp : lo + t = p
      · subst hp
        have h7 : lo + t - lo = t := by omega
        simp [h7, htx, hlt]
      · by_cases h8 : lo + (t + 1) ≤ p ∧ p < lo + n
        · have h9 : lo + t ≤ p ∧ p < lo + n := by omega
          simp only [h8, h9, ↓reduceIte, and_self]
        · have h9 : ¬ (lo + t ≤ p ∧ p < lo + n) := by omega
          simp only [h8, h9, hp, ↓reduceIte]
    · have c1 : ¬ ((lo + t : Nat) : Int) ≤ ((lo + n : Nat) : Int) - 1 := by omega
      simp only [c1, ↓reduceIte]
      refine ⟨a1, rfl, ha1, ?_⟩
      intro p
      have : ¬ (lo + t ≤ p ∧ p < lo + n) := by omega
      simp only [this, ↓reduceIte]

theorem chain_congr (S S' : Nat → Nat) (len : Nat → Nat) : ∀ (ord : List Nat) (s0 : Nat),
    (∀ r, r ∈ ord → S r = S' r) → Chain S len s0 ord → Chain S' len s0 ord := by
  intro ord
  induction ord with
  | nil => intro _ _ _; trivial
  | cons r rest ih =>
    intro s0 h hc
    exact ⟨by rw [← h r List.mem_cons_self]; exact hc.1,
      ih _ (fun r' hr' => h r' (List.mem_cons_of_mem _ hr')) hc.2⟩

theorem chain_range' (len G : Nat → Nat) (c : Nat) : ∀ (m r0 : Nat), (∀ r, r0 ≤ r → G (r + 1) = G r + len r) →
    Chain (fun r => c + G r) len (c + G r0) (List.range' r0 m) ∧
      G r0 + total len (List.range' r0 m) = G (r0 + m) := by
  intro m
  induction m with
  | zero => intro r0 _; exact ⟨trivial, by simp [total]⟩
  | succ m ih =>
    intro r0 hG
    obtain ⟨h1, h2⟩ := ih (r0 + 1) (fun r hr => hG r (by omega))
    rw [hG r0 (Nat.le_refl _)] at h1 h2
    rw [List.range'_succ]
    refine ⟨⟨rfl, by rwa [Nat.add_assoc]⟩, ?_⟩
    simp only [total, List.map_cons, List.sum_cons] at h2 ⊢
    have e : r0 + (m + 1) = r0 + 1 + m := by omega
    rw [e]; omega

theorem layout (k : α → Nat) (seg : List α) (R : Nat) (rot : Option Bool) (hR : 0 < R)
    (heven : rot.isSome → R % 2 = 0) (hall : ∀ x, x ∈ seg → k x < R) :
    Chain (startPos k R rot seg) (cnt k seg) 0 (bucketOrder R rot) ∧ (bucketOrder R rot).Nodup ∧
    (∀ r, r ∈ bucketOrder R rot ↔ r < R) ∧ total (cnt k seg) (bucketOrder R rot) = seg.length := by
  suffices h : Chain (startPos k R rot seg) (cnt k seg) 0 (bucketOrder R rot) ∧
      total (cnt k seg) (bucketOrder R rot) = seg.length from
    ⟨h.1, bucketOrder_nodup R rot heven, mem_bucketOrder R rot, h.2⟩
  have hn : cntLt k seg R = seg.length := cntLt_all k seg R hall
  have hlt := fun c m => chain_range' (cnt k seg) (cntLt k seg) c m 0 (fun r _ => cntLt_succ k seg r)
  cases rot with
  | none =>
    obtain ⟨hc, ht⟩ := hlt 0 R
    simp only [cntLt_zero, Nat.zero_add] at hc ht
    simp only [bucketOrder, List.range_eq_range']
    exact ⟨chain_congr _ _ _ _ _ (fun r _ => by simp [startPos]) hc, by omega⟩
  | some b =>
    have he : R % 2 = 0 := heven rfl
    obtain ⟨hc1, ht1⟩ := chain_range' (cnt k seg) (cntIn k seg (R / 2)) 0 (R - R / 2) (R / 2)
      (fun r hr => cntIn_succ k seg (R / 2) r hr)
    obtain ⟨hc2, ht2⟩ := hlt (cntIn k seg (R / 2) R) (R / 2)
    have e1 : R / 2 + (R - R / 2) = R := by omega
    simp only [cntIn_self, cntLt_zero, Nat.zero_add, Nat.add_zero, e1] at hc1 ht1 hc2 ht2
    have hsplit := cntLt_add_cntIn k seg (R / 2) R (by omega)
    simp only [bucketOrder, List.range_eq_range']
    refine ⟨?_, by rw [total_append]; omega⟩
    rw [chain_append, ht1, Nat.zero_add]
    constructor
    · refine chain_congr _ _ _ _ _ (fun r hr => ?_) hc1
      have : ¬ r < R / 2 := by simp at hr; omega
      simp [startPos, this]
    · refine chain_congr _ _ _ _ _ (fun r hr => ?_) hc2
      have : r < R / 2 := by simp at hr; omega
      simp [startPos, this]

section
variable (k : α → Nat) (seg : List α) (R : Nat) (rot : Option Bool) (hR : 0 < R)
  (heven : rot.isSome → R % 2 = 0) (hall : ∀ x, x ∈ seg → k x < R)
include hR heven hall

theorem countAfter_eq (r : Nat) (hr : r ≤ R) :
    (if r < R then ((startPos k R rot seg r + cnt k seg r : Nat) : Int) else topVal k R rot seg) =
      countAfter k R rot seg r := by
  have hle : ∀ q, seg.countP (fun x => decide (k x ≤ q)) = cntLt k seg (q + 1) := by
    intro q; unfold cntLt; apply List.countP_congr; intro x _; simp; omega
  have hge : seg.countP (fun x => decide (R / 2 ≤ k x)) = cntIn k seg (R / 2) R := by
    unfold cntIn; apply List.countP_congr; intro x hx; have := hall x hx; simp; omega
  have hn : cntLt k seg R = seg.length := cntLt_all k seg R hall
  cases rot with
  | none =>
    simp only [countAfter, startPos, topVal]
    by_cases h1 : r < R
    · simp only [h1, ↓reduceIte, hle, cntLt_succ]
    · have : r = R := by omega
      subst this
      simp only [h1, ↓reduceIte, hle]
      have : cntLt k seg (r + 1) = seg.length := cntLt_all k seg (r+1) (fun x hx => by have := hall x hx; omega)
      rw [this]
  | some b =>
    have he : R % 2 = 0 := heven rfl
    simp only [countAfter, startPos, topVal]
    by_cases h1 : r < R / 2
    · have h2 : r < R := by omega
      simp only [h1, h2, ↓reduceIte, hle, hge, cntLt_succ]
      omega
    · by_cases h2 : r < R
      · simp only [h1, h2, ↓reduceIte]
        have : seg.countP (fun x => decide (R / 2 ≤ k x ∧ k x ≤ r)) = cntIn k seg (R / 2) (r + 1) := by
          unfold cntIn; apply List.countP_congr; intro x _; simp; omega
        rw [this, cntIn_succ k seg (R / 2) r (by omega)]
      · have : r = R := by omega
        subst this
        simp only [h1, h2, ↓reduceIte]
        cases b with
        | true =>
          simp only [↓reduceIte, hge]
          have : seg.countP (fun x => decide (k x = 0)) = cntLt k seg 1 := by
            unfold cntLt; apply List.countP_congr; intro x _; simp
          rw [this]
        | false => simp

theorem countAfter_lt {r : Nat} (hr : r < R) :
    countAfter k R rot seg r = ((startPos k R rot seg r + cnt k seg r : Nat) : Int) := by
  rw [← countAfter_eq k seg R rot hR heven hall r (Nat.le_of_lt hr), if_pos hr]

theorem countAfter_top : countAfter k R rot seg R = topVal k R rot seg := by
  rw [← countAfter_eq k seg R rot hR heven hall R (Nat.le_refl R), if_neg (Nat.lt_irrefl R)]

end

theorem countingPass_spec : CountingPassSpec := by
  intro α key k R rot a aux lo n hR heven hsz haux hkey
  have hseg : (a.extract lo (lo + n)).toList = segL a lo (lo+n) := rfl
  rw [hseg]
  have hseglen : (segL a lo (lo+n)).length = n := by rw [segL_length hsz]; omega
  have hkey' : ∀ x, x ∈ segL a lo (lo+n) → key x = .ok ((k x : Nat) : Int) ∧ k x < R := by
    intro x hx
    obtain ⟨t, ht, rfl⟩ := mem_segL hsz hx
    exact hkey (lo + t) (by omega) ht
  have hall : ∀ x, x ∈ segL a lo (lo+n) → k x < R := fun x hx => (hkey' x hx).2
  obtain ⟨hchain, hnodup, hmem, htotal⟩ := layout k (segL a lo (lo+n)) R rot hR heven hall
  rw [hseglen] at htotal
  unfold countingPass
  simp only []
  obtain ⟨c1, hc1, hr1⟩ := freqLoop_spec key k R a (lo + n) hsz (a.size + 1) lo _ _ (fun _ => 0)
    rfl (by omega) hkey' (rep_replicate R)
  rw [hc1]
  simp only [ok_bind]
  have e0 : (0 : Int) = ((0 : Nat) : Int) := rfl
  obtain ⟨c2, hc2, hr2⟩ := cumLoop_spec R (fun s => ((segL a lo (lo+n)).countP (fun x => k x + 1 == s) : Nat))
    (fun s => (cntLt k (segL a lo (lo+n)) s : Int))
    (fun r _ => by
      have : (segL a lo (lo+n)).countP (fun x => k x + 1 == r + 1) = cnt k (segL a lo (lo+n)) r := by
        unfold cnt; congr 1; funext x; simp
      rw [cntLt_succ, this]; omega)
    ((R : Int).toNat + 1) 0 c1 (Nat.zero_le _) (by omega)
    (hr1.congr (by
      intro s hs
      by_cases h0 : s = 0
      · subst h0
        have : (segL a lo (lo+n)).countP (fun x => k x + 1 == 0) = 0 := by
          rw [List.countP_eq_zero]; intro x _; simp
        simp [cntLt_zero]
      · have : ¬ s ≤ 0 := by omega
        simp [this]))
  rw [e0, hc2]
  simp only [ok_bind]
  suffices tail : ∀ c3, Rep c3 R (fun s => if s < R then (startPos k R rot (segL a lo (lo+n)) s : Int) else topVal k R rot (segL a lo (lo+n))) →
      ∃ a' aux' count',
        (do
          let r ← distLoop key a (((lo + n : Nat) : Int) - 1) (a.size + 1) (lo : Int) c3 aux
          let a2 ← copyBack r.2 (lo : Int) (((lo + n : Nat) : Int) - 1) (a.size + 1) (lo : Int) a
          Outcome.ok (a2, r.2, r.1) : Outcome (Array α × Array α × Array Int)) = .ok (a', aux', count') ∧
        a'.size = a.size ∧ aux'.size = aux.size ∧ count'.size = R + 1 ∧
        (∀ i, (i < lo ∨ lo + n ≤ i) → a'[i]? = a[i]?) ∧
        (a'.extract lo (lo + n)).toList = bucketConcat k (bucketOrder R rot) (segL a lo (lo+n)) ∧
        (∀ r, r ≤ R → count'[r]? = some (countAfter k R rot (segL a lo (lo+n)) r)) by
    cases rot with
    | none =>
      simp only [ok_bind]
      apply tail c2
      apply hr2.congr
      intro s hs
      by_cases h1 : s < R
      · simp [h1, startPos]
      · have : s = R := by omega
        subst this
        simp [h1, topVal, cntLt_all k _ s hall]
    | some b =>
      obtain ⟨c3, hc3, hr3⟩ := signRotate_spec k _ R hR (heven rfl) hall b c2 hr2
      simp only [hc3, ok_bind]
      exact tail c3 hr3
  intro c3 hr3
  have elo : (lo : Int) = ((lo + 0 : Nat) : Int) := rfl
  have hTl : (bucketConcat k (bucketOrder R rot) (segL a lo (lo+n))).length = n :=
    (bucketConcat_perm k _ _ hnodup (fun x hx => (hmem _).2 (hall x hx))).length_eq.trans hseglen
  obtain ⟨c4, aux', hd, hauxsz, hrep, hplaced⟩ := distLoop_spec key k R a lo n hsz _ rfl hkey'
    (startPos k R rot (segL a lo (lo+n))) (topVal k R rot (segL a lo (lo+n)))
    (bucketConcat k (bucketOrder R rot) (segL a lo (lo+n))) aux.size (by omega)
    (fun t ht => bucketConcat_getElem?_pos k _ _ _ hchain t ht ((hmem _).2 (hall _ (List.getElem_mem ht))))
    (a.size + 1) 0 c3 aux (Nat.zero_le _) (by omega) rfl
    ⟨hr3.congr (fun s hs => by simp [cnt]), fun r hr p h1 h2 => by simp [cnt] at h2; omega⟩
  rw [elo, hd]
  simp only [ok_bind]
  obtain ⟨a', hcb, ha'sz, ha'⟩ := copyBack_spec aux' lo n a.size hsz (by omega) (a.size + 1) 0 a
    (Nat.zero_le _) (by omega) rfl
  have elo2 : ((lo + 0 : Nat) : Int) = (lo : Int) := rfl
  rw [elo2] at hcb
  rw [← elo, hcb]
  simp only [ok_bind]
  have htake : (segL a lo (lo+n)).take n = segL a lo (lo+n) := by
    rw [List.take_of_length_le]; omega
  rw [htake] at hrep hplaced
  refine ⟨a', aux', c4, rfl, ha'sz, hauxsz, hrep.1, ?_, ?_, ?_⟩
  · intro i hi
    have : ¬ (lo + 0 ≤ i ∧ i < lo + n) := by omega
    rw [ha' i, if_neg this]
  · -- every cell of the segment lies in some bucket range, where `aux'` holds what the concatenation holds
    apply List.ext_getElem?
    intro u
    by_cases hu : u < n
    · obtain ⟨r, hr, h1, h2⟩ := chain_cover _ _ _ _ hchain u (Nat.zero_le _) (by omega)
      have h3 : lo + 0 ≤ lo + u ∧ lo + u < lo + n := by omega
      rw [Array.getElem?_toList, Array.getElem?_extract, if_pos (by omega), ha' (lo + u), if_pos h3,
        Nat.add_sub_cancel_left, hplaced r ((hmem r).1 hr) u h1 h2]
    · rw [List.getElem?_eq_none (by simp; omega), List.getElem?_eq_none (by omega)]
  · intro r hr
    rw [hrep.2 r hr]
    congr 1
    exact countAfter_eq k _ R rot hR heven hall r hr

end AlgoVerif.C07
