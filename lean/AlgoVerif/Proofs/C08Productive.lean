import AlgoVerif.Proofs.C08Total
/-!
# `nonEmptyB_iff`: the hypothesis `L(G) ≠ ∅`, which the C09 theorems need for `Valid` of the
result, is decidable
-/
namespace AlgoVerif.C08
open AlgoVerif AlgoVerif.Gram AlgoVerif.C08.Spec

theorem productive_total (g : G) : ∃ pr, productive g = some pr :=
  headPass_total bodyProductive g.prods

theorem nonEmptyB_iff (g : G) : nonEmptyB g = true ↔ ∃ w, Language g w := by
  obtain ⟨pr, hpr⟩ := productive_total g
  unfold nonEmptyB
  rw [hpr]
  simpa [DerivesOver, Language] using headFix_exact (ok := fun _ => true) hpr g.start

end AlgoVerif.C08
