import AlgoVerif.Proofs.C06BinaryQueries
/-!
# C06 — every step of the binary trie Model is the Spec's step (simulation under `BInv`)
-/
namespace AlgoVerif.C06
variable {V : Type}

structure BInv (t : Binary V) (m : Spec.Map V) : Prop where
  wf : t.root.WF
  ents : t.root.ents = m
  size : t.size = m.length

theorem BInv.sorted {t : Binary V} {m : Spec.Map V} (h : BInv t m) : Sorted m := h.ents ▸ BNode.sorted_ents h.wf

theorem BInv.new : BInv (Binary.new : Binary V) [] := ⟨trivial, rfl, rfl⟩

namespace Binary
open Spec

theorem get_eq {t : Binary V} {m : Map V} (h : BInv t m) (k : Key) : t.root.get k = Map.get m k := by
  rw [BNode.get_eq _ _ h.wf, h.ents]

theorem put_sim [Inhabited V] {t : Binary V} {m : Map V} (h : BInv t m) (c : UInt8) (rest : Key) (v : V) :
    BInv { size := (t.root.put c rest v t.size).2, root := (t.root.put c rest v t.size).1 } (Map.put m (c :: rest) v) := by
  have hw := (BNode.put_WF t.root c rest v t.size h.wf).1
  have he : (t.root.put c rest v t.size).1.ents = Map.put m (c :: rest) v := by
    rw [BNode.ents_put _ _ _ _ _ h.wf, h.ents]
  refine ⟨hw, he, ?_⟩
  show (t.root.put c rest v t.size).2 = _
  rw [BNode.put_size, he, h.size, h.ents]; omega

theorem delete_sim [Inhabited V] {t : Binary V} {m : Map V} (h : BInv t m) (c : UInt8) (rest : Key) :
    BInv { size := (t.root.delete c rest t.size).2.2, root := (t.root.delete c rest t.size).1 } (Map.delete m (c :: rest)) := by
  have hw := (BNode.delete_WF t.root c rest t.size h.wf).1
  have he : (t.root.delete c rest t.size).1.ents = Map.delete m (c :: rest) := by
    rw [BNode.ents_delete _ _ _ _ h.wf, h.ents]
  refine ⟨hw, he, ?_⟩
  show (t.root.delete c rest t.size).2.2 = _
  rw [BNode.delete_size, he, h.size, h.ents]; omega

theorem travAsc_eq {σ : Type} {t : Binary V} {m : Map V} (h : BInv t m) {visit : σ → Key → V → Bool → σ × Bool}
    {g : σ → Key → V → σ × Bool} (hv : ∀ s k v term, visit s k v term = if term then g s k v else (s, true)) (s : σ) :
    t.root.travAsc visit [] s = foldE g m s := by
  rw [BNode.travAsc_eq _ g hv, map_prep_nil, h.ents]

theorem travDesc_eq {σ : Type} {t : Binary V} {m : Map V} (h : BInv t m) {visit : σ → Key → V → Bool → σ × Bool}
    {g : σ → Key → V → σ × Bool} (hv : ∀ s k v term, visit s k v term = if term then g s k v else (s, true)) (s : σ) :
    t.root.travDesc visit [] s = foldE g m.reverse s := by
  rw [BNode.travDesc_eq _ g hv, map_prep_nil, h.ents]

theorem min_eq {t : Binary V} {m : Map V} (h : BInv t m) : t.min = m.min := by
  unfold Binary.min
  rw [travAsc_eq h fun _ _ _ _ => rfl, foldE_min]
  rfl

theorem max_eq {t : Binary V} {m : Map V} (h : BInv t m) : t.max = m.max := by
  unfold Binary.max
  rw [travDesc_eq h fun _ _ _ _ => rfl, foldE_max]
  rfl

theorem floor_eq {t : Binary V} {m : Map V} (h : BInv t m) (key : Key) : t.floor key = m.floor key := by
  unfold Binary.floor
  rw [travAsc_eq h fun _ _ _ _ => rfl, foldE_floor key m h.sorted]
  simp [Map.floor]

theorem ceiling_eq {t : Binary V} {m : Map V} (h : BInv t m) (key : Key) : t.ceiling key = m.ceiling key := by
  unfold Binary.ceiling
  rw [travDesc_eq h fun _ _ _ _ => rfl, (foldE_ceiling key m h.sorted none).1]
  simp [Map.ceiling]

theorem select_eq {t : Binary V} {m : Map V} (h : BInv t m) (rank : Int) : t.select rank = m.select rank := by
  unfold Binary.select Map.select
  by_cases h1 : rank < 0
  · simp [h1]
  · by_cases h2 : rank ≥ t.size
    · have : m[rank.toNat]? = none := by
        rw [List.getElem?_eq_none_iff]; rw [h.size] at h2; omega
      simp [h1, h2, this]
    · simp only [h1, h2, decide_false, Bool.or_self, Bool.false_eq_true, if_false]
      rw [travAsc_eq h fun _ _ _ _ => rfl, foldE_select rank m 0 (by omega)]
      simp

theorem rank_eq {t : Binary V} {m : Map V} (h : BInv t m) (key : Key) : t.rank key = m.rank key := by
  unfold Binary.rank
  rw [travAsc_eq h fun _ _ _ _ => rfl, foldE_rank key m h.sorted]
  simp [Map.rank]

theorem range_eq {t : Binary V} {m : Map V} (h : BInv t m) (lo hi : Key) : t.range lo hi = m.range lo hi := by
  unfold Binary.range
  rw [travAsc_eq h fun _ _ _ _ => rfl, foldE_range lo hi m h.sorted]
  simp [Map.range]

theorem rangeSize_eq {t : Binary V} {m : Map V} (h : BInv t m) (lo hi : Key) : t.rangeSize lo hi = m.rangeSize lo hi := by
  unfold Binary.rangeSize
  rw [travAsc_eq h fun _ _ _ _ => rfl, foldE_rangeSize lo hi m h.sorted]
  simp [Map.rangeSize, Map.range]

theorem all_eq {t : Binary V} {m : Map V} (h : BInv t m) : t.all = m := by
  unfold Binary.all
  rw [travAsc_eq h fun _ _ _ _ => rfl, foldE_all]
  simp

theorem withPrefix_eq {t : Binary V} {m : Map V} (h : BInv t m) (p : Key) : t.withPrefix p = m.withPrefix p := by
  unfold Binary.withPrefix
  rw [BNode.withPrefix_eq _ _ _ h.wf, map_prep_nil, h.ents]; rfl

theorem longestPrefixOf_eq {t : Binary V} {m : Map V} (h : BInv t m) (s : Key) :
    t.longestPrefixOf s = m.longestPrefixOf s := by
  unfold Binary.longestPrefixOf
  rw [BNode.allPrefixOf_eq _ _ _ h.wf, map_prep_nil, h.ents]; rfl

theorem match_eq {t : Binary V} {m : Map V} (h : BInv t m) (pat : Key) : t.match pat = m.match pat := by
  unfold Binary.match
  rw [BNode.match_eq _ _ _ h.wf, map_prep_nil, h.ents]; rfl

theorem delete_held [Inhabited V] {t : Binary V} {m : Map V} (h : BInv t m) {k : Key} {v : V} (hm : (k, v) ∈ m) :
    ∃ t', t.delete k = .ok (t', some v) ∧ BInv t' (Map.delete m k) := by
  cases k with
  | nil => exact absurd rfl (BNode.ents_key_ne_nil _ _ (h.ents ▸ hm))
  | cons c rest =>
    have hval : (t.root.delete c rest t.size).2.1 = some v := by
      rw [BNode.delete_val, get_eq h, Map.get_eq_some h.sorted]; exact hm
    exact ⟨_, by simp only [Binary.delete, hval], delete_sim h c rest⟩

theorem deleteMin_sim [Inhabited V] {t : Binary V} {m : Map V} (h : BInv t m) :
    ∃ t', t.deleteMin = .ok (t', m.min) ∧ BInv t' m.deleteMin := by
  unfold Binary.deleteMin
  rw [min_eq h]
  cases m with
  | nil => exact ⟨t, rfl, h⟩
  | cons e m' =>
    obtain ⟨t', h1, h2⟩ := delete_held h (List.mem_cons_self (a := e))
    rw [Map.delete_head h.sorted] at h2
    exact ⟨t', by simp only [Map.min, List.head?_cons, h1], h2⟩

theorem deleteMax_sim [Inhabited V] {t : Binary V} {m : Map V} (h : BInv t m) :
    ∃ t', t.deleteMax = .ok (t', m.max) ∧ BInv t' m.deleteMax := by
  unfold Binary.deleteMax
  rw [max_eq h]
  cases hm : m.max with
  | none =>
    have : m = [] := by simpa [Map.max] using hm
    subst this
    exact ⟨t, rfl, h⟩
  | some e =>
    obtain ⟨t', h1, h2⟩ := delete_held h (List.mem_of_getLast? hm)
    rw [Map.delete_last h.sorted hm] at h2
    exact ⟨t', by simp only [h1], h2⟩

theorem step_sim [Inhabited V] {t : Binary V} {m : Map V} (h : BInv t m) (op : Op V) (hk : op.keysNonempty = true) :
    ∃ t', t.step op = .ok (t', (Map.step m op).2) ∧ BInv t' (Map.step m op).1 := by
  cases op with
  | put k v =>
    cases k with
    | nil => simp [Op.keysNonempty, Op.keyArg] at hk
    | cons c rest => exact ⟨_, rfl, put_sim h c rest v⟩
  | get k =>
    cases k with
    | nil => simp [Op.keysNonempty, Op.keyArg] at hk
    | cons c rest =>
      refine ⟨t, ?_, h⟩
      simp [Binary.step, Binary.get, Outcome.map, Map.step, get_eq h]
  | delete k =>
    cases k with
    | nil => simp [Op.keysNonempty, Op.keyArg] at hk
    | cons c rest =>
      refine ⟨_, ?_, delete_sim h c rest⟩
      simp [Binary.step, Binary.delete, Outcome.map, Map.step, BNode.delete_val, get_eq h]
  | deleteMin =>
    obtain ⟨t', h1, h2⟩ := deleteMin_sim h
    exact ⟨t', by simp [Binary.step, h1, Outcome.map, Map.step], h2⟩
  | deleteMax =>
    obtain ⟨t', h1, h2⟩ := deleteMax_sim h
    exact ⟨t', by simp [Binary.step, h1, Outcome.map, Map.step], h2⟩
  | deleteAll => exact ⟨_, rfl, BInv.new⟩
  | size => exact ⟨t, by simp [Binary.step, Map.step, Map.size, h.size], h⟩
  | min => exact ⟨t, by simp only [Binary.step, Map.step, min_eq h], h⟩
  | max => exact ⟨t, by simp only [Binary.step, Map.step, max_eq h], h⟩
  | floor k => exact ⟨t, by simp only [Binary.step, Map.step, floor_eq h], h⟩
  | ceiling k => exact ⟨t, by simp only [Binary.step, Map.step, ceiling_eq h], h⟩
  | select i => exact ⟨t, by simp only [Binary.step, Map.step, select_eq h], h⟩
  | rank k => exact ⟨t, by simp only [Binary.step, Map.step, rank_eq h], h⟩
  | range lo hi => exact ⟨t, by simp only [Binary.step, Map.step, range_eq h], h⟩
  | rangeSize lo hi => exact ⟨t, by simp only [Binary.step, Map.step, rangeSize_eq h], h⟩
  | all => exact ⟨t, by simp only [Binary.step, Map.step, all_eq h], h⟩
  | withPrefix p => exact ⟨t, by simp only [Binary.step, Map.step, withPrefix_eq h], h⟩
  | longestPrefixOf s => exact ⟨t, by simp only [Binary.step, Map.step, longestPrefixOf_eq h], h⟩
  | «match» pat => exact ⟨t, by simp only [Binary.step, Map.step, match_eq h], h⟩

theorem run_sim [Inhabited V] {t : Binary V} {m : Map V} (h : BInv t m) (ops : List (Op V))
    (hk : ∀ op ∈ ops, op.keysNonempty = true) :
    Binary.run t ops = (Map.run m ops).map Outcome.ok := by
  induction ops generalizing t m with
  | nil => rfl
  | cons op ops ih =>
    obtain ⟨t', h1, h2⟩ := step_sim h op (hk op (List.mem_cons_self ..))
    simp only [Binary.run, runTrace, h1, Map.run, runSpec, List.map_cons]
    congr 1
    exact ih h2 (fun o ho => hk o (List.mem_cons_of_mem _ ho))

end Binary
end AlgoVerif.C06
