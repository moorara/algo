import AlgoVerif.Proofs.C08LeftRecSubst
/-!
# `EliminateLeftRecursion`: immediate left recursion `lrImmediate`

`A → A α₁ | … | A αₘ | β₁ | … | βₙ` becomes `A → βᵢ A′`, `A′ → αⱼ A′ | ε` with `A′` fresh.  Both grammars
derive from `A` exactly `β α*`:

* new ⊆ old: `A′` stands for any `α₁ … αₖ` (`Tails`), every other symbol for itself (`ImmStands`, an expansion relation
  for `Gram.Derives.expands`); under that reading every production of the new grammar is matched in the old one
  (`imm_matched`: `A → β A′` by `A ⇒ A αₖ ⇒ … ⇒ A α₁ … αₖ ⇒ β α₁ … αₖ`), so `Gram.Language.of_expands` applies;
* old ⊆ new: induction over parse trees (`Gram.Derives.tree_induction`); besides "the form derives `w` in the new
  grammar" the induction carries what a form `A :: tl` yields: `w = w₁ w₂` with `tl ⇒* w₂` and `A ⇒* w₁ y` for every
  continuation `A′ ⇒* y` (push the `α` just read onto the continuation).

No assumption on `α`, `β` is needed (`α = ε` would give the harmless `A′ → A′`).
-/
namespace AlgoVerif.C08
open AlgoVerif AlgoVerif.Gram AlgoVerif.C08.Spec

theorem isLeftRec_iff {p : SProd} : isLeftRec p = true ↔ ∃ tl, p.body = Sym.nonterm p.head :: tl := by
  unfold isLeftRec
  cases hb : p.body with
  | nil => simp
  | cons s tl =>
    cases s with
    | term t => simp
    | nonterm n =>
      simp only [decide_eq_true_eq, List.cons.injEq, Sym.nonterm.injEq]
      constructor
      · intro h; exact ⟨tl, h, rfl⟩
      · rintro ⟨_, h, _⟩; exact h

/-- the productions of the grammar `lrImmediate` returns when it changes something -/
def ImmProds (g : G) (A A' : String) (q : SProd) : Prop :=
  (q ∈ g.prods ∧ q.head ≠ A) ∨
  (∃ p, p ∈ g.prods ∧ p.head = A ∧ isLeftRec p = false ∧ q = { head := A, body := p.body ++ [Sym.nonterm A'] }) ∨
  (∃ p, p ∈ g.prods ∧ p.head = A ∧ isLeftRec p = true ∧ q = { head := A', body := p.body.tail ++ [Sym.nonterm A'] }) ∨
  q = { head := A', body := [] }

theorem lrImmediate_spec {g g' : G} {A : String} (h : lrImmediate g A = .ok g') :
    (g' = g ∧ ∀ p, p ∈ g.prods → p.head = A → isLeftRec p = false) ∨
    ∃ A', A' ∉ g.nonterms ∧ g'.start = g.start ∧ g'.nonterms = g.nonterms ++ [A'] ∧ g'.terms = g.terms ∧
      (∀ q, q ∈ g'.prods ↔ ImmProds g A A' q) ∧ ∃ p, p ∈ g.prods ∧ p.head = A ∧ isLeftRec p = true := by
  unfold lrImmediate at h
  simp only at h
  split at h
  · rename_i hany
    have hex : ∃ p, p ∈ g.prods ∧ p.head = A ∧ isLeftRec p = true := by
      obtain ⟨p, hp, hl⟩ := List.any_eq_true.1 hany
      have := List.mem_filter.1 hp
      exact ⟨p, this.1, by simpa using this.2, hl⟩
    obtain ⟨⟨g1, A'⟩, hn, h⟩ := bind_eq_ok h
    cases h
    obtain ⟨hfresh, rfl⟩ := addNew_ok hn
    right
    refine ⟨A', hfresh, rfl, rfl, rfl, ?_, hex⟩
    intro q
    simp only [mem_ins, mem_insAll, List.mem_filter, List.mem_map, prodsOf]
    unfold ImmProds
    constructor
    · rintro (((⟨h1, h2⟩ | ⟨p, ⟨⟨hp1, hp2⟩, hp3⟩, rfl⟩) | ⟨p, ⟨⟨hp1, hp2⟩, hp3⟩, rfl⟩) | rfl)
      · exact Or.inl ⟨h1, by simpa using h2⟩
      · exact Or.inr (Or.inl ⟨p, hp1, by simpa using hp2, by simpa using hp3, rfl⟩)
      · exact Or.inr (Or.inr (Or.inl ⟨p, hp1, by simpa using hp2, hp3, rfl⟩))
      · exact Or.inr (Or.inr (Or.inr rfl))
    · rintro (⟨h1, h2⟩ | ⟨p, hp1, hp2, hp3, rfl⟩ | ⟨p, hp1, hp2, hp3, rfl⟩ | rfl)
      · exact Or.inl (Or.inl (Or.inl ⟨h1, by simpa using h2⟩))
      · exact Or.inl (Or.inl (Or.inr ⟨p, ⟨⟨hp1, by simpa using hp2⟩, by simpa using hp3⟩, rfl⟩))
      · exact Or.inl (Or.inr ⟨p, ⟨⟨hp1, by simpa using hp2⟩, hp3⟩, rfl⟩)
      · exact Or.inr rfl
  · rename_i hany
    cases h
    refine Or.inl ⟨rfl, fun p hp hpA => ?_⟩
    cases hl : isLeftRec p with
    | false => rfl
    | true => exact absurd (List.any_eq_true.2 ⟨p, List.mem_filter.2 ⟨hp, by simpa using hpA⟩, hl⟩) hany

theorem lrImmediate_start {g g' : G} {A : String} (h : lrImmediate g A = .ok g') : g'.start = g.start := by
  rcases lrImmediate_spec h with ⟨rfl, _⟩ | ⟨A', _, hs, _⟩
  · rfl
  · exact hs

theorem lrImmediate_wf {g g' : G} {A : String} (h : lrImmediate g A = .ok g') (hw : WellFormed g) :
    WellFormed g' := by
  rcases lrImmediate_spec h with ⟨rfl, _⟩ | ⟨A', _, hs, hn, ht, hp, _⟩
  · exact hw
  · obtain ⟨h1, h2⟩ := hw
    have hdecl : ∀ s, SymDeclared g s → SymDeclared g' s := fun s hs' =>
      hs'.mono (fun _ h => ht ▸ h) (fun _ h => hn ▸ List.mem_append_left _ h)
    have hA' : SymDeclared g' (Sym.nonterm A') := by unfold SymDeclared; rw [hn]; simp
    refine ⟨by rw [hs, hn]; simp [h1], ?_⟩
    intro q hq
    rcases (hp q).1 hq with ⟨hq1, _⟩ | ⟨p, hp1, hp2, _, rfl⟩ | ⟨p, hp1, hp2, _, rfl⟩ | rfl
    · obtain ⟨a, b⟩ := h2 q hq1
      exact ⟨by rw [hn]; simp [a], fun s hs' => hdecl s (b s hs')⟩
    · obtain ⟨a, b⟩ := h2 p hp1
      refine ⟨by rw [hn]; simp [hp2 ▸ a], ?_⟩
      intro s hs'
      simp only [List.mem_append, List.mem_singleton] at hs'
      rcases hs' with hs' | rfl
      · exact hdecl s (b s hs')
      · exact hA'
    · obtain ⟨a, b⟩ := h2 p hp1
      refine ⟨by rw [hn]; simp, ?_⟩
      intro s hs'
      simp only [List.mem_append, List.mem_singleton] at hs'
      rcases hs' with hs' | rfl
      · exact hdecl s (b s (List.mem_of_mem_tail hs'))
      · exact hA'
    · exact ⟨by rw [hn]; simp, fun s hs' => by cases hs'⟩

section imm
variable {g g' : G} {A A' : String}

structure ImmCtx (g g' : G) (A A' : String) : Prop where
  prods : ∀ q, q ∈ g'.prods ↔ ImmProds g A A' q
  fresh : ∀ p, p ∈ g.prods → p.head ≠ A' ∧ Free A' p.body
  neA : A ≠ A'

/-- concatenations of tails `α` of the left-recursive productions `A → A α` -/
inductive Tails (g : G) (A : String) : List SSym → Prop where
  | nil : Tails g A []
  | cons {p y} : p ∈ g.prods → p.head = A → isLeftRec p = true → Tails g A y → Tails g A (p.body.tail ++ y)

theorem Tails.derives {y : List SSym} (h : Tails g A y) :
    ∀ z, Derives g [Sym.nonterm A] z → Derives g [Sym.nonterm A] (z ++ y) := by
  induction h with
  | nil => intro z hz; simpa using hz
  | @cons p y hp hA hl _ ih =>
    intro z hz
    obtain ⟨tl, htl⟩ := isLeftRec_iff.1 hl
    have h1 : Derives g [Sym.nonterm A] ([Sym.nonterm A] ++ tl) := by
      have := Derives.of_prod hp
      rwa [htl, hA] at this
    have := ih (z ++ tl) (h1.trans (hz.append_right tl))
    simpa [htl, List.append_assoc] using this

/-- what a symbol of the new grammar stands for in the old one: `A′` for any `α₁ … αₖ`, every other symbol for itself -/
def ImmStands (g : G) (A A' : String) (s : SSym) (x : List SSym) : Prop :=
  (s ≠ Sym.nonterm A' ∧ x = [s]) ∨ (s = Sym.nonterm A' ∧ Tails g A x)

theorem ImmStands.free {α β : List SSym} (hα : Free A' α) (h : Expands (ImmStands g A A') α β) : β = α := by
  refine h.eq_of_id ?_
  rintro s hs x (⟨_, rfl⟩ | ⟨rfl, _⟩)
  · rfl
  · exact absurd hs hα

theorem imm_matched (hc : ImmCtx g g' A A') :
    ∀ q ∈ g'.prods, ∀ b, Expands (ImmStands g A A') q.body b →
      ∃ x, ImmStands g A A' (Sym.nonterm q.head) x ∧ Derives g x b := by
  have self : ∀ n, n ≠ A' → ImmStands g A A' (Sym.nonterm n) [Sym.nonterm n] := fun n hn =>
    .inl ⟨fun h => hn (Sym.nonterm.inj h), rfl⟩
  intro q hq b hb
  rcases (hc.prods q).1 hq with ⟨hq1, _⟩ | ⟨p, hp1, hp2, _, rfl⟩ | ⟨p, hp1, hp2, hp3, rfl⟩ | rfl
  · rw [ImmStands.free (hc.fresh q hq1).2 hb]
    exact ⟨_, self _ (hc.fresh q hq1).1, Derives.of_prod hq1⟩
  · -- `A → β A′`
    obtain ⟨bβ, y, rfl, hβ, hy⟩ := hb.of_append
    rw [ImmStands.free (hc.fresh p hp1).2 hβ]
    rcases hy.of_single with ⟨hne, _⟩ | ⟨_, hy⟩
    · exact absurd rfl hne
    · exact ⟨_, self _ hc.neA, hy.derives _ (hp2 ▸ Derives.of_prod hp1)⟩
  · -- `A′ → α A′`
    obtain ⟨bα, y, rfl, hα, hy⟩ := hb.of_append
    have hfree : Free A' p.body.tail := fun hm => (hc.fresh p hp1).2 (List.mem_of_mem_tail hm)
    rw [ImmStands.free hfree hα]
    rcases hy.of_single with ⟨hne, _⟩ | ⟨_, hy⟩
    · exact absurd rfl hne
    · exact ⟨_, .inr ⟨rfl, Tails.cons hp1 hp2 hp3 hy⟩, Derives.refl _⟩
  · cases hb
    exact ⟨[], .inr ⟨rfl, Tails.nil⟩, Derives.refl _⟩

theorem imm_complete (hc : ImmCtx g g' A A') {α : List SSym} {w : List String}
    (d : Derives g α (w.map Sym.term)) : Derives g' α (w.map Sym.term) := by
  have hε : Derives g' [Sym.nonterm A'] [] :=
    Derives.of_prod (p := { head := A', body := [] }) ((hc.prods _).2 (Or.inr (Or.inr (Or.inr rfl))))
  refine (Derives.tree_induction (g := g) (Q := fun α w => Derives g' α (w.map Sym.term) ∧
      ∀ tl, α = Sym.nonterm A :: tl → ∃ w₁ w₂, w = w₁ ++ w₂ ∧ Derives g' tl (w₂.map Sym.term) ∧
        ∀ y, Derives g' [Sym.nonterm A'] y → Derives g' [Sym.nonterm A] (w₁.map Sym.term ++ y))
    ⟨Derives.refl _, fun _ h => nomatch h⟩ ?_ ?_ d).1
  · rintro t β w ⟨hβ, _⟩
    exact ⟨by simpa using hβ.append_left [Sym.term t], fun _ h => nomatch h⟩
  · rintro p hp β w₁ w₂ _ ⟨hb, hbA⟩ ⟨hβ, _⟩
    -- what an `A` rewritten with `p` yields, given a continuation
    have K : p.head = A → ∀ y, Derives g' [Sym.nonterm A'] y →
        Derives g' [Sym.nonterm A] (w₁.map Sym.term ++ y) := by
      intro hA y hy
      cases hlr : isLeftRec p with
      | false =>
        have hq : ({ head := A, body := p.body ++ [Sym.nonterm A'] } : SProd) ∈ g'.prods :=
          (hc.prods _).2 (Or.inr (Or.inl ⟨p, hp, hA, hlr, rfl⟩))
        exact (Derives.of_prod hq).trans (hb.append hy)
      | true =>
        obtain ⟨tl, htl⟩ := isLeftRec_iff.1 hlr
        obtain ⟨u₁, u₂, rfl, dtl, hU⟩ := hbA tl (by rw [htl, hA])
        have hq : ({ head := A', body := p.body.tail ++ [Sym.nonterm A'] } : SProd) ∈ g'.prods :=
          (hc.prods _).2 (Or.inr (Or.inr (Or.inl ⟨p, hp, hA, hlr, rfl⟩)))
        have h1 := Derives.of_prod hq
        simp only [htl, List.tail_cons] at h1
        simpa [List.append_assoc] using hU _ (h1.trans (dtl.append hy))
    refine ⟨?_, fun tl h => ?_⟩
    · have h1 : Derives g' [Sym.nonterm p.head] (w₁.map Sym.term) := by
        by_cases hA : p.head = A
        · simpa [hA] using K hA [] hε
        · exact (Derives.of_prod ((hc.prods p).2 (Or.inl ⟨hp, hA⟩))).trans hb
      simpa using h1.append hβ
    · cases h
      exact ⟨w₁, w₂, rfl, hβ, K rfl⟩

end imm

theorem lrImmediate_language {g g' : G} {A : String} (h : lrImmediate g A = .ok g') (hw : WellFormed g)
    (w : List String) : Language g' w ↔ Language g w := by
  rcases lrImmediate_spec h with ⟨rfl, _⟩ | ⟨A', hfresh, hs, hn, ht, hp, p0, hp0, hp0A, _⟩
  · exact Iff.rfl
  · have hAin : A ∈ g.nonterms := hp0A ▸ (hw.2 p0 hp0).1
    have hc : ImmCtx g g' A A' :=
      ⟨hp, hw.fresh_not_in hfresh, fun e => hfresh (e ▸ hAin)⟩
    constructor
    · refine Language.of_expands (ImmStands g A A') (fun t => .inl ⟨nofun, rfl⟩) ?_ (imm_matched hc)
      rintro x (⟨_, rfl⟩ | ⟨he, _⟩)
      · rw [hs]
      · exact absurd (Sym.nonterm.inj he ▸ hs ▸ hw.1) hfresh
    · unfold Language
      rw [hs]
      exact imm_complete hc

end AlgoVerif.C08
