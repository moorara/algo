import AlgoVerif.Proofs.C19Lexeme
import AlgoVerif.Proofs.C19Retract
/-!
# C19 — the Model refines the Spec

`Rel`: the simulation relation (buffer invariant + pending lexeme inside the buffer + the rune-level
bookkeeping: sizes stack, offset, line, column, and the column stack as a fold over the pending runes).
-/
namespace AlgoVerif.C19
open AlgoVerif AlgoVerif.Generated

/-- what `Next` does to (`nextColumn`, `lastColumns`) for one rune -/
def trackStep (a : Int × List Int) (c : Char) : Int × List Int :=
  if c = '\n' then (1, a.1 :: a.2) else (a.1 + 1, a.2)

/-- (`nextColumn`, `lastColumns`) after the pending runes, starting from `column` with an empty stack -/
def track (col : Int) (cs : List Char) : Int × List Int := cs.foldl trackStep (col, [])

theorem track_append (col : Int) (cs : List Char) (c : Char) :
    track col (cs ++ [c]) = trackStep (track col cs) c := by
  simp [track, List.foldl_append]

theorem untrack_track (a : Int × List Int) (c : Char) : untrackStep (c = '\n') (trackStep a c) = a := by
  unfold untrackStep trackStep
  by_cases h : c = '\n'
  · simp only [h, decide_true, if_true]
  · simp only [h, decide_false, if_false, Bool.false_eq_true, Int.add_sub_cancel]

theorem advance_append (lc : Nat × Nat) (a b : List Char) :
    Spec.advance lc (a ++ b) = Spec.advance (Spec.advance lc a) b := by
  induction a generalizing lc with
  | nil => rfl
  | cons ch cs ih => obtain ⟨l, c⟩ := lc; simp only [List.cons_append, Spec.advance, ih]

theorem advance_track (cs : List Char) : ∀ (l c : Nat) (lc0 : List Int),
    (cs.foldl trackStep ((c : Int), lc0)).1 = ((Spec.advance (l, c) cs).2 : Int) ∧
    l + (cs.foldl trackStep ((c : Int), lc0)).2.length = (Spec.advance (l, c) cs).1 + lc0.length := by
  induction cs with
  | nil => intro l c lc0; simp [Spec.advance]
  | cons ch cs ih =>
    intro l c lc0
    simp only [List.foldl_cons, Spec.advance, trackStep]
    by_cases h : ch = '\n'
    · simp only [h, if_true]
      have := ih (l + 1) 1 ((c : Int) :: lc0)
      simp only [Int.natCast_one, List.length_cons] at this
      refine ⟨this.1, by omega⟩
    · simp only [h, if_false]
      have := ih l (c + 1) lc0
      simp only [Int.natCast_add, Int.natCast_one] at this
      exact this

theorem eq_nl_of_toNat {c : Char} (h : c.val.toNat = 10) : c = '\n' :=
  Char.ext (UInt32.toNat_inj.mp h)

theorem head_encode_eq_nl (c : Char) : (String.utf8EncodeChar c)[0]? = some 10 ↔ c = '\n' := by
  constructor
  · intro h
    refine eq_nl_of_toNat ?_
    rcases encodeChar_cases c with ⟨hlt, he⟩ | ⟨_, hge⟩
    · rw [he, List.getElem?_cons_zero] at h
      have := congrArg UInt8.toNat (Option.some.inj h)
      rwa [toNat_ofNat_lt _ (by omega)] at this
    · exact absurd (hge 10 (List.mem_of_getElem? h)) (by decide)
  · intro h; subst h; decide

theorem nl_iff (c : Char) : (c.utf8Size = 1 ∧ c.toNat = 10) ↔ c = '\n' := by
  constructor
  · exact fun h => eq_nl_of_toNat h.2
  · intro h; subst h; decide

/-- The simulation relation between a Model state and a Spec state over the source `S`
(`p`, `B`, `cnt`, `s`: the ghost values of the buffer invariant). -/
structure Rel (S : List UInt8) (n : Nat) (i : Input) (st : Spec.State) (p B cnt s : Nat) : Prop where
  inv : Inv S n i p B cnt s
  /-- the bytes after the last well-formed rune: none, or bytes on which the decoder reports an invalid sequence -/
  tail : st.tail = [] ∨ ∃ k, decodeRune st.tail = .invalid k
  src : S = Spec.encode st.flushed ++ (Spec.encode st.pending ++ (Spec.encode st.rest ++ st.tail))
  lex : LexOK n i p B s (Spec.encode st.flushed).length
  pos : p = (Spec.encode st.flushed).length + (Spec.encode st.pending).length
  sizes : i.runeSizes = (st.pending.map Char.utf8Size).reverse
  offset : i.offset = st.flushed.length
  line : i.line = (Spec.advance (1, 1) st.flushed).1
  column : i.column = ((Spec.advance (1, 1) st.flushed).2 : Nat)
  cols : (i.nextColumn, i.lastColumns) = track i.column st.pending

theorem Rel.drop_p {S n i st p B cnt s} (h : Rel S n i st p B cnt s) :
    S.drop p = Spec.encode st.rest ++ st.tail := by
  rw [h.src, h.pos, ← List.append_assoc, List.drop_left' (by simp)]

theorem Rel.advance_pending {S n i st p B cnt s} (hrel : Rel S n i st p B cnt s) :
    i.nextColumn = ((Spec.advance (1, 1) (st.flushed ++ st.pending)).2 : Int) ∧
    (Spec.advance (1, 1) st.flushed).1 + i.lastColumns.length = (Spec.advance (1, 1) (st.flushed ++ st.pending)).1 := by
  have hcols := hrel.cols
  have hat := advance_track st.pending (Spec.advance (1, 1) st.flushed).1 (Spec.advance (1, 1) st.flushed).2 []
  simp only [track, hrel.column] at hcols
  rw [← hcols] at hat
  rw [advance_append]
  exact hat

theorem Rel.forwardPos_eq {S n i st p B cnt s} (hrel : Rel S n i st p B cnt s) :
    i.forwardPos = Spec.posAfter (st.flushed ++ st.pending) := by
  simp only [Input.forwardPos, Spec.posAfter, hrel.offset, hrel.sizes, hrel.line,
    List.length_append, List.length_reverse, List.length_map, Pos.mk.injEq]
  exact ⟨trivial, hrel.advance_pending.2, hrel.advance_pending.1⟩

/-- the output is the report of ill-formed UTF-8, after which the Spec says nothing about further calls -/
def Out.isInvalid : Out → Bool
  | .invalid _ => true
  | _ => false

theorem next_refines {S : List UInt8} {n : Nat} {i : Input} {st : Spec.State} {p B cnt s : Nat}
    (hrel : Rel S n i st p B cnt s) (hnul : NulFree S)
    (hkeep : (Spec.encode (Spec.step st .next).1.pending).length ≤ n) :
    ∃ i', i.step .next = .ok (i', (Spec.step st .next).2) ∧
      ((Spec.step st .next).2.isInvalid = false →
        ∃ p' B' cnt' s', Rel S n i' (Spec.step st .next).1 p' B' cnt' s') := by
  have hN := Next_spec hrel.inv hnul
  rw [hrel.drop_p] at hN
  cases hr : st.rest with
  | nil =>
    rw [hr] at hN
    simp only [Spec.encode, List.flatMap_nil, List.nil_append] at hN
    rcases hrel.tail with ht | ⟨k, ht⟩
    · rw [ht] at hN
      obtain ⟨i', B', cnt', s', hNext, _, _, hi⟩ := hN
      have : i' = i := hi (by rw [hrel.drop_p, hr, ht]; rfl)
      subst this
      refine ⟨i', ?_, fun _ => ⟨p, B, cnt, s, ?_⟩⟩
      · simp only [step_next_of hNext, Spec.step, hr, ht, if_true]
      · simp only [Spec.step, hr, ht, if_true]; exact hrel
    · have htne := ne_nil_of_invalid ht
      rw [ht] at hN
      obtain ⟨i', _, _, _, hNext, _, _⟩ := hN
      refine ⟨i', ?_, ?_⟩
      · simp only [step_next_of hNext, Spec.step, hr, htne, if_false, hrel.forwardPos_eq]
      · intro h; simp [Spec.step, hr, htne, Out.isInvalid] at h
  | cons c r =>
    rw [hr, encode_cons, List.append_assoc, decodeRune_encode] at hN
    obtain ⟨i', B', cnt', s', hNext, hinv', _, hpush, hlex'⟩ := hN
    simp only [Spec.step, hr] at hkeep ⊢
    rw [encode_append, encode_singleton, List.length_append, String.length_utf8EncodeChar] at hkeep
    have hpos := hrel.pos
    refine ⟨i', by rw [step_next_of hNext], fun _ => ⟨p + c.utf8Size, B', cnt', s', ?_⟩⟩
    have hcols := hrel.cols
    exact {
      inv := hinv'
      tail := hrel.tail
      src := by
        simp only [encode_append, encode_singleton]
        rw [hrel.src, hr, encode_cons]; simp
      lex := show LexOK n i' _ B' s' (Spec.encode st.flushed).length from hlex' _ hrel.lex (by omega)
      pos := by simp only [encode_append, encode_singleton, List.length_append, String.length_utf8EncodeChar]; omega
      sizes := by simp [hpush.runeSizes, hrel.sizes]
      offset := by rw [hpush.offset]; exact hrel.offset
      line := by rw [hpush.line]; exact hrel.line
      column := by rw [hpush.column]; exact hrel.column
      cols := by
        rw [track_append, hpush.column, ← hcols, hpush.nextColumn, hpush.lastColumns]
        simp only [trackStep, nl_iff]
        split <;> rfl }

theorem retract_refines {S : List UInt8} {n : Nat} {i : Input} {st : Spec.State} {p B cnt s : Nat}
    (hrel : Rel S n i st p B cnt s) :
    ∃ i', i.step .retract = .ok (i', (Spec.step st .retract).2) ∧
      ∃ p' B' cnt' s', Rel S n i' (Spec.step st .retract).1 p' B' cnt' s' := by
  rcases List.eq_nil_or_concat st.pending with hp | ⟨init, c, hp⟩
  · have hrs : i.runeSizes = [] := by rw [hrel.sizes, hp]; rfl
    refine ⟨i, ?_, p, B, cnt, s, ?_⟩
    · simp [Input.step, Input.Retract, hrs, Spec.step, hp]
    · simp only [Spec.step, hp, List.getLast?_nil]; exact hrel
  · rw [List.concat_eq_append] at hp
    have hrs : i.runeSizes = c.utf8Size :: (init.map Char.utf8Size).reverse := by
      rw [hrel.sizes, hp]; simp
    have hpos := hrel.pos
    rw [hp, encode_append, encode_singleton, List.length_append, String.length_utf8EncodeChar] at hpos
    obtain ⟨x, hx, hR, hinv', hlex'⟩ := Retract_spec hrel.inv hrs c.utf8Size_pos _ hrel.lex (by omega)
    have hstep : Spec.step st .retract = ({ st with pending := init, rest := c :: st.rest }, .unit) := by
      simp [Spec.step, hp]
    rw [hstep]
    refine ⟨_, by simp only [Input.step, hR]; rfl, p - c.utf8Size, B, cnt, s, ?_⟩
    have hsrc : S = Spec.encode st.flushed ++ (Spec.encode init ++ (Spec.encode (c :: st.rest) ++ st.tail)) := by
      rw [hrel.src, hp, encode_append, encode_singleton, encode_cons]; simp
    -- the byte at the new position is the first byte of `c`
    have hx0 : (String.utf8EncodeChar c)[0]? = some x := by
      rw [← hx, hsrc, ← List.append_assoc, encode_cons, List.append_assoc (String.utf8EncodeChar c),
        List.getElem?_append_right (by simp; omega),
        List.getElem?_append_left (by rw [String.length_utf8EncodeChar]; have := c.utf8Size_pos; simp; omega)]
      congr 1; simp; omega
    have hxnl : decide (x = 10) = decide (c = '\n') := by
      rw [decide_eq_decide, ← head_encode_eq_nl, hx0]; simp
    have hcols := hrel.cols
    rw [hp, track_append] at hcols
    exact {
      inv := hinv'
      tail := hrel.tail
      src := hsrc
      lex := hlex'
      pos := by simp only []; omega
      sizes := rfl
      offset := hrel.offset
      line := hrel.line
      column := hrel.column
      cols := by
        show untrackStep (decide (x = 10)) (i.nextColumn, i.lastColumns) = track i.column init
        rw [hxnl, hcols, untrack_track] }

/-- `Rel` after the common tail of `Lexeme` and `Skip` -/
theorem flush_rel {S : List UInt8} {n : Nat} {i : Input} {st : Spec.State} {p B cnt s : Nat}
    (hrel : Rel S n i st p B cnt s) (lb : Nat) (hlb : lb = idx n s B p) :
    Rel S n ({ i with lexemeBegin := lb }).flush
      { st with flushed := st.flushed ++ st.pending, pending := [] } p B cnt s := by
  have hat := hrel.advance_pending
  exact {
    inv := hrel.inv.of_eq rfl rfl rfl rfl rfl
    tail := hrel.tail
    src := by simp only [encode_append]; rw [hrel.src]; simp [Spec.encode]
    lex := by
      rw [encode_append, List.length_append, ← hrel.pos]
      exact ⟨Nat.le_refl _, hrel.inv.p_lo, by omega, hlb⟩
    pos := by simp only [encode_append, List.length_append]; rw [hrel.pos]; simp [Spec.encode]
    sizes := by simp [Input.flush]
    offset := by simp [Input.flush, hrel.offset, hrel.sizes]
    line := by
      simp only [Input.flush, hrel.line]
      exact hat.2
    column := by
      simp only [Input.flush]
      exact hat.1
    cols := by simp [Input.flush, track] }

theorem Rel.pos_eq {S n i st p B cnt s} (hrel : Rel S n i st p B cnt s) : i.pos = Spec.posAfter st.flushed := by
  simp [Input.pos, Spec.posAfter, hrel.offset, hrel.line, hrel.column]

theorem skip_refines {S : List UInt8} {n : Nat} {i : Input} {st : Spec.State} {p B cnt s : Nat}
    (hrel : Rel S n i st p B cnt s) :
    ∃ i', i.step .skip = .ok (i', (Spec.step st .skip).2) ∧
      ∃ p' B' cnt' s', Rel S n i' (Spec.step st .skip).1 p' B' cnt' s' := by
  refine ⟨_, ?_, p, B, cnt, s, flush_rel hrel i.forward hrel.inv.fw⟩
  simp [Input.step, Input.Skip, Spec.step, hrel.pos_eq]

theorem lexeme_refines {S : List UInt8} {n : Nat} {i : Input} {st : Spec.State} {p B cnt s : Nat}
    (hrel : Rel S n i st p B cnt s) :
    ∃ i', i.step .lexeme = .ok (i', (Spec.step st .lexeme).2) ∧
      ∃ p' B' cnt' s', Rel S n i' (Spec.step st .lexeme).1 p' B' cnt' s' := by
  have hl := hrel.lex
  have hloop := lexemeLoop_spec hrel.inv (Spec.encode st.pending).length (Spec.encode st.flushed).length []
    (i.buff.size + 1) (hrel.pos.symm) hl.b_lo (by have := hl.len; have := hrel.pos; omega)
    (by rw [hrel.inv.size]; have := hl.len; have := hrel.pos; omega)
  rw [← hl.lb, ← hrel.inv.fw] at hloop
  have hbytes : (S.drop (Spec.encode st.flushed).length).take (Spec.encode st.pending).length
      = Spec.encode st.pending := by
    rw [hrel.src, List.drop_left, List.take_left]
  refine ⟨_, ?_, p, B, cnt, s, flush_rel hrel i.forward hrel.inv.fw⟩
  simp only [Input.step, Input.Lexeme, hloop, Spec.step, hrel.pos_eq, List.reverse_nil, List.nil_append, hbytes]

theorem step_refines {S : List UInt8} {n : Nat} {i : Input} {st : Spec.State} {p B cnt s : Nat}
    (hrel : Rel S n i st p B cnt s) (hnul : NulFree S) (op : Op)
    (hkeep : (Spec.encode (Spec.step st op).1.pending).length ≤ n) :
    ∃ i', i.step op = .ok (i', (Spec.step st op).2) ∧
      ((Spec.step st op).2.isInvalid = false → ∃ p' B' cnt' s', Rel S n i' (Spec.step st op).1 p' B' cnt' s') := by
  cases op with
  | next => exact next_refines hrel hnul hkeep
  | retract => exact (retract_refines hrel).imp fun _ h => ⟨h.1, fun _ => h.2⟩
  | lexeme => exact (lexeme_refines hrel).imp fun _ h => ⟨h.1, fun _ => h.2⟩
  | skip => exact (skip_refines hrel).imp fun _ h => ⟨h.1, fun _ => h.2⟩

theorem Spec.step_tail (s : Spec.State) (op : Op) : (Spec.step s op).1.tail = s.tail := by
  cases op with
  | next => cases hr : s.rest <;> simp only [Spec.step, hr] <;> (try split) <;> rfl
  | retract => cases hg : s.pending.getLast? <;> simp [Spec.step, hg]
  | lexeme => rfl
  | skip => rfl

theorem Spec.step_noInvalid (s : Spec.State) (op : Op) (h : s.tail = []) : (Spec.step s op).2.isInvalid = false := by
  cases op with
  | next => cases hr : s.rest <;> simp [Spec.step, hr, h, Out.isInvalid]
  | retract => cases hg : s.pending.getLast? <;> simp [Spec.step, hg, Out.isInvalid]
  | lexeme => rfl
  | skip => rfl

theorem Spec.states_append (s : Spec.State) (a b : List Op) :
    Spec.states s (a ++ b) = Spec.states s a ++ Spec.states (Spec.final s a) b := by
  induction a generalizing s with
  | nil => rfl
  | cons op a ih => simp only [List.cons_append, Spec.states, Spec.final, ih]

theorem Spec.Keeps.append {n : Nat} {s : Spec.State} {a b : List Op} (h : Spec.Keeps n s (a ++ b)) :
    Spec.Keeps n s a ∧ Spec.Keeps n (Spec.final s a) b := by
  unfold Spec.Keeps at h ⊢
  rw [Spec.states_append] at h
  exact ⟨fun s' hs => h s' (List.mem_append_left _ hs), fun s' hs => h s' (List.mem_append_right _ hs)⟩

theorem Spec.run_clean (s : Spec.State) (ops : List Op) (h : s.tail = []) :
    ∀ o ∈ Spec.run s ops, o.isInvalid = false := by
  induction ops generalizing s with
  | nil => intro o ho; cases ho
  | cons op ops ih =>
    intro o ho
    simp only [Spec.run, List.mem_cons] at ho
    rcases ho with rfl | ho
    · exact Spec.step_noInvalid s op h
    · exact ih _ (by rw [Spec.step_tail]; exact h) o ho

/-- Forward simulation over a call sequence that keeps the pending lexeme within `n` bytes and during which the Spec
reports no ill-formed sequence (after such a report the Model has consumed bytes the Spec has not, and nothing is
specified): the Model returns the Spec's outputs and is left related to the Spec's final state.  Stated with a
continuation `more`, so that it composes with further calls. -/
theorem run_sim {S : List UInt8} {n : Nat} (hnul : NulFree S) : ∀ (ops : List Op) (i : Input)
    (st : Spec.State) (p B cnt s : Nat), Rel S n i st p B cnt s → Spec.Keeps n st ops →
    (∀ o ∈ Spec.run st ops, o.isInvalid = false) →
    ∃ i' p' B' cnt' s', Rel S n i' (Spec.final st ops) p' B' cnt' s' ∧
      ∀ more, i.run (ops ++ more) = (Spec.run st ops).map .ok ++ i'.run more := by
  intro ops
  induction ops with
  | nil => intro i st p B cnt s hrel _ _; exact ⟨i, p, B, cnt, s, hrel, fun _ => rfl⟩
  | cons op ops ih =>
    intro i st p B cnt s hrel hkeep hclean
    obtain ⟨hk1, hk2⟩ := Spec.Keeps.append (a := [op]) hkeep
    obtain ⟨i1, hstep, hrel1⟩ := step_refines hrel hnul op (hk1 _ (by simp [Spec.states]))
    obtain ⟨p1, B1, cnt1, s1, hr1⟩ := hrel1 (hclean _ (by simp [Spec.run]))
    obtain ⟨i', p', B', cnt', s', hr', hrun⟩ :=
      ih i1 _ p1 B1 cnt1 s1 hr1 hk2 (fun o ho => hclean o (by simp [Spec.run, ho]))
    exact ⟨i', p', B', cnt', s', hr', fun more => by
      simp only [List.cons_append, Input.run, hstep, Spec.run, List.map_cons, hrun more]⟩

theorem run_refines {S : List UInt8} {n : Nat} (hnul : NulFree S) (ops : List Op) (i : Input) (st : Spec.State)
    (p B cnt s : Nat) (hrel : Rel S n i st p B cnt s) (htail : st.tail = []) (hkeep : Spec.Keeps n st ops) :
    i.run ops = (Spec.run st ops).map .ok := by
  obtain ⟨_, _, _, _, _, _, hrun⟩ := run_sim hnul ops i st p B cnt s hrel hkeep (Spec.run_clean st ops htail)
  simpa [Input.run] using hrun []

end AlgoVerif.C19
