import AlgoVerif.Proofs.C13Basic
/-! C13: runs as sequences of single moves (`Steps`, with the simulation lemma the constructions share). -/
namespace AlgoVerif.C13
open AlgoVerif AlgoVerif.C13.Spec

/-- the transition relation the NFA model denotes -/
def NFA.Δ (n : NFA) (s a t : Int) : Prop := ∃ nx, n.next s a = some nx ∧ t ∈ nx

def NFA.lang (n : NFA) : Lang := nfaLang n.Δ n.start (fun f => f ∈ n.final)

theorem E_eq : E = Spec.eps := by decide

theorem NFA.next_add (n : NFA) (s a : Int) (nx : List Int) (s' a' : Int) :
    (n.add s a nx).next s' a' =
      if s' = s ∧ a' = a then some (saddAll ((n.next s a).getD []) nx) else n.next s' a' := by
  simp only [NFA.add, NFA.next, aget_aput]
  by_cases hs : s' = s
  · subst hs
    simp only [true_and]
    simp only [if_true, aget_aput]
    by_cases ha : a' = a
    · subst ha; simp; cases aget s' n.trans <;> simp [aget]
    · simp [ha]; cases aget s' n.trans <;> simp [aget]
  · simp [hs]

theorem NFA.Δ_add (n : NFA) (s a : Int) (nx : List Int) (s' a' t : Int) :
    (n.add s a nx).Δ s' a' t ↔ n.Δ s' a' t ∨ (s' = s ∧ a' = a ∧ t ∈ nx) := by
  simp only [NFA.Δ, NFA.next_add]
  by_cases h : s' = s ∧ a' = a
  · obtain ⟨rfl, rfl⟩ := h
    simp
    cases hn : n.next s' a' <;> simp
  · simp [h]; grind

@[simp] theorem NFA.start_add (n : NFA) (s a : Int) (nx : List Int) : (n.add s a nx).start = n.start := rfl
@[simp] theorem NFA.final_add (n : NFA) (s a : Int) (nx : List Int) : (n.add s a nx).final = n.final := rfl

theorem closeStep_cons (u : Int) (nx c st : List Int) :
    closeStep (u :: nx) c st = if u ∈ c then closeStep nx c st else closeStep nx (sins u c) (u :: st) := by
  simp only [closeStep, List.foldl_cons, List.contains_eq_mem, decide_eq_true_eq]
  split <;> rfl

theorem closeStep_mem_closure (nx c st : List Int) (x : Int) :
    x ∈ (closeStep nx c st).1 ↔ x ∈ c ∨ x ∈ nx := by
  induction nx generalizing c st with
  | nil => simp [closeStep]
  | cons u nx ih =>
    rw [closeStep_cons]
    split
    · rename_i hu
      rw [ih, List.mem_cons]
      exact ⟨fun h => h.imp_right Or.inr, fun h => h.elim Or.inl (fun h => h.elim (fun h => Or.inl (h ▸ hu)) Or.inr)⟩
    · rw [ih, mem_sins, List.mem_cons, or_assoc, or_left_comm]

theorem closeStep_mem_stack (nx c st : List Int) (x : Int) :
    x ∈ (closeStep nx c st).2 ↔ x ∈ st ∨ (x ∈ nx ∧ x ∉ c) := by
  induction nx generalizing c st with
  | nil => simp [closeStep]
  | cons u nx ih =>
    rw [closeStep_cons]
    split
    · rename_i hu
      rw [ih, List.mem_cons]
      exact or_congr_right ⟨fun h => ⟨Or.inr h.1, h.2⟩,
        fun h => ⟨h.1.resolve_left (fun e => h.2 (e ▸ hu)), h.2⟩⟩
    · rename_i hu
      rw [ih, mem_sins, List.mem_cons, List.mem_cons, or_assoc, or_left_comm]
      refine or_congr_right ⟨?_, ?_⟩
      · rintro (rfl | ⟨h1, h2⟩)
        · exact ⟨Or.inl rfl, hu⟩
        · exact ⟨Or.inr h1, fun h => h2 (Or.inr h)⟩
      · rintro ⟨rfl | h1, h2⟩
        · exact Or.inl rfl
        · by_cases hxu : x = u
          · exact Or.inl hxu
          · exact Or.inr ⟨h1, fun h => h.elim hxu h2⟩

theorem closeStep_measure (U nx c st : List Int) (h : ∀ x ∈ nx, x ∈ U) :
    searchMeasure U (closeStep nx c st).1 (closeStep nx c st).2 ≤ searchMeasure U c st := by
  induction nx generalizing c st with
  | nil => simp [closeStep]
  | cons u nx ih =>
    have hnx : ∀ x ∈ nx, x ∈ U := fun x hx => h x (List.mem_cons_of_mem _ hx)
    rw [closeStep_cons]
    split
    · exact ih c st hnx
    · rename_i hu
      refine Nat.le_trans (ih _ _ hnx) ?_
      have := unvisited_lt U c (sins u c) u (h u (List.mem_cons_self ..)) hu (fun _ => mem_sins)
      simp only [searchMeasure, List.length_cons]
      omega

theorem NFA.next_targets (n : NFA) (s a : Int) (nx : List Int) (h : n.next s a = some nx) :
    ∀ x ∈ nx, x ∈ n.targets := by
  intro x hx
  simp only [NFA.next] at h
  split at h
  · rename_i st hst
    simp only [NFA.targets, List.mem_flatMap]
    exact ⟨(s, st), aget_mem hst, (a, nx), aget_mem h, hx⟩
  · simp at h

theorem EReach.trans {δ : Int → Int → Int → Prop} {a b c : Int} (h1 : EReach δ a b) (h2 : EReach δ b c) :
    EReach δ a c := by
  induction h2 with
  | refl => exact h1
  | step _ h ih => exact EReach.step ih h

theorem ssorted_closeStep (nx c st : List Int) (h : SSorted c) : SSorted (closeStep nx c st).1 :=
  foldl_keeps (P := fun cs : List Int × List Int => SSorted cs.1)
    (fun _ _ h => by split; exact h; exact ssorted_sins h) nx h

theorem NFA.closureLoop_total (n : NFA) (fuel : Nat) (c st : List Int)
    (h : searchMeasure n.targets c st < fuel) (hst : ∀ x ∈ st, x ∈ c)
    (hcl : ∀ x ∈ c, x ∈ st ∨ ∀ u, n.Δ x E u → u ∈ c) :
    ∃ c', n.closureLoop fuel c st = .ok c' ∧
      (∀ x ∈ c, x ∈ c') ∧ (∀ x ∈ c', ∀ u, n.Δ x E u → u ∈ c') ∧
      (∀ x ∈ c', ∃ y ∈ c, EReach n.Δ y x) ∧ (SSorted c → SSorted c') := by
  fun_induction NFA.closureLoop n fuel c st with
  | case1 _ c =>
    exact ⟨c, rfl, fun x hx => hx, fun x hx u hu => (hcl x hx).resolve_left (by simp) u hu,
      fun x hx => ⟨x, hx, .refl x⟩, id⟩
  | case2 => omega
  | case3 fuel c t st nx hn ih =>
    -- the popped state `t` is closed from now on: its ε-successors `nx` have just been added
    obtain ⟨c', k0, k1, k2, k3, k4⟩ := ih
      (by have := closeStep_measure n.targets nx c st (n.next_targets t E nx hn)
          simp only [searchMeasure, List.length_cons] at h this ⊢; omega)
      (fun x hx => (closeStep_mem_closure ..).2
        (((closeStep_mem_stack ..).1 hx).elim (fun h => Or.inl (hst x (List.mem_cons_of_mem _ h))) (fun h => Or.inr h.1)))
      (fun x hx => by
        rw [closeStep_mem_stack]
        simp only [closeStep_mem_closure] at hx ⊢
        by_cases hxc : x ∈ c
        · rcases hcl x hxc with h1 | h1
          · rcases List.mem_cons.1 h1 with rfl | h1
            · exact Or.inr (fun u ⟨nx', h2, h3⟩ => by rw [hn] at h2; cases h2; exact Or.inr h3)
            · exact Or.inl (Or.inl h1)
          · exact Or.inr (fun u hu => Or.inl (h1 u hu))
        · exact Or.inl (Or.inr ⟨hx.resolve_left hxc, hxc⟩))
    refine ⟨c', k0, fun x hx => k1 x ((closeStep_mem_closure ..).2 (Or.inl hx)), k2, fun x hx => ?_,
      fun hc => k4 (ssorted_closeStep nx c st hc)⟩
    obtain ⟨y, hy, hyx⟩ := k3 x hx
    rcases (closeStep_mem_closure ..).1 hy with hy | hy
    · exact ⟨y, hy, hyx⟩
    · exact ⟨t, hst t (List.mem_cons_self ..),
        EReach.trans (EReach.step (EReach.refl t) (by rw [← E_eq]; exact ⟨nx, hn, hy⟩)) hyx⟩
  | case4 fuel c t st hn ih =>
    refine ih (by simp only [searchMeasure, List.length_cons] at h ⊢; omega)
      (fun x hx => hst x (List.mem_cons_of_mem _ hx)) (fun x hx => ?_)
    rcases hcl x hx with h1 | h1
    · rcases List.mem_cons.1 h1 with rfl | h1
      · exact Or.inr (fun u ⟨nx, h2, _⟩ => by rw [hn] at h2; cases h2)
      · exact Or.inl h1
    · exact Or.inr h1

theorem NFA.εClosure_total (n : NFA) (T : List Int) :
    ∃ c, n.εClosure T = .ok c ∧ (∀ x, x ∈ c ↔ ∃ s ∈ T, EReach n.Δ s x) ∧ (SSorted T → SSorted c) := by
  obtain ⟨c, hc, k1, k2, k3, k4⟩ := n.closureLoop_total (n.closureFuel T) T T.reverse (by
    simp only [searchMeasure, NFA.closureFuel, List.length_reverse]
    have := unvisited_le n.targets T
    omega) (by simp) (by intro x hx; left; simpa using hx)
  refine ⟨c, hc, fun x => ⟨k3 x, ?_⟩, k4⟩
  rintro ⟨s, hs, hsx⟩
  rw [E_eq] at k2
  induction hsx with
  | refl => exact k1 s hs
  | step _ h2 ih => exact k2 _ ih _ h2

theorem NFA.mem_moveStep (n : NFA) (a : Int) (acc : List Int) (s x : Int) :
    x ∈ n.moveStep a acc s ↔ x ∈ acc ∨ n.Δ s a x := by
  unfold NFA.moveStep NFA.Δ
  cases n.next s a <;> simp

theorem NFA.mem_move (n : NFA) (T : List Int) (a x : Int) :
    x ∈ n.move T a ↔ ∃ s ∈ T, n.Δ s a x :=
  (foldl_grow (fun l x => x ∈ l) (n.mem_moveStep a) T [] x).trans (by simp)

theorem NFA.move_sorted (n : NFA) (T : List Int) (a : Int) : SSorted (n.move T a) :=
  foldl_keeps (P := SSorted) (fun _ _ h => by unfold NFA.moveStep; split; exact ssorted_saddAll h; exact h) T
    (by simp [SSorted])

def Reps (n : NFA) (q : Int) (u : Word) (S : List Int) : Prop := ∀ x, x ∈ S ↔ Path n.Δ q u x

theorem Path.append {δ : Int → Int → Int → Prop} {s t u : Int} {w v : Word}
    (h1 : Path δ s w t) (h2 : Path δ t v u) : Path δ s (w ++ v) u := by
  induction h1 with
  | eps he =>
    cases h2 with
    | eps he2 => exact Path.eps (EReach.trans he he2)
    | cons he2 hd hp => exact Path.cons (EReach.trans he he2) hd hp
  | cons he hd _ ih => exact Path.cons he hd (ih h2)

theorem Path.snoc {δ : Int → Int → Int → Prop} {s t t1 t2 : Int} {w : Word} {a : Int}
    (h : Path δ s w t) (hd : δ t a t1) (h2 : EReach δ t1 t2) : Path δ s (w ++ [a]) t2 :=
  Path.append h (Path.cons (EReach.refl _) hd (Path.eps h2))

theorem Path.split {δ : Int → Int → Int → Prop} {s u : Int} {w v : Word}
    (h : Path δ s (w ++ v) u) : ∃ t, Path δ s w t ∧ Path δ t v u := by
  induction w generalizing s with
  | nil => exact ⟨s, Path.eps (EReach.refl s), h⟩
  | cons a w ih =>
    cases h with
    | cons he hd hp =>
      obtain ⟨t, h1, h2⟩ := ih hp
      exact ⟨t, Path.cons he hd h1, h2⟩

theorem Path.unsnoc {δ : Int → Int → Int → Prop} {s t2 : Int} {w : Word} {a : Int}
    (h : Path δ s (w ++ [a]) t2) : ∃ t t1, Path δ s w t ∧ δ t a t1 ∧ EReach δ t1 t2 := by
  obtain ⟨t, h1, h2⟩ := Path.split h
  cases h2 with
  | cons he hd hp =>
    cases hp with
    | eps h2 => exact ⟨_, _, List.append_nil w ▸ Path.append h1 (Path.eps he), hd, h2⟩

/-- paths as sequences of single moves (equivalent to `Spec.Path`, easier to induct on) -/
inductive Steps (δ : Int → Int → Int → Prop) : Int → Word → Int → Prop
  | nil (x : Int) : Steps δ x [] x
  | eps {x x' y : Int} {w : Word} : δ x Spec.eps x' → Steps δ x' w y → Steps δ x w y
  | sym {x x' y : Int} {a : Int} {w : Word} : δ x a x' → Steps δ x' w y → Steps δ x (a :: w) y

theorem Steps.append {δ : Int → Int → Int → Prop} {x y z : Int} {u v : Word}
    (h1 : Steps δ x u y) (h2 : Steps δ y v z) : Steps δ x (u ++ v) z := by
  induction h1 with
  | nil => exact h2
  | eps hd _ ih => exact Steps.eps hd (ih h2)
  | sym hd _ ih => exact Steps.sym hd (ih h2)

theorem Steps.of_ereach {δ : Int → Int → Int → Prop} {x y : Int} (h : EReach δ x y) : Steps δ x [] y := by
  induction h with
  | refl => exact Steps.nil _
  | step _ hd ih => exact Steps.append ih (Steps.eps hd (Steps.nil _))

theorem Steps.of_path {δ : Int → Int → Int → Prop} {x y : Int} {w : Word} (h : Path δ x w y) : Steps δ x w y := by
  induction h with
  | eps he => exact Steps.of_ereach he
  | cons he hd _ ih => exact Steps.append (Steps.of_ereach he) (Steps.sym hd ih)

theorem Path.prepend_eps {δ : Int → Int → Int → Prop} {x x' y : Int} {w : Word}
    (hd : δ x Spec.eps x') (h : Path δ x' w y) : Path δ x w y := by
  cases h with
  | eps he => exact Path.eps (EReach.trans (EReach.step (EReach.refl _) hd) he)
  | cons he hd' hp => exact Path.cons (EReach.trans (EReach.step (EReach.refl _) hd) he) hd' hp

theorem Steps.to_path {δ : Int → Int → Int → Prop} {x y : Int} {w : Word} (h : Steps δ x w y) : Path δ x w y := by
  induction h with
  | nil => exact Path.eps (EReach.refl _)
  | eps hd _ ih => exact Path.prepend_eps hd ih
  | sym hd _ ih => exact Path.cons (EReach.refl _) hd ih

theorem Steps.stuck {δ : Int → Int → Int → Prop} {x y : Int} {w : Word} (hx : ∀ a y, ¬ δ x a y)
    (h : Steps δ x w y) : w = [] ∧ y = x := by
  cases h with
  | nil => exact ⟨rfl, rfl⟩
  | eps hd _ => exact absurd hd (hx _ _)
  | sym hd _ => exact absurd hd (hx _ _)

theorem Steps.sim {δ₁ δ₂ : Int → Int → Int → Prop} (R : Int → Int → Prop)
    (hstep : ∀ s a t x, δ₁ s a t → R s x → ∃ y, R t y ∧ δ₂ x a y)
    {s t : Int} {w : Word} (h : Steps δ₁ s w t) : ∀ x, R s x → ∃ y, R t y ∧ Steps δ₂ x w y := by
  induction h with
  | nil => exact fun x hx => ⟨x, hx, Steps.nil _⟩
  | eps hd _ ih =>
    intro x hx
    obtain ⟨y, hy, hd'⟩ := hstep _ _ _ _ hd hx
    obtain ⟨z, hz, hs⟩ := ih y hy
    exact ⟨z, hz, Steps.eps hd' hs⟩
  | sym hd _ ih =>
    intro x hx
    obtain ⟨y, hy, hd'⟩ := hstep _ _ _ _ hd hx
    obtain ⟨z, hz, hs⟩ := ih y hy
    exact ⟨z, hz, Steps.sym hd' hs⟩

def Succ (n : NFA) (T : List Int) (a : Int) (U : List Int) : Prop :=
  ∀ x, x ∈ U ↔ ∃ s ∈ T, ∃ t, n.Δ s a t ∧ EReach n.Δ t x

theorem NFA.succ_of_closure_move (n : NFA) {T c : List Int} {a : Int}
    (hc : ∀ x, x ∈ c ↔ ∃ t ∈ n.move T a, EReach n.Δ t x) : Succ n T a c := fun x => by
  simp only [hc, n.mem_move]
  exact ⟨fun ⟨t, ⟨s, hs, hd⟩, hr⟩ => ⟨s, hs, t, hd, hr⟩, fun ⟨s, hs, t, hd, hr⟩ => ⟨t, ⟨s, hs, hd⟩, hr⟩⟩

theorem Reps.nil {n : NFA} {q : Int} {c : List Int} (hc : ∀ x, x ∈ c ↔ ∃ s ∈ mkSet [q], EReach n.Δ s x) :
    Reps n q [] c := by
  intro x
  rw [hc]
  constructor
  · rintro ⟨s, hs, hsx⟩
    obtain rfl : s = q := by simpa using hs
    exact Path.eps hsx
  · intro hp
    cases hp with
    | eps he => exact ⟨q, by simp, he⟩

theorem Reps.step {n : NFA} {q a : Int} {u : Word} {T U : List Int} (hR : Reps n q u T)
    (hU : Succ n T a U) : Reps n q (u ++ [a]) U := by
  intro x
  rw [hU]
  constructor
  · rintro ⟨s, hs, t, hd, hr⟩; exact Path.snoc ((hR s).1 hs) hd hr
  · intro hp
    obtain ⟨t, t1, hp', hd, h2⟩ := Path.unsnoc hp
    exact ⟨t, (hR t).2 hp', t1, hd, h2⟩

theorem NFA.acceptLoop_total (n : NFA) (q : Int) (u w : Word) (S : List Int) (hS : Reps n q u S) :
    ∃ S', n.acceptLoop S w = .ok S' ∧ Reps n q (u ++ w) S' := by
  induction w generalizing u S with
  | nil => exact ⟨S, by simp [NFA.acceptLoop], by simpa using hS⟩
  | cons a w ih =>
    obtain ⟨c, hc, hcm, -⟩ := n.εClosure_total (n.move S a)
    simp only [NFA.acceptLoop, hc]
    obtain ⟨S', h1, h2⟩ := ih (u ++ [a]) c (hS.step (n.succ_of_closure_move hcm))
    exact ⟨S', h1, by simpa using h2⟩

theorem NFA.accept_total (n : NFA) (w : Word) :
    ∃ b, n.accept w = .ok b ∧ (b = true ↔ n.lang w) := by
  obtain ⟨c, hc, hcm, -⟩ := n.εClosure_total (mkSet [n.start])
  obtain ⟨S, hS, hR⟩ := n.acceptLoop_total n.start [] w c (Reps.nil hcm)
  refine ⟨_, by simp only [NFA.accept, hc, hS]; rfl, ?_⟩
  simp only [List.nil_append] at hR
  simp only [List.any_eq_true, NFA.lang, nfaLang]
  constructor
  · rintro ⟨x, hx, hf⟩
    exact ⟨x, by simpa using hf, (hR x).1 hx⟩
  · rintro ⟨f, hf, hp⟩
    exact ⟨f, (hR f).2 hp, by simpa using hf⟩

end AlgoVerif.C13
