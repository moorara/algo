import AlgoVerif.Model.C10
/-! The predictive table as statements about set membership, for any FIRST function and FOLLOW table: what is in a cell
(`InCellP`, `mem_cell`) and what `Conflicts()` reports (`Conflict`, `conflicts_ne_nil_iff`). -/
set_option linter.unusedSectionVars false
namespace AlgoVerif.C10
open AlgoVerif AlgoVerif.Gram
variable {T N : Type} [DecidableEq T] [DecidableEq N]
variable {g : Grammar T N} {fi : List (Sym T N) → TE T} {fo : N → TEnd T}

theorem length_gt_one_iff {α : Type} {l : List α} (hnd : l.Nodup) :
    l.length > 1 ↔ ∃ x y, x ∈ l ∧ y ∈ l ∧ x ≠ y := by
  match l, hnd with
  | [], _ => exact ⟨fun h => (nomatch h), fun ⟨_, _, h, _⟩ => (nomatch h)⟩
  | [z], _ =>
    refine ⟨fun h => absurd h (Nat.lt_irrefl 1), fun ⟨x, y, hx, hy, hne⟩ => ?_⟩
    exact absurd ((List.mem_singleton.1 hx).trans (List.mem_singleton.1 hy).symm) hne
  | x :: y :: rest, hnd =>
    refine ⟨fun _ => ⟨x, y, List.mem_cons_self .., List.mem_cons_of_mem _ (List.mem_cons_self ..), ?_⟩,
      fun _ => Nat.succ_lt_succ (Nat.succ_pos _)⟩
    exact fun e => (List.nodup_cons.1 hnd).1 (e ▸ List.mem_cons_self ..)

/-- the textbook rule for `M[A, a] ∋ A → α`: `a ∈ FIRST(α)`, or `ε ∈ FIRST(α)` and `a ∈ FOLLOW(A)`; `none` is the
column of the endmarker -/
def InCellP (fi : List (Sym T N) → TE T) (fo : N → TEnd T) (p : GProd T N) : Option T → Prop
  | some a => a ∈ (fi p.body).terms ∨ ((fi p.body).eps = true ∧ a ∈ (fo p.head).terms)
  | none => (fi p.body).eps = true ∧ (fo p.head).endm = true

theorem inCell_iff {p : GProd T N} {col : Option T} :
    inCell fi fo p col = true ↔ InCellP fi fo p col := by
  cases col with
  | none => simp [inCell, InCellP]
  | some a => simp [inCell, InCellP]

theorem mem_cell {A : N}
    {col : Option T} {p : GProd T N} :
    p ∈ cell g fi fo A col ↔ p ∈ g.prods ∧ p.head = A ∧ InCellP fi fo p col := by
  unfold cell
  rw [List.mem_filter]
  simp only [Bool.and_eq_true, decide_eq_true_eq, inCell_iff]

/-- the row is a declared non-terminal and the column one of `columns g` because `Conflicts()` scans those only -/
def Conflict (g : Grammar T N) (fi : List (Sym T N) → TE T) (fo : N → TEnd T) : Prop :=
  ∃ p q col, p ∈ g.prods ∧ q ∈ g.prods ∧ p ≠ q ∧ p.head = q.head ∧ p.head ∈ g.nonterms ∧
    col ∈ columns g ∧ InCellP fi fo p col ∧ InCellP fi fo q col

theorem mem_columns_some {a : T} (h : a ∈ g.terms) : some a ∈ columns g := by
  unfold columns; simp [h]

theorem mem_columns_none : (none : Option T) ∈ columns g := by
  unfold columns; simp

/-- `Conflicts()` lists the cells with more than one entry, over the rows and columns it is given -/
theorem conflictList_eq_nil_iff {R C β : Type} {rows : List R} {cols : List C} {M : R → C → List β} :
    (rows.flatMap fun A => cols.filterMap fun a => if (M A a).length > 1 then some (A, a) else none) = [] ↔
      ∀ A, A ∈ rows → ∀ c, c ∈ cols → ¬ (M A c).length > 1 := by
  rw [List.flatMap_eq_nil_iff]
  constructor
  · intro h A hA c hc hl
    have := List.filterMap_eq_nil_iff.1 (h A hA) c hc
    rw [if_pos hl] at this
    cases this
  · intro h A hA
    rw [List.filterMap_eq_nil_iff]
    intro c hc
    rw [if_neg (h A hA c hc)]

theorem conflicts_ne_nil_iff (hnd : g.prods.Nodup)
    : conflicts g fi fo ≠ [] ↔ Conflict g fi fo := by
  have hcellnd : ∀ A col, (cell g fi fo A col).Nodup := fun A col => hnd.filter _
  constructor
  · intro h
    obtain ⟨⟨A, col⟩, hm⟩ := List.exists_mem_of_ne_nil _ h
    unfold conflicts at hm
    obtain ⟨A', hA', hm⟩ := List.mem_flatMap.1 hm
    obtain ⟨col', hcol', hm⟩ := List.mem_filterMap.1 hm
    split at hm
    · rename_i hlen
      cases hm
      obtain ⟨p, q, hp, hq, hne⟩ := (length_gt_one_iff (hcellnd _ _)).1 hlen
      obtain ⟨p1, p2, p3⟩ := mem_cell.1 hp
      obtain ⟨q1, q2, q3⟩ := mem_cell.1 hq
      exact ⟨p, q, col, p1, q1, hne, p2.trans q2.symm, p2 ▸ hA', hcol', p3, q3⟩
    · cases hm
  · rintro ⟨p, q, col, hp, hq, hne, hh, hA, hcol, cp, cq⟩ hnil
    refine conflictList_eq_nil_iff.1 hnil p.head hA col hcol ((length_gt_one_iff (hcellnd _ _)).2 ?_)
    exact ⟨p, q, mem_cell.2 ⟨hp, rfl, cp⟩, mem_cell.2 ⟨hq, hh.symm, cq⟩, hne⟩

end AlgoVerif.C10
