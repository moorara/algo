import AlgoVerif.Proofs.C13SM
/-! C13: `Union` accepts exactly the union of the operand languages. -/
namespace AlgoVerif.C13
open AlgoVerif AlgoVerif.C13.Spec

/-- the `for f := range nfa.Final.All() { ff := sm.GetOrCreateState(id, f); union.Add(ff, E, {final}) }` loop -/
def finalsFold (id : Nat) (fin : List Int) (m : SM) (u : NFA) : SM × NFA :=
  fin.foldl (fun (acc : SM × NFA) f =>
    ((acc.1.get id f).1, acc.2.add (acc.1.get id f).2 E [1])) (m, u)

theorem finalsFold_thread {lo : Int} (id : Nat) (fin : List Int) (r : SM × NFA) (hm : r.1.Inv lo) :
    NThread lo r (finalsFold id fin r.1 r.2)
      (fun M b => ∃ f ∈ fin, M.find id f = some b.1 ∧ b.2.1 = E ∧ b.2.2 = 1)
      (fun M => ∀ f ∈ fin, ∃ x, M.find id f = some x) := by
  unfold finalsFold
  apply Thread.foldl
  · intro acc f _ h
    obtain ⟨g1, g2, -⟩ := SM.get_spec acc.1 lo h id f
    exact ⟨g1, g2, rfl, fun M hM => ⟨_, (SM.find_get_iff h hM _).2 rfl⟩, fun M hM b => by
      rw [NFA.Δ_add, SM.find_get_iff h hM, List.mem_singleton]⟩
  · exact hm

/-- the edges the copy of `n` under identifier `id` contributes to a union -/
def Emb (m : SM) (id : Nat) (n : NFA) (x a y : Int) : Prop :=
  m.img id n.Δ x a y ∨
  (x = 0 ∧ a = E ∧ m.find id n.start = some y) ∨
  (∃ f ∈ n.final, m.find id f = some x ∧ a = E ∧ y = 1)

/-- every state of `n` has a copy -/
structure Copied (m : SM) (id : Nat) (n : NFA) : Prop where
  edge : m.Covers id n.Δ
  start : ∃ y, m.find id n.start = some y
  final : ∀ f ∈ n.final, ∃ x, m.find id f = some x

/-- `ss := sm.GetOrCreateState(id, s); dst.Add(x, a, {ss})` -/
theorem getAdd_thread {lo : Int} (r : SM × NFA) (hm : r.1.Inv lo) (id : Nat) (s x a : Int) :
    NThread lo r ((r.1.get id s).1, r.2.add x a [(r.1.get id s).2])
      (fun M b => b.1 = x ∧ b.2.1 = a ∧ M.find id s = some b.2.2) (fun M => ∃ y, M.find id s = some y) :=
  ⟨(SM.get_spec r.1 lo hm id s).1, (SM.get_spec r.1 lo hm id s).2.1, rfl,
    fun M hM => ⟨_, (SM.find_get_iff hm hM _).2 rfl⟩,
    fun M hM b => by rw [NFA.Δ_add, SM.find_get_iff hm hM, List.mem_singleton]⟩

theorem add_thread {lo : Int} (r : SM × NFA) (hm : r.1.Inv lo) (x a : Int) (nx : List Int) :
    NThread lo r (r.1, r.2.add x a nx) (fun _ b => b.1 = x ∧ b.2.1 = a ∧ b.2.2 ∈ nx) (fun _ => True) :=
  ⟨SM.Le.refl _, hm, rfl, fun _ _ => trivial, fun _ _ b => NFA.Δ_add r.2 x a nx b.1 b.2.1 b.2.2⟩

theorem unionStep_thread {lo : Int} (acc : SM × NFA) (id : Nat) (nfa : NFA) (hm : acc.1.Inv lo) (hwf : nfa.WF) :
    NThread lo acc (unionStep acc id nfa) (fun M b => Emb M id nfa b.1 b.2.1 b.2.2) (fun M => Copied M id nfa) := by
  have h1 := copyTrans_thread id nfa acc.1 acc.2 hm
  have h2 := getAdd_thread _ h1.inv id nfa.start 0 E
  have h3 := finalsFold_thread id nfa.final _ h2.inv
  rw [tblΔ_eq hwf] at h1
  exact (h1.trans (h2.trans h3)).weaken (fun _ _ _ _ => Iff.rfl) (fun _ _ hB => ⟨hB.1, hB.2.1, hB.2.2⟩)

theorem unionFold_thread {lo : Int} (nfas : List NFA) (k : Nat) (acc : SM × NFA) (hm : acc.1.Inv lo)
    (hwf : ∀ n ∈ nfas, n.WF) :
    NThread lo acc (foldlIdx unionStep acc nfas k)
      (fun M b => ∃ i n, nfas[i]? = some n ∧ Emb M (k + i) n b.1 b.2.1 b.2.2)
      (fun M => ∀ i n, nfas[i]? = some n → Copied M (k + i) n) :=
  Thread.foldlIdx nfas (fun acc i n hn h => unionStep_thread acc i n h (hwf n hn)) k acc hm

section lang
variable (δ : Int → Int → Int → Prop) (m : SM) (nfas : List NFA)
variable (hm : m.Inv 1)
variable (hδ : ∀ x a y, δ x a y ↔ ∃ i n, nfas[i]? = some n ∧ Emb m i n x a y)
variable (hb : ∀ i n, nfas[i]? = some n → Copied m i n)

include hδ hb in
theorem union_embed {i : Nat} {n : NFA} (hn : nfas[i]? = some n) {s t : Int} {w : Word} (h : Steps n.Δ s w t)
    {x : Int} (hx : m.find i s = some x) : ∃ y, m.find i t = some y ∧ Steps δ x w y :=
  h.sim (fun s x => m.find i s = some x) (fun s a t x hd hx => by
    obtain ⟨_, y, hy⟩ := (hb i n hn).edge s a t hd
    exact ⟨y, hy, (hδ _ _ _).2 ⟨i, n, hn, Or.inl ⟨s, t, hd, hx, hy⟩⟩⟩) x hx

include hm hδ

/-- copies are numbered from 2, so the three kinds of edges are told apart by their source -/
theorem union_edge_from_copy {i : Nat} {n : NFA} (hn : nfas[i]? = some n) {s x a y : Int}
    (hx : m.find i s = some x) (hd : δ x a y) :
    (∃ t, n.Δ s a t ∧ m.find i t = some y) ∨ (a = E ∧ y = 1 ∧ s ∈ n.final) := by
  obtain ⟨j, n', hn', he⟩ := (hδ _ _ _).1 hd
  rcases he with ⟨s', t, h1, h2, h3⟩ | ⟨h2, _, _⟩ | ⟨f, h3, h4, h1, h2⟩
  · obtain ⟨rfl, rfl⟩ := SM.inj hm h2 hx
    obtain rfl : n = n' := by rw [hn] at hn'; exact Option.some.inj hn'
    exact Or.inl ⟨t, h1, h3⟩
  · have := (SM.find_range hm hx).1; omega
  · obtain ⟨rfl, rfl⟩ := SM.inj hm h4 hx
    obtain rfl : n = n' := by rw [hn] at hn'; exact Option.some.inj hn'
    exact Or.inr ⟨h1, h2, h3⟩

theorem union_edge_from_zero {a y : Int} (hd : δ 0 a y) :
    a = E ∧ ∃ i n, nfas[i]? = some n ∧ m.find i n.start = some y := by
  obtain ⟨j, n, hn, he⟩ := (hδ _ _ _).1 hd
  rcases he with ⟨s, t, _, h2, _⟩ | ⟨_, h1, h3⟩ | ⟨f, _, h4, _, _⟩
  · have := (SM.find_range hm h2).1; omega
  · exact ⟨h1, j, n, hn, h3⟩
  · have := (SM.find_range hm h4).1; omega

theorem union_from_one {w : Word} {y : Int} (h : Steps δ 1 w y) : w = [] ∧ y = 1 := by
  refine Steps.stuck (fun a y hd => ?_) h
  obtain ⟨j, n, hn, he⟩ := (hδ _ _ _).1 hd
  rcases he with ⟨s, t, _, h2, _⟩ | ⟨h2, _, _⟩ | ⟨f, _, h4, _, _⟩
  · have := (SM.find_range hm h2).1; omega
  · omega
  · have := (SM.find_range hm h4).1; omega

theorem union_run_from_copy {x y : Int} {w : Word} (h : Steps δ x w y) (hE : E ∉ w)
    {i : Nat} {n : NFA} (hn : nfas[i]? = some n) :
    ∀ s, m.find i s = some x →
      (∃ t, m.find i t = some y ∧ Steps n.Δ s w t) ∨ (y = 1 ∧ ∃ f ∈ n.final, Steps n.Δ s w f) := by
  induction h with
  | nil x => exact fun s hx => Or.inl ⟨s, hx, Steps.nil _⟩
  | eps hd hrest ih =>
    intro s hx
    rcases union_edge_from_copy δ m nfas hm hδ hn hx hd with ⟨t, h1, ht⟩ | ⟨_, rfl, hf⟩
    · rcases ih hE t ht with ⟨t', ht', hs⟩ | ⟨hy, f, hf, hs⟩
      · exact Or.inl ⟨t', ht', Steps.eps h1 hs⟩
      · exact Or.inr ⟨hy, f, hf, Steps.eps h1 hs⟩
    · obtain ⟨rfl, rfl⟩ := union_from_one δ m nfas hm hδ hrest
      exact Or.inr ⟨rfl, s, hf, Steps.nil _⟩
  | sym hd _ ih =>
    intro s hx
    simp only [List.mem_cons, not_or] at hE
    rcases union_edge_from_copy δ m nfas hm hδ hn hx hd with ⟨t, h1, ht⟩ | ⟨ha, _⟩
    · rcases ih hE.2 t ht with ⟨t', ht', hs⟩ | ⟨hy, f, hf, hs⟩
      · exact Or.inl ⟨t', ht', Steps.sym h1 hs⟩
      · exact Or.inr ⟨hy, f, hf, Steps.sym h1 hs⟩
    · exact absurd ha.symm hE.1

theorem union_run_from_zero {y : Int} {w : Word} (h : Steps δ 0 w y) (hE : E ∉ w) :
    y = 0 ∨ ∃ i n, nfas[i]? = some n ∧
      ((∃ t, m.find i t = some y ∧ Steps n.Δ n.start w t) ∨ (y = 1 ∧ ∃ f ∈ n.final, Steps n.Δ n.start w f)) := by
  cases h with
  | nil => exact Or.inl rfl
  | eps hd hrest =>
    obtain ⟨_, i, n, hn, hx⟩ := union_edge_from_zero δ m nfas hm hδ hd
    exact Or.inr ⟨i, n, hn, union_run_from_copy δ m nfas hm hδ hrest hE hn _ hx⟩
  | sym hd _ =>
    simp only [List.mem_cons, not_or] at hE
    exact absurd (union_edge_from_zero δ m nfas hm hδ hd).1.symm hE.1

include hb

theorem union_lang_abstract (w : Word) (hE : E ∉ w) :
    nfaLang δ 0 (fun f => f ∈ [(1 : Int)]) w ↔ ∃ n ∈ nfas, n.lang w := by
  constructor
  · rintro ⟨f, hf, hp⟩
    obtain rfl : f = 1 := by simpa using hf
    rcases union_run_from_zero δ m nfas hm hδ (Steps.of_path hp) hE with h | ⟨i, n, hn, h⟩
    · omega
    · rcases h with ⟨t, ht, _⟩ | ⟨_, f, hf, hs⟩
      · have := (SM.find_range hm ht).1; omega
      · exact ⟨n, List.mem_of_getElem? hn, f, hf, hs.to_path⟩
  · rintro ⟨n, hn, f, hf, hp⟩
    obtain ⟨i, hi⟩ := List.mem_iff_getElem?.1 hn
    obtain ⟨x, hx⟩ := (hb i n hi).start
    obtain ⟨y, hy, hs⟩ := union_embed δ m nfas hδ hb hi (Steps.of_path hp) hx
    have h0x : δ 0 Spec.eps x := (hδ _ _ _).2 ⟨i, n, hi, Or.inr (Or.inl ⟨rfl, E_eq.symm, hx⟩)⟩
    have hy1 : δ y Spec.eps 1 := (hδ _ _ _).2 ⟨i, n, hi, Or.inr (Or.inr ⟨f, hf, hy, E_eq.symm, rfl⟩)⟩
    refine ⟨1, by simp, Steps.to_path (Steps.eps h0x ?_)⟩
    simpa using hs.append (Steps.eps hy1 (Steps.nil _))

theorem union_zero_to_copy {w : Word} (hE : E ∉ w) {y : Int} {j : Nat} {t : Int} (hy : m.find j t = some y) :
    Path δ 0 w y ↔ ∃ n, nfas[j]? = some n ∧ Path n.Δ n.start w t := by
  have hy2 := (SM.find_range hm hy).1
  constructor
  · intro h
    rcases union_run_from_zero δ m nfas hm hδ (Steps.of_path h) hE with h0 | ⟨i, n, hn, h'⟩
    · omega
    · rcases h' with ⟨t', ht', hs⟩ | ⟨h1, _⟩
      · obtain ⟨rfl, rfl⟩ := SM.inj hm hy ht'
        exact ⟨n, hn, hs.to_path⟩
      · omega
  · rintro ⟨n, hn, hp⟩
    obtain ⟨x, hx⟩ := (hb j n hn).start
    obtain ⟨y', hy', hs⟩ := union_embed δ m nfas hδ hb hn (Steps.of_path hp) hx
    obtain rfl : y = y' := Option.some.inj (hy.symm.trans hy')
    exact Steps.to_path (Steps.eps ((hδ _ _ _).2 ⟨j, n, hn, Or.inr (Or.inl ⟨E_eq.symm, rfl, hx⟩)⟩) hs)

end lang

theorem unionFold_struct (nfas : List NFA) (hwf : ∀ n ∈ nfas, n.WF) {r : SM × NFA}
    (hr : foldlIdx unionStep (SM.new 1, NFA.new 0 [1]) nfas 0 = r) :
    r.1.Inv 1 ∧ (∀ i n, nfas[i]? = some n → Copied r.1 i n) ∧ r.2.start = 0 ∧ r.2.final = [1] ∧
      ∀ x a y, r.2.Δ x a y ↔ ∃ i n, nfas[i]? = some n ∧ Emb r.1 i n x a y := by
  subst hr
  have h := unionFold_thread nfas 0 (SM.new 1, NFA.new 0 [1]) (SM.Inv_new 1) hwf
  exact ⟨h.inv, fun i n hn => by simpa only [Nat.zero_add] using h.bound _ (SM.Le.refl _) i n hn, h.start, h.final,
    fun x a y => by simpa only [NFA.new, NFA.empty_Δ, false_or, Nat.zero_add] using h.grow _ (SM.Le.refl _) (x, a, y)⟩

theorem NFA.union_lang (nfas : List NFA) (hwf : ∀ n ∈ nfas, n.WF) (w : Word) (hE : E ∉ w) :
    (NFA.union nfas).lang w ↔ ∃ n ∈ nfas, n.lang w := by
  obtain ⟨hm, hb, hst, hfin, hδ⟩ := unionFold_struct nfas hwf rfl
  simp only [NFA.lang, NFA.union, hst, hfin]
  exact union_lang_abstract _ _ nfas hm hδ hb w hE

end AlgoVerif.C13
