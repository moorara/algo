import AlgoVerif.Proofs.C11TermValid
import AlgoVerif.Proofs.C11TermSeq
/-!
# C11 — termination of the driver: no infinite run on a complete, conflict-free table

`terminates'`: the driver halts on every input of a table that is a `CompleteTable` for item sets `items1` and a
`SoundTable` for item sets `items0` with the top-down structure (`TD`: every item is a kernel item or was added by the
CLOSURE rule for an item of the same state — neither validator asks for that, the built tables have it), whose items are
dotted productions of the grammar with productive bodies, finitely many states carrying items.  `items0` may consist of
LR(0) items (SLR: `terminates_slr` in `C11TermBuilt`).  `TermHyp` is the case `items0 = items1`, `terminates` the theorem for it.

An infinite run would, from some point on, consist of reductions only; `stack_seq` finds two times with (A) the same stack
below the top and the same non-terminal on top, or (B) a stack that has grown by frames with empty yields over a state
that is on top again.  The frames of an actual run (`Sound.Inv`) carry a witnessed valid item (`wv_cover`), so
`no_two_trees` resp. `no_eps_growth` apply.
-/
namespace AlgoVerif.C11.Term
open AlgoVerif AlgoVerif.Gram AlgoVerif.C11 AlgoVerif.C11.Spec AlgoVerif.C11.Complete AlgoVerif.C11.Sound

/-- every item of state `s` is a kernel item or comes from one by the CLOSURE rule -/
inductive TD (items : Int → List Item) (start' : String) (s : Int) : Item → Prop where
  | kernel {it : Item} : it ∈ items s → (0 < it.dot ∨ it.prod.head = start') → TD items start' s it
  | clo {it' it : Item} : TD items start' s it' → it'.dotSym = some (Sym.nonterm it.prod.head) → it ∈ items s →
      it.dot = 0 → TD items start' s it

theorem TD.mem {items : Int → List Item} {start' : String} {s : Int} {it : Item} (h : TD items start' s it) :
    it ∈ items s := by
  cases h with
  | kernel h _ => exact h
  | clo _ _ h _ => exact h

/-- the hypotheses of `terminates`, over ONE family of item sets (canonical LR(1), LALR(1)).  `terminates'` is the general
theorem: it takes `complete` over a second family (for SLR(1) the virtual LR(1) items), and the rest as here -/
structure TermHyp (g : SGrammar) (start' : String) (nl : List String) (fe : Env) (items : Int → List Item)
    (T : Tbl) : Prop where
  complete : CompleteTable g start' nl fe items T
  sound : SoundTable g start' items T
  topDown : ∀ s it, it ∈ items s → TD items start' s it
  prods : ∀ s it, it ∈ items s → it.prod ∈ g.prods ∨ it.prod = { head := start', body := [Sym.nonterm g.start] }
  forest : ∀ s it, it ∈ items s → ∀ n, ∃ ks, derivesL g ks (it.prod.body.drop n)
  bound : ∃ N : Nat, ∀ s, items s ≠ [] → ∃ n : Nat, s = (n : Int) ∧ n < N

/-- the frames are table transitions and carry derivation trees: `FrL` with `Target` in place of `Link` (every GOTO entry used
exists) -/
def FrOK (g : SGrammar) (T : Tbl) : List TFrame → Prop
  | [] => True
  | f :: rest => Target T (topF rest) f.sym f.state ∧ derivesT g f.tree f.sym ∧ FrOK g T rest

section
variable {g : SGrammar} {start' : String} {nl : List String} {fe : Env} {items : Int → List Item} {T : Tbl}
  (H : TermHyp g start' nl fe items T)
include H

theorem topF_eq_zero {fr : List TFrame} (hfr : FrOK g T fr) (h0 : topF fr = 0) : fr = [] := by
  cases fr with
  | nil => rfl
  | cons f rest => exact absurd h0 (link_justified H.sound (link_of_target hfr.1)).1

end

section
variable {g : SGrammar} {start' : String} {items0 : Int → List Item} {T : Tbl}
  (hS : SoundTable g start' items0 T) (htd : ∀ s it, it ∈ items0 s → TD items0 start' s it)
  (hprods : ∀ s it, it ∈ items0 s → it.prod ∈ g.prods ∨ it.prod = { head := start', body := [Sym.nonterm g.start] })
  (hforest : ∀ s it, it ∈ items0 s → ∀ n, ∃ ks, derivesL g ks (it.prod.body.drop n))
  (hfresh : ∀ p ∈ g.prods, p.head ≠ start')
include hS htd hprods hforest hfresh

omit htd hfresh in
theorem wv_clo {fr : List TFrame} (hfr : FrL g T fr) {it' it : Item} (htd' : TD items0 start' (topF fr) it')
    (hd : it'.dotSym = some (Sym.nonterm it.prod.head)) (hit : it ∈ items0 (topF fr)) (hdot : it.dot = 0)
    (ih : ∃ z, WV g start' T fr it'.prod it'.dot z) : ∃ z, WV g start' T fr it.prod it.dot z := by
  obtain ⟨z', hwv⟩ := ih
  rw [hdot]
  rcases hprods _ it hit with hp | hp
  · obtain ⟨kβ, hkβ⟩ := hforest _ it' (TD.mem htd') (it'.dot + 1)
    exact ⟨_, WV.clo hwv hd hp rfl hkβ⟩
  · have h0 := hS.initOnly _ it hit (by rw [hp]) hdot
    rw [frL_top_zero hS hfr h0, hp]
    exact ⟨[], WV.init⟩

/-- no lookahead is asked for: LR(0) item sets will do -/
theorem wv_cover : ∀ (fr : List TFrame), FrL g T fr → ∀ it, TD items0 start' (topF fr) it →
    ∃ z, WV g start' T fr it.prod it.dot z := by
  intro fr
  induction fr with
  | nil =>
    intro hfr it htd0
    induction htd0 with
    | @kernel it hit hk =>
      have hd0 : it.dot = 0 := hS.init0 it (by simpa [topF] using hit)
      have hhead : it.prod.head = start' := by
        rcases hk with h | h
        · omega
        · exact h
      rcases hprods _ it hit with h | h
      · exact absurd hhead (hfresh _ h)
      · rw [hd0, h]; exact ⟨[], WV.init⟩
    | clo htd' hd hit hdot ih => exact wv_clo hS hprods hforest hfr htd' hd hit hdot ih
  | cons f rest ihfr =>
    intro hfr it htd0
    induction htd0 with
    | @kernel it hit hk =>
      have hjust := (link_justified hS hfr.1).2 it (by simpa [topF] using hit)
      have hdpos : 0 < it.dot := by
        rcases hk with h | h
        · exact h
        · apply Nat.pos_of_ne_zero
          intro h0
          have := hS.initOnly _ it hit h h0
          exact (link_justified hS hfr.1).1 (by simpa [topF] using this)
      rcases hjust with h0 | ⟨hX, j, hj, hjp, hjd⟩
      · omega
      · obtain ⟨z, hwv⟩ := ihfr hfr.2.2 j (htd _ j hj)
        rw [← hjp, ← hjd]
        exact ⟨z, WV.adv hwv (by rw [hjp, ← hX, ← hjd]; rfl) hfr.2.1 hfr.1⟩
    | clo htd' hd hit hdot ih => exact wv_clo hS hprods hforest hfr htd' hd hit hdot ih

theorem wv_top {fr : List TFrame} (hfr : FrL g T fr) (hne : items0 (topF fr) ≠ []) :
    ∃ p d z, WV g start' T fr p d z ∧ ∃ ks, derivesL g ks (p.body.drop d) := by
  obtain ⟨it0, hit0⟩ := List.exists_mem_of_ne_nil _ hne
  obtain ⟨z, hwv⟩ := wv_cover hS htd hprods hforest hfresh fr hfr it0 (htd _ it0 hit0)
  exact ⟨_, _, z, hwv, hforest _ it0 hit0 it0.dot⟩

end

def cfg (T : Tbl) (w : List String) (n : Nat) : PState := (iter T n (pinit w)).getD (pinit w)

def frs (T : Tbl) (w : List String) (n : Nat) : List TFrame := frames (cfg T w n).stack (cfg T w n).nodes

theorem cfg_step {T : Tbl} {w : List String} (hinf : ∀ n, ∃ st, iter T n (pinit w) = some st) (n : Nat) :
    pstep T (cfg T w n) = .inl (cfg T w (n + 1)) := by
  have h1 : ∀ n, iter T n (pinit w) = some (cfg T w n) := fun n => by
    obtain ⟨st, hst⟩ := hinf n
    simp [cfg, hst]
  have h := h1 (n + 1)
  rw [iter_add, h1 n, Option.bind_some, iter_one] at h
  cases hs : pstep T (cfg T w n) with
  | inl c => simp only [hs, Option.some.injEq] at h; rw [h]
  | inr r => simp [hs] at h

theorem cfg_inv {g : SGrammar} {start' : String} {items : Int → List Item} {T : Tbl} (hT : SoundTable g start' items T)
    {w : List String} (hw : endmarker ∉ w) (hinf : ∀ n, ∃ st, iter T n (pinit w) = some st) :
    ∀ n, Inv g T w (cfg T w n) (frs T w n) ∧ treeSizeL (treesF (frs T w n)) = n := by
  intro n
  induction n with
  | zero =>
    exact ⟨by simpa [cfg, frs, iter, frames, pinit] using inv_init g T w hw,
      by simp [cfg, frs, iter, pinit, frames, treesF, treeSizeL]⟩
  | succ n ih =>
    obtain ⟨fr', hI', hsz, -⟩ := step_inv hT ih.1 (cfg_step hinf n)
    rw [frs, inv_frames hI']
    exact ⟨hI', by rw [hsz, ih.2]⟩

section
variable {g : SGrammar} {start' : String} {nl : List String} {fe : Env} {items1 items0 : Int → List Item} {T : Tbl}
  (hC : CompleteTable g start' nl fe items1 T)
  (hS : SoundTable g start' items0 T) (htd : ∀ s it, it ∈ items0 s → TD items0 start' s it)
  (hprods : ∀ s it, it ∈ items0 s → it.prod ∈ g.prods ∨ it.prod = { head := start', body := [Sym.nonterm g.start] })
  (hforest : ∀ s it, it ∈ items0 s → ∀ n, ∃ ks, derivesL g ks (it.prod.body.drop n))
  (hbound : ∃ N : Nat, ∀ s, items0 s ≠ [] → ∃ n : Nat, s = (n : Int) ∧ n < N)
include hC hS htd hprods hforest hbound

theorem no_infinite_run {w : List String} (hw : endmarker ∉ w) :
    ¬ ∀ n, ∃ st, iter T n (pinit w) = some st := by
  intro hinf
  have hiter := cfg_step hinf
  have hinv := cfg_inv hS hw hinf
  have hturn := fun n => step_inv hS (hinv n).1 (hiter n)
  -- the input is shortest at `t0`: from then on it is constant, and every turn is a reduction
  obtain ⟨t0, _, hmin⟩ := low_exists (fun n => (cfg T w n).input.length) _ 0 (Nat.le_refl _)
  have hin : ∀ n, (cfg T w (t0 + n)).input = (cfg T w t0).input := by
    intro n
    induction n with
    | zero => rfl
    | succ n ih =>
      obtain ⟨_, _, -, h⟩ := hturn (t0 + n)
      rcases h with ⟨hlt, -⟩ | ⟨h, -⟩
      · have := hmin (t0 + n + 1) (by omega)
        rw [ih] at hlt
        omega
      · rw [← ih]; exact h
  let F : Nat → List TFrame := fun n => frs T w (t0 + n)
  have hred : ∀ n, ∃ (f : TFrame) (m : Nat) (p : Pr), F (n + 1) = f :: (F n).drop m ∧
      f.sym = Sym.nonterm p.head ∧ p ∈ g.prods ∧ items0 (topF (F n)) ≠ [] := by
    intro n
    obtain ⟨fr', hI', -, h⟩ := hturn (t0 + n)
    rcases h with ⟨hlt, -⟩ | ⟨-, -, f, p, hg, hf, hp, hne⟩
    · have h1 : (cfg T w (t0 + n + 1)).input = (cfg T w t0).input := hin (n + 1)
      rw [h1, hin n] at hlt
      exact absurd hlt (Nat.lt_irrefl _)
    · exact ⟨f, _, p, inv_frames hI' ▸ hg, hf, hp, hne⟩
  have hok : ∀ n, FrL g T (F n) := fun n => (hinv (t0 + n)).1.ok
  have hitems : ∀ n, items0 (topF (F n)) ≠ [] := fun n => by
    obtain ⟨_, _, _, _, _, _, h⟩ := hred n
    exact h
  have hyield : ∀ n, yieldF (F n) ++ (cfg T w t0).input = w := fun n => hin n ▸ (hinv (t0 + n)).1.yield
  have hsize : ∀ n, treeSizeL (treesF (F n)) = t0 + n := fun n => (hinv (t0 + n)).2
  obtain ⟨N, hN⟩ := hbound
  have hstep : ∀ n, ∃ x m, F (n + 1) = x :: (F n).drop m ∧ x.state ∈ (List.range N).map Int.ofNat ∧
      x.sym ∈ g.prods.map (fun p => Sym.nonterm p.head) := by
    intro n
    obtain ⟨f, m, p, hg, hf, hp, -⟩ := hred n
    refine ⟨f, m, hg, ?_, List.mem_map.mpr ⟨p, hp, hf.symm⟩⟩
    obtain ⟨k, hk, hlt⟩ := hN _ (hitems (n + 1))
    rw [hg] at hk
    rw [show f.state = (k : Int) from hk]
    exact List.mem_map.mpr ⟨k, List.mem_range.mpr hlt, rfl⟩
  rcases stack_seq F (fun f => f.state) _ (fun f => f.sym) _ hstep with
    ⟨p, q, hpq, x, y, rest, hFp, hFq, hxy⟩ | ⟨p, q, hpq, x, y, π, r, hFp, hFq, hxy⟩
  · -- (A) the same stack below, the same symbol on top: two trees with the same yield, of different size
    obtain ⟨p0, d0, z, hwv, hks⟩ := wv_top hS htd hprods hforest hC.fresh (hok p) (hitems p)
    rw [hFp] at hwv
    obtain ⟨p1, d1, z', hj, hd, hrest⟩ := wv_below hwv hks
    have hokp := hok p
    have hokq := hok q
    have h1 := hyield p
    have h2 := hyield q
    have s1 := hsize p
    have s2 := hsize q
    rw [hFp] at hokp h1 s1
    rw [hFq] at hokq h2 s2
    refine no_two_trees hC hj hd hokp.2.1 (hxy ▸ hokq.2.1) ?_ ?_ hrest
    · have e := h1.trans h2.symm
      rw [yieldF_cons, yieldF_cons, List.append_assoc, List.append_assoc] at e
      exact List.append_cancel_right (List.append_cancel_left e)
    · intro he
      simp only [treesF, List.map_cons, treeSizeL, he] at s1 s2
      omega
  · -- (B) the stack has grown over `F p` by frames with empty yields, the same state on top
    obtain ⟨p0, d0, z, hwv, hks⟩ := wv_top hS htd hprods hforest hC.fresh (hok q) (hitems q)
    rw [hFq] at hwv
    refine no_eps_growth hC hwv (by simp) (by rw [hFp]; simp [topF, hxy]) ?_ hks
    have h1 := hyield p
    have h2 := hyield q
    rw [hFq, yieldF_append] at h2
    have e := h2.trans h1.symm
    rw [List.append_assoc] at e
    simpa using List.append_cancel_left e

/-- The completeness conditions (`items1`) and the soundness / top-down conditions (`items0`) need not speak about the same
item sets: they meet in `WV` only. -/
theorem terminates' (w : List String) (hw : endmarker ∉ w) : ∃ fuel r, parse T fuel w = Outcome.ok r := by
  have := no_infinite_run hC hS htd hprods hforest hbound hw
  have hex : ∃ n, iter T n (pinit w) = none := by
    apply Classical.byContradiction
    intro hne
    apply this
    intro n
    cases hi : iter T n (pinit w) with
    | none => exact absurd ⟨n, hi⟩ hne
    | some st => exact ⟨st, rfl⟩
  obtain ⟨n, hn⟩ := hex
  exact halts_of_iter_none n _ hn

end

section
variable {g : SGrammar} {start' : String} {nl : List String} {fe : Env} {items : Int → List Item} {T : Tbl}
  (H : TermHyp g start' nl fe items T)
include H

theorem terminates (w : List String) (hw : endmarker ∉ w) : ∃ fuel r, parse T fuel w = Outcome.ok r :=
  terminates' H.complete H.sound H.topDown H.prods H.forest H.bound w hw

end

end AlgoVerif.C11.Term
