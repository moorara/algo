import AlgoVerif.Proofs.C05Reg
import AlgoVerif.Proofs.C05Hole
/-!
# What the binomial and the Fibonacci Model share beyond `Reg`

Both Models keep `nodes`, `cells` and the count `n`, test an index by the same code and differ only in how the
nodes are linked.
-/
namespace AlgoVerif.C05
variable {K V : Type}

/-- two concatenations that differ by a permutation `h` already known are permutations of each other:
compare element counts -/
macro "perm_count" "using" h:term : tactic =>
  `(tactic| (simp only [List.perm_iff_count]; intro a; have := List.Perm.count_eq $h a;
             simp only [List.count_cons, List.count_append, List.count_nil] at this ⊢; omega))

macro "perm_count" : tactic => `(tactic| perm_count using List.Perm.refl [])

/-- `Q` is idle: it lets the result stand where a statement says "… and under `Q` it returns" (`IFib.step_spec`, where
only a key decrease needs `Q = LawfulCmp cmp` to return). -/
theorem _root_.AlgoVerif.Outcome.of_forward {α : Type} {o : Outcome α} {P : α → Prop} (Q : Prop)
    (h : ∃ a, o = .ok a ∧ P a) : (∀ a, o = .ok a → P a) ∧ (Q → ∃ a, o = .ok a) := by
  obtain ⟨a, ha, hp⟩ := h
  exact ⟨fun a' ha' => by rw [ha] at ha'; cases ha'; exact hp, fun _ => ⟨a, ha⟩⟩

/-- the index test `containsIndex` of both Models (each unfolds to this) -/
def indexHeld (nodes : Array (Option Nat)) (i : Int) : Bool :=
  if 0 ≤ i ∧ i < (nodes.size : Int) then
    match nodes[i.toNat]? with
    | some (some _) => true
    | _ => false
  else false

/-- what the key comparisons of the link routines need of `Reg` -/
def Readable (cells : Array (Cell K V)) (S : List Nat) : Prop := ∀ id, id ∈ S → ∃ c, cells[id]? = some c

namespace Reg
variable {cap : Nat} {S : List Nat} {nodes : Array (Option Nat)} {cells : Array (Cell K V)}

theorem readable (r : Reg cap S nodes cells) : Readable cells S :=
  fun id hid => let ⟨c, hc, _⟩ := r.reg id hid; ⟨c, hc⟩

theorem indexHeld_eq (r : Reg cap S nodes cells) (i : Int) :
    indexHeld nodes i = (absOf nodes cells i).isSome := by
  unfold indexHeld absOf
  split
  · split
    · rename_i id hid
      obtain ⟨_, c, hc, _⟩ := r.back _ _ hid
      rw [hid]; simp [hc]
    · rename_i hne
      split
      · rename_i id hid; exact absurd hid (hne id)
      · rfl
  · rfl

theorem held (r : Reg cap S nodes cells) {i : Int} (hc : indexHeld nodes i = true) :
    Spec.InRange cap i ∧ ∃ id c, nodes[i.toNat]? = some (some id) ∧ id ∈ S ∧ cells[id]? = some c ∧
      c.index = i.toNat ∧ absOf nodes cells i = some (c.key, c.val) := by
  rw [r.indexHeld_eq] at hc
  obtain ⟨e, he⟩ := Option.isSome_iff_exists.mp hc
  obtain ⟨hr, id, c, h1, h2, h3, h4, h5⟩ := absOf_some r he
  exact ⟨hr, id, c, h1, h2, h3, h4, by rw [he, h5]⟩

theorem not_held (r : Reg cap S nodes cells) {i : Int} (hc : indexHeld nodes i = false) :
    absOf nodes cells i = none := by
  rw [r.indexHeld_eq] at hc
  exact Option.not_isSome_iff_eq_none.mp (by rw [hc]; exact Bool.false_ne_true)

/-- `kf` of either Model unfolds to the key function here -/
theorem extremal (r : Reg cap S nodes cells) {cmp : K → K → Int} {e : Nat} {c : Cell K V} (hce : cells[e]? = some c)
    (hall : ∀ y, y ∈ S → Hole.LeP cmp (fun id => (cells[id]?).map (·.key)) e y) :
    Spec.Extremal cmp (absOf nodes cells) c.key := by
  intro j kj vj hj
  obtain ⟨_, id, cj, _, hmem, hcj, _, heq⟩ := absOf_some r hj
  cases heq
  obtain ⟨ka, kb, ha, hb, hab⟩ := hall id hmem
  simp only [hce, hcj, Option.map_some] at ha hb
  cases ha; cases hb; exact hab

theorem insert_free (r : Reg cap S nodes cells) {i : Int}
    (hc : ¬ (i < 0 ∨ i ≥ (nodes.size : Int) ∨ (absOf nodes cells i).isSome = true)) (key : K) (val : V) :
    Spec.InRange cap i ∧ absOf nodes cells i = none ∧ i.toNat < nodes.size ∧
    Reg cap (cells.size :: S) (nodes.setIfInBounds i.toNat (some cells.size))
      (cells.push { index := i.toNat, key := key, val := val }) ∧
    absOf (nodes.setIfInBounds i.toNat (some cells.size)) (cells.push { index := i.toNat, key := key, val := val })
      = (absOf nodes cells).set i (some (key, val)) := by
  have ns := r.nsize
  have hr : Spec.InRange cap i := by unfold Spec.InRange; omega
  have hnone : absOf nodes cells i = none := by
    cases hx : absOf nodes cells i with
    | none => rfl
    | some e => rw [hx] at hc; exact absurd (Or.inr (Or.inr rfl)) hc
  have hji : ((i.toNat : Nat) : Int) = i := by omega
  have hfree : nodes[i.toNat]? = some none := by
    rw [← absOf_none_iff r (by omega), hji]; exact hnone
  obtain ⟨r', habs⟩ := r.insert (i := i.toNat) (by omega) hfree key val
  exact ⟨hr, hnone, by omega, r', by rw [habs, hji]⟩

theorem insert_refused (r : Reg cap S nodes cells) {i : Int}
    (hc : i < 0 ∨ i ≥ (nodes.size : Int) ∨ (absOf nodes cells i).isSome = true) :
    ¬ (Spec.InRange cap i ∧ absOf nodes cells i = none) := by
  have ns := r.nsize
  rintro ⟨hr, hnone⟩
  unfold Spec.InRange at hr
  rcases hc with h1 | h1 | h1
  · omega
  · omega
  · rw [hnone] at h1; cases h1

theorem nil_iff (r : Reg cap S nodes cells) : S = [] ↔ ∀ i, absOf nodes cells i = none := by
  constructor
  · intro hS i
    cases ha : absOf nodes cells i with
    | none => rfl
    | some e =>
      obtain ⟨_, id, _, _, hmem, _⟩ := absOf_some r ha
      rw [hS] at hmem; cases hmem
  · intro hall
    cases S with
    | nil => rfl
    | cons id S' =>
      obtain ⟨c, hc, hn⟩ := r.reg id List.mem_cons_self
      have := absOf_held hn hc
      rw [hall] at this; cases this

theorem containsKey_admit (r : Reg cap S nodes cells) {P : Spec.Map K V → K → Prop} {cmp : K → K → Int}
    {eq : V → V → Bool} {k : K} {b : Bool}
    (hb : anyCell cells (fun c => cmp c.key k == 0) nodes.toList = .ok b) :
    Spec.AdmitG P cmp eq cap (absOf nodes cells) (.containsKey k) (.bool b) (absOf nodes cells) := by
  refine .containsKey ?_
  rw [anyCell_spec r _ (fun kv => cmp kv.1 k == 0) (fun _ => rfl) hb]
  simp only [beq_iff_eq]

theorem containsValue_admit (r : Reg cap S nodes cells) {P : Spec.Map K V → K → Prop} {cmp : K → K → Int}
    {eq : V → V → Bool} {v : V} {b : Bool}
    (hb : anyCell cells (fun c => eq c.val v) nodes.toList = .ok b) :
    Spec.AdmitG P cmp eq cap (absOf nodes cells) (.containsValue v) (.bool b) (absOf nodes cells) :=
  .containsValue (anyCell_spec r _ (fun kv => eq kv.2 v) (fun _ => rfl) hb)

end Reg

namespace Spec
variable {cap : Nat} {m : Map K V} {i : Int} {n : Int}

theorem card_insert (hn : n = (card cap m : Int)) (hr : InRange cap i) (hm : m i = none) (e : K × V) :
    n + 1 = (card cap (m.set i (some e)) : Int) := by
  rw [card_set_some_new e hr hm, hn]; simp

theorem card_remove (hn : n = (card cap m : Int)) (hr : InRange cap i) {e : K × V} (hm : m i = some e) :
    n - 1 = (card cap (m.set i none) : Int) := by
  have := card_set_none e hr hm
  omega

theorem card_update (hn : n = (card cap m : Int)) (hr : InRange cap i) {e0 : K × V} (hm : m i = some e0)
    (e : K × V) : n = (card cap (m.set i (some e)) : Int) := by
  rw [card_set_some_old e e0 hr hm]; exact hn

end Spec
end AlgoVerif.C05
