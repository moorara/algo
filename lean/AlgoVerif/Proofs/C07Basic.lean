import AlgoVerif.Model.C07
import AlgoVerif.Spec.C07
import AlgoVerif.Proofs.Outcome
/-!
# C07 — shared lemmas: predicates on a segment (`AllSeg`) and
steps that only rearrange a segment (`SegStep`), which every in-place sort is specified with; array
segments as lists (`segL`), for the sorts specified through list functions.
Segments are half-open `[lo, hi1)`: where Go has an inclusive bound `hi`, `hi1` stands for `hi + 1`.
-/
namespace AlgoVerif.C07
open AlgoVerif

variable {α β : Type}

@[simp] theorem ok_bind (a : α) (f : α → Outcome β) : (Outcome.ok a >>= f) = f a := rfl
@[simp] theorem panic_bind (f : α → Outcome β) : (Outcome.panic >>= f) = Outcome.panic := rfl
@[simp] theorem diverge_bind (f : α → Outcome β) : (Outcome.diverge >>= f) = Outcome.diverge := rfl
@[simp] theorem pure_eq_ok (a : α) : (pure a : Outcome α) = Outcome.ok a := rfl

theorem bind_eq_ok {x : Outcome α} {f : α → Outcome β} {b : β} :
    (x >>= f) = .ok b ↔ ∃ a, x = .ok a ∧ f a = .ok b :=
  ⟨Outcome.bind_eq_ok, fun ⟨_, ha, hf⟩ => by rw [ha]; exact hf⟩

theorem ok_of_refines {x y : Outcome α} {P : α → Prop} (h : Outcome.le x y)
    (hx : ∃ out, x = .ok out ∧ P out) : ∃ out, y = .ok out ∧ P out :=
  let ⟨out, e, p⟩ := hx
  ⟨out, h.ok e, p⟩

/-- `ok_of_refines` for a `y` that also returns a new generator state -/
theorem ok_of_refines_fst {x : Outcome α} {y : Outcome (α × β)} {P : α → Prop}
    (h : Outcome.le x (y.map Prod.fst)) (hx : ∃ out, x = .ok out ∧ P out) :
    ∃ out g, y = .ok (out, g) ∧ P out := by
  obtain ⟨out, e, p⟩ := ok_of_refines h hx
  cases y with
  | ok c => cases e; exact ⟨c.1, c.2, rfl, p⟩
  | panic => cases e
  | diverge => cases e

theorem get_ok {a : Array α} {i : Int} (h0 : 0 ≤ i) (h1 : i < a.size) :
    get a i = .ok (a[i.toNat]'(by omega)) := by
  simp [get, h0, h1]

theorem get_nat {a : Array α} {i : Nat} (h : i < a.size) : get a (i : Int) = .ok a[i] := by
  have : (i : Int) < a.size := by omega
  simp [get, this]

theorem set_ok {a : Array α} {i : Int} {v : α} (h0 : 0 ≤ i) (h1 : i < a.size) :
    set a i v = .ok (a.set i.toNat v (by omega)) := by
  simp [set, h0, h1]

theorem swap_ok {a : Array α} {i j : Int} (hi0 : 0 ≤ i) (hi1 : i < a.size) (hj0 : 0 ≤ j) (hj1 : j < a.size) :
    swap a i j = .ok (a.swap i.toNat j.toNat (by omega) (by omega)) := by
  simp [swap, hi0, hi1, hj0, hj1]

theorem set_nat {a : Array α} {i : Nat} {v : α} (h : i < a.size) :
    set a (i : Int) v = .ok (a.set i v h) := by
  rw [set_ok (by omega) (by omega)]; rfl

theorem swap_nat {a : Array α} {i j : Nat} (hi : i < a.size) (hj : j < a.size) :
    swap a (i : Int) (j : Int) = .ok (a.swap i j hi hj) := by
  rw [swap_ok (by omega) (by omega) (by omega) (by omega)]; rfl

/-- `Array.getElem_swap_left` (and `_right` below) at an index only known to be equal to the swapped one -/
theorem getElem_swap_eq_left {a : Array α} {i j m : Nat} {hi : i < a.size} {hj : j < a.size}
    (h : m = i) (hm : m < (a.swap i j hi hj).size) : (a.swap i j hi hj)[m] = a[j] := by
  subst h; exact Array.getElem_swap_left

theorem getElem_swap_eq_right {a : Array α} {i j m : Nat} {hi : i < a.size} {hj : j < a.size}
    (h : m = j) (hm : m < (a.swap i j hi hj).size) : (a.swap i j hi hj)[m] = a[i] := by
  subst h; exact Array.getElem_swap_right

theorem get_eq_ok {a : Array α} {i : Int} {v : α} (h : get a i = .ok v) :
    ∃ (h0 : 0 ≤ i) (h1 : i < a.size), v = a[i.toNat]'(by omega) := by
  unfold get at h
  split at h
  · rename_i hh; exact ⟨hh.1, hh.2, by simpa using h.symm⟩
  · cases h

namespace TotalPreorder
variable {cmp : α → α → Int} (tp : TotalPreorder cmp)
include tp

omit tp in
theorem le_of_lt {a b : α} (h : cmp a b < 0) : cmp a b ≤ 0 := by omega

theorem le_of_not_lt {a b : α} (h : ¬ cmp a b < 0) : cmp b a ≤ 0 := by
  have := tp.flip a b
  omega

theorem le_of_ge {a b : α} (h : cmp a b ≥ 0) : cmp b a ≤ 0 := tp.le_of_not_lt (by omega)

theorem le_of_gt {a b : α} (h : cmp a b > 0) : cmp b a ≤ 0 := tp.le_of_not_lt (by omega)

theorem lt_flip {a b : α} (h : cmp a b < 0) : cmp b a > 0 := (tp.flip a b).1 h

theorem gt_flip {a b : α} (h : cmp a b > 0) : cmp b a < 0 := (tp.flip b a).2 h

theorem total (a b : α) : cmp a b ≤ 0 ∨ cmp b a ≤ 0 := by
  have := tp.flip a b
  omega

theorem refl (a : α) : cmp a a ≤ 0 := by
  have := tp.flip a a
  omega

theorem eq_self (a : α) : cmp a a = 0 := by
  have := tp.flip a a
  omega

theorem eq_flip {a b : α} (h : cmp a b = 0) : cmp b a = 0 := by
  have := tp.flip a b
  have := tp.flip b a
  omega

theorem lt_of_lt_of_le {a b c : α} (h1 : cmp a b < 0) (h2 : cmp b c ≤ 0) : cmp a c < 0 := by
  apply Classical.byContradiction
  intro h
  have hca : cmp c a ≤ 0 := tp.le_of_not_lt h
  have hba := tp.trans _ _ _ h2 hca
  have := tp.flip a b
  omega

theorem lt_of_le_of_lt {a b c : α} (h1 : cmp a b ≤ 0) (h2 : cmp b c < 0) : cmp a c < 0 := by
  apply Classical.byContradiction
  intro h
  have hca : cmp c a ≤ 0 := tp.le_of_not_lt h
  have hcb := tp.trans _ _ _ hca h1
  have := tp.flip b c
  omega

end TotalPreorder

/-- indices beyond `a.size` are ignored -/
def SortedSeg (cmp : α → α → Int) (a : Array α) (lo hi : Nat) : Prop :=
  ∀ (p q : Nat), lo ≤ p → (hpq : p < q) → q < hi → (hq : q < a.size) → cmp (a[p]'(by omega)) a[q] ≤ 0

theorem sorted_of_sortedSeg {cmp : α → α → Int} {a : Array α} (h : SortedSeg cmp a 0 a.size) :
    Sorted cmp a.toList := by
  unfold Sorted
  rw [List.pairwise_iff_getElem]
  intro i j hi hj hij
  simp only [Array.length_toList] at hi hj
  simpa using h i j (Nat.zero_le _) hij hj hj

theorem sortedSeg_of_sorted {cmp : α → α → Int} {a : Array α} (h : Sorted cmp a.toList) :
    SortedSeg cmp a 0 a.size := by
  unfold Sorted at h
  rw [List.pairwise_iff_getElem] at h
  intro p q _ hpq _ hq
  have := h p q (by simpa using (by omega : p < a.size)) (by simpa using hq) hpq
  simpa [Array.getElem_toList] using this

theorem sortedSeg_of_adjacent {cmp : α → α → Int} (tp : TotalPreorder cmp) {a : Array α} {lo hi : Nat}
    (hhi : hi ≤ a.size)
    (h : ∀ p, lo ≤ p → (hp : p + 1 < hi) → cmp (a[p]'(by omega)) (a[p+1]'(by omega)) ≤ 0) :
    SortedSeg cmp a lo hi := by
  intro p q hlo hpq hqhi hq
  induction q with
  | zero => omega
  | succ q ih =>
    by_cases hpq' : p = q
    · subst hpq'; exact h p hlo hqhi
    · have h1 := ih (by omega) (by omega) (by omega)
      have h2 := h q (by omega) hqhi
      exact tp.trans _ _ _ h1 h2

theorem sortedSeg_mono {cmp : α → α → Int} {a : Array α} {lo h lo' h' : Nat} (h1 : lo ≤ lo')
    (h2 : h' ≤ h ∨ a.size ≤ h) (s : SortedSeg cmp a lo h) : SortedSeg cmp a lo' h' := by
  intro p q hlo hpq hq hq'
  exact s p q (by omega) hpq (by omega) hq'

theorem sortedSeg_join {cmp : α → α → Int} (tp : TotalPreorder cmp) {a : Array α} {lo mid hi : Nat}
    (hhi : hi < a.size) (hm : mid < hi)
    (s1 : SortedSeg cmp a lo (mid+1)) (s2 : SortedSeg cmp a (mid+1) (hi+1))
    (hb : cmp (a[mid]'(by omega)) (a[mid+1]'(by omega)) ≤ 0) : SortedSeg cmp a lo (hi+1) := by
  apply sortedSeg_of_adjacent tp (by omega)
  intro p hlo hp
  by_cases h1 : p < mid
  · exact s1 p (p+1) hlo (by omega) (by omega) (by omega)
  · by_cases h2 : p = mid
    · subst h2; exact hb
    · exact s2 p (p+1) (by omega) (by omega) (by omega) (by omega)

theorem isSortOf_of {cmp : α → α → Int} {out a : Array α} (hs : SortedSeg cmp out 0 out.size)
    (hp : out.Perm a) : IsSortOf cmp out a :=
  ⟨sorted_of_sortedSeg hs, Array.perm_iff_toList_perm.1 hp⟩

/-- indices beyond `a.size` are ignored -/
def AllSeg (P : α → Prop) (a : Array α) (lo hi : Nat) : Prop :=
  ∀ p, lo ≤ p → p < hi → (h : p < a.size) → P a[p]

theorem AllSeg.sub {P : α → Prop} {a : Array α} {lo hi1 l h : Nat} (hP : AllSeg P a lo hi1)
    (h1 : lo ≤ l) (h2 : h ≤ hi1) : AllSeg P a l h :=
  fun p hp1 hp2 hpa => hP p (by omega) (by omega) hpa

theorem AllSeg.and {P Q : α → Prop} {a : Array α} {lo hi1 : Nat} (hP : AllSeg P a lo hi1)
    (hQ : AllSeg Q a lo hi1) : AllSeg (fun x => P x ∧ Q x) a lo hi1 :=
  fun p hp1 hp2 hpa => ⟨hP p hp1 hp2 hpa, hQ p hp1 hp2 hpa⟩

theorem AllSeg.imp {P Q : α → Prop} {a : Array α} {l h : Nat} (hPQ : ∀ x, P x → Q x)
    (hP : AllSeg P a l h) : AllSeg Q a l h :=
  fun p hp1 hp2 hpa => hPQ _ (hP p hp1 hp2 hpa)

theorem AllSeg.append {P : α → Prop} {a : Array α} {l m h : Nat} (h1 : AllSeg P a l m)
    (h2 : AllSeg P a m h) : AllSeg P a l h := by
  intro p hp1 hp2 hpa
  by_cases hpm : p < m
  · exact h1 p hp1 hpm hpa
  · exact h2 p (by omega) hp2 hpa

theorem AllSeg.single {P : α → Prop} {a : Array α} {i : Nat} (h : ∀ hi : i < a.size, P a[i]) :
    AllSeg P a i (i+1) := by
  intro p h1 h2 hp
  obtain rfl : p = i := by omega
  exact h hp

theorem AllSeg.swap {P : α → Prop} {a : Array α} {l h i j : Nat} (hi : i < a.size) (hj : j < a.size)
    (rest : ∀ p, l ≤ p → p < h → p ≠ i → p ≠ j → (hp : p < a.size) → P a[p])
    (ati : l ≤ i → i < h → P a[j]) (atj : l ≤ j → j < h → P a[i]) :
    AllSeg P (a.swap i j hi hj) l h := by
  intro p hp1 hp2 hp
  rw [Array.getElem_swap]
  split
  · next e => subst e; exact ati hp1 hp2
  · split
    · next e => subst e; exact atj hp1 hp2
    · next e1 e2 => exact rest p hp1 hp2 e1 e2 (Array.size_swap ▸ hp)

/-- `a'` is `a` with `a[lo..hi1)` rearranged: a permutation that fixes every position outside the
segment, and therefore keeps every predicate that holds throughout the segment.  (`pres` follows from
`perm` and `frame` only when `hi1 ≤ a.size`, see `segStep_of_segL`; as a field it needs no such bound and
every step lemma hands it on for free.) -/
structure SegStep (a a' : Array α) (lo hi1 : Nat) : Prop where
  size : a'.size = a.size
  perm : a'.Perm a
  frame : ∀ p, (p < lo ∨ hi1 ≤ p) → (h : p < a.size) → (h' : p < a'.size) → a'[p] = a[p]
  pres : ∀ P : α → Prop, AllSeg P a lo hi1 → AllSeg P a' lo hi1

theorem SegStep.refl (a : Array α) (lo hi1 : Nat) : SegStep a a lo hi1 :=
  ⟨rfl, Array.Perm.refl _, fun _ _ _ _ => rfl, fun _ h => h⟩

theorem SegStep.swap {a : Array α} {lo hi1 i j : Nat} (hi : i < a.size) (hj : j < a.size)
    (hli : lo ≤ i) (hih : i < hi1) (hlj : lo ≤ j) (hjh : j < hi1) :
    SegStep a (a.swap i j hi hj) lo hi1 :=
  ⟨Array.size_swap, Array.swap_perm _ _,
    fun _ _ _ _ => Array.getElem_swap_of_ne (by omega) (by omega),
    fun _ hP => AllSeg.swap hi hj (fun p h1 h2 _ _ hp => hP p h1 h2 hp)
      (fun _ _ => hP j hlj hjh hj) (fun _ _ => hP i hli hih hi)⟩

theorem SegStep.widen {a a' : Array α} {l h lo hi1 : Nat} (s : SegStep a a' l h) (h1 : lo ≤ l)
    (h2 : h ≤ hi1) : SegStep a a' lo hi1 := by
  refine ⟨s.size, s.perm, fun p hp hpa hpa' => s.frame p (by omega) hpa hpa', ?_⟩
  intro P hP p hp1 hp2 hpa'
  have hsz := s.size
  by_cases hin : l ≤ p ∧ p < h
  · exact s.pres P (fun q hq1 hq2 hq => hP q (by omega) (by omega) hq) p hin.1 hin.2 hpa'
  · rw [s.frame p (by omega) (by omega) hpa']
    exact hP p hp1 hp2 (by omega)

theorem SegStep.trans {a a1 a2 : Array α} {lo hi1 : Nat} (s : SegStep a a1 lo hi1)
    (t : SegStep a1 a2 lo hi1) : SegStep a a2 lo hi1 := by
  have h1 := s.size
  have h2 := t.size
  refine ⟨by omega, t.perm.trans s.perm, ?_, fun P hP => t.pres P (s.pres P hP)⟩
  intro p hp hpa hpa'
  rw [t.frame p hp (by omega) hpa', s.frame p hp hpa (by omega)]

theorem SegStep.allSeg_disjoint {a a' : Array α} {l h l' h' : Nat} (s : SegStep a a' l h)
    (hd : h' ≤ l ∨ h ≤ l') {P : α → Prop} (hP : AllSeg P a l' h') : AllSeg P a' l' h' := by
  intro p hp1 hp2 hpa'
  have hsz := s.size
  rw [s.frame p (by omega) (by omega) hpa']
  exact hP p hp1 hp2 (by omega)

theorem SegStep.sortedSeg_disjoint {cmp : α → α → Int} {a a' : Array α} {l h l' h' : Nat}
    (s : SegStep a a' l h) (hd : h' ≤ l ∨ h ≤ l') (hs : SortedSeg cmp a l' h') :
    SortedSeg cmp a' l' h' := by
  intro p q hp hpq hq hqa'
  have hsz := s.size
  rw [s.frame p (by omega) (by omega) (by omega), s.frame q (by omega) (by omega) hqa']
  exact hs p q hp hpq hq (by omega)

theorem sortedSeg_of_pivot {cmp : α → α → Int} (tp : TotalPreorder cmp) {a : Array α}
    {lo lt gt1 hi1 : Nat} (v : α) (hle : AllSeg (fun x => cmp x v ≤ 0) a lo gt1)
    (hge : AllSeg (fun x => cmp v x ≤ 0) a lt hi1) (sL : SortedSeg cmp a lo lt)
    (sR : SortedSeg cmp a gt1 hi1) : SortedSeg cmp a lo hi1 := by
  intro p q hp hpq hq hqa
  by_cases hql : q < lt
  · exact sL p q hp hpq hql hqa
  · by_cases hpg : p < gt1
    · exact tp.trans _ _ _ (hle p hp hpg (by omega)) (hge q (by omega) hq hqa)
    · exact sR p q (by omega) hpq hq hqa

theorem frame_getElem? {a a' : Array α} {lo hi1 : Nat} (hs : a'.size = a.size)
    (hf : ∀ p, (p < lo ∨ hi1 ≤ p) → (h : p < a.size) → (h' : p < a'.size) → a'[p] = a[p]) :
    ∀ p, (p < lo ∨ hi1 ≤ p) → a'[p]? = a[p]? := by
  intro p hp
  by_cases hps : p < a.size
  · rw [Array.getElem?_eq_getElem hps, Array.getElem?_eq_getElem (by omega), hf p hp hps (by omega)]
  · rw [Array.getElem?_eq_none (by omega), Array.getElem?_eq_none (by omega)]

def segL (a : Array α) (i j : Nat) : List α := (a.extract i j).toList

theorem segL_eq (a : Array α) (i j : Nat) : segL a i j = (a.toList.drop i).take (j - i) := by
  simp [segL]

theorem segL_length {a : Array α} {i j : Nat} (h : j ≤ a.size) : (segL a i j).length = j - i := by
  simp [segL]; omega

theorem segL_getElem {a : Array α} {i j t : Nat} (hj : j ≤ a.size) (h : t < (segL a i j).length) :
    (segL a i j)[t] = a[i + t]'(by rw [segL_length hj] at h; omega) := by
  simp [segL]

theorem segL_getElem? (a : Array α) (i j t : Nat) (hj : j ≤ a.size) (h : i + t < j) :
    (segL a i j)[t]? = some (a[i + t]'(by omega)) := by
  have : t < (segL a i j).length := by rw [segL_length hj]; omega
  rw [List.getElem?_eq_getElem this, segL_getElem hj this]

theorem segL_cons (a : Array α) {i j : Nat} (hj : j ≤ a.size) (h : i < j) :
    segL a i j = a[i] :: segL a (i+1) j := by
  rw [segL_eq, segL_eq, List.drop_eq_getElem_cons (by simpa using (by omega : i < a.size)),
    (by omega : j - i = (j - (i+1)) + 1), List.take_succ_cons]
  simp

theorem segL_nil {a : Array α} {i j : Nat} (h : j ≤ i) : segL a i j = [] := by
  simp [segL_eq, Nat.sub_eq_zero_of_le h]

theorem segL_append {a : Array α} {i m j : Nat} (h1 : i ≤ m) (h2 : m ≤ j) :
    segL a i m ++ segL a m j = segL a i j := by
  simp only [segL_eq]
  have e : j - i = (m - i) + (j - m) := by omega
  rw [e, List.take_add, List.drop_drop]
  congr 3; omega

theorem segL_congr {a b : Array α} {i j : Nat} (hj : j ≤ a.size) (hj' : j ≤ b.size)
    (h : ∀ p (hp : p < a.size) (hp' : p < b.size), i ≤ p → p < j → a[p] = b[p]) :
    segL a i j = segL b i j := by
  apply List.ext_getElem
  · rw [segL_length hj, segL_length hj']
  · intro p h1 h2
    rw [segL_getElem hj, segL_getElem hj']
    rw [segL_length hj] at h1
    exact h _ _ _ (by omega) (by omega)

theorem mem_segL {a : Array α} {i j : Nat} (hj : j ≤ a.size) {x : α} (hx : x ∈ segL a i j) :
    ∃ t, ∃ (h : i + t < j), x = a[i + t]'(by omega) := by
  obtain ⟨t, ht, rfl⟩ := List.mem_iff_getElem.1 hx
  have hlen := segL_length (i := i) hj
  exact ⟨t, by omega, segL_getElem hj ht⟩

theorem perm_iff_segL_perm {a' a : Array α} {lo hi1 : Nat}
    (frame : ∀ p, (p < lo ∨ hi1 ≤ p) → a'[p]? = a[p]?) :
    a'.Perm a ↔ (segL a' lo hi1).Perm (segL a lo hi1) := by
  have dec : ∀ b : Array α, b.toList =
      b.toList.take lo ++ (segL b lo hi1 ++ (b.toList.drop lo).drop (hi1 - lo)) := by
    intro b
    rw [segL_eq, List.take_append_drop, List.take_append_drop]
  have e1 : a'.toList.take lo = a.toList.take lo := by
    apply List.ext_getElem?
    intro i
    simp only [List.getElem?_take]
    split
    · simpa using frame i (by omega)
    · rfl
  have e2 : (a'.toList.drop lo).drop (hi1 - lo) = (a.toList.drop lo).drop (hi1 - lo) := by
    apply List.ext_getElem?
    intro i
    simp only [List.getElem?_drop]
    simpa using frame (lo + (hi1 - lo + i)) (by omega)
  rw [Array.perm_iff_toList_perm, dec a', dec a, e1, e2, List.perm_append_left_iff,
    List.perm_append_right_iff]

theorem segStep_of_segL {a a1 : Array α} {lo hi1 : Nat} (hsz : hi1 ≤ a.size) (hs : a1.size = a.size)
    (hf : ∀ i, (i < lo ∨ hi1 ≤ i) → a1[i]? = a[i]?)
    (hp : (segL a1 lo hi1).Perm (segL a lo hi1)) : SegStep a a1 lo hi1 := by
  refine ⟨hs, (perm_iff_segL_perm hf).2 hp, ?_, ?_⟩
  · intro p hp hpa hpa'
    have := hf p hp
    rw [Array.getElem?_eq_getElem hpa, Array.getElem?_eq_getElem hpa'] at this
    exact Option.some.inj this
  · intro P hP p hp1 hp2 hpa
    have h1 := segL_getElem? a1 lo hi1 (p - lo) (by omega) (by omega)
    simp only [(by omega : lo + (p - lo) = p)] at h1
    obtain ⟨t, ht, hx⟩ := mem_segL hsz (hp.mem_iff.1 (List.mem_of_getElem? h1))
    rw [hx]
    exact hP _ (by omega) ht (by omega)

theorem splice_spec {a a' : Array α} {lo h : Nat} {M : List α} (hlo : lo ≤ h) (hh : h ≤ a.size)
    (hlen : M.length = h - lo) (e : a'.toList = a.toList.take lo ++ M ++ a.toList.drop h) :
    a'.size = a.size ∧ (∀ p, (p < lo ∨ h ≤ p) → a'[p]? = a[p]?) ∧ segL a' lo h = M := by
  refine ⟨?_, ?_, ?_⟩
  · have := congrArg List.length e
    simp at this
    omega
  · intro p hout
    rw [← Array.getElem?_toList, e, ← Array.getElem?_toList]
    rcases hout with hout | hout
    · rw [List.append_assoc, List.getElem?_append_left (by simp; omega), List.getElem?_take_of_lt hout]
    · rw [List.getElem?_append_right (by simp; omega), List.getElem?_drop]
      congr 1
      simp
      omega
  · rw [segL_eq, e, List.append_assoc, List.drop_left' (by simp; omega), ← hlen, List.take_left']
    rfl

/-! ## a concrete non-injective total preorder for the non-vacuity examples -/

def exCmp (a b : Int × Int) : Int := (a.1 % 3) - (b.1 % 3)

theorem exCmp_tp : TotalPreorder exCmp :=
  ⟨by intro a b; unfold exCmp; omega, by intro a b c; unfold exCmp; omega⟩

end AlgoVerif.C07
