import AlgoVerif.Proofs.C08Single
/-!
# `EliminateEmptyProductions`
-/
namespace AlgoVerif.C08
open AlgoVerif AlgoVerif.Gram AlgoVerif.C08.Spec

def NullSound (g : G) (nul : List String) : Prop := ∀ n ∈ nul, Derives g [Sym.nonterm n] []

/-- deriving ε is deriving a word over the empty alphabet (`ok := fun _ => false`) -/
theorem nullable_exact {g : G} {nul : List String} (h : nullable g = .ok nul) (X : String) :
    X ∈ nul ↔ Derives g [Sym.nonterm X] [] := by
  refine (headFix_exact (ok := fun _ => false) (ofOpt_ok h) X).trans ⟨fun ⟨w, hw, d⟩ => ?_, fun d => ⟨[], rfl, d⟩⟩
  cases w with
  | nil => exact d
  | cons => simp at hw

theorem nullable_sound {g : G} {nul : List String} (h : nullable g = .ok nul) : NullSound g nul :=
  fun n hn => (nullable_exact h n).1 hn

/-- one step of `expandBody` -/
def expandStep (nul : List String) (bodies : List (List SSym)) (sym : SSym) : List (List SSym) :=
  let nn : Bool := match sym with
    | .nonterm n => decide (n ∈ nul)
    | .term _ => false
  bodies.flatMap (fun β => if nn then [β, β ++ [sym]] else [β ++ [sym]])

theorem expandBody_eq (nul : List String) (body : List SSym) :
    expandBody nul body = body.foldl (expandStep nul) [[]] := rfl

/-- `β` is `b` with some occurrences of nullable non-terminals dropped -/
inductive Variant (nul : List String) : List SSym → List SSym → Prop where
  | nil : Variant nul [] []
  | keep (s : SSym) {b β : List SSym} : Variant nul b β → Variant nul (s :: b) (s :: β)
  | drop (n : String) {b β : List SSym} : n ∈ nul → Variant nul b β → Variant nul (Sym.nonterm n :: b) β

theorem Variant.nonempty_body {nul : List String} {b β : List SSym} (hv : Variant nul b β) (hne : β ≠ []) : b ≠ [] := by
  cases hv with
  | nil => exact absurd rfl hne
  | keep => simp
  | drop => simp

theorem mem_expandStep {nul : List String} {bodies : List (List SSym)} {sym : SSym} {β : List SSym} :
    β ∈ expandStep nul bodies sym ↔
      ∃ β₀ ∈ bodies, β = β₀ ++ [sym] ∨ (β = β₀ ∧ ∃ n, sym = Sym.nonterm n ∧ n ∈ nul) := by
  unfold expandStep
  cases sym with
  | term t => simp
  | nonterm n => by_cases hn : n ∈ nul <;> simp [hn, or_comm]

theorem mem_expand_fold_iff {nul : List String} : ∀ {rest : List SSym} {bodies : List (List SSym)} {β : List SSym},
    β ∈ rest.foldl (expandStep nul) bodies ↔ ∃ β₁ ∈ bodies, ∃ β₂, Variant nul rest β₂ ∧ β = β₁ ++ β₂
  | [], bodies, β => by
    constructor
    · exact fun h => ⟨β, h, [], .nil, by simp⟩
    · rintro ⟨β₁, h, _, hv, rfl⟩
      cases hv
      simpa using h
  | sym :: rest, bodies, β => by
    rw [List.foldl_cons, mem_expand_fold_iff]
    constructor
    · rintro ⟨β₁, h₁, β₂, hv, rfl⟩
      obtain ⟨β₀, h₀, rfl | ⟨rfl, n, rfl, hn⟩⟩ := mem_expandStep.1 h₁
      · exact ⟨β₀, h₀, sym :: β₂, .keep _ hv, by simp⟩
      · exact ⟨β₁, h₀, β₂, .drop _ hn hv, rfl⟩
    · rintro ⟨β₁, h₁, _, hv, rfl⟩
      cases hv with
      | keep _ hv => exact ⟨β₁ ++ [sym], mem_expandStep.2 ⟨β₁, h₁, .inl rfl⟩, _, hv, by simp⟩
      | drop n hn hv => exact ⟨β₁, mem_expandStep.2 ⟨β₁, h₁, .inr ⟨rfl, n, rfl, hn⟩⟩, _, hv, rfl⟩

theorem mem_expandBody_iff {nul : List String} {body β : List SSym} : β ∈ expandBody nul body ↔ Variant nul body β := by
  rw [expandBody_eq, mem_expand_fold_iff]
  simp

theorem mem_expandBody {nul : List String} {body β : List SSym} (hv : Variant nul body β) :
    β ∈ expandBody nul body :=
  mem_expandBody_iff.2 hv

theorem Variant.derives {g : G} {nul : List String} (hn : NullSound g nul) {b β : List SSym} (hv : Variant nul b β) :
    Derives g b β := by
  induction hv with
  | nil => exact .refl _
  | keep s _ ih => exact ih.append_left [s]
  | drop n h _ ih => simpa using (hn n h).append ih

theorem Variant.sub {nul : List String} {b β : List SSym} (hv : Variant nul b β) :
    β.length ≤ b.length ∧ ∀ s ∈ β, s ∈ b := by
  induction hv with
  | nil => simp
  | keep s _ ih => exact ⟨by simp [ih.1], fun x hx => by
      rcases List.mem_cons.1 hx with rfl | hx
      · exact List.mem_cons_self ..
      · exact List.mem_cons_of_mem _ (ih.2 x hx)⟩
  | drop n _ _ ih => exact ⟨by simp; omega, fun x hx => List.mem_cons_of_mem _ (ih.2 x hx)⟩

/-- what `emptyFreeProds` contains: non-empty variants (not longer, of the same symbols) of bodies of `g` -/
def EmptyInv (g : G) (acc : List SProd) : Prop :=
  ∀ p' ∈ acc, p'.body ≠ [] ∧ ∃ p ∈ g.prods, p.head = p'.head ∧ Derives g p.body p'.body ∧
    p'.body.length ≤ p.body.length ∧ ∀ s ∈ p'.body, s ∈ p.body

theorem mem_emptyFreeProds_iff {nul : List String} {ps : List SProd} {p' : SProd} :
    p' ∈ emptyFreeProds nul ps ↔ p'.body ≠ [] ∧ ∃ p ∈ ps, p.head = p'.head ∧ Variant nul p.body p'.body := by
  refine (mem_foldl_iff (S := fun p p' => p'.body ≠ [] ∧ p.head = p'.head ∧ Variant nul p.body p'.body)
    (fun acc p x => ?_) ps [] p').trans ?_
  · split
    · -- an ε-production has the empty variant only
      next hb =>
        rw [List.isEmpty_iff.1 hb]
        exact ⟨.inl, fun h => h.elim id fun ⟨hx, _, hv⟩ => absurd rfl (hv.nonempty_body hx)⟩
    · refine (mem_foldl_iff (S := fun β p' => β ≠ [] ∧ p' = { head := p.head, body := β })
        (fun acc β x => ?_) (expandBody nul p.body) acc x).trans ?_
      · split
        · next h => simp [List.isEmpty_iff.1 h]
        · next h => simp [mem_ins, mt List.isEmpty_iff.2 h]
      · constructor
        · rintro (h | ⟨β, hβ, hne, rfl⟩)
          · exact .inl h
          · exact .inr ⟨hne, rfl, mem_expandBody_iff.1 hβ⟩
        · rintro (h | ⟨hne, hh, hv⟩)
          · exact .inl h
          · exact .inr ⟨x.body, mem_expandBody_iff.2 hv, hne, by cases x; cases hh; rfl⟩
  · simp only [List.not_mem_nil, false_or]
    exact ⟨fun ⟨p, hp, h1, h2⟩ => ⟨h1, p, hp, h2⟩, fun ⟨h1, p, hp, h2⟩ => ⟨p, hp, h1, h2⟩⟩

theorem emptyFreeProds_spec {g : G} {nul : List String} (hn : NullSound g nul) :
    EmptyInv g (emptyFreeProds nul g.prods) := by
  intro p' hp'
  obtain ⟨hne, p, hp, hh, hv⟩ := mem_emptyFreeProds_iff.1 hp'
  exact ⟨hne, p, hp, hh, hv.derives hn, hv.sub⟩

theorem mem_emptyFreeProds {nul : List String} {ps : List SProd} {p : SProd} {β : List SSym}
    (hp : p ∈ ps) (hv : Variant nul p.body β) (hne : β ≠ []) :
    ({ head := p.head, body := β } : SProd) ∈ emptyFreeProds nul ps :=
  mem_emptyFreeProds_iff.2 ⟨hne, p, hp, rfl, hv⟩

theorem elimEmpty_ok {g g' : G} (h : elimEmpty g = .ok g') :
    ∃ nul, nullable g = .ok nul ∧
      ((g.start ∉ nul ∧ g' = prune { g with prods := emptyFreeProds nul g.prods }) ∨
       (g.start ∈ nul ∧ ∃ s', s' ∉ g.nonterms ∧
          g' = prune { terms := g.terms, nonterms := g.nonterms ++ [s'], start := s',
                       prods := ins (ins (emptyFreeProds nul g.prods) { head := s', body := [Sym.nonterm g.start] })
                                  { head := s', body := [] } })) := by
  unfold elimEmpty at h
  obtain ⟨nul, hn, h⟩ := bind_eq_ok h
  refine ⟨nul, hn, ?_⟩
  split at h
  · rename_i hs
    obtain ⟨⟨g2, s'⟩, ha, h⟩ := bind_eq_ok h
    cases h
    obtain ⟨hf, rfl⟩ := addNew_ok ha
    exact Or.inr ⟨hs, s', hf, rfl⟩
  · rename_i hs
    cases h
    exact Or.inl ⟨hs, rfl⟩

/-- the grammar `EliminateEmptyProductions` builds before pruning: the non-empty variants, and `S′ → S | ε` for a fresh `S′` when
`S` is nullable -/
theorem elimEmpty_built {g g' : G} (h : elimEmpty g = .ok g') :
    ∃ nul g1, nullable g = .ok nul ∧ g' = prune g1 ∧ g1.terms = g.terms ∧
      ((g1.start = g.start ∧ g1.nonterms = g.nonterms) ∨
       (g.start ∈ nul ∧ g1.start ∉ g.nonterms ∧ g1.nonterms = g.nonterms ++ [g1.start])) ∧
      ∀ p' ∈ g1.prods, (p'.body ≠ [] ∧ ∃ p ∈ g.prods, p.head = p'.head ∧ Variant nul p.body p'.body) ∨
        (g1.start ∉ g.nonterms ∧ p'.head = g1.start ∧ (p'.body = [Sym.nonterm g.start] ∨ p'.body = [])) := by
  obtain ⟨nul, hn, ⟨_, rfl⟩ | ⟨hs, s', hf, rfl⟩⟩ := elimEmpty_ok h
  · exact ⟨nul, _, hn, rfl, rfl, .inl ⟨rfl, rfl⟩, fun p' hp' => .inl (mem_emptyFreeProds_iff.1 hp')⟩
  · refine ⟨nul, _, hn, rfl, rfl, .inr ⟨hs, hf, rfl⟩, fun p' hp' => ?_⟩
    rcases mem_ins.mp hp' with hp' | rfl
    · rcases mem_ins.mp hp' with hp' | rfl
      · exact .inl (mem_emptyFreeProds_iff.1 hp')
      · exact .inr ⟨hf, rfl, .inl rfl⟩
    · exact .inr ⟨hf, rfl, .inr rfl⟩

theorem elimEmpty_sound {g g' : G} (h : elimEmpty g = .ok g') (hv : WellFormed g) {w : List String}
    (hw : Language g' w) : Language g w := by
  obtain ⟨nul, hn, hcase⟩ := elimEmpty_ok h
  have hns := nullable_sound hn
  have hspec := emptyFreeProds_spec (g := g) hns
  have hder : ∀ p' ∈ emptyFreeProds nul g.prods, Derives g [Sym.nonterm p'.head] p'.body := by
    intro p' hp'
    obtain ⟨_, p, hp, hh, hd, _⟩ := hspec p' hp'
    exact hh ▸ (Derives.of_prod hp).trans hd
  rcases hcase with ⟨_, rfl⟩ | ⟨hs, s', hf, rfl⟩
  · unfold Language at hw ⊢
    rw [prune_start] at hw
    refine Derives.of_derivable_prods ?_ hw
    intro p hp
    exact hder p (prune_prods_subset _ p hp)
  · rw [prune_language] at hw
    have hne : g.start ≠ s' := fun e => hf (e ▸ hv.1)
    refine hw.of_fresh_start (g := g) rfl ?_
    intro p hp
    rcases mem_ins.mp hp with hp | rfl
    · rcases mem_ins.mp hp with hp | rfl
      · obtain ⟨_, q, hq, hh, _, _, hsub⟩ := hspec p hp
        obtain ⟨h1, h2⟩ := hv.fresh_not_in hf q hq
        exact ⟨fun hm => h2 (hsub _ hm), Or.inl ⟨hh ▸ h1, hder p hp⟩⟩
      · exact ⟨by simpa using fun e => hne e.symm, Or.inr ⟨rfl, Derives.refl _⟩⟩
    · exact ⟨by simp, Or.inr ⟨rfl, hns _ hs⟩⟩

theorem nullablePass_closed {ps : List SProd} {nul : List String} (h : nullablePass ps nul = nul) :
    ∀ p ∈ ps, bodyAllIn nul p.body = true → p.head ∈ nul :=
  headPass_closed (test := bodyAllIn) h

theorem emptyFree_complete {g : G} {nul : List String} (hn : nullable g = .ok nul)
    {α : List SSym} {w : List String} (d : Derives g α (w.map Sym.term)) :
    ∃ α', Variant nul α α' ∧ (w ≠ [] → α' ≠ []) ∧
      Derives ({ g with prods := emptyFreeProds nul g.prods } : G) α' (w.map Sym.term) := by
  refine Derives.tree_induction (g := g) (Q := fun α w => ∃ α', Variant nul α α' ∧ (w ≠ [] → α' ≠ []) ∧
      Derives ({ g with prods := emptyFreeProds nul g.prods } : G) α' (w.map Sym.term))
    ⟨[], .nil, fun h => absurd rfl h, .refl _⟩ ?_ ?_ d
  · rintro t β w ⟨β', hv, _, hd⟩
    exact ⟨Sym.term t :: β', .keep _ hv, fun _ => by simp, by simpa using hd.append_left [Sym.term t]⟩
  · rintro p hp β w₁ w₂ db ⟨b', hvb, hneb, hdb⟩ ⟨β', hvβ, hneβ, hdβ⟩
    by_cases hw₁ : w₁ = []
    · -- the head derives ε: it is dropped
      subst hw₁
      exact ⟨β', .drop _ ((nullable_exact hn _).2 ((Derives.of_prod hp).trans db)) hvβ, by simpa using hneβ,
        by simpa using hdβ⟩
    · -- otherwise the variant of the body is a body of the head
      have hmem := mem_emptyFreeProds hp hvb (hneb hw₁)
      refine ⟨Sym.nonterm p.head :: β', .keep _ hvβ, fun _ => by simp, ?_⟩
      have := ((Derives.of_prod (g := ({ g with prods := emptyFreeProds nul g.prods } : G)) hmem).trans hdb).append hdβ
      simpa using this

theorem emptyFree_complete_nonterm {g : G} {nul : List String} (hn : nullable g = .ok nul) {A : String}
    {w : List String} (hw : w ≠ []) (d : Derives g [Sym.nonterm A] (w.map Sym.term)) :
    Derives ({ g with prods := emptyFreeProds nul g.prods } : G) [Sym.nonterm A] (w.map Sym.term) := by
  obtain ⟨α', hv, hne, hd⟩ := emptyFree_complete hn d
  cases hv with
  | keep _ hv' => cases hv'; exact hd
  | drop _ _ hv' => cases hv'; exact absurd rfl (hne hw)

theorem elimEmpty_complete {g g' : G} (h : elimEmpty g = .ok g') {w : List String}
    (hw : Language g w) : Language g' w := by
  obtain ⟨nul, hn, hcase⟩ := elimEmpty_ok h
  rcases hcase with ⟨hs, rfl⟩ | ⟨hs, s', _, rfl⟩ <;> rw [prune_language]
  · by_cases hw0 : w = []
    · subst hw0
      exact absurd ((nullable_exact hn g.start).2 hw) hs
    · exact emptyFree_complete_nonterm hn hw0 hw
  · by_cases hw0 : w = []
    · subst hw0
      exact Derives.of_prod (p := { head := s', body := [] }) (mem_ins.mpr (Or.inr rfl))
    · refine Language.of_start_prod (g := { g with prods := emptyFreeProds nul g.prods }) (fun p hp => ?_) ?_
        (emptyFree_complete_nonterm hn hw0 hw)
      · exact mem_ins.mpr (.inl (mem_ins.mpr (.inl hp)))
      · exact mem_ins.mpr (.inl (mem_ins.mpr (.inr rfl)))

theorem elimEmpty_language {g g' : G} (h : elimEmpty g = .ok g') (hv : WellFormed g) (w : List String) :
    Language g' w ↔ Language g w :=
  ⟨elimEmpty_sound h hv, elimEmpty_complete h⟩

end AlgoVerif.C08
