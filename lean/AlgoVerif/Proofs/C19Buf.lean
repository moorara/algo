import AlgoVerif.Proofs.C19Reader
/-!
# C19 — the buffer invariant, `next()` and `New`

`Inv S n i p B cnt s`: the two halves of `buff` hold the source bytes `[B - n, B + cnt)`; `forward` stands for
the absolute position `p`; `err` is set exactly when the byte at `p` is not available; `ahead` exactly when
`forward` has been retracted into the older half.
-/
namespace AlgoVerif.C19
open AlgoVerif AlgoVerif.Generated

/-- buffer index of the absolute byte position `q ∈ [B - n, B + n]`, where the half loaded last starts at
buffer index `s ∈ {0, n}` and holds the source from position `B` on (the other half holds `[B - n, B)`) -/
def idx (n s B q : Nat) : Nat :=
  if q < B then (n - s) + (q + n - B) else if q < B + n then s + (q - B) else n - s

theorem add_div_mod_half (h r n : Nat) (hh : h = 0 ∨ h = n) (hr : r < n) :
    (h + r) / n = h / n ∧ (h + r) % n = r := by
  rcases hh with rfl | rfl
  · rw [Nat.zero_add, Nat.zero_div]; exact ⟨Nat.div_eq_of_lt hr, Nat.mod_eq_of_lt hr⟩
  · rw [Nat.add_div_left r (by omega), Nat.add_mod_left, Nat.div_eq_of_lt hr, Nat.div_self (by omega)]
    exact ⟨rfl, Nat.mod_eq_of_lt hr⟩

/-- `idx` piece by piece, without subtraction, with the half (`/ n`) the index lies in and its offset (`% n`)
there: all `omega` needs to know about `idx` -/
theorem idx_cases (n s B q : Nat) (hn : 0 < n) (hs : s = 0 ∨ s = n) (hlo : B ≤ q + n) :
    (q < B ∧ idx n s B q + s + B = q + 2 * n ∧ idx n s B q / n + s / n = 1 ∧ idx n s B q % n + B = q + n) ∨
    (B ≤ q ∧ q < B + n ∧ idx n s B q + B = s + q ∧ idx n s B q / n = s / n ∧ idx n s B q % n + B = q) ∨
    (B + n ≤ q ∧ idx n s B q + s = n ∧ idx n s B q / n + s / n = 1 ∧ idx n s B q % n = 0) := by
  have hsn : (n - s) / n + s / n = 1 := by
    rcases hs with rfl | rfl
    · rw [Nat.sub_zero, Nat.div_self hn, Nat.zero_div]
    · rw [Nat.sub_self, Nat.div_self hn, Nat.zero_div]
  unfold idx; split
  · have := add_div_mod_half (n - s) (q + n - B) n (by omega) (by omega)
    exact .inl ⟨‹_›, by omega, by omega, by omega⟩
  · split
    · have := add_div_mod_half s (q - B) n hs (by omega)
      exact .inr (.inl ⟨by omega, ‹_›, by omega, by omega, by omega⟩)
    · have := Nat.add_zero (n - s) ▸ add_div_mod_half (n - s) 0 n (by omega) hn
      exact .inr (.inr ⟨by omega, by omega, by omega, by omega⟩)

theorem mod_of_lt_two (x m : Nat) (hx : x < 2 * m) : x % m = if x < m then x else x - m := by
  split
  · exact Nat.mod_eq_of_lt ‹_›
  · rw [Nat.mod_eq_sub_mod (by omega), Nat.mod_eq_of_lt (by omega)]

/-- the buffer is cyclic: position `q` lies `q - (B - n)` bytes after the start `n - s` of the older half -/
theorem idx_eq_mod (n s B q : Nat) (hn : 0 < n) (hs : s = 0 ∨ s = n) (hlo : B ≤ q + n) (hhi : q ≤ B + n) :
    idx n s B q = ((n - s) + (q + n - B)) % (2 * n) := by
  rw [mod_of_lt_two _ _ (by omega)]
  unfold idx
  split <;> split <;> (try split) <;> omega

theorem idx_lt (n s B q : Nat) (hn : 0 < n) (hs : s = 0 ∨ s = n) (hlo : B ≤ q + n) (hhi : q ≤ B + n) :
    idx n s B q < 2 * n := by
  rw [idx_eq_mod n s B q hn hs hlo hhi]; exact Nat.mod_lt _ (by omega)

theorem idx_add (n s B q d : Nat) (hn : 0 < n) (hs : s = 0 ∨ s = n) (hlo : B ≤ q + n) (hhi : q + d ≤ B + n) :
    idx n s B (q + d) = (idx n s B q + d) % (2 * n) := by
  rw [idx_eq_mod n s B q hn hs hlo (by omega), idx_eq_mod n s B _ hn hs (by omega) hhi, Nat.mod_add_mod]
  congr 1; omega

/-- one step forward, as the copy loop of `Lexeme` takes it -/
theorem idx_succ (n s B q : Nat) (hn : 0 < n) (hs : s = 0 ∨ s = n) (hlo : B ≤ q + n) (hq : q < B + n) :
    (if idx n s B q + 1 = 2 * n then 0 else idx n s B q + 1) = idx n s B (q + 1) := by
  have := idx_lt n s B q hn hs hlo (by omega)
  rw [idx_add n s B q 1 hn hs hlo hq, mod_of_lt_two _ _ (by omega)]
  split <;> split <;> omega

/-- `d ≤ n` steps back, as `Retract` takes them -/
theorem idx_sub (n s B q d : Nat) (hn : 0 < n) (hs : s = 0 ∨ s = n) (hlo : B ≤ q + n) (hd : d ≤ n)
    (hhi : q + d ≤ B + n) :
    idx n s B q = if idx n s B (q + d) < d then idx n s B (q + d) + 2 * n - d else idx n s B (q + d) - d := by
  have := idx_lt n s B q hn hs hlo (by omega)
  rw [idx_add n s B q d hn hs hlo hhi, mod_of_lt_two _ _ (by omega)]
  split <;> split <;> omega

theorem idx_ne (n s B q p : Nat) (hn : 0 < n) (hs : s = 0 ∨ s = n) (hlo : B ≤ q + n) (hqp : q < p)
    (hpq : p ≤ q + n) (hp : p ≤ B + n) : idx n s B q ≠ idx n s B p := by
  have := idx_lt n s B q hn hs hlo (by omega)
  obtain ⟨d, rfl⟩ := Nat.exists_eq_add_of_lt hqp
  rw [Nat.add_assoc, idx_add n s B q _ hn hs hlo (by omega), mod_of_lt_two _ _ (by omega)]
  split <;> omega

theorem idx_boundary (n s B p : Nat) (hn : 0 < n) (hs : s = 0 ∨ s = n) (hlo : B ≤ p + n) (hp : p < B + n) :
    (idx n s B p + 1 = n ∨ idx n s B p + 1 = 2 * n) ↔ (p + 1 = B ∨ p + 1 = B + n) := by
  have := idx_cases n s B p hn hs hlo; omega

theorem idx_cur (n s B q : Nat) (hlo : B ≤ q) (hhi : q < B + n) : idx n s B q = s + (q - B) := by
  unfold idx; rw [if_neg (Nat.not_lt.mpr hlo), if_pos hhi]

theorem idx_reload (n s B q : Nat) (hn : 0 < n) (hs : s ≤ n) (hlo : B ≤ q) (hhi : q ≤ B + n) :
    idx n (n - s) (B + n) q = idx n s B q := by
  rcases Nat.lt_or_ge q (B + n) with h | h
  · rw [idx_cur n s B q hlo h]; unfold idx; rw [if_pos h]; omega
  · unfold idx
    rw [if_neg (by omega), if_pos (by omega), if_neg (by omega), if_neg (by omega)]; omega

def NulFree (S : List UInt8) : Prop := ∀ b ∈ S, b ≠ 0

theorem eofByte_eq : eofByte = 0 := by decide

/-- Invariant of the buffer mechanics (DESIGN.md Appendix B, made precise).
`S` source, `n` half size, `p` absolute position of `forward`, `B` absolute position at which the half loaded
last starts, `cnt` bytes loaded into it, `s` its buffer index. -/
structure Inv (S : List UInt8) (n : Nat) (i : Input) (p B cnt s : Nat) : Prop where
  npos : 0 < n
  size : i.buff.size = 2 * n
  s01 : s = 0 ∨ s = n
  /-- the window is the one `New` loaded (nothing is older) or came from a reload, each of which moves `B` by `n` -/
  Bn : B = 0 ∨ n ≤ B
  cnt_pos : 0 < cnt
  cnt_le : cnt ≤ n
  hiL : B + cnt ≤ S.length
  rest : i.src.rest = S.drop (B + cnt)
  noio : NoIOErr i.src
  cur : ∀ t, t < cnt → i.buff[s + t]? = S[B + t]?
  prev : n ≤ B → ∀ t, t < n → i.buff[(n - s) + t]? = S[B - n + t]?
  /-- a half that is not full ends with the sentinel 0x00 `load` writes, and only the last half of the source is not full -/
  sent : cnt < n → i.buff[s + cnt]? = some 0 ∧ B + cnt = S.length
  /-- after `Retract`s `forward` may stand in the older half, up to `n` bytes behind `B` -/
  p_lo : B ≤ p + n
  /-- a consequence of `Bn` -/
  p_lo' : p < B → n ≤ B
  p_hi : p ≤ B + cnt
  ahead : i.ahead = decide (p < B)
  fw : i.forward = idx n s B p
  err : i.err = if p < B + cnt then none else some .eof
  /-- `forward` stands behind the last byte loaded only at the end of the source: behind a half that is not full
  (`sent`), or behind a full one after a reload that found nothing -/
  atEnd : p = B + cnt → B + cnt = S.length

theorem SameLex.refl (i : Input) : SameLex i i := ⟨rfl, rfl, rfl, rfl, rfl, rfl, rfl⟩

theorem SameLex.trans {i j k : Input} (h1 : SameLex i j) (h2 : SameLex j k) : SameLex i k :=
  ⟨h2.lexemeBegin.trans h1.lexemeBegin, h2.offset.trans h1.offset, h2.line.trans h1.line,
   h2.column.trans h1.column, h2.nextColumn.trans h1.nextColumn, h2.runeSizes.trans h1.runeSizes,
   h2.lastColumns.trans h1.lastColumns⟩

theorem getElem?_of_lt {S : List UInt8} {p : Nat} (h : p < S.length) : ∃ b, S[p]? = some b ∧ b ∈ S :=
  ⟨S[p], List.getElem?_eq_getElem h, List.getElem_mem h⟩

theorem next_at_end {S n i p B cnt s} (hinv : Inv S n i p B cnt s) (hp : p = B + cnt) :
    i.next = .ok (i, .error .eof) := by
  have : i.err = some .eof := by rw [hinv.err]; simp [hp]
  simp [Input.next, this]

theorem buff_at {S : List UInt8} {n : Nat} {i : Input} {p B cnt s : Nat} (hinv : Inv S n i p B cnt s)
    (q : Nat) (hlo : B ≤ q + n) (hhi : q < B + cnt) : i.buff[idx n s B q]? = S[q]? := by
  have hcl := hinv.cnt_le
  simp only [idx]
  split
  · have hnB : n ≤ B := by rcases hinv.Bn with h | h <;> omega
    rw [hinv.prev hnB _ (by omega)]; congr 1; omega
  · rw [if_pos (by omega), hinv.cur _ (by omega)]; congr 1; omega

theorem Inv.move {S : List UInt8} {n : Nat} {i : Input} {p B cnt s : Nat} (h : Inv S n i p B cnt s) (q : Nat)
    (hlo : B ≤ q + n) (hhi : q ≤ B + cnt) (hend : q = B + cnt → B + cnt = S.length) (j : Input)
    (h1 : j.src.rest = i.src.rest) (hio : NoIOErr j.src) (h2 : j.buff = i.buff) (h3 : j.forward = idx n s B q) (h4 : j.ahead = decide (q < B))
    (h5 : j.err = if q < B + cnt then none else some .eof) : Inv S n j q B cnt s :=
  { h with
    size := h2 ▸ h.size, rest := h1 ▸ h.rest, noio := hio, cur := h2 ▸ h.cur, prev := h2 ▸ h.prev,
    sent := h2 ▸ h.sent, p_lo := hlo, p_lo' := fun hq => by rcases h.Bn with hB | hB <;> omega, p_hi := hhi,
    ahead := h4, fw := h3, err := h5, atEnd := hend }

/-- the state after a successful reload of the other half, `load (n - s) (n - s + n)` as `load_spec` describes it -/
theorem reload_inv {S : List UInt8} {n : Nat} {i : Input} {p B s : Nat} (hinv : Inv S n i p B n s)
    (hp1 : p + 1 = B + n) (j : Input) (k : Nat)
    (hk : k = min n i.src.rest.length) (hkpos : 0 < k)
    (hrd : j.src.rest = i.src.rest.drop k) (hio : NoIOErr j.src) (hbsz : j.buff.size = i.buff.size)
    (hnew : ∀ t, t < k → j.buff[(n - s) + t]? = i.src.rest[t]?)
    (hsent : k < n → j.buff[(n - s) + k]? = some eofByte)
    (hold : ∀ t, (t < n - s ∨ (n - s) + k < t ∨ (t = n - s + k ∧ k = n)) → j.buff[t]? = i.buff[t]?)
    (hjfw : j.forward = n - s) (hjah : j.ahead = false) (hjerr : j.err = none) :
    Inv S n j (p + 1) (B + n) k (n - s) := by
  have hn := hinv.npos
  have hL := hinv.hiL
  have hs := hinv.s01
  have hrl : i.src.rest.length + (B + n) = S.length := by rw [hinv.rest, List.length_drop]; omega
  -- the arithmetic of the new window `[B + n, B + n + k)`, once for all the fields below
  obtain ⟨hs', hss, hkn, hkL, hkend, hlo, hnlt, hlt⟩ : (n - s = 0 ∨ n - s = n) ∧ n - (n - s) = s ∧ k ≤ n ∧ B + n + k ≤ S.length ∧
      (k < n → B + n + k = S.length) ∧ B + n ≤ p + 1 + n ∧ ¬ p + 1 < B + n ∧ p + 1 < B + n + k := by omega
  clear hk hrl
  exact {
    npos := hn
    size := hbsz.trans hinv.size
    s01 := hs'
    Bn := Or.inr (Nat.le_add_left n B)
    cnt_pos := hkpos
    cnt_le := hkn
    hiL := hkL
    rest := by rw [hrd, hinv.rest, List.drop_drop]
    noio := hio
    cur := fun t ht => by rw [hnew t ht, hinv.rest, List.getElem?_drop]
    prev := by
      intro _ t ht
      rw [hss, hold (s + t) (by omega), hinv.cur t ht]
      congr 1; omega
    sent := fun h => ⟨by rw [hsent h, eofByte_eq], hkend h⟩
    p_lo := hlo
    p_lo' := fun h => absurd h hnlt
    p_hi := Nat.le_of_lt hlt
    ahead := by rw [hjah, decide_eq_false hnlt]
    fw := by rw [hjfw, idx_cur n _ _ _ (by omega) (by omega)]; omega
    err := by rw [hjerr, if_pos hlt]
    atEnd := fun h => absurd h (Nat.ne_of_lt hlt) }

theorem next_step {S : List UInt8} {n : Nat} {i : Input} {p B cnt s : Nat} (hinv : Inv S n i p B cnt s)
    (hnul : NulFree S) (hp : p < B + cnt) (hne : p + 1 ≠ B + n) {b : UInt8} (hb : S[p]? = some b) :
    i.next = .ok ({ i with forward := idx n s B (p + 1), ahead := decide (p + 1 < B),
                           err := if p + 1 < B + cnt then none else some .eof }, .ok b) := by
  have hn := hinv.npos
  have hplo := hinv.p_lo
  have hpn : p < B + n := by have := hinv.cnt_le; omega
  have herr : i.err = none := by rw [hinv.err, if_pos hp]
  have hread : i.buff[i.forward]? = some b := by rw [hinv.fw, buff_at hinv p hplo hp, hb]
  have hbd := idx_boundary n s B p hn hinv.s01 hplo hpn
  have hsucc := idx_succ n s B p hn hinv.s01 hplo hpn
  rw [← hinv.fw] at hbd hsucc
  rw [← hsucc]
  simp only [Input.next, herr, hread, hinv.size, Nat.mul_div_cancel_left n Nat.two_pos, hinv.ahead]
  by_cases hB : p + 1 = B
  · -- from the older half into the half loaded last: `ahead` is set, nothing is loaded
    have hcp := hinv.cnt_pos
    have hf := hbd.mpr (.inl hB)
    clear hbd
    rw [decide_eq_true (show p < B by omega), decide_eq_false (show ¬ p + 1 < B by omega),
      if_pos (show p + 1 < B + cnt by omega)]
    rcases hf with h | h
    · simp only [h, if_true, show ¬ n = 2 * n by omega, if_false]
    · simp only [h, if_true, show ¬ 2 * n = n by omega, if_false]
  · -- no boundary: `next()` looks at the byte after this one for the sentinel
    obtain ⟨h1, h2⟩ := not_or.mp fun h => (hbd.mp h).elim hB hne
    clear hbd
    rw [if_neg h2] at hsucc ⊢
    have hread1 : ∃ c, i.buff[i.forward + 1]? = some c ∧ (c = eofByte ↔ ¬ p + 1 < B + cnt) := by
      rw [hsucc]
      by_cases hlast : p + 1 < B + cnt
      · obtain ⟨c, hc, hcm⟩ := getElem?_of_lt (show p + 1 < S.length by have := hinv.hiL; omega)
        exact ⟨c, by rw [buff_at hinv (p + 1) (by omega) hlast, hc],
          by rw [eofByte_eq]; exact iff_of_false (hnul c hcm) (not_not_intro hlast)⟩
      · refine ⟨eofByte, ?_, iff_of_true rfl hlast⟩
        rw [eofByte_eq, ← (hinv.sent (by omega)).1, idx_cur n s B (p + 1) (by omega) (by omega)]
        congr 1; omega
    obtain ⟨c, hc, hc0⟩ := hread1
    rw [show decide (p < B) = decide (p + 1 < B) by rw [decide_eq_decide]; omega]
    simp only [h1, h2, if_false, hc, hc0]
    by_cases hl : p + 1 < B + cnt <;> simp only [hl, not_true_eq_false, not_false_eq_true, if_true, if_false]

/-- `next()` at the end of the half loaded last calls `loadSecond` for `s = 0` and `loadFirst` (and `forward` wraps
to 0) for `s = n`: both are `load (n - s) (n - s + n)` -/
theorem next_reload {S : List UInt8} {n : Nat} {i : Input} {p B s : Nat} (hinv : Inv S n i p B n s)
    (hp1 : p + 1 = B + n) {b : UInt8} (hb : S[p]? = some b) {j : Input} {e : Option ErrKind}
    (hload : ({ i with forward := i.forward + 1 }).load (n - s) (n - s + n) = .ok (j, e))
    (hjf : j.forward = i.forward + 1) :
    i.next = .ok ({ j with err := e, forward := n - s }, .ok b) := by
  have hn := hinv.npos
  have hplo := hinv.p_lo
  have hsz := hinv.size
  have herr : i.err = none := by rw [hinv.err, if_pos (by omega)]
  have hah : i.ahead = false := by rw [hinv.ahead, decide_eq_false (by omega)]
  have hread : i.buff[i.forward]? = some b := by rw [hinv.fw, buff_at hinv p hplo (by omega), hb]
  have hfw : i.forward + 1 = s + n := by rw [hinv.fw, idx_cur n s B p (by omega) (by omega)]; omega
  rw [herr, hah] at hload
  simp only [Input.next, herr, hread, hsz, show 2 * n / 2 = n by omega, hah, Bool.false_eq_true, if_false,
    Input.loadSecond, Input.loadFirst]
  rcases hinv.s01 with hs | hs
  · rw [hs, Nat.sub_zero, ← Nat.two_mul] at hload
    rw [if_pos (by omega), hload, hs, Nat.sub_zero, show n = j.forward by omega]
  · rw [hs, Nat.sub_self, Nat.zero_add] at hload
    rw [if_neg (by omega), if_pos (by omega), hload, hs, Nat.sub_self]

/-- `next()` with the byte at `p` loaded: it returns that byte and leaves `Inv` at `p + 1` — in the same window, or,
when `p + 1` is the end of a full window and the reader has bytes left, in the next one: `n` further in the source, in the
other half of `buff`, with `p + 1` at its start.  (At the end of a full window with nothing left the window stays and
`err` is set.) -/
theorem next_spec {S : List UInt8} {n : Nat} {i : Input} {p B cnt s : Nat}
    (hinv : Inv S n i p B cnt s) (hnul : NulFree S) (hp : p < B + cnt) :
    ∃ b, S[p]? = some b ∧ ∃ i' B' cnt' s', i.next = .ok (i', .ok b) ∧ Inv S n i' (p + 1) B' cnt' s' ∧
      SameLex i i' ∧ ((B' = B ∧ s' = s ∧ cnt' = cnt) ∨ (B' = B + n ∧ s' = n - s ∧ p + 1 = B')) := by
  have hcl := hinv.cnt_le
  have hcp := hinv.cnt_pos
  have hL := hinv.hiL
  obtain ⟨b, hb, -⟩ := getElem?_of_lt (show p < S.length by omega)
  refine ⟨b, hb, ?_⟩
  by_cases hB1 : p + 1 = B + n
  · -- `forward` reaches the end of the half loaded last: the other half is loaded
    obtain rfl : cnt = n := by omega
    rcases load_spec { i with forward := i.forward + 1 } (cnt - s) cnt hinv.noio hinv.npos
        (by have := hinv.size; have := hinv.s01; simp only; omega) with
      ⟨hrest, j, hload, hrd, hio, hjb, hjf, hja, -, hsl⟩ |
      ⟨-, j, k, hload, hk, hkpos, hrd, hio, hbsz, hnew, hsent, hold, hjf, hja, -, hsl⟩
    · -- nothing left: the window stays, `err` is set
      have hend : B + cnt = S.length := by
        have := congrArg List.length hinv.rest
        rw [hrest, List.length_drop, List.length_nil] at this; omega
      exact ⟨_, B, cnt, s, next_reload hinv hB1 hb hload hjf,
        hinv.move (p + 1) (by omega) (by omega) (fun _ => hend) _ (hrd.trans hrest.symm) hio hjb
          (by simp only [idx]; rw [if_neg (by omega), if_neg (by omega)])
          (hja.trans ((hinv.ahead.trans (decide_eq_false (by omega))).trans (decide_eq_false (by omega)).symm))
          (if_neg (by omega)).symm,
        ⟨hsl.1, hsl.2, hsl.3, hsl.4, hsl.5, hsl.6, hsl.7⟩, Or.inl ⟨rfl, rfl, rfl⟩⟩
    · exact ⟨_, B + cnt, k, cnt - s, next_reload hinv hB1 hb hload hjf,
        reload_inv hinv hB1 _ k hk hkpos hrd hio hbsz hnew hsent hold rfl
          (hja.trans (hinv.ahead.trans (decide_eq_false (by omega)))) rfl,
        ⟨hsl.1, hsl.2, hsl.3, hsl.4, hsl.5, hsl.6, hsl.7⟩, Or.inr ⟨rfl, rfl, hB1⟩⟩
  · exact ⟨_, B, cnt, s, next_step hinv hnul hp hB1 hb,
      hinv.move (p + 1) (by have := hinv.p_lo; omega) (by omega) (fun h => (hinv.sent (by omega)).2) _ rfl hinv.noio
        rfl rfl rfl rfl,
      ⟨rfl, rfl, rfl, rfl, rfl, rfl, rfl⟩, Or.inl ⟨rfl, rfl, rfl⟩⟩

/-- the lexeme bookkeeping as `New` leaves it -/
structure Fresh (i : Input) : Prop where
  lexemeBegin : i.lexemeBegin = 0
  offset : i.offset = 0
  line : i.line = 1
  column : i.column = 1
  nextColumn : i.nextColumn = 1
  runeSizes : i.runeSizes = []
  lastColumns : i.lastColumns = []

theorem new_spec (S : List UInt8) (script : List Answer) (tailEof : Bool) (n : Nat) (hn : 0 < n)
    (hio : ∀ a ∈ script, a.flag ≠ .ioerr) :
    (S = [] ∧ Input.new ⟨S, script, tailEof⟩ n = .ok (.error .eof)) ∨
    (S ≠ [] ∧ ∃ i, Input.new ⟨S, script, tailEof⟩ n = .ok (.ok i) ∧ Inv S n i 0 0 (min n S.length) 0 ∧ Fresh i) := by
  rcases load_spec { src := ⟨S, script, tailEof⟩, buff := Array.replicate (2 * n) 0 } 0 n hio hn
      (by simp; omega) with
    ⟨hrest, j, hload, -⟩ | ⟨hrest, j, k, hload, hk, hkpos, hrd, hio', hbsz, hnew, hsent, hold, hjf, hja, hje, hsl⟩
  all_goals rw [Nat.zero_add] at hload
  all_goals simp only [Input.new, Input.loadFirst, Array.size_replicate, Nat.mul_div_cancel_left n Nat.two_pos, hload]
  · exact .inl ⟨hrest, trivial⟩
  · subst hk
    have hSl : 0 < S.length := List.length_pos_iff.mpr hrest
    refine .inr ⟨hrest, j, rfl, ?_, hsl.1, hsl.2, hsl.3, hsl.4, hsl.5, hsl.6, hsl.7⟩
    exact {
      npos := hn
      size := hbsz.trans Array.size_replicate
      s01 := Or.inl rfl
      Bn := Or.inl rfl
      cnt_pos := hkpos
      cnt_le := Nat.min_le_left _ _
      hiL := by omega
      rest := by rw [hrd, Nat.zero_add]
      noio := hio'
      cur := fun t ht => by rw [hnew t ht, Nat.zero_add]
      prev := fun h => by omega
      sent := fun h => ⟨by rw [hsent h, eofByte_eq], by omega⟩
      p_lo := Nat.zero_le _
      p_lo' := fun h => absurd h (Nat.not_lt_zero _)
      p_hi := Nat.zero_le _
      ahead := hja
      fw := hjf.trans (idx_cur n 0 0 0 (Nat.le_refl 0) (by omega)).symm
      err := hje.trans (if_pos (by omega)).symm
      atEnd := by omega }

end AlgoVerif.C19
