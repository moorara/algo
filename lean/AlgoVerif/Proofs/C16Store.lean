import AlgoVerif.Proofs.C16Basic
/-!
# C16 helper lemmas: the write log — set-algebra calls write only arrays they allocated themselves

`HSet`/`Store` keep the members of a set object as a value, beside them the identity and capacity of the backing array,
and log every array written.  The heap machine `Hp` (`C16Heap`, `C16HeapMachine`, `C16HeapSim`, independent of this file)
shows that in every reachable state a call leaves what every other register holds unchanged; the log says less — which
arrays are written, not what a write into a shared array would do — but of any state: receiver, operands and other objects
may share arrays in any way and have any capacities, which no history produces.

A run `y` of a slice-side machine is set against the functional run `x` by `Outcome.Sim Q x y`, here and in the `Hp` files:
unless `x` runs out of fuel, `y` ends as `x` does — it panics too, or both return and `Q` relates the results.  The rules
of `Sim` follow the shape of a `do` block, so a loop or a step is proved by reading the two programs side by side; a round
of a machine starts with the functional round (`Sim.bind_same`, `Sim.of_bind`).
-/
namespace AlgoVerif.C16
variable {α : Type} {σ : Type} {n₀ : Nat} {base : List Nat}

/-- since the call started (`n₀` arrays existed, `base` had been written) only arrays allocated by the
call have been written -/
def OnlyFresh (n₀ : Nat) (base : List Nat) (st : Store) : Prop :=
  n₀ ≤ st.next ∧ ∃ ws, st.writes = ws ++ base ∧ ∀ w ∈ ws, n₀ ≤ w ∧ w < st.next

theorem OnlyFresh.alloc {st} (h : OnlyFresh n₀ base st) : OnlyFresh n₀ base st.alloc.2 := by
  obtain ⟨h₁, ws, h₂, h₃⟩ := h
  exact ⟨Nat.le_succ_of_le h₁, ws, h₂, fun w hw => ⟨(h₃ w hw).1, Nat.lt_succ_of_lt (h₃ w hw).2⟩⟩

theorem OnlyFresh.write {st} (h : OnlyFresh n₀ base st) {b : Nat} (hb : n₀ ≤ b) (hb' : b < st.next) :
    OnlyFresh n₀ base (st.write b) := by
  obtain ⟨h₁, ws, h₂, h₃⟩ := h
  exact ⟨h₁, b :: ws, by simp [Store.write, h₂], List.forall_mem_cons.2 ⟨⟨hb, hb'⟩, h₃⟩⟩

/-- the working copy's array was allocated by the call -/
def InFresh (n₀ : Nat) (t : HSet α) (st : Store) : Prop := n₀ ≤ t.buf ∧ t.buf < st.next

theorem Store.tmpFor_fresh {st : Store} (hf : OnlyFresh n₀ base st) (impl : Impl α) :
    OnlyFresh n₀ base (st.tmpFor impl) ∧ st.next ≤ (st.tmpFor impl).next := by
  cases impl with
  | sorted c =>
    exact ⟨hf.alloc.write hf.1 (by simp [Store.alloc]), by simp [Store.tmpFor, Store.write, Store.alloc]⟩
  | unordered e | stable e => exact ⟨hf, Nat.le_refl _⟩

/-- what a round on the working copy returns: the functional result, still in an array of the call's own, and only
such arrays written -/
def Fresh (n₀ : Nat) (base : List Nat) (r : MSet α) (y : HSet α × Store) : Prop :=
  y.1.set = r ∧ OnlyFresh n₀ base y.2 ∧ InFresh n₀ y.1 y.2

theorem HSet.add1_fresh (grow : Nat → Nat) {t : HSet α} (v : α) {st : Store} (hf : OnlyFresh n₀ base st)
    (ho : InFresh n₀ t st) : Outcome.Sim (Fresh n₀ base) (t.set.add [v]) (t.add1 grow v st) := by
  refine .bind_same fun s' _ => ?_
  by_cases hlen : s'.members.length = t.set.members.length
  · rw [if_pos hlen]
    exact .ok ⟨rfl, hf, ho⟩
  · rw [if_neg hlen]
    obtain ⟨hf₁, hle⟩ := Store.tmpFor_fresh hf t.set.impl
    generalize st.tmpFor t.set.impl = st₁ at hf₁ hle
    have ho₁ : InFresh n₀ t st₁ := ⟨ho.1, Nat.lt_of_lt_of_le ho.2 hle⟩
    by_cases hcap : s'.members.length ≤ t.cap
    · rw [if_pos hcap]
      exact .ok ⟨rfl, hf₁.write ho₁.1 ho₁.2, ho₁.1, by simpa [Store.write] using ho₁.2⟩
    · rw [if_neg hcap]
      refine .ok ⟨rfl, ?_, hf₁.1, by simp [Store.write]⟩
      exact OnlyFresh.write (st := ⟨st₁.next + 1, st₁.writes⟩) hf₁.alloc hf₁.1 (by simp)

theorem HSet.remove1_fresh {t : HSet α} (v : α) {st : Store} (hf : OnlyFresh n₀ base st) (ho : InFresh n₀ t st) :
    Outcome.Sim (Fresh n₀ base) (t.set.remove [v]) (t.remove1 v st) := by
  refine .bind_same fun s' _ => ?_
  by_cases hlen : s'.members.length = t.set.members.length
  · rw [if_pos hlen]
    exact .ok ⟨rfl, hf, ho⟩
  · rw [if_neg hlen]
    exact .ok ⟨rfl, hf.write ho.1 ho.2, ho.1, by simpa [Store.write] using ho.2⟩

theorem hAddEach_fresh (grow : Nat → Nat) (ms : List α) : ∀ {t : HSet α} {st : Store}, OnlyFresh n₀ base st →
    InFresh n₀ t st → Outcome.Sim (Fresh n₀ base) (addEach t.set ms) (hAddEach grow t ms st) := by
  induction ms with
  | nil => exact fun hf ho => .ok ⟨rfl, hf, ho⟩
  | cons m ms ih => exact fun hf ho => .bind (HSet.add1_fresh grow m hf ho) fun _ _ ⟨hs, hf₁, ho₁⟩ => hs ▸ ih hf₁ ho₁

theorem hRemoveEach_fresh (ms : List α) : ∀ {t : HSet α} {st : Store}, OnlyFresh n₀ base st →
    InFresh n₀ t st → Outcome.Sim (Fresh n₀ base) (removeEach t.set ms) (hRemoveEach t ms st) := by
  induction ms with
  | nil => exact fun hf ho => .ok ⟨rfl, hf, ho⟩
  | cons m ms ih => exact fun hf ho => .bind (HSet.remove1_fresh m hf ho) fun _ _ ⟨hs, hf₁, ho₁⟩ => hs ▸ ih hf₁ ho₁

/-- what a set-algebra loop returns: the functional result (and shuffle state), only arrays of the call's own written -/
def FreshG (n₀ : Nat) (base : List Nat) (r : MSet α × σ) (y : HSet α × σ × Store) : Prop :=
  y.2.1 = r.2 ∧ y.1.set = r.1 ∧ OnlyFresh n₀ base y.2.2

theorem hUnionLoop_fresh (sh : Shuffle σ) (grow : Nat → Nat) (us : List (HSet α)) : ∀ {t : HSet α} {st : Store} (g : σ),
    OnlyFresh n₀ base st → InFresh n₀ t st →
    Outcome.Sim (FreshG n₀ base) (unionLoop sh t.set (us.map (·.set)) g) (hUnionLoop sh grow t us g st) := by
  induction us with
  | nil => exact fun _ hf _ => .ok ⟨rfl, rfl, hf⟩
  | cons u us ih =>
    exact fun _ hf ho => .bind_same fun (ms, g₁) _ =>
      .bind (hAddEach_fresh grow ms hf ho) fun _ _ ⟨hs, hf₁, ho₁⟩ => hs ▸ ih g₁ hf₁ ho₁

theorem hDiffLoop_fresh (sh : Shuffle σ) (us : List (HSet α)) : ∀ {t : HSet α} {st : Store} (g : σ),
    OnlyFresh n₀ base st → InFresh n₀ t st →
    Outcome.Sim (FreshG n₀ base) (diffLoop sh t.set (us.map (·.set)) g) (hDiffLoop sh t us g st) := by
  induction us with
  | nil => exact fun _ hf _ => .ok ⟨rfl, rfl, hf⟩
  | cons u us ih =>
    exact fun _ hf ho => .bind_same fun (ms, g₁) _ =>
      .bind (hRemoveEach_fresh ms hf ho) fun _ _ ⟨hs, hf₁, ho₁⟩ => hs ▸ ih g₁ hf₁ ho₁

theorem hInterLoop_fresh (grow : Nat → Nat) (sets : List (HSet α)) (ms : List α) : ∀ {t : HSet α} {st : Store},
    OnlyFresh n₀ base st → InFresh n₀ t st →
    Outcome.Sim (fun r y => y.1.set = r ∧ OnlyFresh n₀ base y.2) (interLoop (sets.map (·.set)) t.set ms)
      (hInterLoop grow sets t ms st) := by
  induction ms with
  | nil => exact fun hf _ => .ok ⟨rfl, hf⟩
  | cons m ms ih =>
    exact fun hf ho => .bind_same fun _ _ => .ite
      (fun _ => .bind (HSet.add1_fresh grow m hf ho) fun _ _ ⟨hs, hf₁, ho₁⟩ => hs ▸ ih hf₁ ho₁)
      (fun _ => ih hf ho)

/-- what `HSet.union_fresh`, `HSet.difference_fresh`, `HSet.intersection_fresh` conclude about the store:
every array written by the call was allocated by it -/
def WritesOnlyFresh (st st' : Store) : Prop :=
  ∃ ws, st'.writes = ws ++ st.writes ∧ ∀ w ∈ ws, st.next ≤ w

theorem onlyFresh_init (st : Store) : OnlyFresh st.next st.writes st := ⟨Nat.le_refl _, [], rfl, by simp⟩

/-- after the `make` and `copy` of `Clone` -/
theorem onlyFresh_clone (st : Store) : OnlyFresh st.next st.writes ((st.alloc.2).write st.alloc.1) :=
  (onlyFresh_init st).alloc.write (Nat.le_refl _) (by simp [Store.alloc])

theorem OnlyFresh.conclude {st st' : Store} (h : OnlyFresh st.next st.writes st') : WritesOnlyFresh st st' := by
  obtain ⟨_, ws, h₂, h₃⟩ := h
  exact ⟨ws, h₂, fun w hw => (h₃ w hw).1⟩

theorem HSet.union_fresh (sh : Shuffle σ) (grow : Nat → Nat) (s : HSet α) (sets : List (HSet α)) (g : σ)
    {r : MSet α} {g' : σ} (h : s.set.union sh (sets.map (·.set)) g = .ok (r, g')) (st : Store) :
    ∃ t st', s.union sh grow sets g st = .ok (t, g', st') ∧ t.set = r ∧ WritesOnlyFresh st st' := by
  obtain ⟨⟨t, _, st'⟩, e, hg, hs, hf'⟩ := (hUnionLoop_fresh sh grow sets (t := ⟨s.set.clone, st.next, s.set.members.length⟩) g
    (onlyFresh_clone st) ⟨Nat.le_refl _, by simp [Store.write, Store.alloc]⟩).elim h
  cases hg
  exact ⟨t, st', e, hs, hf'.conclude⟩

theorem HSet.difference_fresh (sh : Shuffle σ) (s : HSet α) (sets : List (HSet α)) (g : σ)
    {r : MSet α} {g' : σ} (h : s.set.difference sh (sets.map (·.set)) g = .ok (r, g')) (st : Store) :
    ∃ t st', s.difference sh sets g st = .ok (t, g', st') ∧ t.set = r ∧ WritesOnlyFresh st st' := by
  obtain ⟨⟨t, _, st'⟩, e, hg, hs, hf'⟩ := (hDiffLoop_fresh sh sets (t := ⟨s.set.clone, st.next, s.set.members.length⟩) g
    (onlyFresh_clone st) ⟨Nat.le_refl _, by simp [Store.write, Store.alloc]⟩).elim h
  cases hg
  exact ⟨t, st', e, hs, hf'.conclude⟩

theorem HSet.intersection_fresh (grow : Nat → Nat) (s : HSet α) (sets : List (HSet α))
    {r : MSet α} (h : s.set.intersection (sets.map (·.set)) = .ok r) (st : Store) :
    ∃ t st', s.intersection grow sets st = .ok (t, st') ∧ t.set = r ∧ WritesOnlyFresh st st' := by
  obtain ⟨⟨t, st'⟩, e, hs, hf'⟩ := (hInterLoop_fresh grow sets s.set.members (t := ⟨s.set.cloneEmpty, st.next, 0⟩)
    (onlyFresh_init st).alloc ⟨Nat.le_refl _, by simp [Store.alloc]⟩).elim h
  exact ⟨t, st', e, hs, hf'.conclude⟩

end AlgoVerif.C16
