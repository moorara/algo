import AlgoVerif.Proofs.C01Rb
/-!
# C01 / C15: LLRB `_delete`

`_delete` compares `key` with the root before and between its rotations; the proof follows the pair that holds `key`
instead (`Has`): it sits in the left listing or in the right part of the node, each move only enlarges the part it
moves pairs into (`lt_sub_mrlP`, `rpart_sub_rotRP`, `rpart_sub_mrrP`), and the comparator is consulted only where the
Go code compares.
-/
namespace AlgoVerif.C01
open Tree

variable {K V : Type} {cmp : K → K → Int}

/-- the statement proved by induction on the fuel.  The side condition: a node with a red right child reaches `_delete`
only out of the `moveRedRight` rotation of its caller (`mrrP_alt`, second case), and then `key` is known to lie in its
right part; the left branch needs this to find the right child black, as `moveLeft_ok` asks. -/
def DelSpec (cmp : K → K → Int) (key : K) (fuel : Nat) : Prop :=
  ∀ n : Tree K V, n.toList.length ≤ fuel → PreR n → Spec.Sorted cmp n.toList → Has cmp key n.toList →
    (n.rt.isRed = true → Has cmp key n.rpart) →
    ∃ out, rbDelete cmp fuel n key = .ok (out, Spec.get cmp key n.toList) ∧
      out.toList = Spec.remove cmp key n.toList ∧ (SizeOKc n → SizeOK out) ∧ Post n out

theorem del_left (h : LawfulCmp cmp) (key : K) (fuel : Nat) (IH : DelSpec (V := V) cmp key fuel)
    (n1 : Tree K V) (hf : n1.toList.length ≤ fuel + 1)
    (hs : Spec.Sorted cmp n1.toList) (hat : Has cmp key n1.lt.toList)
    (hm : Mid n1) (hL : RB n1.lt) (hred : n1.lt.isRed = true ∨ n1.lt.lt.isRed = true) (hR : RB n1.rt) :
    ∃ l' out, rbDelete cmp fuel n1.lt key = .ok (l', Spec.get cmp key n1.toList) ∧
      (∀ {β : Type} (f : Tree K V → Outcome β), (setLeft n1 l' >>= fun x => rbBalance x >>= f) = f out) ∧
      out.toList = Spec.remove cmp key n1.toList ∧ (SizeOKc n1 → SizeOK out) ∧ Tail n1 n1.rt out := by
  rcases n1 with _ | ⟨l, k, v, s, hh, c, r⟩
  · cases hm.ne
  · obtain ⟨hsl, hsr, hl, hr, -⟩ := sorted_node.1 hs
    have hlt : cmp key k < 0 := lt_of_has_left h hs hat
    simp only [lt_node, rt_node] at hL hred hR hat ⊢
    simp only [toList_node, List.length_append, List.length_cons] at hf
    obtain ⟨l', e1, e2, e3, e4⟩ := IH l (by omega) (preR_of_RB hL hred) hsl hat
      (fun hrr => by rw [RB_rt_black hL] at hrr; cases hrr)
    obtain ⟨out, f1, f2, f3, f4⟩ := hm.balance_left hR e4
    refine ⟨l', out, ?_, f1, ?_, fun hz => f3 (e3 (sizeOKc_of_sizeOK hz.1)) hz.2, f4⟩
    · rw [e1, toList_node, get_node_lt h hr hlt]
    · rw [f2, toList_node, remove_node_lt h hr hlt, ← e2]; rfl

/-- at the key: replace the pair by the minimum of the right subtree -/
theorem del_right_min (h : LawfulCmp cmp) (key : K) (fuel : Nat)
    (n2 : Tree K V) (k : K) (v : V) (hkv : kvOf n2 = .ok (k, v)) (hf : n2.toList.length ≤ fuel + 1)
    (hs : Spec.Sorted cmp n2.toList) (heq : cmp key k = 0)
    (hm : Mid n2) (hL : RB n2.lt) (hR : RB n2.rt) (hred : n2.rt.isRed = true ∨ n2.rt.lt.isRed = true) :
    ∃ r' m out, rbDeleteMin fuel n2.rt = .ok (r', m) ∧
      (∀ {β : Type} (f : Tree K V → Outcome β),
        (setRight n2 r' >>= fun x => setKV x m >>= fun y => rbBalance y >>= f) = f out) ∧
      Spec.get cmp key n2.toList = some v ∧
      out.toList = Spec.remove cmp key n2.toList ∧ (SizeOKc n2 → SizeOK out) ∧ Tail n2 n2.lt out := by
  rcases n2 with _ | ⟨l, k', v', s, hh, c, r⟩
  · cases hkv
  · cases hkv
    obtain ⟨hsl, hsr, hl, hr, -⟩ := sorted_node.1 hs
    simp only [lt_node, rt_node] at hL hred hR ⊢
    simp only [toList_node, List.length_append, List.length_cons] at hf
    obtain ⟨r', m, e1, e2, e3, e4⟩ := rbDeleteMin_ok fuel r (by omega) hR hred
    -- the pair at the node does not matter to `Mid`
    obtain ⟨out, f1, f2, f3, f4⟩ :=
      Mid.balance_right (n := .node l m.1 m.2 s hh c r) ⟨rfl, hm.bal, hm.red⟩ hL e4
    refine ⟨r', m, out, e1, fun f => f1 f, ?_, ?_, fun hz => f3 hz.1 (e3 (sizeOKc_of_sizeOK hz.2)),
      f4.rb, f4.height, f4.black⟩
    · rw [toList_node, get_node_ge h hl (by omega), if_pos heq]
    · rw [f2, toList_node, remove_node_eq h hl hr (by omega) (by omega), e2]; rfl

theorem del_right_rec (h : LawfulCmp cmp) (key : K) (fuel : Nat) (IH : DelSpec (V := V) cmp key fuel)
    (n2 : Tree K V) (hf : n2.toList.length ≤ fuel + 1)
    (hs : Spec.Sorted cmp n2.toList) (hat : Has cmp key n2.rt.toList)
    (hm : Mid n2) (hL : RB n2.lt) (hR : PreR n2.rt)
    (hkey : n2.rt.rt.isRed = true → Has cmp key n2.rt.rpart) :
    ∃ r' out, rbDelete cmp fuel n2.rt key = .ok (r', Spec.get cmp key n2.toList) ∧
      (∀ {β : Type} (f : Tree K V → Outcome β), (setRight n2 r' >>= fun x => rbBalance x >>= f) = f out) ∧
      out.toList = Spec.remove cmp key n2.toList ∧ (SizeOKc n2 → SizeOK out) ∧ Tail n2 n2.lt out := by
  rcases n2 with _ | ⟨l, k, v, s, hh, c, r⟩
  · cases hm.ne
  · obtain ⟨hsl, hsr, hl, hr, -⟩ := sorted_node.1 hs
    have hgt : cmp key k > 0 := gt_of_has_right h hs hat
    simp only [lt_node, rt_node] at hL hR hkey hat ⊢
    simp only [toList_node, List.length_append, List.length_cons] at hf
    obtain ⟨r', e1, e2, e3, e4⟩ := IH r (by omega) hR hsr hat hkey
    obtain ⟨out, f1, f2, f3, f4⟩ := hm.balance_right hL e4
    refine ⟨r', out, ?_, f1, ?_, fun hz => f3 hz.1 (e3 (sizeOKc_of_sizeOK hz.2)), f4⟩
    · rw [e1, toList_node, get_node_ge h hl (by omega), if_neg (by omega)]
    · rw [f2, toList_node, remove_node_gt h hl hgt, ← e2]; rfl

theorem rbDelete_step (h : LawfulCmp cmp) (key : K) (fuel : Nat) (IH : DelSpec (V := V) cmp key fuel) :
    DelSpec (V := V) cmp key (fuel + 1) := by
  intro n hf hp hs hmem hkey
  rcases n with _ | ⟨l, k, v, s, hh, c, r⟩
  · simp at hp
  simp only [rbDelete, kvOf_node, Outcome.ok_bind]
  by_cases hlt : cmp key k < 0
  · -- go left: `key` sits in the left subtree, which `moveRedLeft` can only enlarge
    rw [if_pos hlt]
    have hat : Has cmp key l.toList := has_left_of_lt h hs hmem hlt
    have hrb : r.isRed = false := by
      cases hrc : r.isRed
      · rfl
      · exact absurd hlt (not_lt_of_has_right h hs (hkey hrc))
    obtain ⟨n1, hm, sh, mid, g2, g3, g4, b1, blk, inc⟩ :=
      moveLeft_ok hp (isNil_of_mem hat.choose_spec.1) hrb
    rw [hm]
    obtain ⟨l', out, e1, f1, e2, e3, e4⟩ :=
      del_left h key fuel IH n1 (by rw [sh.toList]; exact hf) (by rw [sh.toList]; exact hs)
        (hat.mono inc) mid g2 g3 g4
    rw [leftOf_eq mid.ne]
    simp only [e1, Outcome.ok_bind]
    refine ⟨out, ?_, ?_, fun hz => e3 (sh.size hz), e4.post b1 blk⟩
    · rw [f1, ← sh.toList]; rfl
    · rw [e2, sh.toList]
  · -- go right (or stop here): `key` sits in the right part, which `rotateRight` and `moveRedRight` can
    -- only enlarge
    rw [if_neg hlt]
    have hat1 := has_right_of_not_lt h hs hmem hlt
    obtain ⟨n1, hm, sh1, hp1, hl1, b1, blk1, inc1⟩ := rotRight_ok hp
    rw [hm, ← sh1.toList]
    replace hat1 := Has.mono inc1 hat1
    rw [← sh1.toList] at hs hf
    rcases n1 with _ | ⟨l1, k1, v1, s1, hh1, c1, r1⟩
    · simp at hp1
    · obtain ⟨hL, -, hb, -, hsome, -⟩ := (PreR_node ..).mp hp1
      simp only [lt_node] at hl1
      simp only [kvOf_node, rightOf_node, Outcome.ok_bind]
      by_cases hfirst : cmp key k1 = 0 ∧ r1.isNil = true
      · -- the key is at a red leaf
        rw [if_pos hfirst]
        obtain ⟨heq, hnil⟩ := hfirst
        cases r1 with
        | node => simp at hnil
        | nil =>
          have hc : c1 = true := by simpa [hl1] using hsome
          subst hc
          have hlnil : l1 = .nil := RB_bh_zero hL (by simpa using hb) hl1
          subst hlnil
          refine ⟨.nil, ?_, ?_, fun _ => trivial, trivial, by rw [← b1]; simp, fun _ => rfl⟩
          · simp [get_cons, heq]
          · simp [Spec.remove, heq]
      · rw [if_neg hfirst]
        have hrn : r1.isNil = false := by
          cases hn : r1.isNil
          · rfl
          · cases r1 with
            | node => simp at hn
            | nil => exact absurd ⟨by simpa using hat1, rfl⟩ hfirst
        obtain ⟨n2, hm, sh2, mid, q3, q2, b2, blk, inc2, alt⟩ := moveRight_ok hp1 hrn hl1
        rw [hm]
        have hat2 := hat1.mono inc2
        have sh := sh1.trans sh2
        rw [← sh2.toList] at hs hf ⊢
        rcases n2 with _ | ⟨l2, k2, v2, s2, hh2, c2, r2⟩
        · cases mid.ne
        simp only [kvOf_node, Outcome.ok_bind]
        by_cases heq2 : cmp key k2 = 0
        · rw [if_pos heq2]
          have hqa : RB r2 ∧ (r2.isRed = true ∨ r2.lt.isRed = true) := by
            rcases alt with ⟨a1, a2, -⟩ | inc
            · exact ⟨a1, a2⟩
            · -- after a rotation `key` sits in the right subtree, above the root key
              have : cmp key k2 > 0 := gt_of_has_right h hs ((hat1.mono inc).mono (rpart_sub_toList _))
              omega
          obtain ⟨r', m, out, e1, f1, g1, g2, g3, g4⟩ :=
            del_right_min h key fuel _ k2 v2 rfl hf hs heq2 mid q3 hqa.1 hqa.2
          simp only [rightOf_node, Outcome.ok_bind]
          simp only [rt_node] at e1
          simp only [e1, Outcome.ok_bind]
          refine ⟨out, ?_, ?_, fun hz => g3 (sh.size hz), g4.post (b2.trans b1) fun hc => blk (blk1 hc)⟩
          · rw [f1, g1]; rfl
          · rw [g2]
        · rw [if_neg heq2]
          obtain ⟨r', out, e1, f1, g2, g3, g4⟩ :=
            del_right_rec h key fuel IH _ hf hs (hat2.tail heq2) mid q3 q2
              (fun hrr' => alt.elim (fun a => by rw [a.2.2] at hrr'; cases hrr') fun inc => hat1.mono inc)
          simp only [rightOf_node, Outcome.ok_bind]
          simp only [rt_node] at e1
          simp only [e1, Outcome.ok_bind]
          refine ⟨out, ?_, ?_, fun hz => g3 (sh.size hz), g4.post (b2.trans b1) fun hc => blk (blk1 hc)⟩
          · rw [f1]; rfl
          · rw [g2]

theorem rbDelete_ok (h : LawfulCmp cmp) (key : K) : ∀ fuel : Nat, DelSpec (V := V) cmp key fuel
  | 0 => by
    intro n hf hp
    cases n with
    | nil => simp at hp
    | node l k v s hh c r => simp at hf
  | fuel + 1 => rbDelete_step h key fuel (rbDelete_ok h key fuel)

end AlgoVerif.C01
