import AlgoVerif.Model.C04
/-!
# C04: the integer `maxDegree` of the Model is `⌊log_φ n⌋ + 1`

Core Lean has no real numbers, so "φ^k ≤ n" is stated through the closed form
`φ^k = (L_k + F_k·√5) / 2` (`L` Lucas, `F` Fibonacci numbers; Binet's formulas):

    φ^k ≤ n  ⇔  F_k·√5 ≤ 2n − L_k  ⇔  L_k ≤ 2n  ∧  5·F_k² ≤ (2n − L_k)²        (`PhiLe k n`)

(squaring is an equivalence because both sides are non-negative).  What is proved here, over the integers:
the parity test the Model uses (`phiPowLe`) is equivalent to `PhiLe`, `PhiLe` is antitone in `k`, and
`floorLogPhi n` is the largest `k` with `PhiLe k n`.  What stays outside Lean: Binet's closed form itself and
the relation between this exact value and Go's `float64` computation (cross-checked on every run).

For the index safety of `consolidate` in both Fibonacci heaps (the indexed one has the same `maxDegree`): the loop
reaches every `d` with `F_(d+2) ≤ n` (`le_logPhiLoop`), in particular every `d` with `2^d ≤ n`.
-/
namespace AlgoVerif.C04

def lucas : Nat → Nat
  | 0 => 2
  | 1 => 1
  | n + 2 => lucas (n + 1) + lucas n

def fibn : Nat → Nat
  | 0 => 0
  | 1 => 1
  | n + 2 => fibn (n + 1) + fibn n

/-- `φ^k ≤ n` written over the integers -/
def PhiLe (k n : Nat) : Prop :=
  (lucas k : Int) ≤ 2 * n ∧ 5 * ((fibn k : Int) * fibn k) ≤ (2 * (n : Int) - lucas k) * (2 * (n : Int) - lucas k)

/-- `(-1)^k` -/
def sgn (k : Nat) : Int := if k % 2 = 0 then 1 else -1

theorem sgn_succ (k : Nat) : sgn (k + 1) = - sgn k := by
  unfold sgn
  by_cases h : k % 2 = 0
  · rw [if_pos h, if_neg (by omega)]
  · rw [if_neg h, if_pos (by omega)]; omega

theorem lucas_add_two (k : Nat) : lucas (k + 2) = lucas (k + 1) + lucas k := by rw [lucas]
theorem fibn_add_two (k : Nat) : fibn (k + 2) = fibn (k + 1) + fibn k := by rw [fibn]

/-- `L_k² − 5·F_k² = 4·(−1)^k`, together with the mixed identity that makes the induction go through -/
theorem lucas_fib_identity (k : Nat) :
    (lucas k : Int) * lucas k - 5 * ((fibn k : Int) * fibn k) = 4 * sgn k ∧
    (lucas (k + 1) : Int) * lucas (k + 1) - 5 * ((fibn (k + 1) : Int) * fibn (k + 1)) = -4 * sgn k ∧
    (lucas k : Int) * lucas (k + 1) - 5 * ((fibn k : Int) * fibn (k + 1)) = 2 * sgn k := by
  induction k with
  | zero => simp [lucas, fibn, sgn]
  | succ k ih =>
    obtain ⟨hA, hA1, hB⟩ := ih
    have hl : (lucas (k + 1 + 1) : Int) = lucas (k + 1) + lucas k := by
      rw [lucas_add_two]; simp
    have hf : (fibn (k + 1 + 1) : Int) = fibn (k + 1) + fibn k := by
      rw [fibn_add_two]; simp
    rw [sgn_succ, hl, hf]
    generalize (lucas (k + 1) : Int) = l1 at *
    generalize (lucas k : Int) = l0 at *
    generalize (fibn (k + 1) : Int) = f1 at *
    generalize (fibn k : Int) = f0 at *
    generalize sgn k = s at *
    refine ⟨?_, ?_, ?_⟩ <;> grind

theorem lucas_ge (k : Nat) (hk : 1 ≤ k) : k ≤ lucas k ∧ 1 ≤ lucas (k - 1) := by
  induction k with
  | zero => omega
  | succ k ih =>
    cases k with
    | zero => simp [lucas]
    | succ j =>
      obtain ⟨h1, h2⟩ := ih (by omega)
      rw [lucas_add_two]
      simp only [Nat.add_sub_cancel] at h2 ⊢
      omega

theorem lucas_ge_three (k : Nat) (hk : 2 ≤ k) : 3 ≤ lucas k := by
  by_cases h : k = 2
  · subst h; simp [lucas]
  · have := (lucas_ge k (by omega)).1; omega

theorem lucas_lt_succ (k : Nat) (hk : 1 ≤ k) : lucas k < lucas (k + 1) := by
  obtain ⟨j, rfl⟩ : ∃ j, k = j + 1 := ⟨k - 1, by omega⟩
  rw [lucas_add_two]
  have := (lucas_ge (j + 1) (by omega)).2
  simp only [Nat.add_sub_cancel] at this
  omega

theorem phiPowLe_iff (k n : Nat) (hk : 1 ≤ k) : phiPowLe k (lucas k) n = true ↔ PhiLe k n := by
  have hid := (lucas_fib_identity k).1
  unfold PhiLe phiPowLe
  have hL0 : (0 : Int) ≤ lucas k := Int.natCast_nonneg _
  by_cases hpar : k % 2 = 0
  · -- even k ≥ 2: 5 F² = L² − 4 and L ≥ 3
    have hs : sgn k = 1 := by simp [sgn, hpar]
    have h3 : (3 : Int) ≤ lucas k := by have := lucas_ge_three k (by omega); omega
    rw [hs] at hid
    rw [if_pos hpar]
    simp only [decide_eq_true_eq]
    rw [show (lucas k ≤ n) ↔ ((lucas k : Int) ≤ (n : Int)) from by omega]
    generalize (lucas k : Int) = L at *
    generalize ((fibn k : Int) * fibn k) = FF at *
    constructor
    · intro hle
      have hle' : L ≤ (n : Int) := by omega
      refine ⟨by omega, ?_⟩
      have := Int.mul_self_le_mul_self (a := L) (b := 2 * (n : Int) - L) (by omega) (by omega)
      omega
    · rintro ⟨h1, h2⟩
      by_cases hc : L ≤ (n : Int)
      · omega
      · exfalso
        have hm := Int.mul_self_le_mul_self (a := 2 * (n : Int) - L) (b := L - 2) (by omega) (by omega)
        have : (L - 2) * (L - 2) = L * L - 4 * L + 4 := by grind
        omega
  · -- odd k: 5 F² = L² + 4
    have hs : sgn k = -1 := by simp [sgn, hpar]
    rw [hs] at hid
    rw [if_neg hpar]
    simp only [decide_eq_true_eq]
    rw [show (lucas k + 1 ≤ n) ↔ ((lucas k : Int) + 1 ≤ (n : Int)) from by omega]
    generalize (lucas k : Int) = L at *
    generalize ((fibn k : Int) * fibn k) = FF at *
    constructor
    · intro hle
      have hle' : L + 1 ≤ (n : Int) := by omega
      refine ⟨by omega, ?_⟩
      have := Int.mul_self_le_mul_self (a := L + 2) (b := 2 * (n : Int) - L) (by omega) (by omega)
      have : (L + 2) * (L + 2) = L * L + 4 * L + 4 := by grind
      omega
    · rintro ⟨h1, h2⟩
      by_cases hc : L + 1 ≤ (n : Int)
      · omega
      · exfalso
        have hm := Int.mul_self_le_mul_self (a := 2 * (n : Int) - L) (b := L) (by omega) (by omega)
        omega

theorem PhiLe_zero (n : Nat) (hn : 1 ≤ n) : PhiLe 0 n := by
  unfold PhiLe
  simp only [lucas, fibn]
  have h2 : (0 : Int) ≤ 2 * (n : Int) - (2 : Nat) := by omega
  exact ⟨by omega, Int.mul_nonneg h2 h2⟩

theorem PhiLe_of_succ (k n : Nat) (hn : 1 ≤ n) (h : PhiLe (k + 1) n) : PhiLe k n := by
  by_cases hk : k = 0
  · subst hk; exact PhiLe_zero n hn
  · rw [← phiPowLe_iff _ _ (by omega)] at h ⊢
    have hlt := lucas_lt_succ k (by omega)
    unfold phiPowLe at h ⊢
    by_cases hpar : k % 2 = 0
    · rw [if_pos hpar]; rw [if_neg (by omega)] at h
      simp only [decide_eq_true_eq] at h ⊢; omega
    · rw [if_neg hpar]; rw [if_pos (by omega)] at h
      simp only [decide_eq_true_eq] at h ⊢; omega

theorem lucas_sub_one (k : Nat) (hk : 1 ≤ k) : lucas k + lucas (k - 1) = lucas (k + 1) := by
  obtain ⟨j, rfl⟩ : ∃ j, k = j + 1 := ⟨k - 1, by omega⟩
  simp [lucas_add_two]

/-- The fuel suffices because `k ≤ L_k`: the test fails at `k = n + 1` at the latest. -/
theorem logPhiLoop_spec (n : Nat) :
    ∀ (fuel k : Nat), 1 ≤ k → n + 1 ≤ fuel + k → ∀ r, logPhiLoop n fuel k (lucas k) (lucas (k - 1)) = r →
      (∀ j, k ≤ j → j ≤ r → phiPowLe j (lucas j) n = true) ∧ phiPowLe (r + 1) (lucas (r + 1)) n = false := by
  intro fuel
  induction fuel with
  | zero =>
    rintro k hk hf _ rfl
    simp only [logPhiLoop]
    refine ⟨by intro j h1 h2; omega, ?_⟩
    have hk' : k - 1 + 1 = k := by omega
    rw [hk']
    have := (lucas_ge k hk).1
    unfold phiPowLe
    split <;> simp <;> omega
  | succ fuel ih =>
    rintro k hk hf _ rfl
    unfold logPhiLoop
    by_cases hp : phiPowLe k (lucas k) n = true
    · rw [if_pos hp, lucas_sub_one k hk]
      obtain ⟨h2, h3⟩ := ih (k + 1) (by omega) (by omega) _ rfl
      simp only [Nat.add_sub_cancel] at h2 h3
      refine ⟨fun j hj1 hj2 => ?_, h3⟩
      by_cases hjk : j = k
      · rw [hjk]; exact hp
      · exact h2 j (by omega) hj2
    · rw [if_neg hp]
      have hk' : k - 1 + 1 = k := by omega
      refine ⟨by intro j h1 h2; omega, ?_⟩
      rw [hk']; simpa using hp

theorem floorLogPhi_spec (n : Nat) (hn : 1 ≤ n) :
    (∀ k, k ≤ floorLogPhi n → PhiLe k n) ∧ (∀ k, floorLogPhi n < k → ¬ PhiLe k n) := by
  obtain ⟨h2, h3⟩ := logPhiLoop_spec n (n + 1) 1 (Nat.le_refl _) (by omega) (floorLogPhi n) rfl
  constructor
  · intro k hk
    by_cases hk0 : k = 0
    · subst hk0; exact PhiLe_zero n hn
    · exact (phiPowLe_iff k n (by omega)).mp (h2 k (by omega) hk)
  · intro k hk
    -- antitone: from k down to floorLogPhi n + 1
    have hnot : ¬ PhiLe (floorLogPhi n + 1) n := by
      intro hle
      have := (phiPowLe_iff _ n (by omega)).mpr hle
      rw [h3] at this; cases this
    obtain ⟨d, rfl⟩ : ∃ d, k = floorLogPhi n + 1 + d := ⟨k - (floorLogPhi n + 1), by omega⟩
    clear hk
    induction d with
    | zero => exact hnot
    | succ d ihd => exact fun hle => ihd (PhiLe_of_succ _ n hn hle)

theorem fibn_pos : ∀ n, 1 ≤ n → 1 ≤ fibn n
  | 0, h => by omega
  | 1, _ => by simp [fibn]
  | n + 2, _ => by
    have := fibn_pos (n + 1) (by omega)
    rw [fibn_add_two]; omega

theorem fibn_mono_succ : ∀ n, fibn n ≤ fibn (n + 1)
  | 0 => by simp [fibn]
  | n + 1 => by rw [fibn_add_two]; omega

theorem fibn_mono {a b : Nat} (h : a ≤ b) : fibn a ≤ fibn b := by
  induction h with
  | refl => exact Nat.le_refl _
  | step _ ih => exact Nat.le_trans ih (fibn_mono_succ _)

theorem lucas_add_fibn : ∀ j, lucas (j + 2) + fibn j = fibn (j + 4)
  | 0 => by simp [lucas, fibn]
  | 1 => by simp [lucas, fibn]
  | j + 2 => by
    have h1 : lucas (j + 2) + fibn j = fibn (j + 4) := lucas_add_fibn j
    have h2 : lucas (j + 3) + fibn (j + 1) = fibn (j + 5) := lucas_add_fibn (j + 1)
    have e1 : lucas (j + 4) = lucas (j + 3) + lucas (j + 2) := lucas_add_two (j + 2)
    have e2 : fibn (j + 2) = fibn (j + 1) + fibn j := fibn_add_two j
    have e3 : fibn (j + 6) = fibn (j + 5) + fibn (j + 4) := fibn_add_two (j + 4)
    show lucas (j + 4) + fibn (j + 2) = fibn (j + 6)
    omega

/-- `φ^j ≤ F_(j+2)`, as the test of the loop reads it -/
theorem phiPowLe_fibn (j n : Nat) (hj : 1 ≤ j) (h : fibn (j + 2) ≤ n) : phiPowLe j (lucas j) n = true := by
  unfold phiPowLe
  match j, hj with
  | 1, _ => simp [lucas, fibn] at h ⊢; exact decide_eq_true h
  | j + 2, _ =>
    have e : lucas (j + 2) + fibn j = fibn (j + 4) := lucas_add_fibn j
    have h' : fibn (j + 4) ≤ n := h
    split
    · simp; omega
    · have := fibn_pos j (by omega)
      simp; omega

theorem le_logPhiLoop (n d fuel : Nat) (hf : n ≤ fuel) (h : fibn (d + 2) ≤ n) : d ≤ logPhiLoop n fuel 1 1 2 := by
  have h3 := (logPhiLoop_spec n fuel 1 (Nat.le_refl _) (by omega) (logPhiLoop n fuel 1 1 2) rfl).2
  refine Nat.le_of_not_lt fun hlt => ?_
  have := phiPowLe_fibn (logPhiLoop n fuel 1 1 2 + 1) n (by omega) (Nat.le_trans (fibn_mono (by omega)) h)
  rw [h3] at this
  cases this

theorem fibn_le_pow : ∀ d, fibn (d + 2) ≤ 2 ^ d ∧ fibn (d + 3) ≤ 2 ^ (d + 1)
  | 0 => by simp [fibn]
  | d + 1 => by
    obtain ⟨h1, h2⟩ := fibn_le_pow d
    have e : fibn (d + 4) = fibn (d + 3) + fibn (d + 2) := fibn_add_two (d + 2)
    have p : 2 ^ (d + 1 + 1) = 2 * 2 ^ (d + 1) := by rw [Nat.pow_succ]; omega
    have q : 2 ^ (d + 1) = 2 * 2 ^ d := by rw [Nat.pow_succ]; omega
    exact ⟨h2, show fibn (d + 4) ≤ 2 ^ (d + 1 + 1) by omega⟩

theorem maxDegree_eq (n : Nat) (hn : 1 ≤ n) : maxDegree (n : Int) = .ok (floorLogPhi n + 1) := by
  rw [maxDegree, if_neg (Int.not_le.mpr (Int.natCast_pos.mpr hn)), Int.toNat_natCast]

theorem deg_lt_maxDegree (n d : Nat) (hd : 2 ^ d ≤ n) : d < floorLogPhi n + 1 :=
  Nat.lt_succ_of_le (le_logPhiLoop n d (n + 1) (Nat.le_succ n) (Nat.le_trans (fibn_le_pow d).1 hd))

end AlgoVerif.C04
