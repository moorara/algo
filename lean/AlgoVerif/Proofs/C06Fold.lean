import AlgoVerif.Proofs.C06Order
/-!
# C06 — the visit functions of the ordered queries, folded over a sorted entry list

`foldE g m s` runs a visit function `g` (new state, continue?) over the entries `m` and stops at the
first `false`, exactly like `_traverse` does over `term` nodes.  For every query of the tries the
result over a strictly sorted list is the Spec's list function.
-/
namespace AlgoVerif.C06
variable {V σ : Type}

def foldE (g : σ → Key → V → σ × Bool) : List (Key × V) → σ → σ × Bool
  | [], s => (s, true)
  | x :: xs, s =>
    let a := g s x.1 x.2
    if !a.2 then (a.1, false) else foldE g xs a.1

theorem foldE_append (g : σ → Key → V → σ × Bool) (xs ys : List (Key × V)) (s : σ) :
    foldE g (xs ++ ys) s =
      if !(foldE g xs s).2 then ((foldE g xs s).1, false) else foldE g ys (foldE g xs s).1 := by
  induction xs generalizing s with
  | nil => simp [foldE]
  | cons x xs ih =>
    simp only [List.cons_append, foldE]
    by_cases h : (g s x.1 x.2).2 = true
    · simp [h, ih]
    · simp [h]

theorem foldE_singleton (g : σ → Key → V → σ × Bool) (x : Key × V) (s : σ) : foldE g [x] s = g s x.1 x.2 := by
  simp only [foldE]
  cases h : (g s x.1 x.2).2 <;> simp [← h]

theorem foldE_min (m : List (Key × V)) :
    (foldE (fun (_ : Option (Key × V)) k v => (some (k, v), false)) m none).1 = m.head? := by
  cases m <;> simp [foldE]

theorem foldE_max (m : List (Key × V)) :
    (foldE (fun (_ : Option (Key × V)) k v => (some (k, v), false)) m.reverse none).1 = m.getLast? := by
  rw [foldE_min, List.head?_reverse]

theorem foldE_floor (key : Key) (m : List (Key × V)) (hs : Sorted m) (s : Option (Key × V)) :
    (foldE (fun (s : Option (Key × V)) k v => if klt key k then (s, false) else (some (k, v), true)) m s).1
      = ((m.filter (fun e => kle e.1 key)).getLast?).or s := by
  induction m generalizing s with
  | nil => simp [foldE]
  | cons e m ih =>
    simp only [foldE]
    by_cases h : klt key e.1 = true
    · have : (e :: m).filter (fun e => kle e.1 key) = [] :=
        filter_eq_nil_of_all_false _ _ fun x hx => by simp [kle, hs.forall_gt h x hx]
      simp [h, this]
    · have h' : klt key e.1 = false := by simpa using h
      have h0 : kle e.1 key = true := by simp [kle, h']
      simp only [h', Bool.false_eq_true, if_false, Bool.not_true]
      rw [ih hs.tail]
      simp only [List.filter_cons, h0, if_true]
      cases hf : m.filter (fun e => kle e.1 key) with
      | nil => simp
      | cons y ys =>
        simp [List.getLast?_cons]

/-- the fold runs over the reversed list, so the induction on `m` appends the head's visit to the fold over the tail: the
second conjunct says when that fold has not stopped, and is there for the induction only -/
theorem foldE_ceiling (key : Key) (m : List (Key × V)) (hs : Sorted m) (s : Option (Key × V)) :
    let r := foldE (fun (s : Option (Key × V)) k v => if klt k key then (s, false) else (some (k, v), true)) m.reverse s
    r.1 = (m.find? (fun e => kle key e.1)).or s ∧ ((∀ e ∈ m, kle key e.1 = true) → r.2 = true) := by
  induction m generalizing s with
  | nil => simp [foldE]
  | cons x m ih =>
    obtain ⟨ih1, ih2⟩ := ih hs.tail s
    simp only [List.reverse_cons, foldE_append]
    by_cases hx : kle key x.1 = true
    · have hall : ∀ e ∈ m, kle key e.1 = true := fun e he => kle_of_klt (hs.all_gt_of_head_gt hx e he)
      have hnot : klt x.1 key = false := by simpa [kle] using hx
      simp [ih2 hall, foldE, hnot, hx]
    · have hx' : kle key x.1 = false := by simpa using hx
      have hlt : klt x.1 key = true := by simpa [kle] using hx'
      simp only [List.find?_cons, hx']
      constructor
      · cases h2 : (foldE (fun (s : Option (Key × V)) k v => if klt k key then (s, false) else (some (k, v), true)) m.reverse s).2
        · simpa using ih1
        · simp [foldE, hlt]; simpa using ih1
      · intro hall
        have := hall x (List.mem_cons_self ..)
        simp [hx'] at this

theorem foldE_select (rank : Int) (m : List (Key × V)) (i : Int) (hi : i ≤ rank) :
    (foldE (fun (s : Int × Option (Key × V)) k v =>
        if s.1 == rank then ((s.1, some (k, v)), false) else ((s.1 + 1, s.2), true)) m (i, none)).1.2
      = m[(rank - i).toNat]? := by
  induction m generalizing i with
  | nil => simp [foldE]
  | cons e m ih =>
    simp only [foldE]
    by_cases h : i = rank
    · subst h; simp
    · have h' : (i == rank) = false := by simpa using h
      simp only [h', Bool.false_eq_true, if_false, Bool.not_true]
      rw [ih (i + 1) (by omega)]
      have : (rank - i).toNat = (rank - (i + 1)).toNat + 1 := by omega
      rw [this, List.getElem?_cons_succ]

theorem foldE_rank (key : Key) (m : List (Key × V)) (hs : Sorted m) (i : Int) :
    (foldE (fun (i : Int) k (_ : V) => if kle key k then (i, false) else (i + 1, true)) m i).1
      = i + (m.filter (fun e => klt e.1 key)).length := by
  induction m generalizing i with
  | nil => simp [foldE]
  | cons e m ih =>
    simp only [foldE]
    by_cases h : kle key e.1 = true
    · have : (e :: m).filter (fun e => klt e.1 key) = [] := by
        apply filter_eq_nil_of_all_false
        intro x hx
        rcases List.mem_cons.mp hx with rfl | hx
        · simpa [kle] using h
        · exact klt_asymm (hs.all_gt_of_head_gt h x hx)
      simp [h, this]
    · have h' : kle key e.1 = false := by simpa using h
      have h0 : klt e.1 key = true := by simpa [kle] using h'
      simp only [h', Bool.false_eq_true, if_false, Bool.not_true]
      rw [ih hs.tail]
      simp only [List.filter_cons, h0, if_true, List.length_cons]
      push_cast; omega

theorem range_filter_nil {hi lo : Key} {e : Key × V} {m : List (Key × V)} (hs : Sorted (e :: m))
    (h : klt hi e.1 = true) : (e :: m).filter (fun e => kle lo e.1 && kle e.1 hi) = [] :=
  filter_eq_nil_of_all_false _ _ fun x hx => by simp [kle, hs.forall_gt h x hx]

theorem foldE_range (lo hi : Key) (m : List (Key × V)) (hs : Sorted m) (kvs : List (Key × V)) :
    (foldE (fun (kvs : List (Key × V)) k v =>
        if kle lo k && kle k hi then (kvs ++ [(k, v)], true)
        else if klt hi k then (kvs, false) else (kvs, true)) m kvs).1
      = kvs ++ m.filter (fun e => kle lo e.1 && kle e.1 hi) := by
  induction m generalizing kvs with
  | nil => simp [foldE]
  | cons e m ih =>
    simp only [foldE]
    by_cases h : (kle lo e.1 && kle e.1 hi) = true
    · simp only [h, if_true, Bool.not_true, Bool.false_eq_true, if_false]
      rw [ih hs.tail]
      simp [h]
    · have h' : (kle lo e.1 && kle e.1 hi) = false := by simpa using h
      simp only [h', Bool.false_eq_true, if_false]
      by_cases h2 : klt hi e.1 = true
      · simp [h2, range_filter_nil hs h2]
      · have h2' : klt hi e.1 = false := by simpa using h2
        simp only [h2', Bool.false_eq_true, if_false, Bool.not_true]
        rw [ih hs.tail]
        simp [h']

theorem foldE_rangeSize (lo hi : Key) (m : List (Key × V)) (hs : Sorted m) (i : Int) :
    (foldE (fun (i : Int) k (_ : V) =>
        if kle lo k && kle k hi then (i + 1, true)
        else if klt hi k then (i, false) else (i, true)) m i).1
      = i + (m.filter (fun e => kle lo e.1 && kle e.1 hi)).length := by
  induction m generalizing i with
  | nil => simp [foldE]
  | cons e m ih =>
    simp only [foldE]
    by_cases h : (kle lo e.1 && kle e.1 hi) = true
    · simp only [h, if_true, Bool.not_true, Bool.false_eq_true, if_false]
      rw [ih hs.tail]
      simp only [List.filter_cons, h, if_true, List.length_cons]
      push_cast; omega
    · have h' : (kle lo e.1 && kle e.1 hi) = false := by simpa using h
      simp only [h', Bool.false_eq_true, if_false]
      by_cases h2 : klt hi e.1 = true
      · simp [h2, range_filter_nil hs h2]
      · have h2' : klt hi e.1 = false := by simpa using h2
        simp only [h2', Bool.false_eq_true, if_false, Bool.not_true]
        rw [ih hs.tail]
        simp [h']

theorem foldE_all (m : List (Key × V)) (kvs : List (Key × V)) :
    (foldE (fun (kvs : List (Key × V)) k v => (kvs ++ [(k, v)], true)) m kvs).1 = kvs ++ m := by
  induction m generalizing kvs with
  | nil => simp [foldE]
  | cons e m ih => simp [foldE, ih]

theorem foldE_filter (p : Key → Bool) (m : List (Key × V)) (kvs : List (Key × V)) :
    (foldE (fun (kvs : List (Key × V)) k v => if p k then (kvs ++ [(k, v)], true) else (kvs, true)) m kvs).1
      = kvs ++ m.filter (fun e => p e.1) := by
  induction m generalizing kvs with
  | nil => simp [foldE]
  | cons e m ih =>
    simp only [foldE]
    by_cases h : p e.1 = true
    · simp [h, ih]
    · have h' : p e.1 = false := by simpa using h
      simp [h', ih]

theorem foldE_allS (q : Key → V → Bool) (m : List (Key × V)) (s : σ) :
    foldE (fun (s : σ) k v => (s, q k v)) m s = (s, m.all fun e => q e.1 e.2) := by
  induction m with
  | nil => simp [foldE]
  | cons e m ih =>
    simp only [foldE, List.all_cons]
    cases h : q e.1 e.2 <;> simp [ih]

theorem foldE_find (p : Key → V → Bool) (m : List (Key × V)) :
    (foldE (fun (s : Option (Key × V)) k v => if p k v then (some (k, v), false) else (s, true)) m none).1
      = m.find? fun e => p e.1 e.2 := by
  induction m with
  | nil => simp [foldE]
  | cons e m ih =>
    simp only [foldE, List.find?_cons]
    cases h : p e.1 e.2 <;> simp [ih]

theorem foldE_congr (g g' : σ → Key → V → σ × Bool) (m : List (Key × V)) (s : σ)
    (h : ∀ e ∈ m, ∀ s, g s e.1 e.2 = g' s e.1 e.2) : foldE g m s = foldE g' m s := by
  induction m generalizing s with
  | nil => rfl
  | cons e m ih =>
    simp only [foldE, h e (List.mem_cons_self ..) s]
    rw [ih _ (fun x hx => h x (List.mem_cons_of_mem _ hx))]

end AlgoVerif.C06
