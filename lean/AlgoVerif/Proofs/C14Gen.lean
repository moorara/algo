import AlgoVerif.Generated.C14Gen
import AlgoVerif.Proofs.GoRt
import AlgoVerif.Model.C14S
/-!
# The GENERATED adjacency code of `graph/{graph,directed,undirected}.go` and the hand-written Model

`Generated/C14Gen.lean` holds the constructors, `AddEdge`, `V`, `E`,
`isVertexValid`, the degree accessors, `Directed.Reverse`, and the accessors of the result objects `Orders` and
`(Strongly)ConnectedComponents`.  The hand Model keeps a graph object as `GObj` (`Model/C14S.lean`): `n` and the edge
counter as `Nat`, adjacency as `Array (List Arc)` (an `Arc` also carries the edge, for the weighted types), the
in-degree table as `Array Nat`, and its `AddEdge` uses `Array.modify`, which cannot fail.  `ofD` / `ofU` read a `GObj` as
the generated `Directed` / `Undirected` structure (forgetting the edge stored in an `Arc`: the unweighted types have
none).  Every statement is an EQUALITY of outcomes, for every object whose slices have the lengths the constructor gave
them (`WFd`, `WFu`: the generated `AddEdge` indexes `ins` and `adj` and would panic otherwise; the lemmas show the
lengths are kept) and every argument — also invalid vertices.

The four graph types repeat the same Go text with another element type, and the translator emits every loop as a
function of its own.  So the facts are proved once, about a slice that is the `Array.map` image of a Model array
(`idx_map_nat`, `update_map`, `read_valid`), and the loops of the graph types are instances of the loop shapes of
`Proofs/GoRt.lean` (`Go.fill_loop_const`, `Go.list_loop`, `Go.for_loop`); the loops of the result objects
(`ReversePostOrder`, the two `Components()`) have inductions of their own.
-/
namespace AlgoVerif.C14.Gen
open AlgoVerif AlgoVerif.Outcome AlgoVerif.C14 AlgoVerif.Generated

def ints (a : Array Nat) : Array Int := a.map Int.ofNat
def nbrs (l : List Arc) : Array Int := (l.map fun x => (x.to : Int)).toArray
def adjOf (a : Array (List Arc)) : Array (Array Int) := a.map nbrs

def ofD (o : GObj) : Graph.Directed := ⟨(o.g.n : Int), (o.e : Int), ints o.ins, adjOf o.g.adj⟩
def ofU (o : GObj) : Graph.Undirected := ⟨(o.g.n : Int), (o.e : Int), adjOf o.g.adj⟩

def WFd (o : GObj) : Prop := o.kind = .directed ∧ o.g.adj.size = o.g.n ∧ o.ins.size = o.g.n
def WFu (o : GObj) : Prop := o.kind = .undirected ∧ o.g.adj.size = o.g.n

section
variable {α β γ : Type}

theorem idx_map_nat (c : α → β) (a : Array α) (k : Nat) (h : k < a.size) : Go.idx (a.map c) (k : Int) = .ok (c a[k]) := by
  rw [Go.idx_nat (by rwa [Array.size_map]), Array.getElem_map]

theorem setIdx_map_nat (c : α → β) (a : Array α) (k : Nat) (h : k < a.size) (x : α) :
    Go.setIdx (a.map c) (k : Int) (c x) = .ok ((a.set k x).map c) := by
  rw [Go.setIdx_nat (by rwa [Array.size_map]), Array.map_set]

theorem idx_map_any (c : α → β) (a : Array α) (v : Int) :
    Go.idx (a.map c) v = if 0 ≤ v then (a[v.toNat]?).elim .panic (fun x => .ok (c x)) else .panic := by
  by_cases h0 : 0 ≤ v
  · obtain ⟨k, rfl⟩ := Int.eq_ofNat_of_zero_le h0
    by_cases hk : k < a.size
    · simp [idx_map_nat _ _ _ hk, hk]
    · rw [Go.idx_of_invalid (by simp; omega)]; simp [Array.getElem?_eq_none (by omega : a.size ≤ k)]
  · rw [Go.idx_of_invalid (by omega)]; simp [h0]

theorem modify_eq_set (a : Array α) (k : Nat) (h : k < a.size) (f : α → α) : a.modify k f = a.set k (f a[k]) := by
  apply Array.ext (by simp)
  intro i h1 h2
  simp only [Array.getElem_modify, Array.getElem_set]
  split <;> simp_all

/-- `s[k] = upd(s[k])` where `upd` acts on the image as `f` does on the Model; `cont` is the rest of the function -/
theorem update_map (c : α → β) (a : Array α) (k : Nat) (h : k < a.size) (f : α → α) (upd : β → β)
    (hf : upd (c a[k]) = c (f a[k])) (cont : Array β → Outcome γ) :
    (Go.idx (a.map c) (k : Int) >>= fun t => Go.setIdx (a.map c) (k : Int) (upd t) >>= cont)
      = cont ((a.modify k f).map c) := by
  rw [idx_map_nat c a k h, Outcome.ok_bind, hf, setIdx_map_nat c a k h, Outcome.ok_bind, modify_eq_set a k h]

/-- `if !g.isVertexValid(v) { return d }; return k(s[v])` -/
theorem read_valid (c : α → β) (a : Array α) (g : C14.Graph) (v : Int) (k : β → γ) (r : α → γ)
    (hr : ∀ x, k (c x) = r x) (d : γ) :
    (if (!g.isVertexValid v) = true then pure d else (Go.idx (a.map c) v >>= fun t => pure (k t)))
      = if g.isVertexValid v = true then (a[v.toNat]?).elim .panic (fun x => .ok (r x)) else .ok d := by
  cases hv : g.isVertexValid v
  · rfl
  · have h0 : 0 ≤ v := by
      simp only [Graph.isVertexValid, Bool.and_eq_true, decide_eq_true_eq] at hv; exact hv.1
    simp only [Bool.not_true, Bool.false_eq_true, if_false, if_true, idx_map_any, h0]
    cases a[v.toNat]? <;> simp only [Outcome.ok_bind, Outcome.panic_bind, Outcome.pure_eq, hr, Option.elim]

end

@[simp] theorem ints_size (a : Array Nat) : (ints a).size = a.size := Array.size_map ..

theorem idx_ints (a : Array Nat) (k : Nat) (h : k < a.size) : Go.idx (ints a) (k : Int) = .ok ((a[k] : Nat) : Int) :=
  idx_map_nat Int.ofNat a k h

theorem setIdx_ints (a : Array Nat) (k : Nat) (h : k < a.size) (v : Nat) :
    Go.setIdx (ints a) (k : Int) (v : Int) = .ok (ints (a.set k v)) :=
  setIdx_map_nat Int.ofNat a k h v

theorem idx_ints_any (a : Array Nat) (v : Int) :
    Go.idx (ints a) v = if 0 ≤ v then (match a[v.toNat]? with | some d => .ok (d : Int) | none => .panic) else .panic :=
  (idx_map_any Int.ofNat a v).trans (by cases a[v.toNat]? <;> rfl)

/-- `ins[k]++` -/
theorem incr_ints {γ : Type} (a : Array Nat) (k : Nat) (h : k < a.size) (cont : Array Int → Outcome γ) :
    (Go.idx (ints a) (k : Int) >>= fun t => Go.setIdx (ints a) (k : Int) (t + 1) >>= cont)
      = cont (ints (a.modify k (· + 1))) :=
  update_map _ a k h (· + 1) (· + 1) rfl cont

section
variable {β : Type}

def adjW (f : Arc → β) (a : Array (List Arc)) : Array (Array β) := a.map fun l => (l.map f).toArray

@[simp] theorem adjW_size (f : Arc → β) (a : Array (List Arc)) : (adjW f a).size = a.size := Array.size_map ..

/-- `adj[k] = append(adj[k], y)` with `y` the image of the entry `x` -/
theorem append_adjW {γ : Type} (f : Arc → β) (a : Array (List Arc)) (k : Nat) (h : k < a.size) (x : Arc) (y : β)
    (hy : f x = y) (cont : Array (Array β) → Outcome γ) :
    (Go.idx (adjW f a) (k : Int) >>= fun t => Go.setIdx (adjW f a) (k : Int) (t.push y) >>= cont)
      = cont (adjW f (a.modify k (· ++ [x]))) :=
  update_map (fun l => (l.map f).toArray) a k h (· ++ [x]) (fun t => t.push y) (by simp [hy]) cont

/-- `OutDegree(v)` / `Degree(v)`, generated as `if !g.isVertexValid(v) { return -1 }; return len(g.adj[v])` -/
theorem degree_valid (f : Arc → β) (o : GObj) (v : Int) :
    (if (!o.g.isVertexValid v) = true then pure (-1) else (Go.idx (adjW f o.g.adj) v >>= fun t => pure (t.size : Int)))
      = o.outDegree v := by
  refine (read_valid (fun l => (l.map f).toArray) o.g.adj o.g v (fun t => (t.size : Int))
    (fun l => (l.length : Int)) (fun l => ?_) (-1)).trans ?_
  · simp
  · unfold GObj.outDegree; cases o.g.adj[v.toNat]? <;> rfl
end

/-- `for i := range a { a[i] = make([]T, 0) }` on a slice of empty slices -/
theorem fill_loop {β : Type} (loop : Nat → Int → Array (Array β) → Outcome (Array (Array β)))
    (h0 : ∀ i a, loop 0 i a = .ok a) (hs : ∀ k i a, loop (k+1) i a = (Go.setIdx a i #[] >>= loop k (i+1))) (n : Nat) :
    loop n 0 (Array.replicate n #[]) = .ok (Array.replicate n #[]) :=
  Go.fill_loop_const #[] #[] loop h0 hs n

theorem valid_nat {g : C14.Graph} {v : Int} (h : g.isVertexValid v = true) : ∃ k : Nat, v = (k : Int) ∧ k < g.n := by
  simp only [Graph.isVertexValid, Bool.and_eq_true, decide_eq_true_eq] at h
  exact ⟨v.toNat, by omega, by omega⟩

theorem addEdge_invalid (o : GObj) (u v wt : Int) (h : (o.g.isVertexValid u && o.g.isVertexValid v) = false) :
    o.addEdge u v wt = o := by
  simp only [GObj.addEdge, h, Bool.false_eq_true, if_false]

theorem addEdge_directed (o : GObj) (hd : o.kind.isDirected = true) (a b : Nat) (ha : a < o.g.n) (hb : b < o.g.n)
    (wt : Int) :
    o.addEdge a b wt = { o with e := o.e + 1, ins := o.ins.modify b (· + 1),
                                g := ⟨o.g.n, o.g.adj.modify a (· ++ [⟨b, ⟨a, b, wt⟩⟩])⟩ } := by
  have hv : (o.g.isVertexValid a && o.g.isVertexValid b) = true := by
    simp only [Graph.isVertexValid, Bool.and_eq_true, decide_eq_true_eq]; omega
  simp only [GObj.addEdge, Graph.addEdgeDirected, Graph.addArc, hv, hd, if_true, Int.toNat_natCast]

theorem addEdge_undirected (o : GObj) (hd : o.kind.isDirected = false) (a b : Nat) (ha : a < o.g.n) (hb : b < o.g.n)
    (wt : Int) :
    o.addEdge a b wt = { o with
      e := o.e + 1, g := ⟨o.g.n, (o.g.adj.modify a (· ++ [⟨b, ⟨a, b, wt⟩⟩])).modify b (· ++ [⟨a, ⟨a, b, wt⟩⟩])⟩ } := by
  have hv : (o.g.isVertexValid a && o.g.isVertexValid b) = true := by
    simp only [Graph.isVertexValid, Bool.and_eq_true, decide_eq_true_eq]; omega
  simp only [GObj.addEdge, Graph.addEdgeUndirected, Graph.addArc, hv, hd, if_true, Int.toNat_natCast,
    Bool.false_eq_true, if_false]

theorem addEdge_shape (o : GObj) (u v wt : Int) :
    (o.addEdge u v wt).kind = o.kind ∧ (o.addEdge u v wt).g.n = o.g.n ∧
      (o.addEdge u v wt).g.adj.size = o.g.adj.size ∧ (o.addEdge u v wt).ins.size = o.ins.size := by
  unfold GObj.addEdge Graph.addEdgeDirected Graph.addEdgeUndirected Graph.addArc
  split
  · split <;> simp only [*, Array.size_modify, and_self]
  · exact ⟨rfl, rfl, rfl, rfl⟩

theorem WFd_addEdge {o : GObj} (h : WFd o) (u v wt : Int) : WFd (o.addEdge u v wt) := by
  obtain ⟨h1, h2, h3, h4⟩ := addEdge_shape o u v wt
  exact ⟨h1 ▸ h.1, by have := h.2; omega⟩

theorem WFu_addEdge {o : GObj} (h : WFu o) (u v wt : Int) : WFu (o.addEdge u v wt) := by
  obtain ⟨h1, h2, h3, -⟩ := addEdge_shape o u v wt
  exact ⟨h1 ▸ h.1, by have := h.2; omega⟩

/-- the `edges ...[2]int` argument carrying the calls `es` -/
def edgesOf (es : List EdgeIn) : Array (Array Int) := (es.map fun e => #[e.u, e.v]).toArray

theorem edgesOf_size (es : List EdgeIn) : (edgesOf es).size = es.length := by simp [edgesOf]

theorem idx_edgesOf (es : List EdgeIn) (i : Nat) (h : i < es.length) :
    Go.idx (edgesOf es) (i : Int) = .ok #[es[i].u, es[i].v] := by
  rw [Go.idx_nat (by rwa [edgesOf_size])]; simp [edgesOf]

theorem idx_pair (x y : Int) : Go.idx #[x, y] 0 = .ok x ∧ Go.idx #[x, y] 1 = .ok y := ⟨rfl, rfl⟩

theorem D_isVertexValid (o : GObj) (v : Int) : Graph.Directed.isVertexValid (ofD o) v = o.g.isVertexValid v := by
  rfl

theorem D_V (o : GObj) : Graph.Directed.V (ofD o) = o.V := rfl
theorem D_E (o : GObj) : Graph.Directed.E (ofD o) = o.E := rfl

theorem D_AddEdge (o : GObj) (hw : WFd o) (u v wt : Int) :
    Graph.Directed.AddEdge (ofD o) u v = .ok (ofD (o.addEdge u v wt)) ∧ WFd (o.addEdge u v wt) := by
  refine ⟨?_, WFd_addEdge hw u v wt⟩
  obtain ⟨hk, ha, hi⟩ := hw
  cases hv : (o.g.isVertexValid u && o.g.isVertexValid v)
  · simp only [Graph.Directed.AddEdge, D_isVertexValid, hv, addEdge_invalid o u v wt hv]; rfl
  · obtain ⟨hu', hv'⟩ := Bool.and_eq_true_iff.1 hv
    obtain ⟨a, rfl, ha'⟩ := valid_nat hu'
    obtain ⟨b, rfl, hb'⟩ := valid_nat hv'
    rw [addEdge_directed o (by rw [hk]; rfl) a b ha' hb']
    simp only [Graph.Directed.AddEdge, D_isVertexValid, hv, if_true]
    rw [show (ofD o).ins = ints o.ins from rfl, incr_ints o.ins b (hi ▸ hb'),
      show (ofD o).adj = adjW (fun x => (x.to : Int)) o.g.adj from rfl,
      append_adjW _ o.g.adj a (ha ▸ ha') ⟨b, ⟨a, b, wt⟩⟩ _ rfl]
    rfl

theorem WFd_new (n : Nat) : WFd (GObj.new .directed n) :=
  ⟨rfl, Array.size_replicate .., Array.size_replicate ..⟩

theorem ofD_new (n : Nat) :
    ofD (GObj.new .directed n) = ⟨(n : Int), 0, Array.replicate n 0, Array.replicate n #[]⟩ := by
  simp [ofD, GObj.new, Graph.new, Kind.isDirected, ints, adjOf, nbrs]

/-- `for _, e := range edges { g.AddEdge(e[0], e[1]) }` -/
theorem D_new_loop2 (es : List EdgeIn) (o : GObj) (hw : WFd o) :
    Graph.NewDirected.loop2 (edgesOf es) es.length 0 (ofD o)
      = .ok (ofD (es.foldl (fun o e => o.addEdge e.u e.v e.w) o)) := by
  refine Go.list_loop ofD WFd _ es _ (fun _ e h => WFd_addEdge h e.u e.v e.w) (fun _ _ => rfl) (fun k i hi o ho => ?_) o hw
  simp only [Graph.NewDirected.loop2, idx_edgesOf es i hi, Outcome.ok_bind, idx_pair,
    (D_AddEdge o ho es[i].u es[i].v es[i].w).1]

theorem D_New (n : Nat) (es : List EdgeIn) :
    Graph.NewDirected (n : Int) (edgesOf es) = .ok (ofD (GObj.build .directed n es)) ∧
      WFd (GObj.build .directed n es) := by
  refine ⟨?_, List.foldlRecOn es _ (motive := WFd) (WFd_new n) fun _ h e _ => WFd_addEdge h e.u e.v e.w⟩
  have h1 : Graph.NewDirected.loop1 n 0 (Array.replicate n #[]) = .ok (Array.replicate n #[]) :=
    fill_loop _ (fun _ _ => rfl) (fun _ _ _ => rfl) n
  have h2 := D_new_loop2 es _ (WFd_new n)
  rw [ofD_new] at h2
  simp only [Graph.NewDirected, Go.make_nat, Outcome.ok_bind, Array.size_replicate, edgesOf_size, h1, h2]
  rfl

theorem D_New_neg (V : Int) (h : V < 0) (edges : Array (Array Int)) : Graph.NewDirected V edges = .panic := by
  simp [Graph.NewDirected, Go.make_neg _ h]

theorem D_InDegree (o : GObj) (v : Int) : Graph.Directed.InDegree (ofD o) v = o.inDegree v := by
  refine Eq.trans ?_ ((read_valid Int.ofNat o.ins o.g v (fun t => t) _ (fun _ => rfl) (-1)).trans ?_)
  · simp only [Outcome.pure_eq, Outcome.bind_ok]; rfl
  · unfold GObj.inDegree; cases o.ins[v.toNat]? <;> rfl

theorem D_OutDegree (o : GObj) (v : Int) : Graph.Directed.OutDegree (ofD o) v = o.outDegree v :=
  degree_valid _ o v

/-- `for _, w := range g.adj[v] { rev.AddEdge(w, v) }` -/
theorem D_rev_loop2 (fuel : Nat) (o : GObj) (v : Nat) (hv : v < o.g.adj.size) (r : GObj) (hr : WFd r) :
    Graph.Directed.Reverse.loop2 fuel (ofD o) (v : Int) o.g.adj[v].length 0 (ofD r)
      = .ok (ofD (o.g.adj[v].foldl (fun r x => r.addEdge x.to v x.e.w) r)) := by
  refine Go.list_loop ofD WFd _ o.g.adj[v] _ (fun _ x h => WFd_addEdge h _ _ _) (fun _ _ => rfl) (fun k i hi r hr => ?_) r hr
  have hi2 : i < (nbrs o.g.adj[v]).size := by simpa [nbrs] using hi
  have hx : (nbrs o.g.adj[v])[i] = ((o.g.adj[v][i]).to : Int) := by simp [nbrs]
  simp only [Graph.Directed.Reverse.loop2, show (ofD o).adj = o.g.adj.map nbrs from rfl, idx_map_nat _ _ _ hv, Outcome.ok_bind,
    Go.idx_nat hi2, hx, (D_AddEdge r hr _ _ (o.g.adj[v][i]).e.w).1]

/-- `Reverse()`, with fuel for the `V+1` tests of its `for` loop -/
theorem D_Reverse (fuel : Nat) (o : GObj) (hw : WFd o) (hf : o.g.n + 1 ≤ fuel) :
    Graph.Directed.Reverse fuel (ofD o) = .ok (ofD o.reverse) ∧ WFd o.reverse := by
  have hrev : o.reverse = GObj.build .directed o.g.n o.flipped := by rw [GObj.reverse, hw.1]
  refine ⟨?_, hrev ▸ (D_New o.g.n o.flipped).2⟩
  have hN : Graph.NewDirected (o.g.n : Int) #[] = .ok (ofD (GObj.new .directed o.g.n)) := (D_New o.g.n []).1
  -- `for v := 0; v < g.V(); v++ { … }`: one row of `adj` per round
  have h1 := Go.for_loop ofD WFd (fun r v => (o.g.adj.getD v []).foldl (fun r x => r.addEdge x.to v x.e.w) r) o.g.n
    (Graph.Directed.Reverse.loop1 fuel (ofD o)) (fun r v hr => List.foldlRecOn _ _ (motive := WFd) hr fun _ h _ _ => WFd_addEdge h _ _ _)
    (fun k s => by simp [Graph.Directed.Reverse.loop1, Graph.Directed.V, ofD])
    (fun k v r hv hr => by
      have hv' : v < o.g.adj.size := by rw [hw.2.1]; exact hv
      have hlt : ((v : Int) < (o.g.n : Int)) := Int.ofNat_lt.2 hv
      have := D_rev_loop2 fuel o v hv' r hr
      simp only [Graph.Directed.Reverse.loop1, Graph.Directed.V, show (ofD o).v = (o.g.n : Int) from rfl,
        show (ofD o).adj = o.g.adj.map nbrs from rfl, hlt, decide_true, Bool.not_true, Bool.false_eq_true, if_false,
        idx_map_nat _ _ _ hv', Outcome.ok_bind, show (nbrs o.g.adj[v]).size = o.g.adj[v].length by simp [nbrs], this]
      simp [Array.getD, hv'])
    fuel hf (GObj.new .directed o.g.n) (WFd_new _)
  simp only [Graph.Directed.Reverse, show Graph.Directed.V (ofD o) = (o.g.n : Int) from rfl, hN, Outcome.ok_bind, h1,
    hrev, GObj.build, GObj.flipped, hw.1, Kind.isWeighted, List.foldl_flatMap, List.foldl_map,
    Bool.false_eq_true, if_false]

theorem U_isVertexValid (o : GObj) (v : Int) : Graph.Undirected.isVertexValid (ofU o) v = o.g.isVertexValid v := by
  rfl

theorem U_V (o : GObj) : Graph.Undirected.V (ofU o) = o.V := rfl
theorem U_E (o : GObj) : Graph.Undirected.E (ofU o) = o.E := rfl

theorem U_AddEdge (o : GObj) (hw : WFu o) (u v wt : Int) :
    Graph.Undirected.AddEdge (ofU o) u v = .ok (ofU (o.addEdge u v wt)) ∧ WFu (o.addEdge u v wt) := by
  refine ⟨?_, WFu_addEdge hw u v wt⟩
  obtain ⟨hk, ha⟩ := hw
  cases hv : (o.g.isVertexValid u && o.g.isVertexValid v)
  · simp only [Graph.Undirected.AddEdge, U_isVertexValid, hv, addEdge_invalid o u v wt hv]; rfl
  · obtain ⟨hu', hv'⟩ := Bool.and_eq_true_iff.1 hv
    obtain ⟨a, rfl, ha'⟩ := valid_nat hu'
    obtain ⟨b, rfl, hb'⟩ := valid_nat hv'
    rw [addEdge_undirected o (by rw [hk]; rfl) a b ha' hb']
    simp only [Graph.Undirected.AddEdge, U_isVertexValid, hv, if_true]
    rw [show (ofU o).adj = adjW (fun x => (x.to : Int)) o.g.adj from rfl,
      append_adjW _ o.g.adj a (ha ▸ ha') ⟨b, ⟨a, b, wt⟩⟩ _ rfl,
      append_adjW _ _ b (by rw [Array.size_modify]; omega) ⟨a, ⟨a, b, wt⟩⟩ _ rfl]
    rfl

theorem WFu_new (n : Nat) : WFu (GObj.new .undirected n) :=
  ⟨rfl, Array.size_replicate ..⟩

theorem ofU_new (n : Nat) :
    ofU (GObj.new .undirected n) = ⟨(n : Int), 0, Array.replicate n #[]⟩ := by
  simp [ofU, GObj.new, Graph.new, adjOf, nbrs]

theorem U_new_loop2 (es : List EdgeIn) (o : GObj) (hw : WFu o) :
    Graph.NewUndirected.loop2 (edgesOf es) es.length 0 (ofU o)
      = .ok (ofU (es.foldl (fun o e => o.addEdge e.u e.v e.w) o)) := by
  refine Go.list_loop ofU WFu _ es _ (fun _ e h => WFu_addEdge h e.u e.v e.w) (fun _ _ => rfl) (fun k i hi o ho => ?_) o hw
  simp only [Graph.NewUndirected.loop2, idx_edgesOf es i hi, Outcome.ok_bind, idx_pair,
    (U_AddEdge o ho es[i].u es[i].v es[i].w).1]

theorem U_New (n : Nat) (es : List EdgeIn) :
    Graph.NewUndirected (n : Int) (edgesOf es) = .ok (ofU (GObj.build .undirected n es)) ∧
      WFu (GObj.build .undirected n es) := by
  refine ⟨?_, List.foldlRecOn es _ (motive := WFu) (WFu_new n) fun _ h e _ => WFu_addEdge h e.u e.v e.w⟩
  have h1 : Graph.NewUndirected.loop1 n 0 (Array.replicate n #[]) = .ok (Array.replicate n #[]) :=
    fill_loop _ (fun _ _ => rfl) (fun _ _ _ => rfl) n
  have h2 := U_new_loop2 es _ (WFu_new n)
  rw [ofU_new] at h2
  simp only [Graph.NewUndirected, Go.make_nat, Outcome.ok_bind, Array.size_replicate, edgesOf_size, h1, h2]
  rfl

theorem U_New_neg (V : Int) (h : V < 0) (edges : Array (Array Int)) : Graph.NewUndirected V edges = .panic := by
  simp [Graph.NewUndirected, Go.make_neg _ h]

theorem U_Degree (o : GObj) (v : Int) : Graph.Undirected.Degree (ofU o) v = o.outDegree v :=
  degree_valid _ o v

def ofO (o : C14.Orders) : Graph.Orders := ⟨ints o.preRank, ints o.postRank, ints o.preOrder, ints o.postOrder⟩

theorem O_PreRank (o : C14.Orders) (v : Int) : Graph.Orders.PreRank (ofO o) v =
    if 0 ≤ v then (match o.preRank[v.toNat]? with | some d => .ok (d : Int) | none => .panic) else .panic := by
  simp only [Graph.Orders.PreRank, ofO, idx_ints_any]

theorem O_PostRank (o : C14.Orders) (v : Int) : Graph.Orders.PostRank (ofO o) v =
    if 0 ≤ v then (match o.postRank[v.toNat]? with | some d => .ok (d : Int) | none => .panic) else .panic := by
  simp only [Graph.Orders.PostRank, ofO, idx_ints_any]

theorem set_zeros_append (m : Nat) (x : Int) (s : List Int)
    (h : m < (Array.replicate (m + 1) (0 : Int) ++ s.toArray).size) :
    (Array.replicate (m + 1) (0 : Int) ++ s.toArray).set m x h = Array.replicate m 0 ++ (x :: s).toArray := by
  apply Array.ext'
  simp [List.replicate_succ']

/-- `for i, v := range o.postOrder { revOrder[l-1-i] = v }`: with `k` rounds to go `revOrder` is `k` zeros followed by
the entries read so far, last one first -/
theorem O_rpo_loop (o : Graph.Orders) : ∀ (k i : Nat), i + k = o.postOrder.size →
    Graph.Orders.ReversePostOrder.loop1 o (o.postOrder.size : Int) k (i : Int)
        (Array.replicate k 0 ++ (o.postOrder.toList.take i).reverse.toArray)
      = .ok o.postOrder.toList.reverse.toArray
  | 0, i, h => by
    rw [List.take_of_length_le (by rw [Array.length_toList]; omega)]
    simp [Graph.Orders.ReversePostOrder.loop1]
  | k+1, i, h => by
    have hi : i < o.postOrder.size := by omega
    have hx : (o.postOrder.size : Int) - 1 - (i : Int) = (k : Int) := by omega
    have := O_rpo_loop o k (i + 1) (by omega)
    rw [List.take_succ_eq_append_getElem (by simpa using hi), List.reverse_append, Array.getElem_toList] at this
    rw [Graph.Orders.ReversePostOrder.loop1, Go.idx_nat hi, Outcome.ok_bind, hx,
      Go.setIdx_nat (by rw [Array.size_append, Array.size_replicate]; omega), Outcome.ok_bind, set_zeros_append]
    exact this

theorem O_ReversePostOrder (o : C14.Orders) :
    Graph.Orders.ReversePostOrder (ofO o) = .ok (o.reversePostOrder.map Int.ofNat).toArray := by
  have h := O_rpo_loop (ofO o) (ofO o).postOrder.size 0 (Nat.zero_add _)
  simp only [List.take_zero, List.reverse_nil, Array.append_empty, Int.natCast_zero] at h
  simp only [Graph.Orders.ReversePostOrder, Go.make_nat, Outcome.ok_bind, h]
  simp [ofO, ints, Orders.reversePostOrder, List.map_reverse]

/-- the result of `Components()` of the hand Model as `[][]int` -/
def compsOf (a : Array (List Nat)) : Array (Array Int) := a.map fun l => (l.map Int.ofNat).toArray

def ofCC (c : Components) : Graph.ConnectedComponents := ⟨(c.count : Int), ints c.id⟩

/-- `for v, id := range c.id { comps[id] = append(comps[id], v) }` -/
theorem CC_loop2 (c : Components) : ∀ (k v : Nat) (comps : Array (List Nat)), v + k = c.id.size →
    Graph.ConnectedComponents.Components.loop2 (ofCC c) k (v : Int) (compsOf comps)
      = (Components.components.go ((List.range' v k).zip (c.id.toList.drop v)) comps).map compsOf
  | 0, v, comps, _ => by simp [Graph.ConnectedComponents.Components.loop2, Components.components.go]
  | k+1, v, comps, h => by
    have hv : v < c.id.size := by omega
    have hd : c.id.toList.drop v = c.id[v] :: c.id.toList.drop (v + 1) := by
      rw [List.drop_eq_getElem_cons (by simpa using hv)]; simp
    simp only [Graph.ConnectedComponents.Components.loop2, show (ofCC c).id = ints c.id from rfl, idx_ints _ _ hv,
      Outcome.ok_bind, List.range'_succ, hd, List.zip_cons_cons, Components.components.go]
    by_cases hid : c.id[v] < comps.size
    · rw [if_pos hid, ← CC_loop2 c k (v + 1) _ (by omega)]
      exact update_map (fun l => (l.map Int.ofNat).toArray) comps _ hid (· ++ [v]) (fun t => t.push (v : Int)) (by simp)
        (Graph.ConnectedComponents.Components.loop2 (ofCC c) k ((v : Int) + 1))
    · rw [if_neg hid, compsOf, Go.idx_of_invalid (by rw [Array.size_map]; omega)]
      rfl

theorem CC_Components (c : Components) :
    Graph.ConnectedComponents.Components (ofCC c) = c.components.map compsOf := by
  have e : (ofCC c).count = (c.count : Int) := rfl
  have e2 : (ofCC c).id = ints c.id := rfl
  have h1 : Graph.ConnectedComponents.Components.loop1 c.count 0 (Array.replicate c.count #[]) = .ok _ :=
    fill_loop _ (fun _ _ => rfl) (fun _ _ _ => rfl) c.count
  have h2 := CC_loop2 c c.id.size 0 (Array.replicate c.count []) (by omega)
  have hc : compsOf (Array.replicate c.count []) = Array.replicate c.count #[] := by simp [compsOf]
  simp only [Int.natCast_zero, hc, List.drop_zero] at h2
  simp only [Graph.ConnectedComponents.Components, e, e2, Go.make_nat, Outcome.ok_bind, Array.size_replicate, h1, ints_size, h2,
    Components.components, List.range_eq_range']

theorem CC_ID (c : Components) (v : Int) : Graph.ConnectedComponents.ID (ofCC c) v =
    if 0 ≤ v then (match c.id[v.toNat]? with | some d => .ok (d : Int) | none => .panic) else .panic := by
  simp only [Graph.ConnectedComponents.ID, ofCC, idx_ints_any]

theorem CC_IsConnected (c : Components) (v w : Nat) (hv : v < c.id.size) (hw : w < c.id.size) :
    Graph.ConnectedComponents.IsConnected (ofCC c) v w = .ok (c.id[v] == c.id[w]) := by
  simp only [Graph.ConnectedComponents.IsConnected, ofCC, idx_ints _ _ hv, idx_ints _ _ hw, Outcome.ok_bind, Outcome.pure_eq]
  congr 1; rw [Bool.eq_iff_iff]; simp only [beq_iff_eq]; omega

def ofSCC (c : Components) : Graph.StronglyConnectedComponents := ⟨(c.count : Int), ints c.id⟩

/-- the two `Components()` are the same Go text -/
theorem SCC_loop2_eq (c : Components) : ∀ (k : Nat) (v : Int) (comps : Array (Array Int)),
    Graph.StronglyConnectedComponents.Components.loop2 (ofSCC c) k v comps
      = Graph.ConnectedComponents.Components.loop2 (ofCC c) k v comps
  | 0, _, _ => rfl
  | k+1, v, comps => by
    simp only [Graph.StronglyConnectedComponents.Components.loop2, Graph.ConnectedComponents.Components.loop2,
      SCC_loop2_eq c k]
    rfl

theorem SCC_Components (c : Components) :
    Graph.StronglyConnectedComponents.Components (ofSCC c) = c.components.map compsOf := by
  have h1 : Graph.StronglyConnectedComponents.Components.loop1 c.count 0 (Array.replicate c.count #[]) = .ok _ :=
    fill_loop _ (fun _ _ => rfl) (fun _ _ _ => rfl) c.count
  have h1' : Graph.ConnectedComponents.Components.loop1 c.count 0 (Array.replicate c.count #[]) = .ok _ :=
    fill_loop _ (fun _ _ => rfl) (fun _ _ _ => rfl) c.count
  rw [← CC_Components]
  simp only [Graph.StronglyConnectedComponents.Components, Graph.ConnectedComponents.Components,
    show (ofSCC c).count = (c.count : Int) from rfl, show (ofCC c).count = (c.count : Int) from rfl, Go.make_nat,
    Outcome.ok_bind, Array.size_replicate, h1, h1', SCC_loop2_eq]
  rfl

theorem SCC_ID (c : Components) (v : Int) : Graph.StronglyConnectedComponents.ID (ofSCC c) v =
    if 0 ≤ v then (match c.id[v.toNat]? with | some d => .ok (d : Int) | none => .panic) else .panic := by
  simp only [Graph.StronglyConnectedComponents.ID, ofSCC, idx_ints_any]

theorem SCC_IsStronglyConnected (c : Components) (v w : Nat) (hv : v < c.id.size) (hw : w < c.id.size) :
    Graph.StronglyConnectedComponents.IsStronglyConnected (ofSCC c) v w = .ok (c.id[v] == c.id[w]) := by
  simp only [Graph.StronglyConnectedComponents.IsStronglyConnected, ofSCC, idx_ints _ _ hv, idx_ints _ _ hw, Outcome.ok_bind, Outcome.pure_eq]
  congr 1; rw [Bool.eq_iff_iff]; simp only [beq_iff_eq]; omega


end AlgoVerif.C14.Gen
