import AlgoVerif.Proofs.C13Union
/-! C13: `Star` accepts exactly the Kleene closure of the operand language. -/
namespace AlgoVerif.C13
open AlgoVerif AlgoVerif.C13.Spec

/-- the finals loop of `Star`: `ff := sm.GetOrCreateState(0, f); star.Add(ff, E, {ss}); star.Add(ff, E, {final})` -/
def finalsFold2 (id : Nat) (ss : Int) (fin : List Int) (m : SM) (u : NFA) : SM × NFA :=
  fin.foldl (fun (acc : SM × NFA) f =>
    ((acc.1.get id f).1, ((acc.2.add (acc.1.get id f).2 E [ss]).add (acc.1.get id f).2 E [1]))) (m, u)

theorem finalsFold2_thread {lo : Int} (id : Nat) (ss : Int) (fin : List Int) (r : SM × NFA) (hm : r.1.Inv lo) :
    NThread lo r (finalsFold2 id ss fin r.1 r.2)
      (fun M b => ∃ f ∈ fin, M.find id f = some b.1 ∧ b.2.1 = E ∧ (b.2.2 = ss ∨ b.2.2 = 1))
      (fun M => ∀ f ∈ fin, ∃ x, M.find id f = some x) := by
  unfold finalsFold2
  apply Thread.foldl
  · intro acc f _ h
    obtain ⟨g1, g2, -⟩ := SM.get_spec acc.1 lo h id f
    exact ⟨g1, g2, rfl, fun M hM => ⟨_, (SM.find_get_iff h hM _).2 rfl⟩, fun M hM b => by
      rw [NFA.Δ_add, NFA.Δ_add, SM.find_get_iff h hM, List.mem_singleton, List.mem_singleton, or_assoc,
        ← and_or_left, ← and_or_left]⟩
  · exact hm

theorem NFA.star_struct (n : NFA) (hwf : n.WF) :
    ∃ (m : SM) (gs : Int), m.Inv 1 ∧ Copied m 0 n ∧ m.find 0 n.start = some gs ∧
      n.star.start = 0 ∧ n.star.final = [1] ∧
      ∀ x a y, n.star.Δ x a y ↔
        m.img 0 n.Δ x a y ∨
        (x = 0 ∧ a = E ∧ (y = gs ∨ y = 1)) ∨
        (∃ f ∈ n.final, m.find 0 f = some x ∧ a = E ∧ (y = gs ∨ y = 1)) := by
  have h1 := copyTrans_thread 0 n (SM.new 1) (NFA.new 0 [1]) (SM.Inv_new 1)
  have h2 := getAdd_thread _ h1.inv 0 n.start 0 E
  have h3 := add_thread _ h2.inv 0 E [1]
  have h4 := finalsFold2_thread 0 ((copyTrans 0 n (SM.new 1) (NFA.new 0 [1])).1.get 0 n.start).2 n.final _ h3.inv
  rw [tblΔ_eq hwf] at h1
  have h := h1.trans (h2.trans (h3.trans h4))
  have hgs : ∀ y, (finalsFold2 _ _ _ _ _).1.find 0 n.start = some y ↔ y = _ := SM.find_get_iff h1.inv (h3.le.trans h4.le)
  obtain ⟨b1, b2, -, b4⟩ := h.bound _ (SM.Le.refl _)
  refine ⟨_, _, h.inv, ⟨b1, b2, b4⟩, (hgs _).2 rfl, h.start, h.final,
    fun x a y => (h.grow _ (SM.Le.refl _) (x, a, y)).trans ?_⟩
  have h0 : ∀ x a y, ¬ (NFA.new 0 [1]).Δ x a y := fun x a y => (NFA.empty_Δ _ _ x a y).1
  simp only [hgs, h0, false_or, List.mem_singleton, and_or_left, or_assoc]

section lang
variable (δ : Int → Int → Int → Prop) (m : SM) (n : NFA) (gs : Int)
variable (hm : m.Inv 1) (hb : Copied m 0 n) (hgs : m.find 0 n.start = some gs)
variable (hδ : ∀ x a y, δ x a y ↔
        m.img 0 n.Δ x a y ∨
        (x = 0 ∧ a = E ∧ (y = gs ∨ y = 1)) ∨
        (∃ f ∈ n.final, m.find 0 f = some x ∧ a = E ∧ (y = gs ∨ y = 1)))

include hb hδ in
theorem star_embed {s t : Int} {w : Word} (h : Steps n.Δ s w t) {x : Int} (hx : m.find 0 s = some x) :
    ∃ y, m.find 0 t = some y ∧ Steps δ x w y :=
  h.sim (fun s x => m.find 0 s = some x) (fun s a t x hd hx => by
    obtain ⟨_, y, hy⟩ := hb.edge s a t hd
    exact ⟨y, hy, (hδ _ _ _).2 (Or.inl ⟨s, t, hd, hx, hy⟩)⟩) x hx

include hm hδ

/-- copies are numbered from 2, so the kinds of edges are told apart by their source -/
theorem star_edge_from_copy {s x a y : Int} (hx : m.find 0 s = some x) (hd : δ x a y) :
    (∃ t, n.Δ s a t ∧ m.find 0 t = some y) ∨ (a = E ∧ (y = gs ∨ y = 1) ∧ s ∈ n.final) := by
  rcases (hδ _ _ _).1 hd with ⟨s', t, h1, h2, h3⟩ | ⟨h2, _, _⟩ | ⟨f, h3, h4, h1, h2⟩
  · obtain ⟨_, rfl⟩ := SM.inj hm h2 hx
    exact Or.inl ⟨t, h1, h3⟩
  · have := (SM.find_range hm hx).1; omega
  · obtain ⟨_, rfl⟩ := SM.inj hm h4 hx
    exact Or.inr ⟨h1, h2, h3⟩

theorem star_edge_from_zero {a y : Int} (hd : δ 0 a y) : a = E ∧ (y = gs ∨ y = 1) := by
  rcases (hδ _ _ _).1 hd with ⟨s, t, _, h2, _⟩ | ⟨_, h1, h3⟩ | ⟨f, _, h4, _, _⟩
  · have := (SM.find_range hm h2).1; omega
  · exact ⟨h1, h3⟩
  · have := (SM.find_range hm h4).1; omega

theorem star_from_one {w : Word} {y : Int} (h : Steps δ 1 w y) : w = [] ∧ y = 1 := by
  refine Steps.stuck (fun a y hd => ?_) h
  rcases (hδ _ _ _).1 hd with ⟨s, t, _, h2, _⟩ | ⟨h2, _, _⟩ | ⟨f, _, h4, _, _⟩
  · have := (SM.find_range hm h2).1; omega
  · omega
  · have := (SM.find_range hm h4).1; omega

include hgs

theorem star_from_copy {x y : Int} {w : Word} (h : Steps δ x w y) (hy : y = 1) (hE : E ∉ w) :
    ∀ s, m.find 0 s = some x → ∃ u v, w = u ++ v ∧ (∃ f ∈ n.final, Steps n.Δ s u f) ∧ Lang.star n.lang v := by
  induction h with
  | nil =>
    intro s hs
    have := (SM.find_range hm hs).1; omega
  | eps hd hrest ih =>
    intro s hs
    rcases star_edge_from_copy δ m n gs hm hδ hs hd with ⟨t, h1, ht⟩ | ⟨_, rfl | rfl, hf⟩
    · obtain ⟨u, v, e, ⟨f, hf, hp⟩, hst⟩ := ih hy hE t ht
      exact ⟨u, v, e, ⟨f, hf, Steps.eps h1 hp⟩, hst⟩
    · obtain ⟨u, v, e, ⟨f', hf', hp⟩, hst⟩ := ih hy hE n.start hgs
      exact ⟨[], _, rfl, ⟨s, hf, Steps.nil _⟩, e ▸ Lang.star.app ⟨f', hf', hp.to_path⟩ hst⟩
    · obtain ⟨rfl, _⟩ := star_from_one δ m n gs hm hδ hrest
      exact ⟨[], [], rfl, ⟨s, hf, Steps.nil _⟩, Lang.star.nil⟩
  | @sym _ _ _ a _ hd _ ih =>
    intro s hs
    simp only [List.mem_cons, not_or] at hE
    rcases star_edge_from_copy δ m n gs hm hδ hs hd with ⟨t, h1, ht⟩ | ⟨ha, _⟩
    · obtain ⟨u, v, e, ⟨f, hf, hp⟩, hst⟩ := ih hy hE.2 t ht
      exact ⟨a :: u, v, by rw [e]; rfl, ⟨f, hf, Steps.sym h1 hp⟩, hst⟩
    · exact absurd ha.symm hE.1

include hb

theorem star_lang_abstract (w : Word) (hE : E ∉ w) :
    nfaLang δ 0 (fun f => f ∈ [(1 : Int)]) w ↔ Lang.star n.lang w := by
  have h0gs : δ 0 Spec.eps gs := (hδ _ _ _).2 (Or.inr (Or.inl ⟨rfl, E_eq.symm, Or.inl rfl⟩))
  have h01 : δ 0 Spec.eps 1 := (hδ _ _ _).2 (Or.inr (Or.inl ⟨rfl, E_eq.symm, Or.inr rfl⟩))
  constructor
  · rintro ⟨f, hf, hp⟩
    obtain rfl : f = 1 := by simpa using hf
    cases Steps.of_path hp with
    | eps hd hrest =>
      rcases (star_edge_from_zero δ m n gs hm hδ hd).2 with rfl | rfl
      · obtain ⟨u, v, e, ⟨f, hf, hp'⟩, hst⟩ := star_from_copy δ m n _ hm hgs hδ hrest rfl hE n.start hgs
        exact e ▸ Lang.star.app ⟨f, hf, hp'.to_path⟩ hst
      · obtain ⟨rfl, _⟩ := star_from_one δ m n gs hm hδ hrest
        exact Lang.star.nil
    | sym hd _ =>
      simp only [List.mem_cons, not_or] at hE
      exact absurd (star_edge_from_zero δ m n gs hm hδ hd).1.symm hE.1
  · intro hst
    have key : Steps δ gs w 1 ∨ w = [] := by
      induction hst with
      | nil => right; rfl
      | @app u v hu _ ih =>
        obtain ⟨f, hf, hp⟩ := hu
        obtain ⟨y, hy, hs⟩ := star_embed δ m n gs hb hδ (Steps.of_path hp) hgs
        left
        have hE' : E ∉ v := fun h => hE (by simp [h])
        rcases ih hE' with h | rfl
        · have hyg : δ y Spec.eps gs := (hδ _ _ _).2 (Or.inr (Or.inr ⟨f, hf, hy, E_eq.symm, Or.inl rfl⟩))
          exact Steps.append hs (Steps.eps hyg h)
        · have hy1 : δ y Spec.eps 1 := (hδ _ _ _).2 (Or.inr (Or.inr ⟨f, hf, hy, E_eq.symm, Or.inr rfl⟩))
          simpa using Steps.append hs (Steps.eps hy1 (Steps.nil _))
    refine ⟨1, by simp, ?_⟩
    rcases key with h | rfl
    · exact Steps.to_path (Steps.eps h0gs h)
    · exact Steps.to_path (Steps.eps h01 (Steps.nil _))

end lang

theorem NFA.star_lang (n : NFA) (hwf : n.WF) (w : Word) (hE : E ∉ w) :
    n.star.lang w ↔ Lang.star n.lang w := by
  obtain ⟨m, gs, hm, hb, hgs, hst, hfin, hδ⟩ := n.star_struct hwf
  simp only [NFA.lang, hst, hfin]
  exact star_lang_abstract _ m n gs hm hb hgs hδ w hE

end AlgoVerif.C13
