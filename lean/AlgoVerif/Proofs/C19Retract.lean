import AlgoVerif.Proofs.C19Next
/-!
# C19 — `Retract`

`Retract_spec`: under the invariant and `LexOK`, `Retract` leaves the state
`Input.retracted`: `forward` moved back by the size on top of `runeSizes`, `err` cleared, `ahead` set exactly when `forward` is
now in the older half — so the half it left is not loaded a second time — and the column bookkeeping of `Next` undone
(`untrackStep`).
-/
namespace AlgoVerif.C19
open AlgoVerif AlgoVerif.Generated

theorem retract_forward (n s B p size : Nat) (hn : 0 < n) (hs : s = 0 ∨ s = n) (hszn : size ≤ n) (hsp : size ≤ p)
    (hlo : B ≤ (p - size) + n) (hhi : p ≤ B + n) :
    (if (idx n s B p : Int) - (size : Int) < 0 then (idx n s B p : Int) - (size : Int) + ((2 * n : Nat) : Int)
      else (idx n s B p : Int) - (size : Int)) = ((idx n s B (p - size) : Nat) : Int) := by
  have hp : p - size + size = p := by omega
  have := idx_sub n s B (p - size) size hn hs hlo hszn (by omega)
  rw [hp] at this
  rw [this]
  split <;> split <;> omega

/-- `ahead` after `Retract` from `p` back to `q`: set when `forward` leaves a loaded half (the half of `p` is
not loaded only at `p = B + n`, where `forward` stands at the start of the older half with `err` set) for the
other one, that is when `q < B ≤ p`; otherwise left as it was. -/
theorem retract_ahead (n s B cnt p q : Nat) (hn : 0 < n) (hs : s = 0 ∨ s = n) (hcnt : 0 < cnt) (hcl : cnt ≤ n)
    (hphi : p ≤ B + cnt) (hqp : q < p) (hpq : p ≤ q + n) (hlo : B ≤ q + n) :
    (if (decide (p < B + cnt) || idx n s B p % n != 0) && idx n s B q / n != idx n s B p / n then true
      else decide (p < B)) = decide (q < B) := by
  have hp := idx_cases n s B p hn hs (by omega)
  have hq := idx_cases n s B q hn hs hlo
  clear hs
  split
  next c =>
    simp only [Bool.and_eq_true, Bool.or_eq_true, decide_eq_true_eq, bne_iff_ne, ne_eq] at c
    exact (decide_eq_true (by omega)).symm
  next c =>
    simp only [Bool.and_eq_true, Bool.or_eq_true, decide_eq_true_eq, bne_iff_ne, ne_eq] at c
    rw [decide_eq_decide]; omega

/-- what `Retract` does to (`nextColumn`, `lastColumns`) when the byte it lands on is a newline (`nl`) or not -/
def untrackStep (nl : Bool) (a : Int × List Int) : Int × List Int :=
  if nl then (match a.2 with | x :: lc => (x, lc) | [] => a) else (a.1 - 1, a.2)

/-- the state `Retract` leaves when it puts `forward` on buffer index `fw`, where the byte `c` stands -/
def Input.retracted (i : Input) (rs : List Nat) (fw : Nat) (ahead : Bool) (c : UInt8) : Input :=
  { i with runeSizes := rs, forward := fw, ahead := ahead, err := none,
           nextColumn := (untrackStep (c = 10) (i.nextColumn, i.lastColumns)).1,
           lastColumns := (untrackStep (c = 10) (i.nextColumn, i.lastColumns)).2 }

theorem Retract_spec {S : List UInt8} {n : Nat} {i : Input} {p B cnt s : Nat} (hinv : Inv S n i p B cnt s)
    {size : Nat} {rs : List Nat} (hrs : i.runeSizes = size :: rs) (hsz : 0 < size) (b : Nat)
    (hl : LexOK n i p B s b) (hb : b + size ≤ p) :
    ∃ c, S[p - size]? = some c ∧
      i.Retract = .ok (i.retracted rs (idx n s B (p - size)) (decide (p - size < B)) c) ∧
      Inv S n (i.retracted rs (idx n s B (p - size)) (decide (p - size < B)) c) (p - size) B cnt s ∧
      LexOK n (i.retracted rs (idx n s B (p - size)) (decide (p - size < B)) c) (p - size) B s b := by
  have hn := hinv.npos
  have hlen := hl.len
  have hblo := hl.b_lo
  have hphi := hinv.p_hi
  have hL := hinv.hiL
  have hcl := hinv.cnt_le
  -- where `p - size` lies, once for all the side conditions below
  obtain ⟨hsn, hsp, hlo, hpn, hlt, hle, hhi, hqL, hbq, hqb⟩ : size ≤ n ∧ size ≤ p ∧ B ≤ p - size + n ∧ p ≤ B + n ∧ p - size < p ∧
      p ≤ p - size + n ∧ p - size < B + cnt ∧ p - size < S.length ∧ b ≤ p - size ∧ p - size ≤ b + n := by omega
  obtain ⟨c, hc, _⟩ := getElem?_of_lt hqL
  have hfw := retract_forward n s B p size hn hinv.s01 hsn hsp hlo hpn
  have hah := retract_ahead n s B cnt p (p - size) hn hinv.s01 hinv.cnt_pos hcl hphi hlt hle hlo
  have herr : i.err.isNone = decide (p < B + cnt) := by rw [hinv.err]; split <;> simp [*]
  have hread : i.buff[idx n s B (p - size)]? = some c := by rw [buff_at hinv _ hlo hhi, hc]
  refine ⟨c, hc, ?_, hinv.move (p - size) hlo (Nat.le_of_lt hhi) (fun h => absurd h (Nat.ne_of_lt hhi)) _ rfl hinv.noio rfl
    rfl rfl (if_pos hhi).symm, ⟨hbq, hblo, hqb, hl.lb⟩⟩
  unfold Input.Retract
  rw [hrs]
  simp only [hinv.size, show 2 * n / 2 = n by omega, show ¬ n = 0 by omega, if_false, herr, hinv.ahead, hinv.fw, hfw,
    Int.toNat_natCast, Int.not_lt.mpr (Int.natCast_nonneg _), hah, hread, Input.retracted, untrackStep]
  by_cases hc10 : c = 10
  · simp only [hc10, if_true, decide_true]
    cases i.lastColumns <;> rfl
  · simp only [hc10, if_false, decide_false, Bool.false_eq_true]

end AlgoVerif.C19
