import AlgoVerif.Model.C03
import AlgoVerif.Proofs.C02Chain
import AlgoVerif.Proofs.C02OA
import AlgoVerif.Proofs.C02LinDel
/-!
# C03: the constructor call sites of /repo (`Generated/C03CallSites.lean`) against `ValidOpts`

`ValidFor c o` is *exactly* the hypothesis on the options that `C03_quadratic`, `C03_double`, `C03_linear`,
`C03_chain` (and the C02 theorems) make — after the constructor's own defaulting of zero fields, which is part
of `OA.ValidOpts` / `Lin.ValidOpts` / `Chain.ValidOpts` (`effLF`, `cap = 0`).  It is decidable, so the validity of
the whole regenerated table is checked by `decide` (`C03_repo_callsites_valid` in `Props/C03.lean`).
`Terminates c o` is the conclusion those theorems share (the probe-count clause left out);
`terminates_of_valid` proves it from the generic `step_ok_of_empty` of `Proofs/C02Sim.lean` (they use its sibling
`reach_ok_of_empty`, which also returns the invariant the probe-count clause needs).
-/
namespace AlgoVerif.C03
open AlgoVerif AlgoVerif.C02 AlgoVerif.Generated

instance (a b c d : LF) : Decidable (ValidLF a b c d) :=
  decidable_of_iff (0 < c.den ∧ 0 < d.den ∧ a.num * c.den ≤ c.num * a.den ∧ c.num * d.den < d.num * c.den ∧
      d.num * b.den ≤ b.num * d.den)
    ⟨fun ⟨h1, h2, h3, h4, h5⟩ => ⟨h1, h2, h3, h4, h5⟩, fun h => ⟨h.minDen, h.maxDen, h.minGe, h.lt, h.maxLe⟩⟩

instance (k : Kind) (o : Opts) : Decidable (OA.ValidOpts k o) := by unfold OA.ValidOpts; infer_instance
instance (o : Opts) : Decidable (Lin.ValidOpts o) := by unfold Lin.ValidOpts; infer_instance
instance (o : Opts) : Decidable (Chain.ValidOpts o) := by unfold Chain.ValidOpts; infer_instance

def ValidFor : C03Ctor → Opts → Prop
  | .quadratic, o => OA.ValidOpts .quad o
  | .double, o => OA.ValidOpts .dbl o
  | .linear, o => Lin.ValidOpts o
  | .chain, o => Chain.ValidOpts o

instance (c : C03Ctor) (o : Opts) : Decidable (ValidFor c o) := by
  cases c <;> (unfold ValidFor; infer_instance)

def dminOf : C03Ctor → LF
  | .quadratic => Kind.quad.defMinLF
  | .double => Kind.dbl.defMinLF
  | .linear => lpMinLF
  | .chain => scMinLF
def dmaxOf : C03Ctor → LF
  | .quadratic => Kind.quad.defMaxLF
  | .double => Kind.dbl.defMaxLF
  | .linear => lpMaxLF
  | .chain => scMaxLF

/-- a call inside a method of the table's own struct that hands the receiver's bounds on to the new table
(`resize`, `SelectMatch`, `PartitionMatch`): capacity absent, or — in `resize` — the prime / power of two the
method computed (that call is the one `OA.resizeWith` / `Lin.resizeWith` / `Chain.resizeWith` model) -/
def Inherits (s : C03CallSite) : Prop :=
  s.internal = true ∧ s.minLF = .recvMin ∧ s.maxLF = .recvMax ∧ (s.cap = .dflt ∨ s.cap = .resizeArg)

instance (s : C03CallSite) : Decidable (Inherits s) := by unfold Inherits; infer_instance

/-- a call site is fine when its options are known statically and satisfy the hypothesis of the theorems, or
when it inherits the bounds of an existing table; a site with an `unknown` field is neither -/
def SiteValid (s : C03CallSite) : Prop :=
  match staticOpts s with
  | some o => ValidFor s.ctor o
  | none => Inherits s

instance (s : C03CallSite) : Decidable (SiteValid s) := by
  unfold SiteValid; cases staticOpts s <;> infer_instance

theorem effLF_of_valid {dmin dmax a b : LF} (h : ValidLF dmin dmax a b) (h0 : 0 < dmin.num) :
    ValidLF dmin dmax (effLF a dmin) (effLF b dmax) := by
  obtain ⟨ha, hb, _⟩ := h.bounds h0
  rwa [effLF, effLF, if_neg (Nat.ne_of_gt ha), if_neg (Nat.ne_of_gt hb)]

theorem inherits_valid (c : C03Ctor) (rmin rmax : LF) (hr : ValidLF (dminOf c) (dmaxOf c) rmin rmax) :
    ValidFor c ⟨0, rmin, rmax⟩ := by
  cases c <;> exact ⟨Or.inl rfl, effLF_of_valid hr (by decide)⟩

def Terminates : C03Ctor → Opts → Prop
  | .quadratic, o => ∀ (K V σ : Type) [DecidableEq K] (hash : K → UInt64) (sh : Shuffle σ), ShufflePerm sh →
      ∀ (eqVal : V → V → Bool) (g : σ) (ops : List (Op K V)) (op : Op K V),
      ∃ t0 : OATable K V, OA.new .quad o = .ok t0 ∧
        ∃ st r, reach (OA.impl sh hash eqVal) ⟨t0, t0, g⟩ ops = some st ∧ step (OA.impl sh hash eqVal) st op = .ok r
  | .double, o => ∀ (K V σ : Type) [DecidableEq K] (hash : K → UInt64) (sh : Shuffle σ), ShufflePerm sh →
      ∀ (eqVal : V → V → Bool) (g : σ) (ops : List (Op K V)) (op : Op K V),
      ∃ t0 : OATable K V, OA.new .dbl o = .ok t0 ∧
        ∃ st r, reach (OA.impl sh hash eqVal) ⟨t0, t0, g⟩ ops = some st ∧ step (OA.impl sh hash eqVal) st op = .ok r
  | .linear, o => ∀ (K V σ : Type) [DecidableEq K] (hash : K → UInt64) (sh : Shuffle σ), ShufflePerm sh →
      ∀ (eqVal : V → V → Bool) (g : σ) (ops : List (Op K V)) (op : Op K V),
      ∃ t0 : LinTable K V, Lin.new o = .ok t0 ∧
        ∃ st r, reach (Lin.impl sh hash eqVal) ⟨t0, t0, g⟩ ops = some st ∧ step (Lin.impl sh hash eqVal) st op = .ok r
  | .chain, o => ∀ (K V σ : Type) [DecidableEq K] (hash : K → UInt64) (sh : Shuffle σ), ShufflePerm sh →
      ∀ (eqVal : V → V → Bool) (g : σ) (ops : List (Op K V)) (op : Op K V),
      ∃ t0 : ChainTable K V, Chain.new o = .ok t0 ∧
        ∃ st r, reach (Chain.impl sh hash eqVal) ⟨t0, t0, g⟩ ops = some st ∧ step (Chain.impl sh hash eqVal) st op = .ok r

theorem terminates_of_valid (c : C03Ctor) (o : Opts) (hv : ValidFor c o) : Terminates c o := by
  cases c <;> intro K V σ _ hash sh hsh eqVal g ops op
  · exact step_ok_of_empty (OA.correct hsh hash eqVal) (OA.init_spec hash .quad o hv) g ops op
  · exact step_ok_of_empty (OA.correct hsh hash eqVal) (OA.init_spec hash .dbl o hv) g ops op
  · exact step_ok_of_empty (Lin.correct hsh hash eqVal) (Lin.init_spec hash o hv) g ops op
  · exact step_ok_of_empty (Chain.correct hsh hash eqVal) (Chain.init_spec hash o hv) g ops op

end AlgoVerif.C03
