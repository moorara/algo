import AlgoVerif.Proofs.C16Basic
/-!
# C16 helper lemmas: the functional register machine by itself

What the machines built over `C16.stepOp` (`stepX` with formats, `Hp.stepOp` over a store) take from it: an operation
that only reads returns the registers it was given, and the final state of a concatenated history.
-/
namespace AlgoVerif.C16
variable {α : Type} {σ : Type}

/-- the operations of `C16.Op` that neither create nor change a set object -/
def Op.IsRead : Op α → Prop
  | .contains .. | .size _ | .isEmpty _ | .all _ | .equal .. | .subset .. | .superset ..
  | .anyMatch .. | .allMatch .. | .firstMatch .. => True
  | _ => False

theorem keeps_reg (st : RegState α σ) (i : Nat) {k : MSet α → Outcome (RegState α σ × Obs α)}
    (hk : ∀ s, (k s).All (·.1.1 = st.1)) :
    Outcome.All (·.1.1 = st.1) (match st.1[i]? with | none => .ok (st, .bad) | some s => k s) := by
  cases st.1[i]? with
  | none => exact .ok rfl
  | some s => exact hk s

theorem keeps_reg2 (st : RegState α σ) (i j : Nat) {k : MSet α → MSet α → Outcome (RegState α σ × Obs α)}
    (hk : ∀ s t, (k s t).All (·.1.1 = st.1)) :
    Outcome.All (·.1.1 = st.1) (match st.1[i]?, st.1[j]? with | some s, some t => k s t | _, _ => .ok (st, .bad)) := by
  cases st.1[i]? with
  | none => exact .ok rfl
  | some s =>
    cases st.1[j]? with
    | none => exact .ok rfl
    | some t => exact hk s t

theorem stepOp_read_regs (sh : Shuffle σ) (st : RegState α σ) (op : Op α) (hr : op.IsRead) :
    (C16.stepOp sh st op).All (·.1.1 = st.1) := by
  cases op with
  | contains i vs => exact keeps_reg st i fun s => .bind fun b _ => .ok rfl
  | size i => exact keeps_reg st i fun s => .ok rfl
  | isEmpty i => exact keeps_reg st i fun s => .ok rfl
  | all i => exact keeps_reg st i fun s => .bind fun ⟨ms, g⟩ _ => .ok rfl
  | equal i j => exact keeps_reg2 st i j fun s t => .bind fun b _ => .ok rfl
  | subset i j => exact keeps_reg2 st i j fun s t => .bind fun ⟨b, g⟩ _ => .ok rfl
  | superset i j => exact keeps_reg2 st i j fun s t => .bind fun ⟨b, g⟩ _ => .ok rfl
  | anyMatch i p => exact keeps_reg st i fun s => .ok rfl
  | allMatch i p => exact keeps_reg st i fun s => .ok rfl
  | firstMatch i p => exact keeps_reg st i fun s => .ok rfl
  | _ => exact hr.elim

theorem runOps_cons_state (sh : Shuffle σ) (op : Op α) (ops : List (Op α)) (st : RegState α σ) :
    (C16.runOps sh (op :: ops) st).map (·.1) =
      (C16.stepOp sh st op >>= fun r => (C16.runOps sh ops r.1).map (·.1)) := by
  simp only [C16.runOps]
  cases C16.stepOp sh st op with
  | ok r => obtain ⟨st₁, o⟩ := r; simp only [ok_bind]; cases C16.runOps sh ops st₁ <;> rfl
  | panic => rfl
  | diverge => rfl

theorem runOps_append (sh : Shuffle σ) (a b : List (Op α)) : ∀ st : RegState α σ,
    (C16.runOps sh (a ++ b) st).map (·.1) =
      ((C16.runOps sh a st).map (·.1) >>= fun st₁ => (C16.runOps sh b st₁).map (·.1)) := by
  induction a with
  | nil => exact fun st => rfl
  | cons op a ih =>
    intro st
    rw [List.cons_append, runOps_cons_state, runOps_cons_state]
    cases C16.stepOp sh st op with
    | ok r => exact ih r.1
    | panic => rfl
    | diverge => rfl

theorem runOps_single (sh : Shuffle σ) (op : Op α) (st : RegState α σ) :
    (C16.runOps sh [op] st).map (·.1) = (C16.stepOp sh st op).map (·.1) := by
  rw [runOps_cons_state]
  cases C16.stepOp sh st op <;> rfl

end AlgoVerif.C16
