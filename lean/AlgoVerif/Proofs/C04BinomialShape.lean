import AlgoVerif.Proofs.C04Binomial
import AlgoVerif.Proofs.C04Machine
/-!
# C04, binomial heap: the structural property (`verify()`), the invariant, refinement

Outside `consolidate` the root list is strictly increasing in order and every tree is a binomial tree
(a node of order `k` has children of orders `k-1, …, 0`).  The priority-queue property does not need this
structure (`union_all` holds for heap order alone); it is carried in the one invariant `BnInv` of the refinement
(its trees are `Good`, as those of the Fibonacci heap), so that it holds after every history for the same reason as
heap order does.
-/
namespace AlgoVerif.C04
variable {K V : Type} {cmp : K → K → Int}
open Tree

def degs (l : List (Tree K V)) : List Nat := l.map (·.deg)

/- The orders along a root list: `S`trictly / `W`eakly `Inc`reasing / `Dec`reasing.  `verify()` asks `SInc` of the
root list; `merge` of two such lists gives `WInc` with `AtMost2` roots of each order, which `consolidate` makes `SInc`
again; the scan of `consolidate` keeps the roots it has passed in reverse, hence `SDec`. -/
def SInc (l : List (Tree K V)) : Prop := l.Pairwise (fun a b => a.deg < b.deg)
def SDec (l : List (Tree K V)) : Prop := l.Pairwise (fun a b => a.deg > b.deg)
def WInc (l : List (Tree K V)) : Prop := l.Pairwise (fun a b => a.deg ≤ b.deg)
def AtMost2 (l : List (Tree K V)) : Prop := ∀ d, (degs l).count d ≤ 2

theorem SInc_count_le_one (l : List (Tree K V)) (h : SInc l) (d : Nat) : (degs l).count d ≤ 1 :=
  List.nodup_iff_count.mp (List.pairwise_map.mpr (h.imp Nat.ne_of_lt)) d

theorem bmerge_WInc (a b : List (Tree K V)) (ha : SInc a) (hb : SInc b) : WInc (Binomial.merge a b) := by
  fun_induction Binomial.merge a b with
  | case1 h2 => exact hb.imp (fun h => Nat.le_of_lt h)
  | case2 h1 hne => exact ha.imp (fun h => Nat.le_of_lt h)
  | case3 a r1 b r2 hlt ih =>
    have ha' := List.pairwise_cons.mp ha
    have hb' := List.pairwise_cons.mp hb
    refine List.pairwise_cons.mpr ⟨?_, ih ha'.2 hb⟩
    intro t ht
    rcases List.mem_append.mp ((bmerge_perm r1 (b :: r2)).mem_iff.mp ht) with h | h
    · exact Nat.le_of_lt (ha'.1 t h)
    · rcases List.mem_cons.mp h with rfl | h
      · exact Nat.le_of_lt hlt
      · have := hb'.1 t h; omega
  | case4 a r1 b r2 hlt ih =>
    have ha' := List.pairwise_cons.mp ha
    have hb' := List.pairwise_cons.mp hb
    refine List.pairwise_cons.mpr ⟨?_, ih ha hb'.2⟩
    intro t ht
    rcases List.mem_append.mp ((bmerge_perm (a :: r1) r2).mem_iff.mp ht) with h | h
    · rcases List.mem_cons.mp h with rfl | h
      · omega
      · have := ha'.1 t h; omega
    · exact Nat.le_of_lt (hb'.1 t h)

theorem bmerge_AtMost2 (a b : List (Tree K V)) (ha : SInc a) (hb : SInc b) : AtMost2 (Binomial.merge a b) := by
  intro d
  have hp := ((bmerge_perm a b).map (·.deg)).count_eq d
  have h1 := SInc_count_le_one a ha d
  have h2 := SInc_count_le_one b hb d
  simp only [degs, List.map_append, List.count_append] at hp h1 h2 ⊢
  omega

theorem AtMost2_tail {t : Tree K V} {l : List (Tree K V)} (h : AtMost2 (t :: l)) : AtMost2 l := by
  intro d
  have := h d
  simp only [degs, List.map_cons, List.count_cons] at this ⊢
  omega

/-- Three equal orders `curr, next, sib` are passed in one step of the argument (advance, then link `next` and `sib`),
hence the induction on a bound of the length: the state in between, where the root before `curr` has `curr`'s order,
is never described. -/
theorem consLoop_SInc (cmp : K → K → Int) :
    ∀ (n : Nat) (rest pre : List (Tree K V)) (curr : Tree K V), rest.length ≤ n → SDec pre →
      (∀ p ∈ pre, p.deg < curr.deg) → WInc (curr :: rest) → AtMost2 rest →
      SInc (Binomial.consLoop cmp pre curr rest) := by
  intro n
  induction n with
  | zero =>
    intro rest pre curr hn hpre hlt _ _
    rw [List.eq_nil_of_length_eq_zero (Nat.le_zero.mp hn)]
    exact List.pairwise_append.mpr ⟨List.pairwise_reverse.mpr hpre, List.pairwise_singleton _ _, fun a ha b hb => by
      rw [List.mem_singleton.mp hb]; exact hlt a (List.mem_reverse.mp ha)⟩
  | succ n ih =>
    intro rest pre curr hn hpre hlt hnd ham
    cases rest with
    | nil => exact ih [] pre curr (Nat.zero_le _) hpre hlt hnd ham
    | cons next rest =>
    have hn : rest.length ≤ n := Nat.le_of_succ_le_succ hn
    have hnd' := List.pairwise_cons.mp hnd
    have hnd'' := List.pairwise_cons.mp hnd'.2
    have hcn : curr.deg ≤ next.deg := hnd'.1 next List.mem_cons_self
    have ham' := AtMost2_tail ham
    have link : ∀ (pre' : List (Tree K V)) (w : Tree K V) (r : List (Tree K V)), r.length ≤ n → SDec pre' →
        (∀ p ∈ pre', p.deg ≤ curr.deg) → w.deg = curr.deg + 1 → (∀ t ∈ r, curr.deg < t.deg) → WInc r → AtMost2 r →
        SInc (Binomial.consLoop cmp pre' w r) := fun pre' w r hr h1 h2 hw h3 h4 h5 =>
      ih r pre' w hr h1 (fun p hp => by have := h2 p hp; omega)
        (List.pairwise_cons.mpr ⟨fun t ht => by have := h3 t ht; omega, h4⟩) h5
    unfold Binomial.consLoop
    by_cases hne : curr.deg = next.deg
    · by_cases hsib : Binomial.sibSameOrder rest curr = true
      · -- three roots of one order: keep `curr`, link the other two
        rw [if_pos (by simp [hsib])]
        match rest, hsib with
        | sib :: r3, hsib =>
          have hsd : sib.deg = curr.deg := by simpa [Binomial.sibSameOrder] using hsib
          have hr3 : ∀ t ∈ r3, curr.deg < t.deg := by
            intro t ht
            have hc := ham curr.deg
            simp only [degs, List.map_cons, List.count_cons, hsd, ← hne] at hc
            have h0 : List.count curr.deg (List.map (·.deg) r3) = 0 := by simp at hc; omega
            have := List.count_eq_zero.mp h0
            have hne' : t.deg ≠ curr.deg := fun he => this (he ▸ List.mem_map_of_mem (f := (·.deg)) ht)
            have := hnd'.1 t (List.mem_cons_of_mem _ (List.mem_cons_of_mem _ ht))
            omega
          have hno : Binomial.sibSameOrder r3 next = false := by
            cases r3 with
            | nil => rfl
            | cons u _ => have := hr3 u List.mem_cons_self; simp [Binomial.sibSameOrder]; omega
          unfold Binomial.consLoop
          rw [if_neg (by simp [hno]; omega)]
          have key : ∀ w : Tree K V, w.deg = curr.deg + 1 → SInc (Binomial.consLoop cmp (curr :: pre) w r3) :=
            fun w hw => link (curr :: pre) w r3 (by simp at hn; omega)
              (List.pairwise_cons.mpr ⟨hlt, hpre⟩)
              (fun p hp => by rcases List.mem_cons.mp hp with rfl | h; exact Nat.le_refl _; exact Nat.le_of_lt (hlt p h))
              hw hr3 (List.pairwise_cons.mp hnd''.2).2 (AtMost2_tail ham')
          split
          · exact key _ (by rw [deg_link]; omega)
          · exact key _ (by rw [deg_link]; omega)
      · rw [if_neg (by simp [hne, hsib])]
        have hrest : ∀ t ∈ rest, curr.deg < t.deg := by
          intro t ht
          match rest, hsib, ht with
          | sib :: r3, hsib, ht =>
            have hs : sib.deg ≠ curr.deg := by simpa [Binomial.sibSameOrder] using hsib
            have h1 := hnd'.1 sib (List.mem_cons_of_mem _ List.mem_cons_self)
            rcases List.mem_cons.mp ht with rfl | h
            · omega
            · have := (List.pairwise_cons.mp hnd''.2).1 t h; omega
        have key : ∀ w : Tree K V, w.deg = curr.deg + 1 → SInc (Binomial.consLoop cmp pre w rest) :=
          fun w hw => link pre w rest hn hpre (fun p hp => Nat.le_of_lt (hlt p hp)) hw hrest hnd''.2 ham'
        split
        · exact key _ (by rw [deg_link])
        · exact key _ (by rw [deg_link]; omega)
    · rw [if_pos (by simp [hne])]
      exact ih rest (curr :: pre) next hn (List.pairwise_cons.mpr ⟨hlt, hpre⟩)
        (fun p hp => by rcases List.mem_cons.mp hp with rfl | h; omega; have := hlt p h; omega) hnd'.2 ham'

theorem union_SInc (cmp : K → K → Int) (a b : List (Tree K V)) (ha : SInc a) (hb : SInc b) :
    SInc (Binomial.union cmp a b) := by
  unfold Binomial.union Binomial.consolidate
  have h1 := bmerge_WInc a b ha hb
  have h2 := bmerge_AtMost2 a b ha hb
  cases hm : Binomial.merge a b with
  | nil => exact List.Pairwise.nil
  | cons t ts =>
    rw [hm] at h1 h2
    exact consLoop_SInc cmp _ ts [] t (Nat.le_refl _) List.Pairwise.nil (fun _ hp => nomatch hp) h1 (AtMost2_tail h2)

theorem BinomF_SDec : ∀ (d : Nat) (cs : List (Tree K V)), BinomF d cs → SDec cs ∧ ∀ c ∈ cs, c.deg < d
  | 0, [], _ => ⟨List.Pairwise.nil, by intro c hc; cases hc⟩
  | d + 1, c :: cs, h => by
    simp only [BinomF] at h
    obtain ⟨h1, h2⟩ := BinomF_SDec d cs h.2.2
    refine ⟨List.pairwise_cons.mpr ⟨fun x hx => by have := h2 x hx; omega, h1⟩, ?_⟩
    intro x hx
    rcases List.mem_cons.mp hx with rfl | hx
    · omega
    · have := h2 x hx; omega
  | 0, _ :: _, h => by simp [BinomF] at h
  | _ + 1, [], h => by simp [BinomF] at h

theorem children_reverse_SInc (t : Tree K V) (h : Binom t) : SInc t.children.reverse := by
  cases t with
  | node k v d cs =>
    have := (BinomF_SDec d cs h).1
    exact List.pairwise_reverse.mpr this

def BinomAll (l : List (Tree K V)) : Prop := ∀ t ∈ l, Binom t

/-- the structural invariant of the binomial heap (what the Go `verify()` checks, apart from heap order) -/
structure BShape (h : Binomial K V) : Prop where
  sorted : SInc h.head
  binom : BinomAll h.head

/-- the invariant of the binomial heap: what the Go `verify()` checks (heap order, binomial trees, strictly increasing
orders), and the count -/
structure BnInv (cmp : K → K → Int) (h : Binomial K V) : Prop where
  good : ∀ t ∈ h.head, Good cmp t
  n : h.n = ((nodesF h.head).length : Int)
  sorted : SInc h.head

theorem BnInv.shape {h : Binomial K V} (hinv : BnInv cmp h) : BShape h :=
  ⟨hinv.sorted, fun t ht => (hinv.good t ht).2⟩

def Binomial.abs (h : Binomial K V) : Bag K V := nodesF h.head

theorem BnInv_nil (cmp : K → K → Int) : BnInv cmp ({ n := 0, head := [] } : Binomial K V) :=
  ⟨fun _ ht => (nomatch ht), rfl, List.Pairwise.nil⟩

theorem BnInv_leaf (cmp : K → K → Int) (k : K) (v : V) : BnInv cmp { n := 1, head := [leaf k v] } :=
  ⟨fun _ ht => List.mem_singleton.mp ht ▸ Good_leaf k v, by simp [nodes_leaf], List.pairwise_singleton _ _⟩

/-- `Insert` is a `Merge` with the heap of the one new node, `Delete` one of the other roots with the children of the
removed root. -/
theorem BnInv.mergeWith (hc : LawfulCmp cmp) {a b : Binomial K V} (ha : BnInv cmp a) (hb : BnInv cmp b) :
    (nodesF (Binomial.union cmp a.head b.head)).Perm (nodesF a.head ++ nodesF b.head) ∧
      BnInv cmp (a.mergeWith cmp b).1 := by
  obtain ⟨h1, h2⟩ := union_all hc (P := Good cmp) (fun _ _ => Good_link) a.head b.head ha.good hb.good
  refine ⟨h1, h2, ?_, union_SInc cmp _ _ ha.sorted hb.sorted⟩
  have := h1.length_eq
  simp only [Binomial.mergeWith, ha.n, hb.n, this, List.length_append]
  omega

theorem Binomial.step_spec (hc : LawfulCmp cmp) (eqV : V → V → Bool) (h : Binomial K V)
    (hinv : BnInv cmp h) (op : Op K V) :
    ∃ h' out, Binomial.step cmp eqV h op = .ok (h', out) ∧ BnInv cmp h' ∧ Step cmp eqV h.abs op out h'.abs := by
  have hord : ∀ t ∈ h.head, Ord cmp t := fun t ht => (hinv.good t ht).1
  cases op with
  | insert k v =>
    obtain ⟨h1, h2⟩ := hinv.mergeWith hc (BnInv_leaf cmp k v)
    exact ⟨h.insert cmp k v, .unit, rfl, h2, show (nodesF _).Perm ((k, v) :: nodesF h.head) from
      h1.trans (by simp only [nodesF_cons, nodesF_nil, nodes_leaf]; c04_perm)⟩
  | delete =>
    by_cases hne : h.head = []
    · refine ⟨h, .kv none, by simp [Binomial.step, Binomial.delete, Binomial.findExt, hne], hinv, ?_⟩
      exact ⟨congrArg nodesF hne, congrArg nodesF hne⟩
    · obtain ⟨b, e, a, hfind, hsplit, hmin⟩ := findExt_spec hc h.head hne
      have hsub : (b ++ a).Sublist h.head := by
        rw [hsplit]; exact List.Sublist.append (List.Sublist.refl b) (List.sublist_cons_self e a)
      have he : Good cmp e := hinv.good e (by rw [hsplit]; simp)
      -- the other roots and the children of the removed root, each as a heap of its own
      have hA : BnInv cmp { n := ((nodesF (b ++ a)).length : Int), head := b ++ a } :=
        ⟨fun t ht => hinv.good t (hsub.subset ht), rfl, hinv.sorted.sublist hsub⟩
      have hB : BnInv cmp { n := ((nodesF e.children.reverse).length : Int), head := e.children.reverse } :=
        ⟨fun t ht => Good_children he t (List.mem_reverse.mp ht), rfl, children_reverse_SInc e he.2⟩
      obtain ⟨h1, h2⟩ := hA.mergeWith hc hB
      have hperm : (nodesF h.head).Perm ((e.key, e.val) :: nodesF (Binomial.union cmp (b ++ a) e.children.reverse)) := by
        conv => lhs; rw [hsplit]
        refine (nodesF_split b a e).trans ((List.perm_cons _).mpr ?_)
        exact (List.Perm.append_left _ (nodesF_reverse e.children).symm).trans h1.symm
      have hn : h.n - 1 = ((nodesF (b ++ a)).length : Int) + ((nodesF e.children.reverse).length : Int) := by
        have h3 := hperm.length_eq
        have h4 := h1.length_eq
        simp only [List.length_cons, List.length_append] at h3 h4
        rw [hinv.n]; omega
      refine ⟨(h.delete cmp).1, .kv (h.delete cmp).2, rfl, ?_, ?_⟩
      · simp only [Binomial.delete, hfind]
        rw [hn]; exact h2
      · simp only [Binomial.delete, hfind, Step]
        exact ⟨ext_extremal hc h.head hord e hmin, hperm⟩
  | deleteAll => exact ⟨h.deleteAll, .unit, rfl, BnInv_nil cmp, rfl⟩
  | peek =>
    by_cases hne : h.head = []
    · refine ⟨h, .kv none, by simp [Binomial.step, Binomial.peek, Binomial.findExt, hne], hinv, ?_⟩
      exact ⟨congrArg nodesF hne, congrArg nodesF hne⟩
    · obtain ⟨b, e, a, hfind, hsplit, hmin⟩ := findExt_spec hc h.head hne
      refine ⟨h, .kv (some (e.key, e.val)), by simp [Binomial.step, Binomial.peek, hfind], hinv, ?_, ?_, List.Perm.refl _⟩
      · show (e.key, e.val) ∈ nodesF h.head
        rw [hsplit, nodesF_append, nodesF_cons, nodes_eq e]
        simp
      · exact ext_extremal hc h.head hord e hmin
  | size => exact ⟨h, .int h.n, rfl, hinv, hinv.n, List.Perm.refl _⟩
  | isEmpty => exact ⟨h, _, rfl, hinv, isEmpty_nodesF h.head, List.Perm.refl _⟩
  | containsKey k => exact ⟨h, _, rfl, hinv, anyRoots_eq _ h.head, List.Perm.refl _⟩
  | containsValue v => exact ⟨h, _, rfl, hinv, anyRoots_eq _ h.head, List.Perm.refl _⟩

def binomialRefines {cmp : K → K → Int} (hc : LawfulCmp cmp) (eqV : V → V → Bool) :
    Refines (binomialImpl cmp eqV) cmp eqV where
  Inv := BnInv cmp
  abs := Binomial.abs
  init_inv := BnInv_nil cmp
  init_abs := rfl
  step_ok := fun s op hs => Binomial.step_spec hc eqV s hs op
  merge_ok := fun _ _ ha hb =>
    have ⟨h1, h2⟩ := ha.mergeWith hc hb
    ⟨_, _, rfl, h2, BnInv_nil cmp, h1, rfl⟩

end AlgoVerif.C04
