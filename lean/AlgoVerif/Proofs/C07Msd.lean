import AlgoVerif.Proofs.C07Counting
/-!
# C07 — one level of an MSD radix sort, for any number of buckets

A counting pass lays `R` buckets out in the segment (`Lay`: where they lie and what that means for the
order; `BOK`: what each holds and which of them are sorted; `buckets_of_pass` reads both off the result of
`countingPass`).  Buckets that need no recursive call (all their elements are equal in the order) enter as
sorted; every other nonempty bucket is handled by one call (`proc_bucket`), made by the "special case" in front
of the loop or by `bucketLoop` at the index whose window `[count[r], count[r+1])` it is (`Sched`); then every
nonempty bucket is sorted and so is the segment (`sorted_of_buckets`, `loop_phase`, `tail_phase`).
-/
namespace AlgoVerif.C07
open AlgoVerif

-- throughout: `R` buckets in the segment `[lo, lo+n)`, bucket `b` at offset `S b` with `c b` elements, all of
-- which satisfy `Q b`; the buckets in `T` get a recursive call `rec`
variable {α : Type} {cmp : α → α → Int} {Q : Nat → α → Prop} {R lo n : Nat} {S c : Nat → Nat}
  {T : Nat → Prop} {rec : Array α → Array α → Int → Int → Outcome (Array α × Array α)}

/-- the geometry of the `R` buckets of `[lo, lo+n)`: they tile the segment, and an earlier bucket holds the smaller
elements -/
structure Lay (cmp : α → α → Int) (Q : Nat → α → Prop) (R n : Nat) (S c : Nat → Nat) : Prop where
  bnd : ∀ r, r < R → S r + c r ≤ n
  cover : ∀ t, t < n → ∃ r, r < R ∧ S r ≤ t ∧ t < S r + c r
  disjoint : ∀ r r', r < R → r' < R → r ≠ r' → S r + c r ≤ S r' ∨ S r' + c r' ≤ S r
  ord : ∀ r r' x y, r < R → r' < R → S r < S r' → Q r x → Q r' y → cmp x y ≤ 0

/-- "buckets OK" in the array `a`: every bucket holds what it should; the buckets in `D` are sorted -/
def BOK (cmp : α → α → Int) (Q : Nat → α → Prop) (R lo : Nat) (S c : Nat → Nat) (a : Array α)
    (D : Nat → Prop) : Prop :=
  ∀ b, b < R → AllSeg (Q b) a (lo + S b) (lo + S b + c b) ∧
    (D b → SortedSeg cmp a (lo + S b) (lo + S b + c b))

theorem sorted_of_buckets (L : Lay cmp Q R n S c) (a : Array α) (D : Nat → Prop)
    (hb : BOK cmp Q R lo S c a D) (hD : ∀ b, b < R → 0 < c b → D b) : SortedSeg cmp a lo (lo + n) := by
  intro p q hp hpq hq hqa
  obtain ⟨t, rfl⟩ : ∃ t, p = lo + t := ⟨p - lo, by omega⟩
  obtain ⟨u, rfl⟩ : ∃ u, q = lo + u := ⟨q - lo, by omega⟩
  obtain ⟨r, hr, hr1, hr2⟩ := L.cover t (by omega)
  obtain ⟨r', hr', hr1', hr2'⟩ := L.cover u (by omega)
  by_cases he : r = r'
  · subst he
    exact (hb r hr).2 (hD r hr (by omega)) _ _ (by omega) hpq (by omega) hqa
  · have := L.disjoint r r' hr hr' he
    exact L.ord r r' _ _ hr hr' (by omega) ((hb r hr).1 _ (by omega) (by omega) (by omega))
      ((hb r' hr').1 _ (by omega) (by omega) hqa)

def RecSpec (cmp : α → α → Int) (Q : Nat → α → Prop) (T : Nat → Prop)
    (rec : Array α → Array α → Int → Int → Outcome (Array α × Array α)) : Prop :=
  ∀ (a aux : Array α) (l m b : Nat), T b → l + m ≤ a.size → aux.size = a.size → AllSeg (Q b) a l (l + m) →
    ∃ a' aux', rec a aux (l : Int) (((l + m : Nat) : Int) - 1) = .ok (a', aux') ∧ aux'.size = aux.size ∧
      SegStep a a' l (l + m) ∧ SortedSeg cmp a' l (l + m)

theorem proc_bucket (L : Lay cmp Q R n S c) (hrec : RecSpec cmp Q T rec)
    (a aux : Array α) (hlo : lo + n ≤ a.size) (haux : aux.size = a.size)
    (D : Nat → Prop) (hb : BOK cmp Q R lo S c a D) (b : Nat) (hbR : b < R) (hT : T b) :
    ∃ a' aux', rec a aux ((lo + S b : Nat) : Int) (((lo + S b + c b : Nat) : Int) - 1) = .ok (a', aux') ∧
      aux'.size = a.size ∧ SegStep a a' lo (lo + n) ∧ BOK cmp Q R lo S c a' (fun b' => D b' ∨ b' = b) := by
  have hbnd := L.bnd b hbR
  obtain ⟨a', aux', h1, h2, h3, h4⟩ := hrec a aux (lo + S b) (c b) b hT (by omega) haux (hb b hbR).1
  refine ⟨a', aux', h1, by omega, h3.widen (by omega) (by omega), ?_⟩
  intro b' hb'
  by_cases he : b' = b
  · subst he
    exact ⟨h3.pres _ (hb b' hb').1, fun _ => h4⟩
  · have hd := L.disjoint _ _ hb' hbR he
    refine ⟨h3.allSeg_disjoint (by omega) (hb b' hb').1, ?_⟩
    intro hD
    rcases hD with hD | hD
    · exact h3.sortedSeg_disjoint (by omega) ((hb b' hb').2 hD)
    · exact absurd hD he

theorem BOK.weaken {a : Array α} {D D' : Nat → Prop} (hb : BOK cmp Q R lo S c a D)
    (h : ∀ b, b < R → D' b → D b) : BOK cmp Q R lo S c a D' :=
  fun b hb' => ⟨(hb b hb').1, fun hD => (hb b hb').2 (h b hb' hD)⟩

/-- what the loop over `r < Rl` meets: at every index an empty window `[C r, C (r+1))` (skipped by the guard) or
exactly a bucket of `T`; and every bucket outside `D0` at some index -/
structure Sched (guard : Bool) (R Rl : Nat) (S c : Nat → Nat) (C : Nat → Int) (T D0 : Nat → Prop) : Prop where
  win : ∀ r, r < Rl → guard = true ∧ C (r + 1) ≤ C r ∨
    ∃ b, b < R ∧ T b ∧ C r = (S b : Int) ∧ C (r + 1) = ((S b + c b : Nat) : Int)
  cov : ∀ b, b < R → D0 b ∨ ∃ r, r < Rl ∧ C r = (S b : Int) ∧ C (r + 1) = ((S b + c b : Nat) : Int)

/-- without rotation index `r` meets bucket `r + 1` (`count[r]` is where bucket `r` ends).  The hypotheses on
`Rl` and `guard` fit exactly the two users: the word sorts loop to `Rl = R` under the guard (the last window
is empty), `MSDString` to `Rl = R - 1` without one. -/
theorem sched_none (guard : Bool) (k : α → Nat) (R Rl : Nat) (hRl : Rl ≤ R) (hRl' : R ≤ Rl + 1)
    (hg : guard = false → Rl < R) (seg : List α) (hall : ∀ x, x ∈ seg → k x < R) (T : Nat → Prop)
    (hT : ∀ b, 0 < b → T b) :
    Sched guard R Rl (startPos k R none seg) (cnt k seg) (countAfter k R none seg) T (fun b => b = 0) := by
  have hC := fun r (hr : r < R) => countAfter_lt k seg R none (by omega) (by simp) hall hr
  have hw : ∀ r, r + 1 < R → countAfter k R none seg r = (startPos k R none seg (r + 1) : Int) ∧
      countAfter k R none seg (r + 1) = ((startPos k R none seg (r + 1) + cnt k seg (r + 1) : Nat) : Int) := by
    intro r hr
    refine ⟨?_, hC (r + 1) hr⟩
    rw [hC r (by omega)]
    simp only [startPos, cntLt_succ]
  constructor
  · intro r hr
    by_cases hr' : r + 1 < R
    · exact Or.inr ⟨r + 1, hr', hT _ (by omega), hw r hr'⟩
    · have hr' : r + 1 = R := by omega
      subst hr'
      refine Or.inl ⟨?_, ?_⟩
      · cases guard
        · exact absurd (hg rfl) (by omega)
        · rfl
      rw [hC r (by omega), countAfter_top k seg (r + 1) none (by omega) (by simp) hall]
      have := cntLt_all k seg (r + 1) hall
      have : cntLt k seg (r + 1) = cntLt k seg r + cnt k seg r := cntLt_succ k seg r
      simp only [startPos, topVal]
      omega
  · intro b hb
    by_cases hb0 : b = 0
    · exact Or.inl hb0
    · obtain ⟨r, rfl⟩ : ∃ r, b = r + 1 := ⟨b - 1, by omega⟩
      exact Or.inr ⟨r, by omega, hw r hb⟩

theorem bucketLoop_inv (guard : Bool) (rec : Array α → Array α → Int → Int → Outcome (Array α × Array α))
    (count : Array Int) (lo : Int) (R : Nat) (I : Nat → Array α → Array α → Prop)
    (hstep : ∀ r, r < R → ∀ a aux, I r a aux → ∃ c1 c0, get count ((r : Int) + 1) = .ok c1 ∧
      get count (r : Int) = .ok c0 ∧ ((guard && !decide (c1 > c0)) = true → I (r + 1) a aux) ∧
      (¬ (guard && !decide (c1 > c0)) = true →
        ∃ a' aux', rec a aux (lo + c0) (lo + c1 - 1) = .ok (a', aux') ∧ I (r + 1) a' aux')) :
    ∀ (f r : Nat) (a aux : Array α), r ≤ R → R < f + r → I r a aux →
      ∃ a' aux', bucketLoop guard rec count lo (R : Int) f (r : Int) a aux = .ok (a', aux') ∧ I R a' aux' := by
  intro f
  induction f with
  | zero => intro r a aux _ h; omega
  | succ f ih =>
    intro r a aux hr hf hI
    unfold bucketLoop
    by_cases hlt : r < R
    · have c : (r : Int) < (R : Int) := by omega
      simp only [c, ↓reduceIte]
      obtain ⟨c1, c0, g1, g0, hskip, hrec⟩ := hstep r hlt a aux hI
      rw [g1, g0]
      simp only [ok_bind]
      by_cases hs : (guard && !decide (c1 > c0)) = true
      · simp only [hs, ↓reduceIte]
        exact ih (r + 1) a aux (by omega) (by omega) (hskip hs)
      · obtain ⟨a', aux', h1, h2⟩ := hrec hs
        simp only [hs, Bool.false_eq_true, ↓reduceIte, h1, ok_bind]
        exact ih (r + 1) a' aux' (by omega) (by omega) h2
    · have c : ¬ (r : Int) < (R : Int) := by omega
      simp only [c, ↓reduceIte]
      have : r = R := by omega
      subst this
      exact ⟨a, aux, rfl, hI⟩

theorem loop_phase (guard : Bool) {Rl : Nat} (L : Lay cmp Q R n S c) (hrec : RecSpec cmp Q T rec)
    {C : Nat → Int} {D0 : Nat → Prop} (Sc : Sched guard R Rl S c C T D0)
    (count : Array Int) (hC : ∀ r, r ≤ Rl → count[r]? = some (C r))
    (a aux : Array α) (hlo : lo + n ≤ a.size) (haux : aux.size = a.size) (hb : BOK cmp Q R lo S c a D0) :
    ∃ a' aux', bucketLoop guard rec count (lo : Int) (Rl : Int) (Rl + 1) (0 : Int) a aux = .ok (a', aux') ∧
      aux'.size = a.size ∧ SegStep a a' lo (lo + n) ∧ SortedSeg cmp a' lo (lo + n) := by
  -- before index `r` the nonempty buckets met so far are sorted
  have key := bucketLoop_inv guard rec count (lo : Int) Rl
    (fun r a' aux' => aux'.size = a.size ∧ SegStep a a' lo (lo + n) ∧ BOK cmp Q R lo S c a'
      (fun b => D0 b ∨ 0 < c b ∧ ∃ r', r' < r ∧ C r' = (S b : Int) ∧ C (r' + 1) = ((S b + c b : Nat) : Int)))
    ?_ (Rl + 1) 0 a aux (by omega) (by omega)
    ⟨haux, SegStep.refl _ _ _, hb.weaken fun b _ h => h.resolve_right fun ⟨_, r', h, _⟩ => by omega⟩
  · obtain ⟨a', aux', h, h2, h3, h4⟩ := key
    exact ⟨a', aux', h, h2, h3, sorted_of_buckets L a' _ h4 fun b hb hc => (Sc.cov b hb).imp_right fun h => ⟨hc, h⟩⟩
  · intro r hr a' aux' ⟨i2, i3, i4⟩
    have i1 := i3.size
    refine ⟨C (r + 1), C r, get_of_getElem? (hC (r + 1) (by omega)),
      get_of_getElem? (hC r (by omega)), ?_, ?_⟩
    · -- skipped: a bucket met here is empty
      intro hs
      have hg' : C (r + 1) ≤ C r := by simp at hs; omega
      refine ⟨i2, i3, i4.weaken ?_⟩
      rintro b _ (h | ⟨hc, r', hr', h1, h2⟩)
      · exact Or.inl h
      · have : r' ≠ r := by rintro rfl; omega
        exact Or.inr ⟨hc, r', by omega, h1, h2⟩
    · intro hs
      rcases Sc.win r hr with ⟨hg, hle⟩ | ⟨b, hbR, hTb, h1, h2⟩
      · simp [hg] at hs; omega
      · obtain ⟨a2, aux2, g1, g2, g3, g4⟩ := proc_bucket L hrec a' aux' (by omega) (by omega) _ i4 b hbR hTb
        have e1 : (lo : Int) + C r = ((lo + S b : Nat) : Int) := by omega
        have e2 : (lo : Int) + C (r + 1) - 1 = ((lo + S b + c b : Nat) : Int) - 1 := by omega
        rw [e1, e2]
        refine ⟨a2, aux2, g1, by omega, i3.trans g3, g4.weaken ?_⟩
        -- a nonempty bucket met at `r` is `b`
        rintro b' hb' (h | ⟨hc, r', hr', h1', h2'⟩)
        · exact Or.inl (Or.inl h)
        · by_cases e : r' = r
          · subst e
            refine Or.inr (Classical.byContradiction fun hne => ?_)
            have := L.disjoint _ _ hb' hbR hne
            omega
          · exact Or.inl (Or.inr ⟨hc, r', by omega, h1', h2'⟩)

theorem buckets_of_pass (k : α → Nat) (R : Nat) (rot : Option Bool) (hR : 0 < R) (heven : rot.isSome → R % 2 = 0)
    (a a1 : Array α) (lo n : Nat) (hsz : lo + n ≤ a.size) (hs : a1.size = a.size) (hk : ∀ x, k x < R)
    (P : α → Prop) (hpre : AllSeg P a lo (lo + n))
    (hf : ∀ i, (i < lo ∨ lo + n ≤ i) → a1[i]? = a[i]?)
    (seg : List α) (hseg : segL a lo (lo + n) = seg) (hseg1 : segL a1 lo (lo + n) = bucketConcat k (bucketOrder R rot) seg)
    (hord : ∀ x y, P x → P y → rotRank R rot (k x) < rotRank R rot (k y) → cmp x y ≤ 0)
    (D0 : Nat → Prop) (htriv : ∀ x y, P x → P y → k x = k y → D0 (k x) → cmp x y ≤ 0) :
    SegStep a a1 lo (lo + n) ∧
    Lay cmp (fun b x => P x ∧ k x = b) R n (startPos k R rot seg) (cnt k seg) ∧
    BOK cmp (fun b x => P x ∧ k x = b) R lo (startPos k R rot seg) (cnt k seg) a1 D0 := by
  have hall : ∀ x, x ∈ seg → k x < R := fun x _ => hk x
  obtain ⟨hch, hnd, hmem, htot⟩ := layout k seg R rot hR heven hall
  have hpw := bucketOrder_pairwise R rot heven
  have hlen : seg.length = n := by rw [← hseg, segL_length hsz, Nat.add_sub_cancel_left]
  rw [hlen] at htot
  have hbnd : ∀ r, r < R → startPos k R rot seg r + cnt k seg r ≤ n := fun r hr => by
    have := chain_bounds _ _ _ _ hch r ((hmem r).2 hr)
    omega
  have St : SegStep a a1 lo (lo + n) := segStep_of_segL hsz hs hf (by
    rw [hseg, hseg1]
    exact bucketConcat_perm k _ _ hnd (fun x hx => (hmem _).2 (hall x hx)))
  have hQ := St.pres _ hpre
  have hcont : ∀ b, b < R → AllSeg (fun x => P x ∧ k x = b) a1 (lo + startPos k R rot seg b)
      (lo + startPos k R rot seg b + cnt k seg b) := by
    intro b hbR p hp1 hp2 hpa
    obtain ⟨t, rfl⟩ : ∃ t, p = lo + startPos k R rot seg b + t := ⟨_, (Nat.add_sub_cancel' hp1).symm⟩
    have hb := hbnd b hbR
    refine ⟨hQ _ (by omega) (by omega) hpa, ?_⟩
    have h1 := segL_getElem? a1 lo (lo + n) (startPos k R rot seg b + t) (by omega) (by omega)
    simp only [← Nat.add_assoc] at h1
    rw [hseg1, bucketConcat_getElem? k seg _ _ hch b ((hmem b).2 hbR) t (by omega)] at h1
    exact (mem_bucket.1 (List.mem_of_getElem? h1)).2
  refine ⟨St, ⟨hbnd, ?_, ?_, ?_⟩, fun b hbR => ⟨hcont b hbR, fun hD p q hp hpq hq hqa => ?_⟩⟩
  · intro t ht
    obtain ⟨r, hr, h1, h2⟩ := chain_cover _ _ _ _ hch t (by omega) (by omega)
    exact ⟨r, (hmem r).1 hr, h1, h2⟩
  · exact fun r r' hr hr' => chain_disjoint _ _ _ _ hch r r' ((hmem r).2 hr) ((hmem r').2 hr')
  · rintro r r' x y hr hr' hlt ⟨hx, rfl⟩ ⟨hy, rfl⟩
    -- the earlier bucket has the smaller rank
    refine hord x y hx hy ?_
    rcases pairwise_mem_or (hpw.and (chain_pairwise _ _ _ _ hch)) ((hmem _).2 hr) ((hmem _).2 hr')
      (fun e => by rw [e] at hlt; omega) with h | h
    · exact h.1
    · have := h.2
      omega
  · obtain ⟨hx, ex⟩ := hcont b hbR p hp (by omega) (by omega)
    obtain ⟨hy, ey⟩ := hcont b hbR q (by omega) hq hqa
    exact htriv _ _ hx hy (ex.trans ey.symm) (ex ▸ hD)

theorem tail_phase (L : Lay cmp Q R n S c) (hrec : RecSpec cmp Q T rec) {C : Nat → Int}
    (b0 : Nat) (hb0 : b0 < R) (hT0 : T b0) (hS0 : S b0 = 0) (hC0 : C b0 = ((S b0 + c b0 : Nat) : Int))
    (Sc : Sched true R R S c C T (fun b => b = b0))
    (count : Array Int) (hC : ∀ r, r ≤ R → count[r]? = some (C r))
    (a1 aux1 : Array α) (hlo : lo + n ≤ a1.size) (haux : aux1.size = a1.size)
    {D : Nat → Prop} (hb : BOK cmp Q R lo S c a1 D) :
    ∃ a2 aux2 a3 aux3,
      (if C b0 > 0 then rec a1 aux1 (lo : Int) ((lo : Int) + C b0 - 1) else .ok (a1, aux1)) = .ok (a2, aux2) ∧
      bucketLoop true rec count (lo : Int) (R : Int) (R + 1) (0 : Int) a2 aux2 = .ok (a3, aux3) ∧
      aux3.size = a1.size ∧ SegStep a1 a3 lo (lo + n) ∧ SortedSeg cmp a3 lo (lo + n) := by
  have sp : ∃ a2 aux2,
      (if C b0 > 0 then rec a1 aux1 (lo : Int) ((lo : Int) + C b0 - 1) else .ok (a1, aux1)) = .ok (a2, aux2) ∧
      aux2.size = a1.size ∧ SegStep a1 a2 lo (lo + n) ∧ BOK cmp Q R lo S c a2 (fun b => b = b0) := by
    by_cases hg : C b0 > 0
    · simp only [hg, ↓reduceIte]
      obtain ⟨a', aux', g1, g2, g3, g4⟩ := proc_bucket L hrec a1 aux1 hlo haux _ hb b0 hb0 hT0
      have e1 : ((lo + S b0 : Nat) : Int) = (lo : Int) := by omega
      have e2 : ((lo + S b0 + c b0 : Nat) : Int) - 1 = (lo : Int) + C b0 - 1 := by omega
      rw [e1, e2] at g1
      exact ⟨a', aux', g1, g2, g3, g4.weaken fun _ _ h => Or.inr h⟩
    · simp only [hg, ↓reduceIte]
      -- the first bucket is empty
      exact ⟨a1, aux1, rfl, haux, SegStep.refl _ _ _, fun b hbR => ⟨(hb b hbR).1, fun e p q _ _ _ _ => by
        subst e; omega⟩⟩
  obtain ⟨a2, aux2, s1, s2, s3, s4⟩ := sp
  have := s3.size
  obtain ⟨a3, aux3, l1, l2, l3, l4⟩ := loop_phase true L hrec Sc count hC a2 aux2 (by omega) (by omega) s4
  exact ⟨a2, aux2, a3, aux3, s1, l1, by omega, s3.trans l3, l4⟩

end AlgoVerif.C07
