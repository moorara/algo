import AlgoVerif.Proofs.C11Group
import AlgoVerif.Proofs.C11Check
/-!
# C11 — whole-expression grouping: the theorem; the validator
-/
namespace AlgoVerif.C11.Group
open AlgoVerif AlgoVerif.Gram AlgoVerif.C11 AlgoVerif.C11.Spec AlgoVerif.C11.Complete AlgoVerif.C11.Term

section
variable {ops : List String} {ls : List Level} {T : Tbl} (C : OpTable ops ls T) (hL : LevelsFor ops ls)
include hL

include C in
theorem group_correct (hend : "id" ≠ endmarker) (w : List String) (hw : endmarker ∉ w) :
    (∀ e, climb ls w = some e → ∃ fuel π, parse T fuel w = Outcome.ok (PResult.accept π (treeOf e))) ∧
    (climb ls w = none → ∃ fuel pos, parse T fuel w = Outcome.ok (PResult.reject pos)) := by
  have hm := (climb_mirror C hL hend (2 * w.length + 2)).1 w Ctx.top trivial (by omega) (pinit w) [] rfl rfl hw
  simp only [Ctx.min] at hm
  unfold Spec.climb
  cases hce : climbExpr ls (2 * w.length + 2) 0 w with
  | none =>
    rw [hce] at hm
    obtain ⟨st', pos, ⟨n, hn⟩, hp⟩ := hm
    exact ⟨fun e he => (by cases he), fun _ => ⟨n + 1, pos, prun_eq_ok_iff.mpr ⟨n, st', Nat.lt_succ_self n, hn, hp⟩⟩⟩
  | some er =>
    obtain ⟨e, rest⟩ := er
    rw [hce] at hm
    obtain ⟨st', ⟨n, hn⟩, hstk, hnodes, hin, hstop, -, -⟩ := hm
    have hrest : rest = [] := by
      rcases hstop with h | ⟨_, _, s, _, _, _, hlt⟩
      · exact h
      · omega
    subst hrest
    refine ⟨fun e' he' => ?_, fun hn' => (by cases hn')⟩
    cases he'
    have hp : pstep T st' = .inr (PResult.accept st'.out.reverse (treeOf e)) := by
      unfold pstep
      have hc : T.cell (peekState st'.stack) st'.tok = [Action.accept] := by
        rw [hstk, tok_nil st' hin]; exact C.c1acc
      simp only [hc, hnodes]
    exact ⟨n + 1, st'.out.reverse, prun_eq_ok_iff.mpr ⟨n, st', Nat.lt_succ_self n, hn, hp⟩⟩

end

def rejectsB (c : List Action) : Bool :=
  match c with
  | [_] => false
  | _ => true

theorem rejects_of_b {c : List Action} (h : rejectsB c = true) : Rejects c := by
  intro act hc
  rw [hc] at h
  simp [rejectsB] at h

def shiftOf (c : List Action) : Option Int :=
  match c with
  | [Action.shift t] => some t
  | _ => none

theorem shiftOf_some {c : List Action} {t : Int} (h : shiftOf c = some t) : c = [Action.shift t] := by
  unfold shiftOf at h
  split at h
  · simp only [Option.some.injEq] at h; rw [h]
  · cases h

/-- does the table have the shape of the resolved table of the operator grammar over `ops` with levels `ls`? -/
def opTableOK (ops : List String) (ls : List Level) (T : Table) : Bool :=
  match shiftOf (T.cell 0 "id"), T.goto 0 "E" with
  | some sid, some s1 =>
    let sop := fun o => (shiftOf (T.cell s1 o)).getD (-2)
    let sred := fun o => (T.goto (sop o) "E").getD (-2)
    T.actions.all (fun e => ("id" :: ops ++ [endmarker]).contains e.1.2) &&
    (ops ++ [endmarker]).all (fun a => rejectsB (T.cell 0 a)) &&
    (ops ++ [endmarker]).all (fun a => T.cell sid a == [Action.reduce pid]) && rejectsB (T.cell sid "id") &&
    (T.cell s1 endmarker == [Action.accept]) && rejectsB (T.cell s1 "id") &&
    ops.all (fun o =>
      (T.cell s1 o == [Action.shift (sop o)]) &&
      (T.cell (sop o) "id" == [Action.shift sid]) &&
      (ops ++ [endmarker]).all (fun a => rejectsB (T.cell (sop o) a)) &&
      (T.goto (sop o) "E" == some (sred o)) &&
      (T.cell (sred o) endmarker == [Action.reduce (pb o)]) && rejectsB (T.cell (sred o) "id") &&
      ops.all (fun o2 =>
        match declared ls (pb o) o2 with
        | Choice.reduce => T.cell (sred o) o2 == [Action.reduce (pb o)]
        | Choice.shift => T.cell (sred o) o2 == [Action.shift (sop o2)]
        | Choice.error => false))
  | _, _ => false

theorem opTable_of_ok {ops : List String} {ls : List Level} {T : Table} (h : opTableOK ops ls T = true) :
    Nonempty (OpTable ops ls T.toTbl) := by
  unfold opTableOK at h
  cases hs0 : shiftOf (T.cell 0 "id") with
  | none => simp [hs0] at h
  | some sid =>
    cases hg0 : T.goto 0 "E" with
    | none => simp [hs0, hg0] at h
    | some s1 =>
      simp only [hs0, hg0, Bool.and_eq_true, List.all_eq_true, beq_iff_eq] at h
      obtain ⟨⟨⟨⟨⟨⟨hknown, h0⟩, hsid⟩, hsidid⟩, h1acc⟩, h1id⟩, hops⟩ := h
      have hforeign : ∀ s a, a ≠ "id" → a ∉ ops → a ≠ endmarker → T.cell s a = [] := by
        intro s a h1 h2 h3
        unfold Table.cell
        cases hl : T.actions.lookup (s, a) with
        | none => rfl
        | some acts =>
          exfalso
          have hmem := AlgoVerif.C11.Sound.lookup_mem _ _ _ hl
          have := hknown _ hmem
          simp only [List.contains_iff_mem, List.mem_cons, List.mem_append, List.mem_singleton, List.not_mem_nil,
            or_false] at this
          rcases this with (h' | h') | h'
          · exact h1 h'
          · exact h2 h'
          · exact h3 h'
      have hrej : ∀ s, (∀ a ∈ ops ++ [endmarker], rejectsB (T.cell s a) = true) → ∀ a, a ≠ "id" → Rejects (T.cell s a) := by
        intro s hs a ha
        by_cases hk : a ∈ ops ∨ a = endmarker
        · apply rejects_of_b
          apply hs
          simp only [List.mem_append, List.mem_singleton]
          exact hk
        · rw [hforeign s a ha (fun h' => hk (Or.inl h')) (fun h' => hk (Or.inr h'))]
          intro act hc; cases hc
      have hrej2 : ∀ s, rejectsB (T.cell s "id") = true → ∀ a, a ∉ ops → a ≠ endmarker → Rejects (T.cell s a) := by
        intro s hs a h2 h3
        by_cases h1 : a = "id"
        · rw [h1]; exact rejects_of_b hs
        · rw [hforeign s a h1 h2 h3]
          intro act hc; cases hc
      let sop := fun o => (shiftOf (T.cell s1 o)).getD (-2)
      let sred := fun o => (T.goto (sop o) "E").getD (-2)
      refine ⟨⟨sid, s1, sop, sred, shiftOf_some hs0, hrej 0 h0, hg0, ?_, hrej2 sid hsidid, h1acc, ?_, hrej2 s1 h1id, ?_, ?_, ?_, ?_,
        ?_, ?_⟩⟩
      · intro a ha
        apply hsid
        simp only [List.mem_append, List.mem_singleton]
        exact ha
      · intro o ho
        exact (hops o ho).1.1.1.1.1.1
      · intro o ho
        exact (hops o ho).1.1.1.1.1.2
      · intro o ho
        exact hrej (sop o) (hops o ho).1.1.1.1.2
      · intro o ho
        exact (hops o ho).1.1.1.2
      · intro o ho
        exact (hops o ho).1.1.2
      · intro o ho o2 ho2
        have := (hops o ho).2 o2 ho2
        cases hd : declared ls (pb o) o2 with
        | reduce =>
          rw [hd] at this
          simp only [beq_iff_eq] at this
          exact Or.inl ⟨rfl, this⟩
        | shift =>
          rw [hd] at this
          simp only [beq_iff_eq] at this
          exact Or.inr ⟨rfl, this⟩
        | error => rw [hd] at this; cases this
      · intro o ho
        exact hrej2 (sred o) (hops o ho).1.2

theorem levelsFor_of {ops : List String} {ls : List Level}
    (hlisted : ∀ o, o ∈ ops ↔ ∃ l ∈ ls, Handle.term o ∈ l.handles)
    (hassoc : ∀ l ∈ ls, l.assoc ≠ Assoc.none) (hid : "id" ∉ ops) (hen : endmarker ∉ ops) : LevelsFor ops ls := by
  refine ⟨?_, ?_, hid, hen⟩
  · intro o
    rw [hlisted o]
    unfold strength
    constructor
    · rintro ⟨l, hl, hm⟩
      cases hp : precedenceOf ls (Handle.term o) with
      | none => exact absurd hm ((Sound.precedenceOf_none_iff ls _).mp hp l hl)
      | some r => exact ⟨ls.length - r.1, r.2, rfl⟩
    · rintro ⟨s, a, hs⟩
      cases hp : precedenceOf ls (Handle.term o) with
      | none => rw [hp] at hs; cases hs
      | some r =>
        apply Classical.byContradiction
        intro hno
        have : precedenceOf ls (Handle.term o) = none := (Sound.precedenceOf_none_iff ls _).mpr (fun l hl hm => hno ⟨l, hl, hm⟩)
        rw [hp] at this; cases this
  · intro o s a hs
    unfold strength at hs
    cases hp : precedenceOf ls (Handle.term o) with
    | none => rw [hp] at hs; cases hs
    | some r =>
      obtain ⟨i, a'⟩ := r
      rw [hp] at hs
      simp only [Option.some.injEq, Prod.mk.injEq] at hs
      obtain ⟨l, hl, hla⟩ := Sound.precedenceOf_assoc ls _ i a' hp
      rw [← hs.2, ← hla]
      exact hassoc l hl

end AlgoVerif.C11.Group
