import AlgoVerif.Proofs.Outcome
import AlgoVerif.Proofs.C15Avl
import AlgoVerif.Proofs.C01RbTop
/-!
# C15: structural invariants along histories, and the height bounds
-/
namespace AlgoVerif.C01
open Tree

variable {K V : Type}

/-- a property of the tree that the four mutators keep whenever they return: for every comparator, lawful or not, and
silent on whether they return.  The counterpart of `KindOK` (`C01Run`), which shows that they return and refine the
sorted map but needs `LawfulCmp`.  An invariant that holds without the law (the AVL shape) is a `KindInv`, which is why
`C15_avl` and `C15_height_true` assume nothing about the comparators; one that needs the law anyway (`LLRB`: `_delete`
has to find the key again) rides in the `Good` of `KindOK` (`GoodRB`). -/
structure KindInv (kind : Kind) (cmp : K → K → Int) (P : Tree K V → Prop) : Prop where
  nil : P .nil
  put : ∀ t k v t', P t → put kind cmp t k v = .ok t' → P t'
  delete : ∀ t k t' r, P t → delete kind cmp t k = .ok (t', r) → P t'
  deleteMin : ∀ t t' r, P t → deleteMin kind t = .ok (t', r) → P t'
  deleteMax : ∀ t t' r, P t → deleteMax kind t = .ok (t', r) → P t'

section
variable {kind : Kind} {P : Tree K V → Prop}

theorem putAll_inv {cmp : K → K → Int} (hk : KindInv kind cmp P) (xs : List (K × V)) (m : Tree K V) (hm : P m) :
    (putAll kind cmp xs m).All P :=
  Outcome.All.foldlM xs m hm fun _ _ _ hb _ e => hk.put _ _ _ _ hb e

/-- for `KindInv`, what `GoodS` is for `KindOK` -/
def AllP (P : Tree K V → Prop) (s : State K V) : Prop := P s.1.root ∧ P s.2.1.root ∧ P s.2.2.root

theorem step_inv (hk : ∀ cmp : K → K → Int, KindInv kind cmp P) (s : State K V) (op : Op K V)
    (hs : AllP P s) : (step kind s op).All fun r => AllP P r.1 := by
  obtain ⟨p1, p2, p3⟩ := hs
  have hk1 := hk s.1.cmp
  cases op with
  | put k v => exact .bind fun a e => .ok ⟨hk1.put _ _ _ _ p1 e, p2, p3⟩
  | delete k => exact .bind fun ⟨a, r⟩ e => .ok ⟨hk1.delete _ _ _ _ p1 e, p2, p3⟩
  | deleteMin => exact .bind fun ⟨a, r⟩ e => .ok ⟨hk1.deleteMin _ _ _ p1 e, p2, p3⟩
  | deleteMax => exact .bind fun ⟨a, r⟩ e => .ok ⟨hk1.deleteMax _ _ _ p1 e, p2, p3⟩
  | deleteAll => exact .ok ⟨hk1.nil, p2, p3⟩
  | swap => exact .ok ⟨p2, p1, p3⟩
  | swapC => exact .ok ⟨p3, p2, p1⟩
  | select i => exact .bind fun _ _ => .ok ⟨p1, p2, p3⟩
  | selectMatch p =>
    exact .bind fun m e => .ok ⟨p1, putAll_inv hk1 _ _ hk1.nil m (selectMatch_eq p _ ▸ e), p3⟩
  | partitionMatch p =>
    refine .bind fun ⟨m, u⟩ e => .ok ⟨p1, ?_⟩
    obtain ⟨em, eu⟩ := (partitionMatch_iff p _ m u).1 e
    exact ⟨putAll_inv hk1 _ _ hk1.nil m em, putAll_inv hk1 _ _ hk1.nil u eu⟩
  | size | isEmpty | height | get _ | min | max | floor _ | ceiling _ | rank _ | range _ _
  | rangeSize _ _ | all | allUntil _ | traverse _ _ | equal | equalSelf | equalOther | anyMatch _ | allMatch _
  | firstMatch _ => exact .ok ⟨p1, p2, p3⟩

theorem runFrom_inv (hk : ∀ cmp : K → K → Int, KindInv kind cmp P) :
    ∀ (ops : List (Op K V)) (s s' : State K V) (outs : List (Out K V)), AllP P s →
      runFrom kind s ops = .ok (s', outs) → AllP P s'
  | [], s, s', outs, hs, he => by cases he; exact hs
  | op :: ops, s, s', outs, hs, he => by
    simp only [runFrom] at he
    obtain ⟨⟨s1, o⟩, e0, e1⟩ := bind_eq_ok he
    obtain ⟨⟨s2, os⟩, e2, e3⟩ := bind_eq_ok e1
    cases e3
    exact runFrom_inv hk ops s1 s2 os (step_inv hk s op hs _ e0) e2

theorem run_inv (hk : ∀ cmp : K → K → Int, KindInv kind cmp P) {cmpA cmpB cmpC : K → K → Int}
    {eqA eqB eqC : V → V → Bool} {ops : List (Op K V)} {s : State K V} {outs : List (Out K V)}
    (hrun : run kind (.new cmpA eqA) (.new cmpB eqB) (.new cmpC eqC) ops = .ok (s, outs)) : AllP P s :=
  runFrom_inv hk ops _ s outs ⟨(hk cmpA).nil, (hk cmpB).nil, (hk cmpC).nil⟩ hrun

end

theorem avl_kindInv (cmp : K → K → Int) : KindInv (V := V) .avl cmp AVL where
  nil := trivial
  put := fun t k v t' ht he => by
    obtain ⟨t1, e1, e2, -⟩ := avlPut_avl (cmp := cmp) k v ht
    cases e1.symm.trans he
    exact e2
  delete := fun t k t' r ht he => by
    obtain ⟨t1, r1, e1, e2, -⟩ := avlDelete_avl (cmp := cmp) k ht
    cases e1.symm.trans he
    exact e2
  deleteMin := fun t t' r ht he => by
    cases t with
    | nil => cases he; trivial
    | node l k v s hh c rr =>
      obtain ⟨t1, m, e1, e2, -⟩ := avlDeleteMin_avl l k v s hh c rr ht
      simp only [deleteMin, e1] at he
      cases he
      exact e2
  deleteMax := fun t t' r ht he => by
    cases t with
    | nil => cases he; trivial
    | node l k v s hh c rr =>
      obtain ⟨t1, m, e1, e2, -⟩ := avlDeleteMax_avl rr l k v s hh c ht
      simp only [deleteMax, e1] at he
      cases he
      exact e2

def fib : Nat → Nat
  | 0 => 0
  | 1 => 1
  | n + 2 => fib n + fib (n + 1)

theorem fib_mono_succ : ∀ n, fib n ≤ fib (n + 1)
  | 0 => by decide
  | 1 => by decide
  | n + 2 => by
    have := fib_mono_succ n
    have := fib_mono_succ (n + 1)
    simp only [fib] at *
    omega

theorem fib_mono {m n : Nat} (h : m ≤ n) : fib m ≤ fib n := by
  induction h with
  | refl => exact Nat.le_refl _
  | step _ ih => exact Nat.le_trans ih (fib_mono_succ _)

/-- the step of the two bounds below: the lower subtree is at most one lower, so it holds at least
`fib (max a b + 1) - 1` keys -/
theorem fib_bound (a b na nb : Nat) (h1 : a ≤ b + 1) (h2 : b ≤ a + 1)
    (ia : fib (a + 2) ≤ na + 1) (ib : fib (b + 2) ≤ nb + 1) :
    fib (1 + max a b + 2) ≤ 1 + na + nb + 1 := by
  have e : 1 + max a b + 2 = (max a b + 1) + 2 := by omega
  rw [e, fib]
  rcases Nat.le_total a b with hab | hba
  · rw [Nat.max_eq_right hab]
    show fib (b + 1) + fib (b + 2) ≤ _
    have := fib_mono (by omega : b + 1 ≤ a + 2)
    omega
  · rw [Nat.max_eq_left hba]
    show fib (a + 1) + fib (a + 2) ≤ _
    have := fib_mono (by omega : a + 1 ≤ b + 2)
    omega

theorem balanced_nodes_ge_fib : ∀ {t : Tree K V}, Balanced t → fib (t.realHeight + 2) ≤ t.nodes + 1
  | .nil, _ => by simp [fib, realHeight]
  | .node l k v s h c r, hb => by
    obtain ⟨h1, h2, hl, hr⟩ := hb
    have il := balanced_nodes_ge_fib hl
    have ir := balanced_nodes_ge_fib hr
    simp only [realHeight, nodes_node]
    exact fib_bound l.realHeight r.realHeight l.nodes r.nodes h1 h2 il ir

theorem avl_nodes_ge_fib {t : Tree K V} (ha : AVL t) : fib (t.ht + 2) ≤ t.nodes + 1 :=
  ha.ht_eq ▸ balanced_nodes_ge_fib ha.balanced.1

/-- a red node has black children, so a path passes at most two nodes per black level -/
theorem rb_height_le : ∀ {t : Tree K V}, RB t → t.realHeight ≤ 2 * bh t + (if t.isRed then 1 else 0)
  | .nil, _ => by simp [realHeight]
  | .node l k v s h c r, hrb => by
    simp only [RB_node] at hrb
    obtain ⟨hr, hcl, hb, hL, hR⟩ := hrb
    have il := rb_height_le hL
    have ir := rb_height_le hR
    rw [hr] at ir
    simp only [realHeight, bh_node, isRed_node]
    cases c
    · simp only [Bool.false_eq_true, if_false] at *
      have : (if l.isRed = true then 1 else 0) ≤ 1 := by split <;> omega
      omega
    · have := hcl rfl
      rw [this] at il
      simp only [Bool.false_eq_true, if_false, if_true] at *
      omega

/-- both subtrees have the black height of the left spine, so every black level doubles the number of nodes -/
theorem rb_nodes_ge_pow : ∀ {t : Tree K V}, RB t → 2 ^ bh t ≤ t.nodes + 1
  | .nil, _ => by simp
  | .node l k v s h c r, hrb => by
    simp only [RB_node] at hrb
    obtain ⟨hr, hcl, hb, hL, hR⟩ := hrb
    have il := rb_nodes_ge_pow hL
    have ir := rb_nodes_ge_pow hR
    rw [← hb] at ir
    simp only [bh_node, nodes_node]
    cases c
    · simp only [Bool.false_eq_true, if_false, Nat.pow_succ]
      omega
    · simp only [if_true, Nat.add_zero]
      omega

/-- i.e. `realHeight ≤ 2·log2(nodes+1)` -/
theorem llrb_pow_height_le {t : Tree K V} (ht : LLRB t) : 2 ^ t.realHeight ≤ (t.nodes + 1) ^ 2 := by
  obtain ⟨hrb, hblack⟩ := ht
  have h1 := rb_height_le hrb
  rw [hblack] at h1
  simp only [Bool.false_eq_true, if_false, Nat.add_zero] at h1
  have h2 := rb_nodes_ge_pow hrb
  calc 2 ^ t.realHeight ≤ 2 ^ (2 * bh t) := Nat.pow_le_pow_right (by decide) h1
    _ = (2 ^ bh t) ^ 2 := by rw [Nat.mul_comm, Nat.pow_mul]
    _ ≤ (t.nodes + 1) ^ 2 := Nat.pow_le_pow_left h2 2

end AlgoVerif.C01
