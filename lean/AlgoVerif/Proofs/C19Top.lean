import AlgoVerif.Proofs.C19Refine
/-!
# C19 — from `New` on, and what the Spec's outputs mean

`runNew_refines`: `New` on the bytes of `cs` establishes `Rel` with the initial Spec state, so the whole trace of
a call sequence is the Spec's.  Spec-level facts: the three cursors always partition the source
(`final_partition`), the spans handed out by `Lexeme`/`Skip` concatenate to the flushed prefix (`spans_flatten`).
-/
namespace AlgoVerif.C19
open AlgoVerif AlgoVerif.Generated

/-- the Spec state before any call for the well-formed source `cs` -/
def Spec.init (cs : List Char) : Spec.State := { flushed := [], pending := [], rest := cs, tail := [] }

/-- the Spec state before any call for a source whose well-formed runes `cs` are followed by the bytes `tail` -/
def Spec.initT (cs : List Char) (tail : List UInt8) : Spec.State :=
  { flushed := [], pending := [], rest := cs, tail := tail }

theorem Spec.init_eq_initT (cs : List Char) : Spec.init cs = Spec.initT cs [] := rfl

theorem new_rel {S : List UInt8} {n : Nat} {i : Input} (cs : List Char) (tail : List UInt8)
    (hS : S = Spec.encode cs ++ tail) (htail : tail = [] ∨ ∃ k, decodeRune tail = .invalid k)
    (hinv : Inv S n i 0 0 (min n S.length) 0) (hfresh : Fresh i) :
    Rel S n i (Spec.initT cs tail) 0 0 (min n S.length) 0 :=
  { inv := hinv
    tail := htail
    src := by simp [Spec.initT, Spec.encode, hS]
    lex := ⟨Nat.le_refl _, by simp [Spec.initT, Spec.encode], by simp [Spec.initT, Spec.encode],
            by rw [hfresh.lexemeBegin]; simp [Spec.initT, Spec.encode, idx]; omega⟩
    pos := by simp [Spec.initT, Spec.encode]
    sizes := by rw [hfresh.runeSizes]; rfl
    offset := by rw [hfresh.offset]; rfl
    line := by rw [hfresh.line]; rfl
    column := by rw [hfresh.column]; rfl
    cols := by rw [hfresh.nextColumn, hfresh.lastColumns, hfresh.column]; rfl }

theorem runNew_refines (cs : List Char) (hnul : ∀ c ∈ cs, c.toNat ≠ 0) (n : Nat) (hn : 0 < n)
    (script : List Answer) (tailEof : Bool) (hio : ∀ a ∈ script, a.flag ≠ .ioerr)
    (ops : List Op) (hkeep : Spec.Keeps n (Spec.init cs) ops) :
    runNew ⟨Spec.encode cs, script, tailEof⟩ n ops =
      if cs = [] then .failed .eof else .ran ((Spec.run (Spec.init cs) ops).map .ok) := by
  rw [Spec.init_eq_initT] at hkeep ⊢
  rcases new_spec (Spec.encode cs) script tailEof n hn hio with ⟨hS, hnew⟩ | ⟨hS, i, hnew, hinv, hfresh⟩
  · have : cs = [] := (encode_eq_nil_iff cs).mp hS
    subst this
    simp only [runNew, hnew, if_true]
  · have hne : cs ≠ [] := fun h => hS ((encode_eq_nil_iff cs).mpr h)
    simp only [runNew, hnew, hne, if_false]
    rw [run_refines (nulFree_encode cs hnul) ops i _ _ _ _ _
      (new_rel cs [] (List.append_nil _).symm (Or.inl rfl) hinv hfresh) rfl hkeep]

theorem Spec.step_partition (s : Spec.State) (op : Op) :
    (Spec.step s op).1.flushed ++ (Spec.step s op).1.pending ++ (Spec.step s op).1.rest
      = s.flushed ++ s.pending ++ s.rest := by
  cases op with
  | next =>
    cases hr : s.rest with
    | nil => simp only [Spec.step, hr]; split <;> simp [hr]
    | cons c r => simp [Spec.step, hr]
  | retract =>
    simp only [Spec.step]
    rcases List.eq_nil_or_concat s.pending with hp | ⟨init, c, hp⟩
    · simp [hp]
    · rw [List.concat_eq_append] at hp; simp [hp]
  | lexeme => simp [Spec.step]
  | skip => simp [Spec.step]

theorem Spec.final_partition (s : Spec.State) (ops : List Op) :
    (Spec.final s ops).flushed ++ (Spec.final s ops).pending ++ (Spec.final s ops).rest
      = s.flushed ++ s.pending ++ s.rest := by
  induction ops generalizing s with
  | nil => rfl
  | cons op ops ih => simp only [Spec.final]; rw [ih, Spec.step_partition]

theorem Spec.spans_flatten (s : Spec.State) (ops : List Op) :
    Spec.encode s.flushed ++ (Spec.spans s ops).flatten = Spec.encode (Spec.final s ops).flushed := by
  induction ops generalizing s with
  | nil => simp [Spec.spans, Spec.final]
  | cons op ops ih =>
    cases op with
    | next =>
      simp only [Spec.spans, Spec.final]
      rw [← ih]
      congr 2
      cases hr : s.rest with
      | nil => simp only [Spec.step, hr]; split <;> rfl
      | cons c r => simp [Spec.step, hr]
    | retract =>
      simp only [Spec.spans, Spec.final]
      rw [← ih]
      congr 2
      cases hg : s.pending.getLast? <;> simp [Spec.step, hg]
    | lexeme =>
      simp only [Spec.spans, Spec.final, List.flatten_cons]
      rw [← ih]; simp [Spec.step, encode_append]
    | skip =>
      simp only [Spec.spans, Spec.final, List.flatten_cons]
      rw [← ih]; simp [Spec.step, encode_append]

theorem Spec.run_append (s : Spec.State) (a b : List Op) :
    Spec.run s (a ++ b) = Spec.run s a ++ Spec.run (Spec.final s a) b := by
  induction a generalizing s with
  | nil => rfl
  | cons op a ih => simp only [List.cons_append, Spec.run, Spec.final, ih]

end AlgoVerif.C19
