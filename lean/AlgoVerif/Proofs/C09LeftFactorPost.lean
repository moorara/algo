import AlgoVerif.Proofs.C08LeftFactorMain
/-!
# What `LeftFactor` guarantees of its result (C09)

`LeftFactor` folds the prefix groups of a non-terminal only when the non-terminal has *both* a group of two
or more alternatives with a common first symbol *and* an alternative whose first symbol is unique; it stops
when no non-terminal is in that situation.  So its result need not be left-factored (known finding
`C09-leftfactor-residual`: `S → a b | a c` is returned unchanged).  What it does guarantee, for every
declared non-terminal `A` of the result:

    either no two alternatives of `A` begin with the same symbol,
    or every alternative of `A` begins with the same symbol as another alternative of `A`

(`UniformHeads`, decidable; `SharesFirst g p` = another alternative of `p`'s head begins like `p`).
Consequently the result is `LeftFactored` as soon as every non-terminal with a production has an alternative
with a unique first symbol (`C09_leftfactor_leftFactored_of_unique`).
-/
namespace AlgoVerif.C08
open AlgoVerif AlgoVerif.Gram AlgoVerif.C08.Spec
open LF

theorem lfFold_false : ∀ (nts : List String) (st st' : G × Bool),
    nts.foldlM (fun (st : G × Bool) A => do
      let (g', ch) ← lfHead st.1 A
      pure (g', st.2 || ch)) st = .ok st' → st'.2 = false →
    st.2 = false ∧ st'.1 = st.1 ∧ ∀ A ∈ nts, lfStable st.1 A = true
  | [], st, st', h, hf => by
    cases h
    exact ⟨hf, rfl, by simp⟩
  | A :: nts, st, st', h, hf => by
    rw [foldlM_cons] at h
    obtain ⟨st₁, h₁, h₂⟩ := bind_eq_ok h
    obtain ⟨⟨g₁, ch⟩, hh, hp⟩ := bind_eq_ok h₁
    cases hp
    obtain ⟨hf₁, hg, hall⟩ := lfFold_false nts _ st' h₂ hf
    simp only [Bool.or_eq_false_iff] at hf₁
    obtain ⟨hg₁, hst⟩ := lfHead_flag hh hf₁.2
    simp only at hg hall
    subst hg₁
    refine ⟨hf₁.1, hg, ?_⟩
    intro B hB
    rcases List.mem_cons.1 hB with rfl | hB
    · exact hst
    · exact hall B hB

theorem lfPass_false {g g' : G} (h : lfPass g = .ok (g', false)) :
    g' = g ∧ ∀ A ∈ g.nonterms, lfStable g A = true := by
  unfold lfPass at h
  obtain ⟨nts, hnts, h'⟩ := bind_eq_ok h
  obtain ⟨_, hg, hall⟩ := lfFold_false nts (g, false) (g', false) h' rfl
  exact ⟨hg, fun A hA => hall A (orderNT_mem hnts A hA)⟩

theorem lfLoop_stable : ∀ (fuel : Nat) (g g' : G), lfLoop fuel g = .ok g' →
    ∀ A ∈ g'.nonterms, lfStable g' A = true
  | 0, _, _, h => by cases h
  | fuel + 1, g, g', h => by
    simp only [lfLoop] at h
    obtain ⟨⟨g₁, ch⟩, hp, h'⟩ := bind_eq_ok h
    cases ch with
    | true =>
      simp only [↓reduceIte] at h'
      exact lfLoop_stable fuel g₁ g' h'
    | false =>
      simp only [Bool.false_eq_true, ↓reduceIte] at h'
      cases h'
      obtain ⟨rfl, hall⟩ := lfPass_false hp
      exact hall

/-- another alternative of the same head begins with the same symbol (both empty counts as "the same") -/
def SharesFirst (g : G) (p : SProd) : Prop :=
  ∃ q ∈ g.prods, q.head = p.head ∧ q ≠ p ∧ q.body.take 1 = p.body.take 1

instance (g : G) (p : SProd) : Decidable (SharesFirst g p) := by unfold SharesFirst; infer_instance

def UniformHeads (g : G) : Prop :=
  ∀ A ∈ g.nonterms, (∀ p ∈ g.prods, p.head = A → ¬ SharesFirst g p) ∨ (∀ p ∈ g.prods, p.head = A → SharesFirst g p)

instance (g : G) : Decidable (UniformHeads g) := by unfold UniformHeads; infer_instance

theorem prod_ext {p q : SProd} (hh : p.head = q.head) (h1 : p.body.take 1 = q.body.take 1)
    (h2 : p.body.drop 1 = q.body.drop 1) : p = q := by
  cases p with
  | mk ph pb =>
    cases q with
    | mk qh qb =>
      simp only at hh h1 h2
      subst hh
      have : pb = qb := by
        rw [← List.take_append_drop 1 pb, ← List.take_append_drop 1 qb, h1, h2]
      rw [this]

theorem lfStable_uniform {g : G} {A : String} (h : lfStable g A = true) :
    (∀ p ∈ g.prods, p.head = A → ¬ SharesFirst g p) ∨ (∀ p ∈ g.prods, p.head = A → SharesFirst g p) := by
  have hok := groupsOf_ok (prodsOf g.prods A)
  have hgroup : ∀ p ∈ g.prods, p.head = A →
      ∃ e ∈ groupsOf (prodsOf g.prods A), e.1 = p.body.take 1 ∧ p.body.drop 1 ∈ e.2 := by
    intro p hp hh
    rw [groupsOf_eq]
    exact foldl_gstep_complete _ [] p (mem_prodsOf.2 ⟨hp, hh⟩)
  unfold lfStable at h
  simp only [Bool.or_eq_true, List.isEmpty_iff] at h
  rcases h with h | h
  · -- no group has two suffixes
    left
    intro p hp hh ⟨q, hq, hqh, hne, hfirst⟩
    obtain ⟨e, he, hk, hs⟩ := hgroup p hp hh
    obtain ⟨e', he', hk', hs'⟩ := hgroup q hq (hqh.trans hh)
    have hee : e' = e := inj_of_nodup_map Prod.fst hok.keys e' he' e he (by rw [hk', hk, hfirst])
    subst hee
    have hdiff : q.body.drop 1 ≠ p.body.drop 1 := fun hd => hne (prod_ext hqh hfirst hd)
    have hlen := two_le_length_of_ne hs' hs hdiff
    have : e' ∈ (groupsOf (prodsOf g.prods A)).filter (fun e => e.2.length ≥ 2) :=
      List.mem_filter.2 ⟨he, by simpa using hlen⟩
    rw [h] at this
    cases this
  · -- no group has exactly one suffix
    right
    intro p hp hh
    obtain ⟨e, he, hk, hs⟩ := hgroup p hp hh
    have hlen : 2 ≤ e.2.length := by
      have hne := hok.nonempty e he
      have h1 : ¬ e.2.length = 1 := by
        intro h1
        have : e ∈ (groupsOf (prodsOf g.prods A)).filter (fun e => e.2.length = 1) :=
          List.mem_filter.2 ⟨he, by simpa using h1⟩
        rw [h] at this
        cases this
      have h0 : e.2.length ≠ 0 := fun h0 => hne (List.eq_nil_of_length_eq_zero h0)
      omega
    obtain ⟨s', hs', hne⟩ := exists_ne_of_nodup (hok.sufs e he) hlen (p.body.drop 1)
    obtain ⟨q, hq, hqk, hqs⟩ := hok.from_prod e he s' hs'
    have hq' := mem_prodsOf.1 hq
    refine ⟨q, hq'.1, hq'.2.trans hh.symm, ?_, by rw [hqk, hk]⟩
    intro hqp
    exact hne (by rw [← hqs, hqp])

theorem C09_leftfactor_uniformHeads {G₀ G' : G} (h : leftFactor G₀ = .ok G') : UniformHeads G' :=
  fun A hA => lfStable_uniform (lfLoop_stable _ G₀ G' h A hA)

theorem C09_leftfactor_valid {G₀ G' : G} (hv : Valid G₀) (h : leftFactor G₀ = .ok G') : Valid G' := by
  refine lfLoop_preserves (fun g g' A ch hh hvg => ?_) _ G₀ G' h hv
  rcases lfHead_spec hh hvg.wellFormed with rfl | ⟨F, hF⟩
  · exact hvg
  · exact hF.valid hvg

/-- `huniq` is the situation `LeftFactor` is written for; without it see the known finding `C09-leftfactor-residual` -/
theorem C09_leftfactor_leftFactored_of_unique {G₀ G' : G} (hw : WellFormed G₀) (h : leftFactor G₀ = .ok G')
    (huniq : ∀ p ∈ G'.prods, ∃ q ∈ G'.prods, q.head = p.head ∧ ¬ SharesFirst G' q) :
    AlgoVerif.C09.Spec.LeftFactored G' := by
  have hw' := C08_leftfactor_wellFormed hw h
  have hU := C09_leftfactor_uniformHeads h
  intro p hp q hq hh hne hbody hfirst
  have hA := (hw'.2 p hp).1
  have hshare : SharesFirst G' p := by
    refine ⟨q, hq, hh.symm, fun e => hne e.symm, ?_⟩
    cases hpb : p.body with
    | nil => exact absurd hpb hbody
    | cons x xs =>
      rw [hpb] at hfirst
      cases hqb : q.body with
      | nil => rw [hqb] at hfirst; simp at hfirst
      | cons y ys =>
        rw [hqb] at hfirst
        simp only [List.head?_cons, Option.some.injEq] at hfirst
        simp [hfirst]
  rcases hU p.head hA with hnone | hall
  · exact hnone p hp rfl hshare
  · obtain ⟨r, hr, hrh, hrn⟩ := huniq p hp
    exact hrn (hall r hr hrh)

def leftFactorExample : G :=
  { terms := ["a", "b", "c", "d"]
    nonterms := ["S"]
    prods := [{ head := "S", body := [.term "a", .term "b"] }, { head := "S", body := [.term "a", .term "c"] },
              { head := "S", body := [.term "d"] }]
    start := "S" }

theorem leftFactorExample_run : Valid leftFactorExample ∧ Hygienic leftFactorExample ∧
    (leftFactor leftFactorExample).map showGrammar =
      .ok "start=S T={a,b,c,d} N={S,S′} P={S′→b; S′→c; S→a S′; S→d}" :=
  ⟨by decide +kernel, hygienic_of_last (by decide +kernel) (by decide +kernel), by decide +kernel⟩

/-- the hypotheses of the theorems are met by a grammar on which `LeftFactor` really folds a group -/
example : ∃ G', leftFactor leftFactorExample = .ok G' ∧ SameLanguage leftFactorExample G' ∧ UniformHeads G' ∧ Valid G' := by
  obtain ⟨hv, hh, hrun⟩ := leftFactorExample_run
  obtain ⟨G', h, _⟩ := Outcome.map_eq_ok hrun
  exact ⟨G', h, C08_leftfactor hv hh h, C09_leftfactor_uniformHeads h, C09_leftfactor_valid hv h⟩

end AlgoVerif.C08
