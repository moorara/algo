import AlgoVerif.Proofs.C06PRep
/-!
# C06 — Patricia `_put` on the represented tree

On the key's path `putLoop` stops at the link behind the steps with bit position below the first differing bit
(`putLoop_plug`); hanging the new node there puts its `graft` at the end of that path (`rep_ins_plug`, an instance of
`RepG.redirect`).
-/
namespace AlgoVerif.C06
variable {V : Type}
open BitString (xbit Small)

open PT

namespace Patricia

theorem Rep.path_ne_other {t : Patricia V} {d : Bool} {i bp : Nat} {P O : PT V} {pP pO : Option Nat}
    (hP : Rep t bp pP P) (hO : Rep t bp pO O) (hc : Crit (fork d i bp P O)) : pP ≠ pO := by
  intro heq
  subst heq
  have := hP.unique hO
  subst this
  obtain ⟨_, h1, h2, _⟩ := crit_fork.mp hc
  cases hk : keys P with
  | nil => exact keys_ne_nil P hk
  | cons k ks =>
    have hm : k ∈ keys P := by rw [hk]; exact List.mem_cons_self ..
    have := h1 k hm
    rw [h2 k hm] at this
    cases d <;> cases this

def newNode (key : Key) (v : V) (d : Nat) (next : Option Nat) (self : Nat) : PNode V :=
  if xbit key (d - 1) then { bp := d, key := key, val := v, left := next, right := some self }
  else { bp := d, key := key, val := v, left := some self, right := next }

theorem newNode_bp (key : Key) (v : V) (d : Nat) (next : Option Nat) (self : Nat) :
    (newNode key v d next self).bp = d := by
  unfold newNode
  split <;> rfl

theorem link_newNode (key : Key) (v : V) (d : Nat) (next : Option Nat) (self : Nat) :
    link (newNode key v d next self) (xbit key (d - 1)) = some self ∧
      link (newNode key v d next self) (!xbit key (d - 1)) = next := by
  unfold newNode
  cases xbit key (d - 1) <;> exact ⟨rfl, rfl⟩

theorem putLoop_plug {t : Patricia V} {key : Key} {d : Nat} {C1 C2 : List (Step V)} {j : Nat} {k : Key} {v' : V}
    (hC : ∀ s ∈ C1 ++ C2, s.d = xbit key (s.bp - 1)) (h1 : ∀ s ∈ C1, s.bp < d) (h2 : ∀ s D, C2 = s :: D → ¬ s.bp < d)
    {a : Nat × Bool} {an : PNode V} {f : Nat} (ha : t.nodes[a.1]? = some an)
    (h : Rep t an.bp (link an a.2) (plug (C1 ++ C2) (leaf j k v'))) (hf : above t an.bp < f) :
    putLoop t key d f (some a.1) (link an a.2) = .ok (some (endOwner a C1).1, some (plug C2 (leaf j k v')).idx) := by
  induction C1 generalizing a an f with
  | nil =>
    cases C2 with
    | nil =>
      obtain ⟨n, f, rfl, hp, hn, hb, -, -⟩ := h.leaf_fuel hf
      simp [putLoop, node_some ha, hp, node_some hn, Nat.not_lt.mpr hb, endOwner, plug, idx]
    | cons s D =>
      obtain ⟨n, f, rfl, hp, hn, hbp, -, -, -, -⟩ := Rep.fork_fuel (d := s.d) 1 h hf
      have := h2 s D rfl
      simp [putLoop, node_some ha, hp, node_some hn, hbp, this, endOwner, plug]
  | cons c C1 ih =>
    obtain ⟨n, f, rfl, hp, hn, hbp, hb, hP, -, hf⟩ := Rep.fork_fuel (d := c.d) 1 h hf
    have hlt : n.bp < d := hbp ▸ h1 c (List.mem_cons_self ..)
    simp only [putLoop, node_some ha, hp, node_some hn, Outcome.ok_bind, gt_iff_lt, hb, hlt, decide_true, Bool.and_self, if_true]
    rw [BitString.bit_ok_of_pos _ (by omega), Outcome.ok_bind, hbp, ← hC c (by simp)]
    exact ih (a := (c.i, c.d)) (fun s hs => hC s (List.mem_cons_of_mem _ hs)) (fun s hs => h1 s (List.mem_cons_of_mem _ hs))
      hn hP hf

theorem end_node {t : Patricia V} {C : List (Step V)} {X : PT V} {a : Nat × Bool} {an : PNode V}
    (ha : t.nodes[a.1]? = some an) (h : Rep t an.bp (link an a.2) (plug C X)) (hc : Crit (plug C X)) :
    ∃ en, t.nodes[(endOwner a C).1]? = some en ∧ link en (endOwner a C).2 = some X.idx ∧
      ((C = [] ∧ en = an) ∨ ∃ c ∈ C, en.bp = c.bp ∧ ((endOwner a C).2 = true → en.left ≠ some X.idx)) := by
  rcases List.eq_nil_or_concat C with rfl | ⟨C', c, hcc⟩
  · exact ⟨an, ha, h.shape.idx_eq, .inl ⟨rfl, rfl⟩⟩
  · rw [List.concat_eq_append] at hcc
    subst hcc
    rw [plug_append] at h hc
    obtain ⟨-, en', -, hF⟩ := (rep_plug ha).mp h
    obtain ⟨-, n, hn, hbp, -, hP, hO⟩ := rep_fork.mp hF
    have hne := hP.path_ne_other hO (crit_plug hc)
    rw [endOwner_concat]
    refine ⟨n, hn, hP.shape.idx_eq, .inr ⟨c, by simp, hbp, fun hd e => ?_⟩⟩
    have hd : c.d = true := hd
    rw [hd] at hne hP
    exact hne (hP.shape.idx_eq.trans e.symm)

/-- `_put` redirects the left link if it is the one it followed, else the right one -/
theorem setLink_of_test {t1 : Patricia V} {pi : Nat} {sd : Bool} {pn : PNode V} {next x : Option Nat}
    (h : link pn sd = next) (hne : sd = true → pn.left ≠ next) :
    (if pn.left == next then t1.setLeft pi x else t1.setRight pi x) = setLink t1 pi sd x := by
  cases sd
  · have : (pn.left == next) = true := beq_iff_eq.mpr h
    simp [setLink, this]
  · have : (pn.left == next) = false := beq_eq_false_iff_ne.mpr (hne rfl)
    simp [setLink, this]

def pushed (t : Patricia V) (nw : PNode V) : Patricia V := { t with nodes := t.nodes.push nw }

theorem redirect_pushed (t : Patricia V) (nw : PNode V) (i : Nat) (sd : Bool) (x : Option Nat) :
    Redirect t (setLink (pushed t nw) i sd x) (i, sd) x := by
  intro j n h
  have := lt_size_of_getElem? h
  exact redirect_setLink (pushed t nw) i sd x j n
    (by simp [pushed, Array.getElem?_push, show j ≠ t.nodes.size by omega, h])

theorem graft_rep {t' : Patricia V} {S : PT V} {b d sz : Nat} {key : Key} {v : V} (hS : Rep t' d (some S.idx) S)
    (hnw : t'.nodes[sz]? = some (newNode key v d (some S.idx) sz)) (hbd : b < d) :
    Rep t' b (some sz) (graft S key v d sz) := by
  obtain ⟨h1, h2⟩ := link_newNode key v d (some S.idx) sz
  have hkv : (newNode key v d (some S.idx) sz).key = key ∧ (newNode key v d (some S.idx) sz).val = v := by
    unfold newNode; split <;> exact ⟨rfl, rfl⟩
  refine rep_fork.mpr ⟨rfl, _, hnw, newNode_bp .., hbd, ?_, by rw [h2]; exact hS⟩
  rw [h1]
  exact ⟨rfl, _, hnw, Nat.le_of_eq (newNode_bp ..), hkv.1, hkv.2⟩

theorem rep_ins_plug {t : Patricia V} {key : Key} {v : V} {d : Nat} {C : List (Step V)} {X : PT V}
    {a : Nat × Bool} {an an' : PNode V} (ha : t.nodes[a.1]? = some an)
    (h : Rep t an.bp (link an a.2) (plug C X)) (hnd : (a.1 :: inners (plug C X)).Nodup)
    (hlt : ∀ en, t.nodes[(endOwner a C).1]? = some en → en.bp < d)
    (hbig : ∀ i bp l r, X = .inner i bp l r → d < bp)
    (ha' : (setLink (pushed t (newNode key v d (some X.idx) t.nodes.size)) (endOwner a C).1
      (endOwner a C).2 (some t.nodes.size)).nodes[a.1]? = some an') :
    Rep (setLink (pushed t (newNode key v d (some X.idx) t.nodes.size)) (endOwner a C).1
        (endOwner a C).2 (some t.nodes.size)) an'.bp (link an' a.2) (plug C (graft X key v d t.nodes.size)) := by
  have hr := redirect_pushed t (newNode key v d (some X.idx) t.nodes.size) (endOwner a C).1
    (endOwner a C).2 (some t.nodes.size)
  have hL : ∀ (i : Nat) (n n' : PNode V) (b : Nat), n'.bp = n.bp → n.bp ≤ b → n'.bp ≤ b := fun _ _ _ _ hb hl => hb ▸ hl
  rw [rep_eq] at h ⊢
  refine RepG.redirect hL ha h hnd hr (fun en he hS => ?_) ha'
  have hlt' := lt_size_of_getElem? he
  -- what hangs below the new node is raised to `d` and grafted as a `Rep`: its thread condition is what both steps use
  rw [hS.idx_eq, ← rep_eq] at hS
  have hS' := hS.raise (Nat.le_of_lt (hlt en he)) hbig
  rw [rep_eq] at hS'
  rw [← rep_eq]
  refine graft_rep (rep_eq _ ▸ hr.repG hL (endOwner_not_inner hnd).1 hS') ?_ (hlt en he)
  rw [setLink_nodes, if_neg (by omega)]
  simp [pushed]

end Patricia
end AlgoVerif.C06

