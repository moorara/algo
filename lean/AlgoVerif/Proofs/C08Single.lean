import AlgoVerif.Proofs.C08Fresh
/-!
# `EliminateSingleProductions`
-/
namespace AlgoVerif.C08
open AlgoVerif AlgoVerif.Gram AlgoVerif.C08.Spec

def ClosureSound (g : G) (cl : Closure) : Prop :=
  ∀ e ∈ cl, e.1 ∈ g.nonterms ∧ ∀ B ∈ e.2, Derives g [Sym.nonterm e.1] [Sym.nonterm B]

theorem mem_unitTargets {ps : List SProd} {A B : String} (h : B ∈ unitTargets ps A) :
    ({ head := A, body := [Sym.nonterm B] } : SProd) ∈ ps := by
  unfold unitTargets at h
  obtain ⟨p, hp, hpb⟩ := List.mem_filterMap.mp h
  split at hpb
  · rename_i hh
    split at hpb
    · rename_i b hb
      cases hpb
      exact prod_eq hh hb ▸ hp
    · cases hpb
  · cases hpb

theorem closureInit_sound (g : G) : ClosureSound g (closureInit g) := by
  intro e he
  unfold closureInit at he
  obtain ⟨A, hA, rfl⟩ := List.mem_map.mp he
  refine ⟨hA, fun B hB => ?_⟩
  rcases mem_insAll.mp hB with hB | hB
  · simp at hB; subst hB; exact Derives.refl _
  · exact Derives.of_prod (mem_unitTargets hB)

theorem lookup_some_mem {β : Type} {l : List (String × β)} {k : String} {v : β} (h : l.lookup k = some v) :
    (k, v) ∈ l := by
  obtain ⟨l₁, l₂, rfl, _⟩ := List.lookup_eq_some_iff.1 h
  simp

theorem lookup_mem {cl : Closure} {B : String} {C : String} (h : C ∈ (cl.lookup B).getD []) :
    ∃ e ∈ cl, e.1 = B ∧ C ∈ e.2 := by
  cases hl : cl.lookup B with
  | none => simp [hl] at h
  | some v => exact ⟨(B, v), lookup_some_mem hl, rfl, by simpa [hl] using h⟩

/-- the new closure set of `A` in one pass -/
def closureGrow (cl : Closure) (cA : List String) : List String :=
  cA.foldl (fun acc B => insAll acc ((cl.lookup B).getD [])) cA

theorem closurePass_eq (cl : Closure) : closurePass cl = cl.map (fun e => (e.1, closureGrow cl e.2)) := by
  unfold closurePass closureGrow
  apply List.map_congr_left
  intro e _
  rfl

theorem closureGrow_prefix (cl : Closure) (cA : List String) : cA <+: closureGrow cl cA := by
  unfold closureGrow
  exact foldl_prefix _ (fun l b => insAll_prefix _ l) cA cA

theorem mem_closureGrow_iff {cl : Closure} {cA : List String} {C : String} :
    C ∈ closureGrow cl cA ↔ C ∈ cA ∨ ∃ B ∈ cA, C ∈ (cl.lookup B).getD [] :=
  mem_foldl_iff (S := fun B C => C ∈ (cl.lookup B).getD []) (fun _ _ _ => mem_insAll) cA cA C

theorem closurePass_sound {g : G} {cl : Closure} (h : ClosureSound g cl) : ClosureSound g (closurePass cl) := by
  intro e he
  rw [closurePass_eq] at he
  obtain ⟨e0, he0, rfl⟩ := List.mem_map.mp he
  refine ⟨(h e0 he0).1, fun C hC => ?_⟩
  rcases mem_closureGrow_iff.1 hC with hC | ⟨B, hB, hC⟩
  · exact (h e0 he0).2 C hC
  ·
    obtain ⟨e', he', rfl, hC'⟩ := lookup_mem hC
    exact ((h e0 he0).2 _ hB).trans ((h e' he').2 C hC')

theorem closureOf_sound {g : G} {cl : Closure} (h : closureOf g = .ok cl) : ClosureSound g cl := by
  unfold closureOf at h
  exact iterFix_inv closurePass (ClosureSound g) (fun _ => closurePass_sound) _ _ _ (closureInit_sound g) (ofOpt_ok h)

/-- the production list `EliminateSingleProductions` builds before pruning -/
def singleProds (g : G) (cl : Closure) : List SProd :=
  cl.foldl (fun acc e =>
      e.2.foldl (fun acc B =>
        (prodsOf g.prods B).foldl (fun acc p => if isSingle p then acc else ins acc { head := e.1, body := p.body }) acc) acc) []

theorem elimSingle_ok {g g' : G} (h : elimSingle g = .ok g') :
    ∃ cl, closureOf g = .ok cl ∧ g' = prune { g with prods := singleProds g cl } := by
  unfold elimSingle at h
  split at h
  · cases h
  · obtain ⟨cl, hc, h⟩ := bind_eq_ok h
    split at h
    · cases h
    · cases h
      exact ⟨cl, hc, rfl⟩

def SingleInv (g : G) (acc : List SProd) : Prop :=
  ∀ p' ∈ acc, isSingle p' = false ∧
    ∃ B, Derives g [Sym.nonterm p'.head] [Sym.nonterm B] ∧ ({ head := B, body := p'.body } : SProd) ∈ g.prods

theorem mem_singleProds_iff {g : G} {cl : Closure} {p' : SProd} :
    p' ∈ singleProds g cl ↔
      ∃ e ∈ cl, ∃ B ∈ e.2, ∃ p ∈ g.prods, p.head = B ∧ isSingle p = false ∧ p' = { head := e.1, body := p.body } := by
  -- one use of `mem_foldl_iff` per fold, from the outermost in
  refine (mem_foldl_iff (S := fun e p' => ∃ B ∈ e.2, ∃ p ∈ g.prods, p.head = B ∧ isSingle p = false ∧
    p' = { head := e.1, body := p.body }) (fun acc e x => ?_) cl [] p').trans (by simp only [List.not_mem_nil, false_or])
  refine mem_foldl_iff (S := fun B p' => ∃ p ∈ g.prods, p.head = B ∧ isSingle p = false ∧
    p' = { head := e.1, body := p.body }) (fun acc B x => ?_) e.2 acc x
  refine (mem_foldl_iff (S := fun p p' => isSingle p = false ∧ p' = { head := e.1, body := p.body })
    (fun acc p x => ?_) (prodsOf g.prods B) acc x).trans ?_
  · split
    · next h => simp [h]
    · next h => simp [mem_ins, h]
  · simp only [prodsOf, List.mem_filter, decide_eq_true_eq, and_assoc]

theorem singleProds_spec {g : G} {cl : Closure} (hcl : ClosureSound g cl) : SingleInv g (singleProds g cl) := by
  intro p' hp'
  obtain ⟨e, he, B, hB, p, hp, rfl, hs, rfl⟩ := mem_singleProds_iff.1 hp'
  exact ⟨hs, p.head, (hcl e he).2 _ hB, hp⟩

theorem elimSingle_sound {g g' : G} (h : elimSingle g = .ok g') {w : List String} (hw : Language g' w) :
    Language g w := by
  obtain ⟨cl, hc, rfl⟩ := elimSingle_ok h
  have hspec := singleProds_spec (closureOf_sound hc)
  unfold Language at hw ⊢
  rw [prune_start] at hw
  refine Derives.of_derivable_prods ?_ hw
  intro p hp
  obtain ⟨_, B, hAB, hB⟩ := hspec p (prune_prods_subset _ p hp)
  exact hAB.trans (Derives.of_prod hB)

theorem elimSingle_noUnit {g g' : G} (h : elimSingle g = .ok g') : AlgoVerif.C09.Spec.NoUnit g' := by
  obtain ⟨cl, hc, rfl⟩ := elimSingle_ok h
  intro p hp
  exact (singleProds_spec (closureOf_sound hc) p (prune_prods_subset _ p hp)).1

def InClosure (cl : Closure) (A B : String) : Prop := ∃ cA, cl.lookup A = some cA ∧ B ∈ cA

theorem lookup_map_key {α : Type} (f : String → α) (l : List String) (A : String) (hA : A ∈ l) :
    (l.map (fun a => (a, f a))).lookup A = some (f A) := by
  induction l with
  | nil => cases hA
  | cons a l ih =>
    simp only [List.map_cons, List.lookup]
    by_cases h : A = a
    · subst h; simp
    · have : (A == a) = false := by simpa using h
      rw [this]
      rcases List.mem_cons.mp hA with h' | h'
      · exact absurd h' h
      · exact ih h'

theorem lookup_map_val (F : String → List String → List String) (cl : Closure) (A : String) :
    (cl.map (fun e => (e.1, F e.1 e.2))).lookup A = (cl.lookup A).map (F A) := by
  induction cl with
  | nil => simp [List.lookup]
  | cons e cl ih =>
    obtain ⟨k, v⟩ := e
    simp only [List.map_cons, List.lookup]
    by_cases h : A = k
    · subst h; simp
    · have : (A == k) = false := by simpa using h
      rw [this]
      exact ih

def ClosureBase (g : G) (cl : Closure) : Prop :=
  ∀ A ∈ g.nonterms, ∃ cA, cl.lookup A = some cA ∧ A ∈ cA ∧ ∀ B, B ∈ unitTargets g.prods A → B ∈ cA

theorem closureInit_base (g : G) : ClosureBase g (closureInit g) := by
  intro A hA
  refine ⟨insAll [A] (unitTargets g.prods A), ?_, ?_, ?_⟩
  · unfold closureInit
    exact lookup_map_key (fun A => insAll [A] (unitTargets g.prods A)) g.nonterms A hA
  · exact mem_insAll.mpr (Or.inl (by simp))
  · intro B hB; exact mem_insAll.mpr (Or.inr hB)

theorem closurePass_base {g : G} {cl : Closure} (h : ClosureBase g cl) : ClosureBase g (closurePass cl) := by
  intro A hA
  obtain ⟨cA, h1, h2, h3⟩ := h A hA
  refine ⟨closureGrow cl cA, ?_, (closureGrow_prefix cl cA).subset h2, fun B hB => (closureGrow_prefix cl cA).subset (h3 B hB)⟩
  rw [closurePass_eq, lookup_map_val (fun _ c => closureGrow cl c), h1]
  rfl

theorem closure_trans {cl : Closure} (hfix : closurePass cl = cl) {A B C : String}
    (hAB : InClosure cl A B) (hBC : InClosure cl B C) : InClosure cl A C := by
  obtain ⟨cA, hA, hB⟩ := hAB
  obtain ⟨cB, hB', hC⟩ := hBC
  refine ⟨cA, hA, ?_⟩
  have h1 : (closurePass cl).lookup A = some (closureGrow cl cA) := by
    rw [closurePass_eq, lookup_map_val (fun _ c => closureGrow cl c), hA]; rfl
  rw [hfix, hA] at h1
  rw [Option.some.inj h1]
  exact mem_closureGrow_iff.2 (.inr ⟨B, hB, by rw [hB']; exact hC⟩)

theorem closureOf_spec {g : G} {cl : Closure} (h : closureOf g = .ok cl) :
    ClosureBase g cl ∧ closurePass cl = cl := by
  unfold closureOf at h
  have h' := ofOpt_ok h
  exact ⟨iterFix_inv closurePass (ClosureBase g) (fun _ => closurePass_base) _ _ _ (closureInit_base g) h',
    iterFix_fix _ _ _ _ h'⟩

theorem mem_unitTargets_of {ps : List SProd} {A B : String}
    (h : ({ head := A, body := [Sym.nonterm B] } : SProd) ∈ ps) : B ∈ unitTargets ps A := by
  unfold unitTargets
  exact List.mem_filterMap.mpr ⟨_, h, by simp⟩

theorem mem_singleProds {g : G} {cl : Closure} {A B : String} {p : SProd}
    (hAB : InClosure cl A B) (hp : p ∈ g.prods) (hh : p.head = B) (hs : isSingle p = false) :
    ({ head := A, body := p.body } : SProd) ∈ singleProds g cl := by
  obtain ⟨cA, hA, hB⟩ := hAB
  exact mem_singleProds_iff.2 ⟨(A, cA), lookup_some_mem hA, B, hB, p, hp, hh, hs, rfl⟩

theorem isSingle_iff {p : SProd} : isSingle p = true ↔ ∃ B, p.body = [Sym.nonterm B] := by
  unfold isSingle
  split
  · rename_i b hb; exact ⟨fun _ => ⟨b, hb⟩, fun _ => rfl⟩
  · rename_i hne
    constructor
    · intro h; cases h
    · rintro ⟨B, hB⟩; exact (hne B hB).elim

theorem elimSingle_complete {g g' : G} (h : elimSingle g = .ok g') (hv : WellFormed g) {w : List String}
    (hw : Language g w) : Language g' w := by
  obtain ⟨cl, hc, rfl⟩ := elimSingle_ok h
  rw [prune_language]
  obtain ⟨hbase, hfix⟩ := closureOf_spec hc
  obtain ⟨hstart, hdecl⟩ := hv
  let g0 : G := { g with prods := singleProds g cl }
  have hrefl : ∀ A ∈ g.nonterms, InClosure cl A A := fun A hA => by
    obtain ⟨cA, h1, h2, _⟩ := hbase A hA
    exact ⟨cA, h1, h2⟩
  -- a form of declared symbols is replayed in `g0`, also with its first symbol `B` replaced by an `A0` whose closure holds `B`
  refine (Derives.tree_induction (g := g)
    (Q := fun α w => (∀ n, Sym.nonterm n ∈ α → n ∈ g.nonterms) → Derives g0 α (w.map Sym.term) ∧
      ∀ A0 B β, α = Sym.nonterm B :: β → InClosure cl A0 B → Derives g0 (Sym.nonterm A0 :: β) (w.map Sym.term))
    (fun _ => ⟨.refl _, fun _ _ _ h => by cases h⟩)
    (fun t β w hβ hd => ⟨by simpa using (hβ fun n hn => hd n (List.mem_cons_of_mem _ hn)).1.append_left [Sym.term t],
      fun _ _ _ h => by cases h⟩)
    ?_ hw (by simpa using hstart)).1
  intro p hp β w₁ w₂ _ hb hβ hd
  have hA : p.head ∈ g.nonterms := hd _ (List.mem_cons_self ..)
  have hb' := hb fun n hn => (hdecl p hp).2 _ hn
  have hβ' := (hβ fun n hn => hd n (List.mem_cons_of_mem _ hn)).1
  have lift : ∀ A0, InClosure cl A0 p.head → Derives g0 (Sym.nonterm A0 :: β) ((w₁ ++ w₂).map Sym.term) := by
    intro A0 hA0
    have : Derives g0 [Sym.nonterm A0] (w₁.map Sym.term) := by
      cases hs : isSingle p with
      | true =>
        -- a unit step `A → B`: `B` is in the closure of `A0` too
        obtain ⟨B, hB⟩ := isSingle_iff.mp hs
        obtain ⟨cA, h1, _, h3⟩ := hbase p.head hA
        exact hb'.2 A0 B [] hB (closure_trans hfix hA0 ⟨cA, h1, h3 B (mem_unitTargets_of (prod_eq rfl hB ▸ hp))⟩)
      | false => exact (Derives.of_prod (g := g0) (mem_singleProds hA0 hp rfl hs)).trans hb'.1
    simpa using this.append hβ'
  exact ⟨lift _ (hrefl _ hA), fun A0 B β' h h0 => by cases h; exact lift A0 h0⟩

theorem elimSingle_language {g g' : G} (h : elimSingle g = .ok g') (hv : WellFormed g) (w : List String) :
    Language g' w ↔ Language g w :=
  ⟨elimSingle_sound h, elimSingle_complete h hv⟩

end AlgoVerif.C08
