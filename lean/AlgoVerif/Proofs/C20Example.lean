import AlgoVerif.Proofs.C20
/-!
Concrete programs for the non-vacuity examples of `Props/C20.lean`: a three-thread program with
data-dependent control flow that satisfies the ownership discipline, and a program of the shape of defect D25
(DESIGN.md §2, repaired in /repo) in which two threads update one package-level cell.
-/
namespace AlgoVerif.C20.C20Example
open AlgoVerif AlgoVerif.C20

/-- Locations 0,1,2 are the private cells of threads 0,1,2; every other location is package level. -/
def owner (l : Nat) : Option Tid := if l < 3 then some l else none

/-- local state = (program counter, register).  Thread `t`: read the package-level cell 100, store
`value + t + 1` into its own cell, read it back, store the double if it is even else the triple
(data-dependent control flow), done. -/
def prog : Prog Nat Nat (Nat × Nat) where
  step t σ :=
    match σ.1 with
    | 0 => .load 100 (fun v => (1, v))
    | 1 => if t < 3 then .store t (σ.2 + t + 1) (2, 0) else .done
    | 2 => if t < 3 then .load t (fun v => (3, v)) else .done
    | 3 => if t < 3 then (if σ.2 % 2 = 0 then .store t (2 * σ.2) (4, σ.2) else .store t (3 * σ.2) (4, σ.2)) else .done
    | _ => .done

def c0 : Cfg Nat Nat (Nat × Nat) := { loc := fun _ => (0, 0), mem := fun l => if l = 100 then 7 else 0 }

theorem disciplined : Disciplined prog owner where
  load_ok := by
    intro t σ l k h
    unfold prog at h
    simp only at h
    split at h
    · cases h; right; simp [owner]
    · split at h <;> cases h
    · split at h
      · cases h; left; simp [owner, *]
      · cases h
    · split at h
      · split at h <;> cases h
      · cases h
    · cases h
  store_ok := by
    intro t σ l v n h
    unfold prog at h
    simp only at h
    split at h
    · cases h
    · split at h
      · cases h; simp [owner, *]
      · cases h
    · split at h <;> cases h
    · split at h
      · split at h <;> (cases h; simp [owner, *])
      · cases h
    · cases h

/-- D25 in the abstract: both threads do `cell100 := cell100 + 1` on the PACKAGE-LEVEL cell 100
(a shared hasher / random source).  The discipline fails, there is a race, and the result depends on
the schedule (lost update: 9 when the goroutines run one after the other, 8 when interleaved). -/
def bad : Prog Nat Nat (Nat × Nat) where
  step _ σ :=
    match σ.1 with
    | 0 => .load 100 (fun v => (1, v))
    | 1 => .store 100 (σ.2 + 1) (2, 0)
    | _ => .done

end AlgoVerif.C20.C20Example
