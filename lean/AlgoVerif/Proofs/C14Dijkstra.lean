import AlgoVerif.Proofs.C14Heap
import AlgoVerif.Proofs.C14Cert
/-!
# C14 proofs — Dijkstra (`ShortestPathTree`) on a directed graph without negative weights

Ghost state: `D`, the vertices already deleted from the queue.  Invariant `DInv`: queue keys are the
tentative distances of the queued (not yet deleted) vertices; every reached vertex is deleted or queued;
deleted vertices have all their out-edges relaxed and are never changed again; every reached vertex has an
`edgeTo` chain back to the source through deleted vertices whose weight is exactly its `distTo`, with fewer edges than
there are deleted vertices (`p.length + cntF D ≤ n`: what the fuel `edgeTo.size + 1` of `PathTo`'s loop needs).
At the end nothing is queued, so no edge is relaxable and every finite `distTo` is realised: `distTo` is the
shortest distance.
-/
namespace AlgoVerif.C14

def SPT.dist (t : SPT) (v : Nat) : Option Int := t.distTo.getD v none
def SPT.par (t : SPT) (v : Nat) : Edge := t.edgeTo.getD v Edge.zero

/-- the `edgeTo` chain from the source to `v`, as the list of its edges -/
inductive SChain (g : Graph) (s : Nat) (t : SPT) (D : Array Bool) : Nat → List Edge → Prop
  | base : t.par s = Edge.zero → t.dist s = some 0 → SChain g s t D s []
  | step {v : Nat} {e : Edge} {p : List Edge} {da : Int} : t.par v = e → e ≠ Edge.zero → e.b = v →
      g.HasEdge e.a e.b e → Vis D e.a → t.dist e.a = some da → t.dist v = some (da + e.w) →
      SChain g s t D e.a p → SChain g s t D v (p ++ [e])

theorem walkWeight_append (p : List Edge) (e : Edge) : walkWeight (p ++ [e]) = walkWeight p + e.w := by
  simp [walkWeight, List.sum_append]

theorem SChain.dist {g : Graph} {s : Nat} {t : SPT} {D : Array Bool} {v : Nat} {p : List Edge}
    (h : SChain g s t D v p) : t.dist v = some (walkWeight p) := by
  induction h with
  | base _ h0 => simpa [walkWeight] using h0
  | step _ _ _ _ _ hda hdv _ ih =>
    rw [hda] at ih
    rw [walkWeight_append, hdv]
    cases ih; rfl

theorem isEdgeWalk_snoc {g : Graph} : ∀ (p : List Edge) (s u : Nat) (e : Edge), IsEdgeWalk g s u p →
    e.a = u → g.HasEdge e.a e.b e → IsEdgeWalk g s e.b (p ++ [e]) := by
  intro p
  induction p with
  | nil =>
    intro s u e h1 h2 h3
    simp only [IsEdgeWalk] at h1
    subst h1
    exact ⟨h2, h3, rfl⟩
  | cons a r ih =>
    intro s u e h1 h2 h3
    obtain ⟨k1, k2, k3⟩ := h1
    exact ⟨k1, k2, ih _ _ e k3 h2 h3⟩

theorem SChain.walk {g : Graph} {s : Nat} {t : SPT} {D : Array Bool} {v : Nat} {p : List Edge}
    (h : SChain g s t D v p) : IsEdgeWalk g s v p := by
  induction h with
  | base _ _ => rfl
  | step _ _ hb he _ _ _ _ ih => exact hb ▸ isEdgeWalk_snoc _ _ _ _ ih rfl he

theorem SChain.congr {g : Graph} {s : Nat} {t t' : SPT} {D D' : Array Bool} (hD : ∀ x, Vis D x → Vis D' x)
    {v : Nat} {p : List Edge} (h : SChain g s t D v p)
    (hs : ∀ x, Vis D x ∨ x = v → t'.dist x = t.dist x ∧ t'.par x = t.par x) : SChain g s t' D' v p := by
  induction h with
  | base h1 h2 => exact .base ((hs _ (.inr rfl)).2.trans h1) ((hs _ (.inr rfl)).1.trans h2)
  | step h1 h2 h3 h4 h5 h6 h7 _ ih =>
    exact .step ((hs _ (.inr rfl)).2.trans h1) h2 h3 h4 (hD _ h5) ((hs _ (.inl h5)).1.trans h6)
      ((hs _ (.inr rfl)).1.trans h7) (ih fun x hx => hs x (.inl (hx.elim id fun e => e ▸ h5)))

theorem SChain.snoc {g : Graph} (hdw : g.DWF) {s : Nat} {t : SPT} {D : Array Bool} {u : Nat} {x : Arc} {p : List Edge}
    {du : Int} (hx : x ∈ g.adj.getD u []) (hux : u ≠ x.to) (hc : SChain g s t D u p) (hu : Vis D u)
    (hdu : t.dist u = some du) (hpar : t.par x.to = x.e) (hd : t.dist x.to = some (du + x.e.w)) :
    SChain g s t D x.to (p ++ [x.e]) := by
  obtain ⟨hxa, hxb⟩ := hdw u x hx
  have h2 : x.e ≠ Edge.zero := fun ez => hux (by rw [← hxa, ← hxb, ez]; rfl)
  have h4 : g.HasEdge x.e.a x.e.b x.e := by unfold Graph.HasEdge; rw [hxa, hxb]; exact hx
  rw [← hxa] at hc hu hdu
  exact .step hpar h2 hxb h4 hu hdu hd hc

theorem pathLoop_chain {g : Graph} {s : Nat} {t : SPT} {D : Array Bool} (hsz : t.edgeTo.size = g.n)
    (hD : ∀ x, Vis D x → x < g.n) {v : Nat} {p : List Edge} (h : SChain g s t D v p) :
    ∀ fuel stk, p.length < fuel → t.pathLoop fuel (t.par v) stk = .ok (p ++ stk) := by
  induction h with
  | base h1 _ =>
    intro fuel stk hf
    cases fuel with
    | zero => omega
    | succ fuel => simp [SPT.pathLoop, h1]
  | @step v e p da h1 h2 h3 h4 h5 h6 h7 _ ih =>
    intro fuel stk hf
    cases fuel with
    | zero => omega
    | succ fuel =>
      have hlt : e.a < t.edgeTo.size := by rw [hsz]; exact hD _ h5
      have : t.edgeTo[e.a]? = some (t.par e.a) := getD_of_lt _ _ hlt
      rw [h1]
      simp only [SPT.pathLoop, h2, if_false, this]
      rw [ih fuel (e :: stk) (by simp at hf; omega)]
      simp

structure DInv (g : Graph) (s : Nat) (t : SPT) (D : Array Bool) : Prop where
  dsz : t.distTo.size = g.n
  esz : t.edgeTo.size = g.n
  Dsz : D.size = g.n
  hv : HInv g.n t.pq
  src : t.dist s = some 0 ∧ t.par s = Edge.zero
  nonneg : ∀ v d, t.dist v = some d → 0 ≤ d
  keys : ∀ v k, t.pq.ky v = some k → t.dist v = some k ∧ ¬ Vis D v
  reached : ∀ v d, t.dist v = some d → Vis D v ∨ t.pq.ky v = some d
  chain : ∀ v d, t.dist v = some d → ∃ p, SChain g s t D v p ∧ p.length + cntF D ≤ g.n
  relaxed : ∀ v, Vis D v → ∀ x ∈ g.adj.getD v [],
    ∃ dv dw, t.dist v = some dv ∧ t.dist x.to = some dw ∧ dw ≤ dv + x.e.w
  lowkeys : ∀ v dv, Vis D v → t.dist v = some dv → ∀ u ku, t.pq.ky u = some ku → dv ≤ ku
  donefin : ∀ v, Vis D v → ∃ d, t.dist v = some d

/-- inside the relaxation loop of the vertex `u` just deleted with distance `du` -/
structure DIn (g : Graph) (s : Nat) (t : SPT) (D : Array Bool) (u : Nat) (du : Int) (done : List Arc) : Prop where
  dsz : t.distTo.size = g.n
  esz : t.edgeTo.size = g.n
  Dsz : D.size = g.n
  hv : HInv g.n t.pq
  src : t.dist s = some 0 ∧ t.par s = Edge.zero
  nonneg : ∀ v d, t.dist v = some d → 0 ≤ d
  keys : ∀ v k, t.pq.ky v = some k → t.dist v = some k ∧ ¬ Vis D v
  reached : ∀ v d, t.dist v = some d → Vis D v ∨ t.pq.ky v = some d
  chain : ∀ v d, t.dist v = some d → ∃ p, SChain g s t D v p ∧ p.length + cntF D ≤ g.n
  relaxed : ∀ v, Vis D v → v ≠ u → ∀ x ∈ g.adj.getD v [],
    ∃ dv dw, t.dist v = some dv ∧ t.dist x.to = some dw ∧ dw ≤ dv + x.e.w
  urelaxed : ∀ x ∈ done, ∃ dw, t.dist x.to = some dw ∧ dw ≤ du + x.e.w
  udist : t.dist u = some du
  udone : Vis D u
  uchain : ∃ p, SChain g s t D u p ∧ p.length + cntF D + 1 ≤ g.n
  donele : ∀ v dv, Vis D v → t.dist v = some dv → dv ≤ du
  keysge : ∀ v k, t.pq.ky v = some k → du ≤ k
  donefin : ∀ v, Vis D v → ∃ d, t.dist v = some d

section

variable {g : Graph} (hg : g.WF) (hdw : g.DWF) (hnn : g.NonNeg) (s : Nat)
include hg hdw hnn

theorem dijkstraInner_spec (u : Nat) (du : Int) (D : Array Bool) (t : SPT) (hin : DIn g s t D u du []) :
    ∃ t', dijkstraInner (g.adj.getD u []) t = .ok t' ∧ DIn g s t' D u du (g.adj.getD u []) := by
  refine list_loop_inv (I := fun done t => DIn g s t D u du done) (fun _ => rfl) _
    (fun done x rest t hadj hin => ?_) t hin
  have hx : x ∈ g.adj.getD u [] := by rw [hadj]; simp
  obtain ⟨hxa, hxb⟩ := hdw u x hx
  have hwn : x.to < g.n := hg.bound u x hx
  have hun : u < g.n := by rw [← hin.Dsz]; exact vis_lt hin.udone
  have hwt : 0 ≤ x.e.w := hnn u x hx
  have hd0 := hin.nonneg u du hin.udist
  have hga : t.distTo[x.e.a]? = some (some du) :=
    hxa ▸ (getD_of_lt _ none (hin.dsz ▸ hun)).trans (congrArg some hin.udist)
  have hgb : t.distTo[x.e.b]? = some (t.dist x.to) := by rw [hxb]; exact getD_of_lt _ _ (hin.dsz ▸ hwn)
  rw [dijkstraInner, hga, hgb, hxb]
  cases hlt : ltDist (du + x.e.w) (t.dist x.to) with
  | false =>
    exact ⟨t, by simp only [hlt, Bool.false_eq_true, if_false], { hin with
      urelaxed := List.forall_mem_append.2 ⟨hin.urelaxed, List.forall_mem_singleton.2 (le_of_not_ltDist hlt)⟩ }⟩
  | true =>
    obtain ⟨pq', e1, hv1, hK⟩ := upsert_spec hin.hv hwn (du + x.e.w)
    let t' : SPT := { edgeTo := t.edgeTo.set! x.to x.e, distTo := t.distTo.set! x.to (some (du + x.e.w)), pq := pq' }
    refine ⟨t', by simp only [hlt, if_true, hin.esz ▸ hwn, e1]; rfl, ?_⟩
    have hD : ∀ v, t'.dist v = if v = x.to then some (du + x.e.w) else t.dist v :=
      fun v => by unfold SPT.dist; exact getD_set!_lt (hin.dsz ▸ hwn) v _ none
    have hP : ∀ v, t'.par v = if v = x.to then x.e else t.par v :=
      fun v => by unfold SPT.par; exact getD_set!_lt (hin.esz ▸ hwn) v _ Edge.zero
    -- a done vertex has a distance `≤ du`, so it is not `x.to`, and nothing about it changes
    have hne : ∀ v, Vis D v → v ≠ x.to := by
      intro v hd e
      obtain ⟨dw, hdw'⟩ := hin.donefin _ hd
      have := hin.donele _ dw hd hdw'
      have := lt_of_ltDist hlt (e ▸ hdw')
      omega
    have hdn : ∀ v, v ≠ x.to → t'.dist v = t.dist v := fun v hv => (hD v).trans (if_neg hv)
    have hpn : ∀ v, v ≠ x.to → t'.par v = t.par v := fun v hv => (hP v).trans (if_neg hv)
    have hdx : t'.dist x.to = some (du + x.e.w) := (hD _).trans (if_pos rfl)
    have hux : u ≠ x.to := hne u hin.udone
    have hsx : s ≠ x.to := by
      intro e
      have := lt_of_ltDist hlt (e ▸ hin.src.1)
      omega
    have hdec : ∀ v d, t.dist v = some d → ∃ d', t'.dist v = some d' ∧ d' ≤ d := by
      intro v d hd
      by_cases e : v = x.to
      · exact ⟨_, e ▸ hdx, Int.le_of_lt (lt_of_ltDist hlt (e ▸ hd))⟩
      · exact ⟨d, (hdn v e).trans hd, Int.le_refl _⟩
    have hch : ∀ {v p}, v ≠ x.to → SChain g s t D v p → SChain g s t' D v p := fun hv hc =>
      hc.congr (fun _ h => h) fun y hy =>
        have hyx : y ≠ x.to := hy.elim (hne y) fun e => e ▸ hv
        ⟨hdn y hyx, hpn y hyx⟩
    obtain ⟨pu, hcu, hlu⟩ := hin.uchain
    exact
      { dsz := (size_set! ..).trans hin.dsz
        esz := (size_set! ..).trans hin.esz
        Dsz := hin.Dsz
        hv := hv1
        src := ⟨(hdn s hsx).trans hin.src.1, (hpn s hsx).trans hin.src.2⟩
        nonneg := fun v d hd => (upd_some hD hd).elim
          (fun h => Option.some.inj h.2 ▸ Int.add_nonneg hd0 hwt) fun h => hin.nonneg v d h.2
        keys := fun v k hk => (upd_some hK hk).elim
          (fun h => h.1 ▸ ⟨hdx.trans h.2, fun hd => hne _ hd rfl⟩)
          fun h => (hdn v h.1).symm ▸ hin.keys v k h.2
        reached := reached_upd hD hK hin.reached
        chain := by
          intro v d hd
          by_cases e : v = x.to
          · exact ⟨pu ++ [x.e], e ▸ (hch hux hcu).snoc hdw hx hux hin.udone ((hdn u hux).trans hin.udist)
              ((hP _).trans (if_pos rfl)) hdx, by simp; omega⟩
          · obtain ⟨p, hc, hl⟩ := hin.chain v d ((hdn v e).symm.trans hd)
            exact ⟨p, hch e hc, hl⟩
        relaxed := by
          intro v hvd hvu y hy
          obtain ⟨dv, dw, k1, k2, k3⟩ := hin.relaxed v hvd hvu y hy
          obtain ⟨d', k4, k5⟩ := hdec _ dw k2
          exact ⟨dv, d', (hdn v (hne v hvd)).trans k1, k4, Int.le_trans k5 k3⟩
        urelaxed := List.forall_mem_append.2 ⟨fun y h => by
            obtain ⟨dw, k1, k2⟩ := hin.urelaxed y h
            obtain ⟨d', k4, k5⟩ := hdec _ dw k1
            exact ⟨d', k4, Int.le_trans k5 k2⟩,
          List.forall_mem_singleton.2 ⟨_, hdx, Int.le_refl _⟩⟩
        udist := (hdn u hux).trans hin.udist
        udone := hin.udone
        uchain := ⟨pu, hch hux hcu, hlu⟩
        donele := fun v dv hvd hd => hin.donele v dv hvd ((hdn v (hne v hvd)).symm.trans hd)
        keysge := fun v k hk => (upd_some hK hk).elim
          (fun h => Option.some.inj h.2 ▸ Int.le_add_of_nonneg_right hwt) fun h => hin.keysge v k h.2
        donefin := fun v hvd => (hdn v (hne v hvd)).symm ▸ hin.donefin v hvd }

theorem dijkstraLoop_spec :
    ∀ fuel (t : SPT) (D : Array Bool), DInv g s t D → cntF D ≤ fuel →
      ∃ t' D', dijkstraLoop g fuel t = .ok t' ∧ DInv g s t' D' ∧ t'.pq.isEmpty = true := by
  intro fuel
  induction fuel with
  | zero =>
    intro t D hinv hc
    have hemp := isEmpty_of_cntF_zero hinv.hv.s hinv.Dsz hc fun j k hk => (hinv.keys j k hk).2
    exact ⟨t, D, by simp [dijkstraLoop, hemp], hinv, hemp⟩
  | succ fuel ih =>
    intro t D hinv hc
    by_cases hemp : t.pq.isEmpty = true
    · exact ⟨t, D, by simp [dijkstraLoop, hemp], hinv, hemp⟩
    · have hne : t.pq.isEmpty = false := by simpa using hemp
      obtain ⟨pq', u, du, e1, hv1, hun, hku, hmin, hupd⟩ := delete_spec hinv.hv hne
      obtain ⟨hdu, hnd⟩ := hinv.keys u du hku
      have hunv : D[u]? = some false := (vis_or_false (hinv.Dsz ▸ hun)).resolve_left hnd
      have hcnt := cntF_set hunv
      let D' := D.set! u true
      have hDm : ∀ x, Vis D x → Vis D' x := fun x hx => vis_set_of_vis hx
      have hDu : Vis D' u := vis_set_self (by rw [hinv.Dsz]; exact hun)
      have hD' : ∀ x, Vis D' x → x = u ∨ Vis D x := fun x => vis_set_cases
      let t1 : SPT := { t with pq := pq' }
      have hin : DIn g s t1 D' u du [] :=
        { hinv with
          Dsz := (size_set! ..).trans hinv.Dsz
          hv := hv1
          keys := by
            intro v k hk
            obtain ⟨hvu, hk'⟩ := hupd.of_some hk
            obtain ⟨k1, k2⟩ := hinv.keys v k hk'
            exact ⟨k1, fun h => k2 ((hD' v h).resolve_left hvu)⟩
          reached := reached_del hDm hDu hupd hinv.reached
          chain := by
            intro v d hd
            obtain ⟨p, hc', hl⟩ := hinv.chain v d hd
            exact ⟨p, hc'.congr hDm fun _ _ => ⟨rfl, rfl⟩,
              by show p.length + cntF (D.set! u true) ≤ g.n; omega⟩
          relaxed := by
            intro v hvd hvu x hx
            exact hinv.relaxed v ((hD' v hvd).resolve_left hvu) x hx
          urelaxed := by simp
          udist := hdu
          udone := hDu
          uchain := by
            obtain ⟨p, hc', hl⟩ := hinv.chain u du hdu
            exact ⟨p, hc'.congr hDm fun _ _ => ⟨rfl, rfl⟩,
              by show p.length + cntF (D.set! u true) + 1 ≤ g.n; omega⟩
          donele := by
            intro v dv hvd hd
            have hd' : t.dist v = some dv := hd
            rcases hD' v hvd with e | h
            · rw [e, hdu] at hd'; cases hd'; exact Int.le_refl _
            · exact hinv.lowkeys v dv h hd' u du hku
          keysge := fun v k hk => hmin v k (hupd.of_some hk).2
          donefin := by
            intro v hvd
            rcases hD' v hvd with e | h
            · exact ⟨du, by rw [e]; exact hdu⟩
            · exact hinv.donefin v h }
      obtain ⟨t2, e2, hin2⟩ := dijkstraInner_spec hg hdw hnn s u du D' t1 hin
      have hinv2 : DInv g s t2 D' :=
        { hin2 with
          relaxed := by
            intro v hvd x hx
            by_cases hvu : v = u
            · subst hvu
              obtain ⟨dw, k1, k2⟩ := hin2.urelaxed x hx
              exact ⟨du, dw, hin2.udist, k1, k2⟩
            · exact hin2.relaxed v hvd hvu x hx
          lowkeys := fun v dv hvd hd w kw hk => Int.le_trans (hin2.donele v dv hvd hd) (hin2.keysge w kw hk) }
      obtain ⟨t3, D3, e3, k1, k2⟩ := ih t2 D' hinv2 (by show cntF (D.set! u true) ≤ fuel; omega)
      refine ⟨t3, D3, ?_, k1, k2⟩
      rw [dijkstraLoop]
      simp only [hne, Bool.false_eq_true, if_false, e1]
      show (dijkstraInner (g.adj.getD u []) t1 >>= dijkstraLoop g fuel) = _
      rw [e2]
      exact e3

/-- **ShortestPathTree** (Dijkstra): for a valid source, `distTo`/`PathTo` are the shortest distances with
paths of exactly that weight; unreachable vertices get `(nil, -1, false)`. -/
theorem spt_spec_sz (hs : s < g.n) :
    ∃ t, g.shortestPathTree (s : Int) = .ok t ∧ t.distTo.size = g.n ∧
      ∀ v, v < g.n →
        (t.pathTo (v : Int) = .ok none ∧ ¬ ∃ q, IsEdgeWalk g s v q) ∨
        (∃ p d, t.pathTo (v : Int) = .ok (some (p, d)) ∧ IsEdgeWalk g s v p ∧ walkWeight p = d ∧
          ∀ q, IsEdgeWalk g s v q → d ≤ walkWeight q) := by
  let t00 : SPT := { edgeTo := Array.replicate g.n Edge.zero, distTo := Array.replicate g.n none,
                     pq := IHeap.new g.n }
  obtain ⟨pq0, e0, hv0, hk0⟩ := insert_spec (hinv_new g.n) hs (ky_new g.n s) 0
  let t0 : SPT := { t00 with distTo := t00.distTo.set! s (some 0), pq := pq0 }
  have hdist0 : ∀ v, t0.dist v = if v = s then some 0 else none := fun v => by
    unfold SPT.dist
    exact (getD_set!_lt (by rw [Array.size_replicate]; exact hs) v _ none).trans
      (congrArg _ (getD_replicate g.n v none))
  have hpar0 : ∀ v, t0.par v = Edge.zero := fun v => getD_replicate g.n v Edge.zero
  have hky0 : ∀ v, pq0.ky v = if v = s then some 0 else none := by
    intro v
    rw [hk0, ky_new]
  have hsrc : t0.dist s = some 0 := (hdist0 s).trans (if_pos rfl)
  let D0 := Array.replicate g.n false
  have hinv0 : DInv g s t0 D0 :=
    { dsz := by simp [t0, t00]
      esz := by simp [t0, t00]
      Dsz := by simp [D0]
      hv := hv0
      src := ⟨hsrc, hpar0 s⟩
      nonneg := fun v d hd => (upd_some hdist0 hd).elim (fun h => Option.some.inj h.2 ▸ Int.le_refl _) fun h => nomatch h.2
      keys := fun v k hk => ⟨(hdist0 v).trans ((hky0 v).symm.trans hk), vis_replicate_false⟩
      reached := reached_upd (dist := fun _ => none) (ky := fun _ => none) hdist0 hky0 (fun _ _ h => nomatch h)
      chain := by
        intro v d hd
        rcases upd_some hdist0 hd with ⟨rfl, _⟩ | ⟨_, h⟩
        · refine ⟨[], .base (hpar0 v) hsrc, ?_⟩
          have := cntF_le_size D0
          simp [D0] at this ⊢
          exact this
        · cases h
      relaxed := fun v hv => absurd hv vis_replicate_false
      lowkeys := fun v _ hv => absurd hv vis_replicate_false
      donefin := fun v hv => absurd hv vis_replicate_false }
  obtain ⟨t, D, e1, hinv, hemp⟩ := dijkstraLoop_spec hg hdw hnn s (g.n + 1) t0 D0 hinv0 (cntF_le_succ hinv0.Dsz)
  refine ⟨t, ?_, hinv.dsz, ?_⟩
  · unfold Graph.shortestPathTree Graph.shortestPathTreeFuel
    simp only [Int.toNat_natCast]
    rw [if_pos (by simp [hs])]
    have e0' : (IHeap.new g.n).insert s 0 = .ok pq0 := e0
    simp only [e0']
    exact e1
  · have hallK : ∀ j, t.pq.ky j = none := (isEmpty_iff hinv.hv.s).1 hemp
    have hdone : ∀ v d, t.dist v = some d → Vis D v :=
      fun v d hd => (hinv.reached v d hd).resolve_right fun h => by rw [hallK] at h; cases h
    have hnr : ∀ u du, t.dist u = some du → ∀ x ∈ g.adj.getD u [],
        ∃ dw, t.dist x.to = some dw ∧ dw ≤ du + x.e.w := by
      intro u du hd x hx
      obtain ⟨dv, dw, k1, k2, k3⟩ := hinv.relaxed u (hdone u du hd) x hx
      rw [hd] at k1; cases k1
      exact ⟨dw, k2, k3⟩
    have hlow : ∀ v q, IsEdgeWalk g s v q → ∃ dv, t.dist v = some dv ∧ dv ≤ walkWeight q :=
      noRelaxP_walk g t.dist hnr hinv.src.1
    intro v hvn
    have hgd : t.distTo[v]? = some (t.dist v) := getD_of_lt _ _ (by rw [hinv.dsz]; exact hvn)
    have hge : t.edgeTo[v]? = some (t.par v) := getD_of_lt _ _ (by rw [hinv.esz]; exact hvn)
    cases hd : t.dist v with
    | none =>
      left
      refine ⟨?_, ?_⟩
      · unfold SPT.pathTo
        simp only [Int.natCast_nonneg, if_true, Int.toNat_natCast, hgd, hd]
      · intro ⟨q, hq⟩
        obtain ⟨dv, k1, _⟩ := hlow v q hq
        rw [hd] at k1; simp at k1
    | some d =>
      right
      obtain ⟨p, hc, hl⟩ := hinv.chain v d hd
      have hw : walkWeight p = d := by
        have := hc.dist; rw [hd] at this; cases this; rfl
      refine ⟨p, d, ?_, hc.walk, hw, ?_⟩
      · unfold SPT.pathTo
        simp only [Int.natCast_nonneg, if_true, Int.toNat_natCast, hgd, hd, hge]
        have := pathLoop_chain hinv.esz (fun x hx => by rw [← hinv.Dsz]; exact vis_lt hx) hc
          (t.edgeTo.size + 1) [] (by rw [hinv.esz]; omega)
        rw [this]; simp
      · intro q hq
        obtain ⟨dv, k1, k2⟩ := hlow v q hq
        rw [hd] at k1; cases k1; exact k2

end

theorem pathTo_out_of_range (t : SPT) (n : Nat) (hsz : t.distTo.size = n) (v : Int)
    (hv : ¬ (0 ≤ v ∧ v < (n : Int))) : t.pathTo v = .panic := by
  unfold SPT.pathTo
  by_cases h0 : 0 ≤ v
  · have : ¬ v.toNat < t.distTo.size := by rw [hsz]; omega
    rw [if_pos h0, Array.getElem?_eq_none (Nat.le_of_not_lt this)]
  · rw [if_neg h0]

end AlgoVerif.C14
