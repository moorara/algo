import AlgoVerif.Model.C13X
import AlgoVerif.Spec.C13X
import AlgoVerif.Proofs.C13Results
/-! C13: the read-only public API — `Transitions()` as a range-over-func iterator with early exit is a
`for … break` loop over the entries of the table in iteration order; the consumer of the op `trans X k` collects the
first `k` entries; `NFA.Next` against the transition relation and the builder API; and the one write the exported fields
allow, `X.Final.Add(s)` (`addFinal`). -/
namespace AlgoVerif.C13
open AlgoVerif AlgoVerif.C13.Spec

theorem foldUntilB_append {α σ : Type} (body : σ → α → σ × Bool) (l1 l2 : List α) (st : σ) :
    foldUntilB body (l1 ++ l2) st =
      match foldUntilB body l1 st with
      | (st', true) => foldUntilB body l2 st'
      | (st', false) => (st', false) := by
  induction l1 generalizing st with
  | nil => simp [foldUntilB]
  | cons x l1 ih =>
    simp only [List.cons_append, foldUntilB]
    rcases h : body st x with ⟨st', b⟩
    cases b with
    | true => simp only; exact ih st'
    | false => simp

theorem iterInner_eq {β σ : Type} (yield : σ → Int × Int × β → σ × Bool) (s : Int) (es : List (Int × β)) (st : σ) :
    iterInner yield s es st = foldUntilB yield (es.map (fun e => (s, e.1, e.2))) st := by
  induction es generalizing st with
  | nil => simp [iterInner, foldUntilB]
  | cons e es ih =>
    simp only [iterInner, List.map_cons, foldUntilB]
    rcases h : yield st (s, e.1, e.2) with ⟨st', b⟩
    cases b with
    | true => simp only; exact ih st'
    | false => simp

theorem iterOuter_eq {β σ : Type} (yield : σ → Int × Int × β → σ × Bool) (tr : List (Int × List (Int × β))) (st : σ) :
    iterOuter yield tr st = foldUntil yield (entries tr) st := by
  induction tr generalizing st with
  | nil => simp [iterOuter, foldUntil, foldUntilB, entries]
  | cons t tr ih =>
    simp only [iterOuter, foldUntil, entries, List.flatMap_cons, foldUntilB_append]
    rw [iterInner_eq]
    rcases h : foldUntilB yield (t.2.map (fun e => (t.1, e.1, e.2))) st with ⟨st', b⟩
    cases b with
    | true => rw [h]; simp only; rw [ih]; rfl
    | false => rw [h]

theorem foldUntilB_takeYield {α : Type} (k : Nat) (l : List α) (acc : List α) (c : Nat) (hc : c ≤ k) :
    (foldUntilB (takeYield k) l (acc, c)).1.1 = acc ++ l.take (k - c) := by
  induction l generalizing acc c with
  | nil => simp [foldUntilB]
  | cons x l ih =>
    simp only [foldUntilB, takeYield]
    by_cases h : c = k
    · subst h; simp
    · simp only [h, if_false]
      rw [ih _ _ (by omega), show k - c = (k - (c + 1)) + 1 by omega, List.take_succ_cons, List.append_assoc]
      rfl

theorem DFA.transPrefix_eq (d : DFA) (k : Nat) : d.transPrefix k = (entries d.trans).take k := by
  simp only [DFA.transPrefix, DFA.transitionsIter, iterOuter_eq, foldUntil]
  rw [foldUntilB_takeYield k _ [] 0 (Nat.zero_le _)]; simp

theorem NFA.transPrefix_eq (n : NFA) (k : Nat) : n.transPrefix k = (entries n.trans).take k := by
  simp only [NFA.transPrefix, NFA.transitionsIter, iterOuter_eq, foldUntil]
  rw [foldUntilB_takeYield k _ [] 0 (Nat.zero_le _)]; simp

theorem NFA.nextPub_eq (n : NFA) (s a : Int) : n.nextPub s a = n.next s a := by
  simp only [NFA.nextPub]; cases n.next s a <;> rfl

theorem NFA.next_new (st : Int) (f : List Int) (s a : Int) : (NFA.new st f).next s a = none := by
  simp [NFA.new, NFA.next, aget]

theorem DFA.δ_new (st : Int) (f : List Int) (s a : Int) : (DFA.new st f).δ s a = none := by
  simp [DFA.new, DFA.δ, aget]

/-- every target set of the table is strictly increasing (what `NewStates` + `Add` keep) -/
def NFA.TSorted (n : NFA) : Prop := ∀ s a nx, n.next s a = some nx → SSorted nx

theorem NFA.TSorted_new (st : Int) (f : List Int) : (NFA.new st f).TSorted := by
  intro s a nx h; rw [NFA.next_new] at h; cases h

theorem NFA.TSorted_add {n : NFA} (h : n.TSorted) (s a : Int) (l : List Int) : (n.add s a l).TSorted := by
  intro s' a' nx hn
  rw [NFA.next_add] at hn
  split at hn
  · injection hn with hn; subst hn
    apply ssorted_saddAll
    cases hx : n.next s a with
    | none => simp [SSorted]
    | some x => exact h s a x hx
  · exact h s' a' nx hn

theorem NFA.addFinal_Δ (n : NFA) (s : Int) : (n.addFinal s).Δ = n.Δ := rfl
theorem DFA.addFinal_δ (d : DFA) (s : Int) : (d.addFinal s).δ = d.δ := rfl
theorem DFA.addFinal_next (d : DFA) (s : Int) : (d.addFinal s).next = d.next := rfl

theorem NFA.addFinal_lang (n : NFA) (s : Int) (w : Word) :
    (n.addFinal s).lang w ↔ n.lang w ∨ Path n.Δ n.start w s := by
  show (∃ f, f ∈ sins s n.final ∧ Path n.Δ n.start w f) ↔ (∃ f, f ∈ n.final ∧ Path n.Δ n.start w f) ∨ _
  simp only [mem_sins, or_and_right, exists_or, exists_eq_left]
  exact or_comm

theorem DFA.addFinal_lang (d : DFA) (s : Int) (w : Word) :
    (d.addFinal s).lang w ↔ d.lang w ∨ dfaRun d.δ (some d.start) w = some s := by
  show (∃ f, dfaRun d.δ (some d.start) w = some f ∧ f ∈ sins s d.final) ↔
    (∃ f, dfaRun d.δ (some d.start) w = some f ∧ f ∈ d.final) ∨ _
  simp only [mem_sins, and_or_left, exists_or, exists_eq_right]
  exact or_comm

theorem DFA.addFinal_accept (d : DFA) (s : Int) (w : Word) :
    (d.addFinal s).accept w = (d.accept w || (w.foldl d.next d.start == s)) := by
  simp only [DFA.accept, DFA.addFinal_next]
  show (sins s d.final).contains (w.foldl d.next d.start) = _
  rw [Bool.eq_iff_iff]
  simp [mem_sins, or_comm]

theorem DFA.addFinal_good {d : DFA} (h : d.Good) (s : Int) (hs : s ≠ -1) : (d.addFinal s).Good :=
  ⟨h.wf, ⟨fun hm => by
      rcases mem_sins.1 hm with h1 | h1
      · exact hs h1.symm
      · exact h.proper.1 h1, h.proper.2⟩, ssorted_sins h.fin, h.noEps⟩

end AlgoVerif.C13
