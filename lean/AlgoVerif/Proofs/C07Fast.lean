import AlgoVerif.Model.C07
/-!
# C07 — `Merge` / `MergeRec` in n log n, for the driver

The Model's `copyRange` (`copy(aux[lo:hi], a[lo:hi])`) is written as `Array.ofFn` over the whole slice — convenient
for the proofs, but every call costs `len(a)`, which makes the executable `mergeBU` / `mergeRec` quadratic.
`copyRangeFast` writes the `hi - lo` elements in place; `mergeBUFast` /
`mergeRecFast` are the Model's functions with that one replacement, proved equal to them
(`mergeBUFast_eq`, `mergeRecFast_eq`), so what the driver prints is what the Model of the theorems computes.
Core only (the driver imports this file).
-/
namespace AlgoVerif.C07

variable {α : Type}

def copyLoop (src : Array α) : Nat → Nat → Array α → Array α
  | 0, _, dst => dst
  | c + 1, k, dst => copyLoop src c (k + 1) (if h : k < src.size then dst.setIfInBounds k src[k] else dst)

theorem copyLoop_size (src : Array α) (c k : Nat) (dst : Array α) : (copyLoop src c k dst).size = dst.size := by
  induction c generalizing k dst with
  | zero => rfl
  | succ c ih => simp only [copyLoop]; rw [ih]; split <;> simp

theorem copyLoop_getElem (src : Array α) (c k : Nat) (dst : Array α) (hk : k + c ≤ src.size) (i : Nat)
    (h1 : i < (copyLoop src c k dst).size) (h2 : i < dst.size) :
    (copyLoop src c k dst)[i] = if h : k ≤ i ∧ i < k + c then src[i]'(by omega) else dst[i] := by
  induction c generalizing k dst with
  | zero => simp [copyLoop]; intro h; omega
  | succ c ih =>
    simp only [copyLoop]
    have hks : k < src.size := by omega
    simp only [hks, dite_true]
    rw [ih (k + 1) _ (by omega) (by simpa [copyLoop, hks] using h1) (by simpa using h2)]
    by_cases hik : i = k
    · subst hik
      have h3 : ¬ (i + 1 ≤ i ∧ i < i + 1 + c) := by omega
      have h4 : i ≤ i ∧ i < i + (c + 1) := by omega
      rw [dif_neg h3, dif_pos h4, Array.getElem_setIfInBounds h2]
      simp
    · by_cases hin : k + 1 ≤ i ∧ i < k + 1 + c
      · have : k ≤ i ∧ i < k + (c + 1) := by omega
        rw [dif_pos hin, dif_pos this]
      · have : ¬ (k ≤ i ∧ i < k + (c + 1)) := by omega
        have hki : ¬ k = i := fun h => hik h.symm
        rw [dif_neg hin, dif_neg this]
        exact Array.getElem_setIfInBounds_ne h2 hki

def copyRangeFast (dst src : Array α) (lo hi : Int) : Outcome (Array α) :=
  if 0 ≤ lo ∧ lo ≤ hi ∧ hi ≤ dst.size ∧ hi ≤ src.size then
    .ok (copyLoop src (hi - lo).toNat lo.toNat dst)
  else .panic

theorem copyRangeFast_eq (dst src : Array α) (lo hi : Int) : copyRangeFast dst src lo hi = copyRange dst src lo hi := by
  unfold copyRangeFast copyRange
  by_cases h0 : 0 ≤ lo ∧ lo ≤ hi ∧ hi ≤ dst.size ∧ hi ≤ src.size
  · simp only [h0, and_self, if_true, dite_true]
    congr 1
    apply Array.ext
    · simp [copyLoop_size]
    · intro i h1 h2
      have hd : i < dst.size := by simpa [copyLoop_size] using h1
      rw [copyLoop_getElem src _ _ dst (by omega) i h1 hd]
      simp only [Array.getElem_ofFn]
      by_cases hin : lo ≤ (i : Int) ∧ (i : Int) < hi
      · have : lo.toNat ≤ i ∧ i < lo.toNat + (hi - lo).toNat := by omega
        rw [dif_pos hin, dif_pos this]
      · have : ¬ (lo.toNat ≤ i ∧ i < lo.toNat + (hi - lo).toNat) := by omega
        rw [dif_neg hin, dif_neg this]
  · simp [h0]

def mergeFast (cmp : α → α → Int) (a aux : Array α) (lo mid hi : Int) : Outcome (Array α × Array α) := do
  let aux ← copyRangeFast aux a lo (hi+1)
  let a ← mergeLoop cmp aux mid hi ((hi - lo).toNat + 2) lo lo (mid+1) a
  .ok (a, aux)

theorem mergeFast_eq (cmp : α → α → Int) (a aux : Array α) (lo mid hi : Int) :
    mergeFast cmp a aux lo mid hi = merge cmp a aux lo mid hi := by
  simp [mergeFast, merge, copyRangeFast_eq]

def mergePassFast (cmp : α → α → Int) (n sz : Int) : Nat → Int → Array α → Array α → Outcome (Array α × Array α)
  | 0, _, _, _ => .diverge
  | f+1, lo, a, aux =>
    if lo < n - sz then do
      let (a, aux) ← mergeFast cmp a aux lo (lo+sz-1) (imin (lo+sz+sz-1) (n-1))
      mergePassFast cmp n sz f (lo + (sz + sz)) a aux
    else .ok (a, aux)

theorem mergePassFast_eq (cmp : α → α → Int) (n sz : Int) (f : Nat) (lo : Int) (a aux : Array α) :
    mergePassFast cmp n sz f lo a aux = mergePass cmp n sz f lo a aux := by
  induction f generalizing lo a aux with
  | zero => rfl
  | succ f ih => simp only [mergePassFast, mergePass, mergeFast_eq, ih]

def mergeSizesFast (cmp : α → α → Int) (n : Int) : Nat → Int → Array α → Array α → Outcome (Array α × Array α)
  | 0, _, _, _ => .diverge
  | f+1, sz, a, aux =>
    if sz < n then do
      let (a, aux) ← mergePassFast cmp n sz (n.toNat + 1) 0 a aux
      mergeSizesFast cmp n f (sz + sz) a aux
    else .ok (a, aux)

theorem mergeSizesFast_eq (cmp : α → α → Int) (n : Int) (f : Nat) (sz : Int) (a aux : Array α) :
    mergeSizesFast cmp n f sz a aux = mergeSizes cmp n f sz a aux := by
  induction f generalizing sz a aux with
  | zero => rfl
  | succ f ih => simp only [mergeSizesFast, mergeSizes, mergePassFast_eq, ih]

def mergeBUFast (cmp : α → α → Int) (zero : α) (a : Array α) : Outcome (Array α) := do
  let n : Int := a.size
  let aux := Array.replicate a.size zero
  let (a, _) ← mergeSizesFast cmp n (a.size + 1) 1 a aux
  .ok a

theorem mergeBUFast_eq (cmp : α → α → Int) (zero : α) (a : Array α) : mergeBUFast cmp zero a = mergeBU cmp zero a := by
  simp only [mergeBUFast, mergeBU, mergeSizesFast_eq]

def mergeRecAuxFast (cmp : α → α → Int) : Nat → Array α → Array α → Int → Int → Outcome (Array α × Array α)
  | 0, _, _, _, _ => .diverge
  | f+1, a, aux, lo, hi =>
    if hi ≤ lo then .ok (a, aux)
    else do
      let mid := (lo + hi) / 2
      let (a, aux) ← mergeRecAuxFast cmp f a aux lo mid
      let (a, aux) ← mergeRecAuxFast cmp f a aux (mid+1) hi
      let x ← get a (mid+1)
      let y ← get a mid
      if cmp x y ≥ 0 then .ok (a, aux)
      else mergeFast cmp a aux lo mid hi

theorem mergeRecAuxFast_eq (cmp : α → α → Int) (f : Nat) (a aux : Array α) (lo hi : Int) :
    mergeRecAuxFast cmp f a aux lo hi = mergeRecAux cmp f a aux lo hi := by
  induction f generalizing a aux lo hi with
  | zero => rfl
  | succ f ih => simp only [mergeRecAuxFast, mergeRecAux, mergeFast_eq, ih]

def mergeRecFast (cmp : α → α → Int) (zero : α) (a : Array α) : Outcome (Array α) := do
  let n : Int := a.size
  let aux := Array.replicate a.size zero
  let (a, _) ← mergeRecAuxFast cmp (a.size + 1) a aux 0 (n-1)
  .ok a

theorem mergeRecFast_eq (cmp : α → α → Int) (zero : α) (a : Array α) : mergeRecFast cmp zero a = mergeRec cmp zero a := by
  simp only [mergeRecFast, mergeRec, mergeRecAuxFast_eq]

end AlgoVerif.C07
