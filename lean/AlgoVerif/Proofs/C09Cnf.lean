import AlgoVerif.Proofs.C08Cnf
import AlgoVerif.Proofs.C09EmptyValid
/-!
# The result of `ChomskyNormalForm` is in Chomsky normal form and passes `Verify()` (C09)

The four clauses of `isCNF_of_shape` come stage by stage: START gives `StartFree`, TERM `TermShape`, BIN `BinShape`;
`EliminateCycles` keeps them and adds `EpsOnlyStart` and `NoUnit`.
-/
namespace AlgoVerif.C08
open AlgoVerif AlgoVerif.Gram AlgoVerif.C08.Spec AlgoVerif.C09.Spec

def AllNT (b : List SSym) : Prop := ∀ s ∈ b, isNT s = true

def BinShape (g : G) : Prop := ∀ p ∈ g.prods, p.body.length ≤ 2 ∧ (isTerminalProd p = true ∨ AllNT p.body)

def TermShape (g : G) : Prop := ∀ p ∈ g.prods, isTerminalProd p = true ∨ AllNT p.body

theorem cnfStart_startFree {g g' : G} (h : cnfStart g = .ok g') (hw : WellFormed g) : StartFree g' := by
  unfold cnfStart at h
  split at h
  · obtain ⟨⟨g1, s'⟩, hn, h⟩ := bind_eq_ok h
    cases h
    obtain ⟨hf, rfl⟩ := addNew_ok hn
    intro q hq
    rcases mem_ins.mp hq with hq | rfl
    · exact (hw.fresh_not_in hf q hq).2
    · simp
      exact fun e => hf (e ▸ hw.1)
  · rename_i hany
    cases h
    intro q hq hm
    apply hany
    exact List.any_eq_true.mpr ⟨q, hq, by simpa using hm⟩

theorem cnfTerm_shape {g g' : G} (h : cnfTerm g = .ok g') (hw : WellFormed g) (hsf : StartFree g) :
    TermShape g' ∧ StartFree g' := by
  obtain ⟨store, hc, _⟩ := cnfTerm_spec h
  refine ⟨fun p' hp' => ?_, (hc.folded hw).start_notin hw.1 hsf⟩
  rcases hc.prods p' hp' with ⟨_, ht⟩ | ⟨e, _, rfl⟩ | ⟨p, _, _, rfl, hal⟩
  · exact Or.inl ht
  · exact Or.inl rfl
  · right
    intro s hs
    obtain ⟨m, rfl, _⟩ := mem_map_replS hal hs
    rfl

theorem binShape_of_skip {p : SProd} (hsk : binSkip p = true) :
    p.body.length ≤ 2 ∧ (isTerminalProd p = true ∨ AllNT p.body) := by
  unfold binSkip isTerminalProd isBinary isSingle at hsk
  unfold isTerminalProd AllNT
  match hb : p.body with
  | [] => simp
  | [.term _] => simp
  | [.nonterm _] => simp [isNT]
  | [.nonterm _, .nonterm _] => simp [isNT]
  | [.term _, _] => rw [hb] at hsk; simp at hsk
  | [.nonterm _, .term _] => rw [hb] at hsk; simp at hsk
  | _ :: _ :: _ :: _ => rw [hb] at hsk; simp at hsk

theorem allNT_pair {x y : SSym} (hx : isNT x = true) (hy : isNT y = true) : AllNT [x, y] := by
  intro s hs
  simp only [List.mem_cons, List.not_mem_nil, or_false] at hs
  rcases hs with rfl | rfl
  · exact hx
  · exact hy

theorem cnfBin_shape {g g' : G} (h : cnfBin g = .ok g') (hw : WellFormed g) (hts : TermShape g) (hsf : StartFree g) :
    BinShape g' ∧ StartFree g' := by
  obtain ⟨defs, hc, _, _⟩ := cnfBin_spec h
  refine ⟨fun p' hp' => ?_, (hc.folded hw).start_notin hw.1 hsf⟩
  have hold : ∀ x, OldSym g x → isNT x = true := by
    rintro x ⟨p, hp, hsk, hx⟩
    rcases hts p hp with ht | hnt
    · unfold binSkip at hsk; simp [ht] at hsk
    · exact hnt x hx
  rcases hc.prods p' hp' with ⟨_, hsk⟩ | ⟨β, _, hlb⟩
  · exact binShape_of_skip hsk
  · rcases hlb with ⟨x, hN, r, hb, _, _, hx⟩ | ⟨x, y, hb, _, hx, hy⟩ <;> rw [hb]
    · exact ⟨by simp, Or.inr (allNT_pair (hold _ hx) rfl)⟩
    · exact ⟨by simp, Or.inr (allNT_pair (hold _ hx) (hold _ hy))⟩

theorem shape_of_sub {p p' : SProd} (hne : p'.body ≠ []) (hl : p'.body.length ≤ p.body.length)
    (hs : ∀ s ∈ p'.body, s ∈ p.body) (hp : p.body.length ≤ 2 ∧ (isTerminalProd p = true ∨ AllNT p.body)) :
    p'.body.length ≤ 2 ∧ (isTerminalProd p' = true ∨ AllNT p'.body) := by
  refine ⟨by omega, ?_⟩
  rcases hp.2 with ht | hnt
  · left
    unfold isTerminalProd at ht
    split at ht
    · rename_i t hb
      rw [hb] at hl hs
      match hb' : p'.body with
      | [] => exact absurd hb' hne
      | [s] =>
        rw [hb'] at hs
        have := hs s (by simp)
        simp at this
        subst this
        unfold isTerminalProd; rw [hb']
      | _ :: _ :: _ => rw [hb'] at hl; simp at hl
    · cases ht
  · exact Or.inr (fun s hs' => hnt s (hs s hs'))

theorem elimEmpty_shape {g g' : G} (h : elimEmpty g = .ok g') (hw : WellFormed g) (hbs : BinShape g)
    (hsf : StartFree g) : BinShape g' ∧ StartFree g' := by
  obtain ⟨nul, g1, _, rfl, _, hst, hps⟩ := elimEmpty_built h
  have key : ∀ p' ∈ g1.prods,
      (p'.body.length ≤ 2 ∧ (isTerminalProd p' = true ∨ AllNT p'.body)) ∧ Sym.nonterm g1.start ∉ p'.body := by
    intro p' hp'
    rcases hps p' hp' with ⟨hne, p, hp, _, hv⟩ | ⟨hf, _, hb | hb⟩
    · refine ⟨shape_of_sub hne hv.sub.1 hv.sub.2 (hbs p hp), fun hm => ?_⟩
      have hm' := hv.sub.2 _ hm
      rcases hst with ⟨e, _⟩ | ⟨_, hf, _⟩
      · exact hsf p hp (e ▸ hm')
      · exact hf ((hw.2 p hp).2 _ hm')
    · rw [hb]
      exact ⟨⟨by simp, Or.inr (by intro s hs; simp at hs; subst hs; rfl)⟩, by simpa using fun e : g1.start = g.start => hf (e ▸ hw.1)⟩
    · rw [hb]
      exact ⟨⟨by simp, Or.inr (by intro s hs; cases hs)⟩, by simp⟩
  exact ⟨fun p hp => (key p (prune_prods_subset _ p hp)).1,
    fun p hp => prune_start g1 ▸ (key p (prune_prods_subset _ p hp)).2⟩

theorem elimSingle_shape {g g' : G} (h : elimSingle g = .ok g') (hbs : BinShape g) (hsf : StartFree g) :
    BinShape g' ∧ StartFree g' := by
  obtain ⟨cl, hc, rfl⟩ := elimSingle_ok h
  have hspec := singleProds_spec (closureOf_sound hc)
  constructor
  · intro p hp
    obtain ⟨_, B, _, hB⟩ := hspec p (prune_prods_subset _ p hp)
    have := hbs _ hB
    exact ⟨this.1, by
      rcases this.2 with ht | hnt
      · left; unfold isTerminalProd at ht ⊢; exact ht
      · exact Or.inr hnt⟩
  · intro p hp
    rw [prune_start]
    obtain ⟨_, B, _, hB⟩ := hspec p (prune_prods_subset _ p hp)
    exact hsf { head := B, body := p.body } hB

theorem elimCycles_shape {g g' : G} (h : elimCycles g = .ok g') (hw : WellFormed g) (hbs : BinShape g)
    (hsf : StartFree g) : BinShape g' ∧ StartFree g' := by
  obtain ⟨g1, g2, h1, h2, h3⟩ := elimCycles_ok h
  obtain ⟨b1, s1⟩ := elimEmpty_shape h1 hw hbs hsf
  obtain ⟨b2, s2⟩ := elimSingle_shape h2 b1 s1
  have hsub := elimUnreachable_prods_subset h3
  have hst := (elimUnreachable_spec h3).1
  exact ⟨fun p hp => b2 p (hsub p hp), fun p hp => hst ▸ s2 p (hsub p hp)⟩

theorem isCNF_of_shape {g : G} (b : BinShape g) (s : StartFree g) (e : EpsOnlyStart g) (u : NoUnit g) : IsCNF g := by
  intro p hp
  obtain ⟨hlen, hshape⟩ := b p hp
  unfold cnfProd
  match hb : p.body with
  | [] => simpa using (e p hp hb).1
  | [Sym.term t] => rfl
  | [Sym.nonterm a] =>
    have := u p hp
    unfold isSingle at this
    rw [hb] at this
    cases this
  | [Sym.nonterm a, Sym.nonterm b] =>
    have ha : a ≠ g.start := fun e => s p hp (by rw [hb, e]; simp)
    have hbb : b ≠ g.start := fun e => s p hp (by rw [hb, e]; simp)
    simp [ha, hbb]
  | [Sym.term t, y] =>
    exfalso
    rcases hshape with ht | hnt
    · unfold isTerminalProd at ht; rw [hb] at ht; cases ht
    · have := hnt (Sym.term t) (by rw [hb]; simp)
      cases this
  | [Sym.nonterm a, Sym.term t] =>
    exfalso
    rcases hshape with ht | hnt
    · unfold isTerminalProd at ht; rw [hb] at ht; cases ht
    · have := hnt (Sym.term t) (by rw [hb]; simp)
      cases this
  | _ :: _ :: _ :: _ => rw [hb] at hlen; simp at hlen

theorem cnf_isCNF {g g' : G} (h : cnf g = .ok g') (hw : WellFormed g) : IsCNF g' := by
  obtain ⟨g1, g2, g3, h1, h2, h3, h4⟩ := cnf_ok h
  have w1 := cnfStart_wf h1 hw
  have w2 := cnfTerm_wf h2 w1
  have w3 := cnfBin_wf h3 w2
  obtain ⟨t2, s2⟩ := cnfTerm_shape h2 w1 (cnfStart_startFree h1 hw)
  obtain ⟨b3, s3⟩ := cnfBin_shape h3 w2 t2 s2
  obtain ⟨b, s⟩ := elimCycles_shape h4 w3 b3 s3
  exact isCNF_of_shape b s (elimCycles_epsOnlyStart h4 w3) (elimCycles_noUnit h4)

theorem cnfStart_valid {g g' : G} (h : cnfStart g = .ok g') (hv : Valid g) : Valid g' := by
  have hwf := cnfStart_wf h hv.wellFormed
  rcases cnfStart_ok h with rfl | ⟨s', _, rfl⟩
  · exact hv
  · refine ⟨hwf.1, ?_, hwf.2⟩
    intro n hn
    simp at hn
    rcases hn with hn | rfl
    · obtain ⟨p, hp, hh⟩ := hv.2.1 n hn
      exact ⟨p, mem_ins.mpr (Or.inl hp), hh⟩
    · exact ⟨_, mem_ins.mpr (Or.inr rfl), rfl⟩

theorem cnfTerm_valid {g g' : G} (h : cnfTerm g = .ok g') (hv : Valid g) : Valid g' := by
  obtain ⟨store, hc, hcov⟩ := cnfTerm_spec h
  exact (hc.folded hv.wellFormed).valid hv hcov fun d hd => ⟨_, hc.defd d hd, rfl⟩

theorem cnfBin_valid {g g' : G} (h : cnfBin g = .ok g') (hv : Valid g) : Valid g' := by
  obtain ⟨defs, hc, hdone, hcov⟩ := cnfBin_spec h
  exact (hc.folded hv.wellFormed).valid hv hcov hdone

theorem cnf_valid {g g' : G} (h : cnf g = .ok g') (hv : Valid g) (hl : ∃ w, Language g w) : Valid g' := by
  obtain ⟨g1, g2, g3, h1, h2, h3, h4⟩ := cnf_ok h
  have v1 := cnfStart_valid h1 hv
  have v2 := cnfTerm_valid h2 v1
  refine elimCycles_valid h4 (cnfBin_valid h3 v2) (hl.imp fun w hw => ?_)
  rwa [cnfBin_language h3 v2.wellFormed, cnfTerm_language h2 v1.wellFormed, cnfStart_language h1 hv.wellFormed]

end AlgoVerif.C08
