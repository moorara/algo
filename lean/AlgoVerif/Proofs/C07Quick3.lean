import AlgoVerif.Proofs.C07Basic
/-!
# C07 — 3-way quick sort (`sort/quick.go`, `quick3Way` / `Quick3Way`): Dijkstra's 3-way partition loop
around the pivot value (loop variables written as casts of `Nat`s, `gt` as `gt1 - 1`) and the recursion
-/
namespace AlgoVerif.C07
open AlgoVerif

variable {α : Type} {cmp : α → α → Int}

theorem q3Loop_spec (v : α) (lo hi1 : Nat) :
    ∀ (f : Nat) (lt i gt1 : Nat) (a : Array α),
      gt1 < f + i ∧ lo ≤ lt ∧ lt < i ∧ i ≤ gt1 ∧ gt1 ≤ hi1 → hi1 ≤ a.size →
      AllSeg (fun x => cmp x v < 0) a lo lt →
      AllSeg (fun x => cmp x v = 0) a lt i →
      AllSeg (fun x => cmp x v > 0) a gt1 hi1 →
      ∃ (a' : Array α) (lt' gt1' : Nat),
        q3Loop cmp v f lt i ((gt1 : Int) - 1) a = .ok (a', (lt' : Int), (gt1' : Int) - 1) ∧
        SegStep a a' lo hi1 ∧
        lo ≤ lt' ∧ lt' < gt1' ∧ gt1' ≤ hi1 ∧
        AllSeg (fun x => cmp x v < 0) a' lo lt' ∧
        AllSeg (fun x => cmp x v = 0) a' lt' gt1' ∧
        AllSeg (fun x => cmp x v > 0) a' gt1' hi1 := by
  intro f
  induction f with
  | zero => intros; omega
  | succ f ih =>
    intro lt i gt1 a ⟨hf, h1, h2, h3, h4⟩ h5 hL hM hR
    unfold q3Loop
    by_cases hig : i < gt1
    · have c1 : (i : Int) ≤ (gt1 : Int) - 1 := by omega
      simp only [c1, ↓reduceIte]
      rw [get_nat (by omega : i < a.size)]
      simp only [ok_bind]
      split
      · -- `a[lt]` (equal to `v`) and `a[i]` (smaller) change places
        next hc =>
        rw [swap_nat (by omega) (by omega)]
        simp only [ok_bind]
        rw [← Int.natCast_add_one, ← Int.natCast_add_one]
        obtain ⟨a', lt', gt1', r1, s, r⟩ :=
          ih (lt+1) (i+1) gt1 (a.swap lt i (by omega) (by omega)) (by omega) (Array.size_swap ▸ h5)
            (AllSeg.swap _ _ (fun p hp1 hp2 _ _ hp => hL p hp1 (by omega) hp)
              (fun _ _ => hc) (fun _ _ => by omega))
            (AllSeg.swap _ _ (fun p hp1 hp2 _ _ hp => hM p (by omega) (by omega) hp)
              (fun _ _ => by omega) (fun _ _ => hM lt (Nat.le_refl _) h2 (by omega)))
            (AllSeg.swap _ _ (fun p hp1 hp2 _ _ hp => hR p hp1 hp2 hp)
              (fun _ _ => by omega) (fun _ _ => by omega))
        exact ⟨a', lt', gt1', r1, (SegStep.swap _ _ h1 (by omega) (by omega) (by omega)).trans s, r⟩
      · next hc =>
        split
        · -- `a[i]` (greater) goes to the front of the right block
          next hc2 =>
          obtain ⟨g, rfl⟩ : ∃ g, gt1 = g + 1 := ⟨gt1 - 1, by omega⟩
          have e1 : (((g + 1 : Nat) : Int) - 1) = (g : Int) := by omega
          rw [e1, swap_nat (by omega) (by omega)]
          simp only [ok_bind]
          obtain ⟨a', lt', gt1', r1, s, r⟩ :=
            ih lt i g (a.swap i g (by omega) (by omega)) (by omega)
              (Array.size_swap ▸ h5)
              (AllSeg.swap _ _ (fun p hp1 hp2 _ _ hp => hL p hp1 hp2 hp)
                (fun _ _ => by omega) (fun _ _ => by omega))
              (AllSeg.swap _ _ (fun p hp1 hp2 _ _ hp => hM p hp1 hp2 hp)
                (fun _ _ => by omega) (fun _ _ => by omega))
              (AllSeg.swap _ _ (fun p hp1 hp2 _ _ hp => hR p (by omega) hp2 hp)
                (fun _ _ => by simpa only [show g = i by omega] using hc2) (fun _ _ => hc2))
          exact ⟨a', lt', gt1', r1,
            (SegStep.swap _ _ (by omega) (by omega) (by omega) (by omega)).trans s, r⟩
        · next hc2 =>
          rw [← Int.natCast_add_one]
          exact ih lt (i+1) gt1 a (by omega) h5 hL (hM.append (.single fun _ => by omega)) hR
    · have c1 : ¬ (i : Int) ≤ (gt1 : Int) - 1 := by omega
      simp only [c1, ↓reduceIte]
      have : i = gt1 := by omega
      subst this
      exact ⟨a, lt, i, rfl, SegStep.refl _ _ _, h1, h2, h4, hL, hM, hR⟩

theorem quick3WayAux_spec (tp : TotalPreorder cmp) :
    ∀ (f : Nat) (a : Array α) (lo hi1 : Nat), hi1 ≤ a.size → hi1 - lo < f →
      ∃ a', quick3WayAux cmp f a (lo : Int) ((hi1 : Int) - 1) = .ok a' ∧
        SegStep a a' lo hi1 ∧ SortedSeg cmp a' lo hi1 := by
  intro f
  induction f with
  | zero => intros; omega
  | succ f ih =>
    intro a lo hi1 hsz hf
    unfold quick3WayAux
    split
    · exact ⟨a, rfl, SegStep.refl _ _ _, fun p q _ _ _ _ => by omega⟩
    · have hlo : lo < a.size := by omega
      rw [get_nat hlo]
      simp only [ok_bind]
      rw [← Int.natCast_add_one]
      obtain ⟨a1, lt, gt1, r1, S1, r6, r7, r8, L1, M1, R1⟩ :=
        q3Loop_spec (cmp := cmp) (a[lo]'hlo) lo hi1 (a.size + 1) lo (lo+1) hi1 a (by omega) hsz
          (fun p _ _ _ => by omega) (.single fun _ => tp.eq_self _) (fun p _ _ _ => by omega)
      rw [r1]
      simp only [ok_bind]
      have e2 : (gt1 : Int) - 1 + 1 = (gt1 : Int) := by omega
      rw [e2]
      have hsz1 := S1.size
      obtain ⟨a2, s1, S2, sorted2⟩ := ih a1 lo lt (by omega) (by omega)
      rw [s1]
      simp only [ok_bind]
      have hsz2 := S2.size
      obtain ⟨a3, t1, S3, sorted3⟩ := ih a2 gt1 hi1 (by omega) (by omega)
      refine ⟨a3, t1, S1.trans ((S2.widen (Nat.le_refl _) (by omega)).trans
        (S3.widen (by omega) (Nat.le_refl _))), ?_⟩
      have L3 := S3.allSeg_disjoint (Or.inl (by omega)) (S2.pres _ L1)
      have M3 := S3.allSeg_disjoint (Or.inl (Nat.le_refl _))
        (S2.allSeg_disjoint (Or.inr (Nat.le_refl _)) M1)
      have R3 := S3.pres _ (S2.allSeg_disjoint (Or.inr (by omega)) R1)
      exact sortedSeg_of_pivot tp _
        ((L3.imp fun _ h => Int.le_of_lt h).append (M3.imp fun _ h => Int.le_of_eq h))
        ((M3.imp fun _ h => Int.le_of_eq (tp.eq_flip h)).append (R3.imp fun _ h => tp.le_of_gt h))
        (S3.sortedSeg_disjoint (Or.inl (by omega)) sorted2) sorted3

theorem quick3Way_spec (tp : TotalPreorder cmp) (a : Array α) :
    ∃ out, quick3Way cmp a = .ok out ∧ IsSortOf cmp out a := by
  obtain ⟨out, h1, S, h3⟩ := quick3WayAux_spec tp (a.size + 1) a 0 a.size (Nat.le_refl _) (by omega)
  exact ⟨out, by simpa [quick3Way] using h1, isSortOf_of (S.size ▸ h3) S.perm⟩

end AlgoVerif.C07
