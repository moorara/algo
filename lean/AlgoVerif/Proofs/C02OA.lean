import AlgoVerif.Proofs.C02Probe
import AlgoVerif.Proofs.C02Num
/-!
# C02/C03 — quadratic probing and double hashing: the Model satisfies `Correct`

Invariant: no key occupies two slots (soft-deleted ones included); every
occupied slot is reached by the probe sequence of its key through occupied slots only, within the
first `cover` probes; `n` = number of live slots, `u` = number of occupied slots; `u/m ≤ maxLF ≤ 1/2`.
For double hashing the field `p` is the capacity itself (`p_eq`; why, and what that does to the second hash: `h2of_coprime`).
-/
set_option linter.unusedSectionVars false
namespace AlgoVerif.C02
open Spec AlgoVerif.Generated
variable {K V σ : Type} [DecidableEq K]

abbrev Slots (K V : Type) := Array (Option (Entry K V))

def keyAt (s : Slots K V) (i : Nat) : Option K :=
  match s[i]? with
  | some (some e) => some e.key
  | _ => none

def isUsed (s : Slots K V) (i : Nat) : Bool := (keyAt s i).isSome

def isLive (s : Slots K V) (i : Nat) : Bool :=
  match s[i]? with
  | some (some e) => !e.deleted
  | _ => false

section
variable {s : Slots K V} {i : Nat}

theorem keyAt_eq_some {k : K} :
    keyAt s i = some k ↔ ∃ e, s[i]? = some (some e) ∧ e.key = k := by
  unfold keyAt
  split
  · rename_i e he
    rw [he]
    exact ⟨fun h => ⟨e, rfl, Option.some.inj h⟩, fun ⟨e', he', hk⟩ => by cases he'; rw [hk]⟩
  · rename_i hne
    constructor
    · intro h; cases h
    · rintro ⟨e, he, _⟩; exact absurd he (hne e)

theorem isUsed_false_of_none (h : s[i]? = some none) : isUsed s i = false := by
  rw [isUsed, keyAt, h]
  rfl

theorem isUsed_true_of_some {e : Entry K V} (h : s[i]? = some (some e)) : isUsed s i = true := by
  rw [isUsed, keyAt, h]
  rfl

theorem none_of_not_used (hi : i < s.size) (h : isUsed s i = false) : s[i]? = some none := by
  have hs : s[i]? = some s[i] := by simp [hi]
  cases hx : s[i] with
  | none => rw [hs, hx]
  | some e =>
    rw [hx] at hs
    rw [isUsed_true_of_some hs] at h; cases h

theorem isLive_imp_isUsed (h : isLive s i = true) : isUsed s i = true := by
  unfold isLive at h
  split at h
  · rename_i e he; exact isUsed_true_of_some he
  · cases h

theorem isLive_false_of_none (h : s[i]? = some none) : isLive s i = false := by
  rw [isLive, h]

end

section
variable (s : Slots K V) (idx : Nat) (hidx : idx < s.size) (e : Entry K V) (j : Nat)
include hidx

theorem keyAt_set :
    keyAt (s.setIfInBounds idx (some e)) j = if j = idx then some e.key else keyAt s j := by
  unfold keyAt
  rw [get_set s idx hidx]
  by_cases h : j = idx
  · rw [if_pos h, if_pos h]
  · rw [if_neg h, if_neg h]

theorem isLive_set :
    isLive (s.setIfInBounds idx (some e)) j = if j = idx then !e.deleted else isLive s j := by
  unfold isLive
  rw [get_set s idx hidx]
  by_cases h : j = idx
  · rw [if_pos h, if_pos h]
  · rw [if_neg h, if_neg h]

theorem isUsed_set :
    isUsed (s.setIfInBounds idx (some e)) j = if j = idx then true else isUsed s j := by
  unfold isUsed
  rw [keyAt_set s idx hidx]
  split <;> rfl

end

def OA.Live (t : OATable K V) (k : K) (v : V) : Prop :=
  ∃ (i : Nat) (e : Entry K V), t.slots[i]? = some (some e) ∧ e.key = k ∧ e.val = v ∧ e.deleted = false

theorem OA.live_iff_holds {t : OATable K V} {k : K} {v : V} :
    OA.Live t k v ↔ ∃ e, Holds t.slots e ∧ e.key = k ∧ e.val = v ∧ e.deleted = false :=
  ⟨fun ⟨i, e, h, r⟩ => ⟨e, ⟨i, h⟩, r⟩, fun ⟨e, ⟨i, h⟩, r⟩ => ⟨i, e, h, r⟩⟩

def OA.pr (hash : K → UInt64) (t : OATable K V) (key : K) (i : Nat) : Nat :=
  probeIdx t.kind t.m t.p (mix (hash key)) i

structure OA.InvCore (hash : K → UInt64) (t : OATable K V) : Prop where
  size : t.slots.size = t.m
  prime : Nat.Prime t.m
  minM : t.kind.minM ≤ t.m
  p_eq : t.kind = .dbl → t.p = (t.m : Int)
  n_eq : t.n = ((cnt (isLive t.slots) t.m : Nat) : Int)
  u_eq : t.u = ((cnt (isUsed t.slots) t.m : Nat) : Int)
  lf : ValidLF t.kind.defMinLF t.kind.defMaxLF t.minLF t.maxLF
  uniq : ∀ i j k, keyAt t.slots i = some k → keyAt t.slots j = some k → i = j
  reach : ∀ idx k, keyAt t.slots idx = some k → ∃ i, i < cover t.kind t.m ∧ OA.pr hash t k i = idx ∧
    ∀ j, j < i → isUsed t.slots (OA.pr hash t k j) = true

/-- invariant with room for `r` more occupied slots -/
def OA.Room (hash : K → UInt64) (r : Nat) (t : OATable K V) : Prop :=
  OA.InvCore hash t ∧ (t.u + (r : Int)) * (t.maxLF.den : Int) ≤ (t.maxLF.num : Int) * (t.m : Int)

abbrev OA.Inv (hash : K → UInt64) (t : OATable K V) : Prop := OA.Room hash 0 t

theorem OA.minM_ge (kind : Kind) : 31 ≤ kind.minM := by cases kind <;> decide

theorem OA.lf_facts {kind : Kind} {minLF maxLF : LF} (h : ValidLF kind.defMinLF kind.defMaxLF minLF maxLF) :
    0 < minLF.num ∧ 0 < maxLF.num ∧ maxLF.den < 8 * maxLF.num ∧ 2 * maxLF.num ≤ maxLF.den := by
  -- the regenerated defaults of either kind unfold to `1/8` and `1/2`; a changed constant breaks this line
  cases kind <;> exact ValidLF.open_facts h

section
variable {hash : K → UInt64} {t : OATable K V}

theorem OA.InvCore.probed (hI : OA.InvCore hash t) : ProbedF (keyAt t.slots) (OA.pr hash t) (cover t.kind t.m) :=
  ⟨hI.uniq, hI.reach⟩

theorem OA.m_facts (hI : OA.InvCore hash t) : 31 ≤ t.m ∧ t.m % 2 = 1 := by
  have h1 := OA.minM_ge t.kind
  have h2 := hI.minM
  refine ⟨by omega, ?_⟩
  rcases Nat.Prime.eq_two_or_odd hI.prime with h | h
  · omega
  · exact h

theorem OA.pr_lt (hI : OA.InvCore hash t) (key : K) (i : Nat) : OA.pr hash t key i < t.slots.size := by
  rw [hI.size]
  exact probeIdx_lt _ _ _ _ _ hI.prime.pos

theorem OA.den_le (hI : OA.InvCore hash t) : (t.maxLF.den : Int) ≤ (t.maxLF.num : Int) * (t.m : Int) :=
  den_le_of (c := 8) (by have := (OA.lf_facts hI.lf).2.2.1; omega) (by have := (OA.m_facts hI).1; omega)

theorem OA.inv_of_empty (hI : OA.InvCore hash t) (hu : t.u = 0) : OA.Inv hash t := by
  refine ⟨hI, ?_⟩
  rw [hu, Int.natCast_zero, Int.add_zero, Int.zero_mul]
  exact Int.mul_nonneg (Int.natCast_nonneg _) (Int.natCast_nonneg _)

theorem OA.room_weaken {r : Nat} (h : OA.Room hash r t) : OA.Inv hash t :=
  ⟨h.1, Int.le_trans (room_mono (Int.natCast_nonneg _) (Nat.zero_le r)) h.2⟩

theorem OA.n_le_u (hI : OA.InvCore hash t) : 0 ≤ t.n ∧ t.n ≤ t.u := by
  rw [hI.n_eq, hI.u_eq]
  have := cnt_mono (P := isLive t.slots) (Q := isUsed t.slots) (n := t.m) (fun i _ h => isLive_imp_isUsed h)
  omega

theorem OA.reach_path (hI : OA.InvCore hash t) {idx : Nat} {e : Entry K V} (he : t.slots[idx]? = some (some e)) :
    ∃ i, OA.pr hash t e.key i = idx ∧ ∀ j, j < i → isUsed t.slots (OA.pr hash t e.key j) = true := by
  obtain ⟨i, _, hpi, hpath⟩ := hI.reach idx e.key (keyAt_eq_some.2 ⟨e, he, rfl⟩)
  exact ⟨i, hpi, hpath⟩

theorem OA.live_func (hI : OA.InvCore hash t) {k : K} {v v' : V} (h1 : OA.Live t k v) (h2 : OA.Live t k v') :
    v = v' := by
  obtain ⟨i, e, he, hk, hv, _⟩ := h1
  obtain ⟨j, e', he', hk', hv', _⟩ := h2
  have := hI.uniq i j k (keyAt_eq_some.2 ⟨e, he, hk⟩) (keyAt_eq_some.2 ⟨e', he', hk'⟩)
  subst this
  rw [he] at he'
  cases he'
  exact hv.symm.trans hv'

theorem OA.u_lt_cover (h : OA.Inv hash t) : cnt (isUsed t.slots) t.m < cover t.kind t.m := by
  obtain ⟨hI, hroom⟩ := h
  obtain ⟨_, hnum, _, h2⟩ := OA.lf_facts hI.lf
  obtain ⟨hm, hodd⟩ := OA.m_facts hI
  rw [hI.u_eq, Int.natCast_zero, Int.add_zero] at hroom
  have h2u := half_load (Int.natCast_nonneg _) (by omega) (by omega) hroom
  have := le_two_cover t.kind t.m
  omega

end

theorem OA.exists_free {hash : K → UInt64} {t : OATable K V} (h : OA.Inv hash t) (key : K) :
    ∃ i, i < cover t.kind t.m ∧ t.slots[OA.pr hash t key i]? = some none :=
  free_of_count (isUsed t.slots) (fun _ => none_of_not_used) h.1.size (OA.pr hash t key)
    (fun i => h.1.size ▸ OA.pr_lt h.1 key i)
    (fun i j hij hj => probeIdx_inj t.kind t.m h.1.prime t.p h.1.p_eq _ i j hij hj) (OA.u_lt_cover h)

/-- `stop` of the search loop shared by `Put` and `Delete` -/
def stopFind (key : K) (x : Option (Entry K V)) : Bool :=
  match x with
  | none => true
  | some e => decide (e.key = key)

def stopGet (key : K) (x : Option (Entry K V)) : Bool :=
  match x with
  | none => true
  | some e => !e.deleted && decide (e.key = key)

section
variable (hash : K → UInt64) (t : OATable K V) (key : K)

theorem OA.findLoop_eq : ∀ fuel i,
    OA.findLoop t (mix (hash key)) key fuel i =
      walk t.slots (OA.pr hash t key) (fun i x => if stopFind key x then some (OA.pr hash t key i) else none) fuel i :=
  walk_eq _ _ _ id _ (fun _ => rfl) fun f i => by
    rw [OA.findLoop]
    simp only [OA.pr]
    rcases t.slots[probeIdx t.kind t.m t.p (mix (hash key)) i]? with _ | _ | e
    · rfl
    · rfl
    · by_cases hk : e.key = key <;> simp [stopFind, hk]

theorem OA.getLoop_eq : ∀ fuel i,
    OA.getLoop t (mix (hash key)) key fuel i =
      walk t.slots (OA.pr hash t key) (fun _ x => if stopGet key x then some (x.map (·.val)) else none) fuel i :=
  walk_eq _ _ _ id _ (fun _ => rfl) fun f i => by
    rw [OA.getLoop]
    simp only [OA.pr]
    rcases t.slots[probeIdx t.kind t.m t.p (mix (hash key)) i]? with _ | _ | e
    · rfl
    · rfl
    · by_cases hk : (!e.deleted && decide (e.key = key)) = true <;> simp [stopGet, hk]

def OA.written (t : OATable K V) (idx : Nat) (key : K) (val : V) : OATable K V :=
  { t with slots := t.slots.setIfInBounds idx (some ⟨key, val, false⟩),
           n := t.n + (if isLive t.slots idx then 0 else 1), u := t.u + (if isUsed t.slots idx then 0 else 1) }

/-- the three things `Put` does where its search stops (nil slot, live entry of `key`, soft-deleted entry of `key`) are one:
the pair is written and the counters follow -/
theorem OA.putLoop_eq (val : V) : ∀ fuel i,
    OA.putLoop t (mix (hash key)) key val fuel i =
      walk t.slots (OA.pr hash t key)
        (fun i x => if stopFind key x then some (OA.written t (OA.pr hash t key i) key val) else none) fuel i :=
  walk_eq _ _ _ id _ (fun _ => rfl) fun f i => by
    rw [OA.putLoop]
    simp only [OA.pr]
    rcases hx : t.slots[probeIdx t.kind t.m t.p (mix (hash key)) i]? with _ | _ | e
    · rfl
    · simp [stopFind, OA.written, isLive_false_of_none hx, isUsed_false_of_none hx]
    · by_cases hk : e.key = key
      · have hl : isLive t.slots (probeIdx t.kind t.m t.p (mix (hash key)) i) = !e.deleted := by simp [isLive, hx]
        cases hd : e.deleted <;> simp [stopFind, hk, OA.written, isUsed_true_of_some hx, hl, hd]
      · simp [stopFind, hk]

theorem OA.probesFind_eq : ∀ fuel i,
    OA.probesFind t (mix (hash key)) key fuel i =
      okVal (walk t.slots (OA.pr hash t key) (fun i x => if stopFind key x then some (i + 1) else none) fuel i) :=
  walk_eq _ _ _ okVal _ (fun _ => rfl) fun f i => by
    rw [OA.probesFind]
    simp only [OA.pr]
    rcases t.slots[probeIdx t.kind t.m t.p (mix (hash key)) i]? with _ | _ | e
    · rfl
    · rfl
    · by_cases hk : e.key = key <;> simp [stopFind, hk, okVal]

theorem OA.probesGet_eq : ∀ fuel i,
    OA.probesGet t (mix (hash key)) key fuel i =
      okVal (walk t.slots (OA.pr hash t key) (fun i x => if stopGet key x then some (i + 1) else none) fuel i) :=
  walk_eq _ _ _ okVal _ (fun _ => rfl) fun f i => by
    rw [OA.probesGet]
    simp only [OA.pr]
    rcases t.slots[probeIdx t.kind t.m t.p (mix (hash key)) i]? with _ | _ | e
    · rfl
    · rfl
    · by_cases hk : (!e.deleted && decide (e.key = key)) = true <;> simp [stopGet, hk, okVal]

theorem OA.find_result (h : OA.Inv hash t) :
    ∃ i1 x1, Found t.slots (keyAt t.slots) (OA.pr hash t key) (stopFind key) key (cover t.kind t.m) t.m i1 x1 :=
  h.1.probed.found Entry.key (fun _ _ => keyAt_eq_some) key (OA.pr_lt h.1 key) (cover_le _ _)
    (OA.exists_free h key) (stopFind key) rfl fun e => by simp [stopFind]

theorem OA.get_result (h : OA.Inv hash t) :
    ∃ i1 x1, i1 < cover t.kind t.m ∧
      (∀ (β : Type) (f : Nat → Option (Entry K V) → β),
        walk t.slots (OA.pr hash t key) (fun i x => if stopGet key x then some (f i x) else none) t.m 0 = .ok (f i1 x1)) ∧
      (∀ v, x1.map (·.val) = some v ↔ OA.Live t key v) := by
  obtain ⟨i1, x1, hi1, hx1, hstop, _, hwalk, hnone⟩ := walk_stop t.slots (OA.pr hash t key) (OA.pr_lt h.1 key)
    (cover t.kind t.m) t.m (cover_le _ _) (OA.exists_free h key) (isUsed t.slots) (fun _ => isUsed_false_of_none)
    (stopGet key) rfl
  refine ⟨i1, x1, hi1, hwalk, fun v => ?_⟩
  cases x1 with
  | some e1 =>
    have hlive : e1.deleted = false ∧ e1.key = key := by simpa [stopGet] using hstop
    have hheld : OA.Live t key e1.val := ⟨_, e1, hx1, hlive.2, rfl, hlive.1⟩
    simp only [Option.map_some, Option.some.injEq]
    exact ⟨fun hv => hv ▸ hheld, OA.live_func h.1 hheld⟩
  | none =>
    simp only [Option.map_none, reduceCtorEq, false_iff]
    rintro ⟨idx, e, he, hk, hv, hd⟩
    have := hnone rfl idx e he (hk ▸ OA.reach_path h.1 he)
    simp [stopGet, hk, hd] at this

theorem OA.get_spec (h : OA.Inv hash t) :
    ∃ o, OA.get hash t key = .ok o ∧ ∀ v, o = some v ↔ OA.Live t key v := by
  obtain ⟨i1, x1, _, hwalk, hlive⟩ := OA.get_result hash t key h
  refine ⟨x1.map (·.val), ?_, hlive⟩
  unfold OA.get
  rw [OA.getLoop_eq]
  exact hwalk _ (fun _ x => x.map (·.val))

theorem OA.live_iff_found {hash : K → UInt64} {t : OATable K V} {key : K} {i1 : Nat} {x1 : Option (Entry K V)}
    (hf : Found t.slots (keyAt t.slots) (OA.pr hash t key) (stopFind key) key (cover t.kind t.m) t.m i1 x1) (v : V) :
    OA.Live t key v ↔ match x1 with
      | none => False
      | some e => e.val = v ∧ e.deleted = false := by
  constructor
  · rintro ⟨i, e, he, hk, hv, hd⟩
    have hi : i = OA.pr hash t key i1 := Classical.not_not.1 fun hne => hf.other i hne (keyAt_eq_some.2 ⟨e, he, hk⟩)
    rw [hi, hf.get] at he
    cases he
    exact ⟨hv, hd⟩
  · cases x1 with
    | none => exact False.elim
    | some e => exact fun ⟨hv, hd⟩ => ⟨_, e, hf.get, of_decide_eq_true hf.stops, hv, hd⟩

/-- Writing an entry `e'` of `key` into the slot where the search for `key` stopped keeps the structural part of the
invariant, provided the counters follow.  (`Put` writes a live entry, `Delete` the old entry marked deleted.) -/
theorem OA.set_spec (hI : OA.InvCore hash t) {i1 : Nat} {x1 : Option (Entry K V)}
    (hf : Found t.slots (keyAt t.slots) (OA.pr hash t key) (stopFind key) key (cover t.kind t.m) t.m i1 x1)
    (e' : Entry K V) (he' : e'.key = key) (n' u' : Int)
    (hn : n' + (if isLive t.slots (OA.pr hash t key i1) then 1 else 0) = t.n + (if !e'.deleted then 1 else 0))
    (hu : u' + (if isUsed t.slots (OA.pr hash t key i1) then 1 else 0) = t.u + 1) :
    OA.InvCore hash { t with slots := t.slots.setIfInBounds (OA.pr hash t key i1) (some e'), n := n', u := u' } ∧
    ∀ k v, OA.Live { t with slots := t.slots.setIfInBounds (OA.pr hash t key i1) (some e'), n := n', u := u' } k v ↔
      (k = key ∧ v = e'.val ∧ e'.deleted = false) ∨ (k ≠ key ∧ OA.Live t k v) := by
  subst he'
  have hidx := OA.pr_lt hI e'.key i1
  have hidxm : OA.pr hash t e'.key i1 < t.m := hI.size ▸ hidx
  have hus := isUsed_set t.slots _ hidx e'
  have hls := isLive_set t.slots _ hidx e'
  have hP := hI.probed.set (keyAt_set t.slots _ hidx e') hf.other ⟨i1, hf.lt, rfl, hf.before⟩
  constructor
  · refine ⟨by simp [hI.size], hI.prime, hI.minM, hI.p_eq, ?_, ?_, hI.lf, hP.uniq, hP.reach⟩
    · have hc := cnt_update (P := isLive t.slots) (Q := isLive (t.slots.setIfInBounds _ (some e'))) hidxm
        (fun i hi => by rw [hls, if_neg hi])
      rw [hls, if_pos rfl] at hc
      exact counter_follows hI.n_eq hc hn
    · have hc := cnt_update (P := isUsed t.slots) (Q := isUsed (t.slots.setIfInBounds _ (some e'))) hidxm
        (fun i hi => by rw [hus, if_neg hi])
      rw [hus, if_pos rfl] at hc
      exact counter_follows (d := true) hI.u_eq hc hu
  · intro k v
    simp only [OA.live_iff_holds, holds_set hidx Entry.key e'
      (fun i x hi hx hk => hf.other i hi (keyAt_eq_some.2 ⟨x, hx, hk⟩))
      (fun e he => by simpa [stopFind, Option.some.inj (hf.get.symm.trans he)] using hf.stops)]
    constructor
    · rintro ⟨e, rfl | ⟨hne, hh⟩, rfl, rfl, hd⟩
      · exact Or.inl ⟨rfl, rfl, hd⟩
      · exact Or.inr ⟨hne, e, hh, rfl, rfl, hd⟩
    · rintro (⟨rfl, rfl, hd⟩ | ⟨hne, e, hh, rfl, rfl, hd⟩)
      · exact ⟨e', Or.inl rfl, rfl, rfl, hd⟩
      · exact ⟨e, Or.inr ⟨hne, hh⟩, rfl, rfl, hd⟩

/-- kind and load-factor bounds, which no operation changes -/
def OA.par (t : OATable K V) : Kind × LF × LF := (t.kind, t.minLF, t.maxLF)

theorem OA.putLoop_spec (val : V) (r : Nat) (h : OA.Room hash (r + 1) t) :
    ∃ t', OA.putLoop t (mix (hash key)) key val t.m 0 = .ok t' ∧ OA.Room hash r t' ∧ PutPost OA.par OA.Live t key val t' := by
  have hInv := OA.room_weaken h
  obtain ⟨i1, x1, hf⟩ := OA.find_result hash t key hInv
  have hloop : OA.putLoop t (mix (hash key)) key val t.m 0 = .ok (OA.written t (OA.pr hash t key i1) key val) := by
    rw [OA.putLoop_eq]
    exact hf.returns _ (fun i _ => OA.written t (OA.pr hash t key i) key val)
  obtain ⟨hcore, hlive⟩ := OA.set_spec hash t key hInv.1 hf ⟨key, val, false⟩ rfl
    (t.n + (if isLive t.slots (OA.pr hash t key i1) then 0 else 1))
    (t.u + (if isUsed t.slots (OA.pr hash t key i1) then 0 else 1))
    (by split <;> simp) (by split <;> simp)
  refine ⟨_, hloop, ⟨hcore, Int.le_trans (Int.mul_le_mul_of_nonneg_right ?_ (Int.natCast_nonneg _)) h.2⟩,
    rfl, fun k' v' => (hlive k' v').trans (by simp)⟩
  show t.u + (if isUsed t.slots (OA.pr hash t key i1) then 0 else 1) + (r : Int) ≤ t.u + ((r + 1 : Nat) : Int)
  split <;> omega

/-- the table right after `Delete` marked the entry in slot `idx` (before the load check) -/
def OA.afterDelete (t : OATable K V) (idx : Nat) (e : Entry K V) : OATable K V :=
  { t with slots := t.slots.setIfInBounds idx (some { e with deleted := true }), n := t.n - 1 }

theorem OA.softDelete_spec (h : OA.Inv hash t) {i1 : Nat} {e : Entry K V}
    (hf : Found t.slots (keyAt t.slots) (OA.pr hash t key) (stopFind key) key (cover t.kind t.m) t.m i1 (some e))
    (hd : e.deleted = false) :
    OA.Inv hash (OA.afterDelete t (OA.pr hash t key i1) e) ∧
      ∀ k' v', OA.Live (OA.afterDelete t (OA.pr hash t key i1) e) k' v' ↔ k' ≠ key ∧ OA.Live t k' v' := by
  obtain ⟨hcore, hlive⟩ := OA.set_spec hash t key h.1 hf { e with deleted := true } (of_decide_eq_true hf.stops)
    (t.n - 1) t.u (by simp [isLive, hf.get, hd]) (by simp [isUsed_true_of_some hf.get])
  exact ⟨⟨hcore, h.2⟩, fun k' v' => (hlive k' v').trans (by simp)⟩

end

theorem OA.liveAt_isSome (s : Slots K V) (i : Nat) : (OA.liveAt s i).isSome = isLive s i := by
  unfold OA.liveAt isLive
  cases hx : s[i]? with
  | none => rfl
  | some x =>
    cases x with
    | none => rfl
    | some e => cases hd : e.deleted <;> simp [hd]

theorem OA.liveAt_eq_some {s : Slots K V} {i : Nat} {k : K} {v : V} :
    OA.liveAt s i = some (k, v) ↔ ∃ e, s[i]? = some (some e) ∧ e.key = k ∧ e.val = v ∧ e.deleted = false := by
  unfold OA.liveAt
  split
  · rename_i e he
    rw [he]
    cases hd : e.deleted
    · exact ⟨fun h => ⟨e, rfl, congrArg Prod.fst (Option.some.inj h), congrArg Prod.snd (Option.some.inj h), hd⟩,
        fun ⟨e', he', h1, h2, _⟩ => by cases he'; rw [h1, h2]; rfl⟩
    · exact ⟨nofun, fun ⟨e', he', _, _, hd'⟩ => by cases he'; rw [hd] at hd'; cases hd'⟩
  · rename_i hne
    exact ⟨nofun, fun ⟨e, he, _⟩ => absurd he (hne e)⟩

theorem OA.all_spec {sh : Shuffle σ} (hsh : ShufflePerm sh) {hash : K → UInt64} {t : OATable K V}
    (hI : OA.InvCore hash t) (g : σ) :
    NodupKeys (OA.all sh t g).1 ∧ (∀ k v, (k, v) ∈ (OA.all sh t g).1 ↔ OA.Live t k v) ∧
      (((OA.all sh t g).1.length : Nat) : Int) = t.n := by
  obtain ⟨hnd, hmem, hlen⟩ := listing_spec hsh g t.slots.size (OA.liveAt t.slots) (by
    intro i j k v v' h1 h2
    obtain ⟨e1, he1, hk1, _⟩ := OA.liveAt_eq_some.1 h1
    obtain ⟨e2, he2, hk2, _⟩ := OA.liveAt_eq_some.1 h2
    exact hI.uniq i j _ (keyAt_eq_some.2 ⟨e1, he1, hk1⟩) (keyAt_eq_some.2 ⟨e2, he2, hk2⟩))
  refine ⟨hnd, fun k v => ?_, ?_⟩
  · exact (hmem _).trans ⟨fun ⟨i, _, hi⟩ => ⟨i, OA.liveAt_eq_some.1 hi⟩,
      fun ⟨i, e, he, h⟩ => ⟨i, lt_size_of_get he, OA.liveAt_eq_some.2 ⟨e, he, h⟩⟩⟩
  · show ((((sh g t.slots.size).1.filterMap (OA.liveAt t.slots)).length : Nat) : Int) = t.n
    rw [hlen, hI.size, hI.n_eq]
    congr 1
    exact cnt_congr (fun i _ => OA.liveAt_isSome t.slots i)

theorem keyAt_replicate (m j : Nat) : keyAt (Array.replicate m (none : Option (Entry K V))) j = none := by
  unfold keyAt
  simp only [Array.getElem?_replicate]
  split <;> simp_all

theorem isLive_replicate (m j : Nat) : isLive (Array.replicate m (none : Option (Entry K V))) j = false := by
  unfold isLive
  simp only [Array.getElem?_replicate]
  split <;> simp_all

/-- the table allocated by the constructor and by `DeleteAll` -/
def OA.emptyTable (kind : Kind) (mp : Nat) (p : Int) (minLF maxLF : LF) : OATable K V :=
  { kind := kind, slots := Array.replicate mp none, m := mp, p := p, n := 0, u := 0, minLF := minLF, maxLF := maxLF }

theorem OA.empty_inv (hash : K → UInt64) (kind : Kind) (mp : Nat) (p : Int) (minLF maxLF : LF)
    (hlf : ValidLF kind.defMinLF kind.defMaxLF minLF maxLF) (hm : kind.minM ≤ mp) (hp : Nat.Prime mp)
    (hpp : kind = .dbl → p = (mp : Int)) :
    OA.InvCore hash (OA.emptyTable kind mp p minLF maxLF : OATable K V) ∧
    ∀ k v, ¬ OA.Live (OA.emptyTable kind mp p minLF maxLF : OATable K V) k v := by
  unfold OA.emptyTable
  constructor
  · refine ⟨by simp, hp, hm, hpp, ?_, ?_, hlf, ?_, ?_⟩
    · simp only
      rw [cnt_false (fun i _ => isLive_replicate mp i)]; rfl
    · simp only
      rw [cnt_false (fun i _ => by simp [isUsed, keyAt_replicate])]; rfl
    · intro i j k hi; simp only [keyAt_replicate] at hi; cases hi
    · intro idx k hi; simp only [keyAt_replicate] at hi; cases hi
  · rintro k v ⟨i, e, he, _⟩
    exact get_replicate_ne mp i e he

def OA.pOf : Kind → Nat → Int
  | .quad, _ => 0
  | .dbl, mp => (mp : Int)

theorem OA.new_spec (hash : K → UInt64) (kind : Kind) (mp : Nat) (minLF maxLF : LF)
    (hlf : ValidLF kind.defMinLF kind.defMaxLF minLF maxLF) (hm : kind.minM ≤ mp) (hp : Nat.Prime mp) :
    ∃ fresh : OATable K V, OA.new kind ⟨mp, minLF, maxLF⟩ = .ok fresh ∧ OA.InvCore hash fresh ∧
      fresh.m = mp ∧ fresh.u = 0 ∧ OA.par fresh = (kind, minLF, maxLF) ∧ ∀ k v, ¬ OA.Live fresh k v := by
  obtain ⟨a, b, _, _⟩ := OA.lf_facts hlf
  have hm0 : mp ≠ 0 := hp.pos.ne'
  obtain ⟨hcore, hempty⟩ := OA.empty_inv (V := V) hash kind mp (OA.pOf kind mp) minLF maxLF hlf hm hp
    (by intro hk; subst hk; rfl)
  refine ⟨OA.emptyTable kind mp (OA.pOf kind mp) minLF maxLF, ?_, hcore, rfl, rfl, rfl, hempty⟩
  unfold OA.new OA.emptyTable
  have hpr := (isPrime_correct mp).2 hp
  have hlp := largestPrimeSmallerThan_prime mp hp
  cases kind <;>
    simp [hm0, Nat.ne_of_gt a, Nat.ne_of_gt b, Nat.not_lt.2 hm, hpr, OA.pOf, hlp]

theorem OA.deleteAll_spec (hash : K → UInt64) (t : OATable K V) (h : OA.Inv hash t) :
    OA.Inv hash (OA.deleteAll t) ∧ ∀ k v, ¬ OA.Live (OA.deleteAll t) k v := by
  obtain ⟨hcore, hempty⟩ := OA.empty_inv (V := V) hash t.kind t.m t.p t.minLF t.maxLF h.1.lf h.1.minM h.1.prime h.1.p_eq
  exact ⟨OA.inv_of_empty hcore rfl, hempty⟩

theorem OA.copy_back (t nt : OATable K V) (h : OA.par nt = OA.par t) :
    ({ t with slots := nt.slots, m := nt.m, n := nt.n, u := nt.u, p := nt.p } : OATable K V) = nt := by
  obtain ⟨k, sl, m, p, n, u, a, b⟩ := nt
  obtain ⟨rfl, h⟩ := Prod.mk.inj h
  obtain ⟨rfl, rfl⟩ := Prod.mk.inj h
  rfl

section
variable {sh : Shuffle σ} (hsh : ShufflePerm sh) (hash : K → UInt64) (d : Nat) (t : OATable K V) (g : σ)

/-- the fuel `d + 1` here and `d + 2` below: see `Chain.put_room` -/
theorem OA.put_room (key : K) (val : V) (r : Nat) (h : OA.Room hash (r + 1) t) :
    ∃ t' g', OA.put sh hash (d + 1) t g key val = .ok (t', g') ∧ OA.Room hash r t' ∧ PutPost OA.par OA.Live t key val t' := by
  have hcheck : ratioGT (t.u + 1) t.m t.maxLF = false := by
    unfold ratioGT
    rw [decide_eq_false_iff_not, Int.not_lt]
    exact Int.le_trans (room_mono (s := 1) (Int.natCast_nonneg _) (Nat.le_add_left 1 r)) h.2
  obtain ⟨t', h1, h2⟩ := OA.putLoop_spec hash t key val r h
  refine ⟨t', g, ?_, h2⟩
  unfold OA.put
  simp only [hcheck, Bool.false_eq_true, if_false, h1]

include hsh

/-- `Q r` is what the re-insertion maintains while `r` pairs are still to come -/
theorem OA.resize_core (putRec : OATable K V → σ → K → V → Outcome (OATable K V × σ)) (m' : Nat)
    (hI : OA.InvCore hash t) (hm : t.kind.minM ≤ m') (Q : Nat → OATable K V → Prop)
    (hput : ∀ r t1 g1 k v, Q (r + 1) t1 → ∃ t2 g2, putRec t1 g1 k v = .ok (t2, g2) ∧ Q r t2 ∧ PutPost OA.par OA.Live t1 k v t2)
    (hfresh : ∀ (fresh : OATable K V) (len : Nat), OA.InvCore hash fresh → (len : Int) = t.n → fresh.u = 0 →
      fresh.maxLF = t.maxLF → m' ≤ fresh.m → Q len fresh) :
    ∃ t' g', OA.resizeWith sh putRec t g m' = .ok (t', g') ∧ Q 0 t' ∧ OA.par t' = OA.par t ∧
      ∀ k v, OA.Live t' k v ↔ OA.Live t k v := by
  have hm1 : 1 ≤ m' := by have := OA.minM_ge t.kind; omega
  obtain ⟨mp, hsp, hpp, hle, _⟩ := smallestPrimeLargerThan_terminates m' hm1
  obtain ⟨fresh, hnew, hfI, hfm, hfu, hfpar, hfempty⟩ :=
    OA.new_spec (V := V) hash t.kind mp t.minLF t.maxLF hI.lf (by omega) hpp
  obtain ⟨hnd, hmem, hlen⟩ := OA.all_spec hsh hI g
  obtain ⟨nt, g2, hf, hQ, hpar, hL⟩ := foldPut_fresh OA.par OA.Live Q putRec hput (OA.all sh t g).1 fresh
    (OA.all sh t g).2 hnd (hfresh fresh _ hfI hlen hfu (congrArg (·.2.2) hfpar) (hfm ▸ hle)) hfempty
  refine ⟨nt, g2, ?_, hQ, hpar.trans hfpar, fun k v => (hL k v).trans (hmem k v)⟩
  unfold OA.resizeWith
  simp only [Nat.not_lt.2 hm, if_false, hsp, hnew, hf, OA.copy_back t nt (hpar.trans hfpar)]

theorem OA.resize_fits (m' : Nat) (hI : OA.InvCore hash t) (hm : t.kind.minM ≤ m')
    (hfit : (t.n + 1) * (t.maxLF.den : Int) ≤ (t.maxLF.num : Int) * (m' : Int)) :
    ∃ t' g', OA.resizeWith sh (OA.put sh hash (d + 1)) t g m' = .ok (t', g') ∧ OA.Room hash 1 t' ∧
      OA.par t' = OA.par t ∧ ∀ k v, OA.Live t' k v ↔ OA.Live t k v := by
  apply OA.resize_core hsh hash t g _ m' hI hm (fun r t' => OA.Room hash (r + 1) t')
  · exact fun r t1 g1 k v h => OA.put_room hash d t1 g1 k v (r + 1) h
  · intro fresh len hfI hlen hfu hfmax hle
    refine ⟨hfI, ?_⟩
    rw [hfu, hfmax, show (0 : Int) + ((len + 1 : Nat) : Int) = t.n + 1 by omega]
    exact Int.le_trans hfit (Int.mul_le_mul_of_nonneg_left (Int.ofNat_le.2 hle) (Int.natCast_nonneg _))

theorem OA.put_any (key : K) (val : V) (h : OA.Inv hash t) :
    ∃ t' g', OA.put sh hash (d + 2) t g key val = .ok (t', g') ∧ OA.Inv hash t' ∧ PutPost OA.par OA.Live t key val t' := by
  by_cases hcheck : ratioGT (t.u + 1) t.m t.maxLF = true
  · have hden := OA.den_le h.1
    have hroom : t.u * (t.maxLF.den : Int) ≤ (t.maxLF.num : Int) * (t.m : Int) := by
      have := h.2
      rwa [Int.natCast_zero, Int.add_zero] at this
    obtain ⟨hn0, hnu⟩ := OA.n_le_u h.1
    have hdn : (0 : Int) ≤ (t.maxLF.den : Int) := Int.natCast_nonneg _
    have hmm := h.1.minM
    -- the two calls of `resize` as one, to the capacity `Put` chooses
    obtain ⟨t1, g1, hr, hR1, hpar1, hL1⟩ :=
      OA.resize_fits hsh hash d t g (if 2 * t.n ≥ t.u then 2 * t.m else t.m) h.1 (by split <;> omega) (by
        split
        · rw [Int.natCast_mul, Int.mul_left_comm]
          exact fits_double hdn hnu hroom hden
        · exact Int.le_trans (Int.mul_le_mul_of_nonneg_right (by omega) hdn) hroom)
    obtain ⟨t2, h2, hR2, hpar2, hL2⟩ := OA.putLoop_spec hash t1 key val 0 hR1
    refine ⟨t2, g1, ?_, hR2, hpar2.trans hpar1, ?_⟩
    · rw [OA.put]
      simp only [hcheck, if_true, ← apply_ite (OA.resizeWith sh (OA.put sh hash (d + 1)) t g), hr, h2]
    · intro k' v'
      rw [hL2, hL1]
  · have hroom : OA.Room hash 1 t := by
      unfold ratioGT at hcheck
      rw [decide_eq_true_eq, Int.not_lt] at hcheck
      exact ⟨h.1, hcheck⟩
    exact OA.put_room hash (d + 1) t g key val 0 hroom

theorem OA.resize_any (m' : Nat) (h : OA.Inv hash t) :
    ∃ t' g', OA.resizeWith sh (OA.put sh hash (d + 2)) t g m' = .ok (t', g') ∧ OA.Inv hash t' ∧
      ∀ k v, OA.Live t' k v ↔ OA.Live t k v := by
  by_cases hm : m' < t.kind.minM
  · exact ⟨t, g, by simp [OA.resizeWith, hm], h, fun _ _ => Iff.rfl⟩
  · obtain ⟨t', g', hr, hinv, _, hL⟩ := OA.resize_core hsh hash t g (OA.put sh hash (d + 2)) m' h.1
      (Nat.not_lt.1 hm) (fun _ t' => OA.Inv hash t')
      (fun _ t1 g1 k v h => OA.put_any hsh hash d t1 g1 k v h)
      (fun _ _ hfI _ hfu _ _ => OA.inv_of_empty hfI hfu)
    exact ⟨t', g', hr, hinv, hL⟩

theorem OA.delete_spec (key : K) (h : OA.Inv hash t) :
    ∃ t' g' o, OA.delete sh hash (d + 2) t g key = .ok (t', g', o) ∧ OA.Inv hash t' ∧
      (∀ k' v', OA.Live t' k' v' ↔ k' ≠ key ∧ OA.Live t k' v') ∧ ∀ v, o = some v ↔ OA.Live t key v := by
  obtain ⟨i1, x1, hf⟩ := OA.find_result hash t key h
  have hlive := OA.live_iff_found hf
  have hfind : OA.findLoop t (mix (hash key)) key t.m 0 = .ok (OA.pr hash t key i1) := by
    rw [OA.findLoop_eq]
    exact hf.returns _ (fun i _ => OA.pr hash t key i)
  unfold OA.delete
  simp only [hfind, hf.get]
  cases x1 with
  | none => exact ⟨t, g, none, rfl, h, delete_absent fun v hl => (hlive v).1 hl⟩
  | some e =>
    cases hd : e.deleted with
    | true =>
      exact ⟨t, g, none, by simp [hd], h, delete_absent fun v hl => nomatch hd.symm.trans ((hlive v).1 hl).2⟩
    | false =>
      obtain ⟨hInv1, hL1⟩ := OA.softDelete_spec hash t key h hf hd
      have ho : ∀ v, some e.val = some v ↔ OA.Live t key v := fun v =>
        ⟨fun hv => (hlive v).2 ⟨Option.some.inj hv, hd⟩, fun hl => congrArg some ((hlive v).1 hl).1⟩
      simp only [hd, Bool.false_eq_true, if_false]
      split
      · obtain ⟨t2, g2, hr, hinv, hL2⟩ := OA.resize_any hsh hash d (OA.afterDelete t (OA.pr hash t key i1) e) g
          ((OA.afterDelete t (OA.pr hash t key i1) e).m / 2) hInv1
        exact ⟨t2, g2, some e.val, by simp only [OA.afterDelete] at hr; simp only [hr], hinv,
          fun k' v' => (hL2 k' v').trans (hL1 k' v'), ho⟩
      · exact ⟨_, g, some e.val, rfl, hInv1, hL1, ho⟩

end

theorem OA.correct {sh : Shuffle σ} (hsh : ShufflePerm sh) (hash : K → UInt64) (eqVal : V → V → Bool) :
    Correct eqVal (OA.impl sh hash eqVal) (OA.Inv hash) OA.Live where
  func := fun t k v v' hI h1 h2 => OA.live_func hI.1 h1 h2
  put := by
    intro t g k v hI
    obtain ⟨t', g', h1, h2, hp⟩ := OA.put_any hsh hash (depth - 2) t g k v hI
    exact ⟨t', g', h1, h2, hp.live⟩
  get := fun t k hI => OA.get_spec hash t k hI
  delete := fun _ t g k hI => OA.delete_spec hsh hash (depth - 2) t g k hI
  deleteAll := fun t hI => OA.deleteAll_spec hash t hI
  all := by
    intro t g hI
    obtain ⟨h1, h2, _⟩ := OA.all_spec hsh hI.1 g
    exact ⟨h1.nodup, h2⟩
  size := by
    intro t g hI
    obtain ⟨_, _, h3⟩ := OA.all_spec hsh hI.1 g
    exact h3.symm
  equal := fun _ _ _ => rfl

/-- what `NewQuadraticHashTable` / `NewDoubleHashTable` accept (capacity 0 = default, else a prime ≥ the
minimum), with default-or-tighter load-factor bounds -/
def OA.ValidOpts (kind : Kind) (o : Opts) : Prop :=
  (o.cap = 0 ∨ (kind.minM ≤ o.cap ∧ isPrime o.cap = true)) ∧
  ValidLF kind.defMinLF kind.defMaxLF (effLF o.minLF kind.defMinLF) (effLF o.maxLF kind.defMaxLF)

theorem OA.new_eff (kind : Kind) (o : Opts) :
    (OA.new kind o : Outcome (OATable K V)) =
      OA.new kind ⟨if o.cap = 0 then kind.minM else o.cap, effLF o.minLF kind.defMinLF, effLF o.maxLF kind.defMaxLF⟩ := by
  have c1 : kind.minM ≠ 0 := by cases kind <;> decide
  have c2 : kind.defMinLF.num ≠ 0 := by cases kind <;> decide
  have c3 : kind.defMaxLF.num ≠ 0 := by cases kind <;> decide
  unfold OA.new
  simp only [effLF_idem _ _ c2, effLF_idem _ _ c3, cap_idem _ _ c1]
  rfl

theorem OA.init_spec (hash : K → UInt64) (kind : Kind) (o : Opts) (hv : OA.ValidOpts kind o) :
    ∃ t0 : OATable K V, OA.new kind o = .ok t0 ∧ OA.Inv hash t0 ∧ ∀ k v, ¬ OA.Live t0 k v := by
  obtain ⟨hcap, hlf⟩ := hv
  have hc : kind.minM ≤ (if o.cap = 0 then kind.minM else o.cap) ∧
      Nat.Prime (if o.cap = 0 then kind.minM else o.cap) := by
    rcases hcap with h | ⟨h1, h2⟩
    · simp only [h, if_true]
      refine ⟨Nat.le_refl _, (isPrime_correct _).1 ?_⟩
      cases kind <;> decide
    · have : o.cap ≠ 0 := by have := OA.minM_ge kind; omega
      simp only [this, if_false]; exact ⟨h1, (isPrime_correct _).1 h2⟩
  obtain ⟨fresh, hnew, hfI, _, hfu, _, hfempty⟩ := OA.new_spec (V := V) hash kind _ _ _ hlf hc.1 hc.2
  exact ⟨fresh, by rw [OA.new_eff, hnew], OA.inv_of_empty hfI hfu, hfempty⟩

theorem OA.probes_bound (hash : K → UInt64) (t : OATable K V) (key : K) (h : OA.Inv hash t) :
    ∃ cg cf, OA.probesGet t (mix (hash key)) key t.m 0 = some cg ∧ OA.probesFind t (mix (hash key)) key t.m 0 = some cf ∧
      cg ≤ cover t.kind t.m ∧ cf ≤ cover t.kind t.m := by
  obtain ⟨i1, x1, hf⟩ := OA.find_result hash t key h
  obtain ⟨i2, x2, hi2, hwalk2, _⟩ := OA.get_result hash t key h
  exact ⟨i2 + 1, i1 + 1, (OA.probesGet_eq hash t key t.m 0).trans (congrArg okVal (hwalk2 _ (fun i _ => i + 1))),
    (OA.probesFind_eq hash t key t.m 0).trans (congrArg okVal (hf.returns _ (fun i _ => i + 1))), hi2, hf.lt⟩

end AlgoVerif.C02
