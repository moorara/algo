import AlgoVerif.Spec.C11
/-!
# C11 — small definitions used by the examples and witness theorems of `Props/C11.lean`
-/
namespace AlgoVerif.C11.Demo
open AlgoVerif AlgoVerif.Gram AlgoVerif.C11 AlgoVerif.C11.Spec

/-- what `resolveConflict` returns for the declared choice -/
def chosen (c : Choice) (p : Pr) (j : Int) : Option Action :=
  match c with
  | .reduce => some (.reduce p)
  | .shift => some (.shift j)
  | .error => none

/-- `S → a S | a a a` (the D17 witness) -/
def g17 : SGrammar :=
  { terms := ["a"], nonterms := ["S"], start := "S",
    prods := [⟨"S", [.term "a", .nonterm "S"]⟩, ⟨"S", [.term "a", .term "a", .term "a"]⟩] }

def acceptsWith (k : Kind) (g : SGrammar) (w : List String) : Option Bool :=
  match build k g 40 with
  | .ok b =>
    match resolveAll [] (fun _ _ acts => acts) b.table with
    | .ok (T, .table) =>
      match parse T.toTbl 200 w with
      | .ok (.accept _ _) => some true
      | .ok (.reject _) => some false
      | _ => none
    | _ => none
  | _ => none

def validated (k : Kind) (g : SGrammar) : Bool :=
  match build k g 40 with
  | .ok b => soundOK g b
  | _ => false

/-- what the parser of construction `k` emits for a token string: productions and AST -/
def acceptTrace (k : Kind) (g : SGrammar) (w : List String) : Option (List Pr × Tree) :=
  match build k g 40 with
  | .ok b =>
    match resolveAll [] (fun _ _ acts => acts) b.table with
    | .ok (T, _) =>
      match parse T.toTbl 200 w with
      | .ok (.accept π root) => some (π, root)
      | _ => none
    | _ => none
  | _ => none

/-- `S → a S b | ε`: an SLR(1) grammar with an ε-production -/
def gAnBn : SGrammar :=
  { terms := ["a", "b"], nonterms := ["S"], start := "S",
    prods := [⟨"S", [.term "a", .nonterm "S", .term "b"]⟩, ⟨"S", []⟩] }

/-- `E → E + E | E * E | E ^ E | id` -/
def gExpr : SGrammar :=
  { terms := ["id", "+", "*", "^"], nonterms := ["E"], start := "E",
    prods := [⟨"E", [.nonterm "E", .term "+", .nonterm "E"]⟩, ⟨"E", [.nonterm "E", .term "*", .nonterm "E"]⟩,
              ⟨"E", [.nonterm "E", .term "^", .nonterm "E"]⟩, ⟨"E", [.term "id"]⟩] }

/-- `^` right-associative and tightest, then `*` left, then `+` left -/
def exprLevels : List Level :=
  [⟨.right, [.term "^"]⟩, ⟨.left, [.term "*"]⟩, ⟨.left, [.term "+"]⟩]

/-- an AST of `gExpr` rendered as an `Expr` -/
def treeToExpr : Tree → Option Expr
  | .node _ [.leaf "id"] => some .id
  | .node _ [l, .leaf op, r] =>
    match treeToExpr l, treeToExpr r with
    | some a, some b => some (.bin a op b)
    | _, _ => none
  | _ => none

/-- the AST the resolved parser of construction `k` returns, rendered as an `Expr` -/
def resolvedAst (k : Kind) (w : List String) : Option Expr :=
  match build k gExpr 60 with
  | .ok b =>
    match resolveAll exprLevels (fun _ _ acts => acts) b.table with
    | .ok (T, .table) =>
      match parse T.toTbl 400 w with
      | .ok (.accept _ root) => treeToExpr root
      | _ => none
    | _ => none
  | _ => none

def groupsAsDeclared (k : Kind) (w : List String) : Bool :=
  match climb exprLevels w with
  | some e => resolvedAst k w == some e
  | none => false

/-- `Y → A Y c | d`, `A → ε`: no cycle (`Y ⇒⁺ Y` is impossible), but not LR(1): reduce `A → ε` / shift `d` conflict -/
def gLoop : SGrammar :=
  { terms := ["c", "d"], nonterms := ["Y", "A"], start := "Y",
    prods := [⟨"Y", [.nonterm "A", .nonterm "Y", .term "c"]⟩, ⟨"Y", [.term "d"]⟩, ⟨"A", []⟩] }

/-- levels that make the reduction by `A → ε` win over the shift of `d` -/
def loopLevels : List Level := [⟨.left, [.prod ⟨"A", []⟩]⟩, ⟨.left, [.term "d"]⟩]

/-- the table of construction `k` for `gLoop` is validated, the levels resolve every conflict, and the driver is still
running after 300 steps on the one-token input `d` -/
def loops (k : Kind) : Bool :=
  match build k gLoop 60 with
  | .ok b =>
    soundOK gLoop b &&
    match resolveAll loopLevels (fun _ _ acts => acts) b.table with
    | .ok (T, .table) => (match parse T.toTbl 300 ["d"] with | .diverge => true | _ => false)
    | _ => false
  | _ => false

/-- `S → L = R | R`, `L → * R | id`, `R → L` (LALR(1), not SLR(1)) -/
def gLR : SGrammar :=
  { terms := ["=", "*", "id"], nonterms := ["S", "L", "R"], start := "S",
    prods := [⟨"S", [.nonterm "L", .term "=", .nonterm "R"]⟩, ⟨"S", [.nonterm "R"]⟩,
              ⟨"L", [.term "*", .nonterm "R"]⟩, ⟨"L", [.term "id"]⟩, ⟨"R", [.nonterm "L"]⟩] }

end AlgoVerif.C11.Demo
