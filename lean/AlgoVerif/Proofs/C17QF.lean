import AlgoVerif.Proofs.C17Impl
/-!
Quick-find: `id[i]` itself is the representative.  The relabelling loop of `Union` is the `merge`
step on representative functions.
-/
namespace AlgoVerif.C17
open AlgoVerif.C17.Spec

theorem relabel_size (pid qid : Int) (id : Array Int) (k : Nat) :
    (QuickFind.relabel pid qid id k).size = id.size := by
  induction k with
  | zero => rfl
  | succ k ih => simp only [QuickFind.relabel]; split <;> simp [ih]

/-- after `k` iterations of `for i := range u.id { if u.id[i] == pid { u.id[i] = qid } }` -/
theorem relabel_getD (pid qid : Int) (id : Array Int) (k : Nat) (hk : k ≤ id.size) :
    ∀ j, (QuickFind.relabel pid qid id k).getD j 0 =
      if j < k ∧ id.getD j 0 = pid then qid else id.getD j 0 := by
  induction k with
  | zero => simp [QuickFind.relabel]
  | succ k ih =>
    have ih := ih (by omega)
    intro j
    have hkk : (QuickFind.relabel pid qid id k).getD k 0 = id.getD k 0 := by
      rw [ih k]; simp
    simp only [QuickFind.relabel, hkk]
    by_cases hp : id.getD k 0 = pid
    · simp only [hp, if_true]
      rw [getD_set _ _ _ _ (by rw [relabel_size]; omega), ih j]
      by_cases hjk : j = k
      · subst hjk; simp [hp]
      · have : j < k + 1 ↔ j < k := by omega
        simp [hjk, this]
    · simp only [hp, if_false]
      rw [ih j]
      by_cases hjk : j = k
      · subst hjk; simp only [hp, and_false, if_false]
      · have : j < k + 1 ↔ j < k := by omega
        simp [this]

theorem par_relabel {n : Nat} {id : Array Int} (pid qid : Int) (hs : id.size = n) {i : Int}
    (hi : Valid n i) :
    par (QuickFind.relabel pid qid id id.size) i = if par id i = pid then qid else par id i := by
  have := hi.1; have := hi.2
  unfold par
  rw [relabel_getD _ _ _ _ (Nat.le_refl _)]
  have : i.toNat < id.size := by omega
  simp [this]

/-- what holds of a quick-find structure after the history `us` -/
structure QFInv (n : Nat) (us : List (Int × Int)) (u : QuickFind) : Prop where
  size : u.id.size = n
  repr : Represents n us (par u.id)
  roots : u.count = ((List.range n).countP fun (i : Nat) => par u.id (i : Int) == (i : Int))
  merges : u.count + numMerges n us = n

theorem QFInv.init (n : Nat) : QFInv n [] (QuickFind.new n) :=
  ⟨size_iota n, (Represents.init n).ext fun _ hi => par_iota hi, congrArg Nat.cast (rootCount_iota n).symm,
    by rw [numMerges_nil]; rfl⟩

namespace QuickFind
variable {n : Nat} {us : List (Int × Int)} {u : QuickFind} {p q rp rq : Int} {bp bq : Bool}

theorem find_valid (hs : u.id.size = n) (h : Valid n p) : u.find p = .ok (par u.id p, true) := by
  rw [find, isValid, decide_valid hs, decide_eq_true h, idx_ok hs h]; rfl

theorem find_invalid (hs : u.id.size = n) (h : ¬ Valid n p) : u.find p = .ok (-1, false) := by
  rw [find, isValid, decide_valid hs, decide_eq_false h]; rfl

theorem union_invalid (hs : u.id.size = n) (h : ¬ (Valid n p ∧ Valid n q)) : u.union p q = .ok u := by
  rw [union, ite_invalid (valid := u.isValid) (decide_valid hs) h]

theorem isConnected_invalid (hs : u.id.size = n) (h : ¬ (Valid n p ∧ Valid n q)) :
    u.isConnected p q = .ok false := by
  rw [isConnected, ite_invalid (valid := u.isValid) (decide_valid hs) h]

theorem union_valid (hs : u.id.size = n) (h : Valid n p ∧ Valid n q) :
    u.union p q = if par u.id p = par u.id q then .ok u else
      .ok { count := u.count - 1, id := relabel (par u.id p) (par u.id q) u.id u.id.size } := by
  rw [union, ite_valid (valid := u.isValid) (decide_valid hs) h, find_valid hs h.1, find_valid hs h.2]; rfl

theorem isConnected_valid (hs : u.id.size = n) (h : Valid n p ∧ Valid n q) :
    u.isConnected p q = .ok (par u.id p == par u.id q) := by
  rw [isConnected, ite_valid (valid := u.isValid) (decide_valid hs) h, find_valid hs h.1, find_valid hs h.2]; rfl

end QuickFind

theorem QFInv.skip {n us u p q} (I : QFInv n us u)
    (h : ¬ (Valid n p ∧ Valid n q) ∨ Conn n us p q) : QFInv n (us ++ [(p, q)]) u :=
  ⟨I.size, I.repr.skip h, I.roots, by rw [numMerges_skip h]; exact I.merges⟩

theorem QuickFind.union_inv {n us} {u : QuickFind} (I : QFInv n us u) (p q : Int) :
    ∃ u', u.union p q = .ok u' ∧ QFInv n (us ++ [(p, q)]) u' := by
  have hs := I.size
  have R := I.repr
  by_cases hv : Valid n p ∧ Valid n q
  · rw [union_valid hs hv]
    by_cases he : par u.id p = par u.id q
    · exact ⟨u, if_pos he, I.skip (.inr ((R.conn p q hv.1 hv.2).1 he))⟩
    · have hnc : ¬ Conn n us p q := fun h => he ((R.conn p q hv.1 hv.2).2 h)
      have hpar : ∀ i, Valid n i → par (relabel (par u.id p) (par u.id q) u.id u.id.size) i =
          if par u.id i = par u.id p then par u.id q else par u.id i := fun i hi => par_relabel _ _ hs hi
      refine ⟨_, if_neg he, ?_, (R.merge hv.1 hv.2 (.inl rfl)).ext hpar, ?_, ?_⟩
      · show (relabel ..).size = n
        rw [relabel_size, hs]
      · have h1 := R.merge_count hv.1 hv.2 he hpar
        have h2 := I.roots
        dsimp only
        omega
      · show u.count - 1 + _ = _
        rw [numMerges_merge (.inl rfl) hv.1 hv.2 hnc]; have := I.merges; omega
  · exact ⟨u, union_invalid hs hv, I.skip (.inl hv)⟩

theorem QuickFind.run_inv {n} (ops : List (Int × Int)) : ∀ {us} {u : QuickFind},
    QFInv n us u → ∃ u', u.run ops = .ok u' ∧ QFInv n (us ++ ops) u' :=
  C17.run_inv (QFInv n) (fun _ => rfl) (fun _ _ _ _ => rfl) (fun p q I => union_inv I p q) ops

theorem QuickFind.tracks {n us} {u : QuickFind} (I : QFInv n us u) :
    Tracks n us u.find u.isConnected u.getCount :=
  tracks_of_represents I.repr (fun _ hp => find_valid I.size hp) (fun _ hp => find_invalid I.size hp)
    (fun _ _ hp hq => isConnected_valid I.size ⟨hp, hq⟩) (fun _ _ h => isConnected_invalid I.size h)
    I.roots I.merges

end AlgoVerif.C17
