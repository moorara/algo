import AlgoVerif.Spec.C13
/-! C13: runs of partial DFAs (`Spec.dfaRun`) step by step, and the Myhill–Nerode half of minimality: a DFA
whose states are all reachable, all live and pairwise distinguishable has no more states than any DFA for the
same language. -/
namespace AlgoVerif.C13
open AlgoVerif.C13.Spec

theorem nodup_map_of_injOn {α β : Type} (f : α → β) (l : List α) (hnd : l.Nodup)
    (hinj : ∀ a ∈ l, ∀ b ∈ l, f a = f b → a = b) : (l.map f).Nodup :=
  List.pairwise_map.2 (hnd.imp_of_mem fun ha hb hne he => hne (hinj _ ha _ hb he))

theorem length_le_of_injOn {α β : Type} [DecidableEq β] (f : α → β) (Q : List α) (Q2 : List β) (hnd : Q.Nodup)
    (hinj : ∀ p ∈ Q, ∀ q ∈ Q, f p = f q → p = q) (hmem : ∀ q ∈ Q, f q ∈ Q2) : Q.length ≤ Q2.length := by
  simpa using (nodup_map_of_injOn f Q hnd hinj).length_le_of_subset fun b hb => by
    obtain ⟨q, hq, rfl⟩ := List.mem_map.1 hb
    exact hmem q hq

theorem dfaRun_none (δ : Int → Int → Option Int) (w : Word) : dfaRun δ none w = none := by
  cases w <;> rfl

theorem dfaRun_cons_eq_some {δ : Int → Int → Option Int} {s a : Int} {w : Word} {f : Int} :
    dfaRun δ (some s) (a :: w) = some f ↔ ∃ t, δ s a = some t ∧ dfaRun δ (some t) w = some f := by
  simp only [dfaRun]
  cases δ s a with
  | none => simp [dfaRun_none]
  | some t => simp

theorem dfaRun_mono {δ δ' : Int → Int → Option Int} (h : ∀ s a t, δ' s a = some t → δ s a = some t)
    (w : Word) (q f : Int) (hr : dfaRun δ' (some q) w = some f) : dfaRun δ (some q) w = some f := by
  induction w generalizing q with
  | nil => exact hr
  | cons a w ih =>
    obtain ⟨t, hq, h'⟩ := dfaRun_cons_eq_some.1 hr
    exact dfaRun_cons_eq_some.2 ⟨t, h _ _ _ hq, ih t h'⟩

theorem dfaRun_append (δ : Int → Int → Option Int) (q : Option Int) (u v : Word) :
    dfaRun δ q (u ++ v) = dfaRun δ (dfaRun δ q u) v := by
  induction u generalizing q with
  | nil => rfl
  | cons a u ih =>
    cases q with
    | none => simp only [List.cons_append, dfaRun, dfaRun_none]
    | some s => exact ih _

def accFrom (δ : Int → Int → Option Int) (final : Int → Prop) (q : Int) (v : Word) : Prop :=
  ∃ f, dfaRun δ (some q) v = some f ∧ final f

theorem accFrom_nil (δ : Int → Int → Option Int) (fin : Int → Prop) (s : Int) : accFrom δ fin s [] ↔ fin s := by
  simp [accFrom, dfaRun]

theorem accFrom_cons (δ : Int → Int → Option Int) (fin : Int → Prop) (s a : Int) (v : Word) :
    accFrom δ fin s (a :: v) ↔ ∃ t, δ s a = some t ∧ accFrom δ fin t v := by
  simp only [accFrom, dfaRun_cons_eq_some]
  constructor
  · rintro ⟨f, ⟨t, h1, h2⟩, h3⟩; exact ⟨t, h1, f, h2, h3⟩
  · rintro ⟨t, h1, f, h2, h3⟩; exact ⟨f, ⟨t, h1, h2⟩, h3⟩

theorem minimal_of_distinguishable
    (δ : Int → Int → Option Int) (start : Int) (final : Int → Prop) (Q : List Int) (hnd : Q.Nodup)
    (hreach : ∀ q ∈ Q, ∃ u, dfaRun δ (some start) u = some q)
    (hlive : ∀ q ∈ Q, ∃ v, accFrom δ final q v)
    (hdist : ∀ p ∈ Q, ∀ q ∈ Q, p ≠ q → ∃ v, ¬ (accFrom δ final p v ↔ accFrom δ final q v))
    (δ2 : Int → Int → Option Int) (start2 : Int) (final2 : Int → Prop) (Q2 : List Int)
    (hQ2 : ∀ u t, dfaRun δ2 (some start2) u = some t → t ∈ Q2)
    (hlang : ∀ w, dfaLang δ start final w ↔ dfaLang δ2 start2 final2 w) :
    Q.length ≤ Q2.length := by
  classical
  have hacc : ∀ q, ∃ u, q ∈ Q → dfaRun δ (some start) u = some q := by
    intro q
    by_cases hq : q ∈ Q
    · obtain ⟨u, hu⟩ := hreach q hq; exact ⟨u, fun _ => hu⟩
    · exact ⟨[], fun h => absurd h hq⟩
  let acc : Int → Word := fun q => Classical.choose (hacc q)
  have hacc' : ∀ q, q ∈ Q → dfaRun δ (some start) (acc q) = some q := fun q => Classical.choose_spec (hacc q)
  -- the other automaton's run on an access word is defined, because the state is live
  have hdef : ∀ q ∈ Q, ∃ t, dfaRun δ2 (some start2) (acc q) = some t := by
    intro q hq
    obtain ⟨v, f, hv, hf⟩ := hlive q hq
    have hL : dfaLang δ start final (acc q ++ v) := ⟨f, by rw [dfaRun_append, hacc' q hq]; exact hv, hf⟩
    obtain ⟨f2, h2, _⟩ := (hlang _).1 hL
    rw [dfaRun_append] at h2
    cases ht : dfaRun δ2 (some start2) (acc q) with
    | none => rw [ht, dfaRun_none] at h2; simp at h2
    | some t => exact ⟨t, rfl⟩
  let g : Int → Int := fun q => (dfaRun δ2 (some start2) (acc q)).getD 0
  have hg : ∀ q ∈ Q, dfaRun δ2 (some start2) (acc q) = some (g q) := by
    intro q hq
    obtain ⟨t, ht⟩ := hdef q hq
    simp [g, ht]
  apply length_le_of_injOn g Q Q2 hnd
  · intro p hp q hq hpq
    apply Classical.byContradiction
    intro hne
    obtain ⟨v, hv⟩ := hdist p hp q hq hne
    apply hv
    have key : ∀ r ∈ Q, accFrom δ final r v ↔ accFrom δ2 final2 (g r) v := by
      intro r hr
      have e1 : accFrom δ final r v ↔ dfaLang δ start final (acc r ++ v) := by
        simp only [accFrom, dfaLang, dfaRun_append, hacc' r hr]
      have e2 : accFrom δ2 final2 (g r) v ↔ dfaLang δ2 start2 final2 (acc r ++ v) := by
        simp only [accFrom, dfaLang, dfaRun_append, hg r hr]
      rw [e1, e2, hlang]
    rw [key p hp, key q hq, hpq]
  · intro q hq
    exact hQ2 _ _ (hg q hq)

end AlgoVerif.C13
