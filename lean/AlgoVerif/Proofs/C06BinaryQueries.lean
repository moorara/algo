import AlgoVerif.Proofs.C06Binary
import AlgoVerif.Proofs.C06Fold
/-!
# C06 — binary trie: traversals and the string queries as functions of the entry list
-/
namespace AlgoVerif.C06
variable {V σ : Type}

def prep (pre : Key) (e : Key × V) : Key × V := (pre ++ e.1, e.2)

@[simp] theorem prep_nil (e : Key × V) : prep [] e = e := rfl

theorem map_prep_nil (l : List (Key × V)) : l.map (prep []) = l := by
  simp [show (prep ([] : Key) : Key × V → Key × V) = id from funext prep_nil]

theorem map_prep_consKey (pre : Key) (ch : UInt8) (l : List (Key × V)) :
    (l.map (consKey ch)).map (prep pre) = l.map (prep (pre ++ [ch])) := by
  simp [prep, consKey, Function.comp_def]

theorem filter_const_true {α : Type} (l : List α) : l.filter (fun _ => true) = l := by
  induction l <;> simp_all

theorem filter_and_const {α : Type} (c : Bool) (q : α → Bool) (l : List α) :
    l.filter (fun a => c && q a) = if c then l.filter q else [] := by
  cases c <;> simp

theorem isPrefixOf_nil_right (ks : Key) : ks.isPrefixOf [] = ks.isEmpty := by cases ks <;> rfl

theorem kmatches_nil_right (ps : Key) : kmatches ps [] = ps.isEmpty := by cases ps <;> rfl

theorem map_prep_ite (pre : Key) (c : Bool) (ch : UInt8) (val : V) :
    (if c then [([ch], val)] else []).map (prep pre) = if c then [(pre ++ [ch], val)] else [] := by
  cases c <;> rfl

namespace BNode

theorem travAsc_eq (visit : σ → Key → V → Bool → σ × Bool) (g : σ → Key → V → σ × Bool)
    (hv : ∀ s k v term, visit s k v term = if term then g s k v else (s, true))
    (n : BNode V) (pre : Key) (s : σ) :
    travAsc visit n pre s = foldE g ((ents n).map (prep pre)) s := by
  induction n generalizing pre s with
  | nil => simp [travAsc, foldE]
  | node ch val term l r ihl ihr =>
    simp only [travAsc, ents, List.map_append, map_prep_consKey, foldE_append, ihl, ihr, hv]
    cases term
    · simp [foldE]
    · simp only [if_true, List.map_cons, List.map_nil, foldE_singleton, prep]
      cases (g s (pre ++ [ch]) val).2 <;> rfl

theorem travDesc_eq (visit : σ → Key → V → Bool → σ × Bool) (g : σ → Key → V → σ × Bool)
    (hv : ∀ s k v term, visit s k v term = if term then g s k v else (s, true))
    (n : BNode V) (pre : Key) (s : σ) :
    travDesc visit n pre s = foldE g ((ents n).map (prep pre)).reverse s := by
  induction n generalizing pre s with
  | nil => simp [travDesc, foldE]
  | node ch val term l r ihl ihr =>
    simp only [travDesc, ents, List.map_append, map_prep_consKey, List.reverse_append, foldE_append, ihl, ihr, hv]
    cases term
    · simp only [Bool.false_eq_true, if_false, List.map_nil, List.reverse_nil, foldE]
    · simp only [if_true, List.map_cons, List.map_nil, List.reverse_cons, List.reverse_nil, List.nil_append,
        foldE_singleton, prep]

theorem filter_ents_node (q : Key → Bool) (ch : UInt8) (val : V) (term : Bool) (l r : BNode V) :
    (ents (node ch val term l r)).filter (fun e => q e.1) =
      (if term && q [ch] then [([ch], val)] else []) ++
        ((ents l).filter (fun e => q (ch :: e.1))).map (consKey ch) ++ (ents r).filter (fun e => q e.1) := by
  simp only [ents, List.filter_append, List.filter_map, Function.comp_def, consKey_fst]
  cases term <;> simp [List.filter_cons]

theorem filter_right_nil {ch : UInt8} {val : V} {term : Bool} {l r : BNode V} (hw : WF (node ch val term l r))
    (q : Key → Bool) (hq : ∀ x k, ch < x → q (x :: k) = false) : (ents r).filter (fun e => q e.1) = [] :=
  filter_eq_nil_of_all_false _ _ fun e he => by
    obtain ⟨x, k, hx, hlt⟩ := ents_right_head hw e he
    rw [hx]; exact hq x k hlt

theorem filter_nonempty_nil (n : BNode V) (q : Key → Bool) (hq : ∀ x k, q (x :: k) = false) :
    (ents n).filter (fun e => q e.1) = [] :=
  filter_eq_nil_of_all_false _ _ fun e he => by
    cases h : e.1 with
    | nil => exact absurd h (ents_key_ne_nil _ e he)
    | cons x k => exact hq x k

theorem match_eq (n : BNode V) (pre pat : Key) (hw : WF n) :
    «match» n pre pat = ((ents n).filter (fun e => kmatches pat e.1)).map (prep pre) := by
  induction n generalizing pre pat with
  | nil => cases pat <;> rfl
  | node ch val term l r ihl ihr =>
    cases pat with
    | nil =>
      rw [BNode.match, filter_nonempty_nil _ _ fun _ _ => rfl]; rfl
    | cons p ps =>
      simp only [BNode.match, filter_ents_node, kmatches, kmatches_nil_right, filter_and_const, Bool.and_comm term,
        ihl _ _ hw.1, ihr _ _ hw.2.1, List.map_append, map_prep_consKey, map_prep_ite]
      by_cases hpc : p = ch
      · subst hpc
        simp only [beq_self_eq_true, Bool.or_true, if_true, bne_self_eq_false, Bool.or_false, Bool.true_and]
        cases hs : p == star
        · rw [filter_right_nil hw _ fun x k hlt => by
            simp [kmatches, hs, UInt8.ne_of_lt hlt]]
          simp
        · rfl
      · simp only [bne_iff_ne.mpr hpc, beq_false_of_ne hpc, Bool.or_true, Bool.or_false, if_true]
        cases p == star <;> simp

theorem withPrefix_eq (n : BNode V) (pre p : Key) (hw : WF n) :
    withPrefix n pre p = ((ents n).filter (fun e => p.isPrefixOf e.1)).map (prep pre) := by
  induction n generalizing pre p with
  | nil => cases p <;> rfl
  | node ch val term l r ihl ihr =>
    cases p with
    | nil =>
      simp only [withPrefix, List.isPrefixOf, filter_const_true, ents, ihl _ _ hw.1, ihr _ _ hw.2.1,
        List.map_append, map_prep_consKey, map_prep_ite]
    | cons k ks =>
      simp only [withPrefix, filter_ents_node, List.isPrefixOf, isPrefixOf_nil_right, filter_and_const,
        ihl _ _ hw.1, ihr _ _ hw.2.1, List.map_append, map_prep_consKey, map_prep_ite]
      by_cases hk : k = ch
      · subst hk
        rw [filter_right_nil hw _ fun x key hlt => by
          simp [List.isPrefixOf, UInt8.ne_of_lt hlt]]
        simp
      · simp [hk]

theorem allPrefixOf_eq (n : BNode V) (pre s : Key) (hw : WF n) :
    allPrefixOf n pre s = ((ents n).filter (fun e => e.1.isPrefixOf s)).map (prep pre) := by
  induction n generalizing pre s with
  | nil => cases s <;> rfl
  | node ch val term l r ihl ihr =>
    cases s with
    | nil =>
      rw [allPrefixOf, filter_nonempty_nil _ (fun key => key.isPrefixOf []) fun _ _ => rfl]; rfl
    | cons k ks =>
      simp only [allPrefixOf, filter_ents_node (fun key => key.isPrefixOf (k :: ks)), List.isPrefixOf, Bool.and_true,
        filter_and_const, ihl _ _ hw.1, ihr _ _ hw.2.1, List.map_append, map_prep_consKey, map_prep_ite]
      by_cases hk : k = ch
      · subst hk
        rw [filter_right_nil hw (fun key => key.isPrefixOf (k :: ks)) fun x key hlt => by
          simp [List.isPrefixOf, (UInt8.ne_of_lt hlt).symm]]
        simp
      · simp [hk, show ¬ ch = k from fun e => hk e.symm]

end BNode
end AlgoVerif.C06
