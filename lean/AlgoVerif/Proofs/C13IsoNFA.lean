import AlgoVerif.Proofs.C13IsoDFA
/-! C13: `NFA.Isomorphic` is true for an NFA and its copy renamed by any injective map. -/
namespace AlgoVerif.C13
open AlgoVerif AlgoVerif.C13.Spec

/-- renaming the entries of an NFA table (as `Isomorphic` feeds them to `Add`) -/
def mapEN (f : Int → Int) (e : Int × Int × List Int) : Int × Int × List Int := (f e.1, e.2.1, e.2.2.map f)

theorem NFA.permuted_eq (n : NFA) (f : Int → Int) :
    n.permuted f = NFA.ofEntries (f n.start) (mkSet (n.final.map f)) ((entries n.trans).map (mapEN f)) := by
  simp only [NFA.permuted, NFA.ofEntries, NFA.new]
  have h := foldl_nested (γ := NFA) n.trans (fun acc s a nx => acc.add (f s) a (nx.map f)) ⟨f n.start, mkSet (n.final.map f), []⟩
  rw [h, List.foldl_map]
  rfl

theorem NFA.fold_next (L : List (Int × Int × List Int)) (n0 : NFA)
    (hd : L.Pairwise (fun e e' => ¬ (e.1 = e'.1 ∧ e.2.1 = e'.2.1))) (x a : Int) :
    (∀ nx, (x, a, nx) ∈ L → (L.foldl (fun (acc : NFA) e => acc.add e.1 e.2.1 e.2.2) n0).next x a =
      some (saddAll ((n0.next x a).getD []) nx)) ∧
    ((∀ nx, (x, a, nx) ∉ L) → (L.foldl (fun (acc : NFA) e => acc.add e.1 e.2.1 e.2.2) n0).next x a = n0.next x a) := by
  induction L generalizing n0 with
  | nil => simp
  | cons e L ih =>
    obtain ⟨s1, a1, nx1⟩ := e
    obtain ⟨hd1, hd2⟩ := List.pairwise_cons.1 hd
    obtain ⟨i1, i2⟩ := ih (n0.add s1 a1 nx1) hd2
    rw [List.foldl_cons]
    refine ⟨fun nx hm => ?_, fun hno => ?_⟩
    · rcases List.mem_cons.1 hm with hm | hm
      · cases hm
        rw [i2 (fun nx' hm' => hd1 _ hm' ⟨rfl, rfl⟩), NFA.next_add, if_pos ⟨rfl, rfl⟩]
      · rw [i1 nx hm, NFA.next_add, if_neg (fun h => hd1 _ hm ⟨h.1.symm, h.2.symm⟩)]
    · rw [i2 (fun nx hm => hno nx (List.mem_cons_of_mem _ hm)), NFA.next_add, if_neg]
      rintro ⟨rfl, rfl⟩
      exact hno nx1 List.mem_cons_self

theorem NFA.entries_ofEntries (s : Int) (F : List Int) (L : List (Int × Int × List Int))
    (hkeys : L.Pairwise (fun e e' => ¬ (e.1 = e'.1 ∧ e.2.1 = e'.2.1))) (x a : Int) (T : List Int) :
    (x, a, T) ∈ entries (NFA.ofEntries s F L).trans ↔ (x, a, T) ∈ L.map (fun e => (e.1, e.2.1, mkSet e.2.2)) := by
  have hfold := NFA.fold_next L ⟨s, F, []⟩ hkeys x a
  rw [mem_entries_NFA (NFA.ofEntries_WF s F L), NFA.ofEntries, List.mem_map]
  constructor
  · intro h
    by_cases hex : ∃ nx, (x, a, nx) ∈ L
    · obtain ⟨nx, hm⟩ := hex
      rw [hfold.1 nx hm] at h
      exact ⟨_, hm, by injection h with h; rw [← h]; rfl⟩
    · rw [hfold.2 (fun nx hm => hex ⟨nx, hm⟩)] at h
      simp [NFA.next, aget] at h
  · rintro ⟨⟨x', a', nx⟩, he, heq⟩
    cases heq
    exact hfold.1 _ he

theorem NFA.edges_eq (n : NFA) :
    n.trans.flatMap (fun st => st.2.flatMap (fun e => e.2.map (fun t => (st.1, t)))) =
      (entries n.trans).flatMap (fun e => e.2.2.map (fun t => (e.1, t))) := by
  simp only [entries, List.flatMap_assoc, List.flatMap_map]

theorem NFA.sortedDegrees_eq (n : NFA) :
    n.sortedDegrees = sortInts (n.states.map (degOf (edgesOf id (entries n.trans)))) := by
  simp only [NFA.sortedDegrees, n.edges_eq]; rfl

theorem NFA.permuted_congr (n : NFA) {f g : Int → Int} (h : ∀ s ∈ n.states, g s = f s) : n.permuted g = n.permuted f := by
  rw [n.permuted_eq, n.permuted_eq, h n.start (n.mem_states_of _ (Or.inl rfl))]
  congr 1
  · congr 1
    exact List.map_congr_left fun x hx => h x (n.mem_states_of _ (Or.inr (Or.inl hx)))
  · refine List.map_congr_left fun e he => ?_
    obtain ⟨s1, a1, nx1⟩ := e
    simp only [mapEN, h s1 (n.entry_states he).1]
    congr 2
    exact List.map_congr_left fun t ht => h t ((n.entry_states he).2 t ht)

theorem NFA.isomorphic_permuted (n : NFA) (hwf : n.WF) (hfs : SSorted n.final)
    (hts : ∀ s a nx, (s, a, nx) ∈ entries n.trans → SSorted nx) (f : Int → Int)
    (hinj : ∀ s ∈ n.states, ∀ t ∈ n.states, f s = f t → s = t) :
    n.isomorphic (n.permuted f) = .ok true := by
  have hfinal : ∀ x ∈ n.final, x ∈ n.states := fun x hx => n.mem_states_of _ (Or.inr (Or.inl hx))
  have hsf := NFA.ofEntries_start_final (f n.start) (mkSet (n.final.map f)) ((entries n.trans).map (mapEN f))
  have hrwf := NFA.ofEntries_WF (f n.start) (mkSet (n.final.map f)) ((entries n.trans).map (mapEN f))
  have hk := entries_keys n.trans hwf.1 hwf.2
  have hent : ∀ x a T, (x, a, T) ∈ entries (NFA.ofEntries (f n.start) (mkSet (n.final.map f))
      ((entries n.trans).map (mapEN f))).trans ↔
      (x, a, T) ∈ (entries n.trans).map (fun e => (f e.1, e.2.1, mkSet (e.2.2.map f))) := by
    intro x a T
    have hk' : ((entries n.trans).map (mapEN f)).Pairwise (fun e e' => ¬ (e.1 = e'.1 ∧ e.2.1 = e'.2.1)) :=
      keys_renamed hk f (List.map f) fun e he e' he' => hinj _ (n.entry_states he).1 _ (n.entry_states he').1
    rw [NFA.entries_ofEntries _ _ _ hk', List.map_map]
    rfl
  rw [← n.permuted_eq] at hsf hrwf hent
  generalize hrhs : n.permuted f = rhs at hsf hrwf hent
  -- `Add` stores the set of the renamed targets: a rearrangement of them, as target sets are duplicate-free and `f` is injective
  obtain ⟨hstperm, c5, hdeg, hsym⟩ := renamed_table id f (fun nx => mkSet (nx.map f)) hk
    (entries_keys rhs.trans hrwf.1 hrwf.2)
    (fun s a nx he => mkSet_perm _ (nodup_map_of_injOn f _ (ssorted_nodup (hts _ _ _ he))
      fun a ha b hb => hinj a ((n.entry_states he).2 a ha) b ((n.entry_states he).2 b hb))) hent
    n.mem_states_iff (fun x => by rw [rhs.mem_states_iff, hsf.1, hsf.2]; rfl)
    n.states_sorted rhs.states_sorted hinj
  refine n.isomorphic_of_arrangement rhs ?_ (by simpa using hstperm.length_eq) ?_ ?_ c5 _ hstperm ?_
  · rw [hsf.2, length_mkSet_map hfs (fun a ha b hb => hinj a (hfinal a ha) b (hfinal b hb))]
  · rw [ssorted_ext n.symbols_sorted rhs.symbols_sorted fun a => by
      rw [n.mem_symbols_iff, rhs.mem_symbols_iff, hsym a]]
    exact setEq_refl _
  · rw [rhs.sortedDegrees_eq, n.sortedDegrees_eq, hdeg]; exact degreesAgree_refl _
  · rw [n.permuted_congr (fun s hs => bij_map n.states f s hs), hrhs]
    exact NFA.equal_self hrwf

instance (l : List Int) : Decidable (SSorted l) := by unfold SSorted; infer_instance

/-- a decidable way to establish the sorted-target-sets hypothesis for a concrete automaton -/
theorem targets_sorted_of_all (tr : List (Int × List (Int × List Int)))
    (h : (entries tr).all (fun e => decide (SSorted e.2.2)) = true) :
    ∀ s a nx, (s, a, nx) ∈ entries tr → SSorted nx := by
  intro s a nx hm
  rw [List.all_eq_true] at h
  simpa using h _ hm

end AlgoVerif.C13
