import AlgoVerif.Proofs.C08LeftRecMain
/-!
# No left recursion (C09, `EliminateLeftRecursion`): a ranking certificate, then the loop invariant that yields it

If a ranking of the non-terminals exists such that every production body that begins with a non-terminal
`Y` has `Y` dead (no production) or `rank Y > rank head` with all `Y`-productions non-empty, then no
`A ⇒⁺ A α` exists: the first symbol of a sentential form derived from `A` is, after the first step, a
terminal, a dead non-terminal, or a non-terminal of larger rank that cannot vanish — for ever.
The invariant `LRInv9` of the two loops is described where it begins; `cert_of_inv` (`Proofs/C09LeftRecImm.lean`)
reads the certificate off it.
-/
namespace AlgoVerif.C08
open AlgoVerif AlgoVerif.Gram AlgoVerif.C08.Spec AlgoVerif.C09.Spec

def Dead (g : G) (Y : String) : Prop := ∀ q ∈ g.prods, q.head ≠ Y

def NonEmptyProds (g : G) (Y : String) : Prop := ∀ q ∈ g.prods, q.head = Y → q.body ≠ []

structure LRCert (g : G) (rank : String → Nat) : Prop where
  first : ∀ p ∈ g.prods, ∀ Y rest, p.body = Sym.nonterm Y :: rest →
    Dead g Y ∨ (rank p.head < rank Y ∧ NonEmptyProds g Y)

/-- what the first symbol of a form can be once the derivation has left `A` (threshold `r = rank A + 1`) -/
def FirstOK (g : G) (rank : String → Nat) (r : Nat) : SSym → Prop
  | .term _ => True
  | .nonterm Z => Dead g Z ∨ (r ≤ rank Z ∧ NonEmptyProds g Z)

theorem firstOK_track {g : G} {rank : String → Nat} (hc : LRCert g rank) (r : Nat) {α γ : List SSym}
    (d : Derives g α γ) : ∀ s rest, α = s :: rest → FirstOK g rank r s →
      ∃ s' rest', γ = s' :: rest' ∧ FirstOK g rank r s' := by
  induction d with
  | refl => intro s rest h hs; exact ⟨s, rest, h, hs⟩
  | tail _ st ih =>
    intro s rest h hs
    obtain ⟨s', rest', hβ, hs'⟩ := ih s rest h hs
    cases st with
    | mk u v q hq =>
      have hx := hβ
      cases u with
      | nil =>
        simp at hx
        obtain ⟨hx1, hx2⟩ := hx
        subst hx1
        -- the first symbol itself is rewritten
        have hq' : ¬ Dead g q.head := fun hd => hd q hq rfl
        rcases hs' with hd | ⟨hr, hne⟩
        · exact absurd hd hq'
        · cases hb : q.body with
          | nil => exact absurd hb (hne q hq rfl)
          | cons s'' b =>
            refine ⟨s'', b ++ v, by simp, ?_⟩
            cases s'' with
            | term t => trivial
            | nonterm Y =>
              rcases hc.first q hq Y b hb with hd | ⟨h1, h2⟩
              · exact Or.inl hd
              · exact Or.inr ⟨by omega, h2⟩
      | cons c u' =>
        simp at hx
        obtain ⟨hx1, _⟩ := hx
        subst hx1
        exact ⟨c, u' ++ q.body ++ v, by simp, hs'⟩

theorem noLeftRecursion_of_cert {g : G} {rank : String → Nat} (hc : LRCert g rank) : NoLeftRecursion g := by
  intro A α ⟨γ, st, d⟩
  obtain ⟨p, hp, hpA, rfl⟩ := st.of_single
  cases hb : p.body with
  | nil =>
    rw [hb] at d
    exact absurd (Derives.of_terms (w := []) d) (by simp)
  | cons s b =>
    rw [hb] at d
    have hs : FirstOK g rank (rank A + 1) s := by
      cases s with
      | term t => trivial
      | nonterm Y =>
        rcases hc.first p hp Y b hb with hd | ⟨h1, h2⟩
        · exact Or.inl hd
        · exact Or.inr ⟨by rw [hpA] at h1; omega, h2⟩
    obtain ⟨s', rest', he, hs'⟩ := firstOK_track hc (rank A + 1) d s b rfl hs
    simp at he
    obtain ⟨he1, _⟩ := he
    subst he1
    rcases hs' with hd | ⟨hr, _⟩
    · exact hd p hp hpA
    · omega

theorem LRCert.mono {g g' : G} {rank : String → Nat} (hc : LRCert g rank) (hsub : ∀ p ∈ g'.prods, p ∈ g.prods) :
    LRCert g' rank := by
  constructor
  intro p hp Y rest hb
  rcases hc.first p (hsub p hp) Y rest hb with hd | ⟨h1, h2⟩
  · exact Or.inl fun q hq => hd q (hsub q hq)
  · exact Or.inr ⟨h1, fun q hq => h2 q (hsub q hq)⟩

/-!
## The invariant of `EliminateLeftRecursion`'s loops (C09)

`nts` is the order `A₁ … Aₙ` (duplicate-free) and `pos nts` the rank, from the start.  The state of the two loops is the pair of their
counters: `i` non-terminals are done and `A₁ … Aⱼ` are substituted into the `Aᵢ`-productions.  The invariant speaks of the front of
every body only (`FrontOK`): a first non-terminal is no fresh name and has no ε-production; in the body of an `nts`-head it is moreover dead
or of rank at least the head's threshold `thr i j`, and a second symbol of the same kind follows (no unit productions: this is what makes the `α` of
`A → A α` non-empty and `A′ → α A′` harmless).  Both `lrSubst` and `lrImmediate` raise the threshold of one head over one non-terminal
(`LRInv9.raise`); their new bodies are old bodies with something put behind (`FrontOK.append`) or with the leading `A` dropped (`FrontOK.tail`).
-/

def pos : List String → String → Nat
  | [], _ => 0
  | y :: l, x => if x = y then 0 else pos l x + 1

theorem pos_lt_of_mem {l : List String} {x : String} (h : x ∈ l) : pos l x < l.length := by
  induction l with
  | nil => cases h
  | cons y l ih =>
    simp only [pos, List.length_cons]
    split
    · omega
    · rename_i hne
      rcases List.mem_cons.1 h with rfl | h
      · exact absurd rfl hne
      · have := ih h; omega

theorem pos_append_left {l m : List String} {x : String} (h : x ∈ l) : pos (l ++ m) x = pos l x := by
  induction l with
  | nil => cases h
  | cons y l ih =>
    simp only [List.cons_append, pos]
    split
    · rfl
    · rename_i hne
      rcases List.mem_cons.1 h with rfl | h
      · exact absurd rfl hne
      · rw [ih h]

theorem pos_append_right {l m : List String} {x : String} (h : x ∉ l) : pos (l ++ m) x = l.length + pos m x := by
  induction l with
  | nil => simp
  | cons y l ih =>
    have hne : x ≠ y := fun e => h (e ▸ List.mem_cons_self ..)
    simp only [List.cons_append, pos, hne, if_false, List.length_cons]
    rw [ih (fun hm => h (List.mem_cons_of_mem _ hm))]
    omega

theorem pos_of_not_mem {l : List String} {x : String} (h : x ∉ l) : pos l x = l.length := by
  simpa [pos] using pos_append_right (m := []) h

theorem pos_le_length (l : List String) (x : String) : pos l x ≤ l.length := by
  by_cases h : x ∈ l
  · exact Nat.le_of_lt (pos_lt_of_mem h)
  · rw [pos_of_not_mem h]; exact Nat.le_refl _

theorem pos_inj {l : List String} {x y : String} (hx : x ∈ l) (h : pos l x = pos l y) : x = y := by
  induction l with
  | nil => cases hx
  | cons z l ih =>
    unfold pos at h
    by_cases hxz : x = z <;> by_cases hyz : y = z
    · exact hxz.trans hyz.symm
    · rw [if_pos hxz, if_neg hyz] at h; omega
    · rw [if_neg hxz, if_pos hyz] at h; omega
    · rw [if_neg hxz, if_neg hyz] at h
      exact ih ((List.mem_cons.1 hx).resolve_left hxz) (by omega)

theorem pos_of_nodup {l pre post : List String} {x : String} (hnd : l.Nodup) (h : l = pre ++ x :: post) :
    pos l x = pre.length := by
  subst h
  rw [pos_append_right fun hm => (List.nodup_append.1 hnd).2.2 x hm x (by simp) rfl]
  simp [pos]

/-- the least rank the first symbol of an `H`-body may have, `r = pos nts H`: above `H` itself once `H` is done (`r < i`), at least
`j` while `H = Aᵢ` is being processed (`A₁ … Aⱼ` are substituted), anything before that -/
def thr (i j r : Nat) : Nat := if r < i then r + 1 else if r = i then j else 0

theorem thr_next (i : Nat) : thr i (i + 1) = thr (i + 1) 0 := by
  funext r
  by_cases h1 : r < i
  · simp [thr, h1, Nat.lt_succ_of_lt h1]
  · by_cases h2 : r = i
    · simp [thr, h2]
    · have h3 : ¬ r < i + 1 := by omega
      simp [thr, h1, h2, h3]

/-- a symbol that may stand first in a body: no fresh name, no non-terminal with an ε-production -/
def Solid (nts : List String) (g : G) : SSym → Prop
  | .term _ => True
  | .nonterm Z => Z ∈ nts ∧ NonEmptyProds g Z

/-- what the loops keep true of a body `b` that begins with a non-terminal `Y`: `Y` is solid and — for the body of an `nts`-head
(`strict`) — `Y` is dead or has rank at least `lo`, and a second symbol follows, solid as well -/
def FrontOK (nts : List String) (g : G) (lo : Nat) (strict : Prop) (b : List SSym) : Prop :=
  ∀ Y rest, b = Sym.nonterm Y :: rest → Solid nts g (.nonterm Y) ∧
    (strict → (Dead g Y ∨ lo ≤ pos nts Y) ∧ ∃ s rest', rest = s :: rest' ∧ Solid nts g s)

/-- a step that gives the members of `nts` no ε-production and no first production keeps `Dead` and `NonEmptyProds` of them -/
def EnvMono (nts : List String) (g g' : G) : Prop :=
  ∀ q, q ∈ g'.prods → q.head ∈ nts → q ∈ g.prods ∨ (q.body ≠ [] ∧ ∃ q0, q0 ∈ g.prods ∧ q0.head = q.head)

section front
variable {nts : List String} {g g' : G} {lo lo' : Nat} {st st' : Prop} {b : List SSym}

theorem Solid.mono (he : EnvMono nts g g') {s : SSym} (h : Solid nts g s) : Solid nts g' s := by
  cases s with
  | term _ => trivial
  | nonterm Z =>
    refine ⟨h.1, fun q hq hqZ hqb => ?_⟩
    rcases he q hq (hqZ ▸ h.1) with hq0 | ⟨hne, _⟩
    · exact h.2 q hq0 hqZ hqb
    · exact hne hqb

theorem FrontOK.mono (h : FrontOK nts g lo st b) (he : EnvMono nts g g') : FrontOK nts g' lo st b := by
  intro Y rest hb
  obtain ⟨h1, h2⟩ := h Y rest hb
  refine ⟨h1.mono he, fun s => ?_⟩
  obtain ⟨h3, s2, rest2, e, hs2⟩ := h2 s
  refine ⟨h3.imp_left fun hd q hq hqY => ?_, s2, rest2, e, hs2.mono he⟩
  rcases he q hq (hqY ▸ h1.1) with hq0 | ⟨_, q0, hq0, e0⟩
  · exact hd q hq0 hqY
  · exact hd q0 hq0 (e0.trans hqY)

theorem FrontOK.append (h : FrontOK nts g lo st b) (hst : st) (hne : b ≠ []) (x : List SSym) :
    FrontOK nts g lo st' (b ++ x) := by
  intro Y rest hb
  cases b with
  | nil => exact absurd rfl hne
  | cons s b' =>
    cases hb
    obtain ⟨h1, h2⟩ := h Y b' rfl
    obtain ⟨h3, s2, rest2, rfl, hs2⟩ := h2 hst
    exact ⟨h1, fun _ => ⟨h3, s2, rest2 ++ x, rfl, hs2⟩⟩

theorem FrontOK.succ (h : FrontOK nts g lo st b) {X : String} (hX : X ∈ nts) (hpos : pos nts X = lo)
    (hb : ∀ rest, b = Sym.nonterm X :: rest → Dead g X) : FrontOK nts g (lo + 1) st b := by
  intro Y rest e
  obtain ⟨h1, h2⟩ := h Y rest e
  refine ⟨h1, fun s => ⟨?_, (h2 s).2⟩⟩
  rcases (h2 s).1 with h3 | h3
  · exact .inl h3
  · by_cases hY : pos nts Y = lo
    · obtain rfl := pos_inj hX (hpos.trans hY.symm)
      exact .inl (hb rest e)
    · exact .inr (by omega)

theorem FrontOK.tail {X : String} {α : List SSym} (h : FrontOK nts g lo st (Sym.nonterm X :: α)) (hst : st) (hst' : ¬ st')
    (x : List SSym) : FrontOK nts g lo' st' (α ++ x) := by
  obtain ⟨_, s, rest', rfl, hs⟩ := (h X α rfl).2 hst
  intro Y rest e
  cases e
  exact ⟨hs, fun s => absurd s hst'⟩

end front

/-- the loops' invariant; `t (pos nts H)` is the threshold for the `H`-bodies -/
structure LRInv9 (nts : List String) (t : Nat → Nat) (g : G) : Prop where
  wf : WellFormed g
  decl : ∀ X, X ∈ nts → X ∈ g.nonterms
  front : ∀ p, p ∈ g.prods → FrontOK nts g (t (pos nts p.head)) (p.head ∈ nts) p.body

theorem LRInv9.raise {nts : List String} {g : G} {H X : String} {i j : Nat} (h : LRInv9 nts (thr i j) g)
    (hH : H ∈ nts) (hi : pos nts H = i) (hX : X ∈ nts) (hj : pos nts X = j) {q : SProd} (hq : q ∈ g.prods)
    (hnot : ∀ tl, q.head = H → q.body = Sym.nonterm X :: tl → Dead g X) :
    FrontOK nts g (thr i (j + 1) (pos nts q.head)) (q.head ∈ nts) q.body := by
  have hq := h.front q hq
  by_cases e : q.head = H
  · simp only [e, thr, hi, Nat.lt_irrefl, if_false, if_true] at hq ⊢
    exact hq.succ hX hj (fun tl => hnot tl e)
  · have : pos nts q.head ≠ i := fun e' => e (pos_inj hH (hi.trans e'.symm)).symm
    simpa [thr, this] using hq

/-- `Dead` is what `lrSubst` tests before it substitutes (`lrSubst_spec`) -/
theorem prodsOf_eq_nil_iff {g : G} {A : String} : prodsOf g.prods A = [] ↔ Dead g A := by
  unfold prodsOf Dead
  rw [List.filter_eq_nil_iff]
  constructor
  · intro h p hp e; exact h p hp (by simpa using e)
  · intro h p hp e; exact h p hp (by simpa using e)

theorem lrSubst_inv {nts : List String} {g : G} {Ai Aj : String} {i j : Nat}
    (hAi : Ai ∈ nts) (hi : pos nts Ai = i) (hAj : Aj ∈ nts) (hj : pos nts Aj = j) (hji : j < i)
    (h : LRInv9 nts (thr i j) g) : LRInv9 nts (thr i (j + 1)) (lrSubst g Ai Aj) := by
  rcases lrSubst_spec g Ai Aj with ⟨hempty, heq⟩ | ⟨_, hn, _, hp⟩
  · rw [heq]
    refine ⟨h.wf, h.decl, fun q hq => h.raise hAi hi hAj hj hq fun tl hqA _ => ?_⟩
    rcases hempty with he | he
    · exact absurd hqA (prodsOf_eq_nil_iff.1 he q hq)
    · exact prodsOf_eq_nil_iff.1 he
  · -- `Aⱼ` begins a body, so its productions are non-empty
    have hne : ∀ p r, IsAiAj g Ai Aj p → r ∈ g.prods → r.head = Aj → r.body ≠ [] := fun p r ⟨hp1, _, tl, hp3⟩ hr1 hr2 =>
      (h.front p hp1 Aj tl hp3).1.2 r hr1 hr2
    have env : EnvMono nts g (lrSubst g Ai Aj) := by
      intro q hq _
      rcases (hp q).1 hq with ⟨hq1, _⟩ | ⟨p, r, hpp, hr1, hr2, rfl⟩
      · exact .inl hq1
      · exact .inr ⟨by simp [hne p r hpp hr1 hr2], p, hpp.1, hpp.2.1⟩
    refine ⟨lrSubst_wf h.wf Ai Aj, by rw [hn]; exact h.decl, fun q hq => ?_⟩
    rcases (hp q).1 hq with ⟨hq1, hnot⟩ | ⟨p, r, hpp, hr1, hr2, rfl⟩
    · exact (h.raise hAi hi hAj hj hq1 fun tl hqA hb => absurd ⟨hq1, hqA, tl, hb⟩ hnot).mono env
    · -- `Aᵢ → δ γ` begins like `Aⱼ → δ`, which begins above `Aⱼ`
      have hr := h.front r hr1
      simp only [hr2, thr, hj, hji, hi, Nat.lt_irrefl, if_true, if_false] at hr ⊢
      exact (hr.append hAj (hne p r hpp hr1 hr2) _).mono env

theorem lrSubst_fold_inv9 {nts done rest : List String} {Ai : String} (hnd : nts.Nodup) (hnts : nts = done ++ Ai :: rest) :
    ∀ (post pre : List String) (g : G), done = pre ++ post → LRInv9 nts (thr done.length pre.length) g →
      LRInv9 nts (thr done.length done.length) (post.foldl (fun g Aj => lrSubst g Ai Aj) g) := by
  intro post
  induction post with
  | nil => intro pre g hd h; simp at hd; subst hd; exact h
  | cons Aj post ih =>
    intro pre g hd h
    have hnts' : nts = pre ++ Aj :: (post ++ Ai :: rest) := by rw [hnts, hd]; simp
    have h1 := lrSubst_inv (by rw [hnts]; simp) (pos_of_nodup hnd hnts) (by rw [hnts']; simp) (pos_of_nodup hnd hnts')
      (by rw [hd]; simp) h
    exact ih (pre ++ [Aj]) _ (by rw [hd]; simp) (by simpa using h1)

end AlgoVerif.C08
