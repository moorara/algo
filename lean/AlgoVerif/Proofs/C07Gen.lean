import AlgoVerif.Generated.C07Gen
import AlgoVerif.Proofs.GoRt
import AlgoVerif.Model.C07
/-!
# The GENERATED model of `sort/{insertion,selection,shell,heap,merge}.go` and the hand-written Model

The hand Model (`Model/C07.lean`) gives every loop its own fuel (`len(a) + 1`, `n + 1`, …);
the generated definitions give the counted loops no fuel at all (they recurse on the trip count) and all other
loops the ONE fuel their caller supplies.  So the two are related by `x ≼ y` (`Proofs/Outcome.lean`): the hand
Model's outcome `x` is `diverge` (its fuel ran out — excluded by the `C07_*` theorems for total preorders), or the
generated definition, given at least the stated fuel, computes exactly `x`: same array, same panics.
Where the two results are not literally equal, or the rest of the program has to know more about them, a loop is
stated as `Sim R x y` (`≼` up to the relation `R` on the results): the generated loop also returns its loop variables
(`b = c.1`), and `heap` hands `sink` the fuel `len(a) + 1` at every call, so its loops say that they keep the length
(`b.size = a.size`).

Every loop lemma is an induction on the hand Model's fuel.  In the step both bodies are brought to the same shape
(`outcome_norm`: monad laws, tests as propositions, the translator's four-step swap folded back into `swap`) and then
compared piece by piece: the same read or store on both sides (`bind_mono` / `Sim.bind_same`), the same test
(`ite_le` / `Sim.ite`), the induction hypothesis at the recursive calls (rebased with `swap_size h ▸ ·` to the length
of the slice the lemma speaks of).
-/
set_option linter.unusedSectionVars false
namespace AlgoVerif.C07.Gen
open AlgoVerif AlgoVerif.Outcome AlgoVerif.C07 AlgoVerif.Generated.Sort
variable {α : Type} [Inhabited α]

theorem get_eq (a : Array α) (i : Int) : C07.get a i = Go.idx a i := rfl
theorem set_eq (a : Array α) (i : Int) (v : α) : C07.set a i v = Go.setIdx a i v := rfl

/-- `a[i], a[j] = a[j], a[i]` as the translator spells it -/
theorem swap_eq (a : Array α) (i j : Int) :
    C07.swap a i j = (do
      let y ← Go.idx a j
      let x ← Go.idx a i
      let a1 ← Go.setIdx a i y
      Go.setIdx a1 j x) := by
  unfold C07.swap Go.idx Go.setIdx
  by_cases hi : 0 ≤ i ∧ i < a.size <;> by_cases hj : 0 ≤ j ∧ j < a.size <;> simp [hi, hj, Array.swap]

theorem swap_size {a a' : Array α} {i j : Int} (h : C07.swap a i j = .ok a') : a'.size = a.size := by
  unfold C07.swap at h
  split at h
  · cases h; simp
  · cases h

theorem swap_bind {β : Type} (a : Array α) (i j : Int) (G : Array α → Outcome β) :
    (Go.idx a j >>= fun y => Go.idx a i >>= fun x => Go.setIdx a i y >>= fun b => Go.setIdx b j x >>= G) =
      (C07.swap a i j >>= G) := by
  rw [swap_eq]; simp only [Outcome.bind_assoc]

theorem insertion_loop2 (cmp : α → α → Int) (F : Nat) : ∀ (f d : Nat) (j : Int) (a : Array α),
    insInner cmp f j a ≼ Insertion.loop2 F cmp (f + d) j a := by
  intro f
  induction f with
  | zero => intro d j a; exact diverge_le _
  | succ f ih =>
    intro d j a
    rw [show f + 1 + d = (f + d) + 1 by omega, insInner, Insertion.loop2]
    outcome_norm [get_eq, swap_bind]
    exact ite_le (fun _ => bind_mono fun x _ => bind_mono fun y _ =>
      ite_le (fun _ => bind_mono fun a1 _ => ih d _ a1) fun _ => le_refl _) fun _ => le_refl _

theorem insertion_loop1 (cmp : α → α → Int) (n : Int) (d : Nat) : ∀ (f : Nat) (i : Int) (a : Array α),
    insLoop cmp n f i a ≼ Insertion.loop1 (n.toNat + 1 + d) cmp (n - i).toNat i a := by
  intro f
  induction f with
  | zero => intro i a; exact diverge_le _
  | succ f ih =>
    intro i a
    simp only [insLoop]
    split
    · rw [show (n - i).toNat = (n - (i + 1)).toNat + 1 by omega]
      simp only [Insertion.loop1]
      exact bind_le (insertion_loop2 cmp _ _ _ i a) (fun a' => ih (i + 1) a')
    · rw [show (n - i).toNat = 0 by omega]
      simp [Insertion.loop1]

theorem insertion_le (cmp : α → α → Int) (a : Array α) (fuel : Nat) (hf : a.size + 1 ≤ fuel) :
    insertion cmp a ≼ Insertion fuel a cmp := by
  obtain ⟨d, rfl⟩ := Nat.exists_eq_add_of_le hf
  have := insertion_loop1 cmp (a.size : Int) d (a.size + 1) 0 a
  simpa [insertion, Insertion] using this

theorem selection_loop2 (cmp : α → α → Int) (a : Array α) (n : Int) : ∀ (f : Nat) (j m : Int),
    selMin cmp a n f j m ≼ Selection.loop2 a cmp (n - j).toNat j m := by
  intro f
  induction f with
  | zero => intro j m; exact diverge_le _
  | succ f ih =>
    intro j m
    simp only [selMin]
    split
    · rw [show (n - j).toNat = (n - (j + 1)).toNat + 1 by omega]
      rw [Selection.loop2]
      outcome_norm [get_eq]
      refine bind_mono fun x _ => bind_mono fun y _ => ?_
      split <;> exact ih _ _
    · rw [show (n - j).toNat = 0 by omega]
      simp [Selection.loop2]

theorem selection_loop1 (cmp : α → α → Int) (n : Int) : ∀ (f : Nat) (i : Int) (a : Array α),
    selLoop cmp n f i a ≼ Selection.loop1 cmp n (n - i).toNat i a := by
  intro f
  induction f with
  | zero => intro i a; exact diverge_le _
  | succ f ih =>
    intro i a
    simp only [selLoop]
    split
    · rw [show (n - i).toNat = (n - (i + 1)).toNat + 1 by omega]
      rw [Selection.loop1]
      outcome_norm [swap_bind]
      exact bind_le' (selection_loop2 cmp a n (n.toNat + 1) (i + 1) i) fun m _ => bind_mono fun a1 _ => ih _ a1
    · rw [show (n - i).toNat = 0 by omega]
      simp [Selection.loop1]

theorem selection_le (cmp : α → α → Int) (a : Array α) : selection cmp a ≼ Selection a cmp := by
  have := selection_loop1 cmp (a.size : Int) (a.size + 1) 0 a
  simpa [selection, Selection] using this

theorem shell_loop1 (F : Nat) (n : Int) (hn : 0 ≤ n) : ∀ (f d : Nat) (h : Int),
    shellGap n f h ≼ Shell.loop1 (T := α) F n (f + d) h := by
  intro f
  induction f with
  | zero => intro d h; exact diverge_le _
  | succ f ih =>
    intro d h
    rw [show f + 1 + d = (f + d) + 1 by omega]
    have e : Int.tdiv n 3 = n / 3 := Int.tdiv_eq_ediv_of_nonneg hn
    rw [shellGap, Shell.loop1]
    outcome_norm [e]
    exact ite_le (fun _ => ih d _) fun _ => le_refl _

theorem shell_loop4 (cmp : α → α → Int) (F : Nat) (h : Int) : ∀ (f d : Nat) (j : Int) (a : Array α),
    shellIns cmp h f j a ≼ Shell.loop4 F cmp h (f + d) j a := by
  intro f
  induction f with
  | zero => intro d j a; exact diverge_le _
  | succ f ih =>
    intro d j a
    rw [show f + 1 + d = (f + d) + 1 by omega, shellIns, Shell.loop4]
    outcome_norm [get_eq, swap_bind]
    exact ite_le (fun _ => bind_mono fun x _ => bind_mono fun y _ =>
      ite_le (fun _ => bind_mono fun a1 _ => ih d _ a1) fun _ => le_refl _) fun _ => le_refl _

theorem shell_loop3 (cmp : α → α → Int) (h n : Int) (d : Nat) : ∀ (f : Nat) (i : Int) (a : Array α),
    shellPass cmp h n f i a ≼ Shell.loop3 (n.toNat + 1 + d) cmp h (n - i).toNat i a := by
  intro f
  induction f with
  | zero => intro i a; exact diverge_le _
  | succ f ih =>
    intro i a
    simp only [shellPass]
    split
    · rw [show (n - i).toNat = (n - (i + 1)).toNat + 1 by omega]
      simp only [Shell.loop3]
      exact bind_le (shell_loop4 cmp _ h _ _ i a) (fun a' => ih (i + 1) a')
    · rw [show (n - i).toNat = 0 by omega]
      simp [Shell.loop3]

theorem shell_loop2 (cmp : α → α → Int) (n : Int) (d : Nat) : ∀ (f e : Nat) (h : Int) (a : Array α),
    Sim (fun b c => b = c.1) (shellLoop cmp n f h a) (Shell.loop2 (n.toNat + 1 + d) cmp n (f + e) a h) := by
  intro f
  induction f with
  | zero => intro e h a; exact .diverge
  | succ f ih =>
    intro e h a
    rw [show f + 1 + e = (f + e) + 1 by omega]
    rw [shellLoop, Shell.loop2]
    outcome_norm
    refine .ite (fun hh => ?_) fun _ => .ok rfl
    rw [Int.tdiv_eq_ediv_of_nonneg (by omega)]
    exact (shell_loop3 cmp h n d (n.toNat + 1) h a).bind_sim fun a' _ => ih e (h / 3) a'

theorem shell_le (cmp : α → α → Int) (a : Array α) (fuel : Nat) (hf : a.size + 2 ≤ fuel) :
    shell cmp a ≼ Shell fuel a cmp := by
  obtain ⟨d, rfl⟩ := Nat.exists_eq_add_of_le hf
  obtain ⟨F, hF⟩ : ∃ F, F = a.size + 2 + d := ⟨_, rfl⟩
  have h1 := shell_loop1 (α := α) F (a.size : Int) (by omega) (a.size + 1) (1 + d) 1
  rw [show a.size + 1 + (1 + d) = F by omega] at h1
  have h2 := fun h => shell_loop2 cmp (a.size : Int) (1 + d) (a.size + 2) d h a
  simp only [Int.toNat_natCast, show a.size + 1 + (1 + d) = F by omega, show a.size + 2 + d = F by omega] at h2
  rw [← hF]
  simp only [shell, Shell]
  exact (h1.bind_sim fun h _ => (h2 h).ret fun _ _ e => e).le

theorem heap_sink_loop (cmp : α → α → Int) (n : Int) (F : Nat) : ∀ (f d : Nat) (k : Int) (a : Array α),
    Sim (fun b c => b = c.1 ∧ b.size = a.size) (C07.sink cmp n f k a) (sink.loop1 F n cmp (f + d) a k) := by
  intro f
  induction f with
  | zero => intro d k a; exact .diverge
  | succ f ih =>
    intro d k a
    rw [show f + 1 + d = (f + d) + 1 by omega, C07.sink, sink.loop1]
    outcome_norm [get_eq, swap_bind]
    refine .ite (fun _ => ?_) fun _ => .ok ⟨rfl, rfl⟩
    refine .ite (fun _ => .bind_same fun x _ => .bind_same fun y _ => ?twoChildren) fun _ => ?_
    case' twoChildren => split
    -- whichever child was chosen, the rest is the same
    all_goals
      exact .bind_same fun x _ => .bind_same fun y _ =>
        .ite (fun _ => .ok ⟨rfl, rfl⟩) fun _ => .bind_same fun a1 h1 => swap_size h1 ▸ ih d _ a1

theorem heap_sink (cmp : α → α → Int) (n : Int) (f d : Nat) (k : Int) (a : Array α) :
    Sim (fun b c => b = c ∧ b.size = a.size) (C07.sink cmp n f k a) (Generated.Sort.sink (f + d) a k n cmp) :=
  (heap_sink_loop cmp n (f + d) f d k a).ret fun _ _ h => h

/-- `for k := n / 2; k >= 1; k-- { sink(a, k, n, cmp) }` -/
theorem heap_loop1 (cmp : α → α → Int) (n : Int) (F : Nat) : ∀ (f : Nat) (k : Int) (a : Array α), a.size + 1 ≤ F →
    Sim (fun b c => b = c ∧ b.size = a.size) (heapBuild cmp n f k a) (heap.loop1 F cmp n k.toNat k a) := by
  intro f
  induction f with
  | zero => intro k a _; exact .diverge
  | succ f ih =>
    intro k a hF
    simp only [heapBuild]
    split
    · rw [show k.toNat = (k - 1).toNat + 1 by omega]
      simp only [heap.loop1]
      obtain ⟨d, rfl⟩ : ∃ d, F = a.size + 1 + d := ⟨F - (a.size + 1), by omega⟩
      exact (heap_sink cmp n (a.size + 1) d k a).bind fun a1 _ ⟨e, s⟩ => by
        subst e; exact s ▸ ih (k - 1) a1 (by omega)
    · rw [show k.toNat = 0 by omega]
      exact .ok ⟨rfl, rfl⟩

/-- `for n > 1 { a[1], a[n] = a[n], a[1]; n--; sink(a, 1, n, cmp) }` -/
theorem heap_loop2 (cmp : α → α → Int) (F : Nat) : ∀ (f d : Nat) (n : Int) (a : Array α), a.size + 1 ≤ F →
    Sim (fun b c => b = c.1 ∧ b.size = a.size) (heapDrain cmp f n a) (heap.loop2 F cmp (f + d) a n) := by
  intro f
  induction f with
  | zero => intro d n a _; exact .diverge
  | succ f ih =>
    intro d n a hF
    rw [show f + 1 + d = (f + d) + 1 by omega]
    rw [heapDrain, heap.loop2]
    outcome_norm [swap_bind]
    refine .ite (fun _ => .bind_same fun a1 h1 => ?_) fun _ => .ok ⟨rfl, rfl⟩
    have hs1 := swap_size h1
    obtain ⟨e, rfl⟩ : ∃ e, F = a1.size + 1 + e := ⟨F - (a1.size + 1), by omega⟩
    exact (heap_sink cmp (n - 1) (a1.size + 1) e 1 a1).bind fun a2 _ ⟨e2, s2⟩ => by
      subst e2; exact (s2.trans hs1) ▸ ih d (n - 1) a2 (by omega)

theorem heapCore_le (cmp : α → α → Int) (a : Array α) (ha : 1 ≤ a.size) (d : Nat) :
    Sim (fun b c => b = c ∧ b.size = a.size) (heapCore cmp a) (Generated.Sort.heap (a.size + 1 + d) a cmp) := by
  have e : Int.tdiv ((a.size : Int) - 1) 2 = ((a.size : Int) - 1) / 2 := Int.tdiv_eq_ediv_of_nonneg (by omega)
  simp only [heapCore, Generated.Sort.heap, e, Outcome.pure_eq,
    show ∀ k : Int, (k + 1 - 1).toNat = k.toNat from fun k => by omega]
  refine (heap_loop1 cmp _ (a.size + 1 + d) (a.size + 1) _ a (by omega)).bind fun a1 _ ⟨e1, s1⟩ => ?_
  subst e1
  have := heap_loop2 cmp (a.size + 1 + d) (a1.size + 1) d ((a.size : Int) - 1) a1 (by omega)
  rw [s1] at this ⊢
  exact this.ret fun _ _ h => h

/-- the zero value of `T` is the `default` of the `Inhabited` instance -/
theorem heap_le (cmp : α → α → Int) (zero : α) (a : Array α) (fuel : Nat) (hf : a.size + 2 ≤ fuel) :
    C07.heap cmp zero a ≼ @Generated.Sort.Heap α ⟨zero⟩ fuel a cmp := by
  obtain ⟨d, rfl⟩ := Nat.exists_eq_add_of_le hf
  have hsz : (#[zero] ++ a).size = a.size + 1 := by simp; omega
  have := @heapCore_le α ⟨zero⟩ cmp (#[zero] ++ a) (by omega) d
  rw [hsz, show a.size + 1 + 1 + d = a.size + 2 + d by omega] at this
  simp only [C07.heap, Generated.Sort.Heap, Outcome.pure_eq]
  refine (this.bind (S := Eq) fun a1 _ ⟨e1, hs⟩ => ?_).le
  subst e1
  have hsl : Go.slice a1 1 (a1.size : Int) = .ok (a1.extract 1 a1.size) := by
    simp [Go.slice]; omega
  rw [hsl]
  exact .ok (Go.copy_eq_of_size (by simp; omega)).symm

theorem min_eq (a b : Int) : Generated.Sort.min a b = imin a b := by
  by_cases h : a < b <;> simp [Generated.Sort.min, imin, h] <;> rfl

/-- the `for k := lo; k <= hi; k++ { switch … }` loop (counted: no fuel on the generated side) -/
theorem merge_loop1 (cmp : α → α → Int) (aux : Array α) (mid hi : Int) : ∀ (f : Nat) (k i j : Int) (a : Array α),
    Sim (fun b c => b = c.1) (mergeLoop cmp aux mid hi f k i j a)
      (merge.loop1 aux mid hi cmp (hi + 1 - k).toNat k a i j) := by
  intro f
  induction f with
  | zero => intro k i j a; exact .diverge
  | succ f ih =>
    intro k i j a
    simp only [mergeLoop]
    split
    · rw [show (hi + 1 - k).toNat = (hi + 1 - (k + 1)).toNat + 1 by omega]
      rw [merge.loop1]
      outcome_norm [get_eq, set_eq]
      refine .ite (fun _ => .bind_same fun y _ => .bind_same fun a1 _ => ih _ _ _ a1) fun _ =>
        .ite (fun _ => .bind_same fun x _ => .bind_same fun a1 _ => ih _ _ _ a1) fun _ =>
          .bind_same fun y hy => .bind_same fun x hx => ?_
      -- the generated code reads `aux[j]` / `aux[i]` again in the branch that stores it
      simp only [hy, hx, Outcome.ok_bind]
      exact .ite (fun _ => .bind_same fun a1 _ => ih _ _ _ a1) fun _ => .bind_same fun a1 _ => ih _ _ _ a1
    · rw [show (hi + 1 - k).toNat = 0 by omega]
      exact .ok rfl

/-- `copy(aux[lo:hi], a[lo:hi])` -/
theorem copyRange_eq (dst src : Array α) (lo hi : Int) :
    copyRange dst src lo hi = (Go.slice src lo hi >>= fun s => Go.copyInto dst lo hi s) := by
  unfold copyRange Go.slice Go.copyInto
  by_cases hS : 0 ≤ lo ∧ lo ≤ hi ∧ hi ≤ src.size
  · by_cases hD : 0 ≤ lo ∧ lo ≤ hi ∧ hi ≤ dst.size
    · simp only [hS, hD, and_self, dif_pos, if_true, Outcome.ok_bind, Outcome.ok.injEq]
      apply Array.ext (by simp)
      intro k h1 h2
      simp only [Array.size_ofFn] at h1
      simp only [Array.getElem_ofFn, Array.size_extract, Array.getElem_extract]
      by_cases hk : lo ≤ (k : Int) ∧ (k : Int) < hi
      · have : lo.toNat ≤ k ∧ k < hi.toNat ∧ k - lo.toNat < Min.min hi.toNat src.size - lo.toNat := by omega
        simp only [hk, this, and_self, dif_pos]
        congr 1; omega
      · have : ¬ (lo.toNat ≤ k ∧ k < hi.toNat ∧ k - lo.toNat < Min.min hi.toNat src.size - lo.toNat) := by omega
        simp only [hk, this, dif_neg, not_false_eq_true]
    · have hd : ¬ hi ≤ dst.size := fun h => hD ⟨hS.1, hS.2.1, h⟩
      simp [hS, hd]
  · have hC : ¬ (0 ≤ lo ∧ lo ≤ hi ∧ hi ≤ dst.size ∧ hi ≤ src.size) := fun h => hS ⟨h.1, h.2.1, h.2.2.2⟩
    simp [hS, hC]

theorem merge_le (cmp : α → α → Int) (a aux : Array α) (lo mid hi : Int) :
    C07.merge cmp a aux lo mid hi ≼ Generated.Sort.merge a aux lo mid hi cmp := by
  simp only [C07.merge, Generated.Sort.merge, copyRange_eq, Outcome.bind_assoc, Outcome.pure_eq]
  exact (Sim.bind_same fun s _ => .bind_same fun aux1 _ =>
    (merge_loop1 cmp aux1 mid hi ((hi - lo).toNat + 2) lo lo (mid + 1) a).bind fun _ _ e => .ok (by rw [e])).le

/-- `for lo := 0; lo < n-sz; lo += sz + sz { merge(…) }` -/
theorem Merge_loop2 (cmp : α → α → Int) (n sz : Int) (F : Nat) : ∀ (f d : Nat) (lo : Int) (a aux : Array α),
    mergePass cmp n sz f lo a aux ≼ Merge.loop2 F cmp n sz (f + d) lo a aux := by
  intro f
  induction f with
  | zero => intro d lo a aux; exact diverge_le _
  | succ f ih =>
    intro d lo a aux
    rw [show f + 1 + d = (f + d) + 1 by omega]
    rw [mergePass, Merge.loop2]
    outcome_norm [min_eq]
    exact ite_le (fun _ => bind_le' (merge_le cmp a aux lo _ _) fun r _ => ih d _ r.1 r.2) fun _ => le_refl _

/-- `for sz := 1; sz < n; sz += sz { … }` -/
theorem Merge_loop1 (cmp : α → α → Int) (n : Int) (d : Nat) : ∀ (f e : Nat) (sz : Int) (a aux : Array α),
    mergeSizes cmp n f sz a aux ≼ Merge.loop1 (n.toNat + 1 + d) cmp n (f + e) sz a aux := by
  intro f
  induction f with
  | zero => intro e sz a aux; exact diverge_le _
  | succ f ih =>
    intro e sz a aux
    rw [show f + 1 + e = (f + e) + 1 by omega]
    rw [mergeSizes, Merge.loop1]
    outcome_norm
    exact ite_le (fun _ => bind_le' (Merge_loop2 cmp n sz _ (n.toNat + 1) d 0 a aux) fun r _ => ih e _ r.1 r.2)
      fun _ => le_refl _

theorem mergeBU_le (cmp : α → α → Int) (zero : α) (a : Array α) (fuel : Nat) (hf : a.size + 1 ≤ fuel) :
    mergeBU cmp zero a ≼ @Generated.Sort.Merge α ⟨zero⟩ fuel a cmp := by
  obtain ⟨d, rfl⟩ := Nat.exists_eq_add_of_le hf
  have := @Merge_loop1 α ⟨zero⟩ cmp (a.size : Int) d (a.size + 1) d 1 a (Array.replicate a.size zero)
  simp only [Int.toNat_natCast] at this
  simp only [mergeBU, Generated.Sort.Merge, Go.make_nat, Outcome.pure_eq, Outcome.ok_bind]
  refine bind_le' this fun r _ => ?_
  obtain ⟨a1, aux1⟩ := r
  simp

/-- `mergeRec` (fuel = recursion depth on both sides).  `0 ≤ lo`: the hand Model writes `(lo + hi) / 2` with
Lean's flooring division, the generated definition with Go's truncating one; they agree on the non-negative
sums that occur. -/
theorem mergeRec_loop (cmp : α → α → Int) : ∀ (f d : Nat) (a aux : Array α) (lo hi : Int), 0 ≤ lo →
    mergeRecAux cmp f a aux lo hi ≼ Generated.Sort.mergeRec (f + d) a aux lo hi cmp := by
  intro f
  induction f with
  | zero => intro d a aux lo hi _; exact diverge_le _
  | succ f ih =>
    intro d a aux lo hi hlo
    rw [show f + 1 + d = (f + d) + 1 by omega, mergeRecAux, Generated.Sort.mergeRec]
    outcome_norm [get_eq]
    refine ite_le (fun _ => le_refl _) fun _ => ?_
    rw [Int.tdiv_eq_ediv_of_nonneg (by omega)]
    refine bind_le' (ih d a aux lo _ hlo) fun r _ => bind_le' (ih d r.1 r.2 _ hi (by omega)) fun r _ =>
      bind_mono fun x _ => bind_mono fun y _ => ite_le (fun _ => le_refl _) fun _ => ?_
    exact (merge_le cmp r.1 r.2 lo ((lo + hi) / 2) hi).trans_eq (bind_ok _).symm

theorem mergeRec_le (cmp : α → α → Int) (zero : α) (a : Array α) (fuel : Nat) (hf : a.size + 1 ≤ fuel) :
    C07.mergeRec cmp zero a ≼ @Generated.Sort.MergeRec α ⟨zero⟩ fuel a cmp := by
  obtain ⟨d, rfl⟩ := Nat.exists_eq_add_of_le hf
  have := @mergeRec_loop α ⟨zero⟩ cmp (a.size + 1) d a (Array.replicate a.size zero) 0 ((a.size : Int) - 1)
    (Int.le_refl 0)
  simp only [C07.mergeRec, Generated.Sort.MergeRec, Go.make_nat, Outcome.pure_eq, Outcome.ok_bind]
  refine bind_le' this fun r _ => ?_
  obtain ⟨a1, aux1⟩ := r
  simp

end AlgoVerif.C07.Gen
