import AlgoVerif.Model.C01
import AlgoVerif.Proofs.C01Spec
/-!
# C01: the invariant shared by the three trees (`Inv`), and the shared queries on a tree agree with the abstract map
on its in-order listing
-/
namespace AlgoVerif.C01
open Tree

variable {K V : Type} {cmp : K → K → Int}

def SizeOK : Tree K V → Prop
  | .nil => True
  | .node l _ _ s _ _ r => s = 1 + l.sz + r.sz ∧ SizeOK l ∧ SizeOK r

def Inv (cmp : K → K → Int) (t : Tree K V) : Prop :=
  Spec.Sorted cmp t.toList ∧ SizeOK t

theorem inv_nil : Inv cmp (Tree.nil : Tree K V) := ⟨List.Pairwise.nil, trivial⟩

@[simp] theorem toList_nil : (Tree.nil : Tree K V).toList = [] := rfl
@[simp] theorem toList_node (l : Tree K V) (k v s h c r) :
    (Tree.node l k v s h c r).toList = l.toList ++ (k, v) :: r.toList := rfl
@[simp] theorem sz_nil : (Tree.nil : Tree K V).sz = 0 := rfl
@[simp] theorem sz_node (l : Tree K V) (k v s h c r) : (Tree.node l k v s h c r).sz = s := rfl

theorem sz_eq_length : ∀ {t : Tree K V}, SizeOK t → t.sz = t.toList.length
  | .nil, _ => rfl
  | .node l k v s h c r, hs => by
    obtain ⟨h1, h2, h3⟩ := hs
    simp only [sz_node, toList_node, List.length_append, List.length_cons, h1, sz_eq_length h2,
      sz_eq_length h3]
    omega

theorem nodes_eq_length : ∀ t : Tree K V, t.nodes = t.toList.length
  | .nil => rfl
  | .node l k v s h c r => by
    simp only [Tree.nodes, toList_node, List.length_append, List.length_cons, nodes_eq_length l,
      nodes_eq_length r]
    omega

theorem isNil_iff_toList (t : Tree K V) : t.isNil = t.toList.isEmpty := by
  cases t <;> simp [Tree.isNil]

theorem isNil_of_mem {t : Tree K V} {x : K × V} (h : x ∈ t.toList) : t.isNil = false := by
  cases t <;> simp_all [Tree.isNil]

theorem sorted_node {l r : Tree K V} {k : K} {v : V} {s h c} :
    Spec.Sorted cmp (Tree.node l k v s h c r).toList ↔
      Spec.Sorted cmp l.toList ∧ Spec.Sorted cmp r.toList ∧ (∀ x ∈ l.toList, cmp x.1 k < 0) ∧
        (∀ y ∈ r.toList, cmp k y.1 < 0) ∧ (∀ x ∈ l.toList, ∀ y ∈ r.toList, cmp x.1 y.1 < 0) :=
  sorted_append_cons

theorem get_eq (h : LawfulCmp cmp) (key : K) : ∀ {t : Tree K V}, Spec.Sorted cmp t.toList →
    get cmp t key = Spec.get cmp key t.toList
  | .nil, _ => rfl
  | .node l k v s hh c r, hs => by
    obtain ⟨hsl, hsr, hl, hr, -⟩ := sorted_node.1 hs
    simp only [get, toList_node]
    split
    · rename_i hlt
      rw [get_eq h key hsl, get_node_lt h hr hlt]
    · rename_i hnlt
      rw [get_node_ge h hl hnlt]
      split
      · rw [get_eq h key hsr, if_neg (by omega)]
      · rw [if_pos (by omega)]

theorem head_minOf : ∀ (l : Tree K V) (k : K) (v : V) (rest : List (K × V)),
    (l.toList ++ (k, v) :: rest).head? = some (minOf l k v)
  | .nil, _, _, _ => rfl
  | .node ll lk lv _ _ _ lr, k, v, rest => by
    simp only [toList_node, minOf, List.append_assoc, List.cons_append]
    exact head_minOf ll lk lv _

theorem last_maxOf : ∀ (r : Tree K V) (k : K) (v : V) (rest : List (K × V)),
    (rest ++ (k, v) :: r.toList).getLast? = some (maxOf r k v)
  | .nil, _, _, _ => by simp [maxOf]
  | .node rl rk rv _ _ _ rr, k, v, rest => by
    simp only [toList_node, maxOf]
    have := last_maxOf rr rk rv (rest ++ (k, v) :: rl.toList)
    simpa [List.append_assoc] using this

theorem minKV_eq (t : Tree K V) : minKV t = Spec.first t.toList := by
  cases t with
  | nil => rfl
  | node l k v s h c r => simp only [minKV, Spec.first, toList_node, head_minOf]

theorem maxKV_eq (t : Tree K V) : maxKV t = Spec.last t.toList := by
  cases t with
  | nil => rfl
  | node l k v s h c r => simp only [maxKV, Spec.last, toList_node, last_maxOf]

theorem getLast?_append_cons {α : Type} (L F : List α) (a : α) :
    (L ++ a :: F).getLast? = some (F.getLast?.getD a) := by
  rw [List.getLast?_append, List.getLast?_cons]; rfl

theorem floor_eq (h : LawfulCmp cmp) (key : K) : ∀ {t : Tree K V}, Spec.Sorted cmp t.toList →
    floor cmp t key = Spec.floor cmp key t.toList
  | .nil, _ => rfl
  | .node l k v s hh c r, hs => by
    obtain ⟨hsl, hsr, hl, hr, -⟩ := sorted_node.1 hs
    simp only [floor, toList_node, Spec.floor, List.filter_append, List.filter_cons]
    have hR : ¬ 0 < cmp key k → r.toList.filter (fun p => decide (cmp key p.1 ≥ 0)) = [] := fun hk =>
      List.filter_eq_nil_iff.2 (fun y hy => by have := le_right h hr hk y hy; simp; omega)
    by_cases hlt : cmp key k < 0
    · have h2 : decide (cmp key k ≥ 0) = false := by simp; omega
      have h3 : ¬ cmp key k = 0 := by omega
      rw [if_neg h3, if_pos hlt, floor_eq h key hsl, Spec.floor, hR (by omega), h2]; simp
    · have hL := ge_left h hl hlt
      have h1 : l.toList.filter (fun p => decide (cmp key p.1 ≥ 0)) = l.toList :=
        List.filter_eq_self.2 (fun y hy => by have := hL y hy; simp; omega)
      have h2 : decide (cmp key k ≥ 0) = true := by simp; omega
      rw [h1, h2]
      by_cases heq : cmp key k = 0
      · rw [if_pos heq, hR (by omega)]; simp
      · rw [if_neg heq, if_neg hlt, floor_eq h key hsr, Spec.floor]
        simp only [if_true]
        rw [getLast?_append_cons]
        cases (r.toList.filter fun p => decide (cmp key p.1 ≥ 0)).getLast? <;> rfl

theorem ceiling_eq (h : LawfulCmp cmp) (key : K) : ∀ {t : Tree K V}, Spec.Sorted cmp t.toList →
    ceiling cmp t key = Spec.ceiling cmp key t.toList
  | .nil, _ => rfl
  | .node l k v s hh c r, hs => by
    obtain ⟨hsl, hsr, hl, hr, -⟩ := sorted_node.1 hs
    simp only [ceiling, toList_node, Spec.ceiling, List.find?_append, List.find?_cons]
    have hL : ¬ cmp key k < 0 → l.toList.find? (fun p => decide (cmp key p.1 ≤ 0)) = none := fun hk =>
      List.find?_eq_none.2 (fun y hy => by have := ge_left h hl hk y hy; simp; omega)
    by_cases hgt : cmp key k > 0
    · have h2 : decide (cmp key k ≤ 0) = false := by simp; omega
      have h3 : ¬ cmp key k = 0 := by omega
      rw [if_neg h3, if_pos hgt, ceiling_eq h key hsr, Spec.ceiling, hL (by omega), h2]; simp
    · have h2 : decide (cmp key k ≤ 0) = true := by simp; omega
      rw [h2]
      by_cases heq : cmp key k = 0
      · rw [if_pos heq, hL (by omega)]; simp
      · rw [if_neg heq, if_neg hgt, ceiling_eq h key hsl, Spec.ceiling]
        cases (l.toList.find? fun p => decide (cmp key p.1 ≤ 0)) <;> rfl

theorem selectNode_eq : ∀ {t : Tree K V} (i : Nat), SizeOK t → selectNode t i = t.toList[i]?
  | .nil, _, _ => rfl
  | .node l k v s hh c r, i, hs => by
    obtain ⟨-, h2, h3⟩ := hs
    simp only [selectNode, toList_node, sz_eq_length h2, List.getElem?_append]
    split
    · exact selectNode_eq i h2
    · split
      · rename_i h4 h5
        rw [selectNode_eq _ h3]
        obtain ⟨j, hj⟩ : ∃ j, i - l.toList.length = j + 1 := ⟨i - l.toList.length - 1, by omega⟩
        rw [hj, List.getElem?_cons_succ]; rfl
      · rename_i h4 h5
        have : i - l.toList.length = 0 := by omega
        rw [this]; rfl

theorem select_eq {t : Tree K V} (hs : SizeOK t) (i : Int) :
    select t i = .ok (Spec.select t.toList i) := by
  unfold select Spec.select
  rw [sz_eq_length hs]
  by_cases hi : i < 0
  · simp [hi]
  · by_cases hi2 : i ≥ (t.toList.length : Int)
    · have : t.toList.length ≤ i.toNat := by omega
      simp [hi, hi2, List.getElem?_eq_none this]
    · have hlt : i.toNat < t.toList.length := by omega
      rw [if_neg (by omega), if_neg hi, selectNode_eq _ hs, List.getElem?_eq_getElem hlt]

theorem rank_eq (h : LawfulCmp cmp) (key : K) : ∀ {t : Tree K V}, Inv cmp t →
    rank cmp t key = Spec.rank cmp key t.toList
  | .nil, _ => rfl
  | .node l k v s hh c r, ⟨hs, hz⟩ => by
    obtain ⟨hsl, hsr, hl, hr, -⟩ := sorted_node.1 hs
    obtain ⟨-, hzl, hzr⟩ := hz
    simp only [rank, toList_node, Spec.rank, List.countP_append, List.countP_cons]
    have hR : ¬ 0 < cmp key k → r.toList.countP (fun p => decide (cmp key p.1 > 0)) = 0 := fun hk =>
      List.countP_eq_zero.2 (fun y hy => by have := le_right h hr hk y hy; simp; omega)
    by_cases hlt : cmp key k < 0
    · have h2 : decide (cmp key k > 0) = false := by simp; omega
      rw [if_pos hlt, rank_eq h key ⟨hsl, hzl⟩, Spec.rank, hR (by omega), h2]; simp
    · have hL := ge_left h hl hlt
      have h1 : l.toList.countP (fun p => decide (cmp key p.1 > 0)) = l.toList.length :=
        List.countP_eq_length.2 (fun y hy => by have := hL y hy; simp; omega)
      rw [if_neg hlt, h1, sz_eq_length hzl]
      by_cases hgt : cmp key k > 0
      · have h2 : decide (cmp key k > 0) = true := by simp; omega
        rw [if_pos hgt, rank_eq h key ⟨hsr, hzr⟩, Spec.rank, h2]; simp; omega
      · have h2 : decide (cmp key k > 0) = false := by simp; omega
        rw [if_neg hgt, hR hgt, h2]; simp

theorem range_eq (h : LawfulCmp cmp) (lo hi : K) : ∀ {t : Tree K V}, Spec.Sorted cmp t.toList →
    range cmp t lo hi = Spec.range cmp lo hi t.toList
  | .nil, _ => rfl
  | .node l k v s hh c r, hs => by
    obtain ⟨hsl, hsr, hl, hr, -⟩ := sorted_node.1 hs
    simp only [range, toList_node, Spec.range, List.filter_append, List.filter_cons]
    have e1 : (if cmp lo k < 0 then range cmp l lo hi else []) =
        l.toList.filter (fun p => decide (cmp lo p.1 ≤ 0) && decide (cmp hi p.1 ≥ 0)) := by
      split
      · exact range_eq h lo hi hsl
      · rename_i hn
        have hL := ge_left h hl hn
        exact (List.filter_eq_nil_iff.2 (fun y hy => by have := hL y hy; simp; omega)).symm
    have e2 : (if cmp hi k > 0 then range cmp r lo hi else []) =
        r.toList.filter (fun p => decide (cmp lo p.1 ≤ 0) && decide (cmp hi p.1 ≥ 0)) := by
      split
      · exact range_eq h lo hi hsr
      · rename_i hn
        have hR := le_right h hr (by omega : ¬ 0 < cmp hi k)
        exact (List.filter_eq_nil_iff.2 (fun y hy => by have := hR y hy; simp; omega)).symm
    rw [e1, e2]
    by_cases hp : cmp lo k ≤ 0 ∧ cmp hi k ≥ 0
    · simp [hp]
    · have : (decide (cmp lo k ≤ 0) && decide (cmp hi k ≥ 0)) = false := by
        simp only [Bool.and_eq_false_iff, decide_eq_false_iff_not]; omega
      simp [hp, this]

end AlgoVerif.C01
