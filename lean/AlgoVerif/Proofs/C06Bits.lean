import AlgoVerif.Model.C06Run
/-!
# C06 — `bitString` operations characterised against the zero-padded bit sequence

`kbit b i` is bit `i` (0-based, most significant bit of the first byte first) of the bytes of `b`
followed by infinitely many zero bits.  The Patricia trie works on `xbit`, the sequence `Bit` reads: these bits below
`lenPos`, then one bit per byte saying "at least that long", so that keys that differ only by trailing 0x00 bytes differ
somewhere.  For `Small` keys — all bits below `lenPos` — `DiffPos` is the first position at which the `xbit`s differ;
`Equal`, `HasPrefix` against `kbit`.
-/
namespace AlgoVerif.C06

def kbit (b : Key) (i : Nat) : Bool :=
  match b[i / 8]? with
  | none => false
  | some x => x.toNat.testBit (7 - i % 8)

theorem kbit_nil (i : Nat) : kbit [] i = false := rfl

theorem kbit_cons_lt (x : UInt8) (xs : Key) {i : Nat} (h : i < 8) : kbit (x :: xs) i = x.toNat.testBit (7 - i) := by
  rw [kbit, Nat.div_eq_of_lt h, Nat.mod_eq_of_lt h]; rfl

theorem kbit_cons_add (x : UInt8) (xs : Key) (i : Nat) : kbit (x :: xs) (i + 8) = kbit xs i := by
  rw [kbit, Nat.add_div_right i (by omega), Nat.add_mod_right, List.getElem?_cons_succ]; rfl

theorem kbit_of_len_le (b : Key) {i : Nat} (h : 8 * b.length ≤ i) : kbit b i = false := by
  rw [kbit, List.getElem?_eq_none (by omega)]

theorem kbit_zero_nil : kbit [0] = kbit [] := by
  funext j
  by_cases hj : j < 8
  · rw [kbit_cons_lt _ _ hj, kbit_nil]; exact Nat.zero_testBit _
  · exact kbit_of_len_le _ (by simp only [List.length_singleton]; omega)

theorem u8_testBit_high (x : UInt8) {j : Nat} (hj : 8 ≤ j) : x.toNat.testBit j = false :=
  Nat.testBit_lt_two_pow (Nat.lt_of_lt_of_le x.toNat_lt (Nat.pow_le_pow_right (by omega) hj))

theorem u8_eq_of_testBit {x y : UInt8} (h : ∀ j, j < 8 → x.toNat.testBit j = y.toNat.testBit j) : x = y := by
  apply UInt8.toNat_inj.mp
  apply Nat.eq_of_testBit_eq
  intro i
  by_cases hi : i < 8
  · exact h i hi
  · rw [u8_testBit_high x (by omega), u8_testBit_high y (by omega)]

theorem kbit_cons_eq_below (x y : UInt8) (xs ys : Key) (n : Nat) :
    (∀ j, j < n + 8 → kbit (x :: xs) j = kbit (y :: ys) j) ↔ x = y ∧ ∀ j, j < n → kbit xs j = kbit ys j := by
  constructor
  · intro h
    constructor
    · apply u8_eq_of_testBit
      intro j hj
      have := h (7 - j) (by omega)
      rwa [kbit_cons_lt _ _ (by omega), kbit_cons_lt _ _ (by omega), show 7 - (7 - j) = j by omega] at this
    · intro j hj
      have := h (j + 8) (by omega)
      rwa [kbit_cons_add, kbit_cons_add] at this
  · rintro ⟨rfl, h⟩ j hj
    by_cases hj8 : j < 8
    · rw [kbit_cons_lt _ _ hj8, kbit_cons_lt _ _ hj8]
    · obtain ⟨j, rfl⟩ : ∃ j', j = j' + 8 := ⟨j - 8, by omega⟩
      rw [kbit_cons_add, kbit_cons_add]; exact h j (by omega)

theorem kbit_cons_eq_iff (x y : UInt8) (xs ys : Key) :
    (∀ j, kbit (x :: xs) j = kbit (y :: ys) j) ↔ x = y ∧ ∀ j, kbit xs j = kbit ys j :=
  ⟨fun h => ⟨((kbit_cons_eq_below x y xs ys 0).mp fun j _ => h j).1,
      fun j => ((kbit_cons_eq_below x y xs ys (j + 1)).mp fun j' _ => h j').2 j (Nat.lt_succ_self j)⟩,
    fun h j => (kbit_cons_eq_below x y xs ys (j + 1)).mpr ⟨h.1, fun j' _ => h.2 j'⟩ j (by omega)⟩

theorem and_two_pow_eq_zero (x n : Nat) : x &&& 2 ^ n = 0 ↔ x.testBit n = false := by
  constructor
  · intro h
    have := Nat.testBit_and x (2 ^ n) n
    rwa [h, Nat.zero_testBit, Nat.testBit_two_pow_self, Bool.and_true, eq_comm] at this
  · intro h
    apply Nat.eq_of_testBit_eq
    intro i
    rw [Nat.testBit_and, Nat.testBit_two_pow, Nat.zero_testBit]
    by_cases hi : n = i
    · rw [← hi, h, Bool.false_and]
    · rw [decide_eq_false hi, Bool.and_false]

theorem mask_toNat : ∀ k : Fin 8, ((0x80 : UInt8) >>> k.val.toUInt8).toNat = 2 ^ (7 - k.val) := by decide

theorem mask_testBit (x : UInt8) {k : Nat} (hk : k < 8) :
    ((x &&& ((0x80 : UInt8) >>> k.toUInt8)) != 0) = x.toNat.testBit (7 - k) := by
  have h0 := and_two_pow_eq_zero x.toNat (7 - k)
  rw [← mask_toNat ⟨k, hk⟩, ← UInt8.toNat_and, ← UInt8.toNat_zero, UInt8.toNat_inj] at h0
  cases hb : x.toNat.testBit (7 - k)
  · rw [h0.mpr hb]; rfl
  · exact bne_iff_ne.mpr fun h => by rw [h0.mp h] at hb; cases hb

namespace BitString

theorem bitLenAux_zero (f : Nat) : bitLenAux f 0 = 0 := by cases f <;> rfl

theorem bitLenAux_le (f x : Nat) : bitLenAux f x ≤ f := by
  induction f generalizing x with
  | zero => exact Nat.le_refl _
  | succ f ih => rw [bitLenAux]; split; omega; have := ih (x / 2); omega

theorem testBit_of_bitLenAux_le {f x j : Nat} (hx : x < 2 ^ f) (hj : bitLenAux f x ≤ j) : x.testBit j = false := by
  induction f generalizing x j with
  | zero => rw [show x = 0 by omega, Nat.zero_testBit]
  | succ f ih =>
    by_cases h0 : x = 0
    · rw [h0, Nat.zero_testBit]
    · rw [bitLenAux, if_neg h0] at hj
      obtain ⟨j, rfl⟩ : ∃ j', j = j' + 1 := ⟨j - 1, by omega⟩
      rw [← Nat.testBit_div_two]
      exact ih (by omega) (by omega)

theorem testBit_bitLenAux_pred {f x : Nat} (hx : x < 2 ^ f) (h0 : x ≠ 0) :
    1 ≤ bitLenAux f x ∧ x.testBit (bitLenAux f x - 1) = true := by
  induction f generalizing x with
  | zero => omega
  | succ f ih =>
    rw [bitLenAux, if_neg h0]
    refine ⟨by omega, ?_⟩
    by_cases h2 : x / 2 = 0
    · rw [h2, bitLenAux_zero, show x = 1 by omega]; rfl
    · obtain ⟨h1, ht⟩ := ih (x := x / 2) (by omega) h2
      rw [Nat.testBit_div_two] at ht
      rwa [show 1 + bitLenAux f (x / 2) - 1 = bitLenAux f (x / 2) - 1 + 1 by omega]

end BitString

theorem byte_diff (x y : UInt8) (xs ys : Key) (hxy : x ≠ y) :
    let L := BitString.bitLen (x ^^^ y)
    1 ≤ L ∧ L ≤ 8 ∧ kbit (x :: xs) (8 - L) ≠ kbit (y :: ys) (8 - L) ∧
      ∀ j, j < 8 - L → kbit (x :: xs) j = kbit (y :: ys) j := by
  simp only [BitString.bitLen]
  have hbit : ∀ j, (x ^^^ y).toNat.testBit j = false ↔ x.toNat.testBit j = y.toNat.testBit j := by
    intro j; rw [UInt8.toNat_xor, Nat.testBit_xor]; exact bne_eq_false_iff_eq
  have hlt : (x ^^^ y).toNat < 2 ^ 8 := (x ^^^ y).toNat_lt
  have hz : (x ^^^ y).toNat ≠ 0 := fun h =>
    hxy (u8_eq_of_testBit fun j _ => (hbit j).mp (by rw [h, Nat.zero_testBit]))
  obtain ⟨h1, ht⟩ := BitString.testBit_bitLenAux_pred hlt hz
  have h8 := BitString.bitLenAux_le 8 (x ^^^ y).toNat
  have hhi := fun j => BitString.testBit_of_bitLenAux_le (j := j) hlt
  generalize BitString.bitLenAux 8 (x ^^^ y).toNat = L at h1 ht h8 hhi ⊢
  refine ⟨h1, h8, ?_, fun j hj => ?_⟩
  · rw [kbit_cons_lt _ _ (by omega), kbit_cons_lt _ _ (by omega), show 7 - (8 - L) = L - 1 by omega]
    intro h
    rw [(hbit _).mpr h] at ht
    cases ht
  · rw [kbit_cons_lt _ _ (by omega), kbit_cons_lt _ _ (by omega)]
    exact (hbit _).mp (hhi _ (by omega))

namespace BitString

def Small (k : Key) : Prop := 8 * k.length ≤ lenPos

instance (k : Key) : Decidable (Small k) := by unfold Small; infer_instance

/-- the bit at 0-based index `p` of the sequence `Bit` reads: below `lenPos` the zero-padded bits of the string,
from `lenPos` on one bit per byte — index `lenPos + i - 1` (position `lenPos + i`) is set iff the string has at
least `i` bytes -/
def xbit (b : Key) (p : Nat) : Bool :=
  if p ≥ lenPos then decide (p + 1 - lenPos ≤ b.length) else kbit b p

theorem xbit_lt (b : Key) {p : Nat} (h : p < lenPos) : xbit b p = kbit b p :=
  if_neg (Nat.not_le_of_lt h)

theorem xbit_ge (b : Key) {p : Nat} (h : lenPos ≤ p) : xbit b p = decide (p + 1 - lenPos ≤ b.length) :=
  if_pos h

/-- `Bit(0)` panics (negative shift amount) -/
theorem bit_zero (b : BitString) : bit b 0 = .panic := by simp [bit, len]

theorem bit_succ (b : BitString) (i : Nat) : bit b (i + 1) = .ok (xbit b i) := by
  unfold bit len
  by_cases hl : i + 1 > lenPos
  · rw [if_pos hl, xbit_ge b (by omega)]
  · rw [if_neg hl, xbit_lt b (by omega)]
    by_cases h : i + 1 > 8 * b.length
    · rw [if_pos h, kbit_of_len_le b (by omega)]
    · have hlt : i / 8 < b.length := by omega
      rw [if_neg h, if_neg (Nat.add_one_ne_zero i), Nat.add_sub_cancel, kbit, List.getElem?_eq_getElem hlt]
      exact congrArg _ (mask_testBit _ (Nat.mod_lt _ (by omega)))

theorem bit_ok_of_pos (b : BitString) {pos : Nat} (h : 0 < pos) : bit b pos = .ok (xbit b (pos - 1)) := by
  obtain ⟨i, rfl⟩ : ∃ i, pos = i + 1 := ⟨pos - 1, by omega⟩
  exact bit_succ b i

/-- what the scanning loop of `DiffPos`, started after `i` equal bytes, returns on the bit sequences `f`, `g` of the
remaining bytes: 0 if they coincide, otherwise the 1-based position of the first difference -/
def FirstDiff (f g : Nat → Bool) (i r : Nat) : Prop :=
  (r = 0 → ∀ j, f j = g j) ∧
  ∀ p, r = p + 1 → 8 * i ≤ p ∧ f (p - 8 * i) ≠ g (p - 8 * i) ∧ ∀ j, j < p - 8 * i → f j = g j

theorem FirstDiff.symm {f g : Nat → Bool} {i r : Nat} (h : FirstDiff f g i r) : FirstDiff g f i r :=
  ⟨fun hr j => (h.1 hr j).symm, fun p hp =>
    have ⟨h1, h2, h3⟩ := h.2 p hp
    ⟨h1, fun e => h2 e.symm, fun j hj => (h3 j hj).symm⟩⟩

theorem FirstDiff.cons_same (x : UInt8) {xs ys : Key} {i r : Nat} (h : FirstDiff (kbit xs) (kbit ys) (i + 1) r) :
    FirstDiff (kbit (x :: xs)) (kbit (x :: ys)) i r := by
  refine ⟨fun hr => (kbit_cons_eq_iff x x xs ys).mpr ⟨rfl, h.1 hr⟩, fun p hp => ?_⟩
  obtain ⟨h1, h2, h3⟩ := h.2 p hp
  rw [show p - 8 * i = p - 8 * (i + 1) + 8 by omega, kbit_cons_add, kbit_cons_add]
  exact ⟨by omega, h2, (kbit_cons_eq_below x x xs ys _).mpr ⟨rfl, h3⟩⟩

theorem FirstDiff.cons_diff {x y : UInt8} (xs ys : Key) (i : Nat) (hxy : x ≠ y) :
    FirstDiff (kbit (x :: xs)) (kbit (y :: ys)) i ((i + 1) * 8 - bitLen (x ^^^ y) + 1) := by
  obtain ⟨h1, h2, h3, h4⟩ := byte_diff x y xs ys hxy
  refine ⟨fun hr => by omega, fun p hp => ?_⟩
  rw [show p - 8 * i = 8 - bitLen (x ^^^ y) by omega]
  exact ⟨by omega, h3, h4⟩

theorem diffPosZero_spec (ys : List UInt8) (i : Nat) : FirstDiff (kbit []) (kbit ys) i (diffPosZero ys i) := by
  induction ys generalizing i with
  | nil => exact ⟨fun _ _ => rfl, fun p hp => by cases hp⟩
  | cons y ys ih =>
    rw [← kbit_zero_nil, diffPosZero]
    split
    · next hy =>
      rw [eq_of_beq hy]
      exact (ih (i + 1)).cons_same 0
    · next hy =>
      have := FirstDiff.cons_diff [] ys i (fun h : 0 = y => hy (beq_iff_eq.mpr h.symm))
      rwa [UInt8.zero_xor] at this

theorem diffPosFrom_spec (xs ys : List UInt8) (i : Nat) : FirstDiff (kbit xs) (kbit ys) i (diffPosFrom xs ys i) := by
  induction xs generalizing ys i with
  | nil => rw [diffPosFrom]; exact diffPosZero_spec ys i
  | cons x xs ih =>
    cases ys with
    | nil => rw [diffPosFrom]; exact (diffPosZero_spec (x :: xs) i).symm
    | cons y ys =>
      rw [diffPosFrom]
      split
      · next hxy =>
        rw [← eq_of_beq hxy]
        exact (ih ys (i + 1)).cons_same x
      · next hxy => exact FirstDiff.cons_diff xs ys i (fun h => hxy (beq_iff_eq.mpr h))

theorem diffPosFrom_eq_zero_iff (b c : BitString) : diffPosFrom b c 0 = 0 ↔ ∀ j, kbit b j = kbit c j := by
  constructor
  · exact (diffPosFrom_spec b c 0).1
  · intro h
    cases hp : diffPosFrom b c 0 with
    | zero => rfl
    | succ p =>
      obtain ⟨_, h2, _⟩ := (diffPosFrom_spec b c 0).2 p hp
      exact absurd (h _) h2

theorem diffPosFrom_succ (b c : BitString) (p : Nat) (h : diffPosFrom b c 0 = p + 1) :
    kbit b p ≠ kbit c p ∧ ∀ j, j < p → kbit b j = kbit c j :=
  ((diffPosFrom_spec b c 0).2 p h).2

theorem eq_of_kbit_eq_of_length_eq (b c : Key) (h : ∀ j, kbit b j = kbit c j) (hl : b.length = c.length) : b = c := by
  induction b generalizing c with
  | nil => exact (List.eq_nil_of_length_eq_zero hl.symm).symm
  | cons x xs ih =>
    cases c with
    | nil => cases hl
    | cons y ys =>
      obtain ⟨hxy, hrest⟩ := (kbit_cons_eq_iff x y xs ys).mp h
      rw [hxy, ih ys hrest (Nat.succ.inj hl)]

theorem kbit_ne_lt {b c : Key} {p : Nat} (h : kbit b p ≠ kbit c p) : p < 8 * max b.length c.length := by
  apply Classical.byContradiction
  intro hge
  apply h
  rw [kbit_of_len_le b (by omega), kbit_of_len_le c (by omega)]

theorem diffPos_eq_zero_iff (b c : BitString) : diffPos b c = 0 ↔ b = c := by
  unfold diffPos
  constructor
  · intro h
    split at h
    · omega
    · next hn =>
      exact eq_of_kbit_eq_of_length_eq b c ((diffPosFrom_eq_zero_iff b c).mp h)
        (Classical.byContradiction fun hne => hn ⟨h, hne⟩)
  · rintro rfl
    rw [if_neg fun h => h.2 rfl]
    exact (diffPosFrom_eq_zero_iff b b).mpr fun _ => rfl

theorem diffPos_succ (b c : BitString) (hb : Small b) (hc : Small c) (p : Nat) (h : diffPos b c = p + 1) :
    xbit b p ≠ xbit c p ∧ ∀ j, j < p → xbit b j = xbit c j := by
  unfold Small at hb hc
  unfold diffPos at h
  split at h
  · -- equal bits, different lengths: the first length position only the longer string has
    next hcase =>
    have hall := (diffPosFrom_eq_zero_iff b c).mp hcase.1
    have hne := hcase.2
    constructor
    · rw [xbit_ge b (by omega), xbit_ge c (by omega)]
      intro he
      have := decide_eq_decide.mp he
      omega
    · intro j hj
      by_cases hjl : j < lenPos
      · rw [xbit_lt b hjl, xbit_lt c hjl]; exact hall j
      · rw [xbit_ge b (by omega), xbit_ge c (by omega)]
        exact decide_eq_decide.mpr (by omega)
  · obtain ⟨h2, h3⟩ := diffPosFrom_succ b c p h
    have hp : p < lenPos := by have := kbit_ne_lt h2; omega
    refine ⟨by rw [xbit_lt b hp, xbit_lt c hp]; exact h2, fun j hj => ?_⟩
    rw [xbit_lt b (by omega), xbit_lt c (by omega)]
    exact h3 j hj

theorem equal_iff (b c : BitString) : equal b c = true ↔ b = c := by
  simp only [equal, Bool.and_eq_true, beq_iff_eq]
  exact ⟨fun h => h.2, fun h => ⟨congrArg _ h, h⟩⟩

theorem hasPrefix_iff (b c : BitString) : hasPrefix b c = true ↔ ∀ j, j < len c → kbit b j = kbit c j := by
  induction c generalizing b with
  | nil => exact ⟨fun _ j hj => absurd hj (Nat.not_lt_zero j), fun _ => rfl⟩
  | cons y ys ih =>
    rw [show len (y :: ys) = len ys + 8 by simp only [len, List.length_cons]; omega]
    cases b with
    | nil =>
      rw [← kbit_zero_nil, kbit_cons_eq_below, ← ih, hasPrefix, Bool.and_eq_true, beq_iff_eq, eq_comm]
    | cons x xs =>
      rw [kbit_cons_eq_below, ← ih, hasPrefix, Bool.and_eq_true, beq_iff_eq]

end BitString

section
open BitString (xbit Small xbit_lt)

theorem hasPrefix_eq_isPrefixOf (k key : Key) (h : key.length ≤ k.length) :
    BitString.hasPrefix k key = key.isPrefixOf k := by
  induction key generalizing k with
  | nil => simp [BitString.hasPrefix]
  | cons y ys ih =>
    cases k with
    | nil => simp at h
    | cons x xs =>
      simp only [BitString.hasPrefix, List.isPrefixOf, ih xs (by simpa using h)]
      congr 1
      rw [Bool.eq_iff_iff, beq_iff_eq, beq_iff_eq]; exact eq_comm

theorem xbit_of_isPrefixOf {k key : Key} (hsk : Small key) (h : key.isPrefixOf k = true) {j : Nat}
    (hj : j < 8 * key.length) : xbit k j = xbit key j := by
  unfold Small at hsk
  have hl := (List.isPrefixOf_iff_prefix.mp h).length_le
  rw [xbit_lt k (by omega), xbit_lt key (by omega)]
  exact (BitString.hasPrefix_iff k key).mp (by rw [hasPrefix_eq_isPrefixOf k key hl]; exact h) j hj

theorem hasPrefix_congr {k k' key : Key} (hsk : Small key) (h : ∀ j, j < 8 * key.length → xbit k j = xbit k' j) :
    BitString.hasPrefix k key = BitString.hasPrefix k' key := by
  unfold Small at hsk
  have hag : ∀ j, j < BitString.len key → kbit k j = kbit k' j := by
    intro j hj
    have := h j hj
    rwa [xbit_lt k (by unfold BitString.len at hj; omega), xbit_lt k' (by unfold BitString.len at hj; omega)] at this
  rw [Bool.eq_iff_iff, BitString.hasPrefix_iff, BitString.hasPrefix_iff]
  exact ⟨fun h j hj => (hag j hj).symm.trans (h j hj), fun h j hj => (hag j hj).trans (h j hj)⟩

end

end AlgoVerif.C06
