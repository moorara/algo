import AlgoVerif.Generated.C04Gen
import AlgoVerif.Proofs.GoRt
import AlgoVerif.Model.C04
/-!
# The GENERATED model of `heap/binary.go` and the hand-written Model of the binary heap

The hand Model (`Model/C04.lean`, `Binary.*`) keeps `n` and all indices as `Nat`, a cell
`*generic.KeyValue` as `Option (K × V)`, and gives each loop its own fuel; the generated definitions use `Int`, the
generated record `KeyValue K V`, recursion on the trip count for the counted loops and the caller's fuel for the
others.  `toM` reads the generated structure as the Model's; the lemmas about methods whose result depends on the sign of `h.n`
are for states with `0 ≤ h.n` (the Model cannot express a negative count).  Relation: `x ≼ y` of `Proofs/Outcome.lean` — the hand Model's outcome
is `diverge` (its fuel ran out), or the generated definition computes exactly the same outcome.

The loops are related by `Outcome.Sim R` of `Proofs/Outcome.lean` (`≼` up to a relation `R` between the results of the two
sides), which is carried through both programs statement by statement: `Sim.read` for `h.heap[i].Key`, `Go.Sim.store` for
`h.heap[k] = v`, `Sim.bind` for a call, each with the rest of the two programs as a variable.  The hand Model writes its
binds with its own `obind` (`Model/C04.lean`), so `Sim.bind` and `Sim.read` here are `C04.Gen.Sim.*`: `Outcome.Sim.bind`
with `obind` on the left.
-/
set_option linter.unusedSectionVars false
namespace AlgoVerif.C04.Gen
open AlgoVerif AlgoVerif.Outcome AlgoVerif.C04 AlgoVerif.Generated.Heap
variable {K V : Type} [Inhabited K] [Inhabited V]

/-- `*generic.KeyValue[K, V]` read as the Model's cell -/
def pair (kv : KeyValue K V) : K × V := (kv.Key, kv.Val)
def cell (c : Option (KeyValue K V)) : Cell K V := c.map pair
def cells (a : Array (Option (KeyValue K V))) : Array (Cell K V) := a.map cell
def toM (h : binary K V) : Binary K V := ⟨h.n.toNat, cells h.heap⟩
/-- Go's `(K, V, bool)` results -/
def kvOpt (r : K × V × Bool) : Option (K × V) := if r.2.2 then some (r.1, r.2.1) else none

@[simp] theorem cells_size (a : Array (Option (KeyValue K V))) : (cells a).size = a.size := by simp [cells]
theorem getElem?_cells (a : Array (Option (KeyValue K V))) (i : Nat) : (cells a)[i]? = a[i]?.map cell := by
  simp [cells]

@[simp] theorem pair_fst (kv : KeyValue K V) : (pair kv).1 = kv.Key := rfl
@[simp] theorem pair_snd (kv : KeyValue K V) : (pair kv).2 = kv.Val := rfl
@[simp] theorem cell_some (kv : KeyValue K V) : cell (some kv) = some (pair kv) := rfl
@[simp] theorem cell_none : cell (none : Option (KeyValue K V)) = none := rfl

theorem cells_set (a : Array (Option (KeyValue K V))) (k : Nat) (v : Option (KeyValue K V)) :
    cells (a.setIfInBounds k v) = (cells a).setIfInBounds k (cell v) := by
  by_cases h : k < a.size <;> simp [cells, Array.setIfInBounds, h]

theorem cells_set_none (a : Array (Option (KeyValue K V))) (k : Nat) :
    (cells a).setIfInBounds k none = cells (a.setIfInBounds k none) :=
  (cells_set a k none).symm

@[simp] theorem deref_eq_ok (c : Option (KeyValue K V)) (kv : KeyValue K V) :
    (Go.deref c = .ok kv) = (c = some kv) := by
  cases c <;> simp

@[simp] theorem deref_ne_diverge (c : Option (KeyValue K V)) : (Go.deref c = .diverge) = False := by
  cases c <;> simp

theorem deref_eq (a : Array (Option (KeyValue K V))) (i : Nat) :
    C04.deref (cells a) i = (Go.idx a (i : Int) >>= fun c => Go.deref c >>= fun kv => .ok (pair kv)) := by
  rw [C04.deref, getElem?_cells, Go.idx_natCast]
  cases a[i]? with
  | none => rfl
  | some c => cases c <;> rfl

section sim
variable {α β α' β' : Type}

theorem obind_assoc {γ : Type} (x : Outcome α) (f : α → Outcome β) (g : β → Outcome γ) :
    obind (obind x f) g = obind x fun a => obind (f a) g := by
  cases x <;> rfl

theorem Sim.bind {R : α → β → Prop} {S : α' → β' → Prop} {x : Outcome α} {y : Outcome β}
    {f : α → Outcome α'} {g : β → Outcome β'} (h : Sim R x y) (hf : ∀ a b, R a b → Sim S (f a) (g b)) :
    Sim S (obind x f) (y >>= g) := Outcome.Sim.bind h hf

/-- `h.heap[i].Key`: index check, then nil check; the rest of the generated program may read the cell again -/
theorem Sim.read {R : α → β → Prop} (a : Array (Option (KeyValue K V))) (i : Nat) {f : K × V → Outcome α}
    {g : Option (KeyValue K V) → KeyValue K V → Outcome β}
    (h : ∀ kv, Go.idx a i = .ok (some kv) → Sim R (f (pair kv)) (g (some kv) kv)) :
    Sim R (obind (C04.deref (cells a) i) f) (Go.idx a i >>= fun c => Go.deref c >>= g c) := by
  rw [deref_eq]
  cases hi : Go.idx a i with
  | ok c =>
    cases c with
    | none => trivial
    | some kv => exact h kv hi
  | panic => trivial
  | diverge => trivial
end sim

theorem Size_eq (h : binary K V) (hn : 0 ≤ h.n) : binary.Size h = ((toM h).n : Int) := by
  simp [binary.Size, toM, Int.toNat_of_nonneg hn]

theorem IsEmpty_eq (h : binary K V) (hn : 0 ≤ h.n) : binary.IsEmpty h = decide ((toM h).n = 0) := by
  simp only [binary.IsEmpty, toM]
  by_cases h0 : h.n = 0
  · simp [h0]
  · have : ¬ h.n.toNat = 0 := by omega
    simp [h0, this]

theorem NewBinary_eq (size : Nat) (cmp : K → K → Int) (eq : V → V → Bool) :
    (NewBinary (size : Int) cmp eq).map toM = .ok (Binary.new size) := by
  have : Go.make (none : Option (KeyValue K V)) ((size : Int) + 1) = .ok (Array.replicate (size + 1) none) :=
    Go.make_nat none (size + 1)
  simp [NewBinary, this, toM, Binary.new, cells, cell]

theorem DeleteAll_eq (h : binary K V) : (binary.DeleteAll h).map toM = .ok (toM h).deleteAll := by
  simp [binary.DeleteAll, Go.make_nat, toM, Binary.deleteAll, cells, cell]

theorem Peek_eq (h : binary K V) (hn : 0 ≤ h.n) : (binary.Peek h).map kvOpt = (toM h).peek := by
  rw [binary.Peek, Binary.peek, IsEmpty_eq h hn]
  by_cases h0 : (toM h).n = 0
  · rw [if_pos h0, if_pos (decide_eq_true h0)]
    rfl
  · rw [if_neg h0, if_neg (by simpa using h0), toM, deref_eq, Int.natCast_one]
    cases Go.idx h.heap 1 with
    | ok c => cases c <;> rfl
    | panic => rfl
    | diverge => rfl

/-- a counted loop `L` of the translator that tests `p` on the cells `k, k + 1, …` against the Model's `scan` -/
theorem scan_sim (p : K × V → Bool) (heap : Array (Option (KeyValue K V))) (n : Nat)
    (L : Nat → Int → Outcome (Go.Ctl Unit Bool)) (h0 : ∀ k, L 0 k = .ok (.next ()))
    (hs : ∀ t k, L (t + 1) k = Go.idx heap k >>= fun c => Go.deref c >>= fun kv =>
      if p (pair kv) = true then .ok (.ret true) else L t (k + 1)) :
    ∀ (f k : Nat), Sim (fun b c => b = Go.found false c) (Binary.scan p (cells heap) n f k) (L (n + 1 - k) k) := by
  intro f
  induction f with
  | zero => intros; trivial
  | succ f ih =>
    intro k
    rw [Binary.scan]
    by_cases hk : k ≤ n
    · rw [if_pos hk, show n + 1 - k = (n + 1 - (k + 1)) + 1 by omega, hs]
      refine Sim.read heap k fun kv _ => ?_
      by_cases hp : p (pair kv) = true
      · rw [if_pos hp, if_pos hp]
        rfl
      · rw [if_neg hp, if_neg hp]
        exact ih (k + 1)
    · rw [if_neg hk, show n + 1 - k = 0 by omega, h0]
      rfl

theorem ContainsKey_le (h : binary K V) (key : K) :
    (toM h).containsKey h.cmpKey key ≼ binary.ContainsKey h key := by
  rw [binary.ContainsKey, show (h.n + 1 - 1).toNat = h.n.toNat + 1 - 1 by omega,
    Go.ret_or _ false _ (fun _ => rfl) (fun _ => rfl)]
  exact (scan_sim (fun a => h.cmpKey a.1 key == 0) h.heap h.n.toNat (binary.ContainsKey.loop1 h key)
    (fun _ => rfl) (fun _ _ => rfl) (h.n.toNat + 1) 1).le_map

theorem ContainsValue_le (h : binary K V) (val : V) :
    (toM h).containsValue h.eqVal val ≼ binary.ContainsValue h val := by
  rw [binary.ContainsValue, show (h.n + 1 - 1).toNat = h.n.toNat + 1 - 1 by omega,
    Go.ret_or _ false _ (fun _ => rfl) (fun _ => rfl)]
  exact (scan_sim (fun a => h.eqVal a.2 val) h.heap h.n.toNat (binary.ContainsValue.loop1 h val)
    (fun _ => rfl) (fun _ _ => rfl) (h.n.toNat + 1) 1).le_map

/-- `for k = h.n; k > 1 && h.cmpKey(h.heap[k/2].Key, key) > 0; k /= 2 { h.heap[k] = h.heap[k/2] }` -/
theorem Insert_loop (cmp : K → K → Int) (eq : V → V → Bool) (n : Int) (key : K) (F : Nat) :
    ∀ (f d : Nat) (heap : Array (Option (KeyValue K V))) (k : Nat),
    Sim (fun r x => x.1.n = n ∧ cells x.1.heap = r.1 ∧ x.2 = r.2)
      (Binary.swim cmp key f (cells heap) k) (binary.Insert.loop1 F key (f + d) ⟨cmp, eq, n, heap⟩ k) := by
  intro f
  induction f with
  | zero => intros; trivial
  | succ f ih =>
    intro d heap k
    rw [show f + 1 + d = f + d + 1 by omega, Binary.swim, binary.Insert.loop1]
    by_cases hk : 1 < k
    · rw [if_pos hk, if_pos (decide_eq_true (by omega)), show Int.tdiv k 2 = _ from Go.tdiv_natCast k 2]
      refine Sim.read heap (k / 2) fun p hp => ?_
      by_cases hc : cmp p.Key key > 0
      · simp only [pair_fst, hc, if_true, pure_eq, ok_bind, decide_true, Bool.not_true, Bool.false_eq_true, if_false, hp]
        refine Go.Sim.store heap k (some p) (cells_size _) fun _ => ?_
        rw [← cell_some, ← cells_set]
        exact ih d _ _
      · simp only [pair_fst, hc, if_false, pure_eq, ok_bind, decide_false, Bool.not_false, if_true]
        exact ⟨rfl, rfl, rfl⟩
    · rw [if_neg hk, if_neg (by rw [decide_eq_true_eq]; omega)]
      exact ⟨rfl, rfl, rfl⟩

/-- `resize`: `newH := make([]*KeyValue, size); copy(newH, h.heap); h.heap = newH` -/
theorem cells_copy (a : Array (Option (KeyValue K V))) (size : Nat) :
    cells (Go.copy (Array.replicate size none) a) = resize (cells a) size := by
  apply Array.ext
  · simp [cells, Go.copy, resize]; omega
  · intro i h1 h2
    simp only [cells, Go.copy, Array.size_map, Array.size_ofFn, Array.size_replicate] at h1
    simp only [cells, Go.copy, resize, Array.getElem_map, Array.getElem_ofFn, Array.getElem_replicate,
      List.getElem_toArray]
    by_cases hi : i < a.size
    · rw [List.getElem_append_left (by simp; omega)]
      simp [hi]
    · rw [List.getElem_append_right (by simp; omega)]
      simp [hi, cell]

theorem resize_eq (cmp : K → K → Int) (eq : V → V → Bool) (n : Int) (heap : Array (Option (KeyValue K V)))
    (size : Nat) :
    binary.resize ⟨cmp, eq, n, heap⟩ (size : Int) = .ok ⟨cmp, eq, n, Go.copy (Array.replicate size none) heap⟩ := by
  simp [binary.resize, Go.make_nat]

/-- what follows the optional `resize` in `Insert` -/
theorem Insert_tail (cmp : K → K → Int) (eq : V → V → Bool) (m d : Nat) (heap1 : Array (Option (KeyValue K V)))
    (key : K) (val : V) :
    Sim (fun a b => a = toM b)
      (obind (Binary.swim cmp key (m + 1 + 1) (cells heap1) (m + 1)) fun r =>
        if r.2 < r.1.size then
          Outcome.ok ({ n := m + 1, heap := r.1.setIfInBounds r.2 (some (key, val)) } : Binary K V)
        else .panic)
      (binary.Insert.loop1 (m + 2 + d) key (m + 2 + d) ⟨cmp, eq, (m : Int) + 1, heap1⟩ ((m : Int) + 1) >>= fun x =>
        Go.setIdx x.1.heap x.2 (some { Key := key, Val := val }) >>= fun t7 =>
          Outcome.ok ({ cmpKey := x.1.cmpKey, eqVal := x.1.eqVal, n := x.1.n, heap := t7 } : binary K V)) := by
  refine Sim.bind (Insert_loop cmp eq ((m : Int) + 1) key (m + 2 + d) (m + 2) d heap1 (m + 1)) ?_
  rintro r ⟨h, k⟩ ⟨hn, hh, hk⟩
  simp only at hn hh hk
  rw [← hh, hk]
  refine Go.Sim.store h.heap r.2 _ (cells_size _) fun _ => ?_
  show Binary.mk _ _ = Binary.mk _ _
  rw [hn, cells_set]
  rfl

theorem Insert_le (h : binary K V) (hn : 0 ≤ h.n) (key : K) (val : V) (d : Nat) :
    Binary.insert h.cmpKey (toM h) key val ≼ (binary.Insert (h.n.toNat + 2 + d) h key val).map toM := by
  obtain ⟨cmp, eq, n, heap⟩ := h
  obtain ⟨m, rfl⟩ := Int.eq_ofNat_of_zero_le hn
  refine Sim.le_map ?_
  simp only [Binary.insert, binary.Insert, toM, Int.toNat_natCast, cells_size]
  by_cases hc : m + 1 = heap.size
  · have e : ((m : Int) == (heap.size : Int) - 1) = true := by simp; omega
    rw [if_pos hc, if_pos e, show (heap.size : Int) * 2 = ((heap.size * 2 : Nat) : Int) by omega, resize_eq,
      ← cells_copy]
    exact Insert_tail cmp eq m d _ key val
  · have e : ¬ ((m : Int) == (heap.size : Int) - 1) = true := by simp; omega
    rw [if_neg hc, if_neg e]
    exact Insert_tail cmp eq m d _ key val

/-- `if j < h.n && h.cmpKey(h.heap[j+1].Key, h.heap[j].Key) < 0 { j++ }`, then `T j` on both sides -/
theorem Sim.pick {α β : Type} {R : α → β → Prop} (cmp : K → K → Int) (heap : Array (Option (KeyValue K V))) (m j : Nat)
    {fM : Nat → Outcome α} {T : Int → Outcome β} (h : ∀ j' : Nat, Sim R (fM j') (T j')) :
    Sim R
      (obind (if j < m then
                obind (C04.deref (cells heap) (j + 1)) fun a => obind (C04.deref (cells heap) j) fun b =>
                  .ok (if cmp a.1 b.1 < 0 then j + 1 else j)
              else .ok j) fM)
      (if decide ((j : Int) < m) = true then do
          let t5 ← Go.idx heap ((j : Int) + 1)
          let t6 ← Go.deref t5
          let t7 ← Go.idx heap j
          let t8 ← Go.deref t7
          let t9 ← pure (decide (cmp t6.Key t8.Key < 0))
          if t9 = true then T ((j : Int) + 1) else T j
        else do
          let t9 ← pure false
          if t9 = true then T ((j : Int) + 1) else T j) := by
  by_cases hj : j < m
  · rw [if_pos hj, if_pos (decide_eq_true (by omega)), show (j : Int) + 1 = ((j + 1 : Nat) : Int) by omega,
      obind_assoc]
    refine Sim.read heap (j + 1) fun a _ => ?_
    rw [obind_assoc]
    refine Sim.read heap j fun b _ => ?_
    by_cases hc : cmp a.Key b.Key < 0
    · simp only [pair_fst, hc, if_true, pure_eq, ok_bind, decide_true, obind_ok]
      exact h (j + 1)
    · simp only [pair_fst, hc, if_false, pure_eq, ok_bind, decide_false, obind_ok, Bool.false_eq_true]
      exact h j
  · rw [if_neg hj, if_neg (by rw [decide_eq_true_eq]; omega)]
    exact h j

/-- the `for k, j = 1, 2; j <= h.n; k, j = j, 2*j { … }` loop of `Delete` (the final `j` is not used) -/
theorem Delete_loop (cmp : K → K → Int) (eq : V → V → Bool) (m : Nat) (kv : Option (KeyValue K V)) (F : Nat) :
    ∀ (f d : Nat) (heap : Array (Option (KeyValue K V))) (k j : Nat),
    Sim (fun r x => x.1.n = (m : Int) ∧ cells x.1.heap = r.1 ∧ x.2.1 = r.2)
      (Binary.sink cmp (cell kv) m f (cells heap) k j)
      (binary.Delete.loop1 F kv (f + d) ⟨cmp, eq, m, heap⟩ k j) := by
  intro f
  induction f with
  | zero => intros; trivial
  | succ f ih =>
    intro d heap k j
    rw [show f + 1 + d = f + d + 1 by omega, Binary.sink, binary.Delete.loop1]
    -- the translator's join points: `tail () j` is the iteration from `if h.cmpKey(kv.Key, h.heap[j].Key) < 0` on
    extract_lets tail j1 jp
    by_cases hj : j ≤ m
    · rw [if_pos hj, if_neg (show ¬ (!decide ((j : Int) ≤ (m : Int))) = true by simpa using hj)]
      refine Sim.pick cmp heap m j (T := tail ()) fun j' => ?_
      cases kv with
      | none => trivial
      | some q =>
        simp only [cell_some, tail, Go.deref_some, ok_bind]
        refine Sim.read heap j' fun b hb => ?_
        by_cases hc : cmp q.Key b.Key < 0
        · simp only [pair_fst, hc, if_true, decide_true]
          exact ⟨rfl, rfl, rfl⟩
        · simp only [pair_fst, hc, if_false, decide_false, Bool.false_eq_true, hb, ok_bind]
          refine Go.Sim.store heap k (some b) (cells_size _) fun _ => ?_
          rw [← cell_some, ← cell_some, ← cells_set, show (2 : Int) * (j' : Int) = ((2 * j' : Nat) : Int) by omega]
          exact ih d _ _ _
    · rw [if_neg hj, if_pos (show (!decide ((j : Int) ≤ (m : Int))) = true by simpa using hj)]
      exact ⟨rfl, rfl, rfl⟩

theorem Delete_le (h : binary K V) (hn : 0 ≤ h.n) (d : Nat) :
    Binary.delete h.cmpKey (toM h) ≼
      (binary.Delete (h.n.toNat + 1 + d) h).map (fun r => (toM r.1, kvOpt r.2)) := by
  obtain ⟨cmp, eq, n, heap⟩ := h
  obtain ⟨m, rfl⟩ := Int.eq_ofNat_of_zero_le hn
  refine Sim.le_map ?_
  rw [show toM (⟨cmp, eq, (m : Int), heap⟩ : binary K V) = ⟨m, cells heap⟩ from rfl, Binary.delete, binary.Delete]
  by_cases h0 : m = 0
  · subst h0
    rfl
  · have e0 : ¬ binary.IsEmpty (⟨cmp, eq, (m : Int), heap⟩ : binary K V) = true := by simp [binary.IsEmpty]; omega
    rw [if_neg h0, if_neg e0]
    have i1 : Go.idx heap 1 = _ := Go.idx_natCast heap 1
    rw [i1, Go.idx_natCast, getElem?_cells, getElem?_cells]
    cases heap[1]? with
    | none => trivial
    | some ext =>
      cases heap[m]? with
      | none => trivial
      | some kv =>
        simp only [Option.map_some, ok_bind]
        obtain ⟨n, rfl⟩ : ∃ n, m = n + 1 := ⟨m - 1, by omega⟩
        rw [Nat.add_sub_cancel, Int.toNat_natCast, show ((n + 1 : Nat) : Int) - 1 = n by omega]
        refine Sim.bind (Delete_loop cmp eq n kv _ (n + 2) d heap 1 2) ?_
        rintro ⟨rh, rk⟩ ⟨⟨c', e', n', heap2⟩, k2, j2⟩ hR
        dsimp only at hR ⊢
        obtain ⟨rfl, rfl, rfl⟩ := hR
        refine Go.Sim.store heap2 rk kv (cells_size _) fun _ => ?_
        rw [← cells_set, show (n : Int) + 1 = ((n + 1 : Nat) : Int) by omega]
        refine Go.Sim.store _ (n + 1) none (cells_size _) fun _ => ?_
        rw [cells_set_none]
        generalize (heap2.setIfInBounds rk kv).setIfInBounds (n + 1) none = A
        rw [show Int.tdiv A.size 4 = _ from Go.tdiv_natCast A.size 4, show Int.tdiv A.size 2 = _ from Go.tdiv_natCast A.size 2,
          resize_eq, cells_size]
        by_cases hq : n < A.size / 4
        · rw [if_pos (decide_eq_true (by omega))]
          cases ext with
          | none => trivial
          | some p =>
            rw [if_pos hq, ← cells_copy]
            rfl
        · rw [if_neg (show ¬ decide ((n : Int) < ((A.size / 4 : Nat) : Int)) = true by rw [decide_eq_true_eq]; omega)]
          cases ext with
          | none => trivial
          | some p =>
            rw [if_neg hq]
            rfl
end AlgoVerif.C04.Gen
