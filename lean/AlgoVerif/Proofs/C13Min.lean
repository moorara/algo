import AlgoVerif.Proofs.C13DfaOps
/-! C13: step 4 of `Minimize` — the quotient of a DFA by a *stable* partition accepts the same language. -/
namespace AlgoVerif.C13
open AlgoVerif AlgoVerif.C13.Spec

/-- what the refinement loop is meant to establish for the partition it returns.  `head` allows an empty group whose
representative no state has: `buildMin` reads a group through `headD 0`, and when every state is final `initPartition` has the
empty group `sdiff d.states d.final`; the partition the loop returns has none (`final_no_empty`) -/
structure Stable (d : DFA) (P : Partition) : Prop where
  cover : ∀ s ∈ d.states, P.rep s ≠ -1
  fin : ∀ s ∈ d.states, ∀ t ∈ d.states, P.rep s = P.rep t → (s ∈ d.final ↔ t ∈ d.final)
  sig : ∀ s ∈ d.states, ∀ t ∈ d.states, P.rep s = P.rep t → ∀ a, (d.δ s a).map P.rep = (d.δ t a).map P.rep
  head : ∀ G ∈ P.groups, (G.1 = [] ∧ ∀ s ∈ d.states, P.rep s ≠ G.2) ∨
    (G.1.headD 0 ∈ d.states ∧ P.rep (G.1.headD 0) = G.2)

theorem rep_mem_of_ne (P : Partition) (s : Int) (h : P.rep s ≠ -1) : ∃ G ∈ P.groups, s ∈ G.1 ∧ P.rep s = G.2 := by
  unfold Partition.rep at h ⊢
  cases hf : P.groups.find? (fun g => g.1.contains s) with
  | none => rw [hf] at h; exact absurd rfl h
  | some g =>
    have := List.find?_some hf
    exact ⟨g, List.mem_of_find?_eq_some hf, by simpa using this, rfl⟩

/-- the transitions `buildMin` adds for one group -/
def minGroupEntries (d : DFA) (P : Partition) (G : List Int × Int) : List (Int × Int × Int) :=
  match aget (G.1.headD 0) d.trans with
  | some v => v.map (fun e => (G.2, e.1, P.rep e.2))
  | none => []

theorem buildMin_eq (d : DFA) (P : Partition) :
    buildMin d P = DFA.ofEntries (P.rep d.start) (d.final.foldl (fun acc f => sins (P.rep f) acc) [])
      (P.groups.flatMap (minGroupEntries d P)) := by
  simp only [buildMin, DFA.ofEntries, List.foldl_flatMap]
  congr 1
  funext dfa G
  simp only [minGroupEntries]
  cases aget (G.1.headD 0) d.trans with
  | none => simp
  | some v => simp [List.foldl_map]

theorem mem_minGroupEntries (d : DFA) (hwf : d.WF) (P : Partition) (G : List Int × Int) (r a r' : Int) :
    (r, a, r') ∈ minGroupEntries d P G ↔ r = G.2 ∧ ∃ t, d.δ (G.1.headD 0) a = some t ∧ P.rep t = r' := by
  simp only [minGroupEntries, DFA.δ]
  cases h : aget (G.1.headD 0) d.trans with
  | none => simp
  | some v =>
    have hv : ASorted v := hwf.2 _ (aget_mem h)
    simp only [List.mem_map]
    constructor
    · rintro ⟨e, he, heq⟩
      obtain ⟨a1, t1⟩ := e
      simp at heq
      obtain ⟨rfl, rfl, rfl⟩ := heq
      exact ⟨rfl, t1, (mem_iff_aget hv _ _).1 he, rfl⟩
    · rintro ⟨rfl, t, ht, rfl⟩
      exact ⟨(a, t), (mem_iff_aget hv _ _).2 ht, rfl⟩

theorem buildMin_facts (d : DFA) (hwf : d.WF) (P : Partition) (hs : Stable d P) :
    (buildMin d P).start = P.rep d.start ∧
    (∀ x, x ∈ (buildMin d P).final ↔ ∃ f ∈ d.final, P.rep f = x) ∧
    (∀ s ∈ d.states, ∀ a, (buildMin d P).δ (P.rep s) a = (d.δ s a).map P.rep) ∧
    (∀ r a r', (buildMin d P).δ r a = some r' →
      ∃ G ∈ P.groups, r = G.2 ∧ ∃ t, d.δ (G.1.headD 0) a = some t ∧ P.rep t = r') ∧
    (buildMin d P).WF := by
  have hstart : d.start ∈ d.states := d.mem_states_of _ (Or.inl rfl)
  have hfinal : ∀ f ∈ d.final, f ∈ d.states := fun f hf => d.mem_states_of _ (Or.inr (Or.inl hf))
  rw [buildMin_eq]
  have hsf := DFA.ofEntries_start_final (P.rep d.start) (d.final.foldl (fun acc f => sins (P.rep f) acc) [])
    (P.groups.flatMap (minGroupEntries d P))
  generalize hres : DFA.ofEntries (P.rep d.start) (d.final.foldl (fun acc f => sins (P.rep f) acc) [])
    (P.groups.flatMap (minGroupEntries d P)) = res at hsf
  have hmem : ∀ r a r', (r, a, r') ∈ P.groups.flatMap (minGroupEntries d P) ↔
      ∃ G ∈ P.groups, r = G.2 ∧ ∃ t, d.δ (G.1.headD 0) a = some t ∧ P.rep t = r' := by
    intro r a r'
    simp only [List.mem_flatMap, mem_minGroupEntries d hwf]
  have hsound : ∀ r a r', res.δ r a = some r' →
      ∃ G ∈ P.groups, r = G.2 ∧ ∃ t, d.δ (G.1.headD 0) a = some t ∧ P.rep t = r' := by
    intro r a r' h
    rw [← hres] at h
    rcases DFA.fold_sound _ _ r a r' h with h' | h'
    · simp [DFA.δ, aget] at h'
    · exact (hmem _ _ _).1 h'
  have hdef : ∀ r a, (∃ G ∈ P.groups, r = G.2 ∧ ∃ t, d.δ (G.1.headD 0) a = some t) → (res.δ r a).isSome := by
    intro r a ⟨G, hG, hr, t, ht⟩
    rw [← hres]
    exact DFA.fold_defined _ _ r a (Or.inr ⟨P.rep t, (hmem _ _ _).2 ⟨G, hG, hr, t, ht, rfl⟩⟩)
  have key : ∀ s ∈ d.states, ∀ a, res.δ (P.rep s) a = (d.δ s a).map P.rep := by
    intro s hs' a
    have hhead : ∀ G ∈ P.groups, P.rep s = G.2 → (d.δ (G.1.headD 0) a).map P.rep = (d.δ s a).map P.rep := by
      intro G hG hr
      rcases hs.head G hG with ⟨_, hjunk⟩ | ⟨hh1, hh2⟩
      · exact absurd hr (hjunk s hs')
      · exact hs.sig _ hh1 s hs' (by rw [hh2, hr]) a
    have from_tbl : ∀ r', res.δ (P.rep s) a = some r' → (d.δ s a).map P.rep = some r' := by
      intro r' h
      obtain ⟨G, hG, hr, t, ht, hrt⟩ := hsound _ _ _ h
      rw [← hhead G hG hr, ht, Option.map_some, hrt]
    refine Option.ext fun r' => ⟨from_tbl r', fun h => ?_⟩
    obtain ⟨G, hG, _, hGr⟩ := rep_mem_of_ne P s (hs.cover s hs')
    obtain ⟨t', ht', _⟩ := Option.map_eq_some_iff.1 ((hhead G hG hGr).trans h)
    obtain ⟨r'', hr''⟩ := Option.isSome_iff_exists.1 (hdef (P.rep s) a ⟨G, hG, hGr, t', ht'⟩)
    rw [hr'', ← from_tbl r'' hr'', h]
  refine ⟨hsf.1, ?_, key, hsound, ?_⟩
  · intro x
    rw [hsf.2, foldl_grow (fun l x => x ∈ l) (Q := fun f x => P.rep f = x)
      (fun acc f x => by simp only [mem_sins, or_comm, eq_comm])]
    simp only [List.not_mem_nil, false_or]
  · rw [← hres]
    exact DFA.ofEntries_WF _ _ _

theorem buildMin_hom (d : DFA) (hwf : d.WF) (P : Partition) (hs : Stable d P) : d.Hom (buildMin d P) P.rep := by
  obtain ⟨h1, h2, h3, -, -⟩ := buildMin_facts d hwf P hs
  refine ⟨h1, h3, fun s hs' => ⟨fun hm => ?_, fun hm => (h2 _).2 ⟨s, hm, rfl⟩⟩⟩
  obtain ⟨f, hf, hff⟩ := (h2 _).1 hm
  exact (hs.fin f (d.mem_states_of f (Or.inr (Or.inl hf))) s hs' hff).1 hf

theorem buildMin_lang (d : DFA) (hwf : d.WF) (P : Partition) (hs : Stable d P) (w : Word) :
    (buildMin d P).lang w ↔ d.lang w :=
  (buildMin_hom d hwf P hs).lang w

theorem DFA.mem_symbols (d : DFA) {s a t : Int} (h : d.δ s a = some t) : a ∈ d.symbols :=
  (d.mem_symbols_iff a).2 ⟨s, t, DFA.δ_entry h⟩

theorem stable_of_stableB (d : DFA) (hwf : d.WF) (P : Partition) (h : stableB d P = true) : Stable d P := by
  simp only [stableB, Bool.and_eq_true, List.all_eq_true] at h
  obtain ⟨⟨h1, h2⟩, h3⟩ := h
  refine ⟨?_, ?_, ?_, ?_⟩
  · intro s hs; simpa using h1 s hs
  · intro s hs t ht hr
    have := h2 s hs t ht
    simp only [Bool.or_eq_true, bne_iff_ne, ne_eq, Bool.and_eq_true, beq_iff_eq] at this
    rcases this with h' | ⟨h', _⟩
    · exact absurd hr h'
    · simpa using Bool.eq_iff_iff.1 h'
  · intro s hs t ht hr a
    have := h2 s hs t ht
    simp only [Bool.or_eq_true, bne_iff_ne, ne_eq, Bool.and_eq_true, beq_iff_eq, List.all_eq_true] at this
    rcases this with h' | ⟨_, h'⟩
    · exact absurd hr h'
    · by_cases ha : a ∈ d.symbols
      · exact h' a ha
      · have hnone : ∀ x, d.δ x a = none := fun x => by
          cases hd : d.δ x a with
          | none => rfl
          | some y => exact absurd (d.mem_symbols hd) ha
        rw [hnone s, hnone t]
  · intro G hG
    have := h3 G hG
    simp only [Bool.or_eq_true, Bool.and_eq_true, List.all_eq_true, bne_iff_ne, ne_eq, beq_iff_eq,
      List.isEmpty_iff, List.contains_eq_mem, decide_eq_true_eq] at this
    rcases this with ⟨a1, a2⟩ | ⟨a1, a2⟩
    · left; exact ⟨a1, a2⟩
    · right; exact ⟨a1, a2⟩

end AlgoVerif.C13
