/-!
# C11 — a combinatorial lemma about infinite sequences of stacks

`F : ℕ → List α` with `F (n+1) = x :: (F n).drop m` (every step pops some elements and pushes one — the reduce moves of a
shift-reduce driver).  If the elements pushed take finitely many values under `key` and `key2`, then there are two
times `p < q` such that

* (A) `F p = x :: rest`, `F q = y :: rest`, `key2 x = key2 y` (the same stack below the top, tops with the same `key2`), or
* (B) `F q = (y :: π) ++ F p`, `F p = x :: r`, `key x = key y` (the stack has grown over `F p`, and has the same `key` on top).

Classical: the minimum of a sequence of naturals is attained; a time after which the stack never returns to its height
is "strictly low"; either there are infinitely many strictly low times (then (B) by the pigeonhole principle on their
tops), or from some time on every suffix minimum is attained again and again (then (A)).
-/
namespace AlgoVerif.C11.Term

theorem low_exists (f : Nat → Nat) : ∀ (k t0 : Nat), f t0 ≤ k → ∃ t, t0 ≤ t ∧ ∀ n, t ≤ n → f t ≤ f n := by
  intro k
  induction k with
  | zero =>
    intro t0 h0
    exact ⟨t0, Nat.le_refl _, fun n _ => by omega⟩
  | succ k ih =>
    intro t0 h0
    by_cases hall : ∀ n, t0 ≤ n → f t0 ≤ f n
    · exact ⟨t0, Nat.le_refl _, hall⟩
    · have : ∃ n, t0 ≤ n ∧ f n < f t0 := by
        apply Classical.byContradiction
        intro hne
        apply hall
        intro n hn
        rcases Nat.lt_or_ge (f n) (f t0) with h | h
        · exact absurd ⟨n, hn, h⟩ hne
        · exact h
      obtain ⟨n, hn, hlt⟩ := this
      obtain ⟨t, ht, hmin⟩ := ih n (by omega)
      exact ⟨t, by omega, hmin⟩

theorem pigeonhole {κ} [DecidableEq κ] (l Ks : List κ) (hsub : ∀ x ∈ l, x ∈ Ks) (hlen : Ks.length < l.length) :
    ∃ (i j : Nat) (hi : i < l.length) (hj : j < l.length), i < j ∧ l[i] = l[j] := by
  apply Classical.byContradiction
  intro hne
  have hnd : l.Nodup := by
    rw [List.nodup_iff_pairwise_ne, List.pairwise_iff_getElem]
    intro i j hi hj hij heq
    exact hne ⟨i, j, hi, hj, hij, heq⟩
  have := hnd.length_le_of_subset hsub
  omega

theorem two_times {κ} [DecidableEq κ] (P : Nat → Prop) (hP : ∀ t0, ∃ t, t0 ≤ t ∧ P t) (v : Nat → κ) (Ks : List κ)
    (hv : ∀ t, P t → 1 ≤ t → v t ∈ Ks) : ∃ p q, p < q ∧ (P p ∧ 1 ≤ p) ∧ (P q ∧ 1 ≤ q) ∧ v p = v q := by
  -- `e` enumerates times with `P` in increasing order
  obtain ⟨f, hf⟩ := Classical.axiomOfChoice hP
  let e : Nat → Nat := fun k => Nat.rec (f 1) (fun _ prev => f (prev + 1)) k
  have he : ∀ k, P (e k) ∧ 1 ≤ e k := by
    intro k
    cases k with
    | zero => exact ⟨(hf 1).2, (hf 1).1⟩
    | succ k => exact ⟨(hf (e k + 1)).2, Nat.le_trans (Nat.le_add_left 1 _) (hf (e k + 1)).1⟩
  have hmono : ∀ i j, i < j → e i < e j := by
    intro i j hij
    induction j with
    | zero => omega
    | succ j ih =>
      have : e j < e (j + 1) := (hf (e j + 1)).1
      rcases Nat.lt_or_ge i j with h | h
      · exact Nat.lt_trans (ih h) this
      · rwa [show i = j by omega]
  obtain ⟨i, j, hi, hj, hij, heq⟩ := pigeonhole ((List.range (Ks.length + 1)).map fun k => v (e k)) Ks (by
    intro x hx
    obtain ⟨k, _, rfl⟩ := List.mem_map.mp hx
    exact hv _ (he k).1 (he k).2) (by simp)
  simp only [List.getElem_map, List.getElem_range] at heq
  exact ⟨e i, e j, hmono i j hij, he i, he j, heq⟩

section
variable {α : Type} (F : Nat → List α)

theorem stable (hstep : ∀ n, ∃ x m, F (n + 1) = x :: (F n).drop m) {t : Nat} {π0 rest : List α} (hFt : F t = π0 ++ rest)
    (hhigh : ∀ n, t < n → rest.length < (F n).length) : ∀ n, t < n → ∃ π, π ≠ [] ∧ F n = π ++ rest := by
  intro n hn
  induction n with
  | zero => omega
  | succ n ih =>
    obtain ⟨π, hFn⟩ : ∃ π, F n = π ++ rest := by
      rcases Nat.lt_or_ge t n with h | h
      · obtain ⟨π, -, h⟩ := ih h; exact ⟨π, h⟩
      · have : t = n := by omega
        subst this; exact ⟨π0, hFt⟩
    obtain ⟨y, m, hy⟩ := hstep n
    have hl := hhigh (n + 1) hn
    rw [hy, hFn, List.drop_append] at hl ⊢
    refine ⟨y :: π.drop m, by simp, ?_⟩
    -- a reduce that pops into `rest` leaves the stack no higher than `rest`, unless `rest` is empty
    have : rest.drop (m - π.length) = rest := by
      rcases Nat.eq_zero_or_pos (m - π.length) with h | h
      · rw [h]; rfl
      · simp only [List.length_cons, List.length_append, List.length_drop] at hl
        have : rest = [] := List.eq_nil_of_length_eq_zero (by omega)
        rw [this]; simp
    rw [this]; simp

theorem stack_seq {κ κ2 : Type} [DecidableEq κ] [DecidableEq κ2] (key : α → κ) (Ks : List κ) (key2 : α → κ2)
    (Ks2 : List κ2) (hstepK : ∀ n, ∃ x m, F (n + 1) = x :: (F n).drop m ∧ key x ∈ Ks ∧ key2 x ∈ Ks2) :
    (∃ p q, p < q ∧ ∃ x y rest, F p = x :: rest ∧ F q = y :: rest ∧ key2 x = key2 y) ∨
    (∃ p q, p < q ∧ ∃ x y π r, F p = x :: r ∧ F q = (y :: π) ++ F p ∧ key x = key y) := by
  have hstep : ∀ n, ∃ x m, F (n + 1) = x :: (F n).drop m := fun n => by
    obtain ⟨x, m, h, -⟩ := hstepK n
    exact ⟨x, m, h⟩
  have hhead : ∀ t, 1 ≤ t → ∃ x r, F t = x :: r ∧ key x ∈ Ks ∧ key2 x ∈ Ks2 := by
    intro t ht
    obtain ⟨t', rfl⟩ : ∃ t', t = t' + 1 := ⟨t - 1, by omega⟩
    obtain ⟨x, m, h, hk⟩ := hstepK t'
    exact ⟨x, _, h, hk⟩
  by_cases hinf : ∀ t0, ∃ t, t0 ≤ t ∧ ∀ n, t < n → (F t).length < (F n).length
  · -- infinitely many strictly low times: two of them with the same key on top
    right
    obtain ⟨p, q, hpq, ⟨hlowp, hp1⟩, ⟨_, hq1⟩, heq⟩ := two_times _ hinf (fun t => (F t).head?.map key) (Ks.map some) (by
      intro t _ ht
      obtain ⟨x, r, hF, hk, -⟩ := hhead t ht
      simpa [hF] using hk)
    obtain ⟨x, r, hFp, -⟩ := hhead p hp1
    obtain ⟨π, hπ, hFq⟩ := stable F hstep (π0 := []) rfl hlowp q hpq
    cases π with
    | nil => exact absurd rfl hπ
    | cons y π' =>
      refine ⟨p, q, hpq, x, y, π', r, hFp, hFq, ?_⟩
      simpa [hFp, hFq] using heq
  · -- from some time on no strictly low time
    left
    simp only [Classical.not_forall, not_exists, not_and, Nat.not_lt] at hinf
    obtain ⟨t0, hrec⟩ := hinf
    obtain ⟨t1, ht1, hlow1⟩ := low_exists (fun n => (F n).length) _ (t0 + 1) (Nat.le_refl _)
    obtain ⟨x1, rest, hF1, -⟩ := hhead t1 (by omega)
    have hagain : ∀ s0, ∃ t, s0 ≤ t ∧ (t1 ≤ t ∧ (F t).length = (F t1).length) := by
      intro s0
      induction s0 with
      | zero => exact ⟨t1, Nat.zero_le _, Nat.le_refl _, rfl⟩
      | succ s0 ih =>
        obtain ⟨t, hts, ht1t, hlen⟩ := ih
        rcases Nat.lt_or_ge s0 t with h | h
        · exact ⟨t, by omega, ht1t, hlen⟩
        · obtain ⟨n, hn, hle⟩ := hrec t (by omega)
          have := hlow1 n (by omega)
          exact ⟨n, by omega, by omega, by omega⟩
    have hshape : ∀ t, t1 ≤ t ∧ (F t).length = (F t1).length → ∃ y, F t = y :: rest := by
      rintro t ⟨ht1t, hl⟩
      rcases Nat.eq_or_lt_of_le ht1t with rfl | hlt
      · exact ⟨x1, hF1⟩
      · obtain ⟨π, hπ, hFt⟩ := stable F hstep (π0 := [x1]) hF1 (fun n hn => by
          have := hlow1 n (by omega)
          rw [hF1] at this
          simp only [List.length_cons] at this
          omega) t hlt
        rw [hFt, hF1] at hl
        simp only [List.length_append, List.length_cons] at hl
        match π, hπ, hl, hFt with
        | [y], _, _, hFt => exact ⟨y, by simpa using hFt⟩
        | [], hπ, _, _ => exact absurd rfl hπ
        | _ :: _ :: _, _, hl, _ => simp at hl; omega
    obtain ⟨p, q, hpq, ⟨hp, _⟩, ⟨hq, _⟩, heq⟩ := two_times _ hagain (fun t => (F t).head?.map key2) (Ks2.map some) (by
      intro t _ ht
      obtain ⟨x, r, hF, -, hk⟩ := hhead t ht
      simpa [hF] using hk)
    obtain ⟨x, hFp⟩ := hshape p hp
    obtain ⟨y, hFq⟩ := hshape q hq
    refine ⟨p, q, hpq, x, y, rest, hFp, hFq, ?_⟩
    simpa [hFp, hFq] using heq

end

end AlgoVerif.C11.Term
