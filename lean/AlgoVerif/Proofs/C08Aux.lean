import AlgoVerif.Model.C08Aux
import AlgoVerif.Spec.C09
import AlgoVerif.Proofs.C10Verify
import AlgoVerif.Proofs.C08Lang
/-!
# The helpers of `Model/C08Aux.lean`: the three-way comparators against the strict orders the
Model sorts by, `Equal` against the language, `IsCNF()`'s error list against the Spec's predicate, `Verify()`'s error
list against `Spec.Valid`.
-/
namespace AlgoVerif.C08
open AlgoVerif AlgoVerif.Gram

theorem cmpOfLt_neg_one {α : Type} (lt : α → α → Bool) (a b : α) : cmpOfLt lt a b = -1 ↔ lt a b = true := by
  unfold cmpOfLt
  by_cases h : lt a b = true
  · simp [h]
  · by_cases h' : lt b a = true <;> simp [h, h']

theorem cmpOfLt_self {α : Type} (lt : α → α → Bool) (a : α) (h : lt a a = false) : cmpOfLt lt a a = 0 := by
  simp [cmpOfLt, h]

theorem bodyLt_irrefl (b : List SSym) : bodyLt b b = false := by
  simp [bodyLt, String.lt_irrefl]

theorem sameSet_mem {α : Type} [DecidableEq α] {a b : List α} (h : sameSet a b = true) (x : α) : x ∈ a ↔ x ∈ b := by
  unfold sameSet at h
  simp only [Bool.and_eq_true, List.all_eq_true, decide_eq_true_eq] at h
  exact ⟨h.1 x, h.2 x⟩

theorem equalG_language {g h : G} (he : equalG g h = true) (w : List String) : Language g w ↔ Language h w := by
  unfold equalG at he
  simp only [Bool.and_eq_true, decide_eq_true_eq] at he
  obtain ⟨⟨⟨_, _⟩, hps⟩, hs⟩ := he
  unfold Language
  rw [hs]
  exact ⟨Derives.mono (fun p hp => (sameSet_mem hps p).1 hp), Derives.mono (fun p hp => (sameSet_mem hps p).2 hp)⟩

theorem looseCnfProd_eq (g : G) (p : SProd) :
    AlgoVerif.C09.Spec.looseCnfProd g p = (isBinary p || isTerminalProd p || (p.body.isEmpty && p.head = g.start)) := by
  unfold AlgoVerif.C09.Spec.looseCnfProd isBinary isTerminalProd
  rcases p.body with _ | ⟨x, _ | ⟨y, _ | ⟨z, rest⟩⟩⟩
  · simp
  · cases x <;> simp
  · cases x <;> cases y <;> simp
  · cases x <;> cases y <;> simp

theorem cnfErrors_nil_iff (g : G) : cnfErrors g = [] ↔ AlgoVerif.C09.Spec.looseCNFB g = true := by
  unfold cnfErrors AlgoVerif.C09.Spec.looseCNFB
  rw [List.filter_eq_nil_iff, List.all_eq_true]
  refine forall₂_congr fun p _ => ?_
  rw [looseCnfProd_eq]
  cases isBinary p <;> cases isTerminalProd p <;> cases (p.body.isEmpty && decide (p.head = g.start)) <;> simp

theorem validB_iff_Valid (g : G) : AlgoVerif.C10.validB g = true ↔ Spec.Valid g := by
  unfold AlgoVerif.C10.validB Spec.Valid
  simp only [Bool.and_eq_true, decide_eq_true_eq, List.all_eq_true, List.any_eq_true]
  constructor
  · rintro ⟨⟨⟨h1, _⟩, h3⟩, h4⟩
    refine ⟨h1, fun n hn => h3 n hn, fun p hp => ⟨(h4 p hp).1, fun s hs => ?_⟩⟩
    have := (h4 p hp).2 s hs
    cases s <;> simpa [AlgoVerif.C10.symDeclared, Spec.SymDeclared] using this
  · rintro ⟨h1, h2, h3⟩
    refine ⟨⟨⟨h1, h2 _ h1⟩, fun n hn => h2 n hn⟩, fun p hp => ⟨(h3 p hp).1, fun s hs => ?_⟩⟩
    have := (h3 p hp).2 s hs
    cases s <;> simpa [AlgoVerif.C10.symDeclared, Spec.SymDeclared] using this

theorem verifyErrors_nil_iff_Valid (g : G) : AlgoVerif.C10.verifyErrors g = [] ↔ Spec.Valid g :=
  (AlgoVerif.C10.verifyErrors_nil_iff g).trans (validB_iff_Valid g)

end AlgoVerif.C08
