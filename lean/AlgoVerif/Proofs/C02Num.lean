import AlgoVerif.Model.C02
import Mathlib.Data.Nat.Prime.Basic
import Mathlib.Data.Nat.ModEq
import Mathlib.NumberTheory.Bertrand
/-!
# C02/C03 — number-theoretic facts about the Model's helper functions
-/
namespace AlgoVerif.C02

theorem isPrimeLoop_spec (n : Nat) : ∀ fuel i, n < (i + fuel) * (i + fuel) →
    (isPrimeLoop n fuel i = true ↔ ∀ j, i ≤ j → j * j ≤ n → ¬ j ∣ n) := by
  intro fuel
  induction fuel with
  | zero =>
    intro i h
    simp only [isPrimeLoop, true_iff]
    intro j hij hj
    have : i * i ≤ j * j := Nat.mul_le_mul hij hij
    simp at h
    omega
  | succ f ih =>
    intro i h
    unfold isPrimeLoop
    by_cases h1 : i * i ≤ n
    · simp only [h1, if_true]
      by_cases h2 : n % i = 0
      · simp only [h2, if_true]
        constructor
        · intro hf; cases hf
        · intro hall
          exact absurd (Nat.dvd_of_mod_eq_zero h2) (hall i (Nat.le_refl i) h1)
      · simp only [h2, if_false]
        rw [ih (i + 1) (by rw [show i + 1 + f = i + (f + 1) by omega]; exact h)]
        constructor
        · intro hall j hij hj
          rcases Nat.eq_or_lt_of_le hij with rfl | hlt
          · intro hd; exact h2 (Nat.mod_eq_zero_of_dvd hd)
          · exact hall j hlt hj
        · intro hall j hij hj
          exact hall j (by omega) hj
    · simp only [h1, if_false, true_iff]
      intro j hij hj
      have : i * i ≤ j * j := Nat.mul_le_mul hij hij
      omega

theorem smallPrimes_eq_loop : ∀ n, n ≤ Generated.symboltable_isPrime_smallBound → 2 ≤ n →
    smallPrimes.contains n = isPrimeLoop n n 2 := by decide +kernel

theorem smallPrimes_le : ∀ x ∈ smallPrimes, x ≤ Generated.symboltable_isPrime_smallBound := by decide

theorem isPrime_eq_loop (n : Nat) (h : 2 ≤ n) : isPrime n = isPrimeLoop n n 2 := by
  unfold isPrime
  rw [if_neg (by omega)]
  by_cases hb : n ≤ Generated.symboltable_isPrime_smallBound
  · rw [← smallPrimes_eq_loop n hb h, if_pos hb]
    cases smallPrimes.contains n <;> rfl
  · have hc : smallPrimes.contains n = false := by
      rw [List.contains_eq_mem, decide_eq_false_iff_not]
      exact fun hm => hb (smallPrimes_le n hm)
    rw [hc, if_neg hb]
    rfl

theorem isPrime_correct (n : Nat) : isPrime n = true ↔ Nat.Prime n := by
  by_cases h : 2 ≤ n
  · rw [isPrime_eq_loop n h, isPrimeLoop_spec n n 2 (Nat.lt_of_lt_of_le (by omega : n < (2 + n) * 2) (Nat.mul_le_mul_left _ (by omega))), Nat.prime_def_le_sqrt]
    constructor
    · intro hl
      exact ⟨h, fun m hm hs => hl m hm (Nat.le_sqrt.mp hs)⟩
    · intro hp j hj hjj
      exact hp.2 j hj (Nat.le_sqrt.mpr hjj)
  · have hf : isPrime n = false := by
      unfold isPrime
      rw [if_pos (by omega)]
    rw [hf]
    constructor
    · intro hc; cases hc
    · intro hp; exact absurd hp.two_le h

theorem smallestPrimeLoop_spec : ∀ fuel p q, p ≤ q → Nat.Prime q → q < p + fuel →
    ∃ r, smallestPrimeLoop fuel p = .ok r ∧ Nat.Prime r ∧ p ≤ r ∧ r ≤ q := by
  intro fuel
  induction fuel with
  | zero => intro p q h1 _ h3; omega
  | succ f ih =>
    intro p q h1 hq h3
    unfold smallestPrimeLoop
    by_cases hp : isPrime p = true
    · simp only [hp, if_true]
      exact ⟨p, rfl, (isPrime_correct p).1 hp, Nat.le_refl p, h1⟩
    · simp only [hp]
      have hne : p ≠ q := by
        rintro rfl
        exact hp ((isPrime_correct p).2 hq)
      obtain ⟨r, hr, hr2, hr3, hr4⟩ := ih (p + 1) q (by omega) hq (by omega)
      exact ⟨r, hr, hr2, by omega, hr4⟩

/-- Bertrand's postulate bounds the search. -/
theorem smallestPrimeLargerThan_terminates (n : Nat) (hn : 1 ≤ n) :
    ∃ r, smallestPrimeLargerThan n = .ok r ∧ Nat.Prime r ∧ n ≤ r ∧ r ≤ 2 * n := by
  obtain ⟨q, hq, h1, h2⟩ := Nat.exists_prime_lt_and_le_two_mul n (by omega)
  obtain ⟨r, hr, hr2, hr3, hr4⟩ := smallestPrimeLoop_spec (n + 3) n q (by omega) hq (by omega)
  exact ⟨r, hr, hr2, hr3, by omega⟩

theorem smallestPrimeLargerThan_prime (n : Nat) (hn : Nat.Prime n) : smallestPrimeLargerThan n = .ok n := by
  unfold smallestPrimeLargerThan smallestPrimeLoop
  simp [(isPrime_correct n).2 hn]

/-- the Go loop starts at `n` itself, not below it -/
theorem largestPrimeSmallerThan_prime (n : Nat) (hn : Nat.Prime n) : largestPrimeSmallerThan n = (n : Int) := by
  have h2 := hn.two_le
  obtain ⟨p, rfl⟩ : ∃ p, n = p + 1 := ⟨n - 1, by omega⟩
  unfold largestPrimeSmallerThan
  simp [(isPrime_correct _).2 hn]
  omega

theorem gcdLoop_eq : ∀ fuel a b, b < fuel → gcdLoop fuel a b = Nat.gcd a b := by
  intro fuel
  induction fuel with
  | zero => intro a b h; omega
  | succ f ih =>
    intro a b h
    unfold gcdLoop
    by_cases hb : b = 0
    · simp [hb]
    · simp only [hb, if_false]
      have : a % b < b := Nat.mod_lt _ (Nat.pos_of_ne_zero hb)
      rw [ih b (a % b) (by omega)]
      rw [Nat.gcd_comm a b, Nat.gcd_rec b a, Nat.gcd_comm]

theorem gcdGo_eq (a b : Nat) : gcdGo a b = Nat.gcd a b := by
  unfold gcdGo
  rw [gcdLoop_eq _ _ _ (by omega)]
  rcases Nat.le_total a b with h | h
  · rw [Nat.max_eq_right h, Nat.min_eq_left h, Nat.gcd_comm]
  · rw [Nat.max_eq_left h, Nat.min_eq_right h]

theorem u64_natCast (m : Nat) : u64 (m : Int) = m := by
  unfold u64
  simp

/-- The second hash of double hashing, at `p = m`: the constructor sets `p = largestPrimeSmallerThan(M)`, which for the prime
capacity `M` is `M` itself (`largestPrimeSmallerThan_prime`), so `h2 = p - h % p` ranges over `[1, m]` and not, as the Go comment
has it, over `[1, p]` with `p < m`.  The value `m` shares the divisor `m` with the capacity and is the one that the
`gcd` test of `probe` repairs, to `m + 1`. -/
theorem h2of_coprime (m : Nat) (hm : Nat.Prime m) (h : UInt64) :
    Nat.Coprime m (h2of m (m : Int) h) ∧ 0 < h2of m (m : Int) h := by
  have hpos := hm.pos
  have hlt : h.toNat % m < m := Nat.mod_lt _ hpos
  unfold h2of
  simp only [u64_natCast, gcdGo_eq]
  by_cases hz : h.toNat % m = 0
  · -- h2 = m, repaired to m + 1
    rw [hz, Nat.sub_zero, Nat.gcd_self, if_pos (by simpa using hm.one_lt.ne')]
    exact ⟨by simp, by omega⟩
  · have hc : Nat.Coprime m (m - h.toNat % m) :=
      (Nat.Prime.coprime_iff_not_dvd hm).2 fun hd => by
        have := Nat.le_of_dvd (by omega) hd
        omega
    rw [hc.gcd_eq_one, if_neg (by simp)]
    exact ⟨hc, by omega⟩

/-- the `i = 0` case of the closure is this formula too -/
theorem probeIdx_eq (kind : Kind) (m : Nat) (p : Int) (h : UInt64) (i : Nat) :
    probeIdx kind m p h i = (h.toNat % m + (match kind with | .quad => i * i | .dbl => i * h2of m p h)) % m := by
  unfold probeIdx
  by_cases hi : i = 0
  · subst hi
    cases kind <;> simp
  · cases kind <;> simp [hi]

theorem probeIdx_lt (kind : Kind) (m : Nat) (p : Int) (h : UInt64) (i : Nat) (hm : 0 < m) :
    probeIdx kind m p h i < m := by
  rw [probeIdx_eq kind m p h i]
  exact Nat.mod_lt _ hm

theorem quad_cover (m : Nat) (hm : Nat.Prime m) (h1 i j : Nat) (hij : i < j) (hj : 2 * j < m) :
    (h1 + i * i) % m ≠ (h1 + j * j) % m := by
  intro heq
  have h2 : i * i ≡ j * j [MOD m] := Nat.ModEq.add_left_cancel' h1 heq
  have h3 : m ∣ j * j - i * i := (Nat.modEq_iff_dvd' (Nat.mul_le_mul hij.le hij.le)).1 h2
  rw [Nat.mul_self_sub_mul_self_eq] at h3
  rcases (Nat.Prime.dvd_mul hm).1 h3 with hd | hd
  · have := Nat.le_of_dvd (by omega) hd
    omega
  · have := Nat.le_of_dvd (by omega) hd
    omega

theorem double_cover (m h2 : Nat) (hc : Nat.Coprime m h2) (h1 i j : Nat) (hij : i < j) (hj : j < m) :
    (h1 + i * h2) % m ≠ (h1 + j * h2) % m := by
  intro heq
  have h2' : i * h2 ≡ j * h2 [MOD m] := Nat.ModEq.add_left_cancel' h1 heq
  have h3 : m ∣ j * h2 - i * h2 := (Nat.modEq_iff_dvd' (Nat.mul_le_mul_right _ hij.le)).1 h2'
  rw [← Nat.sub_mul] at h3
  have h4 : m ∣ j - i := Nat.Coprime.dvd_of_dvd_mul_right hc h3
  have := Nat.le_of_dvd (by omega) h4
  omega

theorem linear_cover (m h1 i j : Nat) (hij : i < j) (hj : j < m) :
    (h1 + i) % m ≠ (h1 + j) % m := by
  simpa using double_cover m 1 (Nat.coprime_one_right m) h1 i j hij hj

/-- number of pairwise different slots the probe sequence is known to visit -/
def cover : Kind → Nat → Nat
  | .quad, m => (m + 1) / 2
  | .dbl, m => m

theorem cover_le (kind : Kind) (m : Nat) : cover kind m ≤ m := by
  cases kind <;> simp [cover] <;> omega

theorem le_two_cover (kind : Kind) (m : Nat) : m ≤ 2 * cover kind m := by
  cases kind <;> simp only [cover] <;> omega

theorem probeIdx_inj (kind : Kind) (m : Nat) (hm : Nat.Prime m) (p : Int) (hp : kind = .dbl → p = (m : Int))
    (h : UInt64) (i j : Nat) (hij : i < j) (hj : j < cover kind m) :
    probeIdx kind m p h i ≠ probeIdx kind m p h j := by
  rw [probeIdx_eq kind m p h i, probeIdx_eq kind m p h j]
  cases kind with
  | quad =>
    simp only [cover] at hj
    exact quad_cover m hm _ i j hij (by rcases hm.eq_two_or_odd with h2 | h2 <;> omega)
  | dbl =>
    simp only [cover] at hj
    rw [hp rfl]
    exact double_cover m _ (h2of_coprime m hm h).1 _ i j hij hj

end AlgoVerif.C02
