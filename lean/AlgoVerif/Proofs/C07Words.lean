import AlgoVerif.Model.C07Radix
import AlgoVerif.Spec.C07
import AlgoVerif.Proofs.C07Basic
/-!
# C07 — pure facts about the keys of the radix sorts.  64-bit words: byte digits, the unsigned and the
signed order as orders of natural-number keys.  Byte strings: Go's native order is core's lexicographic
order, with the comparator `bytesCmp`.  For each order the three laws that make a sorted permutation
*the* `List.mergeSort` (`eq_mergeSort_of_pairwise`).
-/
namespace AlgoVerif.C07
open AlgoVerif

/-- byte `d` (little endian) of `v` -/
def dig (v : UInt64) (d : Nat) : Nat := v.toNat / 256 ^ d % 256
def low (v : UInt64) (d : Nat) : Nat := v.toNat % 256 ^ d
/-- order-preserving key of the two's-complement order: flip the sign bit -/
def skey (v : UInt64) : Nat := (v.toNat + 2 ^ 63) % 2 ^ 64

theorem mul_add_lt {a b P r : Nat} (h : a < b) (hr : r < P) (s : Nat) : a * P + r < b * P + s := by
  have : (a + 1) * P ≤ b * P := Nat.mul_le_mul_right _ h
  rw [Nat.succ_mul] at this
  omega

theorem toNat_shr_and (v : UInt64) (s : Nat) (hs : s < 64) :
    ((v >>> s.toUInt64) &&& 255).toNat = v.toNat / 2 ^ s % 256 := by
  rw [UInt64.toNat_and, UInt64.toNat_shiftRight]
  have : s.toUInt64.toNat = s := by
    simp [Nat.toUInt64]; omega
  rw [this, Nat.mod_eq_of_lt hs, Nat.shiftRight_eq_div_pow]
  exact Nat.and_two_pow_sub_one_eq_mod _ 8

theorem dig_lt (v : UInt64) (d : Nat) : dig v d < 256 := Nat.mod_lt _ (by decide)

/-- `s = 8*d`, `d < 8`: the LSD shift `BYTE_SIZE * d`, and the MSD shift
`INT_SIZE - BYTE_SIZE - BYTE_SIZE * d'` with `d = 7 - d'` -/
theorem digitAt_of_eq (v : UInt64) (s : Int) (d : Nat) (hd : d < 8) (hs : s = 8 * (d : Int)) :
    digitAt v s = .ok ((dig v d : Nat) : Int) := by
  have h1 : 0 ≤ s ∧ s < 64 := by omega
  have h2 : s.toNat = 8 * d := by omega
  unfold digitAt
  rw [if_pos h1, h2, toNat_shr_and v (8 * d) (by omega)]
  unfold dig
  rw [Nat.pow_mul]

theorem low_zero (v : UInt64) : low v 0 = 0 := by simp [low, Nat.mod_one]

theorem low_succ (v : UInt64) (d : Nat) : low v (d + 1) = dig v d * 256 ^ d + low v d := by
  unfold low dig
  rw [Nat.pow_succ, Nat.mod_mul, Nat.mul_comm, Nat.add_comm]

theorem low_lt (v : UInt64) (d : Nat) : low v d < 256 ^ d := Nat.mod_lt _ (Nat.pow_pos (by decide))

theorem low_eight (v : UInt64) : low v 8 = v.toNat := by
  have := v.toNat_lt
  unfold low
  exact Nat.mod_eq_of_lt (by omega)

def high (v : UInt64) (d : Nat) : Nat := v.toNat / 256 ^ d

theorem high_zero (v : UInt64) : high v 0 = v.toNat := by simp [high]

theorem high_eight (v : UInt64) : high v 8 = 0 := by
  have := v.toNat_lt
  unfold high
  exact Nat.div_eq_of_lt (by omega)

theorem high_eq (v : UInt64) (d : Nat) : high v d = high v (d + 1) * 256 + dig v d := by
  unfold high dig
  rw [Nat.pow_succ, ← Nat.div_div_eq_div_mul]
  omega

theorem high_shift (v : UInt64) (m j : Nat) : high v (m + j) = high v m / 256 ^ j := by
  unfold high
  rw [Nat.pow_add, Nat.div_div_eq_div_mul]

theorem toNat_eq_high_low (v : UInt64) (d : Nat) : v.toNat = high v d * 256 ^ d + low v d := by
  unfold high low
  rw [Nat.mul_comm]
  exact (Nat.div_add_mod _ _).symm

theorem uLe_eq (a b : UInt64) : uLe a b = decide (a.toNat ≤ b.toNat) := by
  unfold uLe
  rw [decide_eq_decide]
  exact UInt64.le_iff_toNat_le

theorem uLt_eq (a b : UInt64) : uLt a b = decide (a.toNat < b.toNat) := by
  unfold uLt
  rw [decide_eq_decide]
  exact UInt64.lt_iff_toNat_lt

theorem toInt_toInt64 (v : UInt64) :
    v.toInt64.toInt = if v.toNat < 2 ^ 63 then (v.toNat : Int) else (v.toNat : Int) - 2 ^ 64 := by
  rw [← Int64.toInt_toBitVec, UInt64.toBitVec_toInt64, BitVec.toInt_eq_toNat_cond]
  simp only [UInt64.toNat_toBitVec]
  split <;> split <;> omega

theorem skey_eq_toInt (v : UInt64) : (skey v : Int) = v.toInt64.toInt + 2 ^ 63 := by
  rw [toInt_toInt64]
  have := v.toNat_lt
  unfold skey
  split <;> omega

theorem iLe_eq (a b : UInt64) : iLe a b = decide (skey a ≤ skey b) := by
  unfold iLe
  rw [decide_eq_decide, Int64.le_iff_toInt_le]
  have := skey_eq_toInt a; have := skey_eq_toInt b
  omega

theorem iLt_eq (a b : UInt64) : iLt a b = decide (skey a < skey b) := by
  unfold iLt
  rw [decide_eq_decide, Int64.lt_iff_toInt_lt]
  have := skey_eq_toInt a; have := skey_eq_toInt b
  omega

theorem skey_lt (v : UInt64) : skey v < 2 ^ 64 := Nat.mod_lt _ (by decide)

theorem skey_injective {a b : UInt64} (h : skey a = skey b) : a = b := by
  apply UInt64.toNat_inj.1
  have := a.toNat_lt; have := b.toNat_lt
  unfold skey at h
  omega

theorem skey_eq (v : UInt64) : skey v = ((dig v 7 + 128) % 256) * 256 ^ 7 + low v 7 := by
  have := v.toNat_lt
  unfold skey dig low
  omega

theorem skey_eq_high (v : UInt64) : skey v = ((high v 7 + 128) % 256) * 256 ^ 7 + low v 7 := by
  have := v.toNat_lt
  unfold skey high low
  omega

def keyLe {α : Type} (K : α → Nat) (x y : α) : Bool := decide (K x ≤ K y)

theorem keyLe_trans {α : Type} (K : α → Nat) (a b c : α) :
    keyLe K a b = true → keyLe K b c = true → keyLe K a c = true := by
  simp only [keyLe, decide_eq_true_eq]; omega

theorem keyLe_total {α : Type} (K : α → Nat) (a b : α) : (keyLe K a b || keyLe K b a) = true := by
  simp only [keyLe, Bool.or_eq_true, decide_eq_true_eq]; omega

theorem keyLe_antisymm {α : Type} {K : α → Nat} (hK : ∀ a b, K a = K b → a = b) (a b : α) :
    keyLe K a b = true → keyLe K b a = true → a = b := by
  simp only [keyLe, decide_eq_true_eq]
  exact fun h1 h2 => hK a b (by omega)

/-- order-preserving natural-number key of the native order of the words: both word sorts, LSD and MSD, are
proved to return `mergeSort (keyLe (wk signed))` -/
def wk (signed : Bool) (v : UInt64) : Nat := if signed then skey v else v.toNat

theorem wk_injective (signed : Bool) (a b : UInt64) (h : wk signed a = wk signed b) : a = b := by
  cases signed
  · exact UInt64.toNat_inj.1 (by simpa only [wk, Bool.false_eq_true, if_false] using h)
  · exact skey_injective (by simpa only [wk, if_true] using h)

theorem uLe_eq_keyLe : uLe = keyLe (wk false) := by
  funext a b; simp [uLe_eq, keyLe, wk]

theorem iLe_eq_keyLe : iLe = keyLe (wk true) := by
  funext a b; simp [iLe_eq, keyLe, wk]

theorem uLe_total (a b : UInt64) : (uLe a b || uLe b a) = true := by
  simp only [uLe_eq, Bool.or_eq_true, decide_eq_true_eq]; omega

theorem uLe_trans (a b c : UInt64) : uLe a b = true → uLe b c = true → uLe a c = true := by
  simp only [uLe_eq, decide_eq_true_eq]; omega

theorem uLe_antisymm (a b : UInt64) : uLe a b = true → uLe b a = true → a = b := by
  simp only [uLe_eq, decide_eq_true_eq]
  intro h1 h2
  exact UInt64.toNat_inj.1 (by omega)

theorem iLe_total (a b : UInt64) : (iLe a b || iLe b a) = true := by
  simp only [iLe_eq, Bool.or_eq_true, decide_eq_true_eq]; omega

theorem iLe_trans (a b c : UInt64) : iLe a b = true → iLe b c = true → iLe a c = true := by
  simp only [iLe_eq, decide_eq_true_eq]; omega

theorem iLe_antisymm (a b : UInt64) : iLe a b = true → iLe b a = true → a = b := by
  simp only [iLe_eq, decide_eq_true_eq]
  intro h1 h2
  exact skey_injective (by omega)

/-! Go's native string order is core's lexicographic order on `List UInt8`: the Model's `bytesLt` and the Spec's
`bytesLe` decide its `<` and `≤`, and the comparator the sorts are specified with takes its laws from core. -/

theorem bytesLt_iff_lt : ∀ (s t : List UInt8), bytesLt s t = true ↔ s < t
  | [], [] => by simp [bytesLt]
  | [], _ :: _ => by simp [bytesLt]
  | _ :: _, [] => by simp [bytesLt]
  | x :: xs, y :: ys => by
    have ih := bytesLt_iff_lt xs ys
    simp only [bytesLt, List.cons_lt_cons_iff]
    by_cases h1 : x < y <;> by_cases h2 : y < x <;> simp [h1, h2, ih]
    · exact fun h => absurd (h ▸ h2) (UInt8.lt_irrefl _)
    · exact fun _ => UInt8.le_antisymm (UInt8.not_lt.1 h2) (UInt8.not_lt.1 h1)

theorem bytesLe_iff_le : ∀ (s t : List UInt8), bytesLe s t = true ↔ s ≤ t
  | [], _ => by simp [bytesLe]
  | _ :: _, [] => by simp [bytesLe]
  | x :: xs, y :: ys => by
    have ih := bytesLe_iff_le xs ys
    simp only [bytesLe, List.cons_le_cons_iff]
    by_cases h1 : x < y <;> by_cases h2 : y < x <;> simp [h1, h2, ih]
    · exact fun h => absurd (h ▸ h2) (UInt8.lt_irrefl _)
    · exact fun _ => UInt8.le_antisymm (UInt8.not_lt.1 h2) (UInt8.not_lt.1 h1)

theorem bytesLe_trans (s t u : List UInt8) : bytesLe s t = true → bytesLe t u = true → bytesLe s u = true := by
  simp only [bytesLe_iff_le]; exact List.le_trans

theorem bytesLe_total (s t : List UInt8) : (bytesLe s t || bytesLe t s) = true := by
  simp only [Bool.or_eq_true, bytesLe_iff_le]; exact List.le_total s t

theorem bytesLe_antisymm (s t : List UInt8) : bytesLe s t = true → bytesLe t s = true → s = t := by
  simp only [bytesLe_iff_le]; exact List.le_antisymm

def bytesCmp (s t : List UInt8) : Int := if s < t then -1 else if t < s then 1 else 0

theorem bytesCmp_lt {s t : List UInt8} : bytesCmp s t < 0 ↔ s < t := by
  unfold bytesCmp
  split
  · simp [*]
  · split <;> simp [*]

theorem bytesCmp_le {s t : List UInt8} : bytesCmp s t ≤ 0 ↔ s ≤ t := by
  unfold bytesCmp
  split
  · next h => simpa using List.le_of_lt h
  · split
    · next h2 => simpa using h2
    · next h2 => simpa using List.not_lt.1 h2

theorem bytesCmp_tp : TotalPreorder bytesCmp where
  flip s t := by
    unfold bytesCmp
    by_cases h1 : s < t <;> by_cases h2 : t < s <;> simp [h1, h2]
    exact List.lt_asymm h1 h2
  trans s t u := by
    simp only [bytesCmp_le]; exact List.le_trans

theorem bytesLt_iff (s t : List UInt8) : bytesLt s t = true ↔ bytesCmp s t < 0 :=
  (bytesLt_iff_lt s t).trans bytesCmp_lt.symm

theorem eq_mergeSort_of_pairwise {α : Type} (le : α → α → Bool)
    (htr : ∀ a b c, le a b = true → le b c = true → le a c = true)
    (hto : ∀ a b, (le a b || le b a) = true) (has : ∀ a b, le a b = true → le b a = true → a = b)
    {out l : List α} (hp : out.Perm l) (hs : out.Pairwise (fun a b => le a b = true)) :
    out = l.mergeSort le :=
  List.Perm.eq_of_pairwise (le := fun a b => le a b = true) (fun a b _ _ => has a b) hs
    (List.pairwise_mergeSort htr hto l) (hp.trans (List.mergeSort_perm l le).symm)

end AlgoVerif.C07
