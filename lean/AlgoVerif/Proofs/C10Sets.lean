import AlgoVerif.Model.C10
/-! The list-as-set operations of `Model/C10.lean`, and the two shapes the three fixpoint computations
share: a pass is a fold that threads a state and an "updated" flag, and the loop repeats passes until
one reports no change.  The loop returns when every change a pass reports is a new point of a Boolean
family on a finite universe (`Prog`, `genLoop_terminates`).  A pass of any of the three visits exactly the productions
of the grammar, whatever the (fair) iteration order (`mem_passProds_iff`). -/
namespace AlgoVerif.C10

section sets
variable {α : Type} [DecidableEq α]

theorem mem_insertNew {x y : α} {l : List α} : x ∈ insertNew y l ↔ x = y ∨ x ∈ l := by
  unfold insertNew
  split
  · exact ⟨Or.inr, fun h => h.elim (fun e => e ▸ ‹y ∈ l›) id⟩
  · rw [List.mem_append, List.mem_singleton, or_comm]

theorem union_cons (a b : List α) (x : α) : union a (x :: b) = union (insertNew x a) b := rfl

theorem mem_union {a b : List α} {x : α} : x ∈ union a b ↔ x ∈ a ∨ x ∈ b := by
  induction b generalizing a with
  | nil => simp [union]
  | cons y b ih => rw [union_cons, ih, mem_insertNew, List.mem_cons, or_comm (a := x = y), or_assoc]

theorem length_le_union (a b : List α) : a.length ≤ (union a b).length := by
  induction b generalizing a with
  | nil => exact Nat.le_refl _
  | cons y b ih =>
    refine Nat.le_trans ?_ (ih (insertNew y a))
    unfold insertNew
    split
    · exact Nat.le_refl _
    · simp

theorem union_eq_self {a b : List α} (h : ∀ x ∈ b, x ∈ a) : union a b = a := by
  induction b with
  | nil => rfl
  | cons y b ih =>
    rw [union_cons, insertNew, if_pos (h y (List.mem_cons_self ..))]
    exact ih fun x hx => h x (List.mem_cons_of_mem _ hx)

theorem exists_new_of_union_length {a b : List α} (h : (union a b).length > a.length) :
    ∃ x, x ∈ b ∧ x ∉ a :=
  Classical.byContradiction fun hne =>
    have e := union_eq_self fun x hx => Classical.byContradiction fun hxa => hne ⟨x, hx, hxa⟩
    Nat.lt_irrefl _ (e ▸ h)

theorem union_length_gt {a b : List α} {x : α} (hx : x ∈ b) (hxa : x ∉ a) :
    (union a b).length > a.length := by
  induction b generalizing a with
  | nil => cases hx
  | cons y b ih =>
    rw [union_cons, insertNew]
    split
    · rename_i hy
      rcases List.mem_cons.1 hx with rfl | hx
      · exact absurd hy hxa
      · exact ih hx hxa
    · exact Nat.lt_of_lt_of_le (by simp) (length_le_union _ b)

theorem subset_of_union_length {a b : List α} (h : ¬ (union a b).length > a.length) :
    ∀ x ∈ b, x ∈ a :=
  fun _ hx => Classical.byContradiction fun hxa => h (union_length_gt hx hxa)

theorem union_eq_self_of_length {a b : List α} (h : ¬ (union a b).length > a.length) : union a b = a :=
  union_eq_self (subset_of_union_length h)

theorem union_append (a b c : List α) : union a (b ++ c) = union (union a b) c := by
  induction b generalizing a with
  | nil => rfl
  | cons x b ih => exact ih _

theorem union_insertNew (a b : List α) (x : α) : union a (insertNew x b) = insertNew x (union a b) := by
  unfold insertNew
  split
  · rw [if_pos (mem_union.2 (Or.inr ‹_›))]
  · rw [union_append]; rfl

/-- as lists, not only as sets: the tables are compared by `=` when a pass reports no change -/
theorem union_assoc (a b c : List α) : union a (union b c) = union (union a b) c := by
  induction c generalizing b with
  | nil => rfl
  | cons y c ih => rw [union_cons, ih, union_insertNew]; rfl

theorem mem_dedup {x : α} {l : List α} : x ∈ dedup l ↔ x ∈ l := by
  simp [dedup, mem_union]

theorem upd_same {β : Type} (f : α → β) (a : α) (v : β) : upd f a v a = v := by simp [upd]

theorem upd_other {β : Type} (f : α → β) {a x : α} (v : β) (h : x ≠ a) : upd f a v x = f x := by
  simp [upd, h]

theorem upd_self {β : Type} (f : α → β) (a : α) : upd f a (f a) = f := by
  funext x
  unfold upd
  split
  · rename_i h; rw [h]
  · rfl

theorem upd_upd {β : Type} (f : α → β) (a : α) (v w : β) : upd (upd f a v) a w = upd f a w := by
  funext x
  unfold upd
  split <;> rfl

end sets

/-- `f` reports changes truthfully -/
def Honest {St : Type} (f : St × Bool → St × Bool) (Q : St → Prop) : Prop :=
  ∀ s, (f s).2 = false → s.2 = false ∧ (f s).1 = s.1 ∧ Q s.1

theorem Honest.of_foldl {St β : Type} {f : St × Bool → St × Bool} {step : St × Bool → β → St × Bool}
    {Q : β → St → Prop} {l : List β} (hf : ∀ s, f s = l.foldl step s)
    (h : ∀ x, x ∈ l → Honest (fun s => step s x) (Q x)) : Honest f fun st => ∀ x, x ∈ l → Q x st := by
  intro s
  rw [hf]
  clear hf
  induction l generalizing s with
  | nil => exact fun hs => ⟨hs, rfl, fun _ hx => nomatch hx⟩
  | cons x l ih =>
    intro hs
    obtain ⟨h1, h2, h3⟩ := ih (fun y hy => h y (List.mem_cons_of_mem _ hy)) (step s x) hs
    obtain ⟨k1, k2, k3⟩ := h x (List.mem_cons_self ..) s h1
    refine ⟨k1, h2.trans k2, ?_⟩
    intro y hy
    rcases List.mem_cons.1 hy with rfl | hy
    · exact k3
    · exact k2 ▸ h3 y hy

/-- the shape of the three loops: pass `i` answers the new state and whether it changed anything -/
def genLoop {St : Type} (pass : Nat → St → St × Bool) : Nat → Nat → St → Outcome St
  | 0, _, _ => .diverge
  | fuel + 1, i, s =>
    let r := pass i s
    if r.2 then genLoop pass fuel (i + 1) r.1 else .ok r.1

theorem genLoop_inv {St : Type} {pass : Nat → St → St × Bool} {P : St → Prop}
    (hP : ∀ i s, P s → P (pass i s).1) :
    ∀ (fuel i : Nat) (s r : St), P s → genLoop pass fuel i s = .ok r → P r := by
  intro fuel
  induction fuel with
  | zero => intro i s r _ h; cases h
  | succ fuel ih =>
    intro i s r hs h
    rw [genLoop] at h
    split at h
    · exact ih _ _ _ (hP i s hs) h
    · cases h; exact hP i s hs

theorem genLoop_mono {St : Type} {pass : Nat → St → St × Bool} (k : Nat) :
    ∀ (fuel i : Nat) (s r : St), genLoop pass fuel i s = .ok r → genLoop pass (fuel + k) i s = .ok r := by
  intro fuel
  induction fuel with
  | zero => intro i s r h; cases h
  | succ fuel ih =>
    intro i s r h
    rw [Nat.add_right_comm]
    rw [genLoop] at h ⊢
    split at h
    · rename_i hc
      rw [if_pos hc]
      exact ih _ _ _ h
    · rename_i hc
      rw [if_neg hc]
      exact h

theorem genLoop_last {St : Type} {pass : Nat → St → St × Bool} :
    ∀ (fuel i : Nat) (s r : St), genLoop pass fuel i s = .ok r → ∃ j s', pass j s' = (r, false) := by
  intro fuel
  induction fuel with
  | zero => intro i s r h; cases h
  | succ fuel ih =>
    intro i s r h
    rw [genLoop] at h
    split at h
    · exact ih _ _ _ h
    · rename_i hf
      cases h
      exact ⟨i, s, Prod.ext rfl (Bool.eq_false_iff.2 hf)⟩

theorem countP_lt {U : Type} {P Q : U → Bool} {l : List U} (h : ∀ u, P u = true → Q u = true)
    {x : U} (hx : x ∈ l) (hq : Q x = true) (hp : P x = false) : l.countP P < l.countP Q := by
  induction l with
  | nil => cases hx
  | cons u us ih =>
    have hmono := List.countP_mono_left (l := us) fun y _ => h y
    rw [List.countP_cons, List.countP_cons]
    rcases List.mem_cons.1 hx with rfl | hx
    · rw [if_pos hq, if_neg (Bool.eq_false_iff.1 hp)]
      omega
    · have := ih hx
      by_cases hpu : P u = true
      · rw [if_pos hpu, if_pos (h u hpu)]
        omega
      · rw [if_neg hpu]
        split <;> omega

/-- two (state, flag) pairs of a pass, the later on the right -/
structure Prog {St U : Type} (view : St → U → Bool) (a b : St × Bool) : Prop where
  mono : ∀ u, view a.1 u = true → view b.1 u = true
  flag : b.2 = true → a.2 = true ∨ ∃ u, view b.1 u = true ∧ view a.1 u = false

theorem Prog.refl {St U : Type} {view : St → U → Bool} (a : St × Bool) : Prog view a a :=
  ⟨fun _ h => h, fun h => Or.inl h⟩

theorem Prog.trans {St U : Type} {view : St → U → Bool} {a b c : St × Bool}
    (h₁ : Prog view a b) (h₂ : Prog view b c) : Prog view a c := by
  refine ⟨fun u hv => h₂.mono u (h₁.mono u hv), fun hc => ?_⟩
  rcases h₂.flag hc with hb | ⟨u, hcu, hbu⟩
  · exact (h₁.flag hb).imp_right fun ⟨u, hbu, hau⟩ => ⟨u, h₂.mono u hbu, hau⟩
  · refine Or.inr ⟨u, hcu, ?_⟩
    cases hau : view a.1 u with
    | false => rfl
    | true => rw [h₁.mono u hau] at hbu; cases hbu

theorem Prog.foldl {St U β : Type} {view : St → U → Bool} {step : St × Bool → β → St × Bool} {l : List β}
    (h : ∀ x, x ∈ l → ∀ s, Prog view s (step s x)) (s : St × Bool) : Prog view s (l.foldl step s) :=
  List.foldlRecOn l step (motive := Prog view s) (Prog.refl s) fun t ht x hx => ht.trans (h x hx t)

/-- the family lives on the finite universe `univ` as long as `Inv` holds, so it can grow `univ.length` times -/
theorem genLoop_terminates {St U : Type} {Inv : St → Prop} {view : St → U → Bool} {univ : List U}
    {pass : Nat → St → St × Bool} (hview : ∀ s, Inv s → ∀ u, view s u = true → u ∈ univ)
    (hpass : ∀ i s, Inv s → Inv (pass i s).1 ∧ Prog view (s, false) (pass i s)) :
    ∀ (fuel i : Nat) (s : St), Inv s → fuel + univ.countP (view s) > univ.length →
      ∃ r, genLoop pass fuel i s = .ok r := by
  intro fuel
  induction fuel with
  | zero =>
    intro i s _ h
    have := List.countP_le_length (p := view s) (l := univ)
    omega
  | succ fuel ih =>
    intro i s hs h
    obtain ⟨hi, hp⟩ := hpass i s hs
    rw [genLoop]
    split
    · rename_i hf
      apply ih _ _ hi
      rcases hp.flag hf with h0 | ⟨u, hq, hpu⟩
      · cases h0
      · have := countP_lt (P := view s) hp.mono (hview _ hi u hq) hq hpu
        omega
    · exact ⟨_, rfl⟩

section order
open AlgoVerif.Gram
variable {T N : Type} [DecidableEq N] {g : Grammar T N} {o : IterOrder T N}

theorem mem_groups_prods (ho : o.Fair) {i : Nat}
    {hp : N × List (GProd T N)} (h : hp ∈ groups g o i) : ∀ p, p ∈ hp.2 → p ∈ g.prods ∧ p.head = hp.1 := by
  unfold groups at h
  obtain ⟨hd, _, rfl⟩ := List.mem_map.1 h
  intro p hpm
  have := List.mem_filter.1 ((ho.prods i _ p).1 hpm)
  exact ⟨this.1, of_decide_eq_true this.2⟩

theorem mem_groups_of_prod (ho : o.Fair) (i : Nat)
    {p : GProd T N} (hp : p ∈ g.prods) :
    ∃ ps, (p.head, ps) ∈ groups g o i ∧ p ∈ ps := by
  refine ⟨o.prods i (g.prods.filter fun q => decide (q.head = p.head)), ?_, ?_⟩
  · unfold groups
    apply List.mem_map.2
    refine ⟨p.head, ?_, rfl⟩
    apply (ho.heads i _ _).2
    unfold headsOf
    exact mem_dedup.2 (List.mem_map.2 ⟨p, hp, rfl⟩)
  · apply (ho.prods i _ _).2
    exact List.mem_filter.2 ⟨hp, by simp⟩

theorem mem_passProds_iff (ho : o.Fair) (i : Nat) {p : GProd T N} :
    p ∈ passProds g o i ↔ p ∈ g.prods := by
  unfold passProds
  rw [List.mem_flatMap]
  constructor
  · rintro ⟨hp, h1, h2⟩
    exact (mem_groups_prods ho h1 p h2).1
  · intro hp
    obtain ⟨ps, h1, h2⟩ := mem_groups_of_prod ho i hp
    exact ⟨_, h1, h2⟩

end order

end AlgoVerif.C10
