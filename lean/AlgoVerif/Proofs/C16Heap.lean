import AlgoVerif.Proofs.C16Ops
/-!
# C16 helper lemmas: the heap machine — every mutator is an owned mutation of its receiver

`Trans H H' o o' m'`: a mutation of the object `o` took the store from `H` to `H'`; the object is `o'`
afterwards and holds `m'`; it lives in its old array or in one allocated since; every other array that existed
is unchanged.  All mutators of the API are `Trans`itions of their receiver (of the fresh clone, for the set
algebra), which is what keeps distinct objects apart.  The heap run of a mutator is set against the functional run by
`Outcome.Sim (Owned H o)`, in the way the head of `C16Store.lean` describes.
-/
namespace AlgoVerif.C16.Hp
open AlgoVerif AlgoVerif.C16
variable {α : Type} {σ : Type}

theorem size_alloc (H : Heap α) (arr : List α) : (H.alloc arr).1.size = H.size + 1 := by
  simp [Heap.alloc, Heap.size]

theorem alloc_id (H : Heap α) (arr : List α) : (H.alloc arr).2 = H.size := rfl

theorem get_alloc_lt (H : Heap α) (arr : List α) {b : Nat} (hb : b < H.size) : (H.alloc arr).1.get b = H.get b := by
  simp only [Heap.alloc, Heap.get, Heap.size] at *
  rw [List.getElem?_append_left hb]

theorem get_alloc_new (H : Heap α) (arr : List α) : (H.alloc arr).1.get H.size = arr := by
  simp [Heap.alloc, Heap.get, Heap.size]

theorem size_set (H : Heap α) (b : Nat) (arr : List α) : (H.set b arr).size = H.size := by
  simp [Heap.set, Heap.size]

theorem get_set_eq (H : Heap α) {b : Nat} (arr : List α) (hb : b < H.size) : (H.set b arr).get b = arr := by
  simp only [Heap.set, Heap.get, Heap.size] at *
  rw [List.getElem?_set_self hb]
  rfl

theorem get_set_ne (H : Heap α) {b c : Nat} (arr : List α) (h : c ≠ b) : (H.set b arr).get c = H.get c := by
  simp only [Heap.set, Heap.get]
  rw [List.getElem?_set_ne (fun e => h e.symm)]

def Valid (H : Heap α) (o : Obj α) : Prop := o.buf < H.size ∧ o.len ≤ (H.get o.buf).length

def Frame (H H' : Heap α) (b : Nat) : Prop := H.size ≤ H'.size ∧ ∀ c, c < H.size → c ≠ b → H'.get c = H.get c

def Ext (H H' : Heap α) : Prop := H.size ≤ H'.size ∧ ∀ c, c < H.size → H'.get c = H.get c

theorem Ext.refl (H : Heap α) : Ext H H := ⟨Nat.le_refl _, fun _ _ => rfl⟩

theorem Ext.frame {H H' : Heap α} (h : Ext H H') (b : Nat) : Frame H H' b := ⟨h.1, fun c hc _ => h.2 c hc⟩

theorem Frame.refl (H : Heap α) (b : Nat) : Frame H H b := (Ext.refl H).frame b

theorem Frame.trans {H₁ H₂ H₃ : Heap α} {b b' : Nat} (h₁ : Frame H₁ H₂ b) (h₂ : Frame H₂ H₃ b')
    (hb : b' = b ∨ H₁.size ≤ b') : Frame H₁ H₃ b := by
  refine ⟨Nat.le_trans h₁.1 h₂.1, fun c hc hcb => ?_⟩
  rw [h₂.2 c (Nat.lt_of_lt_of_le hc h₁.1) ?_, h₁.2 c hc hcb]
  rcases hb with rfl | hb
  · exact hcb
  · omega

theorem Frame.ext_of_new {H H' : Heap α} {b : Nat} (h : Frame H H' b) (hb : H.size ≤ b) : Ext H H' :=
  ⟨h.1, fun c hc => h.2 c hc (by omega)⟩

theorem alloc_ext (H : Heap α) (arr : List α) : Ext H (H.alloc arr).1 :=
  ⟨by rw [size_alloc]; omega, fun _ hc => get_alloc_lt H arr hc⟩

theorem Valid.of_get {H H' : Heap α} {p : Obj α} (hp : Valid H p) (hs : H.size ≤ H'.size)
    (hg : H'.get p.buf = H.get p.buf) : Valid H' p ∧ p.view H' = p.view H :=
  ⟨⟨Nat.lt_of_lt_of_le hp.1 hs, by rw [hg]; exact hp.2⟩, by simp [Obj.view, hg]⟩

theorem Valid.frame {H H' : Heap α} {b : Nat} {p : Obj α} (hp : Valid H p) (h : Frame H H' b) (hne : p.buf ≠ b) :
    Valid H' p ∧ p.view H' = p.view H :=
  hp.of_get h.1 (h.2 p.buf hp.1 hne)

theorem Valid.ext {H H' : Heap α} {p : Obj α} (hp : Valid H p) (h : Ext H H') : Valid H' p ∧ p.view H' = p.view H :=
  hp.of_get h.1 (h.2 p.buf hp.1)

theorem Valid.view_length {H : Heap α} {p : Obj α} (hp : Valid H p) : (p.view H).length = p.len := by
  simp only [Obj.view, List.length_take]
  exact Nat.min_eq_left hp.2

structure Trans (H H' : Heap α) (o o' : Obj α) (m' : List α) : Prop where
  impl : o'.impl = o.impl
  view : o'.view H' = m'
  valid : Valid H' o'
  buf : o'.buf = o.buf ∨ H.size ≤ o'.buf
  frame : Frame H H' o.buf

theorem Trans.abs {H H' : Heap α} {o o' : Obj α} {m' : List α} (h : Trans H H' o o' m') :
    o'.abs H' = ⟨o.impl, m'⟩ := by
  simp [Obj.abs, h.impl, h.view]

theorem Trans.refl {H : Heap α} {o : Obj α} (hv : Valid H o) : Trans H H o o (o.view H) :=
  ⟨rfl, rfl, hv, .inl rfl, Frame.refl H o.buf⟩

theorem Trans.trans {H₁ H₂ H₃ : Heap α} {o₁ o₂ o₃ : Obj α} {m₂ m₃ : List α}
    (h₁ : Trans H₁ H₂ o₁ o₂ m₂) (h₂ : Trans H₂ H₃ o₂ o₃ m₃) : Trans H₁ H₃ o₁ o₃ m₃ := by
  refine ⟨h₂.impl.trans h₁.impl, h₂.view, h₂.valid, ?_, h₁.frame.trans h₂.frame h₁.buf⟩
  rcases h₂.buf with h | h
  · rw [h]; exact h₁.buf
  · exact .inr (Nat.le_trans h₁.frame.1 h)

theorem Trans.of_ext {H₁ H₂ H₃ : Heap α} {o o' : Obj α} {m' : List α} (he : Ext H₁ H₂) (h : Trans H₂ H₃ o o' m') :
    Trans H₁ H₃ o o' m' := by
  refine ⟨h.impl, h.view, h.valid, ?_, (he.frame o.buf).trans h.frame (.inl rfl)⟩
  rcases h.buf with hb | hb
  · exact .inl hb
  · exact .inr (Nat.le_trans he.1 hb)

theorem Trans.other {H H' : Heap α} {o o' p : Obj α} {m' : List α} (h : Trans H H' o o' m') (hp : Valid H p)
    (hne : p.buf ≠ o.buf) : Valid H' p ∧ p.view H' = p.view H ∧ p.buf ≠ o'.buf := by
  obtain ⟨hv, hview⟩ := hp.frame h.frame hne
  refine ⟨hv, hview, ?_⟩
  rcases h.buf with hb | hb
  · rw [hb]; exact hne
  · have := hp.1; omega

/-- whatever `pad` is: what the Model puts into the spare cells of a new array (`add1` repeats `v`) is never read -/
theorem store_trans (H : Heap α) (o : Obj α) (m' pad : List α) (hv : Valid H o) :
    Trans H (o.store H m' pad).1 o (o.store H m' pad).2 m' := by
  unfold Obj.store
  simp only
  split
  · rename_i hfit
    refine ⟨rfl, ?_, ⟨by rw [size_set]; exact hv.1, ?_⟩, .inl rfl, ⟨by rw [size_set]; exact Nat.le_refl _, ?_⟩⟩
    · simp only [Obj.view, get_set_eq H _ hv.1]
      exact List.take_left' rfl
    · simp only [get_set_eq H _ hv.1, List.length_append, List.length_drop]
      omega
    · intro c _ hc
      exact get_set_ne H _ hc
  · have hext := alloc_ext H (m' ++ pad)
    refine ⟨rfl, ?_, ⟨?_, ?_⟩, .inr (Nat.le_refl _), hext.frame _⟩
    · simp only [Obj.view, alloc_id, get_alloc_new]
      exact List.take_left' rfl
    · simp only [alloc_id, size_alloc]; omega
    · simp only [alloc_id, get_alloc_new, List.length_append]; omega

theorem fresh_spec (H : Heap α) (impl : Impl α) (m pad : List α) :
    (Obj.fresh H impl m pad).2.impl = impl ∧ (Obj.fresh H impl m pad).2.view (Obj.fresh H impl m pad).1 = m ∧
    Valid (Obj.fresh H impl m pad).1 (Obj.fresh H impl m pad).2 ∧ (Obj.fresh H impl m pad).2.buf = H.size ∧
    Ext H (Obj.fresh H impl m pad).1 := by
  unfold Obj.fresh
  simp only
  refine ⟨by first | rfl | trivial, ?_, ⟨?_, ?_⟩, by first | rfl | trivial, alloc_ext H _⟩
  · simp only [Obj.view, alloc_id, get_alloc_new]
    exact List.take_left' rfl
  · simp only [alloc_id, size_alloc]; omega
  · simp only [alloc_id, get_alloc_new, List.length_append]; omega

theorem fresh_abs (H : Heap α) (impl : Impl α) (m pad : List α) :
    (Obj.fresh H impl m pad).2.abs (Obj.fresh H impl m pad).1 = ⟨impl, m⟩ := by
  obtain ⟨hi, hview, _⟩ := fresh_spec H impl m pad
  rw [Obj.abs, hi, hview]

/-- the outcome `r` of the heap machine is an owned mutation of `o`, which is the set `s'` afterwards (beside the first
conjunct the second says `s'.impl = o.impl`, `Trans.abs`, in the form the next round takes it) -/
def Owned (H : Heap α) (o : Obj α) (s' : MSet α) (r : Heap α × Obj α) : Prop :=
  Trans H r.1 o r.2 s'.members ∧ r.2.abs r.1 = s'

theorem Owned.refl {H : Heap α} {o : Obj α} {s : MSet α} (hv : Valid H o ∧ o.abs H = s) : Owned H o s (H, o) :=
  ⟨by rw [← hv.2]; exact Trans.refl hv.1, hv.2⟩

theorem Owned.next {H : Heap α} {o : Obj α} {s' : MSet α} {r : Heap α × Obj α} (h : Owned H o s' r) :
    Valid r.1 r.2 ∧ r.2.abs r.1 = s' := ⟨h.1.valid, h.2⟩

theorem Owned.seq {H : Heap α} {o : Obj α} {x : Outcome (MSet α)} {y : Outcome (Heap α × Obj α)}
    {k : MSet α → Outcome (MSet α)} {k' : Heap α × Obj α → Outcome (Heap α × Obj α)} (hxy : Outcome.Sim (Owned H o) x y)
    (hk : ∀ s₁ r, Valid r.1 r.2 ∧ r.2.abs r.1 = s₁ → Outcome.Sim (Owned r.1 r.2) (k s₁) (k' r)) :
    Outcome.Sim (Owned H o) (x >>= k) (y >>= k') :=
  hxy.bind fun s₁ r h₁ => (hk s₁ r h₁.next).mono fun _ _ h₂ => ⟨h₁.1.trans h₂.1, h₂.2⟩

theorem add1_owned (grow : Nat → Nat) (v : α) {H : Heap α} {o : Obj α} {s : MSet α} (hv : Valid H o ∧ o.abs H = s) :
    Outcome.Sim (Owned H o) (s.add1 v) (add1 grow H o v) := by
  obtain ⟨hv, rfl⟩ := hv
  refine .of_bind fun s' h => ?_
  obtain ⟨hi, hshape⟩ := MSet.add1_shape h
  by_cases hlen : s'.members.length = (o.view H).length
  · rw [if_pos hlen, hshape.resolve_right fun e => Nat.succ_ne_self _ (e.symm.trans hlen)]
    exact .ok (.refl ⟨hv, rfl⟩)
  · rw [if_neg hlen]
    have habs : ∀ {H' o'}, Trans H H' o o' s'.members → Owned H o s' (H', o') := fun tr => ⟨tr, by rw [tr.abs, ← show s'.impl = o.impl from hi]⟩
    obtain ⟨impl, buf, len⟩ := o
    cases impl with
    | sorted c => exact .ok (habs (Trans.of_ext (alloc_ext H [v]) (store_trans _ _ _ _ (hv.ext (alloc_ext H [v])).1)))
    | unordered e | stable e => exact .ok (habs (store_trans H _ _ _ hv))

theorem remove1_owned (v : α) {H : Heap α} {o : Obj α} {s : MSet α} (hv : Valid H o ∧ o.abs H = s) :
    Outcome.Sim (Owned H o) (s.remove1 v) (remove1 H o v) := by
  obtain ⟨hv, rfl⟩ := hv
  refine .of_bind fun s' h => ?_
  obtain ⟨hi, hshape⟩ := MSet.remove1_shape h
  by_cases hlen : s'.members.length = (o.view H).length
  · rw [if_pos hlen, hshape.resolve_right fun e => Nat.succ_ne_self _ (e.trans hlen.symm)]
    exact .ok (.refl ⟨hv, rfl⟩)
  · rw [if_neg hlen]
    exact .ok ⟨store_trans H o _ _ hv, by rw [(store_trans H o _ _ hv).abs, ← show s'.impl = o.impl from hi]⟩

theorem add_owned (grow : Nat → Nat) (vs : List α) : ∀ {H : Heap α} {o : Obj α} {s : MSet α}, Valid H o ∧ o.abs H = s →
    Outcome.Sim (Owned H o) (s.add vs) (add grow H o vs) := by
  induction vs with
  | nil => exact fun hv => .ok (.refl hv)
  | cons v vs ih => exact fun hv => Owned.seq (add1_owned grow v hv) fun _ _ hv₁ => ih hv₁

theorem remove_owned (vs : List α) : ∀ {H : Heap α} {o : Obj α} {s : MSet α}, Valid H o ∧ o.abs H = s →
    Outcome.Sim (Owned H o) (s.remove vs) (remove H o vs) := by
  induction vs with
  | nil => exact fun hv => .ok (.refl hv)
  | cons v vs ih => exact fun hv => Owned.seq (remove1_owned v hv) fun _ _ hv₁ => ih hv₁

theorem addEach_owned (grow : Nat → Nat) (ms : List α) : ∀ {H : Heap α} {t : Obj α} {s : MSet α},
    Valid H t ∧ t.abs H = s → Outcome.Sim (Owned H t) (C16.addEach s ms) (addEach grow H t ms) := by
  induction ms with
  | nil => exact fun hv => .ok (.refl hv)
  | cons m ms ih => exact fun hv => Owned.seq (add_owned grow [m] hv) fun _ _ hv₁ => ih hv₁

theorem removeEach_owned (ms : List α) : ∀ {H : Heap α} {t : Obj α} {s : MSet α},
    Valid H t ∧ t.abs H = s → Outcome.Sim (Owned H t) (C16.removeEach s ms) (removeEach H t ms) := by
  induction ms with
  | nil => exact fun hv => .ok (.refl hv)
  | cons m ms ih => exact fun hv => Owned.seq (remove_owned [m] hv) fun _ _ hv₁ => ih hv₁

theorem add_trans (grow : Nat → Nat) : ∀ (vs : List α) {H : Heap α} {o : Obj α} {s' : MSet α}, Valid H o →
    (o.abs H).add vs = .ok s' → ∃ H' o', add grow H o vs = .ok (H', o') ∧ Trans H H' o o' s'.members :=
  fun vs _ _ _ hv h => let ⟨(H', o'), e, tr, _⟩ := (add_owned grow vs ⟨hv, rfl⟩).elim h; ⟨H', o', e, tr⟩

theorem remove_trans : ∀ (vs : List α) {H : Heap α} {o : Obj α} {s' : MSet α}, Valid H o →
    (o.abs H).remove vs = .ok s' → ∃ H' o', remove H o vs = .ok (H', o') ∧ Trans H H' o o' s'.members :=
  fun vs _ _ _ hv h => let ⟨(H', o'), e, tr, _⟩ := (remove_owned vs ⟨hv, rfl⟩).elim h; ⟨H', o', e, tr⟩

end AlgoVerif.C16.Hp
