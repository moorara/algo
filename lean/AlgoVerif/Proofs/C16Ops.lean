import AlgoVerif.Proofs.C16Basic
/-!
# C16 helper lemmas: linear and binary search; find / Contains / Add / Remove / Equal on a well-formed set object
(`Equal` by counting modulo `R`)
-/
namespace AlgoVerif.C16
variable {α : Type} {σ : Type}

theorem sortedBy_iff {dom : α → Prop} {compare : CompareFunc α} {c : α → α → Int}
    (hc : ∀ a b, dom a → dom b → compare a b = .ok (c a b)) {l : List α} (hd : ∀ x ∈ l, dom x) :
    SortedBy compare l ↔ l.Pairwise (fun a b => c a b < 0) := by
  constructor
  · refine List.Pairwise.imp_of_mem ?_
    rintro a b ha hb ⟨c', h, hlt⟩
    rw [hc a b (hd a ha) (hd b hb)] at h
    cases h
    exact hlt
  · refine List.Pairwise.imp_of_mem ?_
    intro a b ha hb h
    exact ⟨_, hc a b (hd a ha) (hd b hb), h⟩

theorem split_at_index (l : List α) (k : Nat) (hk : k < l.length) :
    l = l.take k ++ l[k] :: l.drop (k + 1) ∧ (l.take k).length = k := by
  refine ⟨?_, by simp [List.length_take]; omega⟩
  rw [List.getElem_cons_drop, List.take_append_drop]

theorem pairwise_insert_mid {S : α → α → Prop} {l₁ l₂ : List α} {v : α} (h : (l₁ ++ l₂).Pairwise S)
    (h₁ : ∀ y ∈ l₁, S y v) (h₂ : ∀ y ∈ l₂, S v y) : (l₁ ++ v :: l₂).Pairwise S := by
  obtain ⟨p₁, p₂, p₁₂⟩ := List.pairwise_append.1 h
  refine List.pairwise_append.2 ⟨p₁, List.pairwise_cons.2 ⟨h₂, p₂⟩, ?_⟩
  intro a ha b hb
  rcases List.mem_cons.1 hb with rfl | hb
  · exact h₁ a ha
  · exact p₁₂ a ha b hb

section
variable {dom : α → Prop} {compare : CompareFunc α} {c : α → α → Int}
  (hc : ∀ a b, dom a → dom b → compare a b = .ok (c a b))
  (hanti : ∀ a b, c a b < 0 ↔ 0 < c b a)
  (htrans : ∀ a b d, c a b < 0 → c b d < 0 → c a d < 0)
  {l : List α} (hsorted : l.Pairwise (fun a b => c a b < 0)) (hd : ∀ x ∈ l, dom x)
  {v : α} (hv : dom v)
  {β : Type} (hit miss : Int → β) (spec : Nat → Int → Int → Outcome β)
  (hS : ∀ fuel low high, spec (fuel + 1) low high =
    if low ≤ high then
      let mid := (low + high).tdiv 2
      if 0 ≤ mid then
        match l[mid.toNat]? with
        | none => .panic
        | some m => do
          let cmp ← compare v m
          if cmp < 0 then spec fuel low (mid - 1)
          else if cmp > 0 then spec fuel (mid + 1) high
          else return hit mid
      else .panic
    else .ok (miss low))

include hc hanti htrans hsorted hd hv hS

/-- The two binary searches of `sorted.go` (`find`, and the one inside `add`) run the same loop and differ only in
what they return: `hit mid` at a member comparing equal to `v`, `miss low` once the interval is empty; `spec` is any
function satisfying the loop's equations. -/
theorem bsearch_loop :
    ∀ (fuel : Nat) (low high : Int), 0 ≤ low → high < l.length → low ≤ high + 1 → high - low + 1 < fuel →
    (∀ k (hk : k < l.length), (k : Int) < low → 0 < c v l[k]) →
    (∀ k (hk : k < l.length), high < (k : Int) → c v l[k] < 0) →
    (∃ k, ∃ hk : k < l.length, spec fuel low high = .ok (hit k) ∧ c v l[k] = 0) ∨
    (∃ p : Nat, p ≤ l.length ∧ spec fuel low high = .ok (miss p) ∧
      (∀ k (hk : k < l.length), k < p → 0 < c v l[k]) ∧ (∀ k (hk : k < l.length), p ≤ k → c v l[k] < 0)) := by
  intro fuel
  induction fuel with
  | zero => intro low high _ _ _ hf; omega
  | succ fuel ih =>
    intro low high h0 hh hlh hf hL hH
    rw [hS]
    by_cases hle : low ≤ high
    · have hmid : low ≤ (low + high).tdiv 2 ∧ (low + high).tdiv 2 ≤ high := by
        rw [Int.tdiv_eq_ediv_of_nonneg (Int.add_nonneg h0 (Int.le_trans h0 hle))]; omega
      simp only [hle, ↓reduceIte]
      generalize (low + high).tdiv 2 = mid at hmid ⊢
      obtain ⟨hm0, hmlen, hlo, hhi⟩ : 0 ≤ mid ∧ mid.toNat < l.length ∧
          (mid - 1 < l.length ∧ low ≤ mid - 1 + 1 ∧ mid - 1 - low + 1 < fuel) ∧
          (0 ≤ mid + 1 ∧ mid + 1 ≤ high + 1 ∧ high - (mid + 1) + 1 < fuel) := by omega
      simp only [hm0, ↓reduceIte, List.getElem?_eq_getElem hmlen, hc v _ hv (hd _ (List.getElem_mem hmlen)), ok_bind]
      have hsi := List.pairwise_iff_getElem.1 hsorted
      by_cases hlt : c v (l[mid.toNat]'hmlen) < 0
      · rw [if_pos hlt]
        refine ih low (mid - 1) h0 hlo.1 hlo.2.1 hlo.2.2 hL fun k hk hkm => ?_
        by_cases hkeq : k = mid.toNat
        · subst hkeq; exact hlt
        · exact htrans _ _ _ hlt (hsi _ _ hmlen hk (by omega))
      · rw [if_neg hlt]
        by_cases hgt : c v (l[mid.toNat]'hmlen) > 0
        · rw [if_pos hgt]
          refine ih (mid + 1) high hhi.1 hh hhi.2.1 hhi.2.2 (fun k hk hkm => ?_) hH
          by_cases hkeq : k = mid.toNat
          · subst hkeq; exact hgt
          · exact (hanti _ _).1 (htrans _ _ _ (hsi _ _ hk hmlen (by omega)) ((hanti _ _).2 hgt))
        · rw [if_neg hgt]
          exact .inl ⟨mid.toNat, hmlen, by rw [Int.toNat_of_nonneg hm0]; rfl, by omega⟩
    · simp only [hle, ↓reduceIte]
      exact .inr ⟨low.toNat, by omega, by rw [Int.toNat_of_nonneg h0],
        fun k hk hkp => hL k hk (by omega), fun k hk hkp => hH k hk (by omega)⟩

theorem bsearch_spec :
    (∃ k, ∃ hk : k < l.length, spec (l.length + 1) 0 ((l.length : Int) - 1) = .ok (hit k) ∧ c v l[k] = 0) ∨
    (∃ p : Nat, p ≤ l.length ∧ spec (l.length + 1) 0 ((l.length : Int) - 1) = .ok (miss p) ∧
      (∀ k (hk : k < l.length), k < p → 0 < c v l[k]) ∧ (∀ k (hk : k < l.length), p ≤ k → c v l[k] < 0) ∧
      ∀ m ∈ l, c v m ≠ 0) := by
  rcases bsearch_loop hc hanti htrans hsorted hd hv hit miss spec hS (l.length + 1) 0 ((l.length : Int) - 1)
    (by omega) (by omega) (by omega) (by omega) (by intro k hk hk'; omega) (by intro k hk hk'; omega) with
    h | ⟨p, hp, h, hlo, hhi⟩
  · exact .inl h
  · refine .inr ⟨p, hp, h, hlo, hhi, fun m hm => ?_⟩
    obtain ⟨k, hk, rfl⟩ := List.mem_iff_getElem.1 hm
    by_cases hkp : k < p
    · have := hlo k hk hkp; omega
    · have := hhi k hk (by omega); omega

end

theorem containsEach_eq_contains (rhs : MSet α) (ms : List α) : containsEach rhs ms = rhs.contains ms := by
  induction ms with
  | nil => rfl
  | cons m ms ih =>
    simp only [containsEach, MSet.contains, ih, bind_assoc]
    refine congrArg _ (funext fun i => ?_)
    by_cases hi : i = -1 <;> simp [hi]

theorem length_insert (l : List α) (n : Nat) (v : α) : (l.take n ++ v :: l.drop n).length = l.length + 1 := by
  rw [List.length_append, List.length_cons, ← Nat.add_assoc, ← List.length_append, List.take_append_drop]

theorem length_erase (l : List α) {n : Nat} (h : n < l.length) : (l.take n ++ l.drop (n + 1)).length + 1 = l.length := by
  simp only [List.length_append, List.length_take, List.length_drop]
  omega

theorem MSet.add1_shape {s s' : MSet α} {v : α} (h : s.add1 v = .ok s') :
    s'.impl = s.impl ∧ (s' = s ∨ s'.members.length = s.members.length + 1) := by
  obtain ⟨impl, members⟩ := s
  cases impl with
  | unordered eq | stable eq =>
    obtain ⟨b, _, h'⟩ := bind_eq_ok h
    cases b <;> cases h' <;> simp
  | sorted cmp =>
    obtain ⟨pos, _, h'⟩ := bind_eq_ok h
    cases pos with
    | none => cases h'; exact ⟨rfl, .inl rfl⟩
    | some low =>
      simp only at h'
      split at h'
      · cases h'; exact ⟨rfl, .inr (length_insert ..)⟩
      · cases h'

theorem MSet.remove1_shape {s s' : MSet α} {v : α} (h : s.remove1 v = .ok s') :
    s'.impl = s.impl ∧ (s' = s ∨ s'.members.length + 1 = s.members.length) := by
  obtain ⟨i, _, h'⟩ := bind_eq_ok h
  split at h'
  · split at h'
    · cases h'; exact ⟨rfl, .inr (length_erase _ (by omega))⟩
    · cases h'
  · cases h'; exact ⟨rfl, .inl rfl⟩

theorem linFind_not_mem {dom : α → Prop} {R : α → α → Prop} {equal : EqualFunc α} (hl : EqLaw dom R equal)
    {v : α} (hv : dom v) : ∀ (l : List α) (i : Int), (∀ x ∈ l, dom x) → ¬ MemR R v l →
      linFind equal v l i = .ok (-1)
  | [], _, _, _ => rfl
  | m :: ms, i, hd, hn => by
    obtain ⟨r, hr, hiff⟩ := hl m v (hd m (List.mem_cons_self ..)) hv
    have hnr : ¬ R m v := fun h => hn (memR_cons.2 (.inl h))
    have : r = false := Bool.eq_false_iff.2 fun e => hnr (hiff.1 e)
    subst this
    simp only [linFind, hr, ok_bind]
    exact linFind_not_mem hl hv ms (i + 1) (fun x hx => hd x (List.mem_cons_of_mem _ hx))
      (fun h => hn (memR_cons.2 (.inr h)))

theorem linFind_mem {dom : α → Prop} {R : α → α → Prop} {equal : EqualFunc α} (hl : EqLaw dom R equal)
    {v : α} (hv : dom v) : ∀ (l₁ : List α) (m : α) (l₂ : List α) (i : Int),
      (∀ x ∈ l₁ ++ m :: l₂, dom x) → (∀ y ∈ l₁, ¬ R y v) → R m v →
      linFind equal v (l₁ ++ m :: l₂) i = .ok (i + l₁.length)
  | [], m, l₂, i, hd, _, hm => by
    obtain ⟨r, hr, hiff⟩ := hl m v (hd m (by simp)) hv
    have : r = true := hiff.2 hm
    subst this
    simp [linFind, hr]
  | a :: l₁, m, l₂, i, hd, hn, hm => by
    obtain ⟨r, hr, hiff⟩ := hl a v (hd a (by simp)) hv
    have : r = false := Bool.eq_false_iff.2 fun e => hn a (List.mem_cons_self ..) (hiff.1 e)
    subst this
    have ih := linFind_mem hl hv l₁ m l₂ (i + 1) (fun x hx => hd x (by simp at hx ⊢; exact .inr hx))
      (fun y hy => hn y (by simp [hy])) hm
    simp only [List.cons_append, linFind, hr, ok_bind]
    simp only [Bool.false_eq_true, ↓reduceIte, ih, List.length_cons]
    congr 1
    omega

theorem first_match_split (R : α → α → Prop) (v : α) : ∀ l : List α,
    ¬ MemR R v l ∨ ∃ l₁ m l₂, l = l₁ ++ m :: l₂ ∧ (∀ y ∈ l₁, ¬ R y v) ∧ R m v
  | [] => .inl (by simp)
  | a :: l => by
    by_cases h : R a v
    · exact .inr ⟨[], a, l, rfl, by simp, h⟩
    · rcases first_match_split R v l with hn | ⟨l₁, m, l₂, rfl, h₁, h₂⟩
      · exact .inl (fun hm => (memR_cons.1 hm).elim h hn)
      · exact .inr ⟨a :: l₁, m, l₂, rfl, List.forall_mem_cons.2 ⟨h, h₁⟩, h₂⟩

theorem exists_mem_insert {β : Type} {l₁ l₂ : List β} {a : β} {P : β → Prop} :
    (∃ c ∈ l₁ ++ a :: l₂, P c) ↔ P a ∨ ∃ c ∈ l₁ ++ l₂, P c := by
  simp only [List.mem_append, List.mem_cons, or_and_right, exists_or, exists_eq_left, or_left_comm]

theorem forall_mem_insert {β : Type} {l₁ l₂ : List β} {a : β} {P : β → Prop} :
    (∀ c ∈ l₁ ++ a :: l₂, P c) ↔ P a ∧ ∀ c ∈ l₁ ++ l₂, P c := by
  simp only [List.mem_append, List.mem_cons, or_imp, forall_and, forall_eq, and_left_comm]

/-- an inclusion modulo `R` between duplicate-free lists is injective, hence `≤` on the lengths; with equal lengths it is
onto as well, which gives the converse inclusion.  All of `Equal`'s correctness (`MSet.equal_spec`) is this. -/
theorem subR_length {R : α → α → Prop} (hR : Equivalence R) : ∀ (l₁ l₂ : List α),
    l₁.Pairwise (fun a b => ¬ R a b) → l₂.Pairwise (fun a b => ¬ R a b) → SubR R l₁ l₂ →
    l₁.length ≤ l₂.length ∧ (l₁.length = l₂.length → SubR R l₂ l₁)
  | [], l₂, _, _, _ => by
    refine ⟨Nat.zero_le _, fun h => ?_⟩
    have : l₂ = [] := List.eq_nil_of_length_eq_zero h.symm
    subst this
    intro x hx
    cases hx
  | x :: l₁, l₂, h₁, h₂, hs => by
    obtain ⟨y, hy, hyx⟩ := hs x (List.mem_cons_self ..)
    obtain ⟨a, b, rfl⟩ := List.append_of_mem hy
    have h₁' := List.pairwise_cons.1 h₁
    have h₂' := (List.pairwise_cons.1 ((List.pairwise_middle fun h h' => h (hR.symm h')).1 h₂)).2
    -- a match of `z ∈ l₁` at `y` would make `z` equivalent to `x`
    have hs' : SubR R l₁ (a ++ b) := fun z hz =>
      (exists_mem_insert.1 (hs z (List.mem_cons_of_mem _ hz))).resolve_left
        fun hyz => h₁'.1 z hz (hR.trans (hR.symm hyx) hyz)
    obtain ⟨ih₁, ih₂⟩ := subR_length hR l₁ (a ++ b) h₁'.2 h₂' hs'
    simp only [List.length_cons, List.length_append] at ih₁ ih₂ ⊢
    refine ⟨by omega, fun hlen => forall_mem_insert.2 ⟨⟨x, List.mem_cons_self .., hR.symm hyx⟩, fun w hw => ?_⟩⟩
    exact memR_cons.2 (.inr (ih₂ (by omega) w hw))

section
variable {dom : α → Prop} {R : α → α → Prop} (hR : Equivalence R)
include hR

theorem MSet.find_spec {s : MSet α} (h : WF dom R s) {v : α} (hv : dom v) :
    (¬ MemR R v s.members ∧ s.find v = .ok (-1)) ∨
    (∃ l₁ m l₂, s.members = l₁ ++ m :: l₂ ∧ R m v ∧ s.find v = .ok (l₁.length : Int)) := by
  obtain ⟨impl, members⟩ := s
  have hlaw := h.law
  cases impl with
  | unordered equal | stable equal =>
    rcases first_match_split R v members with hn | ⟨l₁, m, l₂, rfl, h₁, h₂⟩
    · exact .inl ⟨hn, linFind_not_mem hlaw hv members 0 h.mem_dom hn⟩
    · refine .inr ⟨l₁, m, l₂, rfl, h₂, ?_⟩
      have := linFind_mem hlaw hv l₁ m l₂ 0 h.mem_dom h₁ h₂
      simpa [MSet.find] using this
  | sorted compare =>
    obtain ⟨c, hc, hc0, hanti, htrans⟩ := hlaw
    have hmd : ∀ x ∈ members, dom x := h.mem_dom
    have hs : members.Pairwise (fun a b => c a b < 0) := (sortedBy_iff hc hmd).1 (h.sorted compare rfl)
    rcases bsearch_spec hc hanti htrans hs hmd hv id (fun _ => -1) (binFind compare members v) (fun _ _ _ => rfl) with
      ⟨k, hk, hf, h0⟩ | ⟨p, -, hf, -, -, hn⟩
    · obtain ⟨hsplit, hlen⟩ := split_at_index members k hk
      refine .inr ⟨members.take k, members[k], members.drop (k + 1), hsplit, hR.symm ((hc0 _ _).1 h0), ?_⟩
      simp only [MSet.find, hf, hlen]; rfl
    · refine .inl ⟨?_, hf⟩
      rintro ⟨y, hy, hyv⟩
      exact hn y hy ((hc0 _ _).2 (hR.symm hyv))

theorem MSet.contains_spec {s : MSet α} (h : WF dom R s) : ∀ vs : List α, (∀ v ∈ vs, dom v) →
    ∃ r, s.contains vs = .ok r ∧ (r = true ↔ ∀ v ∈ vs, MemR R v s.members)
  | [], _ => ⟨true, rfl, by simp⟩
  | v :: vs, hd => by
    rcases MSet.find_spec hR h (hd v (List.mem_cons_self ..)) with ⟨hn, hf⟩ | ⟨l₁, m, l₂, hs, hm, hf⟩
    · exact ⟨false, by simp [MSet.contains, hf],
        iff_of_false Bool.false_ne_true fun hall => hn (hall v (List.mem_cons_self ..))⟩
    · obtain ⟨r, hr, hiff⟩ := MSet.contains_spec h vs (fun w hw => hd w (List.mem_cons_of_mem _ hw))
      refine ⟨r, ?_, ?_⟩
      · have : ¬ ((l₁.length : Int) = -1) := by omega
        simp [MSet.contains, hf, this, hr]
      · have hmem : MemR R v s.members := ⟨m, by rw [hs]; simp, hm⟩
        rw [hiff, List.forall_mem_cons, and_iff_right hmem]

theorem MSet.contains1_spec {s : MSet α} (h : WF dom R s) {v : α} (hv : dom v) :
    ∃ r, s.contains [v] = .ok r ∧ (r = true ↔ MemR R v s.members) := by
  obtain ⟨r, hr, hiff⟩ := MSet.contains_spec hR h [v] (by simpa using hv)
  exact ⟨r, hr, by simpa using hiff⟩

theorem MSet.add1_spec {s : MSet α} (h : WF dom R s) {v : α} (hv : dom v) :
    ∃ s', s.add1 v = .ok s' ∧ WF dom R s' ∧ s'.impl = s.impl ∧
      ((MemR R v s.members ∧ s' = s) ∨
       (¬ MemR R v s.members ∧ ∃ l₁ l₂, s.members = l₁ ++ l₂ ∧ s'.members = l₁ ++ v :: l₂ ∧
          (s.impl.isSorted = false → l₂ = []))) := by
  obtain ⟨impl, members⟩ := s
  cases impl with
  | unordered equal | stable equal =>
    obtain ⟨r, hr, hiff⟩ := MSet.contains1_spec hR h hv
    cases r with
    | true => exact ⟨_, by simp only [MSet.add1, hr, Bool.not_true, pure_eq_ok, ok_bind, Bool.false_eq_true, ↓reduceIte], h, rfl, .inl ⟨hiff.1 rfl, rfl⟩⟩
    | false =>
      have hn : ¬ MemR R v members := fun hm => by simpa only [Bool.false_eq_true] using hiff.2 hm
      refine ⟨⟨_, members ++ [v]⟩, by simp only [MSet.add1, hr, Bool.not_false, pure_eq_ok, ok_bind, ↓reduceIte], ?_, rfl,
        .inr ⟨hn, members, [], (List.append_nil _).symm, rfl, fun _ => rfl⟩⟩
      refine ⟨forall_mem_insert.2 ⟨hv, by rw [List.append_nil]; exact h.mem_dom⟩, ?_, h.law, ?_⟩
      · exact pairwise_insert_mid (l₂ := []) (by rw [List.append_nil]; exact h.nodup) (fun y hy hyv => hn ⟨y, hy, hyv⟩)
          (fun _ h => nomatch h)
      · intro compare hcmp; cases hcmp
  | sorted compare =>
    obtain ⟨c, hc, hc0, hanti, htrans⟩ := h.law
    have hmd : ∀ x ∈ members, dom x := h.mem_dom
    have hnd : members.Pairwise (fun a b => ¬ R a b) := h.nodup
    have hs : members.Pairwise (fun a b => c a b < 0) := (sortedBy_iff hc hmd).1 (h.sorted compare rfl)
    rcases bsearch_spec hc hanti htrans hs hmd hv (fun _ => none) some (binAddPos compare members v)
      (fun _ _ _ => rfl) with ⟨k, hk, hf, h0⟩ | ⟨p, hp, hf, hlo, hhi, hne⟩
    · refine ⟨⟨.sorted compare, members⟩, ?_, h, rfl,
        .inl ⟨⟨_, List.getElem_mem hk, hR.symm ((hc0 _ _).1 h0)⟩, rfl⟩⟩
      simp only [MSet.add1, hf, pure_eq_ok, ok_bind]
    · have hn : ¬ MemR R v members := fun ⟨y, hy, hyv⟩ => hne y hy ((hc0 _ _).2 (hR.symm hyv))
      have hsplit : members = members.take p ++ members.drop p := (List.take_append_drop p members).symm
      have hbefore : ∀ y ∈ members.take p, c y v < 0 := by
        intro y hy
        obtain ⟨j, hj, rfl⟩ := List.mem_take_iff_getElem.1 hy
        have hj' : j < p ∧ j < members.length := Nat.lt_min.1 hj
        exact (hanti _ _).2 (hlo j hj'.2 hj'.1)
      have hafter : ∀ y ∈ members.drop p, c v y < 0 := by
        intro y hy
        obtain ⟨j, hj, rfl⟩ := List.mem_iff_getElem.1 hy
        rw [List.getElem_drop]
        exact hhi _ _ (Nat.le_add_right p j)
      refine ⟨⟨.sorted compare, members.take p ++ v :: members.drop p⟩, ?_, ?_, rfl,
        .inr ⟨hn, members.take p, members.drop p, hsplit, rfl, fun h => nomatch h⟩⟩
      · have : (0 : Int) ≤ p ∧ (p : Int) ≤ members.length := ⟨Int.natCast_nonneg p, Int.ofNat_le.2 hp⟩
        simp only [MSet.add1, hf, pure_eq_ok, ok_bind, this, and_self, ↓reduceIte, Int.toNat_natCast]
      · have hdom' : ∀ x ∈ members.take p ++ v :: members.drop p, dom x :=
          forall_mem_insert.2 ⟨hv, by rw [← hsplit]; exact hmd⟩
        refine ⟨hdom', ?_, h.law, ?_⟩
        · refine pairwise_insert_mid (by rw [← hsplit]; exact hnd) ?_ ?_
          · exact fun y hy hyv => Int.ne_of_lt (hbefore y hy) ((hc0 _ _).2 hyv)
          · exact fun y hy hvy => Int.ne_of_lt (hafter y hy) ((hc0 _ _).2 hvy)
        · intro compare' hcmp
          cases hcmp
          rw [sortedBy_iff hc hdom']
          exact pairwise_insert_mid (by rw [← hsplit]; exact hs) hbefore hafter

theorem MSet.remove1_spec {s : MSet α} (h : WF dom R s) {v : α} (hv : dom v) :
    ∃ s', s.remove1 v = .ok s' ∧ WF dom R s' ∧ s'.impl = s.impl ∧
      ((¬ MemR R v s.members ∧ s' = s) ∨
       (∃ l₁ m l₂, s.members = l₁ ++ m :: l₂ ∧ R m v ∧ s'.members = l₁ ++ l₂)) := by
  rcases MSet.find_spec hR h hv with ⟨hn, hf⟩ | ⟨l₁, m, l₂, hs, hm, hf⟩
  · exact ⟨s, by simp [MSet.remove1, hf], h, rfl, .inl ⟨hn, rfl⟩⟩
  · refine ⟨{ s with members := l₁ ++ l₂ }, ?_, ?_, rfl, .inr ⟨l₁, m, l₂, hs, hm, rfl⟩⟩
    · have h1 : ¬ ((l₁.length : Int) = -1) := by omega
      have h2 : (0 : Int) ≤ l₁.length ∧ (l₁.length : Int) + 1 ≤ s.members.length := by
        rw [hs]; simp only [List.length_append, List.length_cons]; omega
      simp only [MSet.remove1, hf, ok_bind, ne_eq, h1, not_false_eq_true, ↓reduceIte, h2, and_self]
      simp [hs]
    · have hsub : (l₁ ++ l₂).Sublist s.members := by
        rw [hs]
        exact List.Sublist.append (List.Sublist.refl _) (List.sublist_cons_self _ _)
      refine ⟨fun x hx => h.mem_dom x (hsub.subset hx), h.nodup.sublist hsub, h.law, ?_⟩
      intro compare hcmp
      exact (h.sorted compare hcmp).sublist hsub

theorem MSet.add_wf {s : MSet α} (h : WF dom R s) : ∀ vs : List α, (∀ v ∈ vs, dom v) →
    ∃ s', s.add vs = .ok s' ∧ WF dom R s' ∧ s'.impl = s.impl := by
  intro vs
  induction vs generalizing s with
  | nil => intro _; exact ⟨s, rfl, h, rfl⟩
  | cons v vs ih =>
    intro hd
    obtain ⟨s₁, h₁, hw₁, hi₁, _⟩ := MSet.add1_spec hR h (hd v (List.mem_cons_self ..))
    obtain ⟨s₂, h₂, hw₂, hi₂⟩ := ih hw₁ (fun w hw => hd w (List.mem_cons_of_mem _ hw))
    exact ⟨s₂, by simp [MSet.add, h₁, h₂], hw₂, hi₂.trans hi₁⟩

theorem MSet.remove_wf {s : MSet α} (h : WF dom R s) : ∀ vs : List α, (∀ v ∈ vs, dom v) →
    ∃ s', s.remove vs = .ok s' ∧ WF dom R s' ∧ s'.impl = s.impl := by
  intro vs
  induction vs generalizing s with
  | nil => intro _; exact ⟨s, rfl, h, rfl⟩
  | cons v vs ih =>
    intro hd
    obtain ⟨s₁, h₁, hw₁, hi₁, _⟩ := MSet.remove1_spec hR h (hd v (List.mem_cons_self ..))
    obtain ⟨s₂, h₂, hw₂, hi₂⟩ := ih hw₁ (fun w hw => hd w (List.mem_cons_of_mem _ hw))
    exact ⟨s₂, by simp [MSet.remove, h₁, h₂], hw₂, hi₂.trans hi₁⟩

theorem containsEach_spec {rhs : MSet α} (h : WF dom R rhs) (ms : List α) (hd : ∀ v ∈ ms, dom v) :
    ∃ r, containsEach rhs ms = .ok r ∧ (r = true ↔ SubR R ms rhs.members) :=
  containsEach_eq_contains rhs ms ▸ MSet.contains_spec hR h ms hd

theorem MSet.equal_spec {s rhs : MSet α} (hs : WF dom R s) (hr : WF dom R rhs) :
    ∃ r, s.equal rhs = .ok r ∧ (r = true ↔ SameR R s.members rhs.members) := by
  unfold MSet.equal MSet.size
  by_cases hlen : s.members.length = rhs.members.length
  · obtain ⟨r, hr', hiff⟩ := containsEach_spec hR hr s.members hs.mem_dom
    refine ⟨r, by simp [hlen, hr'], ?_⟩
    rw [hiff]
    constructor
    · intro hsub
      exact ⟨hsub, (subR_length hR _ _ hs.nodup hr.nodup hsub).2 hlen⟩
    · exact fun h => h.1
  · refine ⟨false, ?_, ?_⟩
    · have : ¬ ((s.members.length : Int) = rhs.members.length) := by omega
      simp [this]
    · simp only [Bool.false_eq_true, false_iff]
      rintro ⟨h₁, h₂⟩
      have a := (subR_length hR _ _ hs.nodup hr.nodup h₁).1
      have b := (subR_length hR _ _ hr.nodup hs.nodup h₂).1
      omega

end

end AlgoVerif.C16
