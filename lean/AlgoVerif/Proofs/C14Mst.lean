import AlgoVerif.Proofs.C14Basic
/-!
# C14 proofs — the exchange argument: edges chosen by the cut rule form a minimum spanning forest

Pure edge-list theory (no Model): the exchange step
(`exchange`: in a forest, a crossing edge on the way between the ends of a new edge can be swapped for it),
and `cut_rule_optimal`: if every edge of `T` was, in rank order, a lightest edge crossing the cut
between the vertices ranked before its child and the rest, then `T` weighs no more than any spanning forest
(and is a forest itself: `CutCert.acyc`).
-/
namespace AlgoVerif.C14

theorem Joins.symm {e : Edge} {a b : Nat} (h : Joins e a b) : Joins e b a :=
  h.elim (fun h => .inr ⟨h.2, h.1⟩) (fun h => .inl ⟨h.2, h.1⟩)

theorem Joins.ends (e : Edge) : Joins e e.a e.b := Or.inl ⟨rfl, rfl⟩

theorem Joins.same {e : Edge} {a b c d : Nat} (h : Joins e a b) (h' : Joins e c d) :
    (a = c ∧ b = d) ∨ (a = d ∧ b = c) := by
  rcases h with ⟨rfl, rfl⟩ | ⟨rfl, rfl⟩ <;> rcases h' with ⟨h1, h2⟩ | ⟨h1, h2⟩
  · exact .inl ⟨h1, h2⟩
  · exact .inr ⟨h2, h1⟩
  · exact .inr ⟨h2, h1⟩
  · exact .inl ⟨h1, h2⟩

theorem joins_fun {e : Edge} {w p p' : Nat} (h : Joins e w p) (h' : Joins e w p') : p = p' :=
  (h.same h').elim (·.2) fun k => k.2.trans k.1

theorem Joins.ne_zero {e : Edge} {a b : Nat} (h : Joins e a b) (hab : a ≠ b) : e ≠ Edge.zero := by
  rintro rfl
  rcases h with ⟨rfl, rfl⟩ | ⟨rfl, rfl⟩ <;> exact hab rfl

theorem EAdj.symm {F : List Edge} {a b : Nat} (h : EAdj F a b) : EAdj F b a := by
  obtain ⟨e, he, hj⟩ := h; exact ⟨e, he, hj.symm⟩

theorem EConn.symm {F : List Edge} {a b : Nat} (h : EConn F a b) : EConn F b a :=
  Reach.symm (fun _ _ h => EAdj.symm h) h

theorem Joins.econn_iff {F : List Edge} {e : Edge} {p w : Nat} (hj : Joins e p w) :
    EConn F p w ↔ EConn F e.a e.b := by
  rcases hj with ⟨rfl, rfl⟩ | ⟨rfl, rfl⟩
  · exact Iff.rfl
  · exact ⟨EConn.symm, EConn.symm⟩

theorem EConn.mono {F F' : List Edge} (hs : ∀ e ∈ F, e ∈ F') {a b : Nat} (h : EConn F a b) : EConn F' a b :=
  Reach.mono (fun _ _ ⟨e, he, hj⟩ => ⟨e, hs e he, hj⟩) h

theorem EConn.edge {F : List Edge} {e : Edge} {a b : Nat} (he : e ∈ F) (hj : Joins e a b) : EConn F a b :=
  Reach.single ⟨e, he, hj⟩

theorem mem_erase_nodup {F : List Edge} (hn : F.Nodup) {x f : Edge} : x ∈ F.erase f ↔ x ≠ f ∧ x ∈ F :=
  List.Nodup.mem_erase_iff hn

theorem erase_sub {F : List Edge} {f x : Edge} (h : x ∈ F.erase f) : x ∈ F := List.mem_of_mem_erase h

theorem EConn.split {F : List Edge} (hn : F.Nodup) {f : Edge} {x y : Nat} (h : EConn F x y) :
    EConn (F.erase f) x y ∨ ∃ c d, Joins f c d ∧ EConn (F.erase f) x c ∧ EConn (F.erase f) d y := by
  induction h with
  | refl => exact Or.inl (.refl _)
  | @tail v z _ hvz ih =>
    obtain ⟨e', he', hj'⟩ := hvz
    by_cases hef : e' = f
    · subst hef
      rcases ih with h1 | ⟨c, d, hj, h1, h2⟩
      · exact Or.inr ⟨v, z, hj', h1, .refl _⟩
      · rcases hj'.same hj with ⟨rfl, rfl⟩ | ⟨rfl, rfl⟩
        · exact Or.inl (h1.trans h2.symm)
        · exact Or.inl h1
    · have hm : e' ∈ F.erase f := (mem_erase_nodup hn).2 ⟨hef, he'⟩
      rcases ih with h1 | ⟨c, d, hj, h1, h2⟩
      · exact Or.inl (.tail h1 ⟨e', hm, hj'⟩)
      · exact Or.inr ⟨c, d, hj, h1, .tail h2 ⟨e', hm, hj'⟩⟩

theorem EConn.crossing {F : List Edge} {S : Nat → Prop} {p w : Nat} (h : EConn F p w) (hp : S p) (hw : ¬ S w) :
    ∃ f ∈ F, ∃ a b, Joins f a b ∧ S a ∧ ¬ S b := by
  induction h with
  | refl => exact absurd hp hw
  | @tail v z _ hvz ih =>
    by_cases hv : S v
    · obtain ⟨e, he, hj⟩ := hvz
      exact ⟨e, he, v, z, hj, hv, hw⟩
    · exact ih hv

theorem Acyc.erase {F : List Edge} (h : Acyc F) (f : Edge) : Acyc (F.erase f) := by
  refine ⟨h.1.erase f, fun e he hc => h.2 e (erase_sub he) (hc.mono fun x hx => ?_)⟩
  exact erase_sub (List.erase_comm f e ▸ hx)

theorem Acyc.separating {S : Nat → Prop} {p w : Nat} (hp : S p) (hw : ¬ S w) :
    ∀ (k : Nat) (F : List Edge), F.length = k → Acyc F → EConn F p w →
      ∃ f ∈ F, ∃ a b, Joins f a b ∧ S a ∧ ¬ S b ∧ ¬ EConn (F.erase f) p w := by
  intro k
  induction k with
  | zero =>
    intro F hl _ hc
    have : F = [] := List.length_eq_zero_iff.1 hl
    subst this
    obtain ⟨f, hf, _⟩ := hc.crossing hp hw
    simp at hf
  | succ k ih =>
    intro F hl hac hc
    obtain ⟨f1, hf1, a1, b1, hj1, ha1, hb1⟩ := hc.crossing hp hw
    by_cases hsep : EConn (F.erase f1) p w
    · -- f1 does not separate: look in the smaller forest
      have hl' : (F.erase f1).length = k := by rw [List.length_erase_of_mem hf1, hl]; rfl
      obtain ⟨f2, hf2, a2, b2, hj2, ha2, hb2, hsep2⟩ := ih (F.erase f1) hl' (hac.erase f1) hsep
      have hf2F : f2 ∈ F := erase_sub hf2
      have hne : f2 ≠ f1 := ((mem_erase_nodup hac.1).1 hf2).1
      refine ⟨f2, hf2F, a2, b2, hj2, ha2, hb2, ?_⟩
      intro hc2
      -- H = F − f1 − f2
      have hcomm : ∀ x, x ∈ (F.erase f2).erase f1 → x ∈ (F.erase f1).erase f2 :=
        fun x hx => List.erase_comm f2 f1 ▸ hx
      have hf1' : f1 ∈ F.erase f2 := (mem_erase_nodup hac.1).2 ⟨fun e => hne e.symm, hf1⟩
      rcases (EConn.split (hac.1.erase f2) (f := f1) hc2) with h1 | ⟨x1, y1, hjx, h1, h2⟩
      · exact hsep2 (h1.mono hcomm)
      · rcases (EConn.split (hac.1.erase f1) (f := f2) hsep) with h3 | ⟨x2, y2, hjy, h3, h4⟩
        · exact hsep2 h3
        · -- x1 ~ p ~ x2 and y1 ~ w ~ y2 in H, and f2 joins x2, y2: the ends of f1 are connected without f1
          have hx : EConn ((F.erase f1).erase f2) x1 x2 := (h1.mono hcomm).symm.trans h3
          have hy : EConn ((F.erase f1).erase f2) y2 y1 := h4.trans (h2.mono hcomm).symm
          have hsub : ∀ e ∈ (F.erase f1).erase f2, e ∈ F.erase f1 := fun e he => erase_sub he
          have hcyc : EConn (F.erase f1) x1 y1 :=
            ((hx.mono hsub).trans (EConn.edge hf2 hjy)).trans (hy.mono hsub)
          exact hac.2 f1 hf1 (hjx.econn_iff.1 hcyc)
    · exact ⟨f1, hf1, a1, b1, hj1, ha1, hb1, hsep⟩

theorem Acyc.exchange {F : List Edge} (hac : Acyc F) {e f : Edge} {p w : Nat} (he : e ∉ F) (hj : Joins e p w)
    (hf : f ∈ F) (hc : EConn F p w) (hsep : ¬ EConn (F.erase f) p w) :
    Acyc (e :: F.erase f) ∧ ∀ x y, EConn F x y → EConn (e :: F.erase f) x y := by
  have hne : e ∉ F.erase f := fun h => he (erase_sub h)
  have hsubF' : ∀ x ∈ F.erase f, x ∈ e :: F.erase f := fun x hx => List.mem_cons_of_mem _ hx
  obtain ⟨c, d, hjf, hpc, hdw⟩ := (EConn.split hac.1 (f := f) hc).resolve_left hsep
  have hcd : EConn (e :: F.erase f) c d :=
    ((hpc.mono hsubF').symm.trans (EConn.edge (List.mem_cons_self ..) hj)).trans (hdw.mono hsubF').symm
  constructor
  · refine ⟨List.nodup_cons.2 ⟨hne, hac.1.erase f⟩, ?_⟩
    intro g hg hcon
    rcases List.mem_cons.1 hg with rfl | hg'
    · rw [List.erase_cons_head] at hcon
      exact hsep (hj.econn_iff.2 hcon)
    · have hge : g ≠ e := fun h => hne (h ▸ hg')
      have hgF : g ∈ F := erase_sub hg'
      have hgf : g ≠ f := ((mem_erase_nodup hac.1).1 hg').1
      rw [List.erase_cons_tail (by simpa using fun h => hge h.symm)] at hcon
      have hnd : (e :: (F.erase f).erase g).Nodup :=
        List.nodup_cons.2 ⟨fun h => hne (erase_sub h), (hac.1.erase f).erase g⟩
      have hK : ∀ x ∈ (F.erase f).erase g, x ∈ F.erase g :=
        fun x hx => erase_sub (List.erase_comm f g ▸ hx)
      have hKf : ∀ x ∈ (F.erase f).erase g, x ∈ F.erase f := fun x hx => erase_sub hx
      rcases EConn.split hnd (f := e) hcon with h | ⟨c', d', hj', h1, h2⟩
      · rw [List.erase_cons_head] at h
        exact hac.2 g hgF (h.mono hK)
      · rw [List.erase_cons_head] at h1 h2
        -- p ~ g.a -g- g.b ~ w inside F − f
        have hg1 : EConn (F.erase f) g.a c' := h1.mono hKf
        have hg2 : EConn (F.erase f) d' g.b := h2.mono hKf
        have hgg : EConn (F.erase f) g.a g.b := EConn.edge hg' (Joins.ends g)
        have : EConn (F.erase f) c' d' := (hg1.symm.trans hgg).trans hg2.symm
        exact hsep (hj.econn_iff.2 (hj'.econn_iff.1 this))
  · intro x y hxy
    refine Reach.closed (S := fun z => EConn (e :: F.erase f) x z) ?_ hxy (.refl _)
    intro a b ha ⟨g, hg, hjg⟩
    by_cases hgf : g = f
    · subst hgf
      exact ha.trans (hjg.econn_iff.2 (hjf.econn_iff.1 hcd))
    · exact .tail ha ⟨g, hsubF' g ((mem_erase_nodup hac.1).2 ⟨hgf, hg⟩), hjg⟩

/-- the Spec names the weight of an edge list twice: `wsum` where the list is a forest, `walkWeight` where it is a walk -/
theorem wsum_eq_walkWeight : wsum = walkWeight := rfl

theorem wsum_cons (e : Edge) (F : List Edge) : wsum (e :: F) = e.w + wsum F := by
  simp [wsum]

theorem wsum_perm {T F : List Edge} (h : T.Perm F) : wsum T = wsum F := by
  induction h with
  | nil => rfl
  | cons e _ ih => rw [wsum_cons, wsum_cons, ih]
  | swap e f l => simp only [wsum_cons]; omega
  | trans _ _ ih1 ih2 => exact ih1.trans ih2

theorem wsum_erase {F : List Edge} {f : Edge} (hf : f ∈ F) : wsum F = f.w + wsum (F.erase f) :=
  (wsum_perm (List.perm_cons_erase hf)).trans (wsum_cons ..)

/-- what Prim's algorithm leaves behind: `Lk w p e` = "`e` is the tree edge of the child `w`, to its parent
`p`"; `GS` = the edges of the graph -/
structure CutCert (GS : Edge → Prop) (T : List Edge) (rank : Nat → Nat) (Lk : Nat → Nat → Edge → Prop) : Prop where
  nodup : T.Nodup
  link : ∀ e ∈ T, ∃ w p, Lk w p e
  mem : ∀ w p e, Lk w p e → e ∈ T ∧ Joins e w p ∧ GS e ∧ rank p < rank w
  inj : ∀ w p e w' p' e', Lk w p e → Lk w' p' e' → rank w = rank w' → e = e'
  bound : ∃ c, ∀ w p e, Lk w p e → rank w < c
  cut : ∀ w p e, Lk w p e → ∀ f a b, GS f → Joins f a b → rank a < rank w → rank w ≤ rank b → e.w ≤ f.w
  span : ∀ f, GS f → EConn T f.a f.b

/-- from the child `w` of a tree edge, following child links, ranks only grow; that set is closed under the other tree
edges, so these do not connect `w` to its parent -/
theorem CutCert.acyc {GS : Edge → Prop} {T : List Edge} {rank : Nat → Nat} {Lk : Nat → Nat → Edge → Prop}
    (hc : CutCert GS T rank Lk) : Acyc T := by
  refine ⟨hc.nodup, fun e he hcon => ?_⟩
  obtain ⟨w, p, hl⟩ := hc.link e he
  obtain ⟨_, hj, _, hr⟩ := hc.mem w p e hl
  let Up : Nat → Prop := Reach (fun q y => ∃ e', Lk y q e') w
  have hup_rank : ∀ x, Up x → rank w ≤ rank x := fun x hx =>
    Reach.closed (S := fun x => rank w ≤ rank x)
      (fun _ _ ih ⟨_, hl'⟩ => Nat.le_trans ih (Nat.le_of_lt (hc.mem _ _ _ hl').2.2.2)) hx (Nat.le_refl _)
  have hclosed : ∀ a b, Up a → EAdj (T.erase e) a b → Up b := by
    intro a b ha ⟨e', he', hj'⟩
    obtain ⟨y, q, hl'⟩ := hc.link e' (erase_sub he')
    rcases hj'.same (hc.mem _ _ _ hl').2.1 with ⟨rfl, rfl⟩ | ⟨rfl, rfl⟩
    · -- `a` is the child of `e'`: it is not `w` (whose edge is `e`), and the last step to it came from its parent `b`
      cases (ha : Reach _ w a) with
      | refl => exact absurd (hc.inj _ _ _ _ _ _ hl' hl rfl) ((mem_erase_nodup hc.nodup).1 he').1
      | tail h hstep =>
        obtain ⟨e'', h1⟩ := hstep
        cases hc.inj _ _ _ _ _ _ h1 hl' rfl
        rw [← joins_fun (hc.mem _ _ _ h1).2.1 (hc.mem _ _ _ hl').2.1]; exact h
    · exact .tail ha ⟨e', hl'⟩
  exact Nat.not_le.2 hr (hup_rank p (Reach.closed (S := Up) hclosed (hj.econn_iff.2 hcon) (.refl _)))

theorem cut_rule_optimal {GS : Edge → Prop} {T : List Edge} {rank : Nat → Nat} {Lk : Nat → Nat → Edge → Prop}
    (hc : CutCert GS T rank Lk) (F : List Edge) (hac : Acyc F) (hsub : ∀ f ∈ F, GS f)
    (hspan : ∀ f, GS f → EConn F f.a f.b) : wsum T ≤ wsum F := by
  obtain ⟨c, hcb⟩ := hc.bound
  have key : ∀ d i, i + d = c → ∀ F : List Edge, Acyc F → (∀ f ∈ F, GS f) → (∀ f, GS f → EConn F f.a f.b) →
      (∀ w p e, Lk w p e → rank w < i → e ∈ F) → wsum T ≤ wsum F := by
    intro d
    induction d with
    | zero =>
      intro i hi F hac hsub hspan hpre
      have hTF : ∀ e ∈ T, e ∈ F := by
        intro e he
        obtain ⟨w, p, hl⟩ := hc.link e he
        exact hpre w p e hl (by have := hcb w p e hl; omega)
      have hFT : ∀ f ∈ F, f ∈ T := by
        intro f hf
        by_cases hfT : f ∈ T
        · exact hfT
        · exfalso
          apply hac.2 f hf
          refine (hc.span f (hsub f hf)).mono ?_
          intro x hx
          exact (mem_erase_nodup hac.1).2 ⟨fun h => hfT (h ▸ hx), hTF x hx⟩
      exact Int.le_of_eq (wsum_perm ((List.perm_ext_iff_of_nodup hc.nodup hac.1).2 fun e => ⟨hTF e, hFT e⟩))
    | succ d ih =>
      intro i hi F hac hsub hspan hpre
      by_cases hall : ∀ w p e, Lk w p e → rank w = i → e ∈ F
      · apply ih (i + 1) ((Nat.succ_add_eq_add_succ i d).trans hi) F hac hsub hspan
        intro w p e hl hr
        by_cases h : rank w = i
        · exact hall w p e hl h
        · exact hpre w p e hl (Nat.lt_of_le_of_ne (Nat.le_of_lt_succ hr) h)
      · -- the tree edge of rank i is missing from F: exchange
        obtain ⟨w, p, e, hl, hr, heF⟩ : ∃ w p e, Lk w p e ∧ rank w = i ∧ e ∉ F :=
          Classical.byContradiction fun hno => hall fun w p e hl hr =>
            Classical.byContradiction fun he => hno ⟨w, p, e, hl, hr, he⟩
        obtain ⟨_, hj, hge, hrk⟩ := hc.mem w p e hl
        have hconn : EConn F p w := hj.symm.econn_iff.2 (hspan e hge)
        obtain ⟨f, hf, a, b, hjf, ha, hb, hsep⟩ :=
          Acyc.separating (S := fun x => rank x < i) (show rank p < i from hr ▸ hrk) (hr ▸ Nat.lt_irrefl (rank w))
            F.length F rfl hac hconn
        obtain ⟨hac', hconn'⟩ := hac.exchange heF hj.symm hf hconn hsep
        have hw : e.w ≤ f.w := hc.cut w p e hl f a b (hsub f hf) hjf (hr ▸ ha) (hr ▸ Nat.le_of_not_lt hb)
        have hweight : wsum (e :: F.erase f) ≤ wsum F := by
          rw [wsum_cons, wsum_erase hf]; omega
        refine Int.le_trans ?_ hweight
        apply ih (i + 1) ((Nat.succ_add_eq_add_succ i d).trans hi) (e :: F.erase f) hac'
        · intro x hx
          rcases List.mem_cons.1 hx with rfl | h
          · exact hge
          · exact hsub x (erase_sub h)
        · intro x hx; exact hconn' _ _ (hspan x hx)
        · intro w' p' e' hl' hr'
          by_cases h : rank w' = i
          · have := hc.inj w' p' e' w p e hl' hl (h.trans hr.symm)
            rw [this]; exact List.mem_cons_self ..
          · obtain ⟨_, hj', _, hrk'⟩ := hc.mem w' p' e' hl'
            have he'F : e' ∈ F := hpre w' p' e' hl' (Nat.lt_of_le_of_ne (Nat.le_of_lt_succ hr') h)
            have hne : e' ≠ f := by
              intro hef
              subst hef
              rcases hjf.same hj' with ⟨rfl, rfl⟩ | ⟨rfl, rfl⟩ <;> omega
            exact List.mem_cons_of_mem _ ((mem_erase_nodup hac.1).2 ⟨hne, he'F⟩)
  exact key c 0 (Nat.zero_add c) F hac hsub hspan (fun w p e _ h => absurd h (Nat.not_lt_zero _))

end AlgoVerif.C14
