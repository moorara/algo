import AlgoVerif.Proofs.C07Words
import AlgoVerif.Proofs.C07CountList
/-!
# C07 — the LSD radix sorts (`radixsort/lsd.go`): `LSDUint`, `LSDInt`, `LSDString`

The pass, loop and sort theorems take the specification of one key-indexed counting pass (`CountingPassSpec`,
proved in `C07Counting.lean`) as a hypothesis.  A pass replaces the array by the stable bucket
concatenation by one digit, and `bucketConcat_mergeSort` is the LSD principle: applied to the stable
sort (core's `List.mergeSort`) of the input by an order `le`, the pass yields the stable sort by the
order that compares the digit first and falls back on `le`.  So the array is `mergeSort` of the input
by the digits seen so far after every pass, which is the claim after the last one.  Index tags
(`List.mergeSort_zipIdx`) occur only in the proof of that law.
-/
namespace AlgoVerif.C07
open AlgoVerif AlgoVerif.Generated

theorem pass_step (hcp : CountingPassSpec) {α : Type} (key : α → Outcome Int) (k : α → Nat) (R : Nat)
    (rot : Option Bool) (a aux : Array α) (hR : 0 < R) (hrot : rot.isSome → R % 2 = 0)
    (haux : aux.size = a.size)
    (hk : ∀ x, x ∈ a.toList → key x = .ok ((k x : Nat) : Int) ∧ k x < R) :
    ∃ a' aux' c, countingPass key (R : Int) rot a aux 0 ((a.size : Int) - 1) = .ok (a', aux', c) ∧
      a'.size = a.size ∧ aux'.size = a'.size ∧
      a'.toList = bucketConcat k (bucketOrder R rot) a.toList := by
  obtain ⟨a', aux', c, h1, h2, h3, _, _, h6, _⟩ :=
    hcp key k R rot a aux 0 a.size hR hrot (by omega) (by omega)
      (fun i _ h => hk _ (by simp))
  refine ⟨a', aux', c, ?_, h2, by omega, ?_⟩
  · simpa using h1
  · have e1 : a'.extract 0 (0 + a.size) = a' := by simp [← h2]
    have e2 : a.extract 0 (0 + a.size) = a := by simp
    rw [e1, e2] at h6
    exact h6

theorem bucketConcat_map {α β : Type} (g : β → α) (k : α → Nat) (ord : List Nat) (T : List β) :
    bucketConcat k ord (T.map g) = (bucketConcat (fun x => k (g x)) ord T).map g := by
  unfold bucketConcat bucket
  induction ord with
  | nil => rfl
  | cons r ord ih =>
    rw [List.flatMap_cons, List.flatMap_cons, List.map_append, ih, List.filter_map]
    rfl

variable {α : Type}

theorem eq_mergeSort_of_tagged {le : α → α → Bool}
    (htr : ∀ a b c, le a b = true → le b c = true → le a c = true)
    (hto : ∀ a b, (le a b || le b a) = true)
    {l : List α} {T : List (α × Nat)} (hp : T.Perm l.zipIdx)
    (hs : T.Pairwise (fun x y => List.zipIdxLE le x y = true)) :
    T.map (·.1) = l.mergeSort le := by
  rw [← List.mergeSort_zipIdx]
  congr 1
  refine List.Perm.eq_of_pairwise (le := fun a b => List.zipIdxLE le a b = true) ?_ hs
    (List.pairwise_mergeSort (List.zipIdxLE_trans htr) (List.zipIdxLE_total hto) _)
    (hp.trans (List.mergeSort_perm _ _).symm)
  intro a b ha hb hab hba
  have ha' := List.mem_zipIdx_iff_getElem?.1 (hp.mem_iff.1 ha)
  have hb' := List.mem_zipIdx_iff_getElem?.1 (List.mem_mergeSort.1 hb)
  simp only [List.zipIdxLE] at hab hba
  have h2 : a.2 = b.2 := by
    cases h1 : le a.1 b.1 <;> cases h2 : le b.1 a.1 <;> simp [h1, h2] at hab hba
    omega
  rw [h2, hb'] at ha'
  exact Prod.ext (Option.some.inj ha').symm h2

/-- **The LSD step.**  `le'` refines `le` by the bucket rank of the key `k`: equal keys compare as under
`le`, a smaller rank wins. -/
theorem bucketConcat_mergeSort {le le' : α → α → Bool}
    (htr : ∀ a b c, le a b = true → le b c = true → le a c = true)
    (hto : ∀ a b, (le a b || le b a) = true)
    (htr' : ∀ a b c, le' a b = true → le' b c = true → le' a c = true)
    (hto' : ∀ a b, (le' a b || le' b a) = true)
    (k : α → Nat) (ρ : Nat → Nat) {ord : List Nat} (hord : ord.Pairwise (fun r s => ρ r < ρ s))
    (l : List α) (hk : ∀ x, x ∈ l → k x ∈ ord)
    (hsame : ∀ x, x ∈ l → ∀ y, y ∈ l → k x = k y → le' x y = le x y)
    (hlt : ∀ x, x ∈ l → ∀ y, y ∈ l → ρ (k x) < ρ (k y) → le' x y = true ∧ le' y x = false) :
    bucketConcat k ord (l.mergeSort le) = l.mergeSort le' := by
  have hnd : ord.Nodup := hord.imp (fun {r s} h e => by subst e; exact Nat.lt_irrefl _ h)
  have hmem : ∀ {r} {x : α × Nat}, x ∈ bucket (fun x => k x.1) (l.zipIdx.mergeSort (List.zipIdxLE le)) r → x.1 ∈ l :=
    fun hx => (List.mem_zipIdx' (List.mem_mergeSort.1 (mem_bucket.1 hx).1)).2 ▸ List.getElem_mem _
  rw [← List.mergeSort_zipIdx (le := le), bucketConcat_map]
  refine eq_mergeSort_of_tagged htr' hto' ?_ ?_
  · refine (bucketConcat_perm _ _ _ hnd ?_).trans (List.mergeSort_perm _ _)
    intro x hx
    exact hk _ ((List.mem_zipIdx' (List.mem_mergeSort.1 hx)).2 ▸ List.getElem_mem _)
  · have hs := List.pairwise_mergeSort (List.zipIdxLE_trans htr) (List.zipIdxLE_total hto) l.zipIdx
    unfold bucketConcat
    rw [List.pairwise_flatMap]
    constructor
    · intro r _
      refine List.Pairwise.imp_of_mem ?_ (hs.filter _)
      intro x y hx hy hxy
      have e : k x.1 = k y.1 := by rw [(mem_bucket.1 hx).2, (mem_bucket.1 hy).2]
      simpa only [List.zipIdxLE, hsame _ (hmem hx) _ (hmem hy) e, hsame _ (hmem hy) _ (hmem hx) e.symm] using hxy
    · refine hord.imp ?_
      intro r s hrs x hx y hy
      have := hlt x.1 (hmem hx) y.1 (hmem hy) (by rw [(mem_bucket.1 hx).2, (mem_bucket.1 hy).2]; exact hrs)
      simp [List.zipIdxLE, this.1, this.2]

theorem bucketConcat_mergeSort_key (K : α → Nat) (M : Nat) (hK : ∀ x, K x < M) (k : α → Nat) (ρ : Nat → Nat)
    {ord : List Nat} (hord : ord.Pairwise (fun r s => ρ r < ρ s)) (l : List α) (hk : ∀ x, x ∈ l → k x ∈ ord) :
    bucketConcat k ord (l.mergeSort (keyLe K)) = l.mergeSort (keyLe (fun x => ρ (k x) * M + K x)) := by
  refine bucketConcat_mergeSort (keyLe_trans K) (keyLe_total K) (keyLe_trans _) (keyLe_total _) k ρ hord l hk ?_ ?_
  · intro x _ y _ e
    simp only [keyLe, e, Nat.add_le_add_iff_left]
  · intro x _ y _ h
    have := mul_add_lt h (hK x) (K y)
    simp only [keyLe, decide_eq_true_eq, decide_eq_false_iff_not]
    omega

/-- the key the array is sorted by before pass `d` of `LSDInt` / `LSDUint` -/
def wkey (signed : Bool) (d : Nat) (v : UInt64) : Nat :=
  if signed = true ∧ d = 8 then skey v else low v d

def wrot (signed : Bool) (d : Nat) : Option Bool := if signed = true ∧ d = 7 then some false else none

theorem wkey_lt (signed : Bool) (d : Nat) (hd : d < 8) (v : UInt64) : wkey signed d v < 256 ^ d := by
  unfold wkey
  rw [if_neg (by omega)]
  exact low_lt v d

theorem wkey_succ (signed : Bool) (d : Nat) (hd : d < 8) (v : UInt64) :
    wkey signed (d + 1) v = rotRank 256 (wrot signed d) (dig v d) * 256 ^ d + wkey signed d v := by
  unfold wkey wrot
  rw [if_neg (by omega : ¬ (signed = true ∧ d = 8))]
  by_cases h : signed = true ∧ d = 7
  · obtain ⟨h1, h2⟩ := h
    subst h2
    simp only [h1, and_self, ↓reduceIte, rotRank]
    exact skey_eq v
  · rw [if_neg (fun hh => h ⟨hh.1, by omega⟩), if_neg h]
    exact low_succ v d

theorem wkey_zero (signed : Bool) (v : UInt64) : wkey signed 0 v = 0 := by
  unfold wkey
  rw [if_neg (by omega)]
  exact low_zero v

/-- `8 256 8` are `W R BYTE_SIZE` of lsd.go (`Generated.radixsort_LSDUint_*`, the same for `LSDInt`; `lsdUint` /
`lsdInt` unfold to these literals). -/
theorem lsdWordLoop_spec (hcp : CountingPassSpec) (signed : Bool) (l : List UInt64) :
    ∀ (f d : Nat) (a aux : Array UInt64), d ≤ 8 → 8 < f + d → aux.size = a.size →
      a.toList = l.mergeSort (keyLe (wkey signed d)) →
      ∃ out, lsdWordLoop signed 8 256 8 f (d : Int) a aux = .ok out ∧
        out.toList = l.mergeSort (keyLe (wkey signed 8)) := by
  intro f
  induction f with
  | zero => intro d a aux _ h; omega
  | succ f ih =>
    intro d a aux hd hf haux hsorted
    unfold lsdWordLoop
    by_cases hlt : d < 8
    · have hlt' : (d : Int) < 8 := by omega
      simp only [hlt', ↓reduceIte]
      have hrot : (if (signed && (d : Int) == 8 - 1) = true then some false else none) = wrot signed d := by
        unfold wrot
        by_cases h : signed = true ∧ d = 7
        · obtain ⟨h1, h2⟩ := h; subst h1; subst h2; rfl
        · rw [if_neg h, if_neg]
          simp only [Bool.and_eq_true, beq_iff_eq]
          exact fun hh => h ⟨hh.1, by omega⟩
      rw [hrot]
      obtain ⟨a', aux', c, h1, h2, h3, h4⟩ := pass_step hcp (fun v => digitAt v (8 * (d : Int)))
        (fun v => dig v d) 256 (wrot signed d) a aux (by decide) (fun _ => rfl) haux
        (fun x _ => ⟨digitAt_of_eq x _ d hlt rfl, dig_lt x d⟩)
      have h1' : countingPass (fun v => digitAt v (8 * (d : Int))) 256 (wrot signed d) a aux 0
          ((a.size : Int) - 1) = .ok (a', aux', c) := h1
      rw [h1']
      simp only [ok_bind]
      refine ih (d + 1) a' aux' (by omega) (by omega) h3 ?_
      rw [h4, hsorted, bucketConcat_mergeSort_key _ (256 ^ d) (wkey_lt signed d hlt) _ _
        (bucketOrder_pairwise 256 (wrot signed d) (fun _ => rfl)) l
        (fun x _ => (mem_bucketOrder _ _ _).2 (dig_lt x d))]
      exact congrArg (fun K => l.mergeSort (keyLe K)) (funext fun v => (wkey_succ signed d hlt v).symm)
    · have hlt' : ¬ (d : Int) < 8 := by omega
      simp only [hlt', ↓reduceIte]
      have : d = 8 := by omega
      subst this
      exact ⟨a, rfl, hsorted⟩

theorem wkey_eight (signed : Bool) : wkey signed 8 = wk signed := by
  funext v
  cases signed <;> simp [wkey, wk, low_eight]

theorem lsdWord_spec (hcp : CountingPassSpec) (signed : Bool) (a : Array UInt64) :
    ∃ out, lsdWordLoop signed 8 256 8 (8 + 1) 0 a (Array.replicate a.size 0) = .ok out ∧
      out.toList = a.toList.mergeSort (keyLe (wk signed)) :=
  wkey_eight signed ▸ lsdWordLoop_spec hcp signed a.toList (8 + 1) 0 a _ (by omega) (by omega) (by simp)
    (List.mergeSort_of_pairwise (List.pairwise_of_forall fun x y => by simp [keyLe, wkey_zero])).symm

theorem lsdUint_spec (hcp : CountingPassSpec) (a : Array UInt64) :
    ∃ out, lsdUint a = .ok out ∧ out.toList = a.toList.mergeSort uLe :=
  uLe_eq_keyLe ▸ lsdWord_spec hcp false a

theorem lsdInt_spec (hcp : CountingPassSpec) (a : Array UInt64) :
    ∃ out, lsdInt a = .ok out ∧ out.toList = a.toList.mergeSort iLe :=
  iLe_eq_keyLe ▸ lsdWord_spec hcp true a

def byteN (s : List UInt8) (j : Nat) : Nat :=
  match s[j]? with
  | some b => b.toNat
  | none => 0

theorem byteN_lt (s : List UInt8) (j : Nat) : byteN s j < 256 := by
  unfold byteN
  split
  · rename_i b _; exact b.toNat_lt
  · omega

theorem byteN_eq (s : List UInt8) (j : Nat) (h : j < s.length) : byteN s j = s[j].toNat := by
  unfold byteN
  rw [List.getElem?_eq_getElem h]

theorem byteAt_ok (s : List UInt8) (j : Nat) (h : j < s.length) :
    byteAt (j : Int) s = .ok ((byteN s j : Nat) : Int) := by
  unfold byteAt byteN
  rw [if_pos (by omega), Int.toNat_natCast, List.getElem?_eq_getElem h]

/-- the bytes `[w-n, w)` of `s` -/
def sfx (w n : Nat) (s : List UInt8) : List UInt8 := (s.take w).drop (w - n)

/-- the order `LSDString` has established after `n` passes -/
def sufLe (w n : Nat) (s t : List UInt8) : Bool := bytesLe (sfx w n s) (sfx w n t)

theorem sufLe_trans (w n : Nat) (a b c : List UInt8) :
    sufLe w n a b = true → sufLe w n b c = true → sufLe w n a c = true := bytesLe_trans _ _ _

theorem sufLe_total (w n : Nat) (a b : List UInt8) : (sufLe w n a b || sufLe w n b a) = true := bytesLe_total _ _

theorem sfx_succ {w n : Nat} {s : List UInt8} (hn : n < w) (hw : w ≤ s.length) :
    sfx w (n + 1) s = s[w - (n + 1)] :: sfx w n s := by
  have hlen : (s.take w).length = w := by simp; omega
  unfold sfx
  rw [List.drop_eq_getElem_cons (by omega), List.getElem_take, show w - (n + 1) + 1 = w - n by omega]

theorem sufLe_succ {w n : Nat} {s t : List UInt8} (hn : n < w) (hs : w ≤ s.length) (ht : w ≤ t.length) :
    (byteN s (w - (n + 1)) = byteN t (w - (n + 1)) → sufLe w (n + 1) s t = sufLe w n s t) ∧
    (byteN s (w - (n + 1)) < byteN t (w - (n + 1)) → sufLe w (n + 1) s t = true ∧ sufLe w (n + 1) t s = false) := by
  rw [byteN_eq s _ (by omega), byteN_eq t _ (by omega)]
  simp only [sufLe, sfx_succ hn hs, sfx_succ hn ht, bytesLe]
  constructor
  · intro h
    rw [UInt8.toNat_inj.1 h, if_neg (UInt8.lt_irrefl _), if_neg (UInt8.lt_irrefl _)]
  · intro h
    have h3 : ¬ t[w - (n + 1)] < s[w - (n + 1)] := fun h' => by
      have := UInt8.lt_iff_toNat_lt.1 h'; omega
    rw [if_pos (UInt8.lt_iff_toNat_lt.2 h), if_neg h3, if_pos (UInt8.lt_iff_toNat_lt.2 h)]
    exact ⟨rfl, rfl⟩

theorem lsdStringLoop_spec (hcp : CountingPassSpec) (w : Nat) (l : List (List UInt8))
    (hw : ∀ s, s ∈ l → w ≤ s.length) :
    ∀ (f n : Nat) (a aux : Array (List UInt8)), n ≤ w → w < f + n → aux.size = a.size →
      a.toList = l.mergeSort (sufLe w n) →
      ∃ out, lsdStringLoop f ((w : Int) - (n : Int) - 1) a aux = .ok out ∧
        out.toList = l.mergeSort (sufLe w w) := by
  intro f
  induction f with
  | zero => intro n a aux _ h; omega
  | succ f ih =>
    intro n a aux hn hf haux hsorted
    unfold lsdStringLoop
    by_cases hlt : n < w
    · have hge : (w : Int) - (n : Int) - 1 ≥ 0 := by omega
      have ed : (w : Int) - (n : Int) - 1 = ((w - (n + 1) : Nat) : Int) := by omega
      simp only [hge, ↓reduceIte]
      obtain ⟨a', aux', c, h1, h2, h3, h4⟩ := pass_step hcp (byteAt ((w - (n + 1) : Nat) : Int))
        (fun s => byteN s (w - (n + 1))) radixsort_LSDString_R none a aux (by decide) (by simp) haux
        (fun x hx => by
          have := hw x (List.mem_mergeSort.1 (hsorted ▸ hx))
          exact ⟨byteAt_ok x _ (by omega), byteN_lt x _⟩)
      rw [ed, h1]
      simp only [ok_bind]
      have e : (((w - (n + 1) : Nat) : Int) - 1) = (w : Int) - ((n + 1 : Nat) : Int) - 1 := by omega
      rw [e]
      refine ih (n + 1) a' aux' (by omega) (by omega) h3 ?_
      rw [h4, hsorted]
      refine bucketConcat_mergeSort (sufLe_trans w n) (sufLe_total w n) (sufLe_trans w _) (sufLe_total w _) _ _
        (bucketOrder_pairwise _ none (by simp)) l (fun x _ => (mem_bucketOrder _ _ _).2 (byteN_lt x _)) ?_ ?_
      · exact fun x hx y hy => (sufLe_succ hlt (hw x hx) (hw y hy)).1
      · exact fun x hx y hy => (sufLe_succ hlt (hw x hx) (hw y hy)).2
    · have hge : ¬ ((w : Int) - (n : Int) - 1 ≥ 0) := by omega
      simp only [hge, ↓reduceIte]
      have : n = w := by omega
      subst this
      exact ⟨a, rfl, hsorted⟩

theorem lsdString_spec (hcp : CountingPassSpec) (a : Array (List UInt8)) (w : Nat)
    (hw : ∀ s, s ∈ a.toList → w ≤ s.length) :
    ∃ out, lsdString a (w : Int) = .ok out ∧ out.toList = a.toList.mergeSort (prefixLe w) := by
  obtain ⟨out, h1, h2⟩ := lsdStringLoop_spec hcp w a.toList hw (w + 1) 0 a (Array.replicate a.size [])
    (by omega) (by omega) (by simp)
    (List.mergeSort_of_pairwise (List.pairwise_of_forall fun x y => by simp [sufLe, sfx, bytesLe])).symm
  refine ⟨out, ?_, h2.trans (congrArg _ ?_)⟩
  · unfold lsdString
    rw [Int.toNat_natCast]
    simpa using h1
  · funext x y
    simp [sufLe, sfx, prefixLe]

theorem lsdString_fixed_spec (hcp : CountingPassSpec) (a : Array (List UInt8)) (w : Nat)
    (hw : ∀ s, s ∈ a.toList → s.length = w) :
    ∃ out, lsdString a (w : Int) = .ok out ∧ out.toList = a.toList.mergeSort bytesLe := by
  obtain ⟨out, h1, h2⟩ := lsdString_spec hcp a w (fun s hs => Nat.le_of_eq (hw s hs).symm)
  refine ⟨out, h1, ?_⟩
  rw [h2]
  have := List.map_mergeSort (f := id) (r := prefixLe w) (s := bytesLe) (l := a.toList)
    (fun x hx y hy => by
      unfold prefixLe
      rw [List.take_of_length_le (Nat.le_of_eq (hw x hx)), List.take_of_length_le (Nat.le_of_eq (hw y hy))]
      rfl)
  simpa using this

end AlgoVerif.C07
