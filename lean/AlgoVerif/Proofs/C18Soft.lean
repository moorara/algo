import AlgoVerif.Proofs.C18Core
/-!
# C18 — the soft queue refines (all values ever enqueued, number dequeued); positions are stable
-/
namespace AlgoVerif.C18
variable {α : Type}

structure SoftQueue.Rel (q : SoftQueue α) (t : Spec.SQ α) : Prop where
  all : t.all = q.list
  rear : q.rear = (q.list.length : Int) - 1
  front_nonneg : 0 ≤ q.front
  front_le : q.front ≤ q.list.length
  front : t.front = q.front.toNat

theorem SoftQueue.new_rel : SoftQueue.Rel (SoftQueue.new : SoftQueue α) {} := by
  constructor <;> simp [SoftQueue.new]

theorem SoftQueue.Rel.front_cases {q : SoftQueue α} {t : Spec.SQ α} (h : SoftQueue.Rel q t) :
    (q.isEmpty = true ∧ t.all[t.front]? = none) ∨
      ∃ x, q.isEmpty = false ∧ q.cell = .ok x ∧ t.all[t.front]? = some x ∧ q.front = t.front := by
  obtain ⟨hall, hrear, hf0, hfl, hfront⟩ := h
  obtain ⟨f, hf⟩ : ∃ f : Nat, q.front = f := ⟨q.front.toNat, (Int.toNat_of_nonneg hf0).symm⟩
  rw [hf, Int.toNat_natCast] at hfront
  rw [hf] at hfl
  simp only [SoftQueue.isEmpty, SoftQueue.cell, hrear, hall, hfront, hf, Int.natCast_nonneg, if_true,
    Int.toNat_natCast, decide_eq_true_eq, decide_eq_false_iff_not]
  by_cases he : f < q.list.length
  · exact .inr ⟨q.list[f], Int.not_lt.2 (Int.le_sub_one_of_lt (Int.ofNat_lt.2 he)), by rw [List.getElem?_eq_getElem he],
      List.getElem?_eq_getElem he, trivial⟩
  · exact .inl ⟨Int.sub_one_lt_of_le (Int.ofNat_le.2 (Nat.le_of_not_lt he)), List.getElem?_eq_none (Nat.le_of_not_lt he)⟩

theorem SoftQueue.step_refines (eq : α → α → Bool) (q : SoftQueue α) (t : Spec.SQ α) (op : SoftOp α)
    (h : SoftQueue.Rel q t) :
    ∃ q', SoftQueue.step eq q op = .ok (q', (Spec.SQ.step eq t op).2) ∧
      SoftQueue.Rel q' (Spec.SQ.step eq t op).1 := by
  have hc := h.front_cases
  have ⟨hall, hrear, hf0, hfl, hfront⟩ := h
  cases op with
  | enq v =>
    simp only [SoftQueue.step, Spec.SQ.step, SoftQueue.enqueue, Spec.SQ.enqueue]
    by_cases h1 : (q.list ++ [v]).length = 1
    · have hl : q.list = [] := List.eq_nil_of_length_eq_zero (by rw [List.length_append] at h1; exact Nat.succ.inj h1)
      rw [if_pos h1]
      refine ⟨_, by rw [hall, hl]; rfl, ?_⟩
      rw [hl] at hfl
      constructor <;> simp [hall, hl, hfront]
      omega
    · rw [if_neg h1]
      refine ⟨_, by rw [hall, hrear]; congr 3; omega, ?_⟩
      constructor <;> simp [hall, hfront, hf0]
      omega
  | deq =>
    simp only [SoftQueue.step, Spec.SQ.step, SoftQueue.dequeue, Spec.SQ.dequeue]
    rcases hc with ⟨he, hg⟩ | ⟨x, he, hx, hg, hcast⟩
    · rw [he, hg]
      exact ⟨q, rfl, h⟩
    · rw [he, hx, hg]
      refine ⟨{ q with front := q.front + 1 }, by rw [hcast]; rfl, hall, hrear, ?_, ?_, ?_⟩
      · exact Int.le_add_one hf0
      · have := (List.getElem?_eq_some_iff.1 (hall ▸ hg)).1
        show q.front + 1 ≤ q.list.length
        rw [hcast]
        exact Int.ofNat_lt.2 this
      · show t.front + 1 = (q.front + 1).toNat
        rw [hcast]
        rfl
  | peek =>
    refine ⟨q, ?_, h⟩
    simp only [SoftQueue.step, Spec.SQ.step, SoftQueue.peek, Spec.SQ.peek]
    rcases hc with ⟨he, hg⟩ | ⟨x, he, hx, hg, hcast⟩
    · rw [he, hg]; rfl
    · rw [he, hx, hg, hcast]; rfl
  | contains v =>
    refine ⟨q, ?_, h⟩
    simp only [SoftQueue.step, SoftQueue.contains, Spec.SQ.step, Spec.SQ.contains, hall]
    cases List.findIdx? (fun x => eq x v) q.list <;> rfl
  | size =>
    refine ⟨q, ?_, h⟩
    simp only [SoftQueue.step, SoftQueue.size, Spec.SQ.step, Spec.SQ.size, hall, hrear, hfront]
    congr 3
    omega
  | isEmpty =>
    refine ⟨q, ?_, h⟩
    simp only [SoftQueue.step, SoftQueue.isEmpty, Spec.SQ.step, Spec.SQ.isEmpty, hall, hrear, hfront]
    congr 3
    rw [decide_eq_decide]
    omega
  | values =>
    exact ⟨q, by rw [SoftQueue.step, SoftQueue.values, Spec.SQ.step, Spec.SQ.values, hall], h⟩

theorem Spec.SQ.step_all (eq : α → α → Bool) (t : Spec.SQ α) (op : SoftOp α) :
    ∃ ext, (Spec.SQ.step eq t op).1.all = t.all ++ ext := by
  cases op with
  | enq v => exact ⟨[v], rfl⟩
  | deq =>
    refine ⟨[], ?_⟩
    simp only [Spec.SQ.step, Spec.SQ.dequeue]
    split <;> simp
  | _ => exact ⟨[], (List.append_nil _).symm⟩

theorem Spec.SQ.final_all (eq : α → α → Bool) (t : Spec.SQ α) (ops : List (SoftOp α)) :
    ∃ ext, (specFinal (Spec.SQ.step eq) t ops).all = t.all ++ ext := by
  induction ops generalizing t with
  | nil => exact ⟨[], by simp [specFinal]⟩
  | cons op ops ih =>
    obtain ⟨e1, h1⟩ := Spec.SQ.step_all eq t op
    obtain ⟨e2, h2⟩ := ih (Spec.SQ.step eq t op).1
    exact ⟨e1 ++ e2, by simp [specFinal, h2, h1]⟩

/-- Spec level: the index returned by `Enqueue v` is where `Values()` holds `v` after any further
history. -/
theorem Spec.SQ.stable_positions (eq : α → α → Bool) (t : Spec.SQ α) (ops₁ : List (SoftOp α)) (v : α)
    (ops₂ : List (SoftOp α)) :
    ∃ (i : Nat) (l : List α),
      (Spec.SQ.run eq t (ops₁ ++ SoftOp.enq v :: (ops₂ ++ [SoftOp.values])))[ops₁.length]? = some (Out.int i) ∧
      (Spec.SQ.run eq t (ops₁ ++ SoftOp.enq v :: (ops₂ ++ [SoftOp.values]))).getLast? = some (Out.list l) ∧
      l[i]? = some v := by
  let t₁ := specFinal (Spec.SQ.step eq) t ops₁
  let t₂ := (Spec.SQ.step eq t₁ (SoftOp.enq v)).1
  obtain ⟨ext, hext⟩ := Spec.SQ.final_all eq t₂ ops₂
  refine ⟨t₁.all.length, (specFinal (Spec.SQ.step eq) t₂ ops₂).all, ?_, ?_, ?_⟩
  · simp only [Spec.SQ.run, runSpec_append, runSpec]
    rw [List.getElem?_append_right (by simp [runSpec_length])]
    simp [runSpec_length, Spec.SQ.step, Spec.SQ.enqueue, t₁]
  · simp only [Spec.SQ.run, runSpec_append, runSpec]
    simp only [Spec.SQ.step, Spec.SQ.values, t₂, t₁]
    rw [← List.cons_append, ← List.append_assoc, List.getLast?_concat]
  · rw [hext]
    simp [t₂, Spec.SQ.step, Spec.SQ.enqueue]

end AlgoVerif.C18
