import AlgoVerif.Proofs.C13Min
/-! C13: the partition-refinement loop of `Minimize`: it returns within its fuel, and the partition it returns is
stable; hence `Minimize` returns and keeps the language (`DFA.minimize_total`, `DFA.minimize_lang`). -/
namespace AlgoVerif.C13
open AlgoVerif AlgoVerif.C13.Spec

/-- `Rep` as an option: `none` for "not in any group" -/
def repO (P : Partition) (t : Int) : Option Int := if P.rep t = -1 then none else some (P.rep t)

theorem sigOf_sorted (P : Partition) (d : DFA) (s : Int) : ASorted (sigOf P d s) := by
  simp only [sigOf]
  cases aget s d.trans with
  | none => simp [ASorted]
  | some v =>
    refine foldl_keeps (fun gs e hgs => ?_) v (by simp [ASorted])
    split
    · exact asorted_aput hgs
    · exact hgs

theorem aget_foldl_sig (P : Partition) (l : List (Int × Int)) (hl : ASorted l) (acc : List (Int × Int)) (a : Int) :
    aget a (l.foldl (fun gs e => if P.rep e.2 ≠ -1 then aput e.1 (P.rep e.2) gs else gs) acc) =
      ((aget a l).bind (repO P)).or (aget a acc) := by
  induction l generalizing acc with
  | nil => rfl
  | cons e l ih =>
    obtain ⟨b, t⟩ := e
    have hl' := List.pairwise_cons.1 hl
    rw [List.foldl_cons, ih hl'.2]
    simp only [aget]
    by_cases hab : a = b
    · subst hab
      have hnone : aget a l = none := by
        cases hg : aget a l with
        | none => rfl
        | some t' => exact absurd (hl'.1 a (List.mem_map.2 ⟨_, aget_mem hg, rfl⟩)) (Int.lt_irrefl a)
      simp only [hnone, if_true, Option.bind_none, Option.none_or, Option.bind_some, repO]
      by_cases hr : P.rep t = -1
      · simp only [hr, ne_eq, not_true, if_false, if_true, Option.none_or]
      · simp only [hr, ne_eq, not_false_iff, if_true, if_false, aget_aput_self, Option.some_or]
    · simp only [if_neg hab]
      congr 1
      split
      · exact aget_aput_ne _ _ hab
      · rfl

theorem aget_sigOf (P : Partition) (d : DFA) (hwf : d.WF) (s a : Int) :
    aget a (sigOf P d s) = (d.δ s a).bind (repO P) := by
  simp only [sigOf, DFA.δ]
  cases hs : aget s d.trans with
  | none => rfl
  | some v => simp only [aget_foldl_sig P v (hwf.2 _ (aget_mem hs)), aget, Option.or_none]

def SigEq (P : Partition) (d : DFA) (s t : Int) : Prop := ∀ a, (d.δ s a).bind (repO P) = (d.δ t a).bind (repO P)

theorem aEqual_iff {σ τ : List (Int × Int)} (hσ : ASorted σ) (hτ : ASorted τ) :
    aEqual (fun (a b : Int) => a == b) σ τ = true ↔ ∀ a, aget a σ = aget a τ := by
  simp only [aEqual, Bool.and_eq_true, List.all_eq_true]
  constructor
  · rintro ⟨h1, h2⟩ a
    cases hs : aget a σ with
    | some v =>
      have := h1 _ (aget_mem hs)
      simp only at this
      cases ht : aget a τ with
      | none => rw [ht] at this; simp at this
      | some v' => rw [ht] at this; simp at this; rw [this]
    | none =>
      cases ht : aget a τ with
      | none => rfl
      | some v' =>
        have := h2 _ (aget_mem ht)
        simp only at this
        rw [hs] at this; simp at this
  · intro h
    constructor
    · intro kv hkv
      obtain ⟨k, v⟩ := kv
      have := (mem_iff_aget hσ k v).1 hkv
      simp only
      rw [← h k, this]; simp
    · intro kv hkv
      obtain ⟨k, v⟩ := kv
      have := (mem_iff_aget hτ k v).1 hkv
      simp only
      rw [h k, this]; simp

theorem sigEq_iff (P : Partition) (d : DFA) (hwf : d.WF) (s t : Int) :
    aEqual (fun (a b : Int) => a == b) (sigOf P d s) (sigOf P d t) = true ↔ SigEq P d s t := by
  rw [aEqual_iff (sigOf_sorted P d s) (sigOf_sorted P d t)]
  simp only [aget_sigOf P d hwf, SigEq]

theorem aput_last {β : Type} (k : Int) (v : β) (l : List (Int × β)) (h : ∀ p ∈ l, p.1 < k) :
    aput k v l = l ++ [(k, v)] := by
  induction l with
  | nil => rfl
  | cons p r ih =>
    have hp := h p List.mem_cons_self
    have hr := ih fun q hq => h q (List.mem_cons_of_mem _ hq)
    obtain ⟨k', v'⟩ := p
    simp only [aput, List.cons_append]
    rw [if_neg (by omega), if_neg (by omega), hr]

theorem buildGroupTrans_eq (P : Partition) (d : DFA) (G : List Int) (hG : SSorted G) :
    P.buildGroupTrans d G = G.map (fun s => (s, sigOf P d s)) := by
  suffices h : ∀ acc : List (Int × List (Int × Int)), (∀ p ∈ acc, ∀ s ∈ G, p.1 < s) →
      G.foldl (fun gt s => aput s (sigOf P d s) gt) acc = acc ++ G.map (fun s => (s, sigOf P d s)) from
    h [] (fun _ hp => (List.not_mem_nil hp).elim)
  induction G with
  | nil => intro acc _; simp
  | cons s G ih =>
    intro acc hacc
    obtain ⟨h1, h2⟩ := List.pairwise_cons.1 hG
    rw [List.foldl_cons, aput_last _ _ _ (fun p hp => hacc p hp s List.mem_cons_self), ih h2, List.map_cons,
      List.append_assoc, List.singleton_append]
    intro p hp t ht
    rcases List.mem_append.1 hp with hp | hp
    · exact hacc p hp t (List.mem_cons_of_mem _ ht)
    · rw [List.mem_singleton.1 hp]; exact h1 t ht

theorem mem_collectSame (σ : List (Int × Int)) (rest : List (Int × List (Int × Int))) (H : List Int) (x : Int) :
    x ∈ collectSame σ rest H ↔ x ∈ H ∨ ∃ τ, (x, τ) ∈ rest ∧ aEqual (fun (a b : Int) => a == b) σ τ = true := by
  rw [collectSame, foldl_grow (fun l x => x ∈ l) (Q := fun p x => x = p.1 ∧ aEqual (fun (a b : Int) => a == b) σ p.2 = true)]
  · refine or_congr_right ⟨?_, ?_⟩
    · rintro ⟨⟨y, τ⟩, h1, rfl, h2⟩; exact ⟨τ, h1, h2⟩
    · rintro ⟨τ, h1, h2⟩; exact ⟨(x, τ), h1, rfl, h2⟩
  · -- a state that is already in `H` is not added again, which changes nothing
    intro H p x
    by_cases hc : aEqual (fun (a b : Int) => a == b) σ p.2 = true
    · by_cases hp : p.1 ∈ H
      · simp only [hc, List.contains_eq_mem, hp, decide_true, Bool.not_true, Bool.and_false, Bool.false_eq_true,
          if_false, and_true]
        exact ⟨Or.inl, fun h => h.elim id (fun h => h ▸ hp)⟩
      · simp [hc, hp, or_comm]
    · simp [hc]

theorem collectSame_sorted (σ : List (Int × Int)) (rest : List (Int × List (Int × Int))) (H : List Int) (h : SSorted H) :
    SSorted (collectSame σ rest H) := by
  refine foldl_keeps (fun H p hH => ?_) rest h
  split
  · exact ssorted_sins hH
  · exact hH

/-- well-formed partition: disjoint sorted groups whose representatives increase along `groups` (`Add` hands out
`nextRep`, counts it up and appends), hence are distinct, lie in `[0, nextRep)` and differ from the `-1` of `Rep` -/
structure PWF (P : Partition) : Prop where
  disj : P.groups.Pairwise (fun G H => ∀ x, x ∈ G.1 → x ∉ H.1)
  reps : (P.groups.map (·.2)).Pairwise (· < ·)
  rng : ∀ G ∈ P.groups, 0 ≤ G.2 ∧ G.2 < P.nextRep
  nn : 0 ≤ P.nextRep
  sorted : ∀ G ∈ P.groups, SSorted G.1

theorem rep_of_mem_aux (groups : List (List Int × Int))
    (hd : groups.Pairwise (fun G H => ∀ x, x ∈ G.1 → x ∉ H.1)) (G : List Int × Int) (hG : G ∈ groups)
    (s : Int) (hs : s ∈ G.1) : groups.find? (fun g => g.1.contains s) = some G := by
  induction groups with
  | nil => simp at hG
  | cons g groups ih =>
    rw [List.pairwise_cons] at hd
    rw [List.find?_cons]
    rcases List.mem_cons.1 hG with rfl | hG
    · simp only [List.contains_eq_mem, hs, decide_true]
    · -- `g` comes before `G`, so it does not hold `s`
      have hg : g.1.contains s = false := by simpa using fun h => hd.1 G hG s h hs
      rw [hg]
      exact ih hd.2 hG

theorem PWF.rep_of_mem {P : Partition} (h : PWF P) {G : List Int × Int} (hG : G ∈ P.groups) {s : Int} (hs : s ∈ G.1) :
    P.rep s = G.2 := by
  simp only [Partition.rep, rep_of_mem_aux P.groups h.disj G hG s hs]

theorem rep_eq_neg_of_not_mem (P : Partition) (s : Int) (h : ∀ G ∈ P.groups, s ∉ G.1) : P.rep s = -1 := by
  have : P.groups.find? (fun g => g.1.contains s) = none := by
    rw [List.find?_eq_none]
    intro G hG; simpa using h G hG
  simp only [Partition.rep, this]

theorem PWF.rep_ne {P : Partition} (h : PWF P) {G : List Int × Int} (hG : G ∈ P.groups) {s : Int} (hs : s ∈ G.1) :
    P.rep s ≠ -1 := by
  rw [h.rep_of_mem hG hs]; have := (h.rng G hG).1; omega

theorem PWF.rep_inj {P : Partition} (h : PWF P) {G H : List Int × Int} (hG : G ∈ P.groups) (hH : H ∈ P.groups)
    (e : G.2 = H.2) : G = H :=
  pairwise_lt_inj (·.2) P.groups h.reps hG hH e

theorem PWF.eq_of_rep_eq {P : Partition} (h : PWF P) {G H : List Int × Int} (hG : G ∈ P.groups) (hH : H ∈ P.groups)
    {s t : Int} (hs : s ∈ G.1) (ht : t ∈ H.1) (e : P.rep s = P.rep t) : G = H :=
  h.rep_inj hG hH (by rw [← h.rep_of_mem hG hs, ← h.rep_of_mem hH ht, e])

theorem PWF.same_group {P : Partition} (h : PWF P) {G H : List Int × Int} (hG : G ∈ P.groups) (hH : H ∈ P.groups)
    {s : Int} (hs1 : s ∈ G.1) (hs2 : s ∈ H.1) : G = H :=
  h.eq_of_rep_eq hG hH hs1 hs2 rfl

theorem PWF.rep_eq_neg_iff {p : Partition} (h : PWF p) (x : Int) : p.rep x = -1 ↔ ∀ K ∈ p.groups, x ∉ K.1 :=
  ⟨fun hx K hK hxK => h.rep_ne hK hxK hx, rep_eq_neg_of_not_mem p x⟩

theorem PWF.groups_nodup {P : Partition} (h : PWF P) : P.groups.Nodup := by
  apply List.nodup_iff_pairwise_ne.2
  have := h.reps
  rw [List.pairwise_map] at this
  exact this.imp (fun h he => by rw [he] at h; omega)

theorem PWF.empty : PWF Partition.empty :=
  ⟨List.Pairwise.nil, List.Pairwise.nil, fun _ h => (List.not_mem_nil h).elim, Int.le_refl 0,
    fun _ h => (List.not_mem_nil h).elim⟩

theorem PWF.add {P : Partition} (h : PWF P) {H : List Int} (hH : SSorted H)
    (hdis : ∀ G ∈ P.groups, ∀ x ∈ G.1, x ∉ H) :
    PWF (P.add H) ∧ (∀ G ∈ (P.add H).groups, G ∈ P.groups ∨ G = (H, P.nextRep)) ∧
    (∀ G ∈ P.groups, G ∈ (P.add H).groups) ∧ (∀ x ∈ H, ∃ G ∈ (P.add H).groups, x ∈ G.1) ∧
    (P.add H).nextRep = P.nextRep + 1 := by
  by_cases hc : P.groups.any (fun g => setEq g.1 H) = true
  · have hadd : P.add H = ⟨P.groups, P.nextRep + 1⟩ := by simp only [Partition.add, hc, if_true]
    rw [hadd]
    refine ⟨⟨h.disj, h.reps, fun G hG => ⟨(h.rng G hG).1, ?_⟩, ?_, h.sorted⟩,
      fun G hG => Or.inl hG, fun G hG => hG, ?_, rfl⟩
    · show G.2 < P.nextRep + 1
      have := (h.rng G hG).2; omega
    · show 0 ≤ P.nextRep + 1
      have := h.nn; omega
    · intro x hx
      simp only [List.any_eq_true] at hc
      obtain ⟨g, hg, hgeq⟩ := hc
      have := (setEq_iff (h.sorted g hg) hH).1 hgeq
      exact ⟨g, hg, by rw [this]; exact hx⟩
  · have hadd : P.add H = ⟨P.groups ++ [(H, P.nextRep)], P.nextRep + 1⟩ := by
      simp only [Partition.add, hc]; rfl
    rw [hadd]
    have hmem : ∀ G, G ∈ P.groups ++ [(H, P.nextRep)] ↔ G ∈ P.groups ∨ G = (H, P.nextRep) := fun G => by
      rw [List.mem_append, List.mem_singleton]
    refine ⟨⟨?_, ?_, ?_, ?_, ?_⟩, fun G hG => (hmem G).1 hG, fun G hG => (hmem G).2 (Or.inl hG),
      fun x hx => ⟨(H, P.nextRep), (hmem _).2 (Or.inr rfl), hx⟩, rfl⟩
    · refine List.pairwise_append.2 ⟨h.disj, List.pairwise_singleton _ _, fun G hG K hK => ?_⟩
      cases List.mem_singleton.1 hK
      exact hdis G hG
    · show ((P.groups ++ [(H, P.nextRep)]).map (·.2)).Pairwise (· < ·)
      rw [List.map_append]
      refine List.pairwise_append.2 ⟨h.reps, List.pairwise_singleton _ _, fun a ha b hb => ?_⟩
      cases List.mem_singleton.1 hb
      obtain ⟨G, hG, rfl⟩ := List.mem_map.1 ha
      exact (h.rng G hG).2
    · intro G hG
      show 0 ≤ G.2 ∧ G.2 < P.nextRep + 1
      rcases (hmem G).1 hG with hG' | rfl
      · have := h.rng G hG'; omega
      · have := h.nn; show 0 ≤ P.nextRep ∧ P.nextRep < P.nextRep + 1; omega
    · show 0 ≤ P.nextRep + 1
      have := h.nn; omega
    · intro G hG
      rcases (hmem G).1 hG with hG' | rfl
      · exact h.sorted G hG'
      · exact hH

theorem SigEq.symm {P : Partition} {d : DFA} {s t : Int} (h : SigEq P d s t) : SigEq P d t s := fun a => (h a).symm
theorem SigEq.trans {P : Partition} {d : DFA} {s t u : Int} (h1 : SigEq P d s t) (h2 : SigEq P d t u) : SigEq P d s u :=
  fun a => (h1 a).trans (h2 a)

/-- what a round makes of `P`: `Pn` splits the groups `done` of `P` by signature.  The round is computed for all groups at
once (`refine_eq`), so this is stated only for `done = P.groups` (`refine_spec`) -/
structure RInv (P : Partition) (d : DFA) (done : List (List Int × Int)) (Pn : Partition) : Prop where
  wf : PWF Pn
  inside : ∀ H ∈ Pn.groups, ∃ G ∈ done, ∀ x ∈ H.1, x ∈ G.1
  covered : ∀ G ∈ done, ∀ s ∈ G.1, ∃ H ∈ Pn.groups, s ∈ H.1
  sig : ∀ H ∈ Pn.groups, ∀ s ∈ H.1, ∀ t ∈ H.1, SigEq P d s t
  nr : Pn.nextRep = (Pn.groups.length : Int)
  ne : ∀ H ∈ Pn.groups, H.1 ≠ []
  sep : ∀ H ∈ Pn.groups, ∀ K ∈ Pn.groups, ∀ x ∈ H.1, ∀ y ∈ K.1, SigEq P d x y →
    (∃ G ∈ done, x ∈ G.1 ∧ y ∈ G.1) → H = K

/-- a group created while processing the group `G`, told by the (state, signature) pairs `BuildGroupTrans` lists for `G`.
The proofs tell these groups by `leaders` and `grpOf` (`leaders_facts`); no lemma is stated with `NewGrp` -/
structure NewGrp (P : Partition) (d : DFA) (G : List Int) (pairs seen : List (Int × List (Int × Int))) (H : List Int) : Prop where
  sub : ∀ x ∈ H, x ∈ G
  seenMem : ∃ pr ∈ seen, pr.1 ∈ H
  closed : ∀ pr ∈ pairs.drop 1, (∃ s' ∈ H, SigEq P d s' pr.1) → pr.1 ∈ H

theorem Partition.add_of_fresh (p : Partition) (H : List Int) (h : ∀ g ∈ p.groups, setEq g.1 H = false) :
    p.add H = ⟨p.groups ++ [(H, p.nextRep)], p.nextRep + 1⟩ := by
  have : p.groups.any (fun g => setEq g.1 H) = false := by
    rw [List.any_eq_false]; intro g hg; simp [h g hg]
  simp only [Partition.add, this]; rfl

/-- the partition with the groups `Bs` appended under the next representatives, as `Add` appends a group that is
not there yet -/
def Partition.append (p : Partition) : List (List Int) → Partition
  | [] => p
  | B :: Bs => Partition.append ⟨p.groups ++ [(B, p.nextRep)], p.nextRep + 1⟩ Bs

theorem Partition.append_facts (p : Partition) (Bs : List (List Int)) :
    ∃ news, (p.append Bs).groups = p.groups ++ news ∧ news.map (·.1) = Bs ∧
      (p.append Bs).nextRep = p.nextRep + Bs.length := by
  induction Bs generalizing p with
  | nil => exact ⟨[], by simp [Partition.append], rfl, by simp [Partition.append]⟩
  | cons B Bs ih =>
    obtain ⟨news, h1, h2, h3⟩ := ih ⟨p.groups ++ [(B, p.nextRep)], p.nextRep + 1⟩
    refine ⟨(B, p.nextRep) :: news, by simp [Partition.append, h1], by simp [h2], ?_⟩
    simp only [Partition.append, h3, List.length_cons]
    omega

section
variable (P : Partition) (d : DFA)

/-- the group `PartitionAndAddGroups` makes for `s` while it processes the sorted group `G`: `s` and the members from
the second on (the inner loop of the Go code starts at `j = 1`) that have the signature of `s` -/
def grpOf (G : List Int) (s : Int) : List Int :=
  collectSame (sigOf P d s) ((G.map (fun s => (s, sigOf P d s))).drop 1) (mkSet [s])

/-- the members of a list for which a group is made, given the earlier ones `acc`: those with no earlier member of
the same signature -/
def leaders (acc : List Int) : List Int → List Int
  | [] => []
  | s :: rest =>
    if acc.any (fun l => aEqual (fun (a b : Int) => a == b) (sigOf P d l) (sigOf P d s)) then leaders acc rest
    else s :: leaders (acc ++ [s]) rest

theorem mem_grpOf (hwf : d.WF) (G : List Int) (s x : Int) :
    x ∈ grpOf P d G s ↔ x = s ∨ (x ∈ G.drop 1 ∧ SigEq P d s x) := by
  rw [grpOf, mem_collectSame, ← List.map_drop]
  simp only [mem_mkSet, List.mem_cons, List.not_mem_nil, or_false, List.mem_map, Prod.mk.injEq]
  refine or_congr_right ⟨?_, fun ⟨h1, h2⟩ => ⟨_, ⟨x, h1, rfl, rfl⟩, (sigEq_iff P d hwf s x).2 h2⟩⟩
  rintro ⟨τ, ⟨y, hy, rfl, rfl⟩, h⟩
  exact ⟨hy, (sigEq_iff P d hwf s y).1 h⟩

/-- The loop of `PartitionAndAddGroups` over the members of `G`, from the point where `seen` is done and `acc` are the
leaders so far.  A member of `G` is in a group exactly if a leader so far has its signature, so a group is made exactly
for the leaders; such a group holds every member with that signature, the first member of `G` included, since that one
is a leader itself. -/
theorem paag_loop (hwf : d.WF) (G : List Int) (rest seen acc : List Int) (p : Partition)
    (hsplit : G = seen ++ rest) (hp : PWF p)
    (hin : ∀ x ∈ G, (∃ K ∈ p.groups, x ∈ K.1) ↔ ∃ l ∈ acc, SigEq P d l x)
    (hcov : ∀ x ∈ seen, ∃ l ∈ acc, SigEq P d l x) :
    rest.foldl (fun p s => if p.rep s = -1 then p.add (grpOf P d G s) else p) p =
      p.append ((leaders P d acc rest).map (grpOf P d G)) ∧
    PWF (p.append ((leaders P d acc rest).map (grpOf P d G))) ∧
    (∀ x ∈ G, ∃ l ∈ acc ++ leaders P d acc rest, SigEq P d l x) ∧
    ∀ l ∈ leaders P d acc rest, ∀ x, x ∈ grpOf P d G l ↔ x ∈ G ∧ SigEq P d l x := by
  induction rest generalizing seen acc p with
  | nil =>
    refine ⟨rfl, hp, fun x hx => ?_, fun _ h => (List.not_mem_nil h).elim⟩
    rw [hsplit, List.append_nil] at hx
    simpa [leaders] using hcov x hx
  | cons s rest ih =>
    have hsG : s ∈ G := by rw [hsplit]; simp
    have hany : (acc.any (fun l => aEqual (fun (a b : Int) => a == b) (sigOf P d l) (sigOf P d s)) = true) ↔
        ∃ l ∈ acc, SigEq P d l s := by
      simp only [List.any_eq_true, sigEq_iff P d hwf]
    have hrs : p.rep s = -1 ↔ ¬ ∃ l ∈ acc, SigEq P d l s := by
      rw [hp.rep_eq_neg_iff, ← hin s hsG]; simp only [not_exists, not_and]
    have hsplit' : G = (seen ++ [s]) ++ rest := by rw [hsplit]; simp
    have hcov' : ∀ l, SigEq P d l s → ∀ x ∈ seen ++ [s], ∃ l' ∈ acc ++ [l], SigEq P d l' x := by
      intro l hl x hx
      rcases List.mem_append.1 hx with hx | hx
      · obtain ⟨l', hl', h⟩ := hcov x hx; exact ⟨l', by simp [hl'], h⟩
      · rw [List.mem_singleton.1 hx]; exact ⟨l, by simp, hl⟩
    simp only [List.foldl_cons, leaders]
    by_cases hr : ∃ l ∈ acc, SigEq P d l s
    · rw [if_neg (fun h => hrs.1 h hr), if_pos (hany.2 hr)]
      refine ih (seen ++ [s]) acc p hsplit' hp hin fun x hx => ?_
      obtain ⟨l, hl, hls⟩ := hr
      obtain ⟨l', hl', h⟩ := hcov' l hls x hx
      rcases List.mem_append.1 hl' with hl' | hl'
      · exact ⟨l', hl', h⟩
      · rw [List.mem_singleton.1 hl'] at h; exact ⟨l, hl, h⟩
    · rw [if_pos (hrs.2 hr), if_neg (fun h => hr (hany.1 h)), List.map_cons, Partition.append]
      generalize hH : grpOf P d G s = H
      -- the first member of `G` is `s` or has another signature
      have hHiff : ∀ x, x ∈ H ↔ x ∈ G ∧ SigEq P d s x := by
        intro x
        rw [← hH, mem_grpOf P d hwf]
        constructor
        · rintro (rfl | ⟨h1, h2⟩)
          · exact ⟨hsG, fun _ => rfl⟩
          · exact ⟨List.mem_of_mem_drop h1, h2⟩
        · rintro ⟨hx, hsx⟩
          rcases mem_head_or_drop hx with hh | hd
          · by_cases hxs : x = s
            · exact Or.inl hxs
            · have hxseen : x ∈ seen := by
                cases seen with
                | nil => rw [hsplit] at hh; simp at hh; exact absurd hh.symm hxs
                | cons y seen => rw [hsplit] at hh; simp at hh; simp [hh]
              obtain ⟨l, hl, hlx⟩ := hcov x hxseen
              exact absurd ⟨l, hl, hlx.trans hsx.symm⟩ hr
          · exact Or.inr ⟨hd, hsx⟩
      have hold : ∀ K ∈ p.groups, ∀ x ∈ K.1, x ∉ H := by
        intro K hK x hxK hxH
        obtain ⟨l, hl, hlx⟩ := (hin x ((hHiff x).1 hxH).1).1 ⟨K, hK, hxK⟩
        exact hr ⟨l, hl, hlx.trans ((hHiff x).1 hxH).2.symm⟩
      have hHs : SSorted H := by rw [← hH]; exact collectSame_sorted _ _ _ (ssorted_mkSet _)
      have hsH : s ∈ H := (hHiff s).2 ⟨hsG, fun _ => rfl⟩
      have hadd : p.add H = ⟨p.groups ++ [(H, p.nextRep)], p.nextRep + 1⟩ := by
        refine Partition.add_of_fresh p H fun g hg => ?_
        cases hse : setEq g.1 H with
        | false => rfl
        | true => exact absurd ((setEq_iff (hp.sorted g hg) hHs).1 hse ▸ hsH) (hold g hg s · hsH)
      have a1 := (hp.add hHs hold).1
      rw [hadd] at a1 ⊢
      obtain ⟨e1, e2, e3, e4⟩ := ih (seen ++ [s]) (acc ++ [s]) _ hsplit' a1 (fun x hx => by
        simp only [List.mem_append, List.mem_singleton, or_and_right, exists_or, exists_eq_left, hin x hx, hHiff, hx,
          true_and]) (hcov' s (fun _ => rfl))
      refine ⟨e1, e2, fun x hx => ?_, fun l hl => ?_⟩
      · obtain ⟨l, hl, h⟩ := e3 x hx
        exact ⟨l, by simpa using hl, h⟩
      · rcases List.mem_cons.1 hl with rfl | hl
        · exact hH ▸ hHiff
        · exact e4 l hl

theorem Partition.append_append (p : Partition) (A B : List (List Int)) : (p.append A).append B = p.append (A ++ B) := by
  induction A generalizing p with
  | nil => rfl
  | cons H A ih => exact ih _

/-- the groups one round makes out of the group `G`: one for each leader -/
def blocks (G : List Int × Int) : List (List Int) := (leaders P d [] G.1).map (grpOf P d G.1)

theorem leaders_facts (hwf : d.WF) (G : List Int) :
    (∀ x ∈ G, ∃ l ∈ leaders P d [] G, SigEq P d l x) ∧
    ∀ l ∈ leaders P d [] G, ∀ x, x ∈ grpOf P d G l ↔ x ∈ G ∧ SigEq P d l x :=
  (paag_loop P d hwf G G [] [] Partition.empty rfl PWF.empty
    (fun _ _ => ⟨fun ⟨_, h, _⟩ => (List.not_mem_nil h).elim, fun ⟨_, h, _⟩ => (List.not_mem_nil h).elim⟩)
    (fun _ h => (List.not_mem_nil h).elim)).2.2

theorem paag_eq (hwf : d.WF) (Pn : Partition) (hpn : PWF Pn) (G : List Int × Int) (hGs : SSorted G.1)
    (hnotold : ∀ x ∈ G.1, ¬ ∃ K ∈ Pn.groups, x ∈ K.1) :
    Pn.partitionAndAddGroups (P.buildGroupTrans d G.1) = Pn.append (blocks P d G) ∧ PWF (Pn.append (blocks P d G)) := by
  obtain ⟨e1, hq, -, -⟩ := paag_loop P d hwf G.1 G.1 [] [] Pn rfl hpn
    (fun x hx => ⟨fun h => (hnotold x hx h).elim, fun ⟨_, h, _⟩ => (List.not_mem_nil h).elim⟩)
    (fun _ h => (List.not_mem_nil h).elim)
  refine ⟨?_, hq⟩
  rw [Partition.partitionAndAddGroups, buildGroupTrans_eq P d G.1 hGs, List.foldl_map]
  exact e1

theorem refine_eq_aux (hwf : d.WF) (hP : PWF P) (todo done : List (List Int × Int)) (Pn : Partition)
    (hs : P.groups = done ++ todo) (hpn : PWF Pn) (hin : ∀ K ∈ Pn.groups, ∃ G' ∈ done, ∀ x ∈ K.1, x ∈ G'.1) :
    todo.foldl (fun Pn G => Pn.partitionAndAddGroups (P.buildGroupTrans d G.1)) Pn = Pn.append (todo.flatMap (blocks P d)) ∧
    PWF (Pn.append (todo.flatMap (blocks P d))) := by
  induction todo generalizing done Pn with
  | nil => exact ⟨rfl, hpn⟩
  | cons G todo ih =>
    have hGP : G ∈ P.groups := by rw [hs]; simp
    -- the groups made so far lie in earlier groups of `P`, which are disjoint from `G`
    obtain ⟨e1, hq⟩ := paag_eq P d hwf Pn hpn G (hP.sorted G hGP) (by
      rintro x hx ⟨K, hK, hxK⟩
      obtain ⟨G', hG', hsub⟩ := hin K hK
      have hd := hP.disj
      rw [hs, List.pairwise_append] at hd
      exact hd.2.2 G' hG' G List.mem_cons_self x (hsub x hxK) hx)
    rw [List.foldl_cons, e1, List.flatMap_cons, ← Partition.append_append]
    refine ih (done ++ [G]) _ (by rw [hs, List.append_assoc]; rfl) hq fun K hK => ?_
    obtain ⟨news, hn1, hn2, -⟩ := Pn.append_facts (blocks P d G)
    rw [hn1] at hK
    rcases List.mem_append.1 hK with hK | hK
    · obtain ⟨G', hG', h⟩ := hin K hK
      exact ⟨G', List.mem_append_left _ hG', h⟩
    · have : K.1 ∈ news.map (·.1) := List.mem_map.2 ⟨K, hK, rfl⟩
      rw [hn2] at this
      obtain ⟨l, hl, he⟩ := List.mem_map.1 this
      exact ⟨G, List.mem_append_right _ (List.mem_singleton.2 rfl),
        fun x hx => (((leaders_facts P d hwf G.1).2 l hl x).1 (he ▸ hx)).1⟩

theorem refine_eq (hwf : d.WF) (hP : PWF P) :
    refine d P = Partition.empty.append (P.groups.flatMap (blocks P d)) ∧ PWF (refine d P) := by
  obtain ⟨h1, h2⟩ := refine_eq_aux P d hwf hP P.groups [] Partition.empty rfl PWF.empty
    (fun _ h => (List.not_mem_nil h).elim)
  exact ⟨h1, by rw [refine, h1]; exact h2⟩

/-- One round: the new groups are the classes of the old groups under "same signature" (`RInv`), in the order of the
old groups and of their first members; so there are at least as many, and as many only if nothing was split. -/
theorem refine_classes (hwf : d.WF) (hP : PWF P) :
    RInv P d P.groups (refine d P) ∧
    ((∀ G ∈ P.groups, G.1 ≠ []) → P.groups.length ≤ (refine d P).groups.length ∧
      ((refine d P).groups.length = P.groups.length → (refine d P).groups.map (·.1) = P.groups.map (·.1))) := by
  obtain ⟨heq, hq⟩ := refine_eq P d hwf hP
  obtain ⟨news, hn1, hn2, hn3⟩ := Partition.empty.append_facts (P.groups.flatMap (blocks P d))
  rw [← heq] at hn1 hn3
  generalize refine d P = q at hq hn1 hn3 ⊢
  obtain rfl : q.groups = news := hn1
  have hnew : ∀ H ∈ q.groups, ∃ G ∈ P.groups, ∃ l ∈ G.1, ∀ x, x ∈ H.1 ↔ x ∈ G.1 ∧ SigEq P d l x := by
    intro H hH
    have : H.1 ∈ q.groups.map (·.1) := List.mem_map.2 ⟨H, hH, rfl⟩
    rw [hn2] at this
    obtain ⟨G, hG, hb⟩ := List.mem_flatMap.1 this
    obtain ⟨l, hl, he⟩ := List.mem_map.1 hb
    have hl' := (leaders_facts P d hwf G.1).2 l hl
    exact ⟨G, hG, l, ((hl' l).1 ((mem_grpOf P d hwf G.1 l l).2 (Or.inl rfl))).1, fun x => he ▸ hl' x⟩
  have hplaced : ∀ G ∈ P.groups, ∀ s ∈ G.1, ∃ H ∈ q.groups, s ∈ H.1 := by
    intro G hG s hs
    obtain ⟨l, hl, hls⟩ := (leaders_facts P d hwf G.1).1 s hs
    have : grpOf P d G.1 l ∈ q.groups.map (·.1) := by
      rw [hn2]; exact List.mem_flatMap.2 ⟨G, hG, List.mem_map.2 ⟨l, hl, rfl⟩⟩
    obtain ⟨H, hH, hHe⟩ := List.mem_map.1 this
    exact ⟨H, hH, by rw [hHe]; exact ((leaders_facts P d hwf G.1).2 l hl s).2 ⟨hs, hls⟩⟩
  refine ⟨⟨hq, ?_, hplaced, ?_, ?_, ?_, ?_⟩, fun hne => ?_⟩
  · intro H hH
    obtain ⟨G, hG, _, _, he⟩ := hnew H hH
    exact ⟨G, hG, fun x hx => ((he x).1 hx).1⟩
  · intro H hH s hs t ht
    obtain ⟨_, _, _, _, he⟩ := hnew H hH
    exact ((he s).1 hs).2.symm.trans ((he t).1 ht).2
  · rw [hn3, ← hn2, List.length_map]; simp [Partition.empty]
  · intro H hH
    obtain ⟨_, _, l, hl, he⟩ := hnew H hH
    exact List.ne_nil_of_mem ((he l).2 ⟨hl, fun _ => rfl⟩)
  · -- two members of one old group with the same signature: the leader of one's new group is in the other's
    intro H hH K hK x hx y hy hxy ⟨G0, hG0, a, b⟩
    obtain ⟨G, hG, l, _, he⟩ := hnew H hH
    obtain ⟨G', hG', l', hl', he'⟩ := hnew K hK
    obtain rfl : G = G0 := hP.same_group hG hG0 ((he x).1 hx).1 a
    obtain rfl : G' = G := hP.same_group hG' hG ((he' y).1 hy).1 b
    have hll : SigEq P d l l' := (((he x).1 hx).2.trans hxy).trans ((he' y).1 hy).2.symm
    exact hq.same_group hH hK ((he l').2 ⟨hl', hll⟩) ((he' l').2 ⟨hl', fun _ => rfl⟩)
  · have := flatMap_length (blocks P d) (·.1) P.groups (fun G hG => ?_) (fun G hG hlen => ?_)
    · rwa [← hn2, List.length_map] at this
    · -- the first member of a group is a leader
      cases hg : G.1 with
      | nil => exact absurd hg (hne G hG)
      | cons s r => simp [blocks, hg, leaders]
    · -- one leader only: every member has its signature
      obtain ⟨l, hl⟩ := List.length_eq_one_iff.1 (by rwa [blocks, List.length_map] at hlen)
      have hf := leaders_facts P d hwf G.1
      rw [hl] at hf
      rw [blocks, hl, List.map_singleton]
      congr 1
      refine ssorted_ext (collectSame_sorted _ _ _ (ssorted_mkSet _)) (hP.sorted G hG) fun x =>
        ⟨fun hx => ((hf.2 l (by simp) x).1 hx).1, fun hx => ?_⟩
      obtain ⟨l', hl', h⟩ := hf.1 x hx
      rw [List.mem_singleton.1 hl'] at h
      exact (hf.2 l (by simp) x).2 ⟨hx, h⟩

end

theorem refine_spec (P : Partition) (d : DFA) (hwf : d.WF) (hP : PWF P) : RInv P d P.groups (refine d P) :=
  (refine_classes P d hwf hP).1

/-- invariant of the refinement loop -/
structure PInv (d : DFA) (P : Partition) : Prop where
  wf : PWF P
  cover : ∀ s ∈ d.states, ∃ G ∈ P.groups, s ∈ G.1
  sub : ∀ G ∈ P.groups, ∀ s ∈ G.1, s ∈ d.states
  fin : ∀ G ∈ P.groups, ∀ s ∈ G.1, ∀ t ∈ G.1, (s ∈ d.final ↔ t ∈ d.final)

theorem refine_pinv (P : Partition) (d : DFA) (hwf : d.WF) (hP : PInv d P) : PInv d (refine d P) := by
  have hR := refine_spec P d hwf hP.wf
  refine ⟨hR.wf, ?_, ?_, ?_⟩
  · intro s hs
    obtain ⟨G, hG, hsG⟩ := hP.cover s hs
    exact hR.covered G hG s hsG
  · intro H hH s hs
    obtain ⟨G, hG, hsub⟩ := hR.inside H hH
    exact hP.sub G hG s (hsub s hs)
  · intro H hH s hs t ht
    obtain ⟨G, hG, hsub⟩ := hR.inside H hH
    exact hP.fin G hG s (hsub s hs) t (hsub t ht)

theorem stable_of_exit (d : DFA) (hwf : d.WF) (P : Partition) (hP : PInv d P) (he : (refine d P).equal P = true) :
    Stable d P := by
  have hR := refine_spec P d hwf hP.wf
  have hsig : ∀ G ∈ P.groups, ∀ s ∈ G.1, ∀ t ∈ G.1, SigEq P d s t := by
    intro G hG s hs t ht
    obtain ⟨H, hH, hsH⟩ := hR.covered G hG s hs
    simp only [Partition.equal, Bool.and_eq_true, List.all_eq_true, List.any_eq_true] at he
    obtain ⟨K, hK, hKe⟩ := he.1.2 H hH
    have hKH : K.1 = H.1 := (setEq_iff (hP.wf.sorted K hK) (hR.wf.sorted H hH)).1 hKe
    have : K = G := hP.wf.same_group hK hG (by rw [hKH]; exact hsH) hs
    subst this
    exact hR.sig H hH s hsH t (by rw [← hKH]; exact ht)
  have hcov : ∀ s ∈ d.states, P.rep s ≠ -1 := by
    intro s hs
    obtain ⟨G, hG, hsG⟩ := hP.cover s hs
    exact hP.wf.rep_ne hG hsG
  refine ⟨hcov, ?_, ?_, ?_⟩
  · intro s hs t ht hr
    obtain ⟨G, hG, hsG⟩ := hP.cover s hs
    obtain ⟨H, hH, htH⟩ := hP.cover t ht
    have : G = H := hP.wf.eq_of_rep_eq hG hH hsG htH hr
    subst this
    exact hP.fin G hG s hsG t htH
  · intro s hs t ht hr a
    obtain ⟨G, hG, hsG⟩ := hP.cover s hs
    obtain ⟨H, hH, htH⟩ := hP.cover t ht
    have : G = H := hP.wf.eq_of_rep_eq hG hH hsG htH hr
    subst this
    have := hsig G hG s hsG t htH a
    -- the targets are states, hence in some group
    have conv : ∀ x, (d.δ x a).bind (repO P) = (d.δ x a).map P.rep := by
      intro x
      cases hx : d.δ x a with
      | none => rfl
      | some y =>
        have := hcov y (d.step_mem_states hx).2
        simp [repO, this]
    rw [conv, conv] at this
    exact this
  · intro G hG
    cases hg : G.1 with
    | nil =>
      left
      refine ⟨rfl, ?_⟩
      intro s hs hr
      obtain ⟨G', hG', hsG'⟩ := hP.cover s hs
      have : G' = G := hP.wf.rep_inj hG' hG (by rw [← hP.wf.rep_of_mem hG' hsG', hr])
      subst this
      rw [hg] at hsG'; simp at hsG'
    | cons x xs =>
      right
      have hx : x ∈ G.1 := by rw [hg]; simp
      simp only [List.headD_cons]
      exact ⟨hP.sub G hG x hx, hP.wf.rep_of_mem hG hx⟩

theorem DFA.initPartition_facts (d : DFA) (hfs : SSorted d.final) :
    PWF d.initPartition ∧ (∀ G ∈ d.initPartition.groups, G.1 = sdiff d.states d.final ∨ G.1 = d.final) ∧
    (∀ s ∈ d.states, ∃ G ∈ d.initPartition.groups, s ∈ G.1) := by
  have hNF : SSorted (sdiff d.states d.final) := List.Pairwise.filter _ d.states_sorted
  obtain ⟨a1, a2, _, a4, _⟩ := PWF.empty.add hNF (fun _ h => (List.not_mem_nil h).elim)
  have hdis : ∀ G ∈ (Partition.empty.add (sdiff d.states d.final)).groups, ∀ x ∈ G.1, x ∉ d.final := by
    intro G hG x hx
    rcases a2 G hG with h | rfl
    · simp [Partition.empty] at h
    · exact ((mem_sdiff).1 hx).2
  obtain ⟨b1, b2, b3, b4, _⟩ := a1.add hfs hdis
  refine ⟨b1, ?_, ?_⟩
  · intro G hG
    rcases b2 G hG with h | rfl
    · rcases a2 G h with h' | rfl
      · simp [Partition.empty] at h'
      · left; rfl
    · right; rfl
  · intro s hs
    by_cases hf : s ∈ d.final
    · exact b4 s hf
    · obtain ⟨G, hG, hsG⟩ := a4 s ((mem_sdiff).2 ⟨hs, hf⟩)
      exact ⟨G, b3 G hG, hsG⟩

theorem DFA.initPartition_groups (d : DFA) (hfs : SSorted d.final) :
    ∀ G ∈ d.initPartition.groups, G.1 = sdiff d.states d.final ∨ G.1 = d.final :=
  (d.initPartition_facts hfs).2.1

theorem DFA.initPartition_pinv (d : DFA) (hfs : SSorted d.final) : PInv d d.initPartition := by
  obtain ⟨hwf, hgrp, hcov⟩ := d.initPartition_facts hfs
  refine ⟨hwf, hcov, ?_, ?_⟩
  · intro G hG s hs
    rcases hgrp G hG with h | h
    · rw [h] at hs; exact ((mem_sdiff).1 hs).1
    · rw [h] at hs; exact d.mem_states_of s (Or.inr (Or.inl hs))
  · intro G hG s hs t ht
    rcases hgrp G hG with h | h
    · rw [h] at hs ht
      exact iff_of_false ((mem_sdiff).1 hs).2 ((mem_sdiff).1 ht).2
    · rw [h] at hs ht
      exact iff_of_true hs ht

/-- what `refine` produces: besides the invariant, no empty group and `nextRep` = number of groups -/
structure Fresh (d : DFA) (P : Partition) : Prop where
  pinv : PInv d P
  ne : ∀ G ∈ P.groups, G.1 ≠ []
  nr : P.nextRep = (P.groups.length : Int)

theorem refine_fresh (P : Partition) (d : DFA) (hwf : d.WF) (hP : PInv d P) : Fresh d (refine d P) :=
  ⟨refine_pinv P d hwf hP, (refine_spec P d hwf hP.wf).ne, (refine_spec P d hwf hP.wf).nr⟩

theorem groups_le_states (d : DFA) (P : Partition) (hP : PInv d P) (hne : ∀ G ∈ P.groups, G.1 ≠ []) :
    P.groups.length ≤ d.states.length := by
  have := length_le_of_injOn (fun G : List Int × Int => G.1.headD 0) P.groups d.states ?_ ?_ ?_
  · exact this
  · exact hP.wf.groups_nodup
  · intro G hG H hH he
    exact hP.wf.same_group hG hH (headD_mem (hne G hG)) (he ▸ headD_mem (hne H hH))
  · intro G hG
    exact hP.sub G hG _ (headD_mem (hne G hG))

theorem equal_of_same (Pn P : Partition) (h1 : Pn.groups.map (·.1) = P.groups.map (·.1)) (h2 : Pn.nextRep = P.nextRep) :
    Pn.equal P = true := by
  simp only [Partition.equal, Bool.and_eq_true, beq_iff_eq, List.all_eq_true, List.any_eq_true]
  refine ⟨⟨?_, ?_⟩, h2⟩
  · have := congrArg List.length h1; simpa using this
  · intro g hg
    have : g.1 ∈ P.groups.map (·.1) := by rw [← h1]; exact List.mem_map.2 ⟨g, hg, rfl⟩
    obtain ⟨h, hh, he⟩ := List.mem_map.1 this
    exact ⟨h, hh, by rw [he]; exact setEq_refl _⟩

theorem refineLoop_total_fresh (d : DFA) (hwf : d.WF) (I : Partition → Prop) (hstep : ∀ P, I P → I (refine d P))
    (fuel : Nat) (P : Partition) (hP : I P) (hF : Fresh d P) (hfuel : d.states.length - P.groups.length < fuel) :
    ∃ P', refineLoop d fuel P = .ok P' ∧ I P' ∧ (refine d P').equal P' = true := by
  induction fuel generalizing P with
  | zero => omega
  | succ fuel ih =>
    simp only [refineLoop]
    by_cases hc : (refine d P).equal P = true
    · exact ⟨P, by simp [hc], hP, hc⟩
    · simp only [hc]
      have hFn := refine_fresh P d hwf hF.pinv
      obtain ⟨_, hcnt⟩ := refine_classes P d hwf hF.pinv.wf
      obtain ⟨hle, heq⟩ := hcnt hF.ne
      -- an unsuccessful round adds a group, and there are never more groups than states
      have hlt : P.groups.length < (refine d P).groups.length :=
        Nat.lt_of_le_of_ne hle fun he => hc (equal_of_same _ _ (heq he.symm) (by rw [hFn.nr, hF.nr, he]))
      have hb := groups_le_states d (refine d P) hFn.pinv hFn.ne
      exact ih (refine d P) (hstep P hP) hFn (by omega)

theorem refineLoop_total (d : DFA) (hwf : d.WF) (I : Partition → Prop) (hI : ∀ P, I P → PInv d P)
    (hstep : ∀ P, I P → I (refine d P)) (fuel : Nat) (P : Partition) (hP : I P)
    (hfuel : d.states.length + 2 ≤ fuel) :
    ∃ P', refineLoop d fuel P = .ok P' ∧ I P' ∧ (refine d P').equal P' = true := by
  cases fuel with
  | zero => omega
  | succ fuel =>
    simp only [refineLoop]
    by_cases hc : (refine d P).equal P = true
    · exact ⟨P, by simp [hc], hP, hc⟩
    · simp only [hc]
      exact refineLoop_total_fresh d hwf I hstep fuel (refine d P) (hstep P hP) (refine_fresh P d hwf (hI P hP)) (by omega)

theorem DFA.minimize_total (d : DFA) (hwf : d.WF) (hfs : SSorted d.final) :
    ∃ d', d.minimize = .ok d' ∧ ∃ P, refineLoop d d.minimizeFuel d.initPartition = .ok P ∧ buildMin d P = d' ∧
      PInv d P ∧ (refine d P).equal P = true := by
  obtain ⟨P, hl, hP, he⟩ := refineLoop_total d hwf (PInv d) (fun _ h => h) (fun P => refine_pinv P d hwf)
    d.minimizeFuel d.initPartition (d.initPartition_pinv hfs) (by simp [DFA.minimizeFuel])
  exact ⟨_, by simp only [DFA.minimize, DFA.minimizePartition, hl], P, hl, rfl, hP, he⟩

theorem DFA.minimize_lang (d d' : DFA) (hwf : d.WF) (hfs : SSorted d.final) (h : d.minimize = .ok d') (w : Word) :
    d'.lang w ↔ d.lang w := by
  obtain ⟨P, -, rfl, hP, he⟩ := all_of_total (d.minimize_total hwf hfs) d' h
  exact buildMin_lang d hwf P (stable_of_exit d hwf P hP he) w

end AlgoVerif.C13
