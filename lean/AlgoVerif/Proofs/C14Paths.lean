import AlgoVerif.Proofs.C14Dfs
/-!
# C14 proofs — `Paths`: the `edgeTo` invariant, `To`, and the recursive DFS client
-/
namespace AlgoVerif.C14

/-- following `edgeTo` from `x` reaches `s` after exactly `k` steps; every step is an arc of the graph,
every vertex on the way is visited -/
inductive Chain (g : Graph) (s : Nat) (a : Array Bool) (et : Array Nat) : Nat → Nat → Prop
  | base : Vis a s → Chain g s a et s 0
  | step {x y k : Nat} : x ≠ s → Vis a x → et[x]? = some y → g.HasArc y x →
      Chain g s a et y k → Chain g s a et x (k + 1)

theorem Chain.vis {g : Graph} {s : Nat} {a : Array Bool} {et : Array Nat} {x k : Nat}
    (h : Chain g s a et x k) : Vis a x := by
  cases h with
  | base h => exact h
  | step _ h _ _ _ => exact h

theorem Chain.mono {g : Graph} {s : Nat} {a a' : Array Bool} {et et' : Array Nat}
    (ha : ∀ x, Vis a x → Vis a' x) (he : ∀ x, Vis a x → et'[x]? = et[x]?) {x k : Nat}
    (h : Chain g s a et x k) : Chain g s a' et' x k := by
  induction h with
  | base h => exact .base (ha _ h)
  | step hne hv het harc _ ih => exact .step hne (ha _ hv) (by rw [he _ hv]; exact het) harc ih

theorem Chain.reach {g : Graph} {s : Nat} {a : Array Bool} {et : Array Nat} {x k : Nat}
    (h : Chain g s a et x k) : Reach g.HasArc s x := by
  induction h with
  | base _ => exact .refl _
  | step _ _ _ harc _ ih => exact .tail ih harc

/-- the invariant of `Paths`: every visited vertex has a chain to `s`, shorter than the number of visited
vertices -/
def PInv (g : Graph) (s : Nat) (a : Array Bool) (et : Array Nat) : Prop :=
  et.size = g.n ∧ ∀ x, Vis a x → ∃ k, Chain g s a et x k ∧ k + cntF a < g.n

theorem toLoop_chain {g : Graph} {s : Nat} {a : Array Bool} {et : Array Nat} {x k : Nat}
    (h : Chain g s a et x k) (p : Paths) (hps : p.s = (s : Int)) (hpe : p.edgeTo = et) :
    ∀ fuel stk, k < fuel → ∃ l, p.toLoop fuel x stk = .ok (l ++ stk) ∧ l.length = k ∧
      WalkFromTo g.HasArc s x (s :: l) := by
  induction h with
  | base _ =>
    intro fuel stk hf
    cases fuel with
    | zero => omega
    | succ fuel =>
      refine ⟨[], ?_, rfl, WalkFromTo.single _ _⟩
      simp [Paths.toLoop, hps]
  | @step x y k hne _ het harc _ ih =>
    intro fuel stk hf
    cases fuel with
    | zero => omega
    | succ fuel =>
      obtain ⟨l, h1, h2, h3⟩ := ih fuel (x :: stk) (by omega)
      refine ⟨l ++ [x], ?_, by simp [h2], ?_⟩
      · have hne' : ¬ ((x : Int) = p.s) := by rw [hps]; omega
        simp only [Paths.toLoop, hne', if_false, hpe, het]
        rw [h1]; simp
      · have := h3.snoc harc
        simpa using this

theorem to_spec_len {g : Graph} {s : Nat} (p : Paths) (hps : p.s = (s : Int))
    (hsize : p.visited.size = g.n) (hinv : PInv g s p.visited p.edgeTo) (v : Nat) (hvis : Vis p.visited v) :
    ∃ path k, p.to (v : Int) = .ok (some path) ∧ Chain g s p.visited p.edgeTo v k ∧ path.length = k + 1 ∧
      WalkFromTo g.HasArc s v path := by
  obtain ⟨k, hc, hk⟩ := hinv.2 v hvis
  obtain ⟨l, h1, h2, h3⟩ := toLoop_chain hc p hps rfl (p.visited.size + 1) [] (by omega)
  refine ⟨s :: l, k, ?_, hc, by simp [h2], h3⟩
  have : p.visited[v]? = some true := hvis
  simp [Paths.to, this, h1, hps]

theorem to_spec {g : Graph} {s : Nat} (p : Paths) (hps : p.s = (s : Int))
    (hsize : p.visited.size = g.n) (hinv : PInv g s p.visited p.edgeTo) (v : Nat) (hv : v < g.n) :
    (Vis p.visited v → ∃ path, p.to (v : Int) = .ok (some path) ∧ WalkFromTo g.HasArc s v path) ∧
    (¬ Vis p.visited v → p.to (v : Int) = .ok none) := by
  have hvlt : v < p.visited.size := hsize ▸ hv
  constructor
  · intro hvis
    obtain ⟨path, _, h1, _, _, h3⟩ := to_spec_len p hps hsize hinv v hvis
    exact ⟨path, h1, h3⟩
  · intro hnv
    rcases vis_or_false hvlt with h | h
    · exact absurd h hnv
    · simp [Paths.to, h]

theorem callV_none {σ : Type} (v : Nat) (s : σ) : callV (none : Option (Nat → σ → σ × Bool)) v s = (s, true) := rfl

theorem pathsVisitors_allTrue : pathsVisitors.AllTrue :=
  ⟨fun _ _ => rfl, fun _ _ => rfl, fun _ _ _ _ => rfl⟩

theorem PInv.enter {g : Graph} {s v : Nat} {a : Array Bool} {et : Array Nat}
    (hinv : PInv g s a et) (hsize : a.size = g.n) (hunv : a[v]? = some false)
    (hsrc : v = s ∨ ∃ u, et[v]? = some u ∧ Vis a u ∧ g.HasArc u v) :
    PInv g s (a.set! v true) et := by
  have hvlt : v < a.size := (Array.getElem?_eq_some_iff.1 hunv).1
  have hcnt := cntF_set hunv
  have hle := cntF_le_size a
  have hmono : ∀ x, Vis a x → Vis (a.set! v true) x := fun x hx => vis_set_of_vis hx
  refine ⟨hinv.1, ?_⟩
  intro x hx
  rcases vis_set.1 hx with ⟨rfl, _⟩ | hxa
  · by_cases hvs : v = s
    · subst hvs
      exact ⟨0, .base (vis_set_self hvlt), by omega⟩
    · rcases hsrc with h | ⟨u, hu, hvu, harc⟩
      · exact absurd h hvs
      · obtain ⟨k, hc, hk⟩ := hinv.2 u hvu
        refine ⟨k + 1, .step hvs (vis_set_self hvlt) hu harc (hc.mono hmono (fun _ _ => rfl)), by omega⟩
  · obtain ⟨k, hc, hk⟩ := hinv.2 x hxa
    exact ⟨k, hc.mono hmono (fun _ _ => rfl), by omega⟩

theorem PInv.setEdge {g : Graph} {s v w : Nat} {a : Array Bool} {et : Array Nat}
    (hinv : PInv g s a et) (hunv : a[w]? = some false) : PInv g s a (et.set! w v) := by
  refine ⟨by rw [size_set!]; exact hinv.1, ?_⟩
  intro x hx
  obtain ⟨k, hc, hk⟩ := hinv.2 x hx
  refine ⟨k, hc.mono (fun _ h => h) ?_, hk⟩
  intro y hy
  have : w ≠ y := by
    intro h; subst h
    exact not_vis_of_false hunv hy
  exact getElem?_set!_ne _ _ this

theorem dfs_paths {g : Graph} (hg : g.WF) (s : Nat) :
    ∀ fuel v (st : TState (Array Nat)),
      (PInv g s st.visited st.s ∧ (v = s ∨ ∃ u, st.s[v]? = some u ∧ Vis st.visited u ∧ g.HasArc u v)) →
      st.visited.size = g.n → st.visited[v]? = some false → cntF st.visited ≤ fuel →
      ∃ st', dfs g pathsVisitors fuel v st = .ok st' ∧ PInv g s st'.visited st'.s ∧
        StdPost g v st.visited st'.visited := by
  apply dfs_rule g hg pathsVisitors pathsVisitors_allTrue
    (fun v st => PInv g s st.visited st.s ∧
      (v = s ∨ ∃ u, st.s[v]? = some u ∧ Vis st.visited u ∧ g.HasArc u v))
    (fun _ _ st' => PInv g s st'.visited st'.s)
    (fun _ _ _ _ cur => PInv g s cur.visited cur.s)
  · intro v st hpre hsize hunv
    exact hpre.1.enter hsize hunv hpre.2
  · intro v st done x rest cur hm _ _
    exact hm
  · intro v st done x rest cur hm hs hunv
    have hxmem : x ∈ g.adj.getD v [] := by rw [hs.adj]; simp
    have hxlt : x.to < g.n := hg.bound v x hxmem
    refine ⟨⟨?_, Or.inr ⟨v, ?_, hs.self, Graph.HasArc.of_mem hxmem⟩⟩, fun cur' hp _ => hp⟩
    · exact hm.setEdge hunv
    · show (cur.s.set! x.to v)[x.to]? = some v
      exact getElem?_set!_self _ _ (by rw [hm.1]; exact hxlt)
  · intro v st done cur hm _
    exact hm

end AlgoVerif.C14
