import AlgoVerif.Proofs.C08Cycles
/-!
# `EliminateLeftRecursion`: the substitution step `lrSubst`

`lrSubst g Aᵢ Aⱼ` replaces every `Aᵢ → Aⱼ γ` by `Aᵢ → δ γ` for all current `Aⱼ → δ` ("unfold one
occurrence").  It preserves the language — also when `Aᵢ = Aⱼ`, so no assumption on the order is needed:

* `⊆`: every new production is a two-step derivation of the old grammar;
* `⊇`: by induction over parse trees (`Gram.Derives.tree_induction`); besides "the form derives `w` in the new grammar"
  the induction carries, for a form `Aⱼ :: tl`, the production `Aⱼ → δ` its leading `Aⱼ` is rewritten with and the two
  parts of `w` that `δ` and `tl` yield; for a removed `Aᵢ → Aⱼ γ` the new grammar does both steps at once with
  `Aᵢ → δ γ`.
-/
namespace AlgoVerif.C08
open AlgoVerif AlgoVerif.Gram AlgoVerif.C08.Spec

/-- the productions `Aᵢ → Aⱼ γ` -/
def IsAiAj (g : G) (Ai Aj : String) (p : SProd) : Prop :=
  p ∈ g.prods ∧ p.head = Ai ∧ ∃ tl, p.body = Sym.nonterm Aj :: tl

theorem mem_AiAj {g : G} {Ai Aj : String} {p : SProd} :
    p ∈ (prodsOf g.prods Ai).filter (fun p => match p.body with
      | .nonterm n :: _ => n = Aj
      | _ => false) ↔ IsAiAj g Ai Aj p := by
  unfold IsAiAj prodsOf
  rw [List.mem_filter, List.mem_filter]
  constructor
  · rintro ⟨⟨h1, h2⟩, h3⟩
    refine ⟨h1, by simpa using h2, ?_⟩
    cases hb : p.body with
    | nil => rw [hb] at h3; simp at h3
    | cons s tl =>
      rw [hb] at h3
      cases s with
      | term t => simp at h3
      | nonterm n =>
        simp at h3
        exact ⟨tl, by rw [h3]⟩
  · rintro ⟨h1, h2, tl, h3⟩
    refine ⟨⟨h1, by simpa using h2⟩, ?_⟩
    rw [h3]; simp

theorem lrSubst_spec (g : G) (Ai Aj : String) :
    ((prodsOf g.prods Ai = [] ∨ prodsOf g.prods Aj = []) ∧ lrSubst g Ai Aj = g) ∨
    ((lrSubst g Ai Aj).start = g.start ∧ (lrSubst g Ai Aj).nonterms = g.nonterms ∧
     (lrSubst g Ai Aj).terms = g.terms ∧
     ∀ q, q ∈ (lrSubst g Ai Aj).prods ↔
       (q ∈ g.prods ∧ ¬ IsAiAj g Ai Aj q) ∨
       (∃ p r, IsAiAj g Ai Aj p ∧ r ∈ g.prods ∧ r.head = Aj ∧ q = { head := Ai, body := r.body ++ p.body.tail })) := by
  unfold lrSubst
  simp only
  split
  · rename_i he
    exact Or.inl ⟨by simpa using he, rfl⟩
  · right
    refine ⟨rfl, rfl, rfl, ?_⟩
    intro q
    rw [mem_insAll, List.mem_filter, List.mem_flatMap]
    constructor
    · rintro (⟨h1, h2⟩ | ⟨p, hp, hq⟩)
      · exact Or.inl ⟨h1, fun hc => (of_decide_eq_true h2) (mem_AiAj.2 hc)⟩
      · right
        obtain ⟨r, hr, rfl⟩ := List.mem_map.1 hq
        have hr' := List.mem_filter.1 hr
        exact ⟨p, r, mem_AiAj.1 hp, hr'.1, by simpa using hr'.2, rfl⟩
    · rintro (⟨h1, h2⟩ | ⟨p, r, hp, hr1, hr2, rfl⟩)
      · exact Or.inl ⟨h1, decide_eq_true (fun hc => h2 (mem_AiAj.1 hc))⟩
      · right
        exact ⟨p, mem_AiAj.2 hp, List.mem_map.2 ⟨r, List.mem_filter.2 ⟨hr1, by simpa using hr2⟩, rfl⟩⟩

theorem lrSubst_start (g : G) (Ai Aj : String) : (lrSubst g Ai Aj).start = g.start := by
  rcases lrSubst_spec g Ai Aj with ⟨_, h⟩ | h
  · rw [h]
  · exact h.1

theorem lrSubst_wf {g : G} (hw : WellFormed g) (Ai Aj : String) : WellFormed (lrSubst g Ai Aj) := by
  rcases lrSubst_spec g Ai Aj with ⟨_, h⟩ | ⟨hs, hn, ht, hp⟩
  · rw [h]; exact hw
  · obtain ⟨h1, h2⟩ := hw
    have hdecl : ∀ s, SymDeclared g s → SymDeclared (lrSubst g Ai Aj) s := fun s hs' =>
      hs'.mono (fun _ h => ht ▸ h) (fun _ h => hn ▸ h)
    refine ⟨by rw [hs, hn]; exact h1, ?_⟩
    intro q hq
    rcases (hp q).1 hq with ⟨hq1, _⟩ | ⟨p, r, ⟨hp1, hp2, tl, hp3⟩, hr1, _, rfl⟩
    · obtain ⟨a, b⟩ := h2 q hq1
      exact ⟨by rw [hn]; exact a, fun s hs' => hdecl s (b s hs')⟩
    · obtain ⟨a, b⟩ := h2 p hp1
      obtain ⟨_, d⟩ := h2 r hr1
      refine ⟨by rw [hn]; exact hp2 ▸ a, ?_⟩
      intro s hs'
      simp only [List.mem_append] at hs'
      rcases hs' with hs' | hs'
      · exact hdecl s (d s hs')
      · apply hdecl s (b s ?_)
        rw [hp3] at hs' ⊢
        simp at hs'
        simp [hs']

theorem lrSubst_language (g : G) (Ai Aj : String) (w : List String) :
    Language (lrSubst g Ai Aj) w ↔ Language g w := by
  rcases lrSubst_spec g Ai Aj with ⟨_, h⟩ | ⟨hs, _, _, hp⟩
  · rw [h]
  · unfold Language
    rw [hs]
    constructor
    · apply Derives.of_derivable_prods
      intro q hq
      rcases (hp q).1 hq with ⟨hq1, _⟩ | ⟨p, r, ⟨hp1, hp2, tl, hp3⟩, hr1, hr2, rfl⟩
      · exact Derives.of_prod hq1
      · have d1 : Derives g [Sym.nonterm Ai] (Sym.nonterm Aj :: tl) := by
          have := Derives.of_prod hp1
          rwa [hp2, hp3] at this
        have d2 : Derives g ([Sym.nonterm Aj] ++ tl) (r.body ++ tl) := by
          have := (Derives.of_prod hr1).append_right tl
          rwa [hr2] at this
        simpa [hp3] using d1.trans d2
    · intro d
      refine (Derives.tree_induction (g := g) (Q := fun α w => Derives (lrSubst g Ai Aj) α (w.map Sym.term) ∧
          ∀ tl, α = Sym.nonterm Aj :: tl → ∃ r ∈ g.prods, r.head = Aj ∧ ∃ w₁ w₂, w = w₁ ++ w₂ ∧
            Derives (lrSubst g Ai Aj) r.body (w₁.map Sym.term) ∧ Derives (lrSubst g Ai Aj) tl (w₂.map Sym.term))
        ⟨Derives.refl _, fun _ h => nomatch h⟩ ?_ ?_ d).1
      · rintro t β w ⟨hβ, _⟩
        exact ⟨by simpa using hβ.append_left [Sym.term t], fun _ h => nomatch h⟩
      · rintro p hpg β w₁ w₂ _ ⟨hb, hbA⟩ ⟨hβ, _⟩
        refine ⟨?_, fun tl h => by cases h; exact ⟨p, hpg, rfl, w₁, w₂, rfl, hb, hβ⟩⟩
        have h1 : Derives (lrSubst g Ai Aj) [Sym.nonterm p.head] (w₁.map Sym.term) := by
          by_cases hc : IsAiAj g Ai Aj p
          · -- a removed production `Aᵢ → Aⱼ tl`: its `Aⱼ` is rewritten with some `r`; `Aᵢ → r.body tl` does both
            obtain ⟨_, hp2, tl, hp3⟩ := hc
            obtain ⟨r, hr1, hr2, u₁, u₂, rfl, d1, d2⟩ := hbA tl hp3
            have hq : ({ head := Ai, body := r.body ++ p.body.tail } : SProd) ∈ (lrSubst g Ai Aj).prods :=
              (hp _).2 (Or.inr ⟨p, r, ⟨hpg, hp2, tl, hp3⟩, hr1, hr2, rfl⟩)
            have h0 := Derives.of_prod hq
            simp only [hp3, List.tail_cons] at h0
            simpa [hp2] using h0.trans (d1.append d2)
          · exact (Derives.of_prod ((hp p).2 (Or.inl ⟨hpg, hc⟩))).trans hb
        simpa using h1.append hβ

end AlgoVerif.C08
