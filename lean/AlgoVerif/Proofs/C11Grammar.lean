import AlgoVerif.Proofs.C11Lists
import AlgoVerif.Spec.C11
/-!
# C11 — the grammar: what `augment` returns, and the well-formedness the property theorems assume

`ValidG g` and `TermsListed g` are the two hypotheses on the user's grammar `g`.  For the augmented grammar `g′` they give
`AugOK g g′` (`augOK_of_augment`), from which the soundness chain starts (namespace `Built`), and `AugListed g′`
(`augListed`), from which the completeness chain starts (namespace `BuiltComplete`).  `Productive g` (namespace `Lalr`) is
the third hypothesis, of the theorems about the LALR construction and about termination only.
-/
namespace AlgoVerif.C11.Built
open AlgoVerif AlgoVerif.Gram AlgoVerif.C11 AlgoVerif.C11.Spec

theorem augment_ok {g g' : SGrammar} (ha : augment g = Outcome.ok g') :
    augStart g = some g'.start ∧
      g' = { terms := addNew g.terms endmarker, nonterms := g.nonterms ++ [g'.start],
             prods := dedupProds g.prods ++ [{ head := g'.start, body := [Sym.nonterm g.start] }], start := g'.start } := by
  unfold augment at ha
  cases hs : augStart g with
  | none => simp [hs] at ha
  | some s' =>
    simp only [hs, Outcome.ok.injEq] at ha
    subst ha
    exact ⟨rfl, rfl⟩

/-- what `augment` produced, and the well-formedness of the original grammar it relies on -/
structure AugOK (g g' : SGrammar) : Prop where
  prodsEq : g'.prods = dedupProds g.prods ++ [{ head := g'.start, body := [Sym.nonterm g.start] }]
  fresh : g'.start ∉ g.nonterms
  startIn : g.start ∈ g.nonterms
  heads : ∀ p ∈ g.prods, p.head ∈ g.nonterms
  bodies : ∀ p ∈ g.prods, ∀ n, Sym.nonterm n ∈ p.body → n ∈ g.nonterms
  noEnd : ∀ p ∈ g.prods, Sym.term endmarker ∉ p.body

section
variable {g g' : SGrammar} (h : AugOK g g')
include h

def startProd (g g' : SGrammar) : Pr := { head := g'.start, body := [Sym.nonterm g.start] }

theorem mem_prods' {p : Pr} : p ∈ g'.prods ↔ p ∈ g.prods ∨ p = startProd g g' := by
  rw [h.prodsEq]; simp [mem_dedupProds, startProd]

theorem head_ne_of_mem {p : Pr} (hp : p ∈ g.prods) : p.head ≠ g'.start := by
  intro he; exact h.fresh (he ▸ h.heads p hp)

theorem chkFresh_of_aug : chkFresh g g'.start = true := by
  unfold chkFresh
  simp only [Bool.and_eq_true, Bool.not_eq_true', List.contains_eq_mem, decide_eq_false_iff_not, List.all_eq_true,
    beq_eq_false_iff_ne, ne_eq]
  exact ⟨h.fresh, fun p hp => head_ne_of_mem h hp⟩

theorem eq_startProd {p : Pr} (hp : p ∈ g'.prods) (hh : p.head = g'.start) : p = startProd g g' := by
  rcases (mem_prods' h).mp hp with h1 | h1
  · exact absurd hh (head_ne_of_mem h h1)
  · exact h1

theorem mem_of_head_ne {p : Pr} (hp : p ∈ g'.prods) (hh : p.head ≠ g'.start) : p ∈ g.prods := by
  rcases (mem_prods' h).mp hp with h1 | h1
  · exact h1
  · exact absurd (by rw [h1]; rfl) hh

theorem body_nonterm_ne {p : Pr} (hp : p ∈ g'.prods) {n : String} (hn : Sym.nonterm n ∈ p.body) : n ≠ g'.start := by
  intro he
  rcases (mem_prods' h).mp hp with h1 | h1
  · exact h.fresh (he ▸ h.bodies p h1 n hn)
  · rw [h1] at hn
    simp [startProd] at hn
    exact h.fresh (he ▸ hn ▸ h.startIn)

theorem body_no_end {p : Pr} (hp : p ∈ g'.prods) : Sym.term endmarker ∉ p.body := by
  rcases (mem_prods' h).mp hp with h1 | h1
  · exact h.noEnd p h1
  · rw [h1]; simp [startProd]

theorem prodsOf_start : prodsOf g' g'.start = [startProd g g'] := by
  unfold prodsOf
  rw [h.prodsEq, List.filter_append]
  have : (dedupProds g.prods).filter (fun p => decide (p.head = g'.start)) = [] := by
    rw [List.filter_eq_nil_iff]
    intro p hp
    simpa using head_ne_of_mem h (mem_dedupProds.mp hp)
  rw [this]
  simp [startProd]

end

/-- the well-formedness `grammar.CFG.Verify` asks for (plus: the endmarker occurs in no body) -/
structure ValidG (g : SGrammar) : Prop where
  startIn : g.start ∈ g.nonterms
  heads : ∀ p ∈ g.prods, p.head ∈ g.nonterms
  bodies : ∀ p ∈ g.prods, ∀ n, Sym.nonterm n ∈ p.body → n ∈ g.nonterms
  noEnd : ∀ p ∈ g.prods, Sym.term endmarker ∉ p.body

def validG (g : SGrammar) : Bool :=
  g.nonterms.contains g.start &&
  g.prods.all (fun p => g.nonterms.contains p.head &&
    p.body.all (fun s => match s with
      | .nonterm n => g.nonterms.contains n
      | .term t => t != endmarker))

theorem validG_sound {g : SGrammar} (hv : validG g = true) : ValidG g := by
  unfold validG at hv
  simp only [Bool.and_eq_true, List.contains_eq_mem, decide_eq_true_eq, List.all_eq_true] at hv
  obtain ⟨h1, h2⟩ := hv
  refine ⟨h1, fun p hp => (h2 p hp).1, ?_, ?_⟩
  · intro p hp n hn
    have := (h2 p hp).2 _ hn
    simpa using this
  · intro p hp hmem
    have := (h2 p hp).2 _ hmem
    simp at this

theorem augOK_of_augment {g g' : SGrammar} (hv : ValidG g) (ha : augment g = Outcome.ok g') : AugOK g g' := by
  obtain ⟨hs, hg⟩ := augment_ok ha
  refine ⟨congrArg (·.prods) hg, ?_, hv.startIn, hv.heads, hv.bodies, hv.noEnd⟩
  unfold augStart at hs
  simpa using List.find?_some hs

end AlgoVerif.C11.Built

namespace AlgoVerif.C11.BuiltComplete
open AlgoVerif AlgoVerif.Gram AlgoVerif.C11 AlgoVerif.C11.Spec AlgoVerif.C11.Built

structure Listed (g : SGrammar) : Prop where
  heads : ∀ p ∈ g.prods, p.head ∈ g.nonterms
  terms : ∀ p ∈ g.prods, ∀ t, Sym.term t ∈ p.body → t ∈ g.terms

/-- part of what `grammar.CFG.Verify` asks for; the Model's fuel for FIRST/FOLLOW is computed from `g.terms` -/
def TermsListed (g : SGrammar) : Prop := ∀ p ∈ g.prods, ∀ t, Sym.term t ∈ p.body → t ∈ g.terms

def termsListed (g : SGrammar) : Bool :=
  g.prods.all fun p => p.body.all fun s => match s with
    | .term t => g.terms.contains t
    | .nonterm _ => true

theorem termsListed_sound {g : SGrammar} (h : termsListed g = true) : TermsListed g := by
  unfold termsListed at h
  simp only [List.all_eq_true] at h
  intro p hp t ht
  simpa using h p hp _ ht

theorem augment_shape {g g' : SGrammar} (ha : augment g = Outcome.ok g') :
    g'.terms = addNew g.terms endmarker ∧ g'.nonterms = g.nonterms ++ [g'.start] :=
  ⟨congrArg (·.terms) (augment_ok ha).2, congrArg (·.nonterms) (augment_ok ha).2⟩

structure AugListed (g' : SGrammar) : Prop where
  listed : Listed g'
  bodies : ∀ p ∈ g'.prods, ∀ B, Sym.nonterm B ∈ p.body → B ∈ g'.nonterms
  startIn : g'.start ∈ g'.nonterms
  endIn : endmarker ∈ g'.terms

theorem augListed {g g' : SGrammar} (hv : ValidG g) (ht : TermsListed g) (ha : augment g = Outcome.ok g') :
    AugListed g' := by
  have h := augOK_of_augment hv ha
  obtain ⟨hT, hN⟩ := augment_shape ha
  refine ⟨⟨?_, ?_⟩, ?_, ?_, ?_⟩
  · intro p hp
    rw [hN]
    rcases (mem_prods' h).mp hp with h1 | h1
    · exact List.mem_append_left _ (hv.heads p h1)
    · rw [h1]; simp [startProd]
  · intro p hp t htm
    rw [hT]
    rcases (mem_prods' h).mp hp with h1 | h1
    · exact mem_addNew.mpr (Or.inl (ht p h1 t htm))
    · rw [h1] at htm; simp [startProd] at htm
  · intro p hp B hB
    rw [hN]
    rcases (mem_prods' h).mp hp with h1 | h1
    · exact List.mem_append_left _ (hv.bodies p h1 B hB)
    · rw [h1] at hB
      simp only [startProd, List.mem_singleton, Sym.nonterm.injEq] at hB
      exact List.mem_append_left _ (hB ▸ hv.startIn)
  · rw [hN]; simp
  · rw [hT]; exact mem_addNew.mpr (Or.inr rfl)

end AlgoVerif.C11.BuiltComplete

namespace AlgoVerif.C11.Lalr
open AlgoVerif AlgoVerif.Gram AlgoVerif.C11 AlgoVerif.C11.Spec

/-- every listed non-terminal derives a terminal string ("productive"; half of "reduced") -/
def Productive (g : SGrammar) : Prop :=
  ∀ B ∈ g.nonterms, ∃ w : List String, Derives g [Sym.nonterm B] (w.map Sym.term)

end AlgoVerif.C11.Lalr
