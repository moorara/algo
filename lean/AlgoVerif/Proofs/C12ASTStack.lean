import AlgoVerif.Proofs.C12AST
/-!
# The AST builder with the explicit stack of node pointers (`astRun`) is `buildAST`

Invariant: the stack holds the paths of the incomplete nodes of the tree in pre-order (top = the leftmost
one), and an incomplete internal node has no children yet.  Then popping a pointer and completing the node
it points to is exactly `fillTree`.
-/
set_option linter.unusedSectionVars false
namespace AlgoVerif.C10
open AlgoVerif AlgoVerif.Gram
variable {T N : Type} [DecidableEq T] [DecidableEq N]

def bump : List Nat → List Nat
  | [] => []
  | j :: π => (j + 1) :: π

mutual
/-- the paths of the incomplete nodes, in pre-order: what the pointer stack holds, top first -/
def holePaths : Tree T N → List (List Nat)
  | .leaf _ (some _) => []
  | .leaf _ none => [[]]
  | .node _ none _ => [[]]
  | .node _ (some _) kids => holePathsKids kids
def holePathsKids : List (Tree T N) → List (List Nat)
  | [] => []
  | k :: ks => (holePaths k).map (fun π => 0 :: π) ++ (holePathsKids ks).map bump
end

mutual
def WFT : Tree T N → Prop
  | .leaf _ _ => True
  | .node _ none kids => kids = []
  | .node _ (some _) kids => WFTK kids
def WFTK : List (Tree T N) → Prop
  | [] => True
  | k :: ks => WFT k ∧ WFTK ks
end

/-- what a callback does to the node it pops -/
def complete (e : Event T N) : Tree T N → Outcome (Tree T N) :=
  match e with
  | .tok _ pos => completeLeaf pos
  | .prod p => completeNode p

/-- what a callback that completes the node at `π` pushes: the paths of the new children, the leftmost on top -/
def pushed (e : Event T N) (π : List Nat) : List (List Nat) :=
  match e with
  | .tok _ _ => []
  | .prod p => (List.range p.body.length).map (fun i => π ++ [i])

theorem holePathsKids_ne_nil : ∀ (ks : List (Tree T N)) (π : List Nat), π ∈ holePathsKids ks → π ≠ []
  | [], π, h => by simp [holePathsKids] at h
  | k :: ks, π, h => by
    simp only [holePathsKids, List.mem_append, List.mem_map] at h
    rcases h with ⟨π', _, rfl⟩ | ⟨π', hπ', rfl⟩
    · simp
    · have := holePathsKids_ne_nil ks π' hπ'
      cases π' with
      | nil => exact absurd rfl this
      | cons j r => simp [bump]

theorem holePathsKids_newKids (body : List (Sym T N)) :
    holePathsKids (newKids body : List (Tree T N)) = (List.range body.length).map (fun i => [i]) := by
  induction body with
  | nil => rfl
  | cons s b ih =>
    have step : ∀ k : Tree T N, holePaths k = [[]] →
        holePathsKids (k :: newKids b) = (List.range (b.length + 1)).map (fun i => [i]) := by
      intro k hk
      rw [holePathsKids, hk, ih, List.range_succ_eq_map]
      simp [Function.comp_def, bump]
    cases s with
    | term t => exact step (Tree.leaf t none) rfl
    | nonterm n => exact step (Tree.node n none []) rfl

theorem wftk_newKids (body : List (Sym T N)) : WFTK (newKids body : List (Tree T N)) := by
  induction body with
  | nil => trivial
  | cons s b ih =>
    cases s with
    | term t => exact ⟨trivial, ih⟩
    | nonterm n => exact ⟨rfl, ih⟩

theorem pushed_cons (e : Event T N) (j : Nat) (π : List Nat) :
    (pushed e π).map (fun ρ => j :: ρ) = pushed e (j :: π) := by
  cases e with
  | tok _ _ => rfl
  | prod p => simp [pushed, List.map_map, Function.comp_def]

theorem pushed_bump (e : Event T N) (j : Nat) (π : List Nat) :
    (pushed e (j :: π)).map bump = pushed e ((j + 1) :: π) := by
  cases e with
  | tok _ _ => rfl
  | prod p => simp [pushed, List.map_map, Function.comp_def, bump]

mutual
theorem fillTree_none_of_noHoles (e : Event T N) : ∀ t : Tree T N, holePaths t = [] → fillTree e t = none
  | .leaf _ (some _), _ => by simp [fillTree]
  | .leaf _ none, h => by simp [holePaths] at h
  | .node _ none _, h => by simp [holePaths] at h
  | .node A (some p) kids, h => by
    simp only [holePaths] at h
    simp [fillTree, fillKids_none_of_noHoles e kids h]
theorem fillKids_none_of_noHoles (e : Event T N) : ∀ ks : List (Tree T N), holePathsKids ks = [] → fillKids e ks = none
  | [], _ => by simp [fillKids]
  | k :: ks, h => by
    simp only [holePathsKids, List.append_eq_nil_iff, List.map_eq_nil_iff] at h
    simp [fillKids, fillTree_none_of_noHoles e k h.1, fillKids_none_of_noHoles e ks h.2]
end

/-- lifting an `Outcome` of a tree into the answer format of `fillTree` -/
def someO {α : Type} (o : Outcome α) : Option (Outcome α) := some o

mutual
theorem fillTree_eq_updateAt (e : Event T N) : ∀ (t : Tree T N) (π : List Nat) (rest : List (List Nat)),
    WFT t → holePaths t = π :: rest →
      fillTree e t = some (updateAt (complete e) π t) ∧
      ∀ t', updateAt (complete e) π t = .ok t' → WFT t' ∧ holePaths t' = pushed e π ++ rest
  | .leaf _ (some _), π, rest, _, h => by simp [holePaths] at h
  | .leaf t none, π, rest, _, h => by
    simp only [holePaths, List.cons.injEq] at h
    obtain ⟨rfl, rfl⟩ := h
    cases e with
    | tok x pos =>
      refine ⟨by simp [fillTree, updateAt, complete, completeLeaf], ?_⟩
      intro t' ht'
      simp [updateAt, complete, completeLeaf] at ht'
      subst ht'
      simp [WFT, holePaths, pushed]
    | prod p =>
      refine ⟨by simp [fillTree, updateAt, complete, completeNode], ?_⟩
      intro t' ht'
      simp [updateAt, complete, completeNode] at ht'
  | .node A none kids, π, rest, hw, h => by
    simp only [holePaths, List.cons.injEq] at h
    obtain ⟨rfl, rfl⟩ := h
    have hk : kids = [] := hw
    subst hk
    cases e with
    | tok x pos =>
      refine ⟨by simp [fillTree, updateAt, complete, completeLeaf], ?_⟩
      intro t' ht'
      simp [updateAt, complete, completeLeaf] at ht'
    | prod p =>
      refine ⟨by simp [fillTree, updateAt, complete, completeNode], ?_⟩
      intro t' ht'
      simp [updateAt, complete, completeNode] at ht'
      subst ht'
      refine ⟨by simpa [WFT] using wftk_newKids p.body, ?_⟩
      simp [holePaths, holePathsKids_newKids, pushed]
  | .node A (some p) kids, π, rest, hw, h => by
    simp only [holePaths] at h
    have hne : π ≠ [] := holePathsKids_ne_nil kids π (by rw [h]; simp)
    cases π with
    | nil => exact absurd rfl hne
    | cons i π' =>
      obtain ⟨h1, h2⟩ := fillKids_eq_updateKid e kids i π' rest hw h
      constructor
      · simp only [fillTree, h1, updateAt]
        cases updateKid (complete e) i π' kids <;> rfl
      · intro t' ht'
        simp only [updateAt] at ht'
        cases hu : updateKid (complete e) i π' kids with
        | ok kids' =>
          rw [hu] at ht'
          simp at ht'
          subst ht'
          obtain ⟨w1, w2⟩ := h2 kids' hu
          exact ⟨w1, by simpa [holePaths] using w2⟩
        | panic => rw [hu] at ht'; simp at ht'
        | diverge => rw [hu] at ht'; simp at ht'
theorem fillKids_eq_updateKid (e : Event T N) : ∀ (ks : List (Tree T N)) (i : Nat) (π : List Nat) (rest : List (List Nat)),
    WFTK ks → holePathsKids ks = (i :: π) :: rest →
      fillKids e ks = some (updateKid (complete e) i π ks) ∧
      ∀ ks', updateKid (complete e) i π ks = .ok ks' → WFTK ks' ∧ holePathsKids ks' = pushed e (i :: π) ++ rest
  | [], i, π, rest, _, h => by simp [holePathsKids] at h
  | k :: ks, i, π, rest, hw, h => by
    obtain ⟨hwk, hwks⟩ := hw
    simp only [holePathsKids] at h
    cases hk : holePaths k with
    | nil =>
      -- the first hole lies further right
      rw [hk] at h
      simp only [List.map_nil, List.nil_append] at h
      cases hks : holePathsKids ks with
      | nil => rw [hks] at h; simp at h
      | cons π₀ rest₀ =>
        rw [hks] at h
        simp only [List.map_cons, List.cons.injEq] at h
        obtain ⟨hπ, hrest⟩ := h
        have hne := holePathsKids_ne_nil ks π₀ (by rw [hks]; simp)
        cases π₀ with
        | nil => exact absurd rfl hne
        | cons j π₁ =>
          simp only [bump, List.cons.injEq] at hπ
          obtain ⟨hi, hπ'⟩ := hπ
          subst hi; subst hπ'
          obtain ⟨h1, h2⟩ := fillKids_eq_updateKid e ks j π₁ rest₀ hwks hks
          constructor
          · simp only [fillKids, fillTree_none_of_noHoles e k hk, h1, updateKid]
            cases updateKid (complete e) j π₁ ks <;> rfl
          · intro ks' hks'
            simp only [updateKid] at hks'
            cases hu : updateKid (complete e) j π₁ ks with
            | ok ks₁ =>
              rw [hu] at hks'
              simp at hks'
              subst hks'
              obtain ⟨w1, w2⟩ := h2 ks₁ hu
              refine ⟨⟨hwk, w1⟩, ?_⟩
              simp only [holePathsKids, hk, List.map_nil, List.nil_append, w2, List.map_append, pushed_bump, hrest]
            | panic => rw [hu] at hks'; simp at hks'
            | diverge => rw [hu] at hks'; simp at hks'
    | cons π₁ rest₁ =>
      rw [hk] at h
      simp only [List.map_cons, List.cons_append, List.cons.injEq] at h
      obtain ⟨⟨hi, hπ⟩, hrest⟩ := h
      subst hi; subst hπ
      obtain ⟨h1, h2⟩ := fillTree_eq_updateAt e k π₁ rest₁ hwk hk
      constructor
      · simp only [fillKids, h1, updateKid]
        cases updateAt (complete e) π₁ k <;> rfl
      · intro ks' hks'
        simp only [updateKid] at hks'
        cases hu : updateAt (complete e) π₁ k with
        | ok k' =>
          rw [hu] at hks'
          simp at hks'
          subst hks'
          obtain ⟨w1, w2⟩ := h2 k' hu
          refine ⟨⟨w1, hwks⟩, ?_⟩
          simp only [holePathsKids, w2, List.map_append, pushed_cons, List.append_assoc, hrest]
        | panic => rw [hu] at hks'; simp at hks'
        | diverge => rw [hu] at hks'; simp at hks'
end

theorem astStep_cons (e : Event T N) (t : Tree T N) (π : List Nat) (stack : List (List Nat)) :
    astStep e (t, π :: stack) = (updateAt (complete e) π t).map fun t' => (t', pushed e π ++ stack) := by
  cases e <;> simp only [astStep, complete, pushed] <;> cases updateAt _ π t <;> rfl

theorem astRun_eq_buildAST : ∀ (es : List (Event T N)) (t : Tree T N), WFT t →
    astRun es (t, holePaths t) = (buildAST es t).bind (fun t' => .ok (t', holePaths t'))
  | [], t, _ => by simp [astRun, buildAST, Outcome.bind]
  | e :: es, t, hw => by
    cases hh : holePaths t with
    | nil =>
      simp [astRun, astStep, buildAST, fillTree_none_of_noHoles e t hh, Outcome.bind]
    | cons π rest =>
      obtain ⟨h1, h2⟩ := fillTree_eq_updateAt e t π rest hw hh
      rw [astRun, astStep_cons, buildAST, h1]
      cases hu : updateAt (complete e) π t with
      | ok t' =>
        obtain ⟨w1, w2⟩ := h2 t' hu
        have := astRun_eq_buildAST es t' w1
        rwa [w2] at this
      | panic => rfl
      | diverge => rfl

theorem buildASTStack_eq (S : N) (es : List (Event T N)) :
    buildASTStack S es = buildAST es (Tree.node S none []) := by
  unfold buildASTStack
  have := astRun_eq_buildAST es (Tree.node S none [] : Tree T N) (by simp [WFT])
  simp only [holePaths] at this
  rw [this]
  cases buildAST es (Tree.node S none []) <;> rfl

end AlgoVerif.C10
