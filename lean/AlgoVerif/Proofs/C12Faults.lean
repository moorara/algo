import AlgoVerif.Model.C10Ext
import AlgoVerif.Proofs.C12Sound
import AlgoVerif.Proofs.Outcome
/-! `Parse` with a failing lexer / failing callbacks (`parseRunF`) against the run in which nothing fails
(`parseRunF_cut`), and that run against `parseLoop` (`parseRunF_none`).

The loop of `predictive.Parse` is modelled three times, each the case of the next in which less can happen:
* `parseLoop` (`Model/C10.lean`): a token list, nothing fails, answers `PResult` — what the parser decides; soundness,
  completeness and halting are stated on it.
* `parseRunF` (`Model/C10Ext.lean`): a token list, lexer and callbacks may fail at given calls, answers the events and an
  `Ending` — what the callbacks see; it is `parseLoop` when nothing fails (`parseRunF_none`, through `toPResult`).
* `parseRunL` (`Model/C10Edit.lean`): the lookahead comes from a lexer given by its answers — the loop as the code has it,
  the general one; it is `parseRunF` on the tokens the lexer delivers (`parseRunL_eq` in `Proofs/C10Edit.lean`). -/
namespace AlgoVerif.C10
open AlgoVerif AlgoVerif.Gram

set_option linter.unusedSectionVars false

section
variable {T N : Type} [DecidableEq T] [DecidableEq N]

/-- the answer of `Parse` (`parseLoop`) read off a run of `parseRunF` -/
def toPResult (evs : List (Event T N)) (r : List (Event T N) × Ending) : Outcome (PResult T N) :=
  match r.2 with
  | .accept => .ok (.accept (evs.reverse ++ r.1))
  | .reject why => .ok (.reject why)
  | .fail _ => .panic

theorem map_cons_bind_toPResult (o : Outcome (List (Event T N) × Ending)) (x : Event T N)
    (evs : List (Event T N)) :
    (o.map fun r => (x :: r.1, r.2)).bind (toPResult evs) = o.bind (toPResult (x :: evs)) := by
  cases o with
  | ok r =>
    obtain ⟨E, e⟩ := r
    cases e <;> simp [Outcome.map, Outcome.bind, toPResult]
  | panic => rfl
  | diverge => rfl

theorem parseRunF_none (M : N → Option T → List (GProd T N)) :
    ∀ (fuel : Nat) (stack : List (Sym T N)) (input : List T) (pos np : Nat) (evs : List (Event T N)),
      parseLoop M fuel stack input pos evs
        = (parseRunF M none none none fuel stack input pos np).bind (toPResult evs) := by
  intro fuel stack input pos np
  fun_induction parseRunF M none none none fuel stack input pos np
  -- the two recursive calls
  case case6 | case11 =>
    rename_i ih
    intro evs
    rw [map_cons_bind_toPResult, ← ih]
    simp only [parseLoop, *, if_true]
  -- a failing call (there is none), or the run ends
  all_goals first
    | exact absurd ‹none = some _› nofun
    | (intro evs; simp [parseLoop, Outcome.bind, toPResult, *])

theorem parseRunF_none_ne_fail (M : N → Option T → List (GProd T N)) :
    ∀ (fuel : Nat) (stack : List (Sym T N)) (input : List T) (pos np : Nat) (E : List (Event T N)) (f : Fault),
      parseRunF M none none none fuel stack input pos np ≠ .ok (E, .fail f) := by
  intro fuel stack input pos np
  fun_induction parseRunF M none none none fuel stack input pos np
  case case6 | case11 =>
    rename_i ih
    intro E f h
    obtain ⟨⟨E', _⟩, h', he⟩ := Outcome.map_eq_ok h
    cases he
    exact ih E' f h'
  all_goals first
    | exact absurd ‹none = some _› nofun
    | (intro E f h; cases h)

theorem parseRunF_cut (M : N → Option T → List (GProd T N)) (lf tf pf : Option Nat) :
    ∀ (fuel : Nat) (stack : List (Sym T N)) (input : List T) (pos np : Nat) (E : List (Event T N)) (e : Ending),
      parseRunF M none none none fuel stack input pos np = .ok (E, e) →
      parseRunF M lf tf pf fuel stack input pos np = .ok (cutEvents lf tf pf np E e) := by
  intro fuel stack input pos np
  fun_induction parseRunF M none none none fuel stack input pos np
  case case6 | case11 =>
    rename_i ih
    intro E e h
    obtain ⟨r, h', he⟩ := Outcome.map_eq_ok h
    cases he
    simp only [parseRunF, cutEvents, *, if_true]
    repeat' split
    all_goals first | rfl | (rw [ih r.1 r.2 h']; rfl)
  all_goals first
    | exact absurd ‹none = some _› nofun
    | (intro E e h; cases h <;> simp [parseRunF, cutEvents, *])

theorem cutEvents_spec (lf tf pf : Option Nat) :
    ∀ (E : List (Event T N)) (np : Nat) (e : Ending),
      (cutEvents lf tf pf np E e).1 <+: E ∧
      ((∀ f, (cutEvents lf tf pf np E e).2 ≠ .fail f) → cutEvents lf tf pf np E e = (E, e)) := by
  intro E
  induction E with
  | nil => exact fun np e => ⟨List.prefix_refl _, fun _ => rfl⟩
  | cons x es ih =>
    intro np e
    cases x with
    | tok t pos =>
      simp only [cutEvents]
      split
      · exact ⟨List.nil_prefix, fun h => absurd rfl (h _)⟩
      · split
        · exact ⟨(List.prefix_cons_inj _).2 List.nil_prefix, fun h => absurd rfl (h _)⟩
        · exact ⟨(List.prefix_cons_inj _).2 (ih np e).1, fun hf => by rw [(ih np e).2 hf]⟩
    | prod p =>
      simp only [cutEvents]
      split
      · exact ⟨List.nil_prefix, fun h => absurd rfl (h _)⟩
      · exact ⟨(List.prefix_cons_inj _).2 (ih (np + 1) e).1, fun hf => by rw [(ih (np + 1) e).2 hf]⟩

theorem cutEvents_append (lf tf pf : Option Nat) :
    ∀ (E₁ E₂ : List (Event T N)) (np : Nat) (e : Ending),
      (∀ t p, Event.tok t p ∈ E₁ → tf ≠ some p ∧ lf ≠ some (p + 1)) →
      (∀ k, k < (eventProds E₁).length → pf ≠ some (np + k)) →
      cutEvents lf tf pf np (E₁ ++ E₂) e =
        (E₁ ++ (cutEvents lf tf pf (np + (eventProds E₁).length) E₂ e).1,
         (cutEvents lf tf pf (np + (eventProds E₁).length) E₂ e).2) := by
  intro E₁
  induction E₁ with
  | nil => intro E₂ np e _ _; rfl
  | cons x es ih =>
    intro E₂ np e h1 h2
    have h1' := fun t p hm => h1 t p (List.mem_cons_of_mem _ hm)
    cases x with
    | tok t p =>
      obtain ⟨ht, hl⟩ := h1 t p (List.mem_cons_self ..)
      simp only [List.cons_append, cutEvents, if_neg ht, if_neg hl, eventProds]
      rw [ih E₂ np e h1' h2]
    | prod q =>
      have hq : pf ≠ some np := h2 0 (Nat.succ_pos _)
      have h2' : ∀ k, k < (eventProds es).length → pf ≠ some (np + 1 + k) := fun k hk =>
        Nat.add_right_comm np 1 k ▸ Nat.add_assoc np k 1 ▸ h2 (k + 1) (Nat.succ_lt_succ hk)
      simp only [List.cons_append, cutEvents, if_neg hq, eventProds, List.length_cons]
      rw [ih E₂ (np + 1) e h1' h2', Nat.add_assoc, Nat.add_comm 1]

theorem cutEvents_token (j : Nat) (t : T) (E₁ E₂ : List (Event T N)) (np : Nat) (e : Ending)
    (h : ∀ t' p, Event.tok t' p ∈ E₁ → p ≠ j) :
    cutEvents none (some j) none np (E₁ ++ .tok t j :: E₂) e = (E₁, .fail (.token j)) := by
  rw [cutEvents_append none (some j) none E₁ _ np e
    (fun t' p hm => ⟨fun e => h t' p hm (Option.some.inj e).symm, nofun⟩) (fun _ _ => nofun)]
  simp [cutEvents]

theorem cutEvents_prod (k : Nat) (q : GProd T N) (E₁ E₂ : List (Event T N)) (np : Nat) (e : Ending)
    (h : np + (eventProds E₁).length = k) :
    cutEvents none none (some k) np (E₁ ++ .prod q :: E₂) e = (E₁, .fail .prod) := by
  rw [cutEvents_append none none (some k) E₁ _ np e (fun _ _ _ => ⟨nofun, nofun⟩)
    (fun i hi e => by have := Option.some.inj e; omega)]
  simp [cutEvents, h]

theorem cutEvents_lexer (j : Nat) (t : T) (E₁ E₂ : List (Event T N)) (np : Nat) (e : Ending)
    (h : ∀ t' p, Event.tok t' p ∈ E₁ → p ≠ j) :
    cutEvents (some (j + 1)) none none np (E₁ ++ .tok t j :: E₂) e = (E₁ ++ [.tok t j], .fail .lexer) := by
  rw [cutEvents_append (some (j + 1)) none none E₁ _ np e
    (fun t' p hm => ⟨nofun, fun e => h t' p hm (Nat.succ.inj (Option.some.inj e)).symm⟩) (fun _ _ => nofun)]
  simp [cutEvents]

theorem parseWithF_none_done {g : Grammar T N} {an : Analysis T N} {fuel : Nat} {w : List T}
    {E : List (Event T N)} {e : Ending} (h : parseWithF g an none none none fuel w = .ok (.done E e)) :
    (tconflicts (buildTable (firstStr an.first) an.follow g.prods g.nonterms) g.nonterms (columns g)).isEmpty = true ∧
    parseRunF (tcell (buildTable (firstStr an.first) an.follow g.prods g.nonterms)) none none none fuel
      [.nonterm g.start] w 0 0 = .ok (E, e) := by
  unfold parseWithF at h
  dsimp only at h
  split at h
  · rename_i hc
    rw [if_neg nofun] at h
    refine ⟨hc, ?_⟩
    generalize parseRunF _ none none none fuel _ w 0 0 = o at h
    cases o with
    | ok r => cases h; rfl
    | panic => cases h
    | diverge => cases h
  · cases h

end

end AlgoVerif.C10
