import AlgoVerif.Proofs.C11Sound
import AlgoVerif.Proofs.C11Lists
/-!
# C11 — completeness of the LR driver on a table that passes the completeness validator

`CompleteTable`: a conflict-free table over LR(1) item sets that contain the initial item, are closed under CLOSURE
(with a FIRST that is closed under the productions), have a transition for every symbol after a dot into a state
holding the advanced item, and a reduce (accept) action for every complete item on its lookahead.

On such a table the driver, started below a derivation tree `t` of the grammar, works its way through the yield
of `t`, emits the productions of `t` bottom-up, builds exactly `t` on the node stack and ends in the GOTO state —
by induction on the tree (in the style of Jourdan, Pottier, Leroy: "Validating LR(1) parsers").  Hence every
sentence is accepted, and the AST returned is its derivation tree.
-/
namespace AlgoVerif.C11.Complete
open AlgoVerif AlgoVerif.Gram AlgoVerif.C11 AlgoVerif.C11.Spec

/-- the token the driver looks at -/
def look (v : List String) : String :=
  match v with
  | [] => endmarker
  | a :: _ => a

theorem tok_eq_look (st : PState) : st.tok = look st.input := rfl

structure CompleteTable (g : SGrammar) (start' : String) (nl : List String) (fe : Env)
    (items : Int → List Item) (T : Tbl) : Prop where
  init : ({ prod := { head := start', body := [Sym.nonterm g.start] }, dot := 0, la := some endmarker } : Item) ∈ items 0
  closed : ∀ s it B a, it ∈ items s → it.dotSym = some (Sym.nonterm B) → it.la = some a →
    ∀ p ∈ g.prods, p.head = B → ∀ b ∈ lookaheadsFor nl fe it a,
      ({ prod := p, dot := 0, la := some b } : Item) ∈ items s
  advT : ∀ s it a, it ∈ items s → it.dotSym = some (Sym.term a) →
    ∃ t, Action.shift t ∈ T.cell s a ∧ it.next ∈ items t
  advN : ∀ s it A, it ∈ items s → it.dotSym = some (Sym.nonterm A) →
    ∃ t, T.goto s A = some t ∧ it.next ∈ items t
  red : ∀ s it a, it ∈ items s → it.isComplete = true → it.la = some a → it.prod.head ≠ start' →
    Action.reduce it.prod ∈ T.cell s a
  acc : ∀ s it, it ∈ items s → it.isComplete = true → it.prod.head = start' → Action.accept ∈ T.cell s endmarker
  conflictFree : ∀ s a, (T.cell s a).length ≤ 1
  nullClosed : ∀ p ∈ g.prods, p.body.all (symNullable nl) = true → p.head ∈ nl
  firstClosed : ∀ p ∈ g.prods, ∀ c ∈ firstOfStr nl fe p.body, c ∈ envGet fe p.head
  fresh : ∀ p ∈ g.prods, p.head ≠ start'

theorem cell_single {T : Tbl} {s : Int} {a : String} {x : Action} (hcf : (T.cell s a).length ≤ 1)
    (hx : x ∈ T.cell s a) : T.cell s a = [x] := by
  match hc : T.cell s a, hcf, hx with
  | [y], _, hx => simp at hx; rw [hx]
  | _ :: _ :: _, hcf, _ => simp at hcf

def iter (T : Tbl) : Nat → PState → Option PState
  | 0, st => some st
  | n + 1, st =>
    match pstep T st with
    | .inl st' => iter T n st'
    | .inr _ => none

def Reaches (T : Tbl) (st st' : PState) : Prop := ∃ n, iter T n st = some st'

section
variable {T : Tbl}

theorem reaches_refl (T : Tbl) (st : PState) : Reaches T st st := ⟨0, rfl⟩

theorem iter_add : ∀ (n m : Nat) (a : PState), iter T (n + m) a = (iter T n a).bind (iter T m)
  | 0, m, a => by simp [iter]
  | n + 1, m, a => by
    rw [show n + 1 + m = (n + m) + 1 by omega]
    simp only [iter]
    cases pstep T a with
    | inl a' => exact iter_add n m a'
    | inr r => rfl

theorem iter_one {a : PState} : iter T 1 a = (match pstep T a with | .inl b => some b | .inr _ => none) := by
  simp only [iter]

theorem reaches_trans {a b c : PState} (h1 : Reaches T a b) (h2 : Reaches T b c) : Reaches T a c := by
  obtain ⟨n, hn⟩ := h1
  obtain ⟨m, hm⟩ := h2
  exact ⟨n + m, by rw [iter_add, hn]; exact hm⟩

theorem reaches_step {a b : PState} (h : pstep T a = .inl b) : Reaches T a b :=
  ⟨1, by simp [iter, h]⟩

theorem prun_eq_ok_iff {r : PResult} : ∀ {F : Nat} {a : PState},
    prun T F a = Outcome.ok r ↔ ∃ n b, n < F ∧ iter T n a = some b ∧ pstep T b = .inr r
  | 0, a => by simp [prun]
  | F + 1, a => by
    unfold prun
    cases hs : pstep T a with
    | inl a' =>
      simp only [prun_eq_ok_iff (F := F)]
      constructor
      · rintro ⟨n, b, hn, hi, hb⟩
        exact ⟨n + 1, b, by omega, by simp [iter, hs, hi], hb⟩
      · rintro ⟨n, b, hn, hi, hb⟩
        cases n with
        | zero => simp only [iter, Option.some.injEq] at hi; subst hi; rw [hs] at hb; cases hb
        | succ n => exact ⟨n, b, by omega, by simpa [iter, hs] using hi, hb⟩
    | inr r' =>
      simp only [Outcome.ok.injEq]
      constructor
      · rintro rfl; exact ⟨0, a, by omega, rfl, hs⟩
      · rintro ⟨n, b, _, hi, hb⟩
        cases n with
        | zero => simp only [iter, Option.some.injEq] at hi; subst hi; rw [hs] at hb; cases hb; rfl
        | succ n => simp [iter, hs] at hi

theorem prun_det {F F' : Nat} {a : PState} {r r' : PResult} (h : prun T F a = .ok r) (h' : prun T F' a = .ok r') :
    r = r' := by
  obtain ⟨k, b, hk, hb⟩ := prun_eq_ok_iff.mp h
  obtain ⟨k', b', hk', hb'⟩ := prun_eq_ok_iff.mp h'
  have h1 : prun T (F + F') a = .ok r := prun_eq_ok_iff.mpr ⟨k, b, by omega, hb⟩
  have h2 : prun T (F + F') a = .ok r' := prun_eq_ok_iff.mpr ⟨k', b', by omega, hb'⟩
  exact Outcome.ok.inj (h1.symm.trans h2)

end

section
variable {g : SGrammar} {nl : List String} {fe : Env}
  (hN : ∀ p ∈ g.prods, p.body.all (symNullable nl) = true → p.head ∈ nl)
  (hF : ∀ p ∈ g.prods, ∀ c ∈ firstOfStr nl fe p.body, c ∈ envGet fe p.head)
include hN

mutual
theorem null_tree : ∀ (t : Tree) (X : Sy), derivesT g t X → t.yield = [] → symNullable nl X = true
  | .leaf a, _, _, hy => by simp [Tree.yield] at hy
  | .nil, _, hd, _ => by simp [derivesT] at hd
  | .node p ks, X, hd, hy => by
    simp only [derivesT] at hd
    obtain ⟨rfl, hp, hks⟩ := hd
    simpa [symNullable] using hN p hp (null_forest ks p.body hks hy)
theorem null_forest : ∀ (ks : List Tree) (σ : List Sy), derivesL g ks σ → Tree.yieldL ks = [] →
    σ.all (symNullable nl) = true
  | [], σ, hd, _ => by simp [derivesL] at hd; subst hd; simp
  | t :: tr, σ, hd, hy => by
    simp only [derivesL] at hd
    obtain ⟨X, Xr, rfl, hdt, hdr⟩ := hd
    simp only [Tree.yieldL, List.append_eq_nil_iff] at hy
    simp [null_tree t X hdt hy.1, null_forest tr Xr hdr hy.2]
end

include hF

mutual
theorem first_tree : ∀ (t : Tree) (X : Sy) (c : String) (x : List String), derivesT g t X → t.yield = c :: x →
    c ∈ firstOfStr nl fe [X]
  | .leaf a, X, c, x, hd, hy => by
    simp only [derivesT] at hd
    subst hd
    simp only [Tree.yield, List.cons.injEq] at hy
    simp [firstOfStr, hy.1]
  | .nil, _, _, _, hd, _ => by simp [derivesT] at hd
  | .node p ks, X, c, x, hd, hy => by
    simp only [derivesT] at hd
    obtain ⟨rfl, hp, hks⟩ := hd
    have h2 := hF p hp c (first_forest ks p.body c x hks hy)
    simp only [firstOfStr]
    split
    · exact Built.mem_unionNew.mpr (Or.inl h2)
    · exact h2
theorem first_forest : ∀ (ks : List Tree) (σ : List Sy) (c : String) (x : List String), derivesL g ks σ →
    Tree.yieldL ks = c :: x → c ∈ firstOfStr nl fe σ
  | [], _, _, _, _, hy => by simp [Tree.yieldL] at hy
  | t :: tr, σ, c, x, hd, hy => by
    simp only [derivesL] at hd
    obtain ⟨X, Xr, rfl, hdt, hdr⟩ := hd
    simp only [Tree.yieldL] at hy
    cases hty : t.yield with
    | nil =>
      rw [hty] at hy
      simp only [List.nil_append] at hy
      have hnull := null_tree hN t X hdt hty
      have hrest := first_forest tr Xr c x hdr hy
      cases X with
      | term a => simp [symNullable] at hnull
      | nonterm n =>
        have hn : n ∈ nl := by simpa [symNullable] using hnull
        simp only [firstOfStr, hn, if_true]
        exact Built.mem_unionNew.mpr (Or.inr hrest)
    | cons c' x' =>
      rw [hty] at hy
      simp only [List.cons_append, List.cons.injEq] at hy
      have h1 := first_tree t X c' x' hdt hty
      rw [hy.1] at h1
      cases X with
      | term a => simpa [firstOfStr] using h1
      | nonterm n =>
        simp only [firstOfStr] at h1 ⊢
        by_cases hn : n ∈ nl
        · simp only [hn, if_true] at h1 ⊢
          rcases Built.mem_unionNew.mp h1 with h2 | h2
          · exact Built.mem_unionNew.mpr (Or.inl h2)
          · simp at h2
        · simp only [hn, if_false] at h1 ⊢
          exact h1
end

theorem look_sem {ks : List Tree} {σ : List Sy} (hd : derivesL g ks σ) (v : List String) :
    look (Tree.yieldL ks ++ v) ∈
      (if σ.all (symNullable nl) then unionNew (firstOfStr nl fe σ) [look v] else firstOfStr nl fe σ) := by
  cases hy : Tree.yieldL ks with
  | nil =>
    have := null_forest hN ks σ hd hy
    simp only [this, if_true, List.nil_append]
    exact Built.mem_unionNew.mpr (Or.inr (by simp))
  | cons c x =>
    have := first_forest hN hF ks σ c x hd hy
    simp only [List.cons_append, look]
    split
    · exact Built.mem_unionNew.mpr (Or.inl this)
    · exact this

end

theorem derivesL_length {g : SGrammar} : ∀ {ks : List Tree} {σ : List Sy}, derivesL g ks σ → ks.length = σ.length
  | [], σ, h => by simp [derivesL] at h; subst h; rfl
  | k :: kr, σ, h => by
    simp only [derivesL] at h
    obtain ⟨X, Xr, rfl, _, hkr⟩ := h
    simp [derivesL_length hkr]

/-- what the driver does below a tree `t` for the symbol after the dot of `it`: it ends in the state the table pushes
for that symbol, with `t` on the node stack.  The last conjunct (the pushed state is the table's `Target`) is not needed for
completeness; `Term.climb_frames` identifies the states the driver pushes by it -/
def ProcT (g : SGrammar) (nl : List String) (fe : Env) (items : Int → List Item) (T : Tbl) (t : Tree) : Prop :=
  ∀ (X : Sy) (st : PState) (it : Item) (v : List String),
    derivesT g t X → st.input = t.yield ++ v → it ∈ items (peekState st.stack) → it.dotSym = some X →
    (∀ B, X = Sym.nonterm B → ∃ a, it.la = some a ∧ look v ∈ lookaheadsFor nl fe it a) →
    ∃ (st' : PState) (s' : Int), Reaches T st st' ∧ st'.stack = s' :: st.stack ∧ it.next ∈ items s' ∧
      st'.input = v ∧ st'.out = (postT t).reverse ++ st.out ∧ st'.nodes = t :: st.nodes ∧
      Term.Target T (peekState st.stack) X s'

theorem dotSym_at {p : Pr} {pre : List Sy} {X : Sy} {σ : List Sy} {la : Option String}
    (hb : p.body = pre ++ X :: σ) : ({ prod := p, dot := pre.length, la := la } : Item).dotSym = some X := by
  simp [Item.dotSym, hb]

theorem dotSym_split {it : Item} {X : Sy} (hd : it.dotSym = some X) :
    it.prod.body = it.prod.body.take it.dot ++ X :: it.prod.body.drop (it.dot + 1) := by
  obtain ⟨hlt, hget⟩ := List.getElem?_eq_some_iff.mp hd
  rw [← hget, ← List.drop_eq_getElem_cons hlt, List.take_append_drop]

theorem lookaheadsFor_at {nl : List String} {fe : Env} {p : Pr} {pre : List Sy} {X : Sy} {σ : List Sy}
    {l : String} (hb : p.body = pre ++ X :: σ) :
    lookaheadsFor nl fe ({ prod := p, dot := pre.length, la := some l } : Item) l =
      (if σ.all (symNullable nl) then unionNew (firstOfStr nl fe σ) [l] else firstOfStr nl fe σ) := by
  have : p.body.drop (pre.length + 1) = σ := by
    rw [hb]; simp
  simp only [lookaheadsFor, this]

section
variable {g : SGrammar} {start' : String} {nl : List String} {fe : Env} {items : Int → List Item} {T : Tbl}
  (hC : CompleteTable g start' nl fe items T)
include hC

mutual
theorem proc_tree : ∀ (t : Tree), ProcT g nl fe items T t
  | .nil => fun X st it v hd => by simp [derivesT] at hd
  | .leaf a => by
    intro X st it v hd hin hit hdot _
    simp only [derivesT] at hd
    subst hd
    obtain ⟨t', hsh, hnext⟩ := hC.advT _ it a hit hdot
    have hin' : st.input = a :: v := by simpa [Tree.yield] using hin
    have htok : st.tok = a := by rw [tok_eq_look, hin']; rfl
    have hstep := Term.pstep_of_shift (htok ▸ cell_single (hC.conflictFree _ _) hsh)
    exact ⟨_, t', reaches_step hstep, rfl, hnext, by simp [hin'], by simp [postT], by rw [htok], hsh⟩
  | .node p ks => by
    intro X st it v hd hin hit hdot hla
    simp only [derivesT] at hd
    obtain ⟨rfl, hp, hks⟩ := hd
    obtain ⟨a, hita, hlook⟩ := hla p.head rfl
    -- the item B → •γ with lookahead `look v` is in the state
    have hi0 := hC.closed _ it p.head a hit hdot hita p hp rfl (look v) hlook
    have hin' : st.input = Tree.yieldL ks ++ v := by simpa [Tree.yield] using hin
    obtain ⟨st1, pushed, hr1, hstk1, hlen1, hfin1, hin1, hout1, hnodes1⟩ :=
      proc_forest p (look v) ks p.body [] st v hks (by simp) hin' rfl (by simpa using hi0)
    have htok : st1.tok = look v := by rw [tok_eq_look, hin1]
    have hred := hC.red _ _ (look v) hfin1 (by simp [Item.isComplete]) rfl (hC.fresh p hp)
    have hstep := Term.pstep_of_reduce (htok ▸ cell_single (hC.conflictFree _ _) hred)
    obtain ⟨s', hgoto, hnext⟩ := hC.advN _ it p.head hit hdot
    have hklen : ks.reverse.length = p.body.length := by simpa using derivesL_length hks
    refine ⟨_, s', reaches_trans hr1 (reaches_step hstep), ?_, hnext, by simpa using hin1, by simp [postT, hout1], ?_, hgoto⟩
    · simp [hstk1, ← hlen1, hgoto]
    · simp [hnodes1, popKids, ← hklen]
theorem proc_forest (p : Pr) (l : String) :
    ∀ (ks : List Tree) (σ pre : List Sy) (st : PState) (v : List String),
      derivesL g ks σ → p.body = pre ++ σ →
      st.input = Tree.yieldL ks ++ v → look v = l →
      ({ prod := p, dot := pre.length, la := some l } : Item) ∈ items (peekState st.stack) →
      ∃ (st' : PState) (pushed : List Int), Reaches T st st' ∧ st'.stack = pushed ++ st.stack ∧
        pushed.length = σ.length ∧
        ({ prod := p, dot := p.body.length, la := some l } : Item) ∈ items (peekState st'.stack) ∧
        st'.input = v ∧ st'.out = (postL ks).reverse ++ st.out ∧ st'.nodes = ks.reverse ++ st.nodes
  | [] => by
    intro σ pre st v hd hb hin _ hit
    simp only [derivesL] at hd
    subst hd
    simp only [List.append_nil] at hb
    refine ⟨st, [], reaches_refl T st, by simp, by simp, ?_, by simpa [Tree.yieldL] using hin, by simp [postL], by simp⟩
    rw [hb]; exact hit
  | t :: tr => by
    intro σ pre st v hd hb hin hl hit
    simp only [derivesL] at hd
    obtain ⟨X, σr, rfl, hdt, hdr⟩ := hd
    have hin1 : st.input = t.yield ++ (Tree.yieldL tr ++ v) := by
      rw [hin]; simp [Tree.yieldL, List.append_assoc]
    obtain ⟨st1, s1, hr1, hstk1, hnext1, hin1', hout1, hnodes1, _⟩ :=
      proc_tree t X st _ (Tree.yieldL tr ++ v) hdt hin1 hit (dotSym_at hb) (by
        intro B hB
        refine ⟨l, rfl, ?_⟩
        rw [lookaheadsFor_at hb]
        have := look_sem hC.nullClosed hC.firstClosed hdr v
        rw [hl] at this
        exact this)
    have hb' : p.body = (pre ++ [X]) ++ σr := by rw [hb]; simp
    have hit' : ({ prod := p, dot := (pre ++ [X]).length, la := some l } : Item) ∈ items (peekState st1.stack) := by
      rw [hstk1]
      simpa [peekState, Item.next] using hnext1
    obtain ⟨st2, pushed, hr2, hstk2, hlen2, hfin2, hin2, hout2, hnodes2⟩ :=
      proc_forest p l tr σr (pre ++ [X]) st1 v hdr hb' hin1' hl hit'
    refine ⟨st2, pushed ++ [s1], reaches_trans hr1 hr2, ?_, by simp [hlen2], hfin2, hin2, ?_, ?_⟩
    · rw [hstk2, hstk1]; simp
    · rw [hout2, hout1]; simp [postL, List.append_assoc]
    · rw [hnodes2, hnodes1]; simp
end

end

theorem complete_tree {g : SGrammar} {start' : String} {nl : List String} {fe : Env} {items : Int → List Item}
    {T : Tbl} (hC : CompleteTable g start' nl fe items T) (t : Tree)
    (hd : derivesT g t (Sym.nonterm g.start)) :
    ∃ fuel, parse T fuel t.yield = Outcome.ok (PResult.accept (postT t) t) := by
  let it0 : Item := { prod := { head := start', body := [Sym.nonterm g.start] }, dot := 0, la := some endmarker }
  have hproc := proc_tree hC t (Sym.nonterm g.start) (pinit t.yield) it0 []
    hd (by simp [pinit]) (by simpa [pinit, peekState] using hC.init) (by simp [it0, Item.dotSym]) (by
      intro B _
      refine ⟨endmarker, rfl, ?_⟩
      simp [it0, lookaheadsFor, look, firstOfStr, unionNew, addNew])
  obtain ⟨st', s', ⟨n, hn⟩, hstk, hnext, hin, hout, hnodes, _⟩ := hproc
  have hacc := hC.acc s' it0.next hnext (by simp [it0, Item.next, Item.isComplete]) (by simp [it0, Item.next])
  have hcell := cell_single (hC.conflictFree _ _) hacc
  have htok : st'.tok = endmarker := by rw [tok_eq_look, hin]; rfl
  have hpeek : peekState st'.stack = s' := by rw [hstk]; rfl
  refine ⟨n + 1, prun_eq_ok_iff.mpr ⟨n, st', Nat.lt_succ_self n, hn, ?_⟩⟩
  simp only [pstep, hpeek, htok, hcell, hout, hnodes]
  simp [pinit]

theorem unambiguous {g : SGrammar} {start' : String} {nl : List String} {fe : Env} {items : Int → List Item} {T : Tbl}
    (hC : CompleteTable g start' nl fe items T) {t1 t2 : Tree} (h1 : derivesT g t1 (Sym.nonterm g.start))
    (h2 : derivesT g t2 (Sym.nonterm g.start)) (hy : t1.yield = t2.yield) : t1 = t2 := by
  obtain ⟨f1, hf1⟩ := complete_tree hC t1 h1
  obtain ⟨f2, hf2⟩ := complete_tree hC t2 h2
  rw [hy] at hf1
  exact (PResult.accept.inj (prun_det hf1 hf2)).2

theorem derivesL_split {g : SGrammar} : ∀ {ks : List Tree} {a b : List Sy}, derivesL g ks (a ++ b) →
    ∃ k1 k2, ks = k1 ++ k2 ∧ derivesL g k1 a ∧ derivesL g k2 b
  | ks, [], b, h => ⟨[], ks, rfl, by simp [derivesL], by simpa using h⟩
  | [], X :: a, b, h => by simp [derivesL] at h
  | t :: tr, X :: a, b, h => by
    simp only [List.cons_append, derivesL] at h
    obtain ⟨X', Xr, heq, ht, hr⟩ := h
    simp only [List.cons.injEq] at heq
    obtain ⟨rfl, rfl⟩ := heq
    obtain ⟨k1, k2, rfl, h1, h2⟩ := derivesL_split hr
    exact ⟨t :: k1, k2, rfl, by simp only [derivesL]; exact ⟨X, a, rfl, ht, h1⟩, h2⟩

theorem derivesL_terms (g : SGrammar) : ∀ (w : List String),
    derivesL g (w.map Tree.leaf) (w.map Sym.term) ∧ Tree.yieldL (w.map Tree.leaf) = w
  | [] => by simp [derivesL, Tree.yieldL]
  | a :: w => by
    obtain ⟨h1, h2⟩ := derivesL_terms g w
    constructor
    · simp only [List.map_cons, derivesL]
      exact ⟨Sym.term a, w.map Sym.term, rfl, by simp [derivesT], h1⟩
    · simp [Tree.yieldL, Tree.yield, h2]

def HasForest (g : SGrammar) (w : List String) (φ : List Sy) : Prop :=
  ∃ ks, derivesL g ks φ ∧ Tree.yieldL ks = w

theorem hasForest_step {g : SGrammar} {w : List String} {β γ : List Sy} (hs : Step g β γ)
    (hγ : HasForest g w γ) : HasForest g w β := by
  cases hs with
  | mk u v p hp =>
    obtain ⟨ks, hks, hy⟩ := hγ
    obtain ⟨kuv, kv, rfl, huv, hv⟩ := derivesL_split hks
    obtain ⟨ku, kb, rfl, hu, hb⟩ := derivesL_split huv
    refine ⟨ku ++ [Tree.node p kb] ++ kv, ?_, ?_⟩
    · apply derivesL_append (derivesL_append hu _) hv
      simp [derivesL, derivesT, hp, hb]
    · rw [← hy]
      simp [yieldL_append, Tree.yieldL, Tree.yield]

theorem hasForest_of_derives {g : SGrammar} {w : List String} {α β : List Sy} (hd : Derives g α β)
    (hβ : HasForest g w β) : HasForest g w α := by
  induction hd with
  | refl => exact hβ
  | tail _ hs ih => exact ih (hasForest_step hs hβ)

theorem derivesL_singleton {g : SGrammar} {ks : List Tree} {X : Sy} (h : derivesL g ks [X]) :
    ∃ t, ks = [t] ∧ derivesT g t X := by
  match ks, h with
  | [], h => simp [derivesL] at h
  | t :: kr, h =>
    simp only [derivesL] at h
    obtain ⟨X', Xr, heq, ht, hr⟩ := h
    simp only [List.cons.injEq] at heq
    obtain ⟨rfl, rfl⟩ := heq
    have : kr = [] := List.eq_nil_of_length_eq_zero (by simpa using derivesL_length hr)
    exact ⟨t, by rw [this], ht⟩

theorem tree_of_language {g : SGrammar} {w : List String} (hw : Language g w) :
    ∃ t, derivesT g t (Sym.nonterm g.start) ∧ t.yield = w := by
  have h0 : HasForest g w (w.map Sym.term) := ⟨_, (derivesL_terms g w).1, (derivesL_terms g w).2⟩
  obtain ⟨ks, hks, hy⟩ := hasForest_of_derives hw h0
  obtain ⟨t, rfl, ht⟩ := derivesL_singleton hks
  exact ⟨t, ht, by simpa [Tree.yieldL] using hy⟩

theorem complete_language {g : SGrammar} {start' : String} {nl : List String} {fe : Env} {items : Int → List Item}
    {T : Tbl} (hC : CompleteTable g start' nl fe items T) (w : List String) (hw : Language g w) :
    ∃ fuel t, derivesT g t (Sym.nonterm g.start) ∧ t.yield = w ∧
      parse T fuel w = Outcome.ok (PResult.accept (postT t) t) := by
  obtain ⟨t, ht, hy⟩ := tree_of_language hw
  obtain ⟨fuel, hf⟩ := complete_tree hC t ht
  exact ⟨fuel, t, ht, hy, hy ▸ hf⟩

end AlgoVerif.C11.Complete
