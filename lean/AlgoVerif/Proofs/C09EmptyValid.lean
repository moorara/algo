import AlgoVerif.Proofs.C09Valid
/-!
# The result of `EliminateEmptyProductions` passes `Verify()` — without assuming `L(G) ≠ ∅`

Everything the pruning step removes after ε-elimination is a nullable non-terminal: a non-nullable
non-terminal keeps the variant of one of its bodies that drops every nullable symbol, and that variant
mentions non-nullable non-terminals only.  So the start symbol keeps a production (if it is nullable, the
fresh start symbol has `S′ → ε`, which pruning never removes).
-/
namespace AlgoVerif.C08
open AlgoVerif AlgoVerif.Gram AlgoVerif.C08.Spec

def minVar (nul : List String) (b : List SSym) : List SSym :=
  b.filter fun s => match s with
    | .nonterm n => decide (n ∉ nul)
    | .term _ => true

theorem minVar_variant (nul : List String) : ∀ b : List SSym, Variant nul b (minVar nul b) := by
  intro b
  induction b with
  | nil => exact Variant.nil
  | cons s b ih =>
    cases s with
    | term t => simpa [minVar] using Variant.keep (Sym.term t) ih
    | nonterm n =>
      by_cases hn : n ∈ nul
      · have : minVar nul (Sym.nonterm n :: b) = minVar nul b := by simp [minVar, hn]
        rw [this]; exact Variant.drop n hn ih
      · have : minVar nul (Sym.nonterm n :: b) = Sym.nonterm n :: minVar nul b := by simp [minVar, hn]
        rw [this]; exact Variant.keep _ ih

theorem minVar_ne_nil {nul : List String} {b : List SSym} (h : bodyAllIn nul b = false) : minVar nul b ≠ [] := by
  -- a symbol that fails the test of `bodyAllIn` is kept
  obtain ⟨s, hs, hf⟩ := List.all_eq_false.1 h
  refine List.ne_nil_of_mem (List.mem_filter.2 ⟨hs, ?_⟩)
  cases s <;> simp_all

theorem mem_minVar {nul : List String} {b : List SSym} {n : String} (h : Sym.nonterm n ∈ minVar nul b) :
    n ∉ nul ∧ Sym.nonterm n ∈ b := by
  unfold minVar at h
  obtain ⟨h1, h2⟩ := List.mem_filter.mp h
  exact ⟨by simpa using h2, h1⟩

theorem emptyFree_keeps {g : G} {nul : List String} (hn : nullable g = .ok nul) (hv : Valid g) :
    ∀ X ∈ g.nonterms, X ∉ nul → ∃ p ∈ emptyFreeProds nul g.prods, p.head = X ∧
      ∀ n, Sym.nonterm n ∈ p.body → n ∉ nul ∧ n ∈ g.nonterms := by
  have hfix : nullablePass g.prods nul = nul := by
    unfold nullable at hn
    exact iterFix_fix _ _ _ _ (ofOpt_ok hn)
  intro X hX hXn
  obtain ⟨p, hp, hh⟩ := hv.2.1 X hX
  have hb : bodyAllIn nul p.body = false := by
    cases hc : bodyAllIn nul p.body with
    | false => rfl
    | true => exact absurd (hh ▸ nullablePass_closed hfix p hp hc) hXn
  have hne := minVar_ne_nil hb
  refine ⟨{ head := p.head, body := minVar nul p.body },
    mem_emptyFreeProds hp (minVar_variant nul p.body) hne, hh, ?_⟩
  intro n hn'
  obtain ⟨h1, h2⟩ := mem_minVar hn'
  exact ⟨h1, (hv.2.2 p hp).2 _ h2⟩

theorem elimEmpty_valid {g g' : G} (h : elimEmpty g = .ok g') (hv : Valid g) : Valid g' := by
  have hwf := elimEmpty_wf h hv.wellFormed
  obtain ⟨nul, hn, hcase⟩ := elimEmpty_ok h
  rcases hcase with ⟨hs, rfl⟩ | ⟨_, s', _, rfl⟩ <;> refine valid_of_pruned_start hwf (prune_done _) ?_ <;> rw [prune_start]
  · -- the productions over non-nullable non-terminals support themselves, and the start symbol has one
    obtain ⟨p, hp, hh, hb⟩ := emptyFree_keeps hn hv g.start hv.1 hs
    refine ⟨p, prune_survives (g := { g with prods := emptyFreeProds nul g.prods })
      (K := fun p => ∀ n, Sym.nonterm n ∈ p.body → n ∉ nul ∧ n ∈ g.nonterms) (fun q _ hq n hn' => ?_) p hp hb, hh⟩
    obtain ⟨r, hr, hrh, hrb⟩ := emptyFree_keeps hn hv n (hq n hn').2 (hq n hn').1
    exact ⟨r, hr, hrb, hrh⟩
  · -- `S′ → ε` supports itself
    exact ⟨{ head := s', body := [] }, prune_survives (K := fun p => p.body = [])
      (fun _ _ h n hn => by rw [h] at hn; cases hn) _ (mem_ins.mpr (Or.inr rfl)) rfl, rfl⟩

theorem elimCycles_valid {g g' : G} (h : elimCycles g = .ok g') (hv : Valid g) (hl : ∃ w, Language g w) : Valid g' := by
  obtain ⟨g1, g2, h1, h2, h3⟩ := elimCycles_ok h
  have hv1 := elimEmpty_valid h1 hv
  obtain ⟨w, hw⟩ := hl
  have hl1 : ∃ w, Language g1 w := ⟨w, (elimEmpty_language h1 hv.wellFormed w).mpr hw⟩
  exact elimUnreachable_valid h3 (elimSingle_valid h2 hv1 hl1)

end AlgoVerif.C08
