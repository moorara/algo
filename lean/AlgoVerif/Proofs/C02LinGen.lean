import AlgoVerif.Generated.C02LinGen
import AlgoVerif.Proofs.GoRt
import AlgoVerif.Model.C02
/-!
# The GENERATED `probe` / `Get` of `symboltable/linear_hash_table.go` and the hand Model

`probe` returns a closure with mutable captured state; the translator converts it (closure.go: the
record `linearHashTable_probeEnv` of the captured variables `M, h1, i, next` and the method `call` = the literal's body),
`Get` is the probe loop over it.  The hand Model (`Model/C02.lean`) has the `i`-th probe as the closed form
`Lin.probeIdx m h i` over `Nat` and the loop `Lin.getLoop` with fuel `m`.  Proved here: for every table of the hand Model
with `0 < m < 2^32`, every hash function and key, the generated `Get` with fuel `m` returns exactly what the hand Model's
`Lin.get` returns — the same panic for an index outside `entries`, the same `diverge` after `m` probes without a nil
slot — where `(v, true)` stands for `some v` and `(default, false)` for `none`.
-/
namespace AlgoVerif.C02.Gen
open AlgoVerif AlgoVerif.Outcome AlgoVerif.C02 AlgoVerif.Generated

variable {K V : Type} [DecidableEq K] [Inhabited K] [Inhabited V]

/-- a table of the hand Model as the generated struct (`hash`, `eqVal` and the two float32 load factors, which `probe`
and `Get` do not read, are arbitrary) -/
def ofLin (hash : K → UInt64) (eqVal : V → V → Bool) (lfMin lfMax : Go.F32) (t : LinTable K V) : LinHT.linearHashTable K V :=
  { entries := t.slots.map (Option.map fun e => ⟨e.1, e.2⟩), m := (t.m : Int), n := t.n, minLF := lfMin, maxLF := lfMax,
    hashKey := hash, eqKey := fun a b => decide (a = b), eqVal := eqVal }

/-- `(V, bool)` of Go's `Get` for the hand Model's `Option V` -/
def pairOf : Option V → V × Bool
  | some v => (v, true)
  | none => (default, false)

/-- the hand Model's `mix` (over the first tie's regenerated `symboltable_mixShifts`) as the generated text of `probe`
writes it, shift counts retyped: a changed shift in the source changes both files and this stops checking -/
theorem mix_eq (h : UInt64) :
    mix h = h ^^^ ((((h >>> (20 : UInt64)) ^^^ (h >>> (12 : UInt64))) ^^^ (h >>> (7 : UInt64))) ^^^ (h >>> (4 : UInt64))) := by
  simp [mix, symboltable_mixShifts]

theorem toInt_of_lt (x : UInt64) (h : x.toNat < 2 ^ 63) : x.toInt64.toInt = (x.toNat : Int) := by
  have e : x = UInt64.ofNat x.toNat := by simp
  calc x.toInt64.toInt = (UInt64.ofNat x.toNat).toInt64.toInt := by rw [← e]
    _ = (Int64.ofNat x.toNat).toInt := by rw [UInt64.toInt64_ofNat']
    _ = (x.toNat : Int) := Int64.toInt_ofNat_of_lt h

theorem ofInt_nat (m : Nat) (h : m < 2 ^ 64) : (UInt64.ofInt (m : Int)).toNat = m := by
  simp [UInt64.ofInt, UInt64.toNat_ofNat']; omega

/-- the closure's environment after `j` calls (`next` is scratch) -/
def EnvOK (m : Nat) (h : UInt64) (j : Nat) (env : LinHT.linearHashTable_probeEnv) : Prop :=
  env.M.toNat = m ∧ env.h1.toNat = h.toNat &&& (m - 1) ∧ env.i.toNat = j

theorem probe_ok (hash : K → UInt64) (eqVal : V → V → Bool) (a b : Go.F32) (t : LinTable K V) (key : K)
    (hm0 : 0 < t.m) (hm : t.m < 2 ^ 32) :
    EnvOK t.m (mix (hash key)) 0 (LinHT.linearHashTable.probe (ofLin hash eqVal a b t) key) := by
  have hM : (UInt64.ofInt (t.m : Int)).toNat = t.m := ofInt_nat t.m (by omega)
  have h1 : (UInt64.ofInt (t.m : Int) - 1).toNat = t.m - 1 := by
    rw [UInt64.toNat_sub_of_le _ _ (by rw [UInt64.le_iff_toNat_le, hM]; simp; omega), hM]; simp
  simp only [LinHT.linearHashTable.probe, Id.run, ofLin, mix_eq, EnvOK]
  refine ⟨hM, ?_, rfl⟩
  show (_ &&& (UInt64.ofInt (t.m : Int) - 1)).toNat = _
  rw [UInt64.toNat_and, h1]

theorem call_ok (m : Nat) (h : UInt64) (j : Nat) (env : LinHT.linearHashTable_probeEnv) (he : EnvOK m h j env)
    (hm0 : 0 < m) (hm : m < 2 ^ 32) (hj : j < 2 ^ 32) :
    ∃ env', LinHT.linearHashTable_probeEnv.call env = .ok (env', ((Lin.probeIdx m h j : Nat) : Int)) ∧
      EnvOK m h (j + 1) env' := by
  obtain ⟨eM, eH, eI⟩ := he
  have hlt : h.toNat &&& (m - 1) < m := by
    have := @Nat.and_le_right h.toNat (m - 1); omega
  have hI1 : (env.i + 1).toNat = j + 1 := by rw [UInt64.toNat_add, eI]; simp; omega
  have hz : (env.i == (0 : UInt64)) = decide (j = 0) := by
    rw [Bool.eq_iff_iff]; simp only [beq_iff_eq, decide_eq_true_eq, ← eI]
    constructor
    · intro h0; rw [h0]; rfl
    · intro h0; apply UInt64.toNat_inj.1; simpa using h0
  have hval : ∀ X : UInt64, X.toNat = Lin.probeIdx m h j → X.toInt64.toInt = ((Lin.probeIdx m h j : Nat) : Int) := by
    intro X hX
    have : Lin.probeIdx m h j < m := by
      unfold Lin.probeIdx
      split
      · exact hlt
      · exact Nat.mod_lt _ hm0
    rw [toInt_of_lt X (by rw [hX]; omega), hX]
  simp only [LinHT.linearHashTable_probeEnv.call, hz, Outcome.pure_eq]
  by_cases hj0 : j = 0
  · simp only [hj0, decide_true, if_true]
    refine ⟨⟨env.M, env.h1, env.i + 1, env.h1⟩, ?_, ⟨eM, eH, by rw [← hj0]; exact hI1⟩⟩
    congr 2
    exact hj0 ▸ hval env.h1 (by rw [eH, Lin.probeIdx, if_pos hj0])
  · have hMne : ¬ env.M = 0 := by intro h0; rw [h0] at eM; simp at eM; omega
    simp only [hj0, decide_false, Bool.false_eq_true, if_false, Go.modU64, hMne, Outcome.ok_bind]
    refine ⟨⟨env.M, env.h1, env.i + 1, (env.h1 + env.i) % env.M⟩, ?_, ⟨eM, eH, hI1⟩⟩
    congr 2
    refine hval _ ?_
    have hsum : (env.h1 + env.i).toNat = (h.toNat &&& (m - 1)) + j := by
      rw [UInt64.toNat_add, eH, eI]; omega
    rw [UInt64.toNat_mod, hsum, eM, Lin.probeIdx, if_neg hj0]

omit [Inhabited K] [Inhabited V] in
theorem idx_entries (hash : K → UInt64) (eqVal : V → V → Bool) (a b : Go.F32) (t : LinTable K V) (k : Nat) :
    Go.idx (ofLin hash eqVal a b t).entries (k : Int) =
      match t.slots[k]? with
      | none => .panic
      | some o => .ok (o.map fun e => (⟨e.1, e.2⟩ : LinHT.KeyValue K V)) := by
  rw [Go.idx_natCast, show (ofLin hash eqVal a b t).entries = t.slots.map _ from rfl, Array.getElem?_map]
  cases t.slots[k]? <;> rfl

theorem get_loop (hash : K → UInt64) (eqVal : V → V → Bool) (a b : Go.F32) (t : LinTable K V) (key : K) (h : UInt64)
    (hm0 : 0 < t.m) (hm : t.m < 2 ^ 32) (F : Nat) :
    ∀ (k j : Nat) (env : LinHT.linearHashTable_probeEnv), EnvOK t.m h (j + 1) env → j + k < 2 ^ 32 →
    (LinHT.linearHashTable.Get.loop1 F (ofLin hash eqVal a b t) key k ((Lin.probeIdx t.m h j : Nat) : Int) env).map
        (Go.found ((default : V), false))
      = (Lin.getLoop t h key k j).map pairOf := by
  intro k
  induction k with
  | zero => intro j env _ _; simp [LinHT.linearHashTable.Get.loop1, Lin.getLoop]
  | succ k ih =>
    intro j env he hjk
    simp only [LinHT.linearHashTable.Get.loop1, Lin.getLoop, idx_entries]
    cases hs : t.slots[Lin.probeIdx t.m h j]? with
    | none => simp
    | some o =>
      cases o with
      | none => simp [pairOf, Go.found]
      | some e =>
        simp only [Option.map_some, Outcome.ok_bind, Option.isSome_some, Bool.not_true, Bool.false_eq_true, if_false,
          Go.deref_some, ofLin]
        by_cases hk : e.1 = key
        · simp [hk, pairOf, Go.found]
        · simp only [hk, decide_false, Bool.false_eq_true, if_false]
          obtain ⟨env', hc, he'⟩ := call_ok t.m h (j + 1) env he hm0 hm (by omega)
          simp only [hc, Outcome.ok_bind]
          exact ih (j + 1) env' he' (by omega)

theorem Get_eq (hash : K → UInt64) (eqVal : V → V → Bool) (a b : Go.F32) (t : LinTable K V) (key : K)
    (hm0 : 0 < t.m) (hm : t.m < 2 ^ 32) :
    LinHT.linearHashTable.Get t.m (ofLin hash eqVal a b t) key = (Lin.get hash t key).map pairOf := by
  obtain ⟨env', hc, he'⟩ := call_ok t.m (mix (hash key)) 0 _ (probe_ok hash eqVal a b t key hm0 hm) hm0 hm (by omega)
  have hl := get_loop hash eqVal a b t key (mix (hash key)) hm0 hm t.m t.m 0 env' he' (by omega)
  simp only [LinHT.linearHashTable.Get, hc, Outcome.ok_bind, Lin.get]
  exact (Go.ret_or _ _ _ (fun _ => rfl) (fun _ => rfl)).trans hl

end AlgoVerif.C02.Gen
