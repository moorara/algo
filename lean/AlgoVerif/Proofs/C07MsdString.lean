import AlgoVerif.Proofs.C07StrCommon
import AlgoVerif.Proofs.C07Msd
/-!
# C07 — MSD string sort (`radixsort/msd.go`, `MSDString`)

An instance of `C07Msd` with 257 buckets (key `charAt + 1`), no guard and no call in front of the
loop: bucket 0 holds the strings that end at `d`, copies of the common prefix, and gets no call.
-/
namespace AlgoVerif.C07
open AlgoVerif AlgoVerif.Generated

/-- the counting key of `msdString` at digit `d`: `charAt(s, d) + 1` -/
def msdKey (d : Nat) (s : List UInt8) : Nat := (chr s d + 1).toNat

theorem msdKey_lt (d : Nat) (s : List UInt8) : msdKey d s < 257 := by
  have := chr_lt s d; unfold msdKey; omega

theorem msdKey_ok (d : Nat) (s : List UInt8) :
    (charAt s (d : Int)).map (· + 1) = .ok ((msdKey d s : Nat) : Int) := by
  have := chr_ge s d
  rw [charAt_nat, Outcome.map_ok]
  unfold msdKey
  congr 1
  omega

theorem chr_of_msdKey {d b : Nat} {s : List UInt8} (h : msdKey d s = b) : chr s d = (b : Int) - 1 := by
  have := chr_ge s d
  unfold msdKey at h
  omega

/-- On `[lo, hi1)` every string has the prefix `w` of length `d` and at most `M` bytes.  A call one level down has
`d + 1` and only strings with a character at `d`, so `d ≤ M` throughout and fuel `M + 2 - d` suffices. -/
theorem msdStringAux_spec (hcp : CountingPassSpec) (M : Nat) :
    ∀ (f : Nat) (a aux : Array (List UInt8)) (lo hi1 d : Nat) (w : List UInt8),
    lo ≤ hi1 → hi1 ≤ a.size → aux.size = a.size → w.length = d →
    AllSeg (fun s => s.take d = w ∧ s.length ≤ M) a lo hi1 →
    1 ≤ f → M + 2 ≤ f + d →
    ∃ a' aux', msdStringAux f a aux (lo : Int) ((hi1 : Int) - 1) (d : Int) = .ok (a', aux') ∧
      aux'.size = a.size ∧ SegStep a a' lo hi1 ∧ SortedSeg bytesCmp a' lo hi1 := by
  intro f
  induction f with
  | zero => intros; omega
  | succ f ih =>
    intro a aux lo hi1 d w hlh hsz hax hw hQ _ hfuel
    obtain ⟨n, rfl⟩ : ∃ n, hi1 = lo + n := ⟨hi1 - lo, by omega⟩
    unfold msdStringAux
    by_cases hcut : n ≤ 16
    · have c1 : (((lo + n : Nat) : Int) - 1 ≤ (lo : Int) + ((radixsort_msdString_CUTOFF : Nat) : Int)) := by
        simp only [radixsort_msdString_CUTOFF]; omega
      simp only [c1, ↓reduceIte]
      obtain ⟨a', h1, S, h6⟩ := rInsertion_segStep bytesCmp_tp bytesLt_iff a lo n hsz
      rw [h1]
      exact ⟨a', aux, rfl, hax, S, h6⟩
    · have c1 : ¬ (((lo + n : Nat) : Int) - 1 ≤ (lo : Int) + ((radixsort_msdString_CUTOFF : Nat) : Int)) := by
        simp only [radixsort_msdString_CUTOFF]; omega
      simp only [c1, ↓reduceIte]
      obtain ⟨a1, aux1, count, p1, p2, p3, p4, p5, p6, p7⟩ :=
        hcp (fun s => (charAt s (d : Int)).map (· + 1)) (msdKey d) 257 none a aux lo n (by omega) (by simp)
          hsz (by omega) (fun i _ _ => ⟨msdKey_ok d _, msdKey_lt d _⟩)
      have p1' : countingPass (fun s => (charAt s (d : Int)).map (· + 1)) ((radixsort_msdString_R : Int) + 1) none a aux
          (lo : Int) (((lo + n : Nat) : Int) - 1) = .ok (a1, aux1, count) := p1
      rw [p1']
      simp only [ok_bind]
      have hall : ∀ x, x ∈ segL a lo (lo + n) → msdKey d x < 257 := fun x _ => msdKey_lt d x
      have hdM : d ≤ M := by
        have h1 := hQ lo (Nat.le_refl _) (by omega) (by omega)
        have := congrArg List.length h1.1
        rw [List.length_take] at this
        omega
      -- a smaller character means a smaller string; bucket 0 holds copies of `w`, the other buckets are sorted by the loop
      obtain ⟨m1, L, m2⟩ := buckets_of_pass (cmp := bytesCmp) (msdKey d) 257 none (by omega) (by simp) a a1 lo n hsz p2
        (msdKey_lt d) _ hQ p5 _ rfl p6
        (fun x y hx hy hrr => Int.le_of_lt (bytesCmp_lt_of_chr hw hx.1 hy.1 (by
          rw [chr_of_msdKey rfl, chr_of_msdKey rfl]; simp only [rotRank] at hrr; omega)))
        (fun b => b = 0) (fun x y hx hy e hb => by
          rw [eq_of_chr_neg hx.1 (by rw [chr_of_msdKey hb]; omega),
            eq_of_chr_neg hy.1 (by rw [chr_of_msdKey (e ▸ hb)]; omega), bytesCmp_self]
          exact Int.le_refl 0)
      have hrec : RecSpec bytesCmp (fun b s => (s.take d = w ∧ s.length ≤ M) ∧ msdKey d s = b) (fun b => 0 < b)
          (fun a aux lo hi => msdStringAux f a aux lo hi ((d : Int) + 1)) := by
        intro b baux l m r hr h1 h2 h3
        obtain ⟨b', baux', q1, q2, q3, q4⟩ := ih b baux l (l + m) (d + 1) (w ++ [(r - 1).toUInt8])
          (by omega) h1 h2 (by simp [hw]) (h3.imp (fun s hs => by
            have hb : ((r - 1).toUInt8).toNat = r - 1 := by
              have := msdKey_lt d s
              simp only [Nat.toUInt8_eq, UInt8.toNat_ofNat']; omega
            exact ⟨(take_succ_of_chr hs.1.1 (by rw [chr_of_msdKey hs.2, hb]; omega)).1, hs.1.2⟩))
          (by omega) (by omega)
        exact ⟨b', baux', q1, by omega, q3, q4⟩
      obtain ⟨a', aux', l1, l2, l3, l4⟩ := loop_phase false L hrec
        (sched_none false (msdKey d) 257 256 (by omega) (by omega) (fun _ => by omega) (segL a lo (lo + n)) hall _ (fun _ h => h))
        count (fun r hr => p7 r (by omega)) a1 aux1 (by omega) (by omega) m2
      exact ⟨a', aux', l1, by omega, m1.trans l3, l4⟩

theorem msdString_spec (hcp : CountingPassSpec) (a : Array (List UInt8)) :
    ∃ out, msdString a = .ok out ∧ out.toList = a.toList.mergeSort bytesLe := by
  obtain ⟨out, aux', h1, _, S, h3⟩ := msdStringAux_spec hcp (maxLen a) (maxLen a + 2) a
    (Array.replicate a.size []) 0 a.size 0 [] (Nat.zero_le _) (Nat.le_refl _) (by simp) rfl
    (fun p _ _ hpa => ⟨List.take_zero, maxLen_ge a p hpa⟩) (by omega) (by omega)
  refine ⟨out, ?_, eq_mergeSort_of_sorted_perm (S.size ▸ h3) S.perm⟩
  unfold msdString msdStringAt
  have h1' : msdStringAux (maxLen a + 2) a (Array.replicate a.size []) 0 ((a.size : Int) - 1) 0
      = .ok (out, aux') := h1
  rw [h1']
  rfl

end AlgoVerif.C07
