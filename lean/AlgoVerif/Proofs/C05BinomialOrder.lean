import AlgoVerif.Proofs.C05Binomial
/-!
# Heap order of the indexed binomial heap Model, its routines and operations

`BT.pairs t` = all (parent id, child id) pairs of the forest; heap order `HO` = every pair is ordered by the
keys found in `cells`.  The content swaps of `promote/demote/DeleteIndex` act on the key function as the
transposition `HeapOrder.tr`, exactly as `swap` of positions does in the binary heap: the steps of the hole are
`HeapOrder.Hole.step_up`, `HeapOrder.Up.step` and `HeapOrder.Down.step` for the parent relation `t.par` (`BT.forest`).
-/
namespace AlgoVerif.C05
open AlgoVerif.C05.Hole
open AlgoVerif.HeapOrder

namespace BT

def pairs : BT → List (Nat × Nat)
  | nil => []
  | node id _ c s => (chainIds c).map (fun y => (id, y)) ++ (pairs c ++ pairs s)

theorem mem_pairs_node {id : Nat} {o : Int} {c s : BT} {a b : Nat} :
    (a, b) ∈ pairs (node id o c s) ↔ (a = id ∧ b ∈ chainIds c) ∨ (a, b) ∈ pairs c ∨ (a, b) ∈ pairs s := by
  simp only [pairs, List.mem_append, List.mem_map, Prod.mk.injEq]
  constructor
  · rintro (⟨y, hy, rfl, rfl⟩ | h | h)
    · exact Or.inl ⟨rfl, hy⟩
    · exact Or.inr (Or.inl h)
    · exact Or.inr (Or.inr h)
  · rintro (⟨rfl, hb⟩ | h | h)
    · exact Or.inl ⟨b, hb, rfl, rfl⟩
    · exact Or.inr (Or.inl h)
    · exact Or.inr (Or.inr h)

theorem mem_pairs : ∀ {t : BT} {a b : Nat}, (a, b) ∈ pairs t ↔ ∃ c, (a, c) ∈ nodes t ∧ b ∈ chainIds c
  | nil, _, _ => by simp [pairs, nodes]
  | node id o c s, a, b => by
    rw [mem_pairs_node, mem_pairs (t := c), mem_pairs (t := s)]
    simp only [nodes, List.mem_cons, List.mem_append, Prod.mk.injEq]
    grind

theorem mem_pairs_of_node {t : BT} (hnd : (ids t).Nodup) {n : Nat} {ch : BT} (h : (n, ch) ∈ nodes t) (c : Nat) :
    (n, c) ∈ pairs t ↔ c ∈ chainIds ch :=
  mem_pairs.trans ⟨fun ⟨_, h', hc⟩ => nodes_fun hnd h h' ▸ hc, fun hc => ⟨ch, h, hc⟩⟩

theorem pairs_mem_ids (t : BT) (a b : Nat) (h : (a, b) ∈ pairs t) : a ∈ ids t ∧ b ∈ ids t :=
  let ⟨c, hc, hb⟩ := mem_pairs.mp h
  let ⟨c', hc'⟩ := mem_ids.mp (chainIds_sub c b hb)
  ⟨mem_ids.mpr ⟨c, hc⟩, mem_ids.mpr ⟨c', nodes_sub t hc _ hc'⟩⟩

theorem nodup_node {id : Nat} {o : Int} {c s : BT} (h : (ids (node id o c s)).Nodup) :
    id ∉ ids c ∧ id ∉ ids s ∧ (ids c).Nodup ∧ (ids s).Nodup ∧ ∀ x, x ∈ ids c → x ∉ ids s := by
  simp only [ids, List.nodup_cons, List.mem_append, not_or] at h
  obtain ⟨⟨h1, h2⟩, h3⟩ := h
  have := List.nodup_append.mp h3
  exact ⟨h1, h2, this.1, this.2.1, fun x hx hs => this.2.2 x hx x hs rfl⟩

theorem root_no_parent : ∀ (t : BT), (ids t).Nodup → ∀ x b, x ∈ chainIds t → (b, x) ∉ pairs t
  | nil, _, _, _, h => by simp [chainIds] at h
  | node id o c s, hnd, x, b, hx => by
    obtain ⟨h1, h2, h3, h4, h5⟩ := nodup_node hnd
    intro hp
    simp only [chainIds, List.mem_cons] at hx
    rcases mem_pairs_node.mp hp with ⟨_, hb⟩ | hp1 | hp2
    · have hxc := chainIds_sub c x hb
      rcases hx with hx | hx
      · exact h1 (hx ▸ hxc)
      · exact h5 x hxc (chainIds_sub s x hx)
    · have hxc := (pairs_mem_ids c b x hp1).2
      rcases hx with hx | hx
      · exact h1 (hx ▸ hxc)
      · exact h5 x hxc (chainIds_sub s x hx)
    · rcases hx with hx | hx
      · exact h2 (hx ▸ (pairs_mem_ids s b x hp2).2)
      · exact root_no_parent s h4 x b hx hp2

theorem parent_unique : ∀ (t : BT), (ids t).Nodup → ∀ a b x, (a, x) ∈ pairs t → (b, x) ∈ pairs t → a = b
  | nil, _, _, _, _, h, _ => by simp [pairs] at h
  | node id o c s, hnd, a, b, x, ha, hb => by
    obtain ⟨h1, h2, h3, h4, h5⟩ := nodup_node hnd
    rcases mem_pairs_node.mp ha with ⟨ea, hxa⟩ | ha1 | ha2 <;>
      rcases mem_pairs_node.mp hb with ⟨eb, hxb⟩ | hb1 | hb2
    · rw [ea, eb]
    · exact absurd hb1 (root_no_parent c h3 x b hxa)
    · exact absurd (pairs_mem_ids s b x hb2).2 (h5 x (chainIds_sub c x hxa))
    · exact absurd ha1 (root_no_parent c h3 x a hxb)
    · exact parent_unique c h3 a b x ha1 hb1
    · exact absurd (pairs_mem_ids s b x hb2).2 (h5 x (pairs_mem_ids c a x ha1).2)
    · exact absurd (pairs_mem_ids s a x ha2).2 (h5 x (chainIds_sub c x hxb))
    · exact absurd (pairs_mem_ids s a x ha2).2 (h5 x (pairs_mem_ids c b x hb1).2)
    · exact parent_unique s h4 a b x ha2 hb2

theorem no_two_cycle : ∀ (t : BT), (ids t).Nodup → ∀ a b, (a, b) ∈ pairs t → (b, a) ∉ pairs t
  | nil, _, _, _, h => by simp [pairs] at h
  | node id o c s, hnd, a, b, hab => by
    obtain ⟨h1, h2, h3, h4, h5⟩ := nodup_node hnd
    intro hba
    rcases mem_pairs_node.mp hab with ⟨ea, hb⟩ | hab1 | hab2 <;>
      rcases mem_pairs_node.mp hba with ⟨eb, ha⟩ | hba1 | hba2
    · exact h1 (eb ▸ chainIds_sub c _ hb)
    · exact h1 (ea ▸ (pairs_mem_ids c b a hba1).2)
    · exact h5 b (chainIds_sub c b hb) (pairs_mem_ids s b a hba2).1
    · exact h1 (eb ▸ (pairs_mem_ids c a b hab1).2)
    · exact no_two_cycle c h3 a b hab1 hba1
    · exact h5 a (pairs_mem_ids c a b hab1).1 (pairs_mem_ids s b a hba2).2
    · exact h2 (eb ▸ (pairs_mem_ids s a b hab2).2)
    · exact h5 a (pairs_mem_ids c b a hba1).2 (pairs_mem_ids s a b hab2).1
    · exact no_two_cycle s h4 a b hab2 hba2

/-- the parent relation of a forest; with distinct ids it is one in the sense of `HeapOrder.Forest` -/
def par (t : BT) (a b : Nat) : Prop := (a, b) ∈ t.pairs

theorem forest (t : BT) (hnd : t.ids.Nodup) : Forest t.par :=
  ⟨parent_unique t hnd, no_two_cycle t hnd⟩

theorem pair_irrefl (t : BT) (hnd : (ids t).Nodup) (a : Nat) : (a, a) ∉ pairs t :=
  fun h => no_two_cycle t hnd a a h h

/-- `l = [parent of x, its parent, …, a root]`: the chain of ancestors of `x` (`x` itself is a root if `l` is empty) -/
def RootPath (t : BT) : Nat → List Nat → Prop
  | x, [] => x ∈ chainIds t
  | x, p :: ps => (p, x) ∈ pairs t ∧ RootPath t p ps

theorem RootPath.sibling {id : Nat} {o : Int} {c s : BT} : ∀ (l : List Nat) (x : Nat),
    RootPath s x l → RootPath (node id o c s) x l
  | [], _, h => List.mem_cons_of_mem _ h
  | _ :: ps, _, h => ⟨mem_pairs_node.mpr (Or.inr (Or.inr h.1)), RootPath.sibling ps _ h.2⟩

theorem RootPath.child {id : Nat} {o : Int} {c s : BT} : ∀ (l : List Nat) (x : Nat),
    RootPath c x l → RootPath (node id o c s) x (l ++ [id])
  | [], _, h => ⟨mem_pairs_node.mpr (Or.inl ⟨rfl, h⟩), List.mem_cons_self⟩
  | _ :: ps, _, h => ⟨mem_pairs_node.mpr (Or.inr (Or.inl h.1)), RootPath.child ps _ h.2⟩

theorem ancestors_none (target : Nat) : ∀ (t : BT) (par : List Nat), target ∉ ids t → ancestors target t par = none
  | nil, _, _ => rfl
  | node id o c s, par, h => by
    simp only [ids, List.mem_cons, List.mem_append, not_or] at h
    simp only [ancestors]
    rw [if_neg (fun e => h.1 e.symm), ancestors_none target c _ h.2.1]
    exact ancestors_none target s par h.2.2

theorem ancestors_spec (target : Nat) : ∀ (t : BT) (par : List Nat), target ∈ ids t →
    ∃ l0, ancestors target t par = some (l0 ++ par) ∧ RootPath t target l0
  | nil, _, h => by simp [ids] at h
  | node id o c s, par, h => by
    simp only [ancestors]
    by_cases hid : id = target
    · exact ⟨[], by rw [if_pos hid]; rfl, hid ▸ List.mem_cons_self⟩
    · rw [if_neg hid]
      simp only [ids, List.mem_cons, List.mem_append] at h
      by_cases hc : target ∈ ids c
      · obtain ⟨l0, hl0, hpath⟩ := ancestors_spec target c (id :: par) hc
        exact ⟨l0 ++ [id], by rw [hl0]; simp, hpath.child⟩
      · have hs : target ∈ ids s := (h.resolve_left (fun e => hid e.symm)).resolve_left hc
        rw [ancestors_none target c _ hc]
        obtain ⟨l0, hl0, hpath⟩ := ancestors_spec target s par hs
        exact ⟨l0, hl0, hpath.sibling⟩

theorem merge_spec : ∀ (fuel : Nat) (a b : BT), chainLen a + chainLen b < fuel →
    ∃ r, merge fuel a b = .ok r ∧ (ids r).Perm (ids a ++ ids b) ∧ ∀ p, p ∈ pairs r ↔ p ∈ pairs a ∨ p ∈ pairs b
  | 0, _, _, h => by omega
  | fuel + 1, nil, b, _ => ⟨b, by simp [merge], by simp [ids], by simp [pairs]⟩
  | fuel + 1, node i1 o1 c1 s1, nil, _ => ⟨node i1 o1 c1 s1, by simp [merge], by simp [ids], by simp [pairs]⟩
  | fuel + 1, node i1 o1 c1 s1, node i2 o2 c2 s2, h => by
    simp only [merge]
    simp only [chainLen] at h
    by_cases ho : o1 < o2
    · rw [if_pos ho]
      obtain ⟨r, hr, ih, ihp⟩ := merge_spec fuel s1 (node i2 o2 c2 s2) (by simp only [chainLen]; omega)
      refine ⟨_, by rw [hr], ?_, fun p => ?_⟩
      · simp only [ids] at ih ⊢
        refine (List.Perm.cons _ (List.Perm.append_left _ ih)).trans ?_
        perm_count
      · have ihp := ihp p
        simp only [pairs, List.mem_append] at ihp ⊢
        rw [ihp]; grind
    · rw [if_neg ho]
      obtain ⟨r, hr, ih, ihp⟩ := merge_spec fuel (node i1 o1 c1 s1) s2 (by simp only [chainLen]; omega)
      refine ⟨_, by rw [hr], ?_, fun p => ?_⟩
      · simp only [ids] at ih ⊢
        refine (List.Perm.cons _ (List.Perm.append_left _ ih)).trans ?_
        perm_count
      · have ihp := ihp p
        simp only [pairs, List.mem_append] at ihp ⊢
        rw [ihp]; grind

theorem revChain_pairs : ∀ (c acc : BT) (p : Nat × Nat), p ∈ pairs (revChain c acc) ↔ p ∈ pairs c ∨ p ∈ pairs acc
  | nil, acc, p => by simp [revChain, pairs]
  | node id o c s, acc, p => by
    simp only [revChain]
    rw [revChain_pairs s (node id o c acc) p]
    simp only [pairs, List.mem_append]
    grind

theorem removeRoot_spec (target : Nat) : ∀ (t : BT), target ∈ chainIds t →
    ∃ rest ch, removeRoot target t = some (rest, ch) ∧ (ids t).Perm (target :: (ids ch ++ ids rest)) ∧
      ∀ p, p ∈ pairs t ↔ (p.1 = target ∧ p.2 ∈ chainIds ch) ∨ p ∈ pairs ch ∨ p ∈ pairs rest
  | nil, h => by simp [chainIds] at h
  | node id o c s, h => by
    simp only [removeRoot]
    by_cases hid : id = target
    · subst hid
      exact ⟨s, c, by rw [if_pos rfl], by simp only [ids]; exact List.Perm.refl _, fun ⟨a, b⟩ => mem_pairs_node⟩
    · rw [if_neg hid]
      simp only [chainIds, List.mem_cons] at h
      rcases h with h | h
      · exact absurd h.symm hid
      · obtain ⟨s', ch, hr, hp, hpr⟩ := removeRoot_spec target s h
        refine ⟨_, ch, by rw [hr], ?_, fun ⟨a, b⟩ => ?_⟩
        · simp only [ids]
          refine (List.Perm.cons _ (List.Perm.append_left _ hp)).trans ?_
          perm_count
        · have ih := hpr (a, b)
          rw [mem_pairs_node, mem_pairs_node, ih]
          grind

end BT

namespace IBinomial
variable {K V : Type} {cmp : K → K → Int} {eq : V → V → Bool} {cap : Nat} {S : List Nat}
  {P : Spec.Map K V → K → Prop}

/-- the key of node `id`; `none` where `keyOf` panics (`keyOf_eq`) -/
def kf (h : IBinomial K V) (id : Nat) : Option K := (h.cells[id]?).map (·.key)

theorem keyOf_eq (h : IBinomial K V) (id : Nat) :
    h.keyOf id = match kf h id with | some k => .ok k | none => .panic := by
  unfold keyOf kf
  cases h.cells[id]? <;> rfl

theorem keyOf_ok {h : IBinomial K V} (rd : Readable h.cells S) {id : Nat} (hid : id ∈ S) :
    ∃ k, h.keyOf id = .ok k ∧ kf h id = some k := by
  obtain ⟨c, hc⟩ := rd id hid
  have hk : kf h id = some c.key := by unfold kf; rw [hc]; rfl
  exact ⟨c.key, by rw [keyOf_eq, hk], hk⟩

/-- heap order of the forest `t` for the keys `f`: `Ordered (LeP cmp f) t.par` written out -/
def HO (cmp : K → K → Int) (f : Nat → Option K) (t : BT) : Prop := ∀ a b, (a, b) ∈ t.pairs → LeP cmp f a b

theorem ho_iff {f : Nat → Option K} {t : BT} : HO cmp f t ↔ Ordered (LeP cmp f) t.par := Iff.rfl

theorem ho_congr {f g : Nat → Option K} {t : BT} (hfg : ∀ y, y ∈ t.ids → g y = f y) (h : HO cmp f t) :
    HO cmp g t := fun a b hab =>
  LeP.congr (hfg a (BT.pairs_mem_ids t a b hab).1) (hfg b (BT.pairs_mem_ids t a b hab).2) (h a b hab)

theorem ho_node {f : Nat → Option K} {id : Nat} {o : Int} {c s : BT} :
    HO cmp f (.node id o c s) ↔ (∀ b, b ∈ c.chainIds → LeP cmp f id b) ∧ HO cmp f c ∧ HO cmp f s := by
  constructor
  · intro h
    exact ⟨fun b hb => h id b (BT.mem_pairs_node.mpr (Or.inl ⟨rfl, hb⟩)),
      fun a b hab => h a b (BT.mem_pairs_node.mpr (Or.inr (Or.inl hab))),
      fun a b hab => h a b (BT.mem_pairs_node.mpr (Or.inr (Or.inr hab)))⟩
  · rintro ⟨h1, h2, h3⟩ a b hab
    rcases BT.mem_pairs_node.mp hab with ⟨rfl, hb⟩ | hab | hab
    · exact h1 b hb
    · exact h2 a b hab
    · exact h3 a b hab

theorem ho_root (hc : LawfulCmp cmp) {f : Nat → Option K} : ∀ (t : BT), HO cmp f t →
    (∀ y, y ∈ t.ids → ∃ k, f y = some k) → ∀ y, y ∈ t.ids → ∃ r, r ∈ t.chainIds ∧ LeP cmp f r y
  | .nil, _, _, y, hy => by simp [BT.ids] at hy
  | .node id o c s, ho, hf, y, hy => by
    simp only [BT.ids, List.mem_cons, List.mem_append] at hy
    obtain ⟨h1, hoc, hos⟩ := ho_node.mp ho
    rcases hy with rfl | hy | hy
    · obtain ⟨k, hk⟩ := hf y (by simp [BT.ids])
      exact ⟨y, by simp [BT.chainIds], LeP.refl hc hk⟩
    · obtain ⟨r, hr, hle⟩ := ho_root hc c hoc (fun z hz => hf z (by simp [BT.ids, hz])) y hy
      exact ⟨id, by simp [BT.chainIds], leP_trans hc _ _ _ (h1 r hr) hle⟩
    · obtain ⟨r, hr, hle⟩ := ho_root hc s hos (fun z hz => hf z (by simp [BT.ids, hz])) y hy
      exact ⟨r, by simp [BT.chainIds, hr], hle⟩

theorem swap_kf {h h' : IBinomial K V} {c p : Nat} (hcells : ∀ x : Nat, h'.cells[x]? = h.cells[tr c p x]?)
    (y : Nat) : kf h' y = kf h (tr c p y) := by
  unfold kf; rw [hcells]

theorem findExtLoop_spec {h : IBinomial K V} (rd : Readable h.cells S) : ∀ (l : List Nat) (e : Nat),
    (∀ x, x ∈ e :: l → x ∈ S) →
    ∃ x, findExtLoop cmp h e l = .ok x ∧ x ∈ e :: l ∧ (LawfulCmp cmp → ∀ y, y ∈ e :: l → LeP cmp (kf h) x y)
  | [], e, hl => by
    obtain ⟨ke, _, hke⟩ := keyOf_ok rd (hl e List.mem_cons_self)
    exact ⟨e, rfl, List.mem_cons_self, fun hc y hy => (List.mem_singleton.mp hy).symm ▸ LeP.refl hc hke⟩
  | s :: rest, e, hl => by
    obtain ⟨ks, hks, hks'⟩ := keyOf_ok rd (hl s (List.mem_cons_of_mem _ List.mem_cons_self))
    obtain ⟨ke, hke, hke'⟩ := keyOf_ok rd (hl e List.mem_cons_self)
    simp only [findExtLoop, hks, hke]
    split
    · obtain ⟨x, hx, hm, hmin⟩ := findExtLoop_spec rd rest s (fun x hx => hl x (List.mem_cons_of_mem _ hx))
      refine ⟨x, hx, List.mem_cons_of_mem _ hm, fun hc y hy => ?_⟩
      rcases List.mem_cons.mp hy with rfl | hy
      · exact leP_trans hc _ _ _ (hmin hc s List.mem_cons_self) ⟨ks, ke, hks', hke', by omega⟩
      · exact hmin hc y hy
    · have hsub : ∀ y, y ∈ e :: rest → y ∈ e :: s :: rest := fun y hy =>
        (List.mem_cons.mp hy).elim (· ▸ List.mem_cons_self) fun h => List.mem_cons_of_mem _ (List.mem_cons_of_mem _ h)
      obtain ⟨x, hx, hm, hmin⟩ := findExtLoop_spec rd rest e (fun x hx => hl x (hsub x hx))
      refine ⟨x, hx, hsub x hm, fun hc y hy => ?_⟩
      rcases List.mem_cons.mp hy with rfl | hy
      · exact hmin hc y List.mem_cons_self
      · rcases List.mem_cons.mp hy with rfl | hy
        · exact leP_trans hc _ _ _ (hmin hc e List.mem_cons_self) ⟨ke, ks, hke', hks', hc.anti _ _ (by omega)⟩
        · exact hmin hc y (List.mem_cons_of_mem _ hy)

theorem findExt_spec {h : IBinomial K V} (rd : Readable h.cells S) (l : List Nat) (hl : ∀ x, x ∈ l → x ∈ S) :
    (findExt cmp h l = .ok none ∧ l = []) ∨
    ∃ x, findExt cmp h l = .ok (some x) ∧ x ∈ l ∧ (LawfulCmp cmp → ∀ y, y ∈ l → LeP cmp (kf h) x y) := by
  cases l with
  | nil => exact Or.inl ⟨rfl, rfl⟩
  | cons a rest =>
    obtain ⟨x, hx, hm, hmin⟩ := findExtLoop_spec (cmp := cmp) rd rest a hl
    exact Or.inr ⟨x, by simp only [findExt, hx], hm, hmin⟩

theorem kf_some {h : IBinomial K V} (r : Reg cap S h.nodes h.cells) {y : Nat}
    (hy : y ∈ S) : ∃ k, kf h y = some k := by
  obtain ⟨c, hc, _⟩ := r.reg y hy
  exact ⟨c.key, by unfold kf; rw [hc]; rfl⟩

/-- `promote` at `n`: if the order is broken only around `n` (its key has just been set), it is afterwards broken at most
below `n`, where `demote` takes over; if the children of `n` were in order, this is the ordinary sift-up -/
theorem promoteLoop_spec {t : BT} : ∀ (anc : List Nat) (h : IBinomial K V) (n : Nat),
    Reg cap t.ids h.nodes h.cells → BT.RootPath t n anc →
    ∃ h', promoteLoop cmp h n anc = .ok h' ∧ Reg cap t.ids h'.nodes h'.cells ∧ abs h' = abs h ∧
      h'.head = h.head ∧ h'.n = h.n ∧
      (LawfulCmp cmp → (Hole (LeP cmp (kf h)) t.par n → Down (LeP cmp (kf h')) t.par n) ∧
        (Up (LeP cmp (kf h)) t.par n → HO cmp (kf h') t))
  | [], h, n, r, hroot => by
    refine ⟨h, rfl, r, rfl, rfl, rfl, fun _ => ?_⟩
    have habove : Above (LeP cmp (kf h)) t.par n :=
      fun p hp => absurd hp (BT.root_no_parent t r.nodup n p hroot)
    exact ⟨fun hole => hole.down habove, fun up => ho_iff.2 (up.stop habove)⟩
  | p :: ps, h, n, r, hpath => by
    obtain ⟨hp, hn⟩ := BT.pairs_mem_ids t p n hpath.1
    obtain ⟨kp, hkp, hkp'⟩ := keyOf_ok (Reg.readable r) hp
    obtain ⟨kn, hkn, hkn'⟩ := keyOf_ok (Reg.readable r) hn
    simp only [promoteLoop, hkp, hkn]
    split
    · obtain ⟨h1, hsw, r1, ha1, hh1, hn1, hcells⟩ := swap_spec r hn hp
      obtain ⟨h', he, r2, ha2, hh2, hn2, iho⟩ := promoteLoop_spec ps h1 p r1 hpath.2
      refine ⟨h', by rw [hsw]; exact he, r2, ha2.trans ha1, hh2.trans hh1, hn2.trans hn1, fun hc => ?_⟩
      have hlt : LeP cmp (kf h) n p := ⟨kn, kp, hkn', hkp', hc.anti _ _ (by omega)⟩
      have hsd := swapped (cmp := cmp) (swap_kf hcells)
      -- above the first exchange the loop is an ordinary sift-up: the children of `p` are in order
      refine ⟨fun hole => ?_, fun up => (iho hc).2 (up.step (leP_trans hc) (t.forest r.nodup) hsd hpath.1 hlt)⟩
      obtain ⟨hole1, hch1⟩ := hole.step_up (leP_trans hc) (t.forest r.nodup) hsd hpath.1
      exact (ho_iff.1 ((iho hc).2 (hole1.up (hch1 hlt)))).down (leP_trans hc) n
    · refine ⟨h, rfl, r, rfl, rfl, rfl, fun _ => ?_⟩
      have habove : Above (LeP cmp (kf h)) t.par n := by
        intro q hq
        have : q = p := BT.parent_unique t r.nodup q p n hq hpath.1
        subst this
        exact ⟨kp, kn, hkp', hkn', by omega⟩
      exact ⟨fun hole => hole.down habove, fun up => ho_iff.2 (up.stop habove)⟩

theorem bubbleUp_spec {t : BT} : ∀ (anc : List Nat) (h : IBinomial K V) (n : Nat),
    Reg cap t.ids h.nodes h.cells → BT.RootPath t n anc →
    ∃ h' ρ, bubbleUp h n anc = .ok (h', ρ) ∧ ρ ∈ t.chainIds ∧ Reg cap t.ids h'.nodes h'.cells ∧ abs h' = abs h ∧
      h'.head = h.head ∧ h'.n = h.n ∧ h'.cells[ρ]? = h.cells[n]? ∧
      (LawfulCmp cmp → Hole (LeP cmp (kf h)) t.par n → Hole (LeP cmp (kf h')) t.par ρ)
  | [], h, n, r, hroot => ⟨h, n, rfl, hroot, r, rfl, rfl, rfl, rfl, fun _ hole => hole⟩
  | p :: ps, h, n, r, hpath => by
    obtain ⟨hp, hn⟩ := BT.pairs_mem_ids t p n hpath.1
    obtain ⟨h1, hsw, r1, ha1, hh1, hn1, hcells⟩ := swap_spec r hn hp
    have hcp : h1.cells[p]? = h.cells[n]? := (hcells p).trans (by rw [tr_right])
    obtain ⟨h', ρ, he, hρ, r2, ha2, hh2, hn2, hcell, iho⟩ := bubbleUp_spec ps h1 p r1 hpath.2
    exact ⟨h', ρ, by simp only [bubbleUp, hsw]; exact he, hρ, r2, ha2.trans ha1, hh2.trans hh1, hn2.trans hn1,
      hcell.trans hcp, fun hc hole =>
        iho hc (Hole.step_up (leP_trans hc) (t.forest r.nodup) (swapped (swap_kf hcells)) hpath.1 hole).1⟩

theorem demote_spec {t : BT} : ∀ (fuel : Nat) (h : IBinomial K V) (n : Nat) (ch : BT),
    Reg cap t.ids h.nodes h.cells → (n, ch) ∈ t.nodes → ch.size < fuel →
    ∃ h', demote cmp fuel h n ch = .ok h' ∧ Reg cap t.ids h'.nodes h'.cells ∧ abs h' = abs h ∧
      h'.head = h.head ∧ h'.n = h.n ∧
      (LawfulCmp cmp → Down (LeP cmp (kf h)) t.par n → HO cmp (kf h') t)
  | 0, _, _, _, _, _, hf => by omega
  | fuel + 1, h, n, ch, r, hnc, hf => by
    have hkids := BT.mem_pairs_of_node r.nodup hnc
    have hsub : ∀ x, x ∈ ch.chainIds → x ∈ t.ids := fun x hx => (BT.pairs_mem_ids t n x ((hkids x).mpr hx)).2
    rcases findExt_spec (cmp := cmp) (Reg.readable r) ch.chainIds hsub with ⟨hfe, hnil⟩ | ⟨c, hfe, hcm, hfirst⟩
    · simp only [demote, hfe]
      refine ⟨h, rfl, r, rfl, rfl, rfl, fun _ hd => ho_iff.2 (hd.stop ?_)⟩
      intro c (hc' : (n, c) ∈ t.pairs)
      rw [hkids, hnil] at hc'
      cases hc'
    · simp only [demote, hfe]
      have hcS : c ∈ t.ids := hsub c hcm
      have hn : n ∈ t.ids := BT.mem_ids.mpr ⟨ch, hnc⟩
      obtain ⟨kc, hkc, hkc'⟩ := keyOf_ok (Reg.readable r) hcS
      obtain ⟨kn, hkn, hkn'⟩ := keyOf_ok (Reg.readable r) hn
      have hmin : LawfulCmp cmp → ∀ s, (n, s) ∈ t.pairs → LeP cmp (kf h) c s :=
        fun hc s hs => hfirst hc s ((hkids s).mp hs)
      simp only [hkc, hkn]
      split
      · obtain ⟨h1, hsw, r1, ha1, hh1, hn1, hcells⟩ := swap_spec r hcS hn
        obtain ⟨ch', hch', hsz, hcc⟩ := BT.chainChild_some c ch hcm
        obtain ⟨h', he, r2, ha2, hh2, hn2, iho⟩ := demote_spec fuel h1 c ch' r1 (BT.nodes_sub t hnc _ hcc) (by omega)
        exact ⟨h', by simp only [hsw, hch']; exact he, r2, ha2.trans ha1, hh2.trans hh1, hn2.trans hn1,
          fun hc hd => iho hc (Down.step (t.forest r.nodup) (swapped (swap_kf hcells)).symm ((hkids c).mpr hcm) hd (hmin hc)
            ⟨kc, kn, hkc', hkn', by omega⟩)⟩
      · refine ⟨h, rfl, r, rfl, rfl, rfl, fun hc hd => ho_iff.2 (hd.stop fun s hs => ?_)⟩
        exact leP_trans hc _ _ _ ⟨kn, kc, hkn', hkc', hc.anti _ _ (by omega)⟩ (hmin hc s hs)

theorem consolidateLoop_spec {h : IBinomial K V} (rd : Readable h.cells S) :
    ∀ (rest : BT) (cid : Nat) (co : Int) (cc : BT), cid ∈ S → (∀ x, x ∈ rest.chainIds → x ∈ S) →
    ∃ r, consolidateLoop cmp h cid co cc rest = .ok r ∧ (BT.ids r).Perm (cid :: (BT.ids cc ++ BT.ids rest)) ∧
      (LawfulCmp cmp → HO cmp (kf h) (.node cid co cc rest) → HO cmp (kf h) r)
  | .nil, cid, co, cc, _, _ => ⟨_, rfl, by simp [BT.ids], fun _ ho => ho⟩
  | .node nid no nc ns, cid, co, cc, hcS, hrest => by
    simp only [consolidateLoop]
    have hn : nid ∈ S := hrest nid (by simp [BT.chainIds])
    have hns : ∀ x, x ∈ ns.chainIds → x ∈ S := fun x hx => hrest x (by simp [BT.chainIds, hx])
    split
    · obtain ⟨r, hr, ih, iho⟩ := consolidateLoop_spec rd ns nid no nc hn hns
      refine ⟨_, by rw [hr], ?_, fun hc ho => ?_⟩
      · simp only [BT.ids] at ih ⊢
        exact List.Perm.cons _ (List.Perm.append_left _ ih)
      · obtain ⟨hc1, hoc, hon⟩ := ho_node.mp ho
        exact ho_node.mpr ⟨hc1, hoc, iho hc hon⟩
    · obtain ⟨kn, hkn, hkn'⟩ := keyOf_ok rd hn
      obtain ⟨kc, hkc, hkc'⟩ := keyOf_ok rd hcS
      rw [hkn, hkc]
      simp only []
      split
      ·
        obtain ⟨r, hr, ih, iho⟩ := consolidateLoop_spec rd ns cid (co + 1) (.node nid no nc cc) hcS hns
        refine ⟨r, hr, ih.trans ?_, fun hc ho => ?_⟩
        · simp only [BT.ids]
          perm_count
        · obtain ⟨hc1, hoc, hon⟩ := ho_node.mp ho
          obtain ⟨hn1, honc, hons⟩ := ho_node.mp hon
          refine iho hc (ho_node.mpr ⟨?_, ho_node.mpr ⟨hn1, honc, hoc⟩, hons⟩)
          intro b hb
          simp only [BT.chainIds, List.mem_cons] at hb
          rcases hb with rfl | hb
          · exact ⟨kc, kn, hkc', hkn', hc.anti _ _ (by omega)⟩
          · exact hc1 b hb
      ·
        obtain ⟨r, hr, ih, iho⟩ := consolidateLoop_spec rd ns nid (no + 1) (.node cid co cc nc) hn hns
        refine ⟨r, hr, ih.trans ?_, fun hc ho => ?_⟩
        · simp only [BT.ids]
          perm_count
        · obtain ⟨hc1, hoc, hon⟩ := ho_node.mp ho
          obtain ⟨hn1, honc, hons⟩ := ho_node.mp hon
          refine iho hc (ho_node.mpr ⟨?_, ho_node.mpr ⟨hc1, hoc, honc⟩, hons⟩)
          intro b hb
          simp only [BT.chainIds, List.mem_cons] at hb
          rcases hb with rfl | hb
          · exact ⟨kn, kc, hkn', hkc', by omega⟩
          · exact hn1 b hb

theorem union_spec {h : IBinomial K V} (rd : Readable h.cells S) (a b : BT)
    (ha : ∀ x, x ∈ a.ids → x ∈ S) (hb : ∀ x, x ∈ b.ids → x ∈ S) :
    ∃ r, union cmp h a b = .ok r ∧ (BT.ids r).Perm (BT.ids a ++ BT.ids b) ∧
      (LawfulCmp cmp → HO cmp (kf h) a → HO cmp (kf h) b → HO cmp (kf h) r) := by
  unfold union
  obtain ⟨m, hm, hpm, hprs⟩ := BT.merge_spec (a.chainLen + b.chainLen + 1) a b (by omega)
  have hmo : HO cmp (kf h) a → HO cmp (kf h) b → HO cmp (kf h) m :=
    fun hoa hob x y hxy => ((hprs (x, y)).mp hxy).elim (hoa x y) (hob x y)
  rw [hm]
  cases m with
  | nil => exact ⟨_, rfl, hpm, fun _ => hmo⟩
  | node id o c s =>
    have hS : ∀ x, x ∈ (BT.node id o c s).chainIds → x ∈ S := fun x hx =>
      (List.mem_append.mp (hpm.mem_iff.mp (BT.chainIds_sub _ _ hx))).elim (ha x) (hb x)
    obtain ⟨r, hr, hpr, hor⟩ := consolidateLoop_spec (cmp := cmp) rd s id o c (hS id (by simp [BT.chainIds]))
      (fun x hx => hS x (by simp [BT.chainIds, hx]))
    exact ⟨r, hr, hpr.trans hpm, fun hc hoa hob => hor hc (hmo hoa hob)⟩

/-- for heap order the pairs of `e` itself may be out of order -/
theorem removeAndUnion_spec {h : IBinomial K V} (r : Reg cap h.head.ids h.nodes h.cells) {e : Nat}
    (he : e ∈ h.head.chainIds) :
    ∃ h' c, removeAndUnion cmp h e = .ok (h', c) ∧ Reg cap h'.head.ids h'.nodes h'.cells ∧
      abs h' = (abs h).set (c.index : Int) none ∧ abs h (c.index : Int) = some (c.key, c.val) ∧ c.index < cap ∧
      h'.n = h.n - 1 ∧ h.cells[e]? = some c ∧
      (LawfulCmp cmp → (∀ a b, (a, b) ∈ h.head.pairs → a ≠ e → b ≠ e → LeP cmp (kf h) a b) →
        HO cmp (kf h') h'.head) := by
  unfold removeAndUnion
  obtain ⟨rest, ch, hrem, hp, hpr⟩ := BT.removeRoot_spec e _ he
  have hsub : ∀ x, x ∈ ch.ids ++ rest.ids → x ∈ h.head.ids :=
    fun x hx => hp.mem_iff.mpr (List.mem_cons_of_mem _ hx)
  have hp3 := BT.revChain_perm ch .nil
  simp only [BT.ids, List.append_nil] at hp3
  obtain ⟨head', hun, hp2, hou⟩ := union_spec (cmp := cmp) (Reg.readable r) rest (BT.revChain ch .nil)
    (fun x hx => hsub x (List.mem_append_right _ hx))
    (fun x hx => hsub x (List.mem_append_left _ (hp3.mem_iff.mp hx)))
  obtain ⟨c, hc, hn⟩ := r.reg e (BT.chainIds_sub _ _ he)
  have hperm : (h.head.ids).Perm (e :: head'.ids) :=
    hp.trans (List.Perm.cons _ ((List.perm_append_comm.trans (List.Perm.append_left _ hp3.symm)).trans hp2.symm))
  obtain ⟨r', h1, h2, h3⟩ := r.remove hperm hc
  simp only [hrem, hun, hc]
  rw [if_pos (lt_size_of_getElem? hn)]
  refine ⟨_, c, rfl, r', h1, h2, h3, rfl, rfl, fun hl ho => ?_⟩
  have hne : ∀ x, x ∈ ch.ids ++ rest.ids → x ≠ e := by
    intro x hx hxe
    exact (List.nodup_cons.mp (hp.nodup_iff.mp r.nodup)).1 (hxe ▸ hx)
  refine hou hl ?_ ?_
  · intro a b hab
    have := BT.pairs_mem_ids rest a b hab
    exact ho a b ((hpr (a, b)).mpr (Or.inr (Or.inr hab)))
      (hne a (List.mem_append_right _ this.1)) (hne b (List.mem_append_right _ this.2))
  · intro a b hab
    rcases (BT.revChain_pairs ch .nil (a, b)).mp hab with h1 | h1
    · have := BT.pairs_mem_ids ch a b h1
      exact ho a b ((hpr (a, b)).mpr (Or.inr (Or.inl h1)))
        (hne a (List.mem_append_left _ this.1)) (hne b (List.mem_append_left _ this.2))
    · simp [BT.pairs] at h1

structure InvO (cmp : K → K → Int) (cap : Nat) (h : IBinomial K V) : Prop where
  inv : Inv cap h
  ho : HO cmp (kf h) h.head

theorem root_extremal (hc : LawfulCmp cmp) {h : IBinomial K V}
    (r : Reg cap h.head.ids h.nodes h.cells) (ho : HO cmp (kf h) h.head) {e : Nat}
    {c : Cell K V} (hfirst : ∀ y, y ∈ h.head.chainIds → LeP cmp (kf h) e y) (hce : h.cells[e]? = some c) :
    Spec.Extremal cmp (abs h) c.key :=
  r.extremal hce fun id hmem =>
    let ⟨ρ, hρ, hle⟩ := ho_root hc h.head ho (fun y hy => kf_some r hy) id hmem
    leP_trans hc _ _ _ (hfirst ρ hρ) hle

theorem hole_of_setKey (hc : LawfulCmp cmp) {f g : Nat → Option K} {t : BT} (hnd : t.ids.Nodup) {x : Nat}
    (hfg : ∀ y, y ≠ x → g y = f y) (ho : HO cmp f t) : Hole (LeP cmp g) t.par x := by
  obtain ⟨h1, h2⟩ := (ho_iff.1 ho).hole (leP_trans hc) x
  constructor
  · intro a b hab hax hbx
    exact LeP.congr (hfg a hax) (hfg b hbx) (h1 a b hab hax hbx)
  · intro p c hp hc'
    have hpx : p ≠ x := fun e => BT.pair_irrefl t hnd x (e ▸ hp)
    have hcx : c ≠ x := fun e => BT.pair_irrefl t hnd x (e ▸ hc')
    exact LeP.congr (hfg p hpx) (hfg c hcx) (h2 p c hp hc')

theorem insert_spec {h : IBinomial K V} (inv : Inv cap h) (i : Int) (key : K)
    (val : V) : ∃ h' b, h.insert cmp i key val = .ok (h', b) ∧ Inv cap h' ∧
      Spec.AdmitG P cmp eq cap (abs h) (.insert i key val) (.bool b) (abs h') ∧
      (LawfulCmp cmp → HO cmp (kf h) h.head → HO cmp (kf h') h'.head) := by
  have r := inv.reg
  unfold insert
  rw [containsIndex_eq r]
  split
  · rename_i hcond
    exact ⟨h, false, rfl, inv, .insert_fail (r.insert_refused hcond), fun _ ho => ho⟩
  · rename_i hcond
    obtain ⟨hr, hnone, hlt, r', habs⟩ := r.insert_free hcond key val
    simp only []
    let h1 : IBinomial K V := { h with cells := h.cells.push { index := i.toNat, key := key, val := val } }
    obtain ⟨hd, hun, hperm, hou⟩ := union_spec (cmp := cmp) (h := h1)
      (fun id hid => let ⟨c, hc, _⟩ := r'.reg id hid; ⟨c, hc⟩) h.head (.node h.cells.size 0 .nil .nil)
      (fun x hx => List.mem_cons_of_mem _ hx) (fun x hx => by simp [BT.ids] at hx; rw [hx]; exact List.mem_cons_self)
    rw [hun]
    simp only []
    rw [if_pos hlt]
    have hp2 : (h.cells.size :: h.head.ids).Perm (BT.ids hd) := by
      refine List.Perm.trans ?_ hperm.symm
      simp only [BT.ids, List.append_nil]
      exact (List.perm_append_comm (l₁ := [h.cells.size]))
    refine ⟨_, true, rfl, ⟨r'.perm hp2, ?_⟩, ?_, ?_⟩
    · show h.n + 1 = ((Spec.card cap (absOf _ _) : Nat) : Int)
      rw [habs]; exact Spec.card_insert inv.card hr hnone _
    · show Spec.AdmitG P cmp eq cap (abs h) _ _ (absOf _ _)
      rw [habs]; exact .insert_ok hr hnone
    · intro hc ho
      have ho1 : HO cmp (kf h1) h.head := by
        refine ho_congr ?_ ho
        intro y hy
        obtain ⟨c, hc', _⟩ := r.reg y hy
        have := lt_size_of_getElem? hc'
        show ((h.cells.push _)[y]?).map _ = _
        rw [Array.getElem?_push, if_neg (by omega)]; rfl
      have ho2 : HO cmp (kf h1) (.node h.cells.size 0 .nil .nil) := by
        intro a b hab; simp [BT.pairs, BT.chainIds] at hab
      exact hou hc ho1 ho2

theorem changeKey_spec {h : IBinomial K V} (inv : Inv cap h) (i : Int)
    (key : K) : ∃ h' b, h.changeKey cmp i key = .ok (h', b) ∧ Inv cap h' ∧
      Spec.AdmitG P cmp eq cap (abs h) (.changeKey i key) (.bool b) (abs h') ∧
      (LawfulCmp cmp → HO cmp (kf h) h.head → HO cmp (kf h') h'.head) := by
  have r := inv.reg
  unfold changeKey
  split
  · rename_i hcond
    exact ⟨h, false, rfl, inv, .changeKey_fail (r.not_held hcond), fun _ ho => ho⟩
  · rename_i hcond
    obtain ⟨hr, id, c, hnode, hmem, hcell, hci, habs⟩ := r.held (Bool.of_not_eq_false hcond)
    have hji : ((i.toNat : Nat) : Int) = i := by unfold Spec.InRange at hr; omega
    obtain ⟨r1, habs1⟩ := r.setKey hmem hcell key
    obtain ⟨anc, hanc, hpath⟩ := BT.ancestors_spec id h.head [] hmem
    rw [List.append_nil] at hanc
    let h1 : IBinomial K V := { h with cells := h.cells.setIfInBounds id { c with key := key } }
    obtain ⟨h2, hpr, r2, ha2, hh2, hn2, hop⟩ := promoteLoop_spec (cmp := cmp) anc h1 id r1 hpath
    have hh2' : h2.head = h.head := hh2
    obtain ⟨ch, hch, hnc⟩ := BT.childrenOf_some id h.head hmem
    obtain ⟨h3, hde, r3, ha3, hh3, hn3, hod⟩ := demote_spec (cmp := cmp) (ch.size + 1) h2 id ch r2 hnc (by omega)
    rw [← hh2'] at hch
    have habs' : abs h3 = (abs h).set i (some (key, c.val)) := by
      rw [ha3, ha2]
      show absOf h.nodes _ = _
      rw [habs1, hci, hji]; rfl
    refine ⟨h3, true, ?_, ⟨by rw [hh3, hh2']; exact r3, ?_⟩, ?_, ?_⟩
    · simp only [hnode, hcell, promote, hanc]
      rw [hpr]
      simp only [hch, hde]
    · rw [hn3, hn2, habs']; exact Spec.card_update inv.card hr habs _
    · rw [habs']; exact .changeKey_ok habs (Or.inl rfl)
    · intro hc ho
      have hnd := r.nodup
      have hole1 : Hole (LeP cmp (kf h1)) h.head.par id := by
        refine hole_of_setKey hc hnd ?_ ho
        intro y hy
        show ((h.cells.setIfInBounds id _)[y]?).map _ = _
        rw [Array.getElem?_setIfInBounds, if_neg (fun e => hy e.symm)]; rfl
      rw [hh3, hh2']
      exact hod hc ((hop hc).1 hole1)

theorem delete_spec {h : IBinomial K V} (inv : Inv cap h) :
    ∃ h' res, h.delete cmp = .ok (h', res) ∧ Inv cap h' ∧
      Spec.AdmitG (fun m k => LawfulCmp cmp → HO cmp (kf h) h.head → Spec.Extremal cmp m k) cmp eq cap (abs h) .delete (.ikv res) (abs h') ∧
      (LawfulCmp cmp → HO cmp (kf h) h.head → HO cmp (kf h') h'.head) := by
  have r := inv.reg
  unfold delete
  rcases findExt_spec (cmp := cmp) (Reg.readable r) h.head.chainIds (fun x hx => BT.chainIds_sub _ _ hx) with
    ⟨hfe, hnil⟩ | ⟨e, hfe, hem, hfirst⟩
  · rw [hfe]
    exact ⟨h, none, rfl, inv, .delete_none (empty_of_head_nil r (BT.chainIds_nil _ hnil)), fun _ ho => ho⟩
  · rw [hfe]
    obtain ⟨h1, c, hrm, r', habs', habs, hlt, hn, hce, hou⟩ := removeAndUnion_spec (cmp := cmp) r hem
    have hr : Spec.InRange cap (c.index : Int) := by unfold Spec.InRange; omega
    refine ⟨h1, some ((c.index : Int), c.key, c.val), by simp only [hrm], ⟨r', ?_⟩, ?_, ?_⟩
    · rw [hn, habs']; exact Spec.card_remove inv.card hr habs
    · rw [habs']; exact .delete_some habs fun hc ho => root_extremal hc r ho (hfirst hc) hce
    · exact fun hc ho => hou hc (fun a b hab _ _ => ho a b hab)

theorem deleteIndex_spec {h : IBinomial K V} (inv : Inv cap h) (i : Int) :
    ∃ h' res, h.deleteIndex cmp i = .ok (h', res) ∧ Inv cap h' ∧
      Spec.AdmitG P cmp eq cap (abs h) (.deleteIndex i) (.kv res) (abs h') ∧
      (LawfulCmp cmp → HO cmp (kf h) h.head → HO cmp (kf h') h'.head) := by
  have r := inv.reg
  unfold deleteIndex
  split
  · rename_i hcond
    exact ⟨h, none, rfl, inv, .deleteIndex_none (r.not_held hcond), fun _ ho => ho⟩
  · rename_i hcond
    obtain ⟨hr, id, c, hnode, hmem, hcell, hci, habs⟩ := r.held (Bool.of_not_eq_false hcond)
    have hji : ((i.toNat : Nat) : Int) = i := by unfold Spec.InRange at hr; omega
    obtain ⟨anc, hanc, hpath⟩ := BT.ancestors_spec id h.head [] hmem
    rw [List.append_nil] at hanc
    obtain ⟨h1, ρ, hbu, hρ, r1, ha1, hh1, hn1, hcell1, hob⟩ := bubbleUp_spec (cmp := cmp) anc h id r hpath
    obtain ⟨h2, c2, hrm, r2, habs2, _, _, hn2, hc2, hou⟩ := removeAndUnion_spec (cmp := cmp) (h := h1)
      (by rw [hh1]; exact r1) (by rw [hh1]; exact hρ)
    have : c2 = c := by rw [hcell1, hcell] at hc2; exact (Option.some.inj hc2).symm
    subst this
    have habs' : abs h2 = (abs h).set i none := by rw [habs2, ha1, hci, hji]
    refine ⟨h2, some (c2.key, c2.val), by simp only [hnode, hanc, hbu, hrm], ⟨r2, ?_⟩, ?_, ?_⟩
    · rw [hn2, hn1, habs']; exact Spec.card_remove inv.card hr habs
    · rw [habs']; exact .deleteIndex_some habs
    · intro hc ho
      exact hou hc (by rw [hh1]; exact (hob hc ((ho_iff.1 ho).hole (leP_trans hc) id)).1)

theorem peek_spec {h : IBinomial K V} (inv : Inv cap h) :
    ∃ res, h.peek cmp = .ok res ∧
      Spec.AdmitG (fun m k => LawfulCmp cmp → HO cmp (kf h) h.head → Spec.Extremal cmp m k) cmp eq cap (abs h) .peek (.ikv res) (abs h) := by
  have r := inv.reg
  unfold peek
  rcases findExt_spec (cmp := cmp) (Reg.readable r) h.head.chainIds (fun x hx => BT.chainIds_sub _ _ hx) with
    ⟨hfe, hnil⟩ | ⟨e, hfe, hem, hfirst⟩
  · rw [hfe]
    exact ⟨none, rfl, .peek_none (empty_of_head_nil r (BT.chainIds_nil _ hnil))⟩
  · rw [hfe]
    obtain ⟨c, hc, hn⟩ := r.reg e (BT.chainIds_sub _ _ hem)
    exact ⟨some ((c.index : Int), c.key, c.val), by simp only [hc],
      .peek_some (absOf_held hn hc) fun hlaw ho => root_extremal hlaw r ho (hfirst hlaw) hc⟩

theorem peekIndex_spec {h : IBinomial K V} (inv : Inv cap h) (i : Int) :
    ∃ res, h.peekIndex i = .ok res ∧ Spec.AdmitG P cmp eq cap (abs h) (.peekIndex i) (.kv res) (abs h) := by
  have r := inv.reg
  unfold peekIndex
  split
  · rename_i hcond
    exact ⟨none, rfl, by rw [← r.not_held hcond]; exact .peekIndex⟩
  · rename_i hcond
    obtain ⟨_, id, c, hnode, _, hcell, _, habs⟩ := r.held (Bool.of_not_eq_false hcond)
    exact ⟨some (c.key, c.val), by simp only [hnode, hcell], by rw [← habs]; exact .peekIndex⟩

theorem step_spec (eq : V → V → Bool) (h : IBinomial K V) (op : Op K V) (inv : Inv cap h) :
    ∃ h' res, step cmp eq h op = .ok (h', res) ∧ Inv cap h' ∧
      Spec.AdmitG (fun m k => LawfulCmp cmp → HO cmp (kf h) h.head → Spec.Extremal cmp m k) cmp eq cap (abs h) op res (abs h') ∧
      (LawfulCmp cmp → HO cmp (kf h) h.head → HO cmp (kf h') h'.head) := by
  cases op with
  | insert i k v =>
    obtain ⟨h', b, he, inv', adm, ho'⟩ := insert_spec (cmp := cmp) (eq := eq) inv i k v
    exact ⟨h', .bool b, by simp only [step, he, Outcome.map], inv', adm, ho'⟩
  | changeKey i k =>
    obtain ⟨h', b, he, inv', adm, ho'⟩ := changeKey_spec (cmp := cmp) (eq := eq) inv i k
    exact ⟨h', .bool b, by simp only [step, he, Outcome.map], inv', adm, ho'⟩
  | delete =>
    obtain ⟨h', res, he, inv', adm, ho'⟩ := delete_spec (cmp := cmp) (eq := eq) inv
    exact ⟨h', .ikv res, by simp only [step, he, Outcome.map], inv', adm, ho'⟩
  | deleteIndex i =>
    obtain ⟨h', res, he, inv', adm, ho'⟩ := deleteIndex_spec (cmp := cmp) (eq := eq) inv i
    exact ⟨h', .kv res, by simp only [step, he, Outcome.map], inv', adm, ho'⟩
  | deleteAll =>
    have habs : abs h.deleteAll = Spec.Map.empty := absOf_replicate _ _
    refine ⟨_, _, rfl, ⟨inv.reg.clear, card_replicate cap _ _⟩, ?_,
      fun _ _ a b hab => by simp [deleteAll, BT.pairs] at hab⟩
    rw [habs]; exact .deleteAll
  | peek =>
    obtain ⟨res, he, adm⟩ := peek_spec (cmp := cmp) (eq := eq) inv
    exact ⟨h, .ikv res, by simp only [step, he, Outcome.map], inv, adm, fun _ ho => ho⟩
  | peekIndex i =>
    obtain ⟨res, he, adm⟩ := peekIndex_spec (cmp := cmp) (eq := eq) inv i
    exact ⟨h, .kv res, by simp only [step, he, Outcome.map], inv, adm, fun _ ho => ho⟩
  | containsIndex i =>
    exact ⟨h, _, rfl, inv, by rw [containsIndex_eq inv.reg]; exact .containsIndex, fun _ ho => ho⟩
  | containsKey k =>
    obtain ⟨b, hb⟩ := anyCell_total inv.reg (fun c => cmp c.key k == 0)
    exact ⟨h, .bool b, by simp only [step, containsKey, hb, Outcome.map], inv,
      inv.reg.containsKey_admit hb, fun _ ho => ho⟩
  | containsValue v =>
    obtain ⟨b, hb⟩ := anyCell_total inv.reg (fun c => eq c.val v)
    exact ⟨h, .bool b, by simp only [step, containsValue, hb, Outcome.map], inv,
      inv.reg.containsValue_admit hb, fun _ ho => ho⟩
  | size => exact ⟨h, _, rfl, inv, by rw [inv.card]; exact .size, fun _ ho => ho⟩
  | isEmpty => exact ⟨h, _, rfl, inv, .isEmpty (isEmpty_iff inv.reg), fun _ ho => ho⟩

theorem step_full (hc : LawfulCmp cmp) (eq : V → V → Bool) (h : IBinomial K V) (op : Op K V)
    (io : InvO cmp cap h) :
    ∃ h' res, step cmp eq h op = .ok (h', res) ∧ InvO cmp cap h' ∧ Spec.Admit cmp eq cap (abs h) op res (abs h') := by
  obtain ⟨h', res, hstep, inv', hadm, hho⟩ := step_spec (cmp := cmp) eq h op io.inv
  exact ⟨h', res, hstep, ⟨inv', hho hc io.ho⟩, hadm.imp fun _ _ _ _ hk => hk hc io.ho⟩

theorem invO_new (cmp : K → K → Int) (cap : Nat) : InvO cmp cap (new cap : IBinomial K V) :=
  ⟨inv_new cap, fun a b hab => by simp [new, BT.pairs] at hab⟩

end IBinomial
end AlgoVerif.C05
