import AlgoVerif.Proofs.C19Buf
namespace AlgoVerif.C19
open AlgoVerif AlgoVerif.Generated

theorem lexemeLoop_spec {S : List UInt8} {n : Nat} {i : Input} {p B cnt s : Nat} (hinv : Inv S n i p B cnt s) :
    ∀ (d q : Nat) (acc : List UInt8) (fuel : Nat), q + d = p → B ≤ q + n → d ≤ n → d < fuel →
      lexemeLoop fuel i.buff (idx n s B q) (idx n s B p) acc
        = .ok (acc.reverse ++ (S.drop q).take d, idx n s B p) := by
  have hn := hinv.npos
  have hphi := hinv.p_hi
  have hcl := hinv.cnt_le
  have hL := hinv.hiL
  intro d
  induction d with
  | zero =>
    intro q acc fuel hqp _ _ hf
    have : q = p := by omega
    subst this
    cases fuel with
    | zero => omega
    | succ f => simp [lexemeLoop]
  | succ d ih =>
    intro q acc fuel hqp hlo hdn hf
    cases fuel with
    | zero => omega
    | succ f =>
      have hne := idx_ne n s B q p hn hinv.s01 hlo (by omega) (by omega) (by omega)
      have hqL : q < S.length := by omega
      obtain ⟨x, hx, _⟩ := getElem?_of_lt hqL
      have hread : i.buff[idx n s B q]? = some x := by rw [buff_at hinv q hlo (by omega), hx]
      have hsucc := idx_succ n s B q hn hinv.s01 hlo (by omega)
      unfold lexemeLoop
      simp only [ne_eq, hne, not_false_eq_true, if_true, hread, hinv.size, hsucc]
      rw [ih (q + 1) (x :: acc) f (by omega) (by omega) (by omega) (by omega)]
      congr 2
      rw [List.reverse_cons, List.append_assoc]
      congr 1
      rw [List.drop_eq_getElem_cons hqL, List.take_succ_cons]
      rw [List.getElem?_eq_getElem hqL] at hx
      simp [Option.some.inj hx]

end AlgoVerif.C19
