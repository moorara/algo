import AlgoVerif.Proofs.C13Perm
import AlgoVerif.Proofs.C13DfaOps
/-! C13: `DFA.Isomorphic` is true for a DFA and its copy renamed by any injective map. -/
namespace AlgoVerif.C13
open AlgoVerif AlgoVerif.C13.Spec

theorem entries_keys {β : Type} (tr : List (Int × List (Int × β))) (h1 : ASorted tr) (h2 : ∀ st ∈ tr, ASorted st.2) :
    (entries tr).Pairwise (fun e e' => ¬ (e.1 = e'.1 ∧ e.2.1 = e'.2.1)) := by
  induction tr with
  | nil => simp [entries]
  | cons st tr ih =>
    rw [entries_cons, List.pairwise_append]
    simp only [ASorted, List.map_cons, List.pairwise_cons] at h1
    refine ⟨?_, ih h1.2 (fun s hs => h2 s (by simp [hs])), ?_⟩
    · rw [List.pairwise_map]
      have := h2 st (by simp)
      rw [ASorted, List.pairwise_map] at this
      refine this.imp fun {a b} h (he : _ ∧ a.1 = b.1) => Int.ne_of_lt h he.2
    · intro a ha b hb he
      obtain ⟨e, _, rfl⟩ := List.mem_map.1 ha
      obtain ⟨st', hst', e', _, rfl⟩ : ∃ st' ∈ tr, ∃ e' ∈ st'.2, (st'.1, e'.1, e'.2) = b := by
        simpa only [entries, List.mem_flatMap, List.mem_map] using hb
      exact Int.ne_of_lt (h1.1 st'.1 (List.mem_map.2 ⟨st', hst', rfl⟩)) he.1

theorem DFA.edges_eq (d : DFA) :
    d.trans.flatMap (fun st => st.2.map (fun e => (st.1, e.2))) = (entries d.trans).map (fun e => (e.1, e.2.2)) := by
  simp only [entries, List.map_flatMap, List.map_map]
  rfl

theorem DFA.sortedDegrees_eq (d : DFA) :
    d.sortedDegrees = sortInts (d.states.map (degOf (edgesOf (fun t => [t]) (entries d.trans)))) := by
  simp only [DFA.sortedDegrees, d.edges_eq, edgesOf, List.map_cons, List.map_nil, ← List.map_eq_flatMap]; rfl

theorem DFA.permuted_congr (d : DFA) {f g : Int → Int} (h : ∀ s ∈ d.states, g s = f s) : d.permuted g = d.permuted f := by
  rw [d.permuted_eq, d.permuted_eq, h d.start (d.mem_states_of _ (Or.inl rfl))]
  congr 1
  · congr 1
    exact List.map_congr_left fun x hx => h x (d.mem_states_of _ (Or.inr (Or.inl hx)))
  · refine List.map_congr_left fun e he => ?_
    obtain ⟨s1, a1, t1⟩ := e
    simp only [mapE, h s1 (d.entry_states he).1, h t1 (d.entry_states he).2]

theorem DFA.isomorphic_permuted (d : DFA) (hwf : d.WF) (hfs : SSorted d.final) (f : Int → Int)
    (hinj : ∀ s ∈ d.states, ∀ t ∈ d.states, f s = f t → s = t) :
    d.isomorphic (d.permuted f) = .ok true := by
  have hfinal : ∀ x ∈ d.final, x ∈ d.states := fun x hx => d.mem_states_of _ (Or.inr (Or.inl hx))
  have hsf := DFA.ofEntries_start_final (f d.start) (mkSet (d.final.map f)) ((entries d.trans).map (mapE f))
  have hrwf := DFA.ofEntries_WF (f d.start) (mkSet (d.final.map f)) ((entries d.trans).map (mapE f))
  rw [← d.permuted_eq] at hsf hrwf
  generalize hrhs : d.permuted f = rhs at hsf hrwf
  have hent : ∀ x a y, (x, a, y) ∈ entries rhs.trans ↔ (x, a, y) ∈ (entries d.trans).map (mapE f) := by
    intro x a y
    rw [mem_entries_DFA hrwf, ← hrhs]
    exact d.permuted_δ_iff hwf f hinj x a y
  obtain ⟨hstperm, c5, hdeg, hsym⟩ := renamed_table (fun t => [t]) f f (entries_keys d.trans hwf.1 hwf.2)
    (entries_keys rhs.trans hrwf.1 hrwf.2) (fun _ _ _ _ => List.Perm.refl _) hent
    (fun x => by simpa only [List.mem_singleton] using d.mem_states_iff x)
    (fun x => by simpa only [List.mem_singleton, hsf.1, hsf.2] using rhs.mem_states_iff x)
    d.states_sorted rhs.states_sorted hinj
  refine d.isomorphic_of_arrangement rhs ?_ (by simpa using hstperm.length_eq) ?_ ?_ c5 _ hstperm ?_
  · rw [hsf.2, length_mkSet_map hfs (fun a ha b hb => hinj a (hfinal a ha) b (hfinal b hb))]
  · rw [ssorted_ext d.symbols_sorted rhs.symbols_sorted fun a => by
      rw [d.mem_symbols_iff, rhs.mem_symbols_iff, hsym a]]
    exact setEq_refl _
  · rw [rhs.sortedDegrees_eq, d.sortedDegrees_eq, hdeg]; exact degreesAgree_refl _
  · rw [d.permuted_congr (fun s hs => bij_map d.states f s hs), hrhs]
    exact DFA.equal_self hrwf

end AlgoVerif.C13
