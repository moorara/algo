import AlgoVerif.Model.C10Edit
/-! About `Model/C10Edit.lean`: edits keep the grammar a set grammar; the loop that reads from the lexer (`parseRunL`) is
the loop on the tokens delivered (`parseRunL_eq`; `Proofs/C12Faults.lean` says how the three loops relate); one parser
object over a history of edits and parses. -/
set_option linter.unusedSectionVars false
namespace AlgoVerif.C10
open AlgoVerif AlgoVerif.Gram

section
variable {T N : Type} [DecidableEq T] [DecidableEq N]

theorem insertNew_nodup {α : Type} [DecidableEq α] (x : α) {l : List α} (h : l.Nodup) : (insertNew x l).Nodup := by
  unfold insertNew
  split
  · exact h
  · rename_i hx
    refine List.nodup_append.2 ⟨h, List.nodup_cons.2 ⟨List.not_mem_nil, List.nodup_nil⟩, fun a ha b hb hab => ?_⟩
    exact hx (List.mem_singleton.1 hb ▸ hab ▸ ha)

theorem replace_nodup {α : Type} [DecidableEq α] (p p' : α) {l : List α} (h : l.Nodup) (hp' : p' ∉ l) :
    (l.map fun q => if q = p then p' else q).Nodup := by
  refine (List.Pairwise.and_mem.1 h).map _ fun a b ⟨ha, hb, hab⟩ => ?_
  split <;> split
  · exact fun _ => hab (‹a = p›.trans ‹b = p›.symm)
  · exact fun e => hp' (e ▸ hb)
  · exact fun e => hp' (e ▸ ha)
  · exact hab

theorem applyEdit_isSet (g : Grammar T N) (e : Edit T N) (h : IsSetGrammar g) : IsSetGrammar (applyEdit g e) := by
  obtain ⟨ht, hn, hp⟩ := h
  cases e with
  | addTerm t => exact ⟨insertNew_nodup t ht, hn, hp⟩
  | removeTerm t => exact ⟨ht.filter _, hn, hp⟩
  | addNonterm n => exact ⟨ht, insertNew_nodup n hn, hp⟩
  | removeNonterm n => exact ⟨ht, hn.filter _, hp⟩
  | setStart n => exact ⟨ht, hn, hp⟩
  | addProd p => exact ⟨ht, hn, insertNew_nodup p hp⟩
  | removeProd p => exact ⟨ht, hn, hp.filter _⟩
  | removeAll h' => exact ⟨ht, hn, hp.filter _⟩
  | getAdd p =>
    simp only [applyEdit]
    split
    · exact ⟨ht, hn, insertNew_nodup p hp⟩
    · exact ⟨ht, hn, hp⟩
  | getRemove p => exact ⟨ht, hn, hp.filter _⟩
  | setBody p body =>
    simp only [applyEdit]
    split
    · rename_i hc
      exact ⟨ht, hn, replace_nodup p ⟨p.head, body⟩ hp hc.2⟩
    · exact ⟨ht, hn, hp⟩
  | refresh => exact ⟨ht, hn, hp⟩

theorem applyEdits_isSet (es : List (Edit T N)) : ∀ (g : Grammar T N), IsSetGrammar g → IsSetGrammar (applyEdits g es) := by
  induction es with
  | nil => intro g h; exact h
  | cons e rest ih => intro g h; exact ih _ (applyEdit_isSet g e h)

theorem lexCall_zero (a : LexAnswer T) (rest : List (LexAnswer T)) : lexCall (a :: rest) 0 = a := by
  simp [lexCall]

theorem lexCall_succ (a : LexAnswer T) (rest : List (LexAnswer T)) (k : Nat) :
    lexCall (a :: rest) (k + 1) = lexCall rest k := by
  simp [lexCall]

theorem lexCall_cases (lx : List (LexAnswer T)) (k : Nat) (hk : k ≤ (lexTokens lx).length) :
    (∃ b rest, lexCall lx k = .tok b ∧ (lexTokens lx).drop k = b :: rest ∧ lexFailAt lx ≠ some k) ∨
    (∃ j, lexCall lx k = .eof j ∧ (lexTokens lx).drop k = [] ∧ lexFailAt lx ≠ some k) ∨
    (lexCall lx k = .fail ∧ (lexTokens lx).drop k = [] ∧ lexFailAt lx = some k) := by
  induction lx generalizing k with
  | nil => exact Or.inr (Or.inl ⟨none, by simp [lexCall], List.drop_nil, nofun⟩)
  | cons a lx ih =>
    cases a with
    | tok t =>
      cases k with
      | zero => exact Or.inl ⟨t, lexTokens lx, lexCall_zero .., rfl, by simp [lexFailAt]⟩
      | succ k =>
        have hne : ∀ {x : Option Nat}, x ≠ some k → x.map (· + 1) ≠ some (k + 1) := by
          intro x hx e
          obtain ⟨j, hj, e⟩ := Option.map_eq_some_iff.1 e
          exact hx (hj.trans (congrArg some (Nat.succ.inj e)))
        rw [lexCall_succ]
        rcases ih k (Nat.le_of_succ_le_succ hk) with ⟨b, rest, h1, h2, h3⟩ | ⟨j, h1, h2, h3⟩ | ⟨h1, h2, h3⟩
        · exact Or.inl ⟨b, rest, h1, h2, hne h3⟩
        · exact Or.inr (Or.inl ⟨j, h1, h2, hne h3⟩)
        · exact Or.inr (Or.inr ⟨h1, h2, by simp [lexFailAt, h3]⟩)
    | eof j =>
      cases Nat.le_zero.1 hk
      exact Or.inr (Or.inl ⟨j, lexCall_zero .., rfl, nofun⟩)
    | fail =>
      cases Nat.le_zero.1 hk
      exact Or.inr (Or.inr ⟨lexCall_zero .., rfl, rfl⟩)

theorem parseRunL_eq (M : N → Option T → List (GProd T N)) (lx : List (LexAnswer T)) (tokFail prodFail : Option Nat) :
    ∀ (fuel : Nat) (stack : List (Sym T N)) (pos np : Nat) (input : List T), (lexTokens lx).drop pos = input →
      parseRunL M lx tokFail prodFail fuel stack input.head? pos np =
      parseRunF M (lexFailAt lx) tokFail prodFail fuel stack input pos np := by
  intro fuel
  induction fuel with
  | zero => intro stack pos np input _; rfl
  | succ fuel ih =>
    intro stack pos np input hin
    match stack, input with
    | [], [] => rfl
    | [], _ :: _ => rfl
    | .nonterm A :: stack, input =>
      simp only [parseRunL, parseRunF]
      generalize M A input.head? = cell
      match cell with
      | [] => rfl
      | [p] =>
        dsimp only
        split
        · rfl
        · rw [ih _ pos (np + 1) input hin]
      | _ :: _ :: _ => rfl
    | .term t :: stack, [] => rfl
    | .term t :: stack, a :: rest =>
      have hrest : (lexTokens lx).drop (pos + 1) = rest := by
        rw [← List.drop_drop, hin]; rfl
      have hle : pos + 1 ≤ (lexTokens lx).length := by
        refine Nat.succ_le_of_lt (Nat.lt_of_not_le fun h => ?_)
        rw [List.drop_eq_nil_of_le h] at hin
        cases hin
      simp only [parseRunL, parseRunF, List.head?_cons]
      split
      · split
        · rfl
        · -- the next call of the lexer is call number pos + 1
          rcases lexCall_cases lx (pos + 1) hle with ⟨b, r, h1, h2, h3⟩ | ⟨j, h1, h2, h3⟩ | ⟨h1, _, h3⟩
          · rw [h1, if_neg h3, ← ih stack (pos + 1) np rest hrest, ← hrest, h2]; rfl
          · rw [h1, if_neg h3, ← ih stack (pos + 1) np rest hrest, ← hrest, h2]; rfl
          · rw [h1, if_pos h3]
      · rfl

theorem parseWithL_eq (g : Grammar T N) (an : Analysis T N) (lx : List (LexAnswer T)) (tokFail prodFail : Option Nat)
    (fuel : Nat) :
    parseWithL g an lx tokFail prodFail fuel = parseWithF g an (lexFailAt lx) tokFail prodFail fuel (lexTokens lx) := by
  unfold parseWithL parseWithF
  dsimp only
  split
  · have h0 := parseRunL_eq (tcell (buildTable (firstStr an.first) an.follow g.prods g.nonterms)) lx tokFail prodFail
      fuel [.nonterm g.start] 0 0 _ rfl
    rw [List.drop_zero] at h0
    rcases lexCall_cases lx 0 (Nat.zero_le _) with ⟨b, r, h1, h2, h3⟩ | ⟨j, h1, h2, h3⟩ | ⟨h1, _, h3⟩
    · rw [h1, if_neg h3, ← h0, ← List.drop_zero (l := lexTokens lx), h2]; rfl
    · rw [h1, if_neg h3, ← h0, ← List.drop_zero (l := lexTokens lx), h2]; rfl
    · rw [h1, if_pos h3]
  · rfl

/-- `Parse` of a fresh parser on `g`; what `parserHistory` does at a `.parse` step -/
def freshParse (fuel : Nat) (g : Grammar T N) (w : List T) (o₁ o₂ : IterOrder T N) : Outcome (ParseOut T N) :=
  match analyse g o₁ o₂ with
  | .ok an => parseWith g an fuel w
  | .panic => .panic
  | .diverge => .diverge

def editsOf : List (PStep T N) → List (Edit T N)
  | [] => []
  | .edit e :: rest => e :: editsOf rest
  | .parse _ _ _ :: rest => editsOf rest

/-- the number of `Parse` calls in a history: where the answer of the next one stands in `parserHistory` -/
def parsesIn : List (PStep T N) → Nat
  | [] => 0
  | .edit _ :: rest => parsesIn rest
  | .parse _ _ _ :: rest => parsesIn rest + 1

theorem parserHistory_length (fuel : Nat) : ∀ (steps : List (PStep T N)) (g : Grammar T N),
    (parserHistory fuel g steps).length = parsesIn steps := by
  intro steps
  induction steps with
  | nil => intro g; rfl
  | cons s rest ih =>
    intro g
    cases s with
    | edit e => simp [parserHistory, parsesIn, ih]
    | parse w o₁ o₂ => simp [parserHistory, parsesIn, ih]

theorem parserHistory_append (fuel : Nat) : ∀ (pre post : List (PStep T N)) (g : Grammar T N),
    parserHistory fuel g (pre ++ post) =
      parserHistory fuel g pre ++ parserHistory fuel (applyEdits g (editsOf pre)) post := by
  intro pre
  induction pre with
  | nil => intro post g; rfl
  | cons s rest ih =>
    intro post g
    cases s with
    | edit e => simp [parserHistory, editsOf, applyEdits, ih, List.foldl_cons]
    | parse w o₁ o₂ => simp [parserHistory, editsOf, ih]

theorem parserHistory_at (fuel : Nat) (g : Grammar T N) (pre post : List (PStep T N)) (w : List T) (o₁ o₂ : IterOrder T N) :
    (parserHistory fuel g (pre ++ .parse w o₁ o₂ :: post))[parsesIn pre]? =
      some (freshParse fuel (applyEdits g (editsOf pre)) w o₁ o₂) := by
  rw [parserHistory_append]
  rw [List.getElem?_append_right (by rw [parserHistory_length]; exact Nat.le_refl _)]
  rw [parserHistory_length, Nat.sub_self]
  simp only [parserHistory, freshParse, List.getElem?_cons_zero]
  rfl

end

end AlgoVerif.C10
