import AlgoVerif.Generated.C05Gen
import AlgoVerif.Proofs.GoRt
import AlgoVerif.Model.C05
import AlgoVerif.Proofs.C05Binary
/-!
# The GENERATED model of `heap/indexed_binary.go` and the hand-written Model of the indexed binary heap

`Generated/C05Gen.lean` holds every function of the file except `DOT` and `verify`.  The hand Model (`Model/C05.lean`,
`IBinary.*`) keeps `n`, the heap entries and all positions as `Nat`, an entry `*generic.KeyValue` as
`Option (K × V)`, is written with `[i]?` / `setIfInBounds` / explicit matches on the outcome, and gives each loop its
own fuel; the generated definitions use `Int`, the generated record `KeyValue K V`, the bounds-checked `Go.idx` /
`Go.setIdx` and the caller's fuel.

`ofM cmp eq h` reads a state of the hand Model as the generated structure (so every theorem below is for EVERY state
`h` of the hand Model — no invariant is assumed — and every comparator).  Relations:

* `x ≼ y` (`Proofs/Outcome.lean`): the hand Model's outcome is `diverge` (its fuel ran out) or the generated definition
  computes exactly the same outcome;
* `x ≼ₚ y` for `Delete` and `DeleteIndex`: additionally the hand Model may have stopped with `panic` — it does so
  earlier than the Go code at a nil `kvs[i]` (the code panics only at the final `ext.Key`), at a negative stored
  position and at `n = 0`; `C05_ibinary` proves these states unreachable.

`step_le` combines them for one call of the interface, `genRun_eq` for a whole history from `NewIndexedBinary`:
under a lawful comparator the generated definitions answer exactly what the hand Model answers.
-/
set_option linter.unusedSectionVars false
namespace AlgoVerif.C05.Gen
open AlgoVerif AlgoVerif.Outcome AlgoVerif.C05 AlgoVerif.Generated.IHeap
variable {K V : Type} [Inhabited K] [Inhabited V]

def unpair (e : K × V) : KeyValue K V := ⟨e.1, e.2⟩
def uncells (a : Array (Option (K × V))) : Array (Option (KeyValue K V)) := a.map (Option.map unpair)
def ints (a : Array Nat) : Array Int := a.map Int.ofNat

def ofM (cmp : K → K → Int) (eq : V → V → Bool) (h : IBinary K V) : indexedBinary K V :=
  ⟨cmp, eq, (h.n : Int), ints h.heap, h.pos, uncells h.kvs⟩

theorem idx_eq_at? {α : Type} (a : Array α) (k : Nat) : Go.idx a (k : Int) = at? a[k]? := Go.idx_natCast a k

theorem idx_ofNat {α : Type} (a : Array α) (k : Nat) : Go.idx a (Int.ofNat k) = at? a[k]? := idx_eq_at? a k

@[simp] theorem ints_size (a : Array Nat) : (ints a).size = a.size := by simp [ints]
@[simp] theorem uncells_size (a : Array (Option (K × V))) : (uncells a).size = a.size := by simp [uncells]
@[simp] theorem ints_get? (a : Array Nat) (k : Nat) : (ints a)[k]? = a[k]?.map Int.ofNat := by simp [ints]
@[simp] theorem uncells_get? (a : Array (Option (K × V))) (k : Nat) :
    (uncells a)[k]? = a[k]?.map (Option.map unpair) := by simp [uncells]
theorem ints_set (a : Array Nat) (k v : Nat) : (ints a).setIfInBounds k (v : Int) = ints (a.setIfInBounds k v) := by
  by_cases h : k < a.size <;> simp [ints, Array.setIfInBounds, h]
theorem uncells_set (a : Array (Option (K × V))) (k : Nat) (e : Option (K × V)) :
    (uncells a).setIfInBounds k (e.map unpair) = uncells (a.setIfInBounds k e) := by
  by_cases h : k < a.size <;> simp [uncells, Array.setIfInBounds, h]

theorem uncells_set_some (a : Array (Option (K × V))) (k : Nat) (e : K × V) :
    (uncells a).setIfInBounds k (some (unpair e)) = uncells (a.setIfInBounds k (some e)) := uncells_set a k (some e)
theorem uncells_set_none (a : Array (Option (K × V))) (k : Nat) :
    (uncells a).setIfInBounds k none = uncells (a.setIfInBounds k none) := uncells_set a k none

@[simp] theorem deref_some {α : Type} (x : α) : Go.deref (some x) = .ok x := Go.deref_some x
@[simp] theorem deref_none {α : Type} : Go.deref (none : Option α) = .panic := Go.deref_none
@[simp] theorem unpair_Key (e : K × V) : (unpair e).Key = e.1 := rfl
@[simp] theorem unpair_Val (e : K × V) : (unpair e).Val = e.2 := rfl

/-- `h.kvs[h.heap[p]].Key` as the sequence of checked reads it is -/
theorem keyAt_nf (h : IBinary K V) (p : Nat) :
    h.keyAt p = (at? h.heap[p]? >>= fun i => at? h.kvs[i]? >>= fun c => at? c >>= fun e => .ok e.1) := by
  unfold IBinary.keyAt
  cases h.heap[p]? with
  | none => rfl
  | some i =>
    simp only [at?_some, Outcome.ok_bind]
    rcases h.kvs[i]? with _ | _ | ⟨k, v⟩ <;> rfl

theorem keyAt_ne_diverge (h : IBinary K V) (p : Nat) : h.keyAt p ≠ .diverge := by
  rw [IBinary.keyAt_eq]; split <;> simp

section
variable (cmp : K → K → Int) (eq : V → V → Bool)

theorem ofM_n (h : IBinary K V) : (ofM cmp eq h).n = (h.n : Int) := rfl
theorem ofM_heap (h : IBinary K V) : (ofM cmp eq h).heap = ints h.heap := rfl
theorem ofM_pos (h : IBinary K V) : (ofM cmp eq h).pos = h.pos := rfl
theorem ofM_kvs (h : IBinary K V) : (ofM cmp eq h).kvs = uncells h.kvs := rfl

theorem compare_nf (h : IBinary K V) (a b : Nat) :
    h.compare cmp a b = (h.keyAt a >>= fun ka => h.keyAt b >>= fun kb => .ok (cmp ka kb)) := by
  unfold IBinary.compare
  have ha := keyAt_ne_diverge h a
  have hb := keyAt_ne_diverge h b
  cases ea : h.keyAt a <;> cases eb : h.keyAt b <;> simp_all

theorem compare_eq (h : IBinary K V) (a b : Nat) :
    indexedBinary.compare (ofM cmp eq h) (a : Int) (b : Int) = h.compare cmp a b := by
  simp only [compare_nf, keyAt_nf, indexedBinary.compare, ofM, idx_eq_at?, ints_get?]
  cases h.heap[a]? with
  | none => rfl
  | some i =>
    cases h.heap[b]? with
    | none =>
      simp only [Option.map_some, Option.map_none, at?_some, at?_none, Outcome.ok_bind, Outcome.panic_bind]
      rcases h.kvs[i]? with _ | _ | _ <;> rfl
    | some j =>
      simp only [Option.map_some, at?_some, Outcome.ok_bind, Outcome.pure_eq, Int.ofNat_eq_natCast, idx_eq_at?, uncells_get?]
      rcases h.kvs[i]? with _ | _ | e <;> rcases h.kvs[j]? with _ | _ | e' <;> rfl

theorem swap_eq (h : IBinary K V) (i j : Nat) :
    indexedBinary.swap (ofM cmp eq h) (i : Int) (j : Int) = (h.swap i j).map (ofM cmp eq) := by
  simp only [indexedBinary.swap, IBinary.swap, ofM, idx_eq_at?, ints_get?]
  cases ei : h.heap[i]? with
  | none => cases h.heap[j]? <;> rfl
  | some a =>
    cases ej : h.heap[j]? with
    | none => rfl
    | some b =>
      obtain ⟨hi, hai⟩ := Array.getElem?_eq_some_iff.1 ei
      obtain ⟨hj, hbj⟩ := Array.getElem?_eq_some_iff.1 ej
      simp only [Option.map_some, at?_some, Outcome.ok_bind, Outcome.pure_eq, Int.ofNat_eq_natCast, Go.setIdx_natCast,
        ints_size, hi, hj, if_true, ints_set, Array.size_setIfInBounds, ints_get?]
      have g2 : ((h.heap.setIfInBounds i b).setIfInBounds j a)[j]? = some a :=
        (getElem?_set_set h.heap b a hi hj j).trans (if_pos rfl)
      have g1 : ((h.heap.setIfInBounds i b).setIfInBounds j a)[i]? = some b := by
        rw [getElem?_set_set h.heap b a hi hj i]
        by_cases hij : i = j
        · rw [if_pos hij, ← hbj, ← hai]; simp only [hij]
        · rw [if_neg hij, if_pos rfl]
      simp only [g1, g2, Option.map_some, at?_some, Outcome.ok_bind, Int.ofNat_eq_natCast, Go.setIdx_natCast]
      by_cases hb : b < h.pos.size <;> by_cases ha : a < h.pos.size <;> simp [hb, ha, ofM]

theorem promote_succ (f : Nat) (h : IBinary K V) (k : Nat) :
    IBinary.promote cmp (f + 1) h k =
      if 1 < k then
        h.compare cmp (k / 2) k >>= fun c =>
          if 0 < c then h.swap k (k / 2) >>= fun h' => IBinary.promote cmp f h' (k / 2) else .ok h
      else .ok h := by
  simp only [IBinary.promote]
  split
  · cases h.compare cmp (k / 2) k with
    | ok c =>
      simp only [Outcome.ok_bind]
      split
      · cases h.swap k (k / 2) <;> rfl
      · rfl
    | panic => rfl
    | diverge => rfl
  · rfl

theorem promote_loop1_succ (F f : Nat) (g : indexedBinary K V) (k : Int) :
    indexedBinary.promote.loop1 F (f + 1) g k =
      if 1 < k then
        indexedBinary.compare g (k.tdiv 2) k >>= fun c =>
          if 0 < c then indexedBinary.swap g k (k.tdiv 2) >>= fun g' => indexedBinary.promote.loop1 F f g' (k.tdiv 2)
          else .ok (g, k)
      else .ok (g, k) := by
  simp only [indexedBinary.promote.loop1, Outcome.pure_eq, Outcome.ok_bind,
    Bool.not_eq_true', decide_eq_false_iff_not, decide_eq_true_eq, ite_not, if_true, gt_iff_lt]

/-- `for ; k > 1 && h.compare(k/2, k) > 0; k /= 2 { h.swap(k, k/2) }` -/
theorem promote_loop (F : Nat) : ∀ (f d : Nat) (h : IBinary K V) (k : Nat),
    Sim (fun h' r => ofM cmp eq h' = r.1) (IBinary.promote cmp f h k)
      (indexedBinary.promote.loop1 F (f + d) (ofM cmp eq h) (k : Int)) := by
  intro f
  induction f with
  | zero => intro d h k; exact Sim.diverge
  | succ f ih =>
    intro d h k
    have e1 : ((1 : Int) < k) = (1 < k) := propext (by omega)
    rw [show f + 1 + d = (f + d) + 1 by omega, promote_succ, promote_loop1_succ]
    simp only [e1, show Int.tdiv (k : Int) 2 = _ from Go.tdiv_natCast k 2, compare_eq, swap_eq, bind_map_left]
    split
    · refine Sim.bind_same fun c _ => ?_
      split
      · exact Sim.bind_same fun h' _ => ih d h' (k / 2)
      · exact rfl
    · exact rfl

theorem promote_le {f F : Nat} (hf : f ≤ F) (h : IBinary K V) (k : Nat) :
    (IBinary.promote cmp f h k).map (ofM cmp eq) ≼ indexedBinary.promote F (ofM cmp eq h) (k : Int) := by
  obtain ⟨d, rfl⟩ := Nat.exists_eq_add_of_le hf
  exact map_le_iff.2 ((promote_loop cmp eq (f + d) f d h k).ret fun _ _ e => e)

theorem natCast_succ (j : Nat) : ((j : Int) + 1) = ((j + 1 : Nat) : Int) := by omega
theorem natCast_two_mul (k : Nat) : (2 * (k : Int)) = ((2 * k : Nat) : Int) := by omega

theorem pickChild_nf (h : IBinary K V) (j : Nat) :
    h.pickChild cmp j =
      if j < h.n then h.compare cmp (j + 1) j >>= fun c => .ok (if c < 0 then j + 1 else j) else .ok j := by
  simp only [IBinary.pickChild]
  split
  · cases h.compare cmp (j + 1) j <;> rfl
  · rfl

theorem demote_succ (f : Nat) (h : IBinary K V) (k : Nat) :
    IBinary.demote cmp (f + 1) h k =
      if 2 * k ≤ h.n then
        h.pickChild cmp (2 * k) >>= fun j => h.compare cmp k j >>= fun c =>
          if c < 0 then .ok h else h.swap k j >>= fun h' => IBinary.demote cmp f h' j
      else .ok h := by
  simp only [IBinary.demote]
  split
  · cases h.pickChild cmp (2 * k) with
    | ok j =>
      simp only [Outcome.ok_bind]
      cases h.compare cmp k j with
      | ok c =>
        simp only [Outcome.ok_bind]
        split
        · rfl
        · cases h.swap k j <;> rfl
      | panic => rfl
      | diverge => rfl
    | panic => rfl
    | diverge => rfl
  · rfl

/-- the generated `if j < h.n && h.compare(j+1, j) < 0 { j++ }`, as the value `j` has afterwards -/
theorem pickChild_eq (h : IBinary K V) (j : Nat) :
    (if (j : Int) < (h.n : Int) then indexedBinary.compare (ofM cmp eq h) ((j : Int) + 1) j >>= fun c =>
        .ok (if c < 0 then (j : Int) + 1 else j) else .ok (j : Int)) = (h.pickChild cmp j).map Nat.cast := by
  simp only [pickChild_nf, natCast_succ, compare_eq, Int.ofNat_lt, Outcome.map_ite, Outcome.map_bind, Outcome.map_ok,
    apply_ite Nat.cast]

/-- one turn of the generated loop of `demote`, as the nest of calls the hand Model is written in (the translator
repeats the rest of the body under both branches of `if … { j++ }`) -/
theorem demote_loop1_succ (F f : Nat) (j : Int) (g : indexedBinary K V) (k : Int) :
    indexedBinary.demote.loop1 F (f + 1) j g k =
      if j ≤ g.n then
        (if j < g.n then indexedBinary.compare g (j + 1) j >>= fun c => .ok (if c < 0 then j + 1 else j) else .ok j)
          >>= fun j' => indexedBinary.compare g k j' >>= fun c =>
            if c < 0 then .ok (g, k)
            else indexedBinary.swap g k j' >>= fun g' => indexedBinary.demote.loop1 F f (2 * j') g' j'
      else .ok (g, k) := by
  simp only [indexedBinary.demote.loop1, Outcome.bind_assoc, Outcome.pure_eq, Outcome.ok_bind, Outcome.ite_bind,
    Bool.not_eq_true', decide_eq_false_iff_not, decide_eq_true_eq, ite_not, Bool.false_eq_true, if_false]
  congr 3
  funext c
  split <;> rfl

/-- `for j := 2*k; j <= h.n; k, j = j, 2*j { pick the smaller child; if compare(k, j) < 0 { break }; swap(k, j) }` -/
theorem demote_loop (F : Nat) : ∀ (f d : Nat) (h : IBinary K V) (k : Nat),
    Sim (fun h' r => ofM cmp eq h' = r.1) (IBinary.demote cmp f h k)
      (indexedBinary.demote.loop1 F (f + d) ((2 * k : Nat) : Int) (ofM cmp eq h) (k : Int)) := by
  intro f
  induction f with
  | zero => intro d h k; exact Sim.diverge
  | succ f ih =>
    intro d h k
    rw [show f + 1 + d = (f + d) + 1 by omega, demote_succ, demote_loop1_succ, ofM_n, pickChild_eq, bind_map_left]
    simp only [Int.ofNat_le, natCast_two_mul, compare_eq, swap_eq, bind_map_left]
    split
    · refine Sim.bind_same fun j _ => Sim.bind_same fun c _ => ?_
      split
      · exact rfl
      · exact Sim.bind_same fun h' _ => ih d h' j
    · exact rfl

theorem demote_le {f F : Nat} (hf : f ≤ F) (h : IBinary K V) (k : Nat) :
    (IBinary.demote cmp f h k).map (ofM cmp eq) ≼ indexedBinary.demote F (ofM cmp eq h) (k : Int) := by
  obtain ⟨d, rfl⟩ := Nat.exists_eq_add_of_le hf
  rw [indexedBinary.demote, natCast_two_mul]
  exact map_le_iff.2 ((demote_loop cmp eq (f + d) f d h k).ret fun _ _ e => e)

theorem map_le_bind {α β γ δ : Type} {x : Outcome α} {y : Outcome β} {f : α → β} {g : α → Outcome γ}
    {g' : β → Outcome δ} {p : γ → δ} (h : x.map f ≼ y) (hg : ∀ a, x = .ok a → (g a).map p ≼ g' (f a)) :
    (x >>= g).map p ≼ (y >>= g') :=
  map_le_iff.2 ((map_le_iff.1 h).bind' fun a _ ha _ e => e ▸ map_le_iff.1 (hg a ha))

theorem ContainsIndex_eq (h : IBinary K V) (i : Int) :
    indexedBinary.ContainsIndex (ofM cmp eq h) i = h.containsIndex i := by
  simp only [indexedBinary.ContainsIndex, IBinary.containsIndex, ofM, uncells_size, ← Bool.decide_and]
  by_cases hr : 0 ≤ i ∧ i < (h.kvs.size : Int)
  · obtain ⟨m, rfl⟩ : ∃ m : Nat, i = (m : Int) := ⟨i.toNat, by omega⟩
    simp only [hr, decide_true, and_self, if_true, idx_eq_at?, Int.toNat_natCast, Outcome.pure_eq]
    cases h.pos[m]? <;> rfl
  · simp [hr]

/-- the fuel `F` covers the hand Model's own fuels in state `h`: `n + 2` and every stored position `+ 1` -/
def Covers (F : Nat) (h : IBinary K V) : Prop :=
  h.n + 2 ≤ F ∧ ∀ (j q : Nat), h.pos[j]? = some (q : Int) → q + 1 ≤ F

theorem Insert_le (h : IBinary K V) (i : Int) (key : K) (val : V) (F : Nat) (hc : Covers F h) :
    (h.insert cmp i key val).map (fun r => (ofM cmp eq r.1, r.2)) ≼
      indexedBinary.Insert F (ofM cmp eq h) i key val := by
  have hd : ((!(decide (i < 0) || decide (i ≥ ((ofM cmp eq h).kvs.size : Int)))) = true) =
      ¬ (i < 0 ∨ i ≥ (h.kvs.size : Int)) := by simp [ofM]
  rw [IBinary.insert_eq, indexedBinary.Insert, map_le_iff]
  simp only [hd, ite_not]
  refine Sim.ite (fun _ => rfl) fun hr => ?_
  obtain ⟨m, rfl⟩ : ∃ m : Nat, i = (m : Int) := ⟨i.toNat, by omega⟩
  simp only [ContainsIndex_eq, Outcome.pure_eq, Outcome.ok_bind]
  refine Sim.bind_same fun b _ => ?_
  cases b with
  | true => exact rfl
  | false =>
    simp only [Bool.false_eq_true, if_false, ite_and_panic, Int.toNat_natCast, ofM_n, natCast_succ]
    -- `h.n++; h.heap[h.n] = i; h.pos[i] = h.n; h.kvs[i] = &KeyValue{key, val}`
    refine Go.Sim.store (ints h.heap) (h.n + 1) m (ints_size _).symm fun _ => ?_
    refine Go.Sim.store h.pos m _ rfl fun _ => ?_
    refine Go.Sim.store (uncells h.kvs) m (some (unpair (key, val))) (uncells_size _).symm fun _ => ?_
    rw [ints_set, uncells_set_some]
    exact (map_le_iff.1 (promote_le cmp eq hc.1 (h.insertRaw m key val) (h.n + 1))).bind fun _ _ e => e ▸ rfl

theorem swap_n {h h' : IBinary K V} {i j : Nat} (e : h.swap i j = .ok h') : h'.n = h.n := by
  simp only [IBinary.swap] at e
  split at e
  · split at e
    · cases e; rfl
    · cases e
  · cases e

theorem promote_n : ∀ (f : Nat) (h : IBinary K V) (k : Nat), (IBinary.promote cmp f h k).All (·.n = h.n) := by
  intro f
  induction f with
  | zero => intro h k; nofun
  | succ f ih =>
    intro h k
    rw [promote_succ]
    exact .ite (fun _ => .bind fun c _ => .ite (fun _ => .bind fun h1 hs => swap_n hs ▸ ih h1 _) fun _ => .ok rfl)
      fun _ => .ok rfl

theorem promote_small (g : indexedBinary K V) (k : Int) (hk : k ≤ 1) (F : Nat) :
    indexedBinary.promote (F + 1) g k = .ok g := by
  have : decide (k > 1) = false := by simpa using hk
  simp [indexedBinary.promote, indexedBinary.promote.loop1, this]

theorem demote_neg (g : indexedBinary K V) (k : Int) (hk : k < 0) (hn : 0 ≤ g.n) (F : Nat) :
    indexedBinary.demote (F + 1) g k = .panic := by
  have hc : indexedBinary.compare g (2 * k + 1) (2 * k) = .panic := by
    simp only [indexedBinary.compare, Go.idx_of_invalid (s := g.heap) (i := 2 * k + 1) (by omega), Outcome.panic_bind]
  simp only [indexedBinary.demote, demote_loop1_succ, if_pos (show 2 * k ≤ g.n by omega),
    if_pos (show 2 * k < g.n by omega), hc, Outcome.panic_bind]

theorem containsIndex_true {h : IBinary K V} {i : Int} (e : h.containsIndex i = .ok true) :
    ∃ m : Nat, i = (m : Int) ∧ m < h.kvs.size := by
  simp only [IBinary.containsIndex] at e
  split at e
  · exact ⟨i.toNat, by omega, by omega⟩
  · cases e

/-- what `ChangeKey` / `DeleteIndex` do with a position read from `pos`: the hand Model stops (`panic`) at a negative
one, the Go code goes on — `promote` does nothing, `demote` / `swap` then index `heap` negatively and panic -/
theorem posOf_cases (h : IBinary K V) (m : Nat) :
    (∃ p : Int, h.pos[m]? = some p ∧ p < 0 ∧ h.posOf m = .panic) ∨
    (∃ q : Nat, h.pos[m]? = some (q : Int) ∧ h.posOf m = .ok q) ∨ (h.pos[m]? = none ∧ h.posOf m = .panic) := by
  unfold IBinary.posOf
  cases e : h.pos[m]? with
  | none => exact .inr (.inr ⟨rfl, rfl⟩)
  | some p =>
    by_cases hp : 0 ≤ p
    · refine .inr (.inl ⟨p.toNat, by rw [Int.toNat_of_nonneg hp], by simp [hp]⟩)
    · exact .inl ⟨p, rfl, by omega, by simp [hp]⟩

theorem ChangeKey_le (h : IBinary K V) (i : Int) (key : K) (F : Nat) (hc : Covers F h) :
    (h.changeKey cmp i key).map (fun r => (ofM cmp eq r.1, r.2)) ≼
      indexedBinary.ChangeKey F (ofM cmp eq h) i key := by
  obtain ⟨hF, hp⟩ := hc
  obtain ⟨F', rfl⟩ : ∃ F', F = F' + 1 := ⟨F - 1, by omega⟩
  rw [IBinary.changeKey_eq]
  simp only [indexedBinary.ChangeKey, ContainsIndex_eq, Outcome.map_bind, Outcome.pure_eq]
  refine bind_mono fun b hb => ?_
  cases b with
  | false => exact le_refl _
  | true =>
    obtain ⟨m, rfl, hm⟩ := containsIndex_true hb
    simp only [Bool.not_true, Bool.false_eq_true, if_false, Int.toNat_natCast, ofM, idx_eq_at?, uncells_get?,
      Outcome.map_bind]
    rcases ek : h.kvs[m]? with _ | _ | e
    · exact le_refl _
    · exact le_refl _
    · have hkv : (some ({ (unpair e) with Key := key } : KeyValue K V)) = some (unpair (key, e.2)) := rfl
      simp only [Option.map_some, at?_some, Outcome.ok_bind, deref_some, Go.setIdx_natCast, uncells_size, hm, if_true,
        hkv, uncells_set_some]
      generalize eh1 : IBinary.setKeyRaw h m key e.2 = h1
      have eg1 : (⟨cmp, eq, (h.n : Int), ints h.heap, h.pos,
          uncells (h.kvs.setIfInBounds m (some (key, e.2)))⟩ : indexedBinary K V) = ofM cmp eq h1 := by
        subst eh1; rfl
      have ep1 : h1.pos = h.pos := by subst eh1; rfl
      have en1 : h1.n = h.n := by subst eh1; rfl
      rw [eg1, ← ep1]
      rcases posOf_cases h1 m with ⟨p, e1, hneg, e2⟩ | ⟨q, e1, e2⟩ | ⟨e1, e2⟩
      · -- negative position: the hand Model stops; the Go code panics in demote
        simp [e2, ofM_pos, e1, promote_small _ p (by omega), demote_neg (ofM cmp eq h1) p hneg (by simp [ofM])]
      · simp only [e2, e1, at?_some, Outcome.ok_bind]
        refine (promote_le cmp eq (hp m q (ep1 ▸ e1)) h1 q).bind_of_map fun h2 e3 => ?_
        have en2 : h2.n = h.n := by rw [promote_n cmp _ _ _ _ e3, en1]
        rw [ofM_pos]
        rcases posOf_cases h2 m with ⟨p2, e4, hneg, e5⟩ | ⟨q2, e4, e5⟩ | ⟨e4, e5⟩
        · simp [e5, e4, demote_neg (ofM cmp eq h2) p2 hneg (by simp [ofM])]
        · simp only [e5, e4, at?_some, Outcome.ok_bind]
          exact (demote_le cmp eq (by omega) h2 q2).bind_of_map fun h3 _ => by simp [ofM]
        · simp [e5, e4]
      · simp [e2, e1]

/-- `x ≼ₚ y`: the hand Model ran out of fuel or stopped with `panic`, or both agree.  Not an `Outcome.Sim R`: `Sim`
admits a `panic` of the hand Model only against a `panic` of the generated definition. -/
def leP {α : Type} (x y : Outcome α) : Prop := x = .diverge ∨ x = .panic ∨ x = y
scoped infix:50 " ≼ₚ " => leP

theorem leP_of_le {α : Type} {x y : Outcome α} (h : x ≼ y) : x ≼ₚ y := by
  rcases h with h | h
  · exact .inl h
  · exact .inr (.inr h)
@[simp] theorem panic_leP {α : Type} (y : Outcome α) : (.panic : Outcome α) ≼ₚ y := .inr (.inl rfl)
@[simp] theorem diverge_leP {α : Type} (y : Outcome α) : (.diverge : Outcome α) ≼ₚ y := .inl rfl
@[simp] theorem leP_refl {α : Type} (y : Outcome α) : y ≼ₚ y := .inr (.inr rfl)
theorem leP.ok {α : Type} {x y : Outcome α} {a : α} (h : x ≼ₚ y) (hx : x = .ok a) : y = .ok a := by
  subst hx; rcases h with h | h | h <;> simp_all

theorem map_leP_bind' {α β γ : Type} {x : Outcome α} {y : Outcome β} {f : α → β} {g : α → Outcome γ}
    {g' : β → Outcome γ} (h : x.map f ≼ y) (hg : ∀ a, x = .ok a → g a ≼ₚ g' (f a)) :
    (x >>= g) ≼ₚ (y >>= g') := by
  cases x with
  | ok a =>
    have : y = .ok (f a) := by simpa using h
    subst this
    simpa using hg a rfl
  | panic => exact panic_leP _
  | diverge => exact diverge_leP _

theorem bind_leP' {β γ : Type} {x : Outcome β} {f f' : β → Outcome γ}
    (hf : ∀ a, x = .ok a → f a ≼ₚ f' a) : (x >>= f) ≼ₚ (x >>= f') := by
  cases x with
  | ok a => simpa using hf a rfl
  | panic => exact panic_leP _
  | diverge => exact diverge_leP _

/-- `h.n--` on both sides -/
theorem ofM_decN {h : IBinary K V} (h0 : h.n ≠ 0) :
    ({ ofM cmp eq h with n := (ofM cmp eq h).n - 1 } : indexedBinary K V) = ofM cmp eq (IBinary.decN h) := by
  have : ((h.n : Int) - 1) = ((h.n - 1 : Nat) : Int) := by omega
  simp only [ofM, IBinary.decN, this]

/-- the tail shared by `Delete` and `DeleteIndex`: `h.pos[i] = -1; h.kvs[i] = nil; return h, r` -/
theorem clearIndex_ret {ρ : Type} (h : IBinary K V) (i : Nat) (r : ρ) :
    (Go.setIdx (ofM cmp eq h).pos (i : Int) (-1) >>= fun p => Go.setIdx (ofM cmp eq h).kvs (i : Int) none >>= fun k =>
        .ok ((⟨(ofM cmp eq h).cmpKey, (ofM cmp eq h).eqVal, (ofM cmp eq h).n, (ofM cmp eq h).heap, p, k⟩ :
          indexedBinary K V), r)) = (h.clearIndex i >>= fun h' => .ok (ofM cmp eq h', r)) := by
  simp only [IBinary.clearIndex, ofM, Go.setIdx_natCast, uncells_size]
  by_cases c1 : i < h.pos.size <;> by_cases c2 : i < h.kvs.size <;> simp [c1, c2, uncells_set_none]

theorem at?_bind_leP {α β : Type} {o : Option α} {f : α → Outcome β} {y : Outcome β}
    (h : ∀ a, o = some a → f a ≼ₚ y) : (at? o >>= f) ≼ₚ y := by
  cases o with
  | none => exact panic_leP _
  | some a => exact h a rfl

/-- Go's `(int, K, V, bool)` result of `Peek` / `Delete` as the Spec's -/
def ikvOpt (r : Int × K × V × Bool) : Option (Int × K × V) := if r.2.2.2 then some (r.1, r.2.1, r.2.2.1) else none
/-- Go's `(K, V, bool)` result of `PeekIndex` / `DeleteIndex` as the Spec's -/
def kvOpt (r : K × V × Bool) : Option (K × V) := if r.2.2 then some (r.1, r.2.1) else none

theorem Delete_le (h : IBinary K V) (F : Nat) (hc : Covers F h) :
    (h.delete cmp).map (fun r => (ofM cmp eq r.1, r.2)) ≼ₚ
      (indexedBinary.Delete F (ofM cmp eq h)).map (fun r => (r.1, ikvOpt r.2)) := by
  have hF := hc.1
  rw [IBinary.delete_eq]
  simp only [indexedBinary.Delete, ofM_n]
  by_cases h0 : h.n = 0
  · simp [h0, ikvOpt]
  · simp only [Go.natCast_beq_zero, beq_iff_eq, h0, if_false, Outcome.pure_eq, Outcome.map_bind]
    have i1 : Go.idx (ints h.heap) 1 = at? (ints h.heap)[1]? := idx_eq_at? (ints h.heap) 1
    have s1 : indexedBinary.swap (ofM cmp eq h) 1 (h.n : Int) = (h.swap 1 h.n).map (ofM cmp eq) := swap_eq cmp eq h 1 h.n
    rw [ofM_heap, i1, ofM_kvs, ints_get?]
    refine at?_bind_leP fun i hi => ?_
    refine at?_bind_leP fun c hc => ?_
    refine at?_bind_leP fun e he => ?_
    subst he
    simp only [hi, hc, Option.map_some, at?_some, Outcome.ok_bind, Int.ofNat_eq_natCast, idx_eq_at?, uncells_get?, s1]
    refine map_leP_bind' (Outcome.le_refl _) fun h1 es => ?_
    rw [ofM_decN cmp eq (by rw [swap_n es]; exact h0)]
    have n1 : (IBinary.decN h1).n = h.n - 1 := congrArg (· - 1) (swap_n es)
    refine map_leP_bind' (demote_le cmp eq (by omega) _ 1) fun h3 _ => ?_
    simp only [deref_some, Outcome.ok_bind, Outcome.map_ok, clearIndex_ret]
    exact leP_refl _

theorem DeleteIndex_le (h : IBinary K V) (i : Int) (F : Nat) (hc : Covers F h) :
    (h.deleteIndex cmp i).map (fun r => (ofM cmp eq r.1, r.2)) ≼ₚ
      (indexedBinary.DeleteIndex F (ofM cmp eq h) i).map (fun r => (r.1, kvOpt r.2)) := by
  obtain ⟨hF, hp⟩ := hc
  rw [IBinary.deleteIndex_eq]
  simp only [indexedBinary.DeleteIndex, ContainsIndex_eq, Outcome.map_bind, Outcome.pure_eq]
  refine bind_leP' fun b hb => ?_
  cases b with
  | false => simp [kvOpt]
  | true =>
    obtain ⟨m, rfl, hm⟩ := containsIndex_true hb
    simp only [Bool.not_true, Bool.false_eq_true, if_false, Int.toNat_natCast, ofM_pos, ofM_kvs, ofM_n, idx_eq_at?,
      uncells_get?]
    rcases posOf_cases h m with ⟨p, e1, hneg, e2⟩ | ⟨q, e1, e2⟩ | ⟨e1, e2⟩
    · rw [e2]; exact panic_leP _
    · simp only [e2, e1, at?_some, Outcome.ok_bind, Outcome.map_bind]
      refine at?_bind_leP fun c hc => ?_
      refine at?_bind_leP fun e he => ?_
      subst he
      simp only [hc, Option.map_some, at?_some, Outcome.ok_bind, swap_eq, Outcome.map_bind, Outcome.map_ite,
        Outcome.map_panic]
      refine map_leP_bind' (Outcome.le_refl _) fun h1 es => ?_
      have n1 : h1.n = h.n := swap_n es
      by_cases h0 : h1.n = 0
      · rw [if_pos h0]; exact panic_leP _
      · rw [if_neg h0, ofM_decN cmp eq h0]
        refine map_leP_bind' (promote_le cmp eq (hp m q e1) _ q) fun h3 e3 => ?_
        have n3 : h3.n = h1.n - 1 := promote_n cmp _ _ _ _ e3
        refine map_leP_bind' (demote_le cmp eq (by omega) h3 q) fun h4 _ => ?_
        simp only [deref_some, Outcome.ok_bind, Outcome.map_ok, clearIndex_ret]
        exact leP_refl _
    · rw [e2]; exact panic_leP _

theorem Peek_eq (h : IBinary K V) :
    (indexedBinary.Peek (ofM cmp eq h)).map ikvOpt = h.peek := by
  have i1 : Go.idx (ints h.heap) 1 = at? (ints h.heap)[1]? := idx_eq_at? (ints h.heap) 1
  simp only [indexedBinary.Peek, IBinary.peek, ofM_n, ofM_heap, i1, ofM_kvs, ints_get?]
  by_cases h0 : h.n = 0
  · simp [h0, ikvOpt]
  · simp only [Go.natCast_beq_zero, beq_iff_eq, h0, if_false]
    cases h.heap[1]? with
    | none => rfl
    | some i =>
      simp only [Option.map_some, at?_some, Outcome.ok_bind, Int.ofNat_eq_natCast, idx_eq_at?, uncells_get?,
        Outcome.pure_eq]
      rcases h.kvs[i]? with _ | _ | ⟨k, v⟩ <;> rfl

theorem PeekIndex_eq (h : IBinary K V) (i : Int) :
    (indexedBinary.PeekIndex (ofM cmp eq h) i).map kvOpt = h.peekIndex i := by
  simp only [indexedBinary.PeekIndex, IBinary.peekIndex, ContainsIndex_eq, Outcome.map_bind,
    Outcome.pure_eq]
  cases hb : h.containsIndex i with
  | ok b =>
    cases b with
    | false => simp [kvOpt]
    | true =>
      obtain ⟨m, rfl, hm⟩ := containsIndex_true hb
      simp only [Outcome.ok_bind, Bool.not_true, Bool.false_eq_true, if_false, ofM_kvs, idx_eq_at?, uncells_get?,
        Int.toNat_natCast]
      rcases h.kvs[m]? with _ | _ | ⟨k, v⟩ <;> rfl
  | panic => rfl
  | diverge => rfl

/-- a scan `for i := range kvs { if kvs[i] != nil && p(kvs[i]) { return true } }; return false`, for any loop function
`L` that unfolds the way the translator writes such a loop; `f` is the test as the hand Model writes it -/
theorem scan_loop (kvs : Array (Option (K × V))) (p : KeyValue K V → Bool) (f : Option (K × V) → Bool)
    (f0 : f none = false) (f1 : ∀ e, f (some e) = p (unpair e))
    (L : Nat → Int → Outcome (Go.Ctl Unit Bool)) (L0 : ∀ i, L 0 i = .ok (.next ()))
    (L1 : ∀ k i, L (k + 1) i = (do
      let t1 ← Go.idx (uncells kvs) i
      let t4 ← if t1.isSome then do
          let t2 ← Go.idx (uncells kvs) i
          let t3 ← Go.deref t2
          pure (p t3)
        else pure false
      if t4 then return (.ret true)
      L k (i + 1))) :
    (L kvs.size 0).map (Go.found false) = .ok (kvs.toList.any f) := by
  have hf : f = fun o => (o.map unpair).any p := funext fun o => by cases o <;> simp [f0, f1]
  rw [← uncells_size kvs, Go.any_scan (uncells kvs) (·.any p) L L0, hf, uncells, Array.toList_map, List.any_map]
  · rfl
  · intro k i
    rw [L1]
    refine bind_congr_ok fun t1 h1 => ?_
    cases t1 with
    | none => rfl
    | some e =>
      simp only [h1, Option.isSome_some, if_true, Outcome.ok_bind, deref_some, Outcome.pure_eq, Option.any_some]

theorem ContainsKey_eq (h : IBinary K V) (key : K) :
    indexedBinary.ContainsKey (ofM cmp eq h) key = .ok (h.containsKey cmp key) := by
  unfold indexedBinary.ContainsKey
  rw [ofM_kvs, uncells_size]
  exact (Go.ret_or _ false _ (fun _ => rfl) (fun _ => rfl)).trans
    (scan_loop h.kvs (fun e => cmp e.Key key == 0) _ rfl (fun _ => rfl)
      (indexedBinary.ContainsKey.loop1 (ofM cmp eq h) key) (fun _ => rfl) (fun _ _ => rfl))

theorem ContainsValue_eq (h : IBinary K V) (val : V) :
    indexedBinary.ContainsValue (ofM cmp eq h) val = .ok (h.containsValue eq val) := by
  unfold indexedBinary.ContainsValue
  rw [ofM_kvs, uncells_size]
  exact (Go.ret_or _ false _ (fun _ => rfl) (fun _ => rfl)).trans
    (scan_loop h.kvs (fun e => eq e.Val val) _ rfl (fun _ => rfl)
      (indexedBinary.ContainsValue.loop1 (ofM cmp eq h) val) (fun _ => rfl) (fun _ _ => rfl))

/-- `for i := range pos { pos[i] = -1 }` over a whole fresh array -/
theorem New_loop_all (n : Nat) :
    NewIndexedBinary.loop1 (K := K) (V := V) n 0 (Array.replicate n 0) = .ok (Array.replicate n (-1)) :=
  Go.fill_loop_const 0 (-1) _ (fun _ _ => rfl) (fun _ _ _ => rfl) n

theorem New_eq (cap : Nat) :
    NewIndexedBinary (cap : Int) cmp eq = .ok (ofM cmp eq (IBinary.new cap)) := by
  have m1 : Go.make (0 : Int) ((cap : Int) + 1) = .ok (Array.replicate (cap + 1) 0) := by
    have := Go.make_nat (0 : Int) (cap + 1); simpa using this
  simp only [NewIndexedBinary, Go.make_nat, Outcome.ok_bind, Array.size_replicate, New_loop_all, m1, Outcome.pure_eq]
  simp [ofM, IBinary.new, ints, uncells]

theorem New_neg {cap : Int} (h : cap < 0) (cmp : K → K → Int) (eq : V → V → Bool) :
    NewIndexedBinary cap cmp eq = .panic := by
  simp only [NewIndexedBinary, Go.make_neg (0 : Int) h, Outcome.panic_bind]

theorem DeleteAll_loop : ∀ (k : Nat) (j : Int) (g : indexedBinary K V),
    indexedBinary.DeleteAll.loop1 k j g =
      (NewIndexedBinary.loop1 (K := K) (V := V) k j g.pos >>= fun p => .ok { g with pos := p }) := by
  intro k
  induction k with
  | zero => intro j g; rfl
  | succ k ih =>
    intro j g
    simp only [indexedBinary.DeleteAll.loop1, NewIndexedBinary.loop1, Outcome.bind_assoc]
    cases Go.setIdx g.pos j (-1) with
    | ok p => exact ih (j + 1) { g with pos := p }
    | panic => rfl
    | diverge => rfl

theorem DeleteAll_eq (h : IBinary K V) :
    indexedBinary.DeleteAll (ofM cmp eq h) = .ok (ofM cmp eq h.deleteAll) := by
  simp only [indexedBinary.DeleteAll, ofM, Go.make_nat, Outcome.ok_bind, ints_size, uncells_size, Array.size_replicate,
    DeleteAll_loop, New_loop_all]
  simp [IBinary.deleteAll, ints, uncells]

end

/-- the twelve calls of `heap.IndexedHeap` on the generated structure, answered in the Spec's vocabulary (the Go zero
values returned next to `false` are dropped, as in `Res`) -/
def genStep (F : Nat) (g : indexedBinary K V) : Op K V → Outcome (indexedBinary K V × Res K V)
  | .insert i k v => (indexedBinary.Insert F g i k v).map fun r => (r.1, .bool r.2)
  | .changeKey i k => (indexedBinary.ChangeKey F g i k).map fun r => (r.1, .bool r.2)
  | .delete => (indexedBinary.Delete F g).map fun r => (r.1, .ikv (ikvOpt r.2))
  | .deleteIndex i => (indexedBinary.DeleteIndex F g i).map fun r => (r.1, .kv (kvOpt r.2))
  | .deleteAll => (indexedBinary.DeleteAll g).map fun g' => (g', .unit)
  | .peek => (indexedBinary.Peek g).map fun r => (g, .ikv (ikvOpt r))
  | .peekIndex i => (indexedBinary.PeekIndex g i).map fun r => (g, .kv (kvOpt r))
  | .containsIndex i => (indexedBinary.ContainsIndex g i).map fun b => (g, .bool b)
  | .containsKey k => (indexedBinary.ContainsKey g k).map fun b => (g, .bool b)
  | .containsValue v => (indexedBinary.ContainsValue g v).map fun b => (g, .bool b)
  | .size => .ok (g, .int (indexedBinary.Size g))
  | .isEmpty => .ok (g, .bool (indexedBinary.IsEmpty g))

theorem leP_map {α β γ δ : Type} {x : Outcome α} {y : Outcome β} {f : α → γ} {g : β → γ} (p : γ → δ)
    (h : x.map f ≼ₚ y.map g) : x.map (fun a => p (f a)) ≼ₚ y.map (fun b => p (g b)) := by
  cases x <;> cases y <;> simp_all [leP]

theorem leP_map' {α β δ : Type} {x : Outcome α} {y : Outcome β} {f : α → β} (p : β → δ)
    (h : x.map f ≼ₚ y) : x.map (fun a => p (f a)) ≼ₚ y.map p := by
  cases x <;> cases y <;> simp_all [leP]

theorem step_le (cmp : K → K → Int) (eq : V → V → Bool) (F : Nat) (h : IBinary K V) (hc : Covers F h) (op : Op K V) :
    (IBinary.step cmp eq h op).map (fun r => (ofM cmp eq r.1, r.2)) ≼ₚ genStep F (ofM cmp eq h) op := by
  cases op with
  | insert i k v =>
    have := leP_of_le (Insert_le cmp eq h i k v F hc)
    simp only [IBinary.step, genStep, map_map]
    exact leP_map' (fun r => (r.1, Res.bool r.2)) this
  | changeKey i k =>
    have := leP_of_le (ChangeKey_le cmp eq h i k F hc)
    simp only [IBinary.step, genStep, map_map]
    exact leP_map' (fun r => (r.1, Res.bool r.2)) this
  | delete =>
    have := Delete_le cmp eq h F hc
    simp only [IBinary.step, genStep, map_map]
    exact leP_map (fun r => (r.1, Res.ikv r.2)) this
  | deleteIndex i =>
    have := DeleteIndex_le cmp eq h i F hc
    simp only [IBinary.step, genStep, map_map]
    exact leP_map (fun r => (r.1, Res.kv r.2)) this
  | deleteAll => simp [IBinary.step, genStep, DeleteAll_eq]
  | peek =>
    simp only [IBinary.step, genStep, map_map, ← Peek_eq cmp eq h]
    exact leP_refl _
  | peekIndex i =>
    simp only [IBinary.step, genStep, map_map, ← PeekIndex_eq cmp eq h i]
    exact leP_refl _
  | containsIndex i => simp [IBinary.step, genStep, map_map, ContainsIndex_eq]
  | containsKey k => simp [IBinary.step, genStep, ContainsKey_eq]
  | containsValue v => simp [IBinary.step, genStep, ContainsValue_eq]
  | size => simp [IBinary.step, genStep, indexedBinary.Size, ofM]
  | isEmpty =>
    simp only [IBinary.step, genStep, indexedBinary.IsEmpty, ofM, Outcome.map_ok]
    rw [Go.natCast_beq_zero]
    exact leP_refl _

theorem covers_of_inv {cmp : K → K → Int} {cap : Nat} {h : IBinary K V} (inv : IBinary.Inv cmp cap h) (F : Nat)
    (hF : cap + 2 ≤ F) : Covers F h := by
  refine ⟨by have := inv.wf.nle; omega, fun j q e => ?_⟩
  by_cases hj : j < cap
  · rcases inv.wf.bwd j hj with ⟨e1, -⟩ | ⟨k, -, hk, e1, -⟩
    · rw [e1] at e
      have : (-1 : Int) = (q : Int) := by simp at e
      omega
    · rw [e1] at e
      have : (k : Int) = q := by simpa using e
      have := inv.wf.nle
      omega
  · have : h.pos[j]? = none := Array.getElem?_eq_none (by have := inv.wf.psize; omega)
    rw [this] at e; cases e

def genRun (F : Nat) (cmp : K → K → Int) (eq : V → V → Bool) (cap : Nat) (ops : List (Op K V)) :
    List (Outcome (Res K V)) :=
  match NewIndexedBinary (cap : Int) cmp eq with
  | .ok g => runWith (genStep F) g ops
  | .panic => [.panic]
  | .diverge => [.diverge]

theorem runWith_eq (hc : LawfulCmp cmp) (eq : V → V → Bool) {cap : Nat} (F : Nat) (hF : cap + 2 ≤ F) :
    ∀ (ops : List (Op K V)) (h : IBinary K V), IBinary.Inv cmp cap h →
      runWith (genStep F) (ofM cmp eq h) ops = runWith (IBinary.step cmp eq) h ops := by
  intro ops
  induction ops with
  | nil => intro h _; rfl
  | cons op ops ih =>
    intro h inv
    obtain ⟨h', r, hs, inv', -⟩ := IBinary.step_sim hc eq h op inv
    have := (step_le cmp eq F h (covers_of_inv inv F hF) op).ok (a := (ofM cmp eq h', r)) (by simp [hs])
    simp only [runWith, hs, this]
    rw [ih h' inv']

theorem genRun_eq (hc : LawfulCmp cmp) (eq : V → V → Bool) (cap : Nat) (F : Nat) (hF : cap + 2 ≤ F)
    (ops : List (Op K V)) : genRun F cmp eq cap ops = IBinary.run cmp eq cap ops := by
  simp only [genRun, New_eq, IBinary.run]
  exact runWith_eq hc eq F hF ops _ (IBinary.inv_new cmp cap)

end AlgoVerif.C05.Gen
