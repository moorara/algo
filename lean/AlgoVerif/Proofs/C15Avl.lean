import AlgoVerif.Proofs.C01Avl
/-!
# C15: AVL balance and cached heights (no assumption on the comparator)
-/
namespace AlgoVerif.C01
open Tree

variable {K V : Type} {cmp : K → K → Int}

def Balanced : Tree K V → Prop
  | .nil => True
  | .node l _ _ _ _ _ r =>
    l.realHeight ≤ r.realHeight + 1 ∧ r.realHeight ≤ l.realHeight + 1 ∧ Balanced l ∧ Balanced r

def HeightOK : Tree K V → Prop
  | .nil => True
  | .node l k v s h c r => h = (Tree.node l k v s h c r).realHeight ∧ HeightOK l ∧ HeightOK r

theorem AVL.ht_eq : ∀ {t : Tree K V}, AVL t → t.ht = t.realHeight
  | .nil, _ => rfl
  | .node l k v s h c r, ha => by
    simp only [AVL_node] at ha
    simp only [ht_node, realHeight, ha.1, AVL.ht_eq ha.2.2.2.1, AVL.ht_eq ha.2.2.2.2]

theorem AVL.balanced : ∀ {t : Tree K V}, AVL t → Balanced t ∧ HeightOK t
  | .nil, _ => ⟨trivial, trivial⟩
  | .node l k v s h c r, ha => by
    have hh := AVL.ht_eq ha
    simp only [AVL_node] at ha
    obtain ⟨h1, h2, h3, hl, hr⟩ := ha
    have el := AVL.ht_eq hl
    have er := AVL.ht_eq hr
    obtain ⟨bl, ol⟩ := AVL.balanced hl
    obtain ⟨br, or⟩ := AVL.balanced hr
    refine ⟨⟨by omega, by omega, bl, br⟩, ⟨?_, ol, or⟩⟩
    simpa using hh

theorem avlBalance_avl (l : Tree K V) (k : K) (v : V) (c : Bool) (r : Tree K V)
    (hl : AVL l) (hr : AVL r) (h1 : l.ht ≤ r.ht + 2) (h2 : r.ht ≤ l.ht + 2) :
    ∃ n', avlBalance (avlFix l k v c r) = .ok n' ∧ AVL n' ∧ HtAfter l.ht r.ht n'.ht := by
  obtain ⟨n', e, -, -, h⟩ := avlBalance_ok l k v c r
  exact ⟨n', e, h hl hr h1 h2⟩

theorem avlPut_avl (key : K) (val : V) : ∀ {t : Tree K V}, AVL t →
    ∃ t', avlPut cmp t key val = .ok t' ∧ AVL t' ∧ (t'.ht = t.ht ∨ t'.ht = t.ht + 1)
  | .nil, _ => ⟨_, rfl, by simp, by simp⟩
  | .node l k v s hh c r, ha => by
    obtain ⟨h0, h1, h2, hl, hr⟩ := (AVL_node l k v s hh c r).mp ha
    simp only [avlPut, ht_node]
    split
    · obtain ⟨l', e1, e2, e3⟩ := avlPut_avl key val hl
      obtain ⟨n', f1, f2, f3⟩ := avlBalance_avl l' k v c r e2 hr (by omega) (by omega)
      rw [e1, Outcome.ok_bind, f1]
      exact ⟨n', rfl, f2, f3.grow h0 h1 h2 e3⟩
    · split
      · obtain ⟨r', e1, e2, e3⟩ := avlPut_avl key val hr
        obtain ⟨n', f1, f2, f3⟩ := avlBalance_avl l k v c r' hl e2 (by omega) (by omega)
        rw [e1, Outcome.ok_bind, f1]
        exact ⟨n', rfl, f2, f3.symm.grow (Nat.max_comm _ _ ▸ h0) h2 h1 e3⟩
      · exact ⟨_, rfl, ha, Or.inl rfl⟩

theorem avlDeleteMin_avl : ∀ (l : Tree K V) (k : K) (v : V) (s hh : Nat) (c : Bool) (r : Tree K V),
    AVL (.node l k v s hh c r) →
    ∃ t' m, avlDeleteMin (.node l k v s hh c r) = .ok (t', m) ∧ AVL t' ∧ (t'.ht = hh ∨ t'.ht + 1 = hh)
  | .nil, k, v, s, hh, c, r, ha => by
    simp only [AVL_node, ht_nil] at ha
    exact ⟨r, (k, v), rfl, ha.2.2.2.2, by omega⟩
  | .node ll lk lv ls lh lc lr, k, v, s, hh, c, r, ha => by
    obtain ⟨h0, h1, h2, hl, hr⟩ := (AVL_node _ k v s hh c r).mp ha
    obtain ⟨l', m, e1, e2, e3⟩ := avlDeleteMin_avl ll lk lv ls lh lc lr hl
    rw [ht_node] at h0 h1 h2
    obtain ⟨n', f1, f2, f3⟩ := avlBalance_avl l' k v c r e2 hr (by omega) (by omega)
    rw [avlDeleteMin]
    simp only [e1, Outcome.ok_bind, f1]
    exact ⟨n', m, rfl, f2, f3.shrink h0 h1 h2 e3⟩

theorem avlDeleteMax_avl : ∀ (r : Tree K V) (l : Tree K V) (k : K) (v : V) (s hh : Nat) (c : Bool),
    AVL (.node l k v s hh c r) →
    ∃ t' m, avlDeleteMax (.node l k v s hh c r) = .ok (t', m) ∧ AVL t' ∧ (t'.ht = hh ∨ t'.ht + 1 = hh)
  | .nil, l, k, v, s, hh, c, ha => by
    simp only [AVL_node, ht_nil] at ha
    exact ⟨l, (k, v), rfl, ha.2.2.2.1, by omega⟩
  | .node rl rk rv rs rh rc rr, l, k, v, s, hh, c, ha => by
    obtain ⟨h0, h1, h2, hl, hr⟩ := (AVL_node l k v s hh c _).mp ha
    obtain ⟨r', m, e1, e2, e3⟩ := avlDeleteMax_avl rr rl rk rv rs rh rc hr
    rw [ht_node] at h0 h1 h2
    obtain ⟨n', f1, f2, f3⟩ := avlBalance_avl l k v c r' hl e2 (by omega) (by omega)
    rw [avlDeleteMax]
    simp only [e1, Outcome.ok_bind, f1]
    exact ⟨n', m, rfl, f2, f3.symm.shrink (Nat.max_comm _ _ ▸ h0) h2 h1 e3⟩

theorem avlDelete_avl (key : K) : ∀ {t : Tree K V}, AVL t →
    ∃ t' res, avlDelete cmp t key = .ok (t', res) ∧ AVL t' ∧ (t'.ht = t.ht ∨ t'.ht + 1 = t.ht)
  | .nil, _ => ⟨.nil, none, rfl, trivial, Or.inl rfl⟩
  | .node l k v s hh c r, ha => by
    obtain ⟨h0, h1, h2, hl, hr⟩ := (AVL_node l k v s hh c r).mp ha
    simp only [avlDelete, ht_node]
    split
    · obtain ⟨l', res, e1, e2, e3⟩ := avlDelete_avl key hl
      obtain ⟨n', f1, f2, f3⟩ := avlBalance_avl l' k v c r e2 hr (by omega) (by omega)
      rw [e1, Outcome.ok_bind, f1]
      exact ⟨n', res, rfl, f2, f3.shrink h0 h1 h2 e3⟩
    · split
      · obtain ⟨r', res, e1, e2, e3⟩ := avlDelete_avl key hr
        obtain ⟨n', f1, f2, f3⟩ := avlBalance_avl l k v c r' hl e2 (by omega) (by omega)
        rw [e1, Outcome.ok_bind, f1]
        exact ⟨n', res, rfl, f2, f3.symm.shrink (Nat.max_comm _ _ ▸ h0) h2 h1 e3⟩
      · cases l with
        | nil => exact ⟨r, some v, rfl, hr, by rw [ht_nil] at h0 h2; omega⟩
        | node ll lk lv ls lh lc lr =>
          cases r with
          | nil => exact ⟨_, some v, rfl, hl, by rw [ht_nil] at h0 h1; omega⟩
          | node rl rk rv rs rh rc rr =>
            obtain ⟨r', m, e1, e2, e3⟩ := avlDeleteMin_avl rl rk rv rs rh rc rr hr
            rw [ht_node (l := rl)] at h0 h1 h2
            obtain ⟨n', f1, f2, f3⟩ :=
              avlBalance_avl (.node ll lk lv ls lh lc lr) (minOf rl rk rv).1 (minOf rl rk rv).2 false r' hl e2
                (by omega) (by omega)
            simp only [e1, Outcome.ok_bind, f1]
            exact ⟨n', some v, rfl, f2, f3.symm.shrink (Nat.max_comm _ _ ▸ h0) h2 h1 e3⟩

end AlgoVerif.C01
