import AlgoVerif.Proofs.C14Topo
import AlgoVerif.Proofs.C14Comp
import AlgoVerif.Proofs.C14Build
/-!
# C14 proofs — Kosaraju's strongly connected components

Phase 1 is `Orders(DFS)` on the reverse graph `h` (`orders_dfs_spec`, `Proofs/C14Topo.lean`): the post-order `P` lists every
vertex once and every entry `r` carries a record `Rec h P r`, `P = Pe ++ blk ++ r :: rest`.
Phase 2 (component loop on `g` in the order `P.reverse`): the visited set stays closed under the arcs of `g`;
the first unvisited vertex `r` of the order has all of `rest` visited, so by the record every unvisited
vertex that `r` reaches in `g` lies in `blk`, hence reaches `r` back: the new class is the strong
component of `r`.
-/
namespace AlgoVerif.C14

theorem compLoop_scc {g h : Graph} (hg : g.WF) (hh : h.WF) (hrev : ∀ a b, h.HasArc a b ↔ g.HasArc b a)
    (hn : h.n = g.n) (P : List Nat) (hperm : IsPermOfRange g.n P) (hrec : ∀ r, r < g.n → Rec h P r) :
    ∃ st c, compLoop g P.reverse ⟨Array.replicate g.n false, Array.replicate g.n 0⟩ 0 = .ok (st, c) ∧
      SccInv g st.visited st.s c ∧ ∀ x ∈ P, Vis st.visited x := by
  have hrevR : ∀ {a b}, Reach h.HasArc a b → Reach g.HasArc b a := by
    intro a b hr
    have : Reach (fun p q => g.HasArc q p) a b := hr.mono (fun p q e => (hrev p q).1 e)
    exact Reach.reverse this
  have key := compLoop_classes hg P.reverse (fun v hv => (hperm.2 v).1 (List.mem_reverse.1 hv)) ?_
  · obtain ⟨st, c, h1, h2, h3⟩ := key
    exact ⟨st, c, h1, h2, fun x hx => h3 x (List.mem_reverse.2 hx)⟩
  · intro pre v vs vis0 vis1 hP hpre hold_closed hunv hstd
    have hvn : v < g.n := (hperm.2 v).1 (List.mem_reverse.1 (by rw [hP]; simp))
    have hnew_reach : ∀ x, Vis vis1 x → ¬ Vis vis0 x → Reach g.HasArc v x :=
      fun x hx hnx => (hstd.reach x hx hnx).of_white
    -- the record of v: everything after v in P is visited
    obtain ⟨Pe, blk, rest, hPd, hblk, hPe⟩ := hrec v hvn
    have hrest : ∀ a ∈ rest, Vis vis0 a := by
      intro a ha
      apply hpre
      have h1 : P.reverse = rest.reverse ++ v :: (blk.reverse ++ Pe.reverse) := by rw [hPd]; simp
      -- `pre` is the part of `P.reverse` before (the unique) `v`
      have hnd : P.reverse.Nodup := nodup_reverse hperm.1
      have h2 : pre ++ v :: vs = rest.reverse ++ v :: (blk.reverse ++ Pe.reverse) := by rw [← hP, h1]
      have hv1 : v ∉ pre := by
        rw [hP, List.nodup_append] at hnd
        intro hv'; exact hnd.2.2 v hv' v (by simp) rfl
      have hv2 : v ∉ rest.reverse := by
        rw [h1, List.nodup_append] at hnd
        intro hv'; exact hnd.2.2 v hv' v (by simp) rfl
      have := append_cons_inj_of_not_mem hv1 hv2 h2
      rw [this.1]; exact List.mem_reverse.2 ha
    -- the new vertices reach v back
    intro x hx hnx
    have hxv : Reach g.HasArc v x := hnew_reach x hx hnx
    have hxn : x < g.n := by rw [← hstd.size]; exact vis_lt hx
    have hxP : x ∈ P := (hperm.2 x).2 hxn
    rw [hPd] at hxP
    have hxh : Reach h.HasArc x v := Reach.reverse (hxv.mono (fun p q e => (hrev q p).2 e))
    rcases List.mem_append.1 hxP with hx1 | hx1
    · rcases List.mem_append.1 hx1 with hx2 | hx2
      · -- finished before v was entered: impossible
        exfalso
        rcases hPe x hx2 v hxh with hv' | ⟨a, ha1, ha2, ha3, hxa⟩
        · have hnd := hperm.1
          rw [hPd, List.append_assoc, List.nodup_append] at hnd
          exact hnd.2.2 v hv' v (by simp) rfl
        · have han : a < g.n := by
            rcases hxa with _ | ⟨_, e⟩
            · exact hxn
            · rw [← hn]; exact hh.arc_lt e
          have haP : a ∈ P := (hperm.2 a).2 han
          rw [hPd] at haP
          have har : a ∈ rest := by
            simpa only [List.mem_append, List.mem_cons, ha1, ha2, ha3, false_or] using haP
          exact hnx (hold_closed a x (hrest a har) (hrevR hxa))
      · exact hrevR (hblk x hx2)
    · rcases List.mem_cons.1 hx1 with rfl | hx2
      · exact .refl _
      · exact absurd (hrest x hx2) hnx

theorem scc_spec {g : Graph} (hg : g.WF) :
    ∃ cc, g.stronglyConnectedComponents = .ok cc ∧ cc.id.size = g.n ∧
      (∀ x, x < g.n → ∃ i, cc.id[x]? = some i ∧ i < cc.count) ∧
      (∀ i, i < cc.count → ∃ x, x < g.n ∧ cc.id[x]? = some i) ∧
      (∀ x y, x < g.n → y < g.n →
        (cc.id[x]? = cc.id[y]? ↔ Reach g.HasArc x y ∧ Reach g.HasArc y x)) := by
  obtain ⟨hh, hn, hrev⟩ := reverse_spec g hg
  obtain ⟨o, ho, hperm, hrec, _⟩ := orders_dfs_spec hh
  rw [hn] at hperm hrec
  obtain ⟨st, c, h1, h2, h3⟩ := compLoop_scc hg hh hrev hn o.postOrder.toList hperm hrec
  have hall : ∀ x, x < g.n → Vis st.visited x := fun x hx => h3 x ((hperm.2 x).2 hx)
  refine ⟨⟨c, st.s⟩, ?_, h2.idsize, ?_, ?_, ?_⟩
  · simp only [Graph.stronglyConnectedComponents, ho, components, Orders.reversePostOrder, h1]
  · intro x hx; exact h2.lt x (hall x hx)
  · intro i hi
    obtain ⟨x, hx, hxi⟩ := h2.used i hi
    exact ⟨x, by rw [← h2.size]; exact vis_lt hx, hxi⟩
  · intro x y hx hy; exact h2.part x y (hall x hx) (hall y hy)

end AlgoVerif.C14
