import AlgoVerif.Proofs.C06PT
/-!
# C06 — Patricia deletion on the unfolded tree (pure part)

The tree is the path `C ++ [s]` the deletion takes through it (along the bits of the key, or always left / right for
DeleteMin / DeleteMax), with the leaf to remove at its end: the leaf goes and what hangs off its parent `s` takes the place
of `s` (`plug C s.O`); the Patricia node of the removed leaf is replaced, where it occurs as an inner node, by the node of
`s` (`rename`).
-/
namespace AlgoVerif.C06
variable {V : Type}
open BitString (xbit Small)

namespace PT

def rename (a b : Nat) : PT V → PT V
  | leaf i k v => leaf i k v
  | inner i bp l r => inner (if i = a then b else i) bp (rename a b l) (rename a b r)

theorem rename_fork (a b : Nat) {d : Bool} {i bp : Nat} {P O : PT V} :
    rename a b (fork d i bp P O) = fork d (if i = a then b else i) bp (rename a b P) (rename a b O) := by
  cases d <;> rfl

theorem head?_ents_plug {C : List (Step V)} (hC : ∀ s ∈ C, s.d = false) (X : PT V) :
    (ents (plug C X)).head? = (ents X).head? := by
  induction C with
  | nil => rfl
  | cons c C ih =>
    rw [plug, hC c (List.mem_cons_self ..)]
    simp only [fork, ents, List.head?_append, ih fun s hs => hC s (List.mem_cons_of_mem _ hs)]
    cases he : ents X with
    | nil => exact absurd he (ents_ne_nil X)
    | cons x xs => rfl

theorem getLast?_ents_plug {C : List (Step V)} (hC : ∀ s ∈ C, s.d = true) (X : PT V) :
    (ents (plug C X)).getLast? = (ents X).getLast? := by
  induction C with
  | nil => rfl
  | cons c C ih =>
    rw [plug, hC c (List.mem_cons_self ..)]
    simp only [fork, ents, List.getLast?_append, ih fun s hs => hC s (List.mem_cons_of_mem _ hs)]
    cases he : (ents X).getLast? with
    | none => exact absurd (List.getLast?_eq_none_iff.mp he) (ents_ne_nil X)
    | some x => rfl

@[simp] theorem ents_rename (a b : Nat) (T : PT V) : ents (rename a b T) = ents T := by
  induction T with
  | leaf => rfl
  | inner i bp l r ihl ihr => simp [rename, ents, ihl, ihr]

@[simp] theorem keys_rename (a b : Nat) (T : PT V) : keys (rename a b T) = keys T := by simp [keys]

@[simp] theorem leafIdx_rename (a b : Nat) (T : PT V) : leafIdx (rename a b T) = leafIdx T := by
  induction T with
  | leaf => rfl
  | inner i bp l r ihl ihr => simp [rename, leafIdx, ihl, ihr]

theorem inners_rename (a b : Nat) (T : PT V) : inners (rename a b T) = (inners T).map (fun i => if i = a then b else i) := by
  induction T with
  | leaf => rfl
  | inner i bp l r ihl ihr => simp [rename, inners, ihl, ihr]

theorem rename_of_not_mem {a : Nat} (b : Nat) {T : PT V} (h : a ∉ inners T) : rename a b T = T := by
  induction T with
  | leaf => rfl
  | inner i bp l r ihl ihr =>
    simp only [inners, List.mem_cons, List.mem_append, not_or] at h
    have : ¬ i = a := fun e => h.1 e.symm
    simp [rename, this, ihl h.2.1, ihr h.2.2]

theorem crit_rename {a b : Nat} {T : PT V} (hc : Crit T) : Crit (rename a b T) := by
  induction T with
  | leaf => exact hc
  | inner i bp l r ihl ihr =>
    obtain ⟨h1, h2, h3, h4, hcl, hcr⟩ := hc
    exact ⟨h1, by rwa [keys_rename], by rwa [keys_rename], by rwa [keys_rename, keys_rename], ihl hcl, ihr hcr⟩

theorem mem_leafIdx_of_mem_inners {T : PT V} (hs : SelfBelow T) {x : Nat} (hx : x ∈ inners T) : x ∈ leafIdx T := by
  induction T with
  | leaf => simp [inners] at hx
  | inner i bp l r ihl ihr =>
    obtain ⟨hi, hl, hr⟩ := hs
    simp only [inners, List.mem_cons, List.mem_append] at hx
    simp only [leafIdx, List.mem_append] at hi ⊢
    rcases hx with rfl | hx | hx
    · exact hi
    · exact .inl (ihl hl hx)
    · exact .inr (ihr hr hx)

theorem rename_self (a : Nat) (T : PT V) : rename a a T = T := by
  induction T with
  | leaf => rfl
  | inner i bp l r ihl ihr =>
    simp only [rename, ihl, ihr]
    by_cases h : i = a <;> simp [h]

theorem map_rename_of_not_mem {a b : Nat} {l : List Nat} (h : a ∉ l) : l.map (fun i => if i = a then b else i) = l := by
  induction l with
  | nil => rfl
  | cons x xs ih =>
    simp only [List.mem_cons, not_or] at h
    have : ¬ x = a := fun e => h.1 e.symm
    simp [this, ih h.2]

theorem perm_map_rename {a b : Nat} {l : List Nat} (hm : a ∈ l) (hnd : l.Nodup) :
    (a :: l.map (fun i => if i = a then b else i)).Perm (b :: l) := by
  induction l with
  | nil => simp at hm
  | cons x xs ih =>
    obtain ⟨hx, hxs⟩ := List.nodup_cons.mp hnd
    by_cases hxa : x = a
    · subst hxa
      simp only [List.map_cons, if_true, map_rename_of_not_mem hx]
      exact List.Perm.swap _ _ _
    · have hm' : a ∈ xs := by
        rcases List.mem_cons.mp hm with h | h
        · exact absurd h.symm hxa
        · exact h
      simp only [List.map_cons, hxa, if_false]
      exact (List.Perm.swap _ _ _).trans ((List.Perm.cons _ (ih hm' hxs)).trans (List.Perm.swap _ _ _))

/-! The leaf to remove ends a path `C ++ [s]`: `s` is its parent (the "referrer"), what hangs off `s` takes the place of
`s`, so the contracted tree is `plug C s.O`. -/

theorem ents_unplug_perm (C : List (Step V)) (s : Step V) (X : PT V) :
    (ents X ++ ents (plug C s.O)).Perm (ents (plug (C ++ [s]) X)) := by
  refine ((ents_plug_perm C s.O).append_left _).trans (.trans ?_ (ents_plug_perm (C ++ [s]) X).symm)
  simp only [List.flatMap_append, List.flatMap_cons, List.flatMap_nil, List.append_nil]
  exact .append_left _ List.perm_append_comm

theorem leafIdx_unplug_perm (C : List (Step V)) (s : Step V) (X : PT V) :
    (leafIdx X ++ leafIdx (plug C s.O)).Perm (leafIdx (plug (C ++ [s]) X)) := by
  refine ((leafIdx_plug_perm C s.O).append_left _).trans (.trans ?_ (leafIdx_plug_perm (C ++ [s]) X).symm)
  simp only [List.flatMap_append, List.flatMap_cons, List.flatMap_nil, List.append_nil]
  exact .append_left _ List.perm_append_comm

theorem inners_unplug_perm (C : List (Step V)) (s : Step V) (n : Nat) (k : Key) (v : V) :
    (s.i :: inners (plug C s.O)).Perm (inners (plug (C ++ [s]) (leaf n k v))) := by
  refine ((inners_plug_perm C s.O).cons _).trans (.trans ?_ (inners_plug_perm (C ++ [s]) (leaf n k v)).symm)
  simp only [inners, List.map_append, List.map_cons, List.map_nil, List.flatMap_append, List.flatMap_cons,
    List.flatMap_nil, List.append_nil, List.nil_append, List.append_assoc]
  exact List.perm_middle.symm.trans (.append_left _ (.cons _ List.perm_append_comm))

theorem crit_unplug {C : List (Step V)} {s : Step V} {X : PT V} (h : Crit (plug (C ++ [s]) X)) : Crit (plug C s.O) := by
  induction C with
  | nil => exact (crit_fork.mp h).2.2.2.2.2
  | cons c C ih =>
    obtain ⟨h1, hP, hO, h4, hcP, hcO⟩ := crit_fork.mp h
    have hsub : ∀ k ∈ keys (plug C s.O), k ∈ keys (plug (C ++ [s]) X) := fun k hk =>
      have ⟨e, he, hek⟩ := List.mem_map.mp hk
      List.mem_map.mpr ⟨e, (ents_unplug_perm C s X).subset (List.mem_append_right _ he), hek⟩
    have hm : ∀ x ∈ keys (plug C s.O) ++ keys c.O, x ∈ keys (plug (C ++ [s]) X) ++ keys c.O := fun x hx =>
      List.mem_append.mpr ((List.mem_append.mp hx).imp_left (hsub x))
    exact crit_fork.mpr ⟨h1, fun k hk => hP k (hsub k hk), hO, fun k hk k' hk' => h4 k (hm k hk) k' (hm k' hk'),
      ih hcP, hcO⟩

theorem mem_ents_unplug {C : List (Step V)} {s : Step V} {n : Nat} {k : Key} {v : V}
    (hc : Crit (plug (C ++ [s]) (leaf n k v))) (e : Key × V) :
    e ∈ ents (plug C s.O) ↔ e ∈ ents (plug (C ++ [s]) (leaf n k v)) ∧ e.1 ≠ k := by
  have hp : ((k, v) :: ents (plug C s.O)).Perm _ := ents_unplug_perm C s (leaf n k v)
  have hne := (hp.pairwise_iff (R := fun a b : Key × V => a.1 ≠ b.1) Ne.symm).mpr
    ((sorted_ents hc).imp fun hlt heq => by rw [heq, klt_irrefl] at hlt; cases hlt)
  constructor
  · exact fun he => ⟨hp.subset (List.mem_cons_of_mem _ he), fun heq => (List.pairwise_cons.mp hne).1 e he heq.symm⟩
  · rintro ⟨he, hne'⟩
    rcases List.mem_cons.mp (hp.symm.subset he) with rfl | he'
    · exact absurd rfl hne'
    · exact he'

theorem inner_on_path {C : List (Step V)} {n : Nat} {k : Key} {v : V} (hs : SelfBelow (plug C (leaf n k v)))
    (hnd : (leafIdx (plug C (leaf n k v))).Nodup) (hm : n ∈ inners (plug C (leaf n k v))) : n ∈ C.map (·.i) := by
  induction C with
  | nil => cases hm
  | cons c C ih =>
    obtain ⟨-, hsP, hsO⟩ := selfBelow_fork.mp hs
    obtain ⟨hndP, -, hdis⟩ := nodup_leafIdx_fork.mp hnd
    rcases mem_inners_fork.mp hm with h | h | h
    · exact h ▸ List.mem_cons_self ..
    · exact List.mem_cons_of_mem _ (ih hsP hndP h)
    · exact absurd rfl (hdis n ((leafIdx_plug_perm C _).symm.subset (by simp [leafIdx])) n (mem_leafIdx_of_mem_inners hsO h))

theorem selfBelow_unplug {C : List (Step V)} {s : Step V} {n : Nat} {k : Key} {v : V}
    (hs : SelfBelow (plug (C ++ [s]) (leaf n k v))) (hnd : (leafIdx (plug (C ++ [s]) (leaf n k v))).Nodup)
    (hni : (inners (plug (C ++ [s]) (leaf n k v))).Nodup) : SelfBelow (rename n s.i (plug C s.O)) := by
  induction C with
  | nil =>
    obtain ⟨-, -, hsO⟩ := selfBelow_fork.mp hs
    obtain ⟨-, -, hdis⟩ := nodup_leafIdx_fork.mp hnd
    rw [plug, rename_of_not_mem _ fun hm => hdis n (by simp [plug, leafIdx]) n (mem_leafIdx_of_mem_inners hsO hm) rfl]
    exact hsO
  | cons c C ih =>
    obtain ⟨hi, hsP, hsO⟩ := selfBelow_fork.mp hs
    obtain ⟨hndP, -, hdis⟩ := nodup_leafIdx_fork.mp hnd
    obtain ⟨⟨hiP, -⟩, hniP, -, -⟩ := nodup_inners_fork.mp hni
    have hPL : (n :: leafIdx (plug C s.O)).Perm _ := leafIdx_unplug_perm C s (leaf n k v)
    have hnP : n ∈ leafIdx (plug (C ++ [s]) (leaf n k v)) := hPL.subset (List.mem_cons_self ..)
    simp only [plug, rename_fork]
    rw [rename_of_not_mem (T := c.O) _ fun hm => hdis n hnP n (mem_leafIdx_of_mem_inners hsO hm) rfl]
    refine selfBelow_fork.mpr ⟨?_, ih hsP hndP hniP, hsO⟩
    rw [leafIdx_rename]
    -- a node of the path other than `n` has its thread among the leaves that remain
    have hrem : ∀ x, x ≠ n → x ∈ leafIdx (plug (C ++ [s]) (leaf n k v)) → x ∈ leafIdx (plug C s.O) := fun x hx hm =>
      (List.mem_cons.mp (hPL.symm.subset hm)).resolve_left hx
    have hsi : s.i ∈ inners (plug (C ++ [s]) (leaf n k v)) :=
      (inners_unplug_perm C s n k v).subset (List.mem_cons_self ..)
    split
    · next hin => exact List.mem_append_left _ (hrem _ (fun e => hiP ((hin.trans e.symm) ▸ hsi)) (mem_leafIdx_of_mem_inners hsP hsi))
    · next hin => exact List.mem_append.mpr ((List.mem_append.mp hi).imp_left (hrem _ hin))

/-- the index invariants of the store after a deletion: the removed leaf's node `n` is replaced by the referrer among
the inner nodes, and the referrer becomes the root when `n` is the root -/
theorem del_invariants_plug {C : List (Step V)} {s : Step V} {n : Nat} {k : Key} {v : V} {r0 : Nat}
    (hs : SelfBelow (plug (C ++ [s]) (leaf n k v))) (hndi : (inners (plug (C ++ [s]) (leaf n k v))).Nodup)
    (hr0 : r0 ∉ inners (plug (C ++ [s]) (leaf n k v)))
    (hperm : (leafIdx (plug (C ++ [s]) (leaf n k v))).Perm (r0 :: inners (plug (C ++ [s]) (leaf n k v)))) :
    let T' := rename n s.i (plug C s.O)
    let r' := if n = r0 then s.i else r0
    (inners T').Nodup ∧ (leafIdx T').Nodup ∧ r' ∉ inners T' ∧ SelfBelow T' ∧ (leafIdx T').Perm (r' :: inners T') := by
  intro T' r'
  have hndl := hperm.nodup_iff.mpr (List.nodup_cons.mpr ⟨hr0, hndi⟩)
  have hPI := inners_unplug_perm C s n k v
  have hPL : (n :: leafIdx (plug C s.O)).Perm _ := leafIdx_unplug_perm C s (leaf n k v)
  have hnd1 := (List.nodup_cons.mp (hPI.nodup_iff.mpr hndi)).2
  have hndl1 := (List.nodup_cons.mp (hPL.nodup_iff.mpr hndl)).2
  have hsub : ∀ x ∈ inners (plug C s.O), x ∈ inners (plug (C ++ [s]) (leaf n k v)) := fun x hx =>
    hPI.subset (List.mem_cons_of_mem _ hx)
  have hL : (n :: leafIdx (plug C s.O)).Perm (r0 :: s.i :: inners (plug C s.O)) :=
    hPL.trans (hperm.trans (List.Perm.cons _ hPI.symm))
  -- the other claims follow from this permutation, the leaf indices being distinct
  have hfin : (leafIdx T').Perm (r' :: inners T') := by
    simp only [T', leafIdx_rename, inners_rename]
    by_cases hm : n ∈ inners (plug C s.O)
    · have hn0 : n ≠ r0 := fun e => hr0 (e ▸ hsub n hm)
      simp only [r', hn0, if_false]
      exact (hL.trans ((List.Perm.cons _ (perm_map_rename (b := s.i) hm hnd1).symm).trans (List.Perm.swap ..))).cons_inv
    · rw [map_rename_of_not_mem hm]
      by_cases hn0 : n = r0
      · simp only [r', hn0, if_true]
        rw [hn0] at hL
        exact hL.cons_inv
      · simp only [r', hn0, if_false]
        -- `n` is among `r0 :: s.i :: inners`, but neither `r0` nor an inner node
        have hnrr : n = s.i := by
          rcases List.mem_cons.mp (hL.subset (List.mem_cons_self ..)) with h | h
          · exact absurd h hn0
          · exact (List.mem_cons.mp h).resolve_right hm
        rw [← hnrr] at hL
        exact (hL.trans (List.Perm.swap ..)).cons_inv
  have hndL' : (leafIdx T').Nodup := by simp only [T', leafIdx_rename]; exact hndl1
  have hnd' := List.nodup_cons.mp (hfin.nodup_iff.mp hndL')
  exact ⟨hnd'.2, hndL', hnd'.1, selfBelow_unplug hs hndl hndi, hfin⟩

theorem rename_plug {a b : Nat} {C1 C2 : List (Step V)} {sn : Step V} {X : PT V} (hn : sn.i = a)
    (hni : (inners (plug (C1 ++ sn :: C2) X)).Nodup) :
    rename a b (plug (C1 ++ sn :: C2) X) = plug C1 (fork sn.d b sn.bp (plug C2 X) sn.O) := by
  induction C1 with
  | nil =>
    obtain ⟨⟨hiP, hiO⟩, -, -, -⟩ := nodup_inners_fork.mp hni
    simp only [List.nil_append, plug, rename_fork, hn, if_true]
    rw [rename_of_not_mem _ (hn ▸ hiP), rename_of_not_mem _ (hn ▸ hiO)]
  | cons c C1 ih =>
    obtain ⟨⟨hiP, -⟩, hniP, -, hdis⟩ := nodup_inners_fork.mp hni
    have hsn : a ∈ inners (plug (C1 ++ sn :: C2) X) :=
      (inners_plug_perm _ _).symm.subset (List.mem_append_left _ (by simp [hn]))
    simp only [List.cons_append, plug, rename_fork]
    rw [if_neg fun e => hiP (by rw [e]; exact hsn), ih hniP, rename_of_not_mem _ fun hm => hdis a hsn a hm rfl]

end PT
end AlgoVerif.C06
