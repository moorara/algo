import AlgoVerif.Generated.C14WGen
import AlgoVerif.Proofs.C14Gen
/-!
# The GENERATED adjacency code of `graph/{weighted_directed,weighted_undirected}.go` and the hand-written Model

`Generated/C14WGen.lean` holds the edge types with their accessors, the constructors, `AddEdge`, `V`, `E`, `isVertexValid`, the degree accessors, `Adj`,
`Edges` and `WeightedDirected.Reverse`.  Weights: the Go code only COPIES a `float64` weight (the translator refuses
every operator on the type, see `Go.F64`), the hand Model carries an `Int`; every statement below holds for EVERY map
`wOf : Int → Go.F64` from the hand Model's weights to float64 values — the adjacency code cannot tell.
`ofWD wOf o` / `ofWU wOf o` read a hand-Model object as the generated structure: an adjacency entry `x : Arc` becomes the
edge struct `⟨x.e.a, x.e.b, wOf x.e.w⟩` (the hand Model additionally stores the neighbour `x.to`, which the Go code
recomputes with `e.To()` / `e.Other(v)`; `WFwu` has the invariant that makes the two agree).
-/
namespace AlgoVerif.C14.Gen
open AlgoVerif AlgoVerif.Outcome AlgoVerif.C14 AlgoVerif.Generated

variable (wOf : Int → Go.F64)

/-- a stored edge as `DirectedEdge{from, to, weight}` -/
def deE (e : Edge) : GraphW.DirectedEdge := ⟨(e.a : Int), (e.b : Int), wOf e.w⟩
def deOf (x : Arc) : GraphW.DirectedEdge := deE wOf x.e
/-- a stored edge as `UndirectedEdge{v, w, weight}` -/
def ueE (e : Edge) : GraphW.UndirectedEdge := ⟨(e.a : Int), (e.b : Int), wOf e.w⟩
def ueOf (x : Arc) : GraphW.UndirectedEdge := ueE wOf x.e

def ofWD (o : GObj) : GraphW.WeightedDirected := ⟨(o.g.n : Int), (o.e : Int), ints o.ins, adjW (deOf wOf) o.g.adj⟩
def ofWU (o : GObj) : GraphW.WeightedUndirected := ⟨(o.g.n : Int), (o.e : Int), adjW (ueOf wOf) o.g.adj⟩

def WFwd (o : GObj) : Prop := o.kind = .wdirected ∧ o.g.adj.size = o.g.n ∧ o.ins.size = o.g.n

/-- the `AddEdge` arguments: the edge structs of a call list -/
def dedgesOf (es : List EdgeIn) : Array GraphW.DirectedEdge := (es.map fun e => (⟨e.u, e.v, wOf e.w⟩ : GraphW.DirectedEdge)).toArray
def uedgesOf (es : List EdgeIn) : Array GraphW.UndirectedEdge := (es.map fun e => (⟨e.u, e.v, wOf e.w⟩ : GraphW.UndirectedEdge)).toArray

/-- what `Adj(v)` of the hand Model (`none` = `nil`) is as a Go slice value -/
def sliceOf {β : Type} (f : Arc → β) : Option (List Arc) → Array β
  | none => #[]
  | some l => (l.map f).toArray

/-- `Adj(v)`, generated as `if !g.isVertexValid(v) { return nil }; return g.adj[v]` -/
theorem adj_valid {β : Type} (f : Arc → β) (o : GObj) (v : Int) :
    (if (!o.g.isVertexValid v) = true then pure #[] else Go.idx (adjW f o.g.adj) v) = (o.adjOf v).map (sliceOf f) := by
  refine Eq.trans ?_ ((read_valid (fun l => (l.map f).toArray) o.g.adj o.g v (fun t => t)
    (fun l => (l.map f).toArray) (fun _ => rfl) #[]).trans ?_)
  · simp only [Outcome.pure_eq, Outcome.bind_ok]; rfl
  · unfold GObj.adjOf
    cases o.g.isVertexValid v <;> cases o.g.adj[v.toNat]? <;> rfl

/-- `edges = append(edges, g(x)...)` over a list -/
theorem foldl_append_toArray {α β : Type} (g : α → List β) : ∀ (l : List α) (acc : Array β),
    l.foldl (fun acc x => acc ++ (g x).toArray) acc = acc ++ (l.flatMap g).toArray
  | [], acc => by simp
  | x :: l, acc => by simp [foldl_append_toArray g l, Array.append_assoc]

theorem WD_isVertexValid (o : GObj) (v : Int) : GraphW.WeightedDirected.isVertexValid (ofWD wOf o) v = o.g.isVertexValid v := rfl
theorem WD_V (o : GObj) : GraphW.WeightedDirected.V (ofWD wOf o) = o.V := rfl
theorem WD_E (o : GObj) : GraphW.WeightedDirected.E (ofWD wOf o) = o.E := rfl

theorem WFwd_addEdge {o : GObj} (h : WFwd o) (u v wt : Int) : WFwd (o.addEdge u v wt) := by
  obtain ⟨h1, h2, h3, h4⟩ := addEdge_shape o u v wt
  exact ⟨h1 ▸ h.1, by have := h.2; omega⟩

theorem WD_AddEdge (o : GObj) (hw : WFwd o) (u v wt : Int) :
    GraphW.WeightedDirected.AddEdge (ofWD wOf o) ⟨u, v, wOf wt⟩ = .ok (ofWD wOf (o.addEdge u v wt)) ∧
      WFwd (o.addEdge u v wt) := by
  refine ⟨?_, WFwd_addEdge hw u v wt⟩
  obtain ⟨hk, ha, hi⟩ := hw
  cases hv : (o.g.isVertexValid u && o.g.isVertexValid v)
  · simp only [GraphW.WeightedDirected.AddEdge, GraphW.DirectedEdge.From, GraphW.DirectedEdge.To, WD_isVertexValid, hv,
      addEdge_invalid o u v wt hv]
    rfl
  · obtain ⟨hu', hv'⟩ := Bool.and_eq_true_iff.1 hv
    obtain ⟨a, rfl, ha'⟩ := valid_nat hu'
    obtain ⟨b, rfl, hb'⟩ := valid_nat hv'
    rw [addEdge_directed o (by rw [hk]; rfl) a b ha' hb']
    simp only [GraphW.WeightedDirected.AddEdge, GraphW.DirectedEdge.From, GraphW.DirectedEdge.To, WD_isVertexValid, hv,
      if_true]
    rw [show (ofWD wOf o).ins = ints o.ins from rfl, incr_ints o.ins b (hi ▸ hb'),
      show (ofWD wOf o).adj = adjW (deOf wOf) o.g.adj from rfl,
      append_adjW (deOf wOf) o.g.adj a (ha ▸ ha') ⟨b, ⟨a, b, wt⟩⟩ ⟨a, b, wOf wt⟩ rfl]
    rfl

theorem WFwd_new (n : Nat) : WFwd (GObj.new .wdirected n) :=
  ⟨rfl, Array.size_replicate .., Array.size_replicate ..⟩

theorem ofWD_new (n : Nat) :
    ofWD wOf (GObj.new .wdirected n) = ⟨(n : Int), 0, Array.replicate n 0, Array.replicate n #[]⟩ := by
  simp [ofWD, GObj.new, Graph.new, Kind.isDirected, ints, adjW]

theorem WD_new_loop2 (es : List EdgeIn) (o : GObj) (hw : WFwd o) :
    GraphW.NewWeightedDirected.loop2 (dedgesOf wOf es) es.length 0 (ofWD wOf o)
      = .ok (ofWD wOf (es.foldl (fun o e => o.addEdge e.u e.v e.w) o)) := by
  refine Go.list_loop (ofWD wOf) WFwd _ es _ (fun _ e h => WFwd_addEdge h e.u e.v e.w) (fun _ _ => rfl)
    (fun k i hi o ho => ?_) o hw
  have hi' : i < (dedgesOf wOf es).size := by simpa [dedgesOf] using hi
  have he : (dedgesOf wOf es)[i] = ⟨es[i].u, es[i].v, wOf es[i].w⟩ := by simp [dedgesOf]
  simp only [GraphW.NewWeightedDirected.loop2, Go.idx_nat hi', he, Outcome.ok_bind,
    (WD_AddEdge wOf o ho es[i].u es[i].v es[i].w).1]

theorem WD_New (n : Nat) (es : List EdgeIn) :
    GraphW.NewWeightedDirected (n : Int) (dedgesOf wOf es) = .ok (ofWD wOf (GObj.build .wdirected n es)) ∧
      WFwd (GObj.build .wdirected n es) := by
  refine ⟨?_, List.foldlRecOn es _ (motive := WFwd) (WFwd_new n) fun _ h e _ => WFwd_addEdge h e.u e.v e.w⟩
  have h1 : GraphW.NewWeightedDirected.loop1 n 0 (Array.replicate n #[]) = .ok (Array.replicate n #[]) :=
    fill_loop _ (fun _ _ => rfl) (fun _ _ _ => rfl) n
  have h2 := WD_new_loop2 wOf es _ (WFwd_new n)
  rw [ofWD_new] at h2
  simp only [GraphW.NewWeightedDirected, Go.make_nat, Outcome.ok_bind, Array.size_replicate,
    show (dedgesOf wOf es).size = es.length by simp [dedgesOf], h1, h2]
  rfl

theorem WD_New_neg (V : Int) (h : V < 0) (edges : Array GraphW.DirectedEdge) : GraphW.NewWeightedDirected V edges = .panic := by
  simp [GraphW.NewWeightedDirected, Go.make_neg _ h]

theorem WD_InDegree (o : GObj) (v : Int) : GraphW.WeightedDirected.InDegree (ofWD wOf o) v = o.inDegree v :=
  D_InDegree o v

theorem WD_OutDegree (o : GObj) (v : Int) : GraphW.WeightedDirected.OutDegree (ofWD wOf o) v = o.outDegree v :=
  degree_valid (deOf wOf) o v

/-- `Adj(v)`: the value returned (the generated function's remark: it aliases the graph's list) -/
theorem WD_Adj (o : GObj) (v : Int) :
    GraphW.WeightedDirected.Adj (ofWD wOf o) v = (o.adjOf v).map (sliceOf (deOf wOf)) :=
  adj_valid (deOf wOf) o v

theorem WD_Edges (o : GObj) (hk : o.kind.isDirected = true) :
    GraphW.WeightedDirected.Edges (ofWD wOf o) = .ok (o.edges.map (deE wOf)).toArray := by
  have h := Go.list_loop id (fun _ => True) (fun acc (l : List Arc) => acc ++ (l.map (deOf wOf)).toArray) o.g.adj.toList
    (GraphW.WeightedDirected.Edges.loop1 (ofWD wOf o)) (fun _ _ _ => trivial) (fun _ _ => rfl)
    (fun k i hi acc _ => by
      have hi' : i < o.g.adj.size := by simpa using hi
      simp only [GraphW.WeightedDirected.Edges.loop1, show (ofWD wOf o).adj = adjW (deOf wOf) o.g.adj from rfl, adjW,
        idx_map_nat _ _ _ hi', Outcome.ok_bind, Array.getElem_toList, id])
    #[] trivial
  simp only [id, Array.length_toList, foldl_append_toArray] at h
  simp only [GraphW.WeightedDirected.Edges, show ∀ z : GraphW.DirectedEdge, Go.make z 0 = .ok #[] from fun _ => rfl,
    Outcome.ok_bind, show (ofWD wOf o).adj.size = o.g.adj.size from adjW_size .., h,
    GObj.edges, hk, if_true]
  simp [List.map_flatMap, Function.comp_def]
  rfl

theorem WD_rev_loop2 (fuel : Nat) (o : GObj) (v : Nat) (hv : v < o.g.adj.size) (r : GObj) (hr : WFwd r) :
    GraphW.WeightedDirected.Reverse.loop2 fuel (ofWD wOf o) (v : Int) o.g.adj[v].length 0 (ofWD wOf r)
      = .ok (ofWD wOf (o.g.adj[v].foldl (fun r x => r.addEdge x.e.b x.e.a x.e.w) r)) := by
  refine Go.list_loop (ofWD wOf) WFwd _ o.g.adj[v] _ (fun _ x h => WFwd_addEdge h _ _ _) (fun _ _ => rfl)
    (fun k i hi r hr => ?_) r hr
  have hi2 : i < ((o.g.adj[v].map (deOf wOf)).toArray).size := by simpa using hi
  have hx : ((o.g.adj[v].map (deOf wOf)).toArray)[i] = deOf wOf (o.g.adj[v][i]) := by simp
  simp only [GraphW.WeightedDirected.Reverse.loop2, show (ofWD wOf o).adj = adjW (deOf wOf) o.g.adj from rfl, adjW,
    idx_map_nat _ _ _ hv, Outcome.ok_bind, Go.idx_nat hi2, hx, GraphW.DirectedEdge.To, GraphW.DirectedEdge.From,
    GraphW.DirectedEdge.Weight, deOf, deE, (WD_AddEdge wOf r hr (o.g.adj[v][i]).e.b (o.g.adj[v][i]).e.a (o.g.adj[v][i]).e.w).1]

/-- `Reverse()` of `*WeightedDirected`, with fuel for the `V+1` tests of its loop -/
theorem WD_Reverse (fuel : Nat) (o : GObj) (hw : WFwd o) (hf : o.g.n + 1 ≤ fuel) :
    GraphW.WeightedDirected.Reverse fuel (ofWD wOf o) = .ok (ofWD wOf o.reverse) ∧ WFwd o.reverse := by
  have hrev : o.reverse = GObj.build .wdirected o.g.n o.flipped := by rw [GObj.reverse, hw.1]
  refine ⟨?_, hrev ▸ (WD_New wOf o.g.n o.flipped).2⟩
  have hN : GraphW.NewWeightedDirected (o.g.n : Int) #[] = .ok (ofWD wOf (GObj.new .wdirected o.g.n)) :=
    (WD_New wOf o.g.n []).1
  have h1 := Go.for_loop (ofWD wOf) WFwd (fun r v => (o.g.adj.getD v []).foldl (fun r x => r.addEdge x.e.b x.e.a x.e.w) r)
    o.g.n (GraphW.WeightedDirected.Reverse.loop1 fuel (ofWD wOf o))
    (fun r v hr => List.foldlRecOn _ _ (motive := WFwd) hr fun _ h _ _ => WFwd_addEdge h _ _ _)
    (fun k s => by simp [GraphW.WeightedDirected.Reverse.loop1, GraphW.WeightedDirected.V, ofWD])
    (fun k v r hv hr => by
      have hv' : v < o.g.adj.size := by rw [hw.2.1]; exact hv
      have hlt : ((v : Int) < (o.g.n : Int)) := Int.ofNat_lt.2 hv
      have := WD_rev_loop2 wOf fuel o v hv' r hr
      simp only [GraphW.WeightedDirected.Reverse.loop1, GraphW.WeightedDirected.V,
        show (ofWD wOf o).v = (o.g.n : Int) from rfl, show (ofWD wOf o).adj = adjW (deOf wOf) o.g.adj from rfl, adjW,
        hlt, decide_true, Bool.not_true, Bool.false_eq_true, if_false, idx_map_nat _ _ _ hv', Outcome.ok_bind,
        List.size_toArray, List.length_map, this]
      simp [Array.getD, hv'])
    fuel hf (GObj.new .wdirected o.g.n) (WFwd_new _)
  simp only [GraphW.WeightedDirected.Reverse, show GraphW.WeightedDirected.V (ofWD wOf o) = (o.g.n : Int) from rfl, hN,
    Outcome.ok_bind, h1, hrev, GObj.build, GObj.flipped, hw.1, Kind.isWeighted, List.foldl_flatMap,
    List.foldl_map, if_true]

/-- an entry of `adj[v]` of an undirected object: `v` is one endpoint of the stored edge and the stored neighbour is
the other one — what makes the hand Model's `x.to` the Go code's `e.Other(v)` -/
def ArcOK (v : Nat) (x : Arc) : Prop := (x.e.a = v ∧ x.to = x.e.b) ∨ (x.e.b = v ∧ x.to = x.e.a)

def WFwu (o : GObj) : Prop :=
  o.kind = .wundirected ∧ o.g.adj.size = o.g.n ∧ ∀ (v : Nat) (h : v < o.g.adj.size), ∀ x ∈ o.g.adj[v], ArcOK v x

theorem WU_isVertexValid (o : GObj) (v : Int) : GraphW.WeightedUndirected.isVertexValid (ofWU wOf o) v = o.g.isVertexValid v := rfl
theorem WU_V (o : GObj) : GraphW.WeightedUndirected.V (ofWU wOf o) = o.V := rfl
theorem WU_E (o : GObj) : GraphW.WeightedUndirected.E (ofWU wOf o) = o.E := rfl

theorem other_eq (e : GraphW.UndirectedEdge) (v : Int) :
    GraphW.UndirectedEdge.Other e v = if v = e.v then e.w else if v = e.w then e.v else -1 := by
  simp only [GraphW.UndirectedEdge.Other, Id.run, beq_iff_eq]
  split
  · rfl
  · split <;> rfl

theorem other_of_ok (v : Nat) (x : Arc) (h : ArcOK v x) : GraphW.UndirectedEdge.Other (ueOf wOf x) (v : Int) = (x.to : Int) := by
  simp only [other_eq, ueOf, ueE]
  rcases h with ⟨h1, h2⟩ | ⟨h1, h2⟩
  · simp [h1, h2]
  · by_cases hab : x.e.a = v
    · simp [hab, h2]; omega
    · have : ¬ ((v : Int) = (x.e.a : Int)) := by omega
      simp [this, h1, h2]

theorem mem_modify_append {α : Type} (a : Array (List α)) (k : Nat) (y : α) (w : Nat) (hw : w < a.size) (x : α)
    (hx : x ∈ (a.modify k (· ++ [y]))[w]'(by rwa [Array.size_modify])) : x ∈ a[w] ∨ (k = w ∧ x = y) := by
  rw [Array.getElem_modify] at hx
  split at hx
  · next h =>
    rcases List.mem_append.1 hx with hx | hx
    · exact .inl hx
    · exact .inr ⟨h, List.mem_singleton.1 hx⟩
  · exact .inl hx

theorem WFwu_addEdge {o : GObj} (h : WFwu o) (u v wt : Int) : WFwu (o.addEdge u v wt) := by
  obtain ⟨h1, h2, h3, -⟩ := addEdge_shape o u v wt
  refine ⟨h1 ▸ h.1, by have := h.2.1; omega, ?_⟩
  cases hv : (o.g.isVertexValid u && o.g.isVertexValid v)
  · rw [addEdge_invalid o u v wt hv]; exact h.2.2
  · obtain ⟨hu', hv'⟩ := Bool.and_eq_true_iff.1 hv
    obtain ⟨a, rfl, ha'⟩ := valid_nat hu'
    obtain ⟨b, rfl, hb'⟩ := valid_nat hv'
    rw [addEdge_undirected o (by rw [h.1]; rfl) a b ha' hb']
    intro w hw x hx
    have hw' : w < o.g.adj.size := by simpa using hw
    -- the two appended entries: `(b, e)` to row `a`, `(a, e)` to row `b`
    rcases mem_modify_append _ b _ w (by rwa [Array.size_modify]) x hx with hx | ⟨rfl, rfl⟩
    · rcases mem_modify_append _ a _ w hw' x hx with hx | ⟨rfl, rfl⟩
      · exact h.2.2 w hw' x hx
      · exact .inl ⟨rfl, rfl⟩
    · exact .inr ⟨rfl, rfl⟩

theorem WU_AddEdge (o : GObj) (hw : WFwu o) (u v wt : Int) :
    GraphW.WeightedUndirected.AddEdge (ofWU wOf o) ⟨u, v, wOf wt⟩ = .ok (ofWU wOf (o.addEdge u v wt)) ∧
      WFwu (o.addEdge u v wt) := by
  refine ⟨?_, WFwu_addEdge hw u v wt⟩
  obtain ⟨hk, ha, -⟩ := hw
  have hother : GraphW.UndirectedEdge.Other ⟨u, v, wOf wt⟩ u = v := by simp [other_eq]
  cases hv : (o.g.isVertexValid u && o.g.isVertexValid v)
  · simp only [GraphW.WeightedUndirected.AddEdge, GraphW.UndirectedEdge.Either, hother, WU_isVertexValid, hv,
      addEdge_invalid o u v wt hv]
    rfl
  · obtain ⟨hu', hv'⟩ := Bool.and_eq_true_iff.1 hv
    obtain ⟨a, rfl, ha'⟩ := valid_nat hu'
    obtain ⟨b, rfl, hb'⟩ := valid_nat hv'
    rw [addEdge_undirected o (by rw [hk]; rfl) a b ha' hb']
    simp only [GraphW.WeightedUndirected.AddEdge, GraphW.UndirectedEdge.Either, hother, WU_isVertexValid, hv, if_true]
    rw [show (ofWU wOf o).adj = adjW (ueOf wOf) o.g.adj from rfl,
      append_adjW (ueOf wOf) o.g.adj a (ha ▸ ha') ⟨b, ⟨a, b, wt⟩⟩ ⟨a, b, wOf wt⟩ rfl,
      append_adjW (ueOf wOf) _ b (by rw [Array.size_modify]; omega) ⟨a, ⟨a, b, wt⟩⟩ ⟨a, b, wOf wt⟩ rfl]
    rfl

theorem WFwu_new (n : Nat) : WFwu (GObj.new .wundirected n) := by
  refine ⟨rfl, Array.size_replicate .., ?_⟩
  intro v h x hx
  simp [GObj.new, Graph.new] at hx

theorem ofWU_new (n : Nat) :
    ofWU wOf (GObj.new .wundirected n) = ⟨(n : Int), 0, Array.replicate n #[]⟩ := by
  simp [ofWU, GObj.new, Graph.new, adjW]

theorem WU_new_loop2 (es : List EdgeIn) (o : GObj) (hw : WFwu o) :
    GraphW.NewWeightedUndirected.loop2 (uedgesOf wOf es) es.length 0 (ofWU wOf o)
      = .ok (ofWU wOf (es.foldl (fun o e => o.addEdge e.u e.v e.w) o)) := by
  refine Go.list_loop (ofWU wOf) WFwu _ es _ (fun _ e h => WFwu_addEdge h e.u e.v e.w) (fun _ _ => rfl)
    (fun k i hi o ho => ?_) o hw
  have hi' : i < (uedgesOf wOf es).size := by simpa [uedgesOf] using hi
  have he : (uedgesOf wOf es)[i] = ⟨es[i].u, es[i].v, wOf es[i].w⟩ := by simp [uedgesOf]
  simp only [GraphW.NewWeightedUndirected.loop2, Go.idx_nat hi', he, Outcome.ok_bind,
    (WU_AddEdge wOf o ho es[i].u es[i].v es[i].w).1]

theorem WU_New (n : Nat) (es : List EdgeIn) :
    GraphW.NewWeightedUndirected (n : Int) (uedgesOf wOf es) = .ok (ofWU wOf (GObj.build .wundirected n es)) ∧
      WFwu (GObj.build .wundirected n es) := by
  refine ⟨?_, List.foldlRecOn es _ (motive := WFwu) (WFwu_new n) fun _ h e _ => WFwu_addEdge h e.u e.v e.w⟩
  have h1 : GraphW.NewWeightedUndirected.loop1 n 0 (Array.replicate n #[]) = .ok (Array.replicate n #[]) :=
    fill_loop _ (fun _ _ => rfl) (fun _ _ _ => rfl) n
  have h2 := WU_new_loop2 wOf es _ (WFwu_new n)
  rw [ofWU_new] at h2
  simp only [GraphW.NewWeightedUndirected, Go.make_nat, Outcome.ok_bind, Array.size_replicate,
    show (uedgesOf wOf es).size = es.length by simp [uedgesOf], h1, h2]
  rfl

theorem WU_New_neg (V : Int) (h : V < 0) (edges : Array GraphW.UndirectedEdge) : GraphW.NewWeightedUndirected V edges = .panic := by
  simp [GraphW.NewWeightedUndirected, Go.make_neg _ h]

theorem WU_Degree (o : GObj) (v : Int) : GraphW.WeightedUndirected.Degree (ofWU wOf o) v = o.outDegree v :=
  degree_valid (ueOf wOf) o v

theorem WU_Adj (o : GObj) (v : Int) :
    GraphW.WeightedUndirected.Adj (ofWU wOf o) v = (o.adjOf v).map (sliceOf (ueOf wOf)) :=
  adj_valid (ueOf wOf) o v

/-- `if p(x) { edges = append(edges, f(x)) }` over a list -/
theorem foldl_push_filter {α β : Type} (p : α → Bool) (f : α → β) : ∀ (l : List α) (acc : Array β),
    l.foldl (fun acc x => if p x then acc.push (f x) else acc) acc = acc ++ ((l.filter p).map f).toArray
  | [], acc => by simp
  | x :: l, acc => by
    rw [List.foldl_cons, foldl_push_filter p f l, List.filter_cons]
    cases p x <;> simp

/-- `for _, e := range g.adj[v] { if e.Other(v) > v { edges = append(edges, e) } }` -/
theorem WU_edges_loop2 (o : GObj) (v : Nat) (hv : v < o.g.adj.size) (hok : ∀ x ∈ o.g.adj[v], ArcOK v x)
    (acc : Array GraphW.UndirectedEdge) :
    GraphW.WeightedUndirected.Edges.loop2 (ofWU wOf o) (v : Int) o.g.adj[v].length 0 acc
      = .ok (acc ++ ((o.g.adj[v].filter fun x => decide (v < x.to)).map (ueOf wOf)).toArray) := by
  rw [← foldl_push_filter]
  refine Go.list_loop id (fun _ => True) _ o.g.adj[v] _ (fun _ _ _ => trivial) (fun _ _ => rfl)
    (fun k i hi acc _ => ?_) acc trivial
  have hi2 : i < ((o.g.adj[v].map (ueOf wOf)).toArray).size := by simpa using hi
  have hx : ((o.g.adj[v].map (ueOf wOf)).toArray)[i] = ueOf wOf (o.g.adj[v][i]) := by simp
  simp only [GraphW.WeightedUndirected.Edges.loop2, show (ofWU wOf o).adj = adjW (ueOf wOf) o.g.adj from rfl, adjW,
    idx_map_nat _ _ _ hv, Outcome.ok_bind, Go.idx_nat hi2, hx, other_of_ok wOf v _ (hok _ (List.getElem_mem hi)), id,
    gt_iff_lt, Int.ofNat_lt]
  split <;> rfl

/-- `Edges()` of `*WeightedUndirected` (every edge once: from its smaller endpoint; self-loops never) -/
theorem WU_Edges (o : GObj) (hw : WFwu o) :
    GraphW.WeightedUndirected.Edges (ofWU wOf o) = .ok (o.edges.map (ueE wOf)).toArray := by
  have h := Go.list_loop id (fun _ => True) (fun acc (v : Nat) => acc ++
      (((o.g.adj.getD v []).filter fun x => decide (v < x.to)).map (ueOf wOf)).toArray) (List.range o.g.adj.size)
    (GraphW.WeightedUndirected.Edges.loop1 (ofWU wOf o)) (fun _ _ _ => trivial) (fun _ _ => rfl)
    (fun k i hi acc _ => by
      have hi' : i < o.g.adj.size := by simpa using hi
      have h2 := WU_edges_loop2 wOf o i hi' (hw.2.2 i hi') acc
      simp only [GraphW.WeightedUndirected.Edges.loop1, show (ofWU wOf o).adj = adjW (ueOf wOf) o.g.adj from rfl, adjW,
        idx_map_nat _ _ _ hi', Outcome.ok_bind, List.size_toArray, List.length_map, h2, id, List.getElem_range]
      simp [Array.getD, hi'])
    #[] trivial
  simp only [id, List.length_range, foldl_append_toArray] at h
  simp only [GraphW.WeightedUndirected.Edges, show ∀ z : GraphW.UndirectedEdge, Go.make z 0 = .ok #[] from fun _ => rfl,
    Outcome.ok_bind, show (ofWU wOf o).adj.size = o.g.adj.size from adjW_size .., h, GObj.edges,
    show o.kind.isDirected = false by rw [hw.1]; rfl, Bool.false_eq_true, if_false]
  simp [List.map_flatMap, Function.comp_def]
  rfl

end AlgoVerif.C14.Gen
