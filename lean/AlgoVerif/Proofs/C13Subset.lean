import AlgoVerif.Proofs.C13DFA
/-! C13: the subset construction (`ToDFA`): the invariant of its two loops, and what it means for the language
once every queued set is processed. -/
namespace AlgoVerif.C13
open AlgoVerif AlgoVerif.C13.Spec

/-- invariant of the subset construction: `front` sets are fully processed, the set at `front` is processed
for the symbols in `D` -/
structure SInv (n : NFA) (syms : List Int) (q : List (List Int)) (dfa : DFA) (front : Nat) (D : Int → Prop) : Prop where
  sorted : ∀ S ∈ q, SSorted S
  sound : ∀ i a j, dfa.δ i a = some j → ∃ (ii jj : Nat) (T U : List Int), i = (ii : Int) ∧ j = (jj : Int) ∧
    q[ii]? = some T ∧ q[jj]? = some U ∧ Succ n T a U ∧ a ∈ syms ∧ (ii < front ∨ (ii = front ∧ D a))
  complete : ∀ (ii : Nat) a, (ii < front ∨ (ii = front ∧ D a)) → a ∈ syms → ∃ j, dfa.δ (ii : Int) a = some j

theorem sqFind_some {q : List (List Int)} {U : List Int} {j : Nat} (h : sqFind q U = some j) :
    ∃ v, q[j]? = some v ∧ setEq v U = true := by
  simp only [sqFind] at h
  rw [List.findIdx?_eq_some_iff_getElem] at h
  obtain ⟨hj, hp, _⟩ := h
  exact ⟨q[j], by simp [hj], hp⟩

variable {n : NFA} {syms : List Int} {q : List (List Int)} {dfa : DFA} {front : Nat}

theorem SInv.congr {D D' : Int → Prop} (h : SInv n syms q dfa front D) (hD : ∀ a, D a ↔ D' a) : SInv n syms q dfa front D' :=
  (funext fun a => propext (hD a) : D = D') ▸ h

theorem SInv.add {q' : List (List Int)} {D : Int → Prop}
    (h : SInv n syms q dfa front D) (hpre : q <+: q') (hs : ∀ S ∈ q', SSorted S) {T U : List Int} {a : Int} {j : Nat}
    (hT : q[front]? = some T) (hU : q'[j]? = some U) (hSucc : Succ n T a U) (ha : a ∈ syms) :
    SInv n syms q' (dfa.add front a j) front (fun b => b = a ∨ D b) := by
  refine ⟨hs, ?_, ?_⟩
  · intro i b k hk
    rw [DFA.δ_add] at hk
    split at hk
    · rename_i hc; obtain ⟨rfl, rfl⟩ := hc
      cases hk
      exact ⟨front, j, T, U, rfl, rfl, getElem?_prefix hpre hT, hU, hSucc, ha, Or.inr ⟨rfl, Or.inl rfl⟩⟩
    · obtain ⟨ii, jj, T', U', h1, h2, h3, h4, h5, h6, h7⟩ := h.sound i b k hk
      exact ⟨ii, jj, T', U', h1, h2, getElem?_prefix hpre h3, getElem?_prefix hpre h4, h5, h6,
        h7.imp_right fun h7 => ⟨h7.1, Or.inr h7.2⟩⟩
  · intro ii b hb hbs
    rw [DFA.δ_add]
    split
    · exact ⟨_, rfl⟩
    · rename_i hc
      exact h.complete ii b (hb.imp_right fun hb => ⟨hb.1, hb.2.resolve_left fun h' => hc ⟨by rw [hb.1], h'⟩⟩) hbs

theorem SInv.finish (h : SInv n syms q dfa front (fun _ => False)) (hq : q[front]? = none) :
    SInv n syms q dfa q.length (fun _ => False) := by
  have hlen : q.length ≤ front := by simpa using hq
  refine ⟨h.sorted, ?_, ?_⟩
  · intro i a j hk
    obtain ⟨ii, jj, T', U', g1, g2, g3, g4, g5, g6, _⟩ := h.sound i a j hk
    exact ⟨ii, jj, T', U', g1, g2, g3, g4, g5, g6, Or.inl (List.getElem?_eq_some_iff.1 g3).1⟩
  · intro ii a hb hs
    exact h.complete ii a (Or.inl (by have := hb.resolve_right (fun h => h.2); omega)) hs

theorem SInv.next {D : Int → Prop} (h : SInv n syms q dfa front D) (hD : ∀ a ∈ syms, D a) :
    SInv n syms q dfa (front + 1) (fun _ => False) := by
  refine ⟨h.sorted, ?_, ?_⟩
  · intro i a j hk
    obtain ⟨ii, jj, T', U', g1, g2, g3, g4, g5, g6, g7⟩ := h.sound i a j hk
    exact ⟨ii, jj, T', U', g1, g2, g3, g4, g5, g6, Or.inl (by omega)⟩
  · intro ii a hb hs
    have hle : ii < front + 1 := hb.resolve_right (fun h => h.2)
    refine h.complete ii a ?_ hs
    by_cases hlt : ii < front
    · exact Or.inl hlt
    · exact Or.inr ⟨by omega, hD a hs⟩

theorem mem_subsetFinals (final : List Int) (q : List (List Int)) (x : Int) :
    x ∈ subsetFinals final q ↔ ∃ (i : Nat) (S : List Int), x = (i : Int) ∧ q[i]? = some S ∧ ∃ f ∈ final, f ∈ S := by
  rw [subsetFinals, foldlIdx_grow (fun l x => x ∈ l) (Q := fun i S x => x = (i : Int) ∧ ∃ f ∈ final, f ∈ S)]
  · simp only [List.not_mem_nil, false_or, Nat.zero_add]
    exact ⟨fun ⟨i, S, hS, hx, hf⟩ => ⟨i, S, hx, hS, hf⟩, fun ⟨i, S, hx, hS, hf⟩ => ⟨i, S, hS, hx, hf⟩⟩
  · intro acc i S x
    have hany : final.any (fun f => S.contains f) = true ↔ ∃ f ∈ final, f ∈ S := by
      simp only [List.any_eq_true, List.contains_eq_mem, decide_eq_true_eq]
    split
    · next hc => simp only [mem_sins, hany.1 hc, and_true, or_comm]
    · next hc => simp only [mt hany.2 hc, and_false, or_false]

theorem NFA.mem_symbols (n : NFA) (s a t : Int) (h : n.Δ s a t) (ha : a ≠ E) : a ∈ n.symbols := by
  obtain ⟨nx, hnx, _⟩ := h
  exact (n.mem_symbols_iff a).2 ⟨ha, s, nx, NFA.next_entry hnx⟩

theorem path_symbols {n : NFA} {s t : Int} {w : Word} (h : Path n.Δ s w t) (hE : E ∉ w) :
    ∀ a ∈ w, a ∈ n.symbols := by
  induction h with
  | eps _ => simp
  | cons _ hd _ ih =>
    intro b hb
    simp at hb hE
    rcases hb with rfl | hb
    · exact n.mem_symbols _ _ _ hd (fun h => hE.1 h.symm)
    · exact ih hE.2 b hb

theorem SInv.run (hinv : SInv n syms q dfa q.length (fun _ => False)) (w : Word) (ii : Nat) (T : List Int) (u : Word)
    (hT : q[ii]? = some T) (hR : Reps n n.start u T) (hw : ∀ a ∈ w, a ∈ syms) :
    ∃ (jj : Nat) (S : List Int), dfaRun dfa.δ (some (ii : Int)) w = some (jj : Int) ∧ q[jj]? = some S ∧
      Reps n n.start (u ++ w) S := by
  induction w generalizing ii T u with
  | nil => exact ⟨ii, T, rfl, hT, by simpa using hR⟩
  | cons a w ih =>
    have hlt : ii < q.length := (List.getElem?_eq_some_iff.1 hT).1
    obtain ⟨j, hj⟩ := hinv.complete ii a (Or.inl hlt) (hw a (by simp))
    obtain ⟨ii', jj, T', U, g1, g2, g3, g4, g5, _, _⟩ := hinv.sound _ _ _ hj
    obtain rfl : ii' = ii := by omega
    rw [hT] at g3; cases g3
    obtain ⟨jj', S, k1, k2, k3⟩ := ih jj U (u ++ [a]) g4 (hR.step g5) (fun b hb => hw b (by simp [hb]))
    exact ⟨jj', S, dfaRun_cons_eq_some.2 ⟨_, hj, g2 ▸ k1⟩, k2, by simpa using k3⟩

theorem SInv.run_syms {D : Int → Prop}
    (hinv : SInv n syms q dfa front D) (w : Word) (i f : Int) (hrun : dfaRun dfa.δ (some i) w = some f) :
    ∀ a ∈ w, a ∈ syms := by
  induction w generalizing i with
  | nil => simp
  | cons a w ih =>
    intro b hb
    obtain ⟨j, hd, hrun'⟩ := dfaRun_cons_eq_some.1 hrun
    rcases List.mem_cons.1 hb with rfl | hb
    · obtain ⟨_, _, _, _, _, _, _, _, _, g6, _⟩ := hinv.sound _ _ _ hd; exact g6
    · exact ih j hrun' b hb

theorem SInv.lang (hinv : SInv n n.symbols q dfa q.length (fun _ => False)) (hst : dfa.start = 0)
    (hfin : dfa.final = subsetFinals n.final q) {S0 : List Int} (hq0 : q[0]? = some S0) (hR0 : Reps n n.start [] S0)
    (w : Word) (hE : E ∉ w) : dfa.lang w ↔ n.lang w := by
  simp only [DFA.lang, dfaLang, hst, hfin, NFA.lang, nfaLang]
  constructor
  · rintro ⟨f, hrun, hf⟩
    obtain ⟨jj, S, k1, k2, k3⟩ := hinv.run w 0 S0 [] hq0 hR0 (hinv.run_syms w 0 f hrun)
    replace k1 : dfaRun dfa.δ (some 0) w = some (jj : Int) := by simpa using k1
    rw [k1] at hrun; injection hrun with hrun; subst hrun
    rw [mem_subsetFinals] at hf
    obtain ⟨i, S', e1, e2, x, hx1, hx2⟩ := hf
    have : i = jj := by omega
    subst this
    rw [k2] at e2; injection e2 with e2; subst e2
    exact ⟨x, hx1, by simpa using (k3 x).1 hx2⟩
  · rintro ⟨x, hx, hp⟩
    obtain ⟨jj, S, k1, k2, k3⟩ := hinv.run w 0 S0 [] hq0 hR0 (path_symbols hp hE)
    replace k1 : dfaRun dfa.δ (some 0) w = some (jj : Int) := by simpa using k1
    refine ⟨jj, k1, ?_⟩
    rw [mem_subsetFinals]
    exact ⟨jj, S, rfl, k2, x, hx, (k3 x).2 (by simpa using hp)⟩

end AlgoVerif.C13
