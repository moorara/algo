import AlgoVerif.Proofs.C11LalrKer
/-!
# C11 — the LALR(1) table passes the soundness validator

`findSuperset` (a superset *with the same core*) is what makes every kernel item of the target
of a transition the advanced version of an item of the source state.
Namespace `Built`, as in `C11Valid` for the SLR(1) and LR(1) tables: the lemmas are about the state map and the `Built` record
the three constructions share.
-/
namespace AlgoVerif.C11.Built
open AlgoVerif AlgoVerif.Gram AlgoVerif.C11 AlgoVerif.C11.Spec

theorem mem_coreOf {I : List Item} {y : Item} : y ∈ coreOf I ↔ ∃ it ∈ I, it.core = y := by
  unfold coreOf
  rw [← List.foldl_map (f := Item.core) (g := addNew), mem_foldl_addNew]
  simp

theorem findSuperset_spec (S : StateMap) (J : List Item) :
    findSuperset S J = -1 ∨ ∃ (n : Nat) (K : List Item), findSuperset S J = (n : Int) ∧ S[n]? = some K ∧
      J ≠ [] ∧ (∀ x ∈ J, x ∈ K) ∧ (∀ y, y ∈ coreOf K ↔ y ∈ coreOf J) := by
  unfold findSuperset
  by_cases hJ : J.isEmpty = true
  · simp [hJ]
  · simp only [hJ, Bool.false_eq_true, if_false]
    cases hf : S.findIdx? (fun K => subsetOf J K && sameSet (coreOf K) (coreOf J)) with
    | none => exact Or.inl rfl
    | some n =>
      obtain ⟨K, hK, hp⟩ := findIdx?_some _ S n hf
      simp only [Bool.and_eq_true] at hp
      refine Or.inr ⟨n, K, rfl, hK, ?_, subsetOf_iff.mp hp.1, sameSet_iff.mp hp.2⟩
      intro he; rw [he] at hJ; simp at hJ

theorem findSuperset_found {S : StateMap} {J K : List Item} (hne : J ≠ []) (hK : K ∈ S) (hsub : ∀ x ∈ J, x ∈ K)
    (hcore : ∀ y, y ∈ coreOf K ↔ y ∈ coreOf J) :
    ∃ (n : Nat) (K' : List Item), findSuperset S J = (n : Int) ∧ S[n]? = some K' ∧ ∀ x ∈ J, x ∈ K' := by
  obtain ⟨n, K', hf, hK', hp⟩ := findIdx?_of_mem (p := fun K => subsetOf J K && sameSet (coreOf K) (coreOf J)) hK
    (by rw [subsetOf_iff.mpr hsub, sameSet_iff.mpr hcore]; rfl)
  simp only [Bool.and_eq_true] at hp
  refine ⟨n, K', ?_, hK', subsetOf_iff.mp hp.1⟩
  have hemp : J.isEmpty = false := by
    cases J with
    | nil => exact absurd rfl hne
    | cons _ _ => rfl
  unfold findSuperset
  simp only [hemp, Bool.false_eq_true, if_false]
  rw [hf]

theorem itemsAt_rows {A : Auto} {start : String} {S cl : StateMap} (hrel : RowsRel A start S cl) {i : Nat} {I c : List Item}
    (hI : S[i]? = some I) (hc : A.closure I = Outcome.ok c) (it : Item) :
    it ∈ itemsAt cl (i : Int) ↔ it ∈ c := by
  obtain ⟨c', hc', hcl⟩ := hrel.2 i I hI
  cases hc.symm.trans hc'
  rw [itemsAt_of_get hcl, mem_sortBy]

section
variable {g g' : SGrammar} (h : AugOK g g') {A : Auto} (hAg : A.g = g') (hAk : A.kernel = true)
include h hAg hAk

theorem trans_okL {S cl : StateMap} (hS : StatesOK g' S) (hrel : RowsRel A g'.start S cl)
    {i : Nat} {I c J : List Item} {X : Sy}
    (hI : S[i]? = some I) (hc : A.closure I = Outcome.ok c) (hg : A.goto I X = Outcome.ok J) :
    (findSuperset S J != 0) = true ∧
      (itemsAt cl (findSuperset S J)).all (itemJustified (itemsAt cl (i : Int)) X) = true := by
  obtain rfl := kgoto_eq hAk hc hg
  rcases findSuperset_spec S (advance c X) with hneg | ⟨n, K, hn, hK, hne, hsub, hcore⟩
  · rw [hneg]; simp [itemsAt]
  · rw [hn]
    constructor
    · simp only [bne_iff_ne, ne_eq]
      intro h0
      have h0' : n = 0 := by omega
      subst h0'
      obtain ⟨x, hx⟩ := List.exists_mem_of_ne_nil _ hne
      obtain ⟨i0, _, _, rfl⟩ := mem_advance.mp hx
      have hK0 : S.getD 0 [] = K := by simp [List.getD, hK]
      have := (hS.zero _ (hK0 ▸ hsub _ hx)).2
      simp [Item.next] at this
    · rw [List.all_eq_true]
      intro it hit
      obtain ⟨cK, hcK, _⟩ := hrel.2 n K hK
      have hitc : it ∈ cK := (itemsAt_rows hrel hK hcK it).mp hit
      obtain ⟨hcl1, _, _⟩ := auto_closure_spec h hAg hcK (statesOK_good hS n K hK)
      unfold itemJustified
      rcases hcl1 it hitc with hitK | ⟨_, hf⟩
      · have : it.core ∈ coreOf (advance c X) := (hcore _).mp (mem_coreOf.mpr ⟨it, hitK, rfl⟩)
        obtain ⟨it', hit', hcoreEq⟩ := mem_coreOf.mp this
        obtain ⟨i0, hi0, hd, rfl⟩ := mem_advance.mp hit'
        have hprod : it.prod = i0.prod := by
          have := congrArg Item.prod hcoreEq; simpa [Item.core, Item.next] using this.symm
        have hdot : it.dot = i0.dot + 1 := by
          have := congrArg Item.dot hcoreEq; simpa [Item.core, Item.next] using this.symm
        simp only [Bool.or_eq_true, Bool.and_eq_true, beq_iff_eq, List.any_eq_true]
        right
        refine ⟨?_, i0, (itemsAt_rows hrel hI hc i0).mpr hi0, hprod.symm, hdot.symm⟩
        rw [hprod, hdot]
        simpa [Item.dotSym] using hd
      · simp [hf.1]

end

theorem statesOK_rows {g g' : SGrammar} (h : AugOK g g') {A : Auto} (hAg : A.g = g')
    {S cl : StateMap} (hS : StatesOK g' S) (hrel : RowsRel A g'.start S cl) : StatesOK g' cl := by
  have hit : ∀ (i : Nat) (Ic : List Item), cl[i]? = some Ic → ∃ I, S[i]? = some I ∧ (∀ x ∈ I, x ∈ Ic) ∧
      ∀ it ∈ Ic, Good g' it ∧ (it ∈ I ∨ Fresh0 g' it) := by
    intro i Ic hIc
    obtain ⟨I, c, hI, hc, rfl⟩ := rowsRel_state hrel hIc
    obtain ⟨h1, h2, h3⟩ := auto_closure_spec h hAg hc (statesOK_good hS i I hI)
    refine ⟨I, hI, fun x hx => (mem_sortBy _ _ _).mpr (h2 x hx), fun it hit => ?_⟩
    have hitc := (mem_sortBy _ _ _).mp hit
    exact ⟨h3 it hitc, (h1 it hitc).imp id (·.2)⟩
  obtain ⟨I0, hI0⟩ : ∃ I0, S[0]? = some I0 := by
    cases hS0 : S with
    | nil => exact absurd hS0 hS.ne
    | cons x xs => exact ⟨x, rfl⟩
  obtain ⟨c0, _, hcl0⟩ := hrel.2 0 I0 hI0
  have hS0 : S.getD 0 [] = I0 := by simp [List.getD, hI0]
  have hcl0' : cl.getD 0 [] = sortBy (cmpItem g'.start) c0 := by simp [List.getD, hcl0]
  obtain ⟨I0', hI0', hsub0, hall0⟩ := hit 0 _ hcl0
  cases hI0.symm.trans hI0'
  refine ⟨fun he => by rw [he] at hcl0; simp at hcl0, ?_, ?_, ?_⟩
  · rw [hcl0']
    obtain ⟨x, hx⟩ := List.exists_mem_of_ne_nil _ (hS0 ▸ hS.zeroNe)
    exact List.ne_nil_of_mem (hsub0 x hx)
  · rw [hcl0']
    intro it hit0
    obtain ⟨hg, hor⟩ := hall0 it hit0
    exact ⟨hg, hor.elim (fun hI => (hS.zero it (hS0 ▸ hI)).2) (·.1)⟩
  · intro i Ic hi hIc it hitc
    obtain ⟨I, hI, _, hall⟩ := hit i Ic hIc
    obtain ⟨hg, hor⟩ := hall it hitc
    exact ⟨hg, hor.elim (fun hI' => (hS.others i I hi hI it hI').2) (fun hf hh => hf.2 hh.1)⟩

theorem soundOK_buildLALR {g : SGrammar} (hv : ValidG g) {fuel : Nat} {b : Built}
    (hb : buildLALR g fuel = Outcome.ok b) : soundOK g b = true := by
  obtain ⟨g', K, T, cl, hg', hK, hrows, rfl⟩ := buildLALR_ok hb
  have h := augOK_of_augment hv hg'
  have hAg : (mkAuto g' true true fuel).g = g' := rfl
  have hS := stateMap_spec (isInitial_initialItem h hAg) (Lalr.lalrKernels_spec h hK)
  obtain ⟨hfill, hrel⟩ := lalrRows_spec hAg hrows
  refine soundOK_of_prov h (statesOK_rows h hAg hS hrel) ?_ ?_ (fillRel_prov hfill)
  · rintro i c ⟨I, hI, hc⟩ it hit
    exact (itemsAt_rows hrel hI hc it).mpr hit
  · rintro i X j ⟨I, J, hI, hJ, rfl⟩
    obtain ⟨c, hc, _⟩ := hrel.2 i I hI
    exact trans_okL h hAg rfl hS hrel hI hc hJ

theorem soundOK_build {k : Kind} {g : SGrammar} (hv : ValidG g) {fuel : Nat} {b : Built}
    (hb : build k g fuel = Outcome.ok b) : soundOK g b = true := by
  cases k with
  | slr => exact soundOK_buildSLR hv hb
  | lalr => exact soundOK_buildLALR hv hb
  | lr1 => exact soundOK_buildLR1 hv hb

end AlgoVerif.C11.Built
