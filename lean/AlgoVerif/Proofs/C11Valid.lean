import AlgoVerif.Proofs.C11Fill
/-!
# C11 — the SLR(1) and canonical LR(1) builders of the Model always produce a table that passes `soundOK`

(for every well-formed grammar and every amount of fuel with which the builder returns at all).  The validator's six
checks are read off the provenance of the entries once, for any fill (`soundOK_of_prov`; lookaheads play no part); a
construction supplies the shape of its states and that its transitions are justified (`trans_ok`).  The LALR(1) builder
gets the same from `soundOK_of_prov` in `C11LalrValid`.
-/
namespace AlgoVerif.C11.Built
open AlgoVerif AlgoVerif.Gram AlgoVerif.C11 AlgoVerif.C11.Spec

theorem soundOK_of_prov {g g' : SGrammar} (h : AugOK g g') {states : StateMap} (hS : StatesOK g' states) {T : Table}
    {reduceOn : Item → List String} {Rw : Nat → List Item → Prop} {Tg : Nat → Sy → Int → Prop}
    (hrow : ∀ i c, Rw i c → ∀ it ∈ c, it ∈ itemsAt states (i : Int))
    (htrans : ∀ i X j, Tg i X j →
      (j != 0) = true ∧ (itemsAt states j).all (itemJustified (itemsAt states (i : Int)) X) = true)
    (hprov : Prov (ActSrc g'.start reduceOn Rw Tg) (GotoSrc Tg) T) :
    soundOK g { start := g'.start, states := states, table := T } = true := by
  have hgood : ∀ i c, Rw i c → ∀ it ∈ c, Good g' it := by
    intro i c hc it hit
    obtain ⟨I, hI, hitI⟩ := mem_itemsAt.mp (hrow i c hc it hit)
    exact statesOK_good hS i I hI it hitI
  unfold soundOK soundChecks
  simp only [List.all_cons, List.all_nil, Bool.and_true, Bool.and_eq_true]
  refine ⟨?_, ?_, ?_, ?_, ?_, chkFresh_of_aug h⟩
  · unfold chkTransitions
    rw [List.all_eq_true]
    intro tr htr
    unfold transitions at htr
    simp only [Bool.and_eq_true]
    rcases List.mem_append.mp htr with h1 | h1
    · rw [List.mem_flatMap] at h1
      obtain ⟨e, he, h2⟩ := h1
      rw [List.mem_filterMap] at h2
      obtain ⟨act, hact, h3⟩ := h2
      cases act with
      | shift t =>
        simp only [Option.some.injEq] at h3
        subst h3
        obtain ⟨i, c, hs, _, _, ht⟩ := hprov.1 e he _ hact
        rw [hs]
        exact htrans i _ t ht
      | reduce p => simp at h3
      | accept => simp at h3
    · rw [List.mem_map] at h1
      obtain ⟨e, he, rfl⟩ := h1
      obtain ⟨i, hs, ht⟩ := hprov.2 e he
      rw [hs]
      exact htrans i _ _ ht
  · unfold chkReduces
    rw [List.all_eq_true]
    intro e he
    rw [List.all_eq_true]
    intro act hact
    cases act with
    | shift t => rfl
    | accept => rfl
    | reduce p =>
      obtain ⟨i, c, hs, hc, item, hitem, hp, hcomp, hfin, _⟩ := hprov.1 e he _ hact
      have hg := hgood i c hc item hitem
      have hne : item.prod.head ≠ g'.start := by
        intro hh
        simp [Item.isFinal, hh, hcomp, hg.2 hh] at hfin
      simp only [Bool.and_eq_true, List.contains_iff_mem, List.any_eq_true, beq_iff_eq]
      refine ⟨hp ▸ mem_of_head_ne h hg.1 hne, item, hs ▸ hrow i c hc item hitem, hp, ?_⟩
      rw [← hp]; simpa [Item.isComplete] using hcomp
  · unfold chkAccepts
    rw [List.all_eq_true]
    intro e he
    rw [List.all_eq_true]
    intro act hact
    cases act with
    | shift t => rfl
    | reduce p => rfl
    | accept =>
      obtain ⟨i, c, hs, hc, ha, item, hitem, hfin⟩ := hprov.1 e he _ hact
      have hg := hgood i c hc item hitem
      simp only [Item.isFinal, Bool.and_eq_true, beq_iff_eq, Item.isComplete] at hfin
      have hpe := eq_startProd h hg.1 hfin.1.1
      simp only [Bool.and_eq_true, beq_iff_eq, List.any_eq_true]
      refine ⟨ha, item, hs ▸ hrow i c hc item hitem, hpe, ?_⟩
      rw [hfin.1.2, hpe]; rfl
  · unfold chkInitial
    simp only [Bool.and_eq_true, List.all_eq_true, beq_iff_eq, List.mem_range, Bool.or_eq_true,
      Bool.not_eq_true', Bool.and_eq_false_iff, beq_eq_false_iff_ne, ne_eq]
    constructor
    · intro it hit
      exact (hS.zero it (itemsAt_nat states 0 ▸ hit)).2
    · intro i hi
      by_cases hi0 : i = 0
      · exact Or.inl hi0
      · right
        intro it hit
        obtain ⟨I, hI, hitI⟩ := mem_itemsAt.mp hit
        have := (hS.others i I (by omega) hI it hitI).2
        by_cases hh : it.prod.head = g'.start
        · exact Or.inr (fun hd => this ⟨hh, hd⟩)
        · exact Or.inl hh
  · unfold chkNoShiftEnd
    rw [List.all_eq_true]
    intro e he
    simp only [Bool.or_eq_true, Bool.not_eq_true', beq_eq_false_iff_ne, ne_eq, List.all_eq_true]
    by_cases hend : e.1.2 = endmarker
    · right
      intro act hact
      cases act with
      | reduce p => rfl
      | accept => rfl
      | shift t =>
        exfalso
        obtain ⟨i, c, _, hc, ⟨item, hitem, hd⟩, _⟩ := hprov.1 e he _ hact
        exact body_no_end h (hgood i c hc item hitem).1 (hend ▸ dotSym_mem hd)
    · exact Or.inl hend

section
variable {g g' : SGrammar} (h : AugOK g g') {A : Auto} (hAg : A.g = g') (hAk : A.kernel = false)
include h hAg hAk

theorem trans_ok {S : StateMap} (hS : StatesOK g' S) {i : Nat} {I J : List Item} {X : Sy}
    (hI : S[i]? = some I) (hg : A.goto I X = Outcome.ok J) :
    (findItemSet S J != 0) = true ∧
      (itemsAt S (findItemSet S J)).all (itemJustified (itemsAt S (i : Int)) X) = true := by
  obtain ⟨h1, _, h4⟩ := goto_spec h hAg hAk hg (statesOK_good hS i I hI)
  rw [itemsAt_of_get hI]
  rcases findItemSet_spec S J with hneg | ⟨n, K, hn, hK, hsame⟩
  · rw [hneg]; simp [itemsAt]
  · rw [hn, itemsAt_of_get hK]
    constructor
    · -- n ≠ 0: state 0 is non-empty and all its dots are at the left end
      simp only [bne_iff_ne, ne_eq]
      intro h0
      have h0' : n = 0 := by omega
      subst h0'
      have hK0 : S.getD 0 [] = K := by simp [List.getD, hK]
      by_cases hadv : advance I X = []
      · have := h4 hadv
        subst this
        have : K = [] := by
          cases K with
          | nil => rfl
          | cons k ks => exact absurd ((hsame k).mp (by simp)) (by simp)
        exact hS.zeroNe (hK0 ▸ this)
      · obtain ⟨it, hit⟩ := List.exists_mem_of_ne_nil _ hadv
        obtain ⟨i0, hi0, hd, rfl⟩ := mem_advance.mp hit
        have hin : i0.next ∈ K := (hsame _).mpr (goto_next hAk hg hi0 hd)
        have := (hS.zero _ (hK0 ▸ hin)).2
        simp [Item.next] at this
    · rw [List.all_eq_true]
      intro it hit
      have hitJ := (hsame it).mp hit
      unfold itemJustified
      rcases h1 it hitJ with ⟨i0, hi0, hd, rfl⟩ | ⟨_, hf⟩
      · simp only [Bool.or_eq_true, Bool.and_eq_true, beq_iff_eq, List.any_eq_true]
        right
        refine ⟨?_, i0, hi0, rfl, rfl⟩
        simpa [Item.next, Item.dotSym] using hd
      · simp [hf.1]

theorem soundOK_of_fill {C : List (List Item)} (hc : A.canonical = Outcome.ok C)
    (reduceOn : Item → List String) {T : Table}
    (hT : fillFull A (buildStateMap g'.start C) reduceOn = Outcome.ok T) :
    soundOK g { start := g'.start, states := buildStateMap g'.start C, table := T } = true := by
  have hS := stateMap_spec (isInitial_initialItem h hAg) (canonical_spec h hAg hAk hc)
  have hprov := fillRel_prov (fillRel_of_fillFull hT)
  rw [hAg] at hprov
  refine soundOK_of_prov h hS ?_ ?_ hprov
  · rintro i c ⟨I, hI, hc⟩ it hit
    cases pure_eq_ok hc
    rw [itemsAt_of_get hI]; exact hit
  · rintro i X j ⟨I, J, hI, hJ, rfl⟩
    exact trans_ok h hAg hAk hS hI hJ

end

variable {g : SGrammar} {fuel : Nat} {b : Built}

theorem buildSLR_ok (hb : buildSLR g fuel = Outcome.ok b) :
    ∃ g' C T, augment g = Outcome.ok g' ∧ (mkAuto g' false false fuel).canonical = Outcome.ok C ∧
      fillFull (mkAuto g' false false fuel) (buildStateMap g'.start C)
        (fun item => envGet (followEnv g' (nullableOf g') (firstEnv g' (nullableOf g'))) item.prod.head) = Outcome.ok T ∧
      b = { start := g'.start, states := buildStateMap g'.start C, table := T } := by
  unfold buildSLR at hb
  obtain ⟨g', hg', hb1⟩ := bind_eq_ok hb
  obtain ⟨C, hC, hb2⟩ := bind_eq_ok hb1
  obtain ⟨T, hT, hb3⟩ := bind_eq_ok hb2
  exact ⟨g', C, T, hg', hC, hT, (pure_eq_ok hb3).symm⟩

theorem buildLR1_ok (hb : buildLR1 g fuel = Outcome.ok b) :
    ∃ g' C T, augment g = Outcome.ok g' ∧ (mkAuto g' true false fuel).canonical = Outcome.ok C ∧
      fillFull (mkAuto g' true false fuel) (buildStateMap g'.start C)
        (fun item => match item.la with | some a => [a] | none => []) = Outcome.ok T ∧
      b = { start := g'.start, states := buildStateMap g'.start C, table := T } := by
  unfold buildLR1 at hb
  obtain ⟨g', hg', hb1⟩ := bind_eq_ok hb
  obtain ⟨C, hC, hb2⟩ := bind_eq_ok hb1
  obtain ⟨T, hT, hb3⟩ := bind_eq_ok hb2
  exact ⟨g', C, T, hg', hC, hT, (pure_eq_ok hb3).symm⟩

theorem buildLALR_ok (hb : buildLALR g fuel = Outcome.ok b) :
    ∃ g' K T cl, augment g = Outcome.ok g' ∧ lalrKernels g' fuel = Outcome.ok K ∧
      buildLALR.rows g' (mkAuto g' true true fuel) (buildStateMap g'.start K) (buildStateMap g'.start K) 0
        { nstates := (buildStateMap g'.start K).length, actions := [], gotos := [] } [] = Outcome.ok (T, cl) ∧
      b = { start := g'.start, states := cl, table := T } := by
  unfold buildLALR at hb
  obtain ⟨g', hg', hb1⟩ := bind_eq_ok hb
  obtain ⟨K, hK, hb2⟩ := bind_eq_ok hb1
  obtain ⟨⟨T, cl⟩, hrows, hb3⟩ := bind_eq_ok hb2
  exact ⟨g', K, T, cl, hg', hK, hrows, (pure_eq_ok hb3).symm⟩

theorem soundOK_buildSLR (hv : ValidG g) (hb : buildSLR g fuel = Outcome.ok b) : soundOK g b = true := by
  obtain ⟨g', C, T, hg', hC, hT, rfl⟩ := buildSLR_ok hb
  exact soundOK_of_fill (augOK_of_augment hv hg') (A := mkAuto g' false false fuel) rfl rfl hC _ hT

theorem soundOK_buildLR1 (hv : ValidG g) (hb : buildLR1 g fuel = Outcome.ok b) : soundOK g b = true := by
  obtain ⟨g', C, T, hg', hC, hT, rfl⟩ := buildLR1_ok hb
  exact soundOK_of_fill (augOK_of_augment hv hg') (A := mkAuto g' true false fuel) rfl rfl hC _ hT

end AlgoVerif.C11.Built
