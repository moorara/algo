import AlgoVerif.Proofs.C10Nullable
/-! `ComputeFIRST`: the table it returns is the least family closed under the FIRST rules, for every
iteration order, and the sets "terminals that can begin a sentential form derived from X" / "X ⇒* ε"
are that least family too.  One production step of the loop is one update `FIRST(head) ∪= FIRST(body)`
(`firstProd_eq`), so closure, leastness and progress (`Prog`, what the termination proof counts) are
statements about that update (`addF`). -/
set_option linter.unusedSectionVars false
namespace AlgoVerif.C10
open AlgoVerif AlgoVerif.Gram
variable {T N : Type} [DecidableEq T] [DecidableEq N]
variable {g : Grammar T N} {F : N → T → Prop} {E : N → Prop} {st : N → TE T} {o : IterOrder T N}

def symF (F : N → T → Prop) : Sym T N → T → Prop
  | .term t, a => a = t
  | .nonterm n, a => F n a

def strF (F : N → T → Prop) (E : N → Prop) : List (Sym T N) → T → Prop
  | [], _ => False
  | s :: rest, a => symF F s a ∨ (symE E s ∧ strF F E rest a)

def FirstClosed (g : Grammar T N) (F : N → T → Prop) (E : N → Prop) : Prop :=
  ∀ p, p ∈ g.prods → (∀ a, strF F E p.body a → F p.head a) ∧ (strE E p.body → E p.head)

theorem FirstClosed.nul (h : FirstClosed g F E) : NulClosed g E := fun p hp => (h p hp).2

theorem symF_mono {F F' : N → T → Prop} (hF : ∀ n a, F n a → F' n a) {s : Sym T N} {a : T}
    (h : symF F s a) : symF F' s a := by
  cases s with
  | term t => exact h
  | nonterm n => exact hF n a h

theorem strF_mono {F F' : N → T → Prop} {E E' : N → Prop} (hF : ∀ n a, F n a → F' n a)
    (hE : ∀ n, E n → E' n) {α : List (Sym T N)} {a : T} (h : strF F E α a) : strF F' E' α a := by
  induction α with
  | nil => exact h
  | cons s rest ih =>
    rcases h with h | ⟨h1, h2⟩
    · exact Or.inl (symF_mono hF h)
    · exact Or.inr ⟨symE_mono hE h1, ih h2⟩

theorem strF_append {F : N → T → Prop} {E : N → Prop} {α β : List (Sym T N)} {a : T} :
    strF F E (α ++ β) a ↔ strF F E α a ∨ (strE E α ∧ strF F E β a) := by
  induction α with
  | nil => simp [strF, strE]
  | cons s rest ih =>
    simp only [List.cons_append, strF, strE, ih]
    constructor
    · rintro (h | ⟨h1, h2 | ⟨h2, h3⟩⟩)
      · exact Or.inl (Or.inl h)
      · exact Or.inl (Or.inr ⟨h1, h2⟩)
      · exact Or.inr ⟨⟨h1, h2⟩, h3⟩
    · rintro ((h | ⟨h1, h2⟩) | ⟨⟨h1, h2⟩, h3⟩)
      · exact Or.inl h
      · exact Or.inr ⟨h1, Or.inl h2⟩
      · exact Or.inr ⟨h1, Or.inr ⟨h2, h3⟩⟩

theorem strE_append {E : N → Prop} {α β : List (Sym T N)} :
    strE E (α ++ β) ↔ strE E α ∧ strE E β := by
  induction α with
  | nil => simp [strE]
  | cons s rest ih => simp only [List.cons_append, strE, ih, and_assoc]

/-- the Spec's FIRST sets as a family over the non-terminals (its ε-half is `Spec.Nullable g`) -/
def specF (g : Grammar T N) : N → T → Prop := fun n a => Spec.First g [Sym.nonterm n] a

theorem spec_strF {α : List (Sym T N)} {a : T} (h : strF (specF g) (Spec.Nullable g) α a) :
    Spec.First g α a := by
  induction α with
  | nil => cases h
  | cons s rest ih =>
    rcases h with h | ⟨h1, h2⟩
    · cases s with
      | term t =>
        have : a = t := h
        subst this
        exact ⟨rest, Derives.refl _⟩
      | nonterm n =>
        obtain ⟨β, hβ⟩ := (h : Spec.First g [Sym.nonterm n] a)
        refine ⟨β ++ rest, ?_⟩
        have := hβ.append_right rest
        simpa using this
    · cases s with
      | term t => cases h1
      | nonterm n =>
        have hn : Derives g [Sym.nonterm n] [] := h1
        obtain ⟨β, hβ⟩ := ih h2
        refine ⟨β, ?_⟩
        have := (hn.append_right rest).trans (by simpa using hβ)
        simpa using this

theorem spec_first_closed (g : Grammar T N) : FirstClosed g (specF g) (Spec.Nullable g) := by
  intro p hp
  constructor
  · intro a h
    obtain ⟨β, hβ⟩ := spec_strF h
    exact ⟨β, (Derives.of_prod hp).trans hβ⟩
  · intro h
    exact (Derives.of_prod hp).trans (spec_strE h)

theorem spec_first_least (hc : FirstClosed g F E) :
    ∀ n (α : List (Sym T N)) (a : T) (β : List (Sym T N)),
      DerivesN g n α (Sym.term a :: β) → strF F E α a := by
  intro n
  induction n using Nat.strongRecOn with
  | _ n ih =>
    intro α a β h
    cases α with
    | nil => have := h.of_nil.1; simp at this
    | cons s α' =>
      cases s with
      | term t =>
        obtain ⟨_, hγ, _⟩ := h.of_term_cons
        exact Or.inl (Sym.term.inj (List.cons.inj hγ).1)
      | nonterm A =>
        obtain ⟨p, k, n₂, γ₁, γ₂, hp, rfl, rfl, hγ, dp, d₂⟩ := h.of_nonterm_cons nofun
        cases γ₁ with
        | nil =>
          -- the head symbol vanishes
          cases hγ
          exact Or.inr ⟨(hc p hp).2 (spec_eps_least hc.nul _ _ dp), ih n₂ (by omega) _ _ _ d₂⟩
        | cons c γ₁' =>
          cases (List.cons.inj hγ).1
          exact Or.inl ((hc p hp).1 a (ih k (by omega) _ _ _ dp))

/-- the family a table stands for -/
def Fst (st : N → TE T) : N → T → Prop := fun n a => a ∈ (st n).terms
def Est (st : N → TE T) : N → Prop := fun n => (st n).eps = true

theorem symF_Fst {s : Sym T N} {a : T} :
    symF (Fst st) s a ↔ a ∈ (firstSym st s).terms := by
  cases s with
  | term t => simp [symF, firstSym]
  | nonterm n => simp [symF, firstSym, Fst]

theorem symE_Est {s : Sym T N} : symE (Est st) s ↔ (firstSym st s).eps = true := by
  cases s with
  | term t => simp [symE, firstSym]
  | nonterm n => simp [symE, firstSym, Est]

theorem firstStrAux_acc (st : N → TE T) (α : List (Sym T N)) (acc : List T) :
    firstStrAux st α acc = ⟨union acc (firstStr st α).terms, (firstStr st α).eps⟩ := by
  induction α generalizing acc with
  | nil => rfl
  | cons Y rest ih =>
    unfold firstStr
    simp only [firstStrAux]
    split
    · rw [ih, ih (union [] _), union_assoc, union_assoc acc []]; rfl
    · rw [union_assoc]; rfl

theorem firstStr_cons (st : N → TE T) (Y : Sym T N) (rest : List (Sym T N)) :
    firstStr st (Y :: rest) =
      if (firstSym st Y).eps then
        ⟨union (union [] (firstSym st Y).terms) (firstStr st rest).terms, (firstStr st rest).eps⟩
      else ⟨union [] (firstSym st Y).terms, false⟩ := by
  rw [firstStr, firstStrAux, firstStrAux_acc]

theorem firstStr_spec (st : N → TE T) (α : List (Sym T N)) :
    (∀ a, a ∈ (firstStr st α).terms ↔ strF (Fst st) (Est st) α a) ∧
    ((firstStr st α).eps = true ↔ strE (Est st) α) := by
  induction α with
  | nil => simp [firstStr, firstStrAux, strF, strE]
  | cons s rest ih =>
    rw [firstStr_cons]
    split <;> simp [mem_union, strF, strE, symF_Fst, symE_Est, *]

theorem mem_firstStr {α : List (Sym T N)} {a : T} :
    a ∈ (firstStr st α).terms ↔ strF (Fst st) (Est st) α a := (firstStr_spec st α).1 a

theorem eps_firstStr {α : List (Sym T N)} :
    (firstStr st α).eps = true ↔ strE (Est st) α := (firstStr_spec st α).2

/-- `FIRST(X) ∪= f`: the one update `ComputeFIRST` makes, with the flag it raises -/
def addF (X : N) (f : TE T) (s : (N → TE T) × Bool) : (N → TE T) × Bool :=
  (upd s.1 X ⟨union (s.1 X).terms f.terms, (s.1 X).eps || f.eps⟩,
   (s.2 || decide ((union (s.1 X).terms f.terms).length > (s.1 X).terms.length)) || (f.eps && !(s.1 X).eps))

/-- `firstBody` reads `firstBySymbol[Y]` from the table it is updating.  While the set of `X` is being
accumulated in `acc`, that adds to `acc` what the table at entry would add: for `Y = X` both are inside `acc` -/
theorem firstSym_live {X : N} {acc : List T} (hacc : ∀ a, a ∈ (st X).terms → a ∈ acc) (Y : Sym T N) :
    (firstSym (upd st X ⟨acc, (st X).eps⟩) Y).eps = (firstSym st Y).eps ∧
    union acc (firstSym (upd st X ⟨acc, (st X).eps⟩) Y).terms = union acc (firstSym st Y).terms := by
  cases Y with
  | term t => exact ⟨rfl, rfl⟩
  | nonterm n =>
    by_cases h : n = X
    · subst h
      simp only [firstSym, upd_same, true_and]
      exact (union_eq_self fun _ h => h).trans (union_eq_self hacc).symm
    · simp only [firstSym, upd_other _ _ h, and_self]

/-- two successive "`Size()` grew" tests amount to one -/
theorem grew_trans {a b c : Nat} (u : Bool) (h1 : a ≤ b) (h2 : b ≤ c) :
    ((u || decide (b > a)) || decide (c > b)) = (u || decide (c > a)) := by
  rw [Bool.or_assoc, ← Bool.decide_or, decide_eq_decide.2 (show b > a ∨ c > b ↔ c > a by omega)]

theorem firstBody_acc (X : N) (st : N → TE T) (body : List (Sym T N)) (acc : List T) (u : Bool)
    (hacc : ∀ a, a ∈ (st X).terms → a ∈ acc) :
    firstBody X body (upd st X ⟨acc, (st X).eps⟩) u =
      (upd st X ⟨(firstStrAux st body acc).terms, (st X).eps⟩,
       u || decide ((firstStrAux st body acc).terms.length > acc.length), (firstStrAux st body acc).eps) := by
  induction body generalizing acc u with
  | nil => simp [firstBody, firstStrAux]
  | cons Y rest ih =>
    obtain ⟨he, ht⟩ := firstSym_live hacc Y
    rw [firstBody, firstStrAux]
    simp only [upd_same, upd_upd, he, ht]
    split
    · rw [ih _ _ fun a ha => mem_union.2 (Or.inl (hacc a ha)), grew_trans u (length_le_union ..)]
      rw [firstStrAux_acc]
      exact length_le_union ..
    · rfl

theorem firstProd_eq (p : GProd T N) (s : (N → TE T) × Bool) :
    firstProd p s.1 s.2 = addF p.head (firstStr s.1 p.body) s := by
  unfold firstProd addF
  split
  · rename_i h
    rw [List.isEmpty_iff.1 h]
    simp [firstStr, firstStrAux, union]
  · have := firstBody_acc p.head s.1 p.body _ s.2 fun _ h => h
    rw [show upd s.1 p.head ⟨_, _⟩ = s.1 from upd_self s.1 p.head] at this
    simp only [this, firstStrAux_acc, upd_same, upd_upd]

theorem firstPass_eq_foldl (ps : List (GProd T N)) (s : (N → TE T) × Bool) :
    firstPass ps s = ps.foldl (fun s p => addF p.head (firstStr s.1 p.body) s) s := by
  induction ps generalizing s with
  | nil => rfl
  | cons p ps ih => rw [List.foldl_cons, ← ih, ← firstProd_eq]; rfl

theorem firstLoop_eq_gen (g : Grammar T N) (o : IterOrder T N) (fuel i : Nat) (st : N → TE T) :
    firstLoop g o fuel i st = genLoop (fun i st => firstPass (passProds g o i) (st, false)) fuel i st := by
  induction fuel generalizing i st with
  | zero => rfl
  | succ fuel ih => simp only [firstLoop, genLoop, ih]

theorem addF_honest (X : N) (f : (N → TE T) → TE T) :
    Honest (fun s => addF X (f s.1) s) fun st =>
      (∀ a, a ∈ (f st).terms → a ∈ (st X).terms) ∧ ((f st).eps = true → (st X).eps = true) := by
  rintro ⟨st, u⟩ h
  simp only [addF, Bool.or_eq_false_iff, decide_eq_false_iff_not] at h ⊢
  obtain ⟨⟨hu, hlen⟩, he⟩ := h
  have heps : (f st).eps = true → (st X).eps = true := by
    intro h1; rw [h1] at he; simpa using he
  refine ⟨hu, ?_, subset_of_union_length hlen, heps⟩
  rw [union_eq_self_of_length hlen, Bool.or_eq_left_iff_imp.2 heps]
  exact upd_self st X

def Below (st : N → TE T) (F : N → T → Prop) (E : N → Prop) : Prop :=
  (∀ n a, a ∈ (st n).terms → F n a) ∧ (∀ n, (st n).eps = true → E n)

theorem Below.upd (hb : Below st F E)
    {X : N} {ts : List T} {e : Bool} (h1 : ∀ a, a ∈ ts → F X a) (h2 : e = true → E X) :
    Below (upd st X ⟨ts, e⟩) F E := by
  constructor
  · intro n a ha
    unfold C10.upd at ha
    split at ha
    · rename_i hn; subst hn; exact h1 a ha
    · exact hb.1 n a ha
  · intro n hn
    unfold C10.upd at hn
    split at hn
    · rename_i hx; subst hx; exact h2 hn
    · exact hb.2 n hn

theorem Below.addF {s : (N → TE T) × Bool} (hb : Below s.1 F E) {X : N} {f : TE T}
    (h1 : ∀ a, a ∈ f.terms → F X a) (h2 : f.eps = true → E X) : Below (C10.addF X f s).1 F E :=
  hb.upd (fun a ha => (mem_union.1 ha).elim (hb.1 X a) (h1 a))
    fun h => (Bool.or_eq_true_iff.1 h).elim (hb.2 X) h2

theorem firstPass_sound (hc : FirstClosed g F E)
    {ps : List (GProd T N)} (hps : ∀ p, p ∈ ps → p ∈ g.prods) {s : (N → TE T) × Bool}
    (hb : Below s.1 F E) : Below (firstPass ps s).1 F E := by
  rw [firstPass_eq_foldl]
  refine List.foldlRecOn _ _ (motive := fun s : (N → TE T) × Bool => Below s.1 F E) hb fun s hs p hp => ?_
  obtain ⟨c1, c2⟩ := hc p (hps p hp)
  exact hs.addF (fun a ha => c1 a (strF_mono hs.1 hs.2 (mem_firstStr.1 ha)))
    fun he => c2 (strE_mono hs.2 (eps_firstStr.1 he))

section
variable {R : N → TE T} (ho : o.Fair) (h : computeFirst g o = .ok R)
include ho h

theorem computeFirst_closed : FirstClosed g (Fst R) (Est R) := by
  rw [computeFirst, firstLoop_eq_gen] at h
  obtain ⟨j, st, hj⟩ := genLoop_last _ _ _ _ h
  obtain ⟨_, hs, hq⟩ := Honest.of_foldl (firstPass_eq_foldl _) (fun p _ => addF_honest p.head (firstStr · p.body))
    (st, false) (congrArg Prod.snd hj)
  cases hs.symm.trans (congrArg Prod.fst hj)
  intro p hp
  obtain ⟨q1, q2⟩ := hq p ((mem_passProds_iff ho j).2 hp)
  exact ⟨fun a ha => q1 a (mem_firstStr.2 ha), fun he => q2 (eps_firstStr.2 he)⟩

theorem computeFirst_least (hc : FirstClosed g F E) : Below R F E := by
  rw [computeFirst, firstLoop_eq_gen] at h
  have h0 : Below (fun _ : N => (⟨[], false⟩ : TE T)) F E := ⟨fun _ _ => nofun, fun _ => nofun⟩
  refine genLoop_inv (P := fun st => Below st F E) (fun i st hb => ?_) _ _ _ _ h0 h
  exact firstPass_sound (s := (st, false)) hc (fun p hp => (mem_passProds_iff ho i).1 hp) hb

theorem first_exact_terms (α : List (Sym T N)) (a : T) :
    a ∈ (firstStr R α).terms ↔ Spec.First g α a := by
  rw [mem_firstStr]
  constructor
  · intro hm
    have hb := computeFirst_least ho h (spec_first_closed g)
    exact spec_strF (strF_mono hb.1 hb.2 hm)
  · intro hs
    obtain ⟨β, hβ⟩ := hs
    obtain ⟨n, hn⟩ := hβ.toDerivesN
    exact spec_first_least (computeFirst_closed ho h) n α a β hn

theorem first_exact_eps (α : List (Sym T N)) :
    (firstStr R α).eps = true ↔ Spec.Eps g α := by
  rw [eps_firstStr]
  constructor
  · intro hm
    have hb := computeFirst_least ho h (spec_first_closed g)
    exact spec_strE (strE_mono hb.2 hm)
  · intro hs
    obtain ⟨n, hn⟩ := Derives.toDerivesN hs
    exact spec_eps_least (computeFirst_closed ho h).nul _ _ hn

end

/-! ### progress: a table as a Boolean family on (non-terminal, terminal) pairs and one flag per non-terminal -/

def firstView (st : N → TE T) : (N × T) ⊕ N → Bool
  | .inl (n, a) => decide (a ∈ (st n).terms)
  | .inr n => (st n).eps

theorem addF_prog (X : N) (f : TE T) (s : (N → TE T) × Bool) : Prog firstView s (addF X f s) := by
  obtain ⟨st, u⟩ := s
  constructor
  · intro x hx
    dsimp only [addF] at hx ⊢
    cases x with
    | inl na =>
      obtain ⟨n, a⟩ := na
      simp only [firstView, decide_eq_true_eq] at hx ⊢
      by_cases h : n = X
      · subst h; rw [upd_same]; exact mem_union.2 (Or.inl hx)
      · rw [upd_other _ _ h]; exact hx
    | inr n =>
      simp only [firstView] at hx ⊢
      by_cases h : n = X
      · subst h; rw [upd_same]; simp [hx]
      · rw [upd_other _ _ h]; exact hx
  · intro hb
    dsimp only [addF] at hb ⊢
    simp only [Bool.or_eq_true, Bool.and_eq_true, Bool.not_eq_true', decide_eq_true_eq] at hb
    rcases hb with (hb | hb) | ⟨he, hne⟩
    · exact Or.inl hb
    · obtain ⟨x, hx1, hx2⟩ := exists_new_of_union_length hb
      refine Or.inr ⟨Sum.inl (X, x), ?_, decide_eq_false hx2⟩
      simp only [firstView, decide_eq_true_eq]; rw [upd_same]; exact mem_union.2 (Or.inr hx1)
    · refine Or.inr ⟨Sum.inr X, ?_, hne⟩
      simp only [firstView]; rw [upd_same]; simp [he]

theorem firstPass_prog (ps : List (GProd T N)) (s : (N → TE T) × Bool) :
    Prog firstView s (firstPass ps s) := by
  rw [firstPass_eq_foldl]
  exact Prog.foldl (fun p _ t => addF_prog p.head _ t) s

end AlgoVerif.C10
