import AlgoVerif.Proofs.C11Check
/-!
# C11 — facts about `resolveConflict` / `ResolveConflicts` (Model)

* `resolveConflict` never panics on a non-empty action list, whatever the iteration order (the D18 patch);
* the table after `resolveAll` has the GOTO part unchanged and every cell is a subset of a raw cell
  (so a validated raw table stays valid).
-/
namespace AlgoVerif.C11.Sound
open AlgoVerif AlgoVerif.Gram AlgoVerif.C11 AlgoVerif.C11.Spec

theorem precedenceOf_eq_some_iff (ls : List Level) (h : Handle) (i : Nat) (as : Assoc) :
    precedenceOf ls h = some (i, as) ↔
      ∃ l, ls[i]? = some l ∧ h ∈ l.handles ∧ l.assoc = as ∧ ∀ k, k < i → ∀ m, ls[k]? = some m → h ∉ m.handles := by
  induction ls generalizing i with
  | nil => simp [precedenceOf]
  | cons l ls ih =>
    rw [precedenceOf]
    by_cases hm : h ∈ l.handles
    ·
      rw [if_pos hm]
      cases i with
      | zero => simp [hm]
      | succ i =>
        constructor
        · intro h0; simp at h0
        · rintro ⟨_, _, _, _, hfirst⟩
          exact absurd hm (hfirst 0 (Nat.succ_pos _) l rfl)
    · rw [if_neg hm]
      cases i with
      | zero =>
        constructor
        · intro h0; cases hp : precedenceOf ls h <;> simp [hp] at h0
        · rintro ⟨l', hl', hmem, _⟩
          simp at hl'; subst hl'; exact absurd hmem hm
      | succ i =>
        have hshift : (∀ k, k < i + 1 → ∀ m, (l :: ls)[k]? = some m → h ∉ m.handles) ↔
            ∀ k, k < i → ∀ m, ls[k]? = some m → h ∉ m.handles := by
          constructor
          · intro H k hk m hkm
            exact H (k + 1) (by omega) m (by simpa using hkm)
          · intro H k hk m hkm
            cases k with
            | zero => simp at hkm; subst hkm; exact hm
            | succ k => exact H k (by omega) m (by simpa using hkm)
        simp only [List.getElem?_cons_succ, hshift, ← ih i]
        cases precedenceOf ls h with
        | none => simp
        | some r => obtain ⟨j, a⟩ := r; simp

theorem precedenceOf_none_iff (ls : List Level) (h : Handle) : precedenceOf ls h = none ↔ ∀ l ∈ ls, h ∉ l.handles := by
  induction ls with
  | nil => simp [precedenceOf]
  | cons l ls ih =>
    unfold precedenceOf
    by_cases hm : h ∈ l.handles
    · simp [hm]
    · cases hp : precedenceOf ls h with
      | none => simp [hm, hp] at ih ⊢; exact ih
      | some r => simp [hm, hp] at ih ⊢; exact ih

theorem precedenceOf_assoc (ls : List Level) (h : Handle) (i : Nat) (a : Assoc) (hp : precedenceOf ls h = some (i, a)) :
    ∃ l ∈ ls, l.assoc = a := by
  obtain ⟨l, hl, -, ha, -⟩ := (precedenceOf_eq_some_iff ls h i a).mp hp
  exact ⟨l, List.mem_of_getElem? hl, ha⟩

theorem pairUp_map_fst (a : String) : ∀ (acts : List Action) (ps : List (Action × Handle)),
    pairUp a acts = some ps → ps.map (·.1) = acts
  | [], ps, h => by simp [pairUp] at h; subst h; rfl
  | x :: xs, ps, h => by
    unfold pairUp at h
    cases hh : handleOfAction a x with
    | none => simp [hh] at h
    | some hd =>
      cases hr : pairUp a xs with
      | none => simp [hh, hr] at h
      | some r =>
        simp [hh, hr] at h
        subst h
        simp [pairUp_map_fst a xs r hr]

theorem maxLoop_mem (ls : List Level) : ∀ (ps : List (Action × Handle)) (mx r : Action × Handle),
    maxLoop ls ps mx = some r → r = mx ∨ r ∈ ps
  | [], mx, r, h => by simp [maxLoop] at h; exact Or.inl h.symm
  | p :: ps, mx, r, h => by
    unfold maxLoop at h
    cases hc : compareAH ls p mx with
    | none => simp [hc] at h
    | some c =>
      simp only [hc] at h
      by_cases hpos : c > 0
      · simp only [hpos, if_true] at h
        rcases maxLoop_mem ls ps p r h with h' | h'
        · exact Or.inr (by rw [h']; simp)
        · exact Or.inr (List.mem_cons_of_mem _ h')
      · simp only [hpos, if_false] at h
        rcases maxLoop_mem ls ps mx r h with h' | h'
        · exact Or.inl h'
        · exact Or.inr (List.mem_cons_of_mem _ h')

theorem resolveConflict_no_panic (ls : List Level) (a : String) (acts : List Action) (hne : acts ≠ []) :
    resolveConflict ls a acts ≠ Outcome.panic := by
  unfold resolveConflict
  cases hp : pairUp a acts with
  | none => simp
  | some ps =>
    cases ps with
    | nil =>
      have := pairUp_map_fst a acts [] hp
      simp at this
      exact absurd this hne
    | cons p ps =>
      simp only
      cases maxLoop ls (p :: ps) p <;> simp

theorem resolveConflict_mem (ls : List Level) (a : String) (acts : List Action) (act : Action)
    (h : resolveConflict ls a acts = Outcome.ok (some act)) : act ∈ acts := by
  unfold resolveConflict at h
  cases hp : pairUp a acts with
  | none => simp [hp] at h
  | some ps =>
    rw [hp] at h
    cases ps with
    | nil => simp at h
    | cons p ps =>
      simp only at h
      cases hm : maxLoop ls (p :: ps) p with
      | none => simp [hm] at h
      | some mx =>
        simp only [hm, Outcome.ok.injEq, Option.some.injEq] at h
        have hmap := pairUp_map_fst a acts (p :: ps) hp
        have hmem : mx ∈ p :: ps := by
          rcases maxLoop_mem ls (p :: ps) p mx hm with h' | h'
          · rw [h']; simp
          · exact h'
        rw [← hmap, ← h]
        exact List.mem_map_of_mem hmem

/-- every entry of the table is (a subset of) an entry of `T0` with the same key, and the GOTO part is `T0`'s -/
def Within (T0 T : Table) : Prop :=
  T.gotos = T0.gotos ∧ ∀ e ∈ T.actions, ∃ acts, (e.1, acts) ∈ T0.actions ∧ ∀ x ∈ e.2, x ∈ acts

theorem within_refl (T : Table) : Within T T :=
  ⟨rfl, fun e he => ⟨e.2, he, fun _ hx => hx⟩⟩

theorem within_setCell {T0 T : Table} (h : Within T0 T) (s : Int) (a : String) (act : Action) (acts : List Action)
    (he : ((s, a), acts) ∈ T0.actions) (hact : act ∈ acts) : Within T0 (T.setCell s a [act]) := by
  refine ⟨h.1, ?_⟩
  intro e hmem
  unfold Table.setCell at hmem
  simp only [List.mem_map] at hmem
  obtain ⟨e0, he0, heq⟩ := hmem
  by_cases hk : (e0.1 == (s, a)) = true
  · simp only [hk, if_true] at heq
    subst heq
    have : e0.1 = (s, a) := by simpa using hk
    exact ⟨acts, by rw [this]; exact he, by intro x hx; simp at hx; rw [hx]; exact hact⟩
  · simp only [hk] at heq
    subst heq
    exact h.2 e0 he0

theorem resolveCells_within (ls : List Level) (order : Int → String → List Action → List Action)
    (T0 : Table) (hord : ∀ s a acts x, x ∈ order s a acts → x ∈ acts) :
    ∀ (es : List ((Int × String) × List Action)) (acc res : Table × Verdict),
      (∀ e ∈ es, e ∈ T0.actions) → Within T0 acc.1 →
      resolveCells ls order es acc = Outcome.ok res → Within T0 res.1
  | [], acc, res, _, hw, h => by
    simp only [resolveCells, Outcome.ok.injEq] at h; subst h; exact hw
  | e :: es, acc, res, hes, hw, h => by
    have hes' : ∀ e' ∈ es, e' ∈ T0.actions := fun e' he' => hes e' (List.mem_cons_of_mem _ he')
    unfold resolveCells at h
    by_cases hlen : e.2.length ≤ 1
    · simp only [hlen, if_true] at h
      exact resolveCells_within ls order T0 hord es acc res hes' hw h
    · simp only [hlen, if_false] at h
      cases hr : resolveConflict ls e.1.2 (order e.1.1 e.1.2 e.2) with
      | panic => simp [hr] at h
      | diverge => simp [hr] at h
      | ok o =>
        cases o with
        | none =>
          simp only [hr] at h
          exact resolveCells_within ls order T0 hord es (acc.1, Verdict.conflict) res hes' hw h
        | some act =>
          simp only [hr] at h
          have hact : act ∈ e.2 := hord _ _ _ _ (resolveConflict_mem ls _ _ act hr)
          have he : ((e.1.1, e.1.2), e.2) ∈ T0.actions := hes e (by simp)
          exact resolveCells_within ls order T0 hord es _ res hes'
            (within_setCell hw e.1.1 e.1.2 act e.2 he hact) h

theorem resolveAll_no_panic (ls : List Level) (order : Int → String → List Action → List Action)
    (hord : ∀ s a acts, acts ≠ [] → order s a acts ≠ []) (T : Table) :
    resolveAll ls order T ≠ Outcome.panic := by
  unfold resolveAll
  split
  · simp
  · suffices h : ∀ (es : List ((Int × String) × List Action)) (acc : Table × Verdict),
        resolveCells ls order es acc ≠ Outcome.panic from h _ _
    intro es
    induction es with
    | nil => intro acc; simp [resolveCells]
    | cons e es ih =>
      intro acc
      unfold resolveCells
      split
      · exact ih acc
      · rename_i hlen
        have hne : e.2 ≠ [] := by
          intro h; rw [h] at hlen; simp at hlen
        have := resolveConflict_no_panic ls e.1.2 (order e.1.1 e.1.2 e.2) (hord _ _ _ hne)
        cases hr : resolveConflict ls e.1.2 (order e.1.1 e.1.2 e.2) with
        | panic => exact absurd hr this
        | diverge => simp
        | ok o => cases o <;> simp <;> exact ih _

theorem resolveAll_within (ls : List Level) (order : Int → String → List Action → List Action)
    (T0 : Table) (hord : ∀ s a acts x, x ∈ order s a acts → x ∈ acts) (res : Table × Verdict)
    (h : resolveAll ls order T0 = Outcome.ok res) : Within T0 res.1 := by
  unfold resolveAll at h
  by_cases hl : levelsOK ls = true
  · simp only [hl, Bool.not_true, Bool.false_eq_true, if_false] at h
    exact resolveCells_within ls order T0 hord T0.actions _ res (fun _ he => he) (within_refl T0) h
  · simp only [hl, Bool.not_false, if_true, Outcome.ok.injEq] at h
    subst h; exact within_refl T0

theorem soundTable_of_within (g : SGrammar) (b : Built) (T : Table)
    (hv : soundOK g b = true) (hw : Within b.table T) :
    SoundTable g b.start (itemsAt b.states) T.toTbl := by
  apply soundTable_of_check g b T.toTbl hv
  · intro s a act hmem
    obtain ⟨acts, he, hact⟩ := mem_cell (T := T) hmem
    obtain ⟨acts0, he0, hsub⟩ := hw.2 _ he
    exact ⟨acts0, he0, hsub _ hact⟩
  · intro s A t hg
    have := mem_goto (T := T) hg
    rw [hw.1] at this
    exact this

theorem resolveCells_conflictFree (ls : List Level) (order : Int → String → List Action → List Action) :
    ∀ (es : List ((Int × String) × List Action)) (acc : Table × Verdict), (∀ e ∈ es, e.2.length ≤ 1) →
      resolveCells ls order es acc = Outcome.ok acc
  | [], acc, _ => rfl
  | e :: es, acc, h => by
    unfold resolveCells
    rw [if_pos (h e (by simp))]
    exact resolveCells_conflictFree ls order es acc (fun e' he' => h e' (List.mem_cons_of_mem _ he'))

/-- the exactness theorems speak about the very table the driver parses with after `ResolveConflicts`
(whatever the precedence levels and iteration orders are) -/
theorem resolveAll_conflictFree (ls : List Level) (order : Int → String → List Action → List Action) (T : Table)
    (hcf : chkConflictFree T = true) :
    resolveAll ls order T = Outcome.ok (T, if levelsOK ls then Verdict.table else Verdict.badPrecedences) := by
  unfold resolveAll
  by_cases hl : levelsOK ls = true
  · simp only [hl, Bool.not_true, Bool.false_eq_true, if_false, if_true]
    apply resolveCells_conflictFree
    unfold chkConflictFree at hcf
    rw [List.all_eq_true] at hcf
    intro e he
    simpa using hcf e he
  · simp [hl]

end AlgoVerif.C11.Sound
