import AlgoVerif.Proofs.C07Basic
import AlgoVerif.Proofs.HeapOrder
/-!
# C07 — heap sort (`sort/heap.go`)

`aux = [zero] ++ a`; positions `1..n` hold a max-heap (child `i` is dominated by its parent `i/2`),
position `0` is never touched.  The order argument of `sink` is that of `Proofs/HeapOrder` for the relation `Dom`;
while the heap is built from `k = n/2` down to `1`, only the edges with parent `≥ k` are in order (`Par k n`).
-/
namespace AlgoVerif.C07
open AlgoVerif AlgoVerif.HeapOrder

variable {α : Type} {cmp : α → α → Int}

/-- `b[a]` dominates `b[c]` (both in range) -/
abbrev Dom (cmp : α → α → Int) (b : Array α) : Nat → Nat → Prop :=
  OnKeys (fun x y => cmp y x ≤ 0) (fun p => b[p]?)

theorem Dom.of {b : Array α} {a c : Nat} (ha : a < b.size) (hc : c < b.size) (h : cmp b[c] b[a] ≤ 0) :
    Dom cmp b a c :=
  ⟨b[a], b[c], Array.getElem?_eq_getElem ha, Array.getElem?_eq_getElem hc, h⟩

theorem Dom.get {b : Array α} {a c : Nat} (h : Dom cmp b a c) (ha : a < b.size) (hc : c < b.size) :
    cmp b[c] b[a] ≤ 0 := by
  obtain ⟨x, y, hx, hy, hle⟩ := h
  cases (Array.getElem?_eq_getElem ha).symm.trans hx
  cases (Array.getElem?_eq_getElem hc).symm.trans hy
  exact hle

theorem dom_trans (tp : TotalPreorder cmp) (b : Array α) :
    ∀ a c d, Dom cmp b a c → Dom cmp b c d → Dom cmp b a d :=
  OnKeys.trans fun _ _ _ h1 h2 => tp.trans _ _ _ h2 h1

theorem swapped_swap {b : Array α} {i j : Nat} (hi : i < b.size) (hj : j < b.size) :
    Swapped (Dom cmp b) (Dom cmp (b.swap i j hi hj)) i j := by
  refine OnKeys.swapped fun y => ?_
  rw [Array.getElem?_swap]
  by_cases h1 : j = y
  · subst h1; rw [if_pos rfl, tr_right, Array.getElem?_eq_getElem hi]
  · by_cases h2 : i = y
    · subst h2; rw [if_neg h1, if_pos rfl, tr_left, Array.getElem?_eq_getElem hj]
    · rw [if_neg h1, if_neg h2, tr_other (Ne.symm h2) (Ne.symm h1)]

theorem sink_spec (tp : TotalPreorder cmp) (n lo : Nat) :
    ∀ (f : Nat) (k : Nat) (b : Array α), 1 ≤ k → lo ≤ k → n - k < f → n < b.size →
      Down (Dom cmp b) (Par lo n) k →
      ∃ b', sink cmp (n : Int) f (k : Int) b = .ok b' ∧ SegStep b b' k (n+1) ∧
        Ordered (Dom cmp b') (Par lo n) := by
  intro f
  induction f with
  | zero => intro k b _ _ hf; omega
  | succ f ih =>
    intro k b hk hlo hf hn inv
    unfold sink
    split
    · next c1 =>
      dsimp only
      -- the fuel bound is spent here: its subtraction would burden every `omega` below
      have ih' := fun j (hkj : k < j) b h1 h2 => ih j b h1 h2 (by omega : n - j < f)
      clear hf ih
      have e2k : (2 * (k : Int)) = ((2 * k : Nat) : Int) := by omega
      have e2k1 : (2 * (k : Int) + 1) = ((2 * k + 1 : Nat) : Int) := by omega
      have hkb : k < b.size := by omega
      have hj : ∃ j : Nat, (j = 2*k ∨ (j = 2*k+1 ∧ 2*k+1 ≤ n)) ∧
          (if 2 * (k : Int) < (n : Int) then do
              let x ← get b (2 * (k : Int))
              let y ← get b (2 * (k : Int) + 1)
              Outcome.ok (if cmp x y < 0 then 2 * (k : Int) + 1 else 2 * (k : Int))
            else Outcome.ok (2 * (k : Int)) : Outcome Int) = .ok (j : Int) ∧
          (∀ s, Par lo n k s → Dom cmp b j s) := by
        split
        · rw [e2k1, e2k, get_nat (by omega : 2*k < b.size), get_nat (by omega : 2*k+1 < b.size)]
          simp only [ok_bind]
          split
          · next hc =>
            refine ⟨2*k+1, Or.inr ⟨rfl, by omega⟩, rfl, fun s hs => ?_⟩
            rcases hs.child with rfl | rfl
            · exact Dom.of (by omega) (by omega) (TotalPreorder.le_of_lt hc)
            · exact Dom.of (by omega) (by omega) (tp.refl _)
          · next hc =>
            refine ⟨2*k, Or.inl rfl, rfl, fun s hs => ?_⟩
            rcases hs.child with rfl | rfl
            · exact Dom.of (by omega) (by omega) (tp.refl _)
            · exact Dom.of (by omega) (by omega) (tp.le_of_not_lt hc)
        · refine ⟨2*k, Or.inl rfl, by rw [e2k], fun s hs => ?_⟩
          have := hs.le
          rcases hs.child with rfl | rfl
          · exact Dom.of (by omega) (by omega) (tp.refl _)
          · omega
      obtain ⟨j, hjv, hjeq, hjmax⟩ := hj
      rw [hjeq]
      simp only [ok_bind]
      clear hjeq e2k e2k1
      have hjb : j < b.size := by omega
      have hkj : Par lo n k j := ⟨by omega, by omega, by omega, hlo⟩
      clear hjv c1
      rw [get_nat hkb, get_nat hjb]
      simp only [ok_bind]
      split
      · -- stop: `k` dominates its larger child
        next hc =>
        exact ⟨b, rfl, SegStep.refl _ _ _, inv.stop fun s hs =>
          dom_trans tp b _ _ _ (Dom.of hkb hjb (tp.le_of_ge hc)) (hjmax s hs)⟩
      · next hc =>
        rw [swap_nat (by omega) (by omega)]
        simp only [ok_bind]
        have hjn := hkj.le
        have hlt := hkj.parent_lt
        obtain ⟨b', hb', S, dom⟩ := ih' j hlt (b.swap k j hkb hjb) (by omega) (by omega)
          (by rw [Array.size_swap]; exact hn)
          (inv.step (forest_par lo n) (swapped_swap hkb hjb) hkj hjmax
            (Dom.of hjb hkb (TotalPreorder.le_of_lt (Int.not_le.1 hc))))
        exact ⟨b', hb', (SegStep.swap _ _ (Nat.le_refl _) (by omega) (by omega) (by omega)).trans
          (S.widen (by omega) (Nat.le_refl _)), dom⟩
    · next c1 =>
      exact ⟨b, rfl, SegStep.refl _ _ _, inv.stop (below_leaf (by omega))⟩

/-- `b[1..n]` is a max-heap -/
def IsHeap (cmp : α → α → Int) (b : Array α) (n : Nat) : Prop :=
  ∀ i, 2 ≤ i → (hin : i ≤ n) → (hn : n < b.size) → cmp (b[i]'(by omega)) (b[i/2]'(by omega)) ≤ 0

theorem isHeap_iff {b : Array α} {n : Nat} (hn : n < b.size) : IsHeap cmp b n ↔ Ordered (Dom cmp b) (Par 1 n) :=
  ⟨fun h _ c hac => hac.half ▸ Dom.of (by have := hac.le; omega) (by have := hac.le; omega) (h c hac.two hac.le hn),
    fun h i h2 hin _ => (h _ i ⟨h2, hin, rfl, by omega⟩).get (by omega) (by omega)⟩

theorem heapBuild_spec (tp : TotalPreorder cmp) (n : Nat) :
    ∀ (f : Nat) (k : Nat) (b : Array α), (hn : n < b.size) → k < f → Ordered (Dom cmp b) (Par (k + 1) n) →
      ∃ b', heapBuild cmp (n : Int) f (k : Int) b = .ok b' ∧ SegStep b b' 1 (n+1) ∧ IsHeap cmp b' n := by
  intro f
  induction f with
  | zero => intro k b _ hf; omega
  | succ f ih =>
    intro k b hn hf hdom
    unfold heapBuild
    split
    · have hk : 1 ≤ k := by omega
      obtain ⟨b1, h1, S, dom⟩ := sink_spec tp n k (b.size + 1) k b hk (Nat.le_refl _) (by omega) hn hdom.down_next
      rw [h1]
      simp only [ok_bind]
      have e : ((k : Int) - 1) = ((k - 1 : Nat) : Int) := by omega
      rw [e]
      have hsz1 := S.size
      obtain ⟨b2, h2, S2, g3⟩ := ih (k-1) b1 (by omega) (by omega) (by rwa [Nat.sub_add_cancel hk])
      exact ⟨b2, h2, (S.widen hk (Nat.le_refl _)).trans S2, g3⟩
    · have hk : k = 0 := by omega
      subst hk
      exact ⟨b, rfl, SegStep.refl _ _ _, (isHeap_iff hn).2 hdom⟩

theorem heap_root_max (tp : TotalPreorder cmp) {b : Array α} {n : Nat} (hn : n < b.size)
    (hh : IsHeap cmp b n) : ∀ p, (hp1 : 1 ≤ p) → (hp : p ≤ n) → cmp (b[p]'(by omega)) (b[1]'(by omega)) ≤ 0 :=
  fun p hp1 hp => (Ordered.root_le (dom_trans tp b) ((isHeap_iff hn).1 hh)
    (Dom.of (by omega) (by omega) (tp.refl _)) p hp1 hp).get _ _

/-- state of the drain loop with `n` elements left: `b[1..n]` is a heap, the rest is sorted and not below any of it -/
structure DrainInv (cmp : α → α → Int) (b : Array α) (n : Nat) : Prop where
  hn : n < b.size
  heap : IsHeap cmp b n
  sorted : SortedSeg cmp b (n+1) b.size
  below : ∀ p q, 1 ≤ p → (hp : p ≤ n) → (hq1 : n < q) → (hq : q < b.size) → cmp (b[p]'(by omega)) b[q] ≤ 0

theorem heapDrain_spec (tp : TotalPreorder cmp) :
    ∀ (f : Nat) (n : Nat) (b : Array α), n < f → DrainInv cmp b n →
      ∃ b', heapDrain cmp f (n : Int) b = .ok b' ∧ SegStep b b' 1 b.size ∧ SortedSeg cmp b' 1 b'.size := by
  intro f
  induction f with
  | zero => intro n b hf; omega
  | succ f ih =>
    intro n b hf inv
    have hn := inv.hn
    unfold heapDrain
    split
    · -- `n = m + 1`: no subtraction in what follows
      obtain ⟨m, rfl⟩ : ∃ m, n = m + 1 := ⟨n - 1, by omega⟩
      rw [swap_ok (i := 1) (by omega) (by omega) (by omega) (by omega)]
      simp only [ok_bind, Int.toNat_natCast, Int.toNat_one]
      have e : (((m + 1 : Nat) : Int) - 1) = (m : Int) := by omega
      rw [e]
      have hroot := heap_root_max tp hn inv.heap
      have h1b : 1 < b.size := by omega
      have hb1sz : (b.swap 1 (m+1) h1b hn).size = b.size := Array.size_swap
      obtain ⟨b2, h2, S, dom⟩ := sink_spec tp m 1 ((b.swap 1 (m+1) h1b hn).size + 1) 1 _
        (Nat.le_refl _) (Nat.le_refl _) (by omega) (by omega)
        (((isHeap_iff hn).1 inv.heap).down_root_swap (swapped_swap h1b hn))
      have h2' : sink cmp (m : Int) ((b.swap 1 (m+1) h1b hn).size + 1) 1
          (b.swap 1 (m+1) h1b hn) = .ok b2 := h2
      rw [h2']
      simp only [ok_bind]
      have hb2sz : b2.size = b.size := by rw [S.size, hb1sz]
      -- in `b.swap 1 (m+1)` the old maximum stands at `m+1`, below everything behind it
      have inv' : DrainInv cmp b2 m := by
        refine ⟨by omega, (isHeap_iff (by omega)).2 dom, ?_, ?_⟩
        · rw [S.size]
          refine S.sortedSeg_disjoint (Or.inr (Nat.le_refl _)) fun p q hp hpq hq hq' => ?_
          rw [Array.getElem_swap_of_ne (k := q) (by omega) (by omega)]
          by_cases hpn : p = m + 1
          · rw [getElem_swap_eq_right hpn]
            exact inv.below 1 q (Nat.le_refl _) (by omega) (by omega) (by omega)
          · rw [Array.getElem_swap_of_ne (by omega) hpn]
            exact inv.sorted p q (by omega) hpq (by omega) (by omega)
        · intro p q hp1 hp hq1 hq
          rw [S.frame q (Or.inr (by omega)) (by omega) hq]
          -- what the swap leaves at `q` (the old root if `q = m+1`, else `b[q]`) is `≥` all of `b[1..m+1]`
          obtain ⟨v, hv, hmax⟩ : ∃ v, (b.swap 1 (m+1) h1b hn)[q]'(by omega) = v ∧
              ∀ r, 1 ≤ r → (hr : r ≤ m + 1) → cmp (b[r]'(by omega)) v ≤ 0 := by
            by_cases hqn : q = m + 1
            · exact ⟨_, getElem_swap_eq_right hqn _, hroot⟩
            · exact ⟨_, Array.getElem_swap_of_ne (by omega) hqn,
                fun r hr1 hr => inv.below r q hr1 hr (by omega) (by omega)⟩
          rw [hv]
          exact S.pres (fun x => cmp x v ≤ 0)
            (AllSeg.swap h1b hn (fun r h1 h2 _ _ _ => hmax r h1 (by omega))
              (fun _ _ => hmax (m+1) (by omega) (Nat.le_refl _)) (fun _ h => absurd h (Nat.lt_irrefl _)))
            p hp1 (by omega) (by omega)
      obtain ⟨b3, h3, S3, g3⟩ := ih m b2 (by omega) inv'
      exact ⟨b3, h3, ((SegStep.swap h1b hn (Nat.le_refl _) h1b (by omega) hn).trans
        (S.widen (Nat.le_refl _) (by omega))).trans (hb2sz ▸ S3), g3⟩
    · refine ⟨b, rfl, SegStep.refl _ _ _, ?_⟩
      intro p q hp hpq hq hq'
      by_cases hpn : n < p
      · exact inv.sorted p q (by omega) hpq hq hq'
      · exact inv.below p q hp (by omega) (by omega) hq'

theorem heapCore_spec (tp : TotalPreorder cmp) (b : Array α) (hb : 0 < b.size) :
    ∃ b', heapCore cmp b = .ok b' ∧ SegStep b b' 1 b.size ∧ SortedSeg cmp b' 1 b'.size := by
  unfold heapCore
  have e : ((b.size : Int) - 1) = ((b.size - 1 : Nat) : Int) := by omega
  have e2 : (((b.size - 1 : Nat) : Int) / 2) = (((b.size - 1) / 2 : Nat) : Int) := by omega
  simp only [e, e2]
  obtain ⟨b1, h1, S1, g3⟩ := heapBuild_spec tp (b.size - 1) (b.size + 1) ((b.size - 1) / 2) b (by omega) (by omega)
    ordered_leaves
  rw [h1]
  simp only [ok_bind]
  have g1 := S1.size
  have inv : DrainInv cmp b1 (b.size - 1) := by
    refine ⟨by omega, g3, ?_, ?_⟩
    · intro p q hp hpq hq hq'; omega
    · intro p q hp1 hp hq1 hq; omega
  obtain ⟨b2, h2, S2, k3⟩ := heapDrain_spec tp (b1.size + 1) (b.size - 1) b1 (by omega) inv
  rw [h2]
  exact ⟨b2, rfl, (S1.widen (Nat.le_refl _) (by omega)).trans (g1 ▸ S2), k3⟩

theorem heap_spec (tp : TotalPreorder cmp) (zero : α) (a : Array α) :
    ∃ out, heap cmp zero a = .ok out ∧ IsSortOf cmp out a := by
  obtain ⟨b', h1, S, hsorted⟩ := heapCore_spec tp (#[zero] ++ a) (by simp; omega)
  have hsz := S.size
  have hperm := S.perm
  simp only [heap, h1, ok_bind]
  refine ⟨_, rfl, ?_, ?_⟩
  · apply sorted_of_sortedSeg
    intro p q _ hpq hq hq'
    simp only [Array.size_extract] at hq hq'
    simp only [Array.getElem_extract]
    exact hsorted (1+p) (1+q) (by omega) (by omega) (by omega) (by omega)
  · -- permutation: b' = zero :: out and #[zero] ++ a = zero :: a
    have hsz' : b'.size = a.size + 1 := by rw [hsz]; simp; omega
    have hl : b'.toList = zero :: (b'.extract 1 b'.size).toList := by
      apply List.ext_getElem
      · simp; omega
      · intro i h1 h2
        cases i with
        | zero =>
          simpa using (S.frame 0 (Or.inl Nat.zero_lt_one) (by simp; omega) (by omega)).trans
            (Array.getElem_append_left (by simp))
        | succ i => simp
    have hp := Array.perm_iff_toList_perm.1 hperm
    rw [hl] at hp
    have : (#[zero] ++ a).toList = zero :: a.toList := by simp
    rw [this] at hp
    exact List.Perm.cons_inv hp

end AlgoVerif.C07
