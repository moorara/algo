import AlgoVerif.Model.GoRt
import AlgoVerif.Proofs.Outcome
/-!
Lemmas about the translator's runtime (`Model/GoRt.lean`), used by the proofs that a GENERATED definition equals the
hand-written Model (`Proofs/C*Gen.lean`).  Every `Generated/CxxGen.lean` is rewritten from /repo's source by
`/verif/extract/go2lean` on every check run (`bin/pre-Cxx`, which names what is translated and what is skipped);
`Proofs/CxxGen.lean` says, in its header, what the hand Model does differently and by which reading and relation the
two are compared: either EVERY generated state is read as a state of the hand Model (`toM`, `sq`, `qf`, …: C04, C16,
C17, C18), or the hand Model's states are embedded (`ofM`, `ofLin`, `ofD`, …: C05, C02, C14) and the statements speak
of the images only.

Method.  A loop lemma is stated about ANY function `L` that satisfies the loop's two defining equations (no rounds
left / one round), with the loop body's callees as variables; a generated `loop1` is an instance, its equations hold
by `rfl`.

Fuel.  A generated function that contains a loop which is not counted takes ONE fuel `F` from its caller and hands it
to every such loop and callee; each of these loops recurses on a counter of its own that starts at `F`.  A loop lemma
therefore has an unconstrained `(F : Nat)` (the fuel the loop body passes on to its callees) and states the loop at the
counter `f + d`, where `f` is the fuel of the hand Model's loop (on which the lemma is an induction) and `d` any
surplus; the function-level lemma `…_le` puts `F = f + d` for the bound `f ≤ F` it assumes.  Counted loops
(`for i := range a`, `for i := 0; i < n; i++` with `n` fixed) recurse on their trip count and take no fuel.
-/
namespace AlgoVerif

/-- one normalisation pass over the goal: monad laws, `≼` on constructors, Bool tests as propositions,
tests decided by the hypotheses (`*` — also rewrites with the induction hypothesis).  The sort proofs (`C07Gen`,
`C07QuickGen`, `C07RadixGen`) bring both loop bodies to one shape with it; the other `C*Gen` modules spell out the
`simp only` set each step needs. -/
syntax "outcome_norm" (" [" Lean.Parser.Tactic.simpLemma,* "]")? : tactic
macro_rules
  | `(tactic| outcome_norm) => `(tactic| outcome_norm [])
  | `(tactic| outcome_norm [$ls,*]) => `(tactic|
    simp only [Outcome.bind_assoc, Outcome.pure_eq, Outcome.ok_bind, Outcome.panic_bind, Outcome.diverge_bind,
      Outcome.map_ok, Outcome.map_panic, Outcome.map_diverge, Outcome.map_bind, Outcome.le_refl, Outcome.diverge_le,
      Outcome.ok_le, Outcome.panic_le, Outcome.ok.injEq, reduceCtorEq, Outcome.ite_bind, Outcome.map_ite,
      decide_eq_true_eq, decide_eq_false_iff_not, Bool.not_eq_true', Bool.not_eq_true, Bool.not_not,
      Bool.and_eq_true, Bool.or_eq_true, Bool.not_eq_false', Bool.not_eq_false, Bool.false_eq_true,
      Bool.true_eq_false, if_true, if_false, ite_not, ge_iff_le, gt_iff_lt, not_true_eq_false, not_false_eq_true,
      and_true, true_and, and_false, false_and, Prod.mk.injEq, and_self, *, $ls,*])

namespace Go
variable {α : Type}

theorem idx_of_valid {s : Array α} {i : Int} (h : 0 ≤ i ∧ i < s.size) :
    idx s i = .ok (s[i.toNat]'(by omega)) := by simp [idx, h]

theorem idx_of_invalid {s : Array α} {i : Int} (h : ¬ (0 ≤ i ∧ i < s.size)) : idx s i = .panic := by
  simp [idx, h]

theorem setIdx_of_valid {s : Array α} {i : Int} {v : α} (h : 0 ≤ i ∧ i < s.size) :
    setIdx s i v = .ok (s.set i.toNat v (by omega)) := by simp [setIdx, h]

theorem setIdx_of_invalid {s : Array α} {i : Int} {v : α} (h : ¬ (0 ≤ i ∧ i < s.size)) :
    setIdx s i v = .panic := by simp [setIdx, h]

@[simp] theorem idx_nat {s : Array α} {i : Nat} (h : i < s.size) : idx s (i : Int) = .ok s[i] := by
  have : 0 ≤ (i : Int) ∧ (i : Int) < s.size := by omega
  simp [idx, this]

@[simp] theorem setIdx_nat {s : Array α} {i : Nat} {v : α} (h : i < s.size) :
    setIdx s (i : Int) v = .ok (s.set i v) := by
  have : 0 ≤ (i : Int) ∧ (i : Int) < s.size := by omega
  simp [setIdx, this]

theorem idx_natCast (s : Array α) (i : Nat) :
    idx s (i : Int) = match s[i]? with | some c => .ok c | none => .panic := by
  by_cases h : i < s.size
  · rw [idx_nat h, Array.getElem?_eq_getElem h]
  · rw [idx_of_invalid (by omega), Array.getElem?_eq_none (by omega)]

theorem setIdx_natCast (s : Array α) (i : Nat) (v : α) :
    setIdx s (i : Int) v = if i < s.size then .ok (s.setIfInBounds i v) else .panic := by
  by_cases h : i < s.size
  · simp [setIdx_nat h, h, Array.setIfInBounds]
  · simp [setIdx_of_invalid (s := s) (i := (i : Int)) (v := v) (by omega), h]

/-- `s[i] = v` where the hand Model tests the bound, against a length `n` it writes in its own way, and goes on with `x` -/
theorem Sim.store {β γ : Type} {R : β → γ → Prop} (s : Array α) (i : Nat) (v : α) {n : Nat} (hn : n = s.size)
    {x : Outcome β} {g : Array α → Outcome γ} (h : i < s.size → Outcome.Sim R x (g (s.setIfInBounds i v))) :
    Outcome.Sim R (if i < n then x else .panic) (setIdx s i v >>= g) := by
  rw [hn, setIdx_natCast, Outcome.ite_bind]
  exact Outcome.Sim.ite h fun _ => trivial

theorem tdiv_natCast (k c : Nat) : Int.tdiv (k : Int) (c : Int) = ((k / c : Nat) : Int) := by
  rw [Int.tdiv_eq_ediv_of_nonneg (by omega)]; simp

theorem natCast_beq_zero (n : Nat) : ((n : Int) == 0) = (n == 0) := by cases n <;> rfl

/-- `if !b { return }` of the generated code against `if b then … else return` of the hand Model, for a test `b`
that is a `Bool` already (`<` of `constraints.Ordered`) -/
theorem ite_eq_false {β : Type} (b : Bool) (x y : β) : (if b = false then x else y) = if b = true then y else x := by
  cases b <;> rfl

@[simp] theorem deref_some (x : α) : deref (some x) = .ok x := rfl
@[simp] theorem deref_none : deref (none : Option α) = .panic := rfl

theorem idx_map {β : Type} (s : Array α) (f : α → β) (i : Int) : idx (s.map f) i = (idx s i).map f := by
  by_cases h : 0 ≤ i ∧ i < s.size
  · rw [idx_of_valid h, idx_of_valid (by rwa [Array.size_map]), Array.getElem_map]; rfl
  · rw [idx_of_invalid h, idx_of_invalid (by rwa [Array.size_map])]; rfl

theorem setIdx_map {β : Type} (s : Array α) (f : α → β) (i : Int) (v : α) :
    setIdx (s.map f) i (f v) = (setIdx s i v).map (fun t => t.map f) := by
  by_cases h : 0 ≤ i ∧ i < s.size
  · rw [setIdx_of_valid h, setIdx_of_valid (by rwa [Array.size_map]), Outcome.map_ok, Array.map_set]
  · rw [setIdx_of_invalid h, setIdx_of_invalid (by rwa [Array.size_map])]; rfl

/-- two reads commute (neither can run out of fuel) -/
theorem idx_comm {β γ : Type} (s : Array α) (t : Array β) (i j : Int) (f : α → β → Outcome γ) :
    (idx s i >>= fun x => idx t j >>= fun y => f x y) = (idx t j >>= fun y => idx s i >>= fun x => f x y) := by
  unfold idx
  split <;> split <;> rfl

theorem make_nat (zero : α) (n : Nat) : make zero (n : Int) = .ok (Array.replicate n zero) := by
  simp [make]

theorem make_neg (zero : α) {n : Int} (h : n < 0) : make zero n = .panic := by
  have : ¬ 0 ≤ n := by omega
  simp [make, this]

theorem copy_eq_of_size {dst src : Array α} (h : src.size = dst.size) : copy dst src = src := by
  apply Array.ext (by simp [copy, h])
  intro i h1 h2
  simp [copy, h2]

/-- `t := make([]T, len(src)); copy(t, src)` -/
theorem copy_all (src : Array α) (z : α) : copy (Array.replicate src.size z) src = src :=
  copy_eq_of_size (by simp)

/-- what a function returns after a loop that may `return`: the returned value, or `d` from the statement after the
loop (`σ`: the variables the loop assigns, dropped here) -/
def found {σ β : Type} (d : β) : Ctl σ β → β
  | .ret b => b
  | .next _ => d

/-- `match ← loop with | .ret r => return r | .next _ => pure (); return d` -/
theorem ret_or {σ β : Type} (X : Outcome (Ctl σ β)) (d : β) (f : Ctl σ β → Outcome β)
    (h1 : ∀ r, f (.ret r) = .ok r) (h2 : ∀ u, f (.next u) = .ok d) : (X >>= f) = X.map (found d) := by
  cases X with
  | ok c => cases c <;> simp [h1, h2, found]
  | panic => rfl
  | diverge => rfl


/-- induction over `for i, m := range a`: `k` is the generated loop's trip count, `i` its index, the list what is left
of `a` -/
theorem range_ind {ε : Type} (a : Array ε) {P : Nat → Int → List ε → Prop} (h0 : ∀ i, P 0 i [])
    (hS : ∀ k i m ms, idx a i = .ok m → P k (i + 1) ms → P (k + 1) i (m :: ms)) : P a.size 0 a.toList := by
  have : ∀ k i : Nat, i + k = a.size → P k i (a.toList.drop i) := by
    intro k
    induction k with
    | zero => intro i hi; rw [List.drop_eq_nil_of_le (by simp [← hi])]; exact h0 i
    | succ k ih =>
      intro i hi
      have h : i < a.size := by omega
      rw [List.drop_eq_getElem_cons (by simpa using h), Array.getElem_toList]
      exact hS k i _ _ (idx_nat h) (ih (i + 1) (by omega))
  exact this a.size 0 (Nat.zero_add _)

/-- `for i, m := range a { if c(m) { return r(i, m) } }; return d`: return `r i m` at the first member with `c m`, `d` if there is none; `spec` is any function
on lists with these two equations -/
theorem search_scan {β : Type} (a : Array α) (c : α → Bool) (r : Int → α → β) (d : β)
    (loop : Nat → Int → Outcome (Ctl Unit β))
    (h0 : ∀ i, loop 0 i = .ok (.next ()))
    (hS : ∀ k i, loop (k + 1) i = idx a i >>= fun m => if c m then .ok (.ret (r i m)) else loop k (i + 1))
    (spec : List α → Int → Outcome β) (hs0 : ∀ i, spec [] i = .ok d)
    (hsS : ∀ m ms i, spec (m :: ms) i = if c m then .ok (r i m) else spec ms (i + 1)) :
    (loop a.size 0).map (found d) = spec a.toList 0 :=
  range_ind a (P := fun k i ms => (loop k i).map (found d) = spec ms i)
    (fun i => by rw [h0, hs0]; rfl)
    (fun k i m ms hm ih => by
      rw [hS, hm, hsS, Outcome.ok_bind]
      cases c m
      · exact ih
      · rfl)

theorem any_scan (a : Array α) (p : α → Bool) (loop : Nat → Int → Outcome (Ctl Unit Bool))
    (h0 : ∀ i, loop 0 i = .ok (.next ()))
    (hS : ∀ k i, loop (k + 1) i = idx a i >>= fun m => if p m then .ok (.ret true) else loop k (i + 1)) :
    (loop a.size 0).map (found false) = .ok (a.toList.any p) :=
  search_scan a p (fun _ _ => true) false loop h0 hS (fun ms _ => .ok (ms.any p)) (fun _ => rfl)
    (fun m ms _ => by cases h : p m <;> simp [h])

theorem all_scan (a : Array α) (p : α → Bool) (loop : Nat → Int → Outcome (Ctl Unit Bool))
    (h0 : ∀ i, loop 0 i = .ok (.next ()))
    (hS : ∀ k i, loop (k + 1) i = idx a i >>= fun m => if !p m then .ok (.ret false) else loop k (i + 1)) :
    (loop a.size 0).map (found true) = .ok (a.toList.all p) :=
  search_scan a (!p ·) (fun _ _ => false) true loop h0 hS (fun ms _ => .ok (ms.all p)) (fun _ => rfl)
    (fun m ms _ => by cases h : p m <;> simp [h])

/-- `for _, m := range a { s = step(s, m) }` with a step that may fail.  The generated state `s : S` is read as the
hand Model's through `view`, the result through `out`; `step'`, `spec` are the hand Model's step and loop (any function
with the two equations `hs0`, `hsS`); `Inv` is what the state must satisfy for the steps still to come (for C16's
`sorted`: that the fuel covers them; `True` otherwise). -/
theorem fold_scan {ε S M ρ : Type} (view : S → M) (out : M → ρ) (a : Array ε) (Inv : List ε → S → Prop)
    (step : S → ε → Outcome S) (step' : M → ε → Outcome M)
    (hstep : ∀ m ms s, Inv (m :: ms) s → step' (view s) m = (step s m).map view)
    (hinv : ∀ m ms s s', Inv (m :: ms) s → step' (view s) m = .ok (view s') → Inv ms s')
    (loop : Nat → Int → S → Outcome S) (h0 : ∀ i s, loop 0 i s = .ok s)
    (hS : ∀ k i s, loop (k + 1) i s = idx a i >>= fun m => step s m >>= loop k (i + 1))
    (spec : M → List ε → Outcome ρ) (hs0 : ∀ t, spec t [] = .ok (out t))
    (hsS : ∀ t m ms, spec t (m :: ms) = step' t m >>= fun t' => spec t' ms) (s : S) (hI : Inv a.toList s) :
    spec (view s) a.toList = (loop a.size 0 s).map fun s => out (view s) :=
  range_ind a (P := fun k i ms => ∀ s, Inv ms s → spec (view s) ms = (loop k i s).map fun s => out (view s))
    (fun i s _ => by rw [h0, hs0]; rfl)
    (fun k i m ms hm ih s hI => by
      simp only [hS, hm, hsS, Outcome.ok_bind, Outcome.map_bind]
      exact Outcome.bind_map_congr (hstep m ms s hI) fun s' hx => ih s' (hinv m ms s s' hI hx)) s hI

/-! The translator turns `for i := 0; i < n; i++ { … }` into a function `L` of (rounds left, `i`, the variables the body
assigns); where the bound is evaluated anew at every test (`for_loop`) the first argument is the caller's fuel. -/

/-- if one round at counter `j` takes `F j` to `F (j + 1)`, the loop runs from `F 0` to `F n`: `F` is the state after
the first `j` rounds in closed form -/
theorem loop_steps {σ : Type} {L : Nat → Int → σ → Outcome σ} (F : Nat → σ) (n : Nat)
    (h0 : ∀ i s, L 0 i s = .ok s) (hstep : ∀ k j, j < n → L (k + 1) j (F j) = L k (j + 1) (F (j + 1))) :
    L n 0 (F 0) = .ok (F n) := by
  suffices ∀ k j, j + k = n → L k (j : Nat) (F j) = .ok (F n) from this n 0 (Nat.zero_add n)
  intro k
  induction k with
  | zero => intro j h; rw [h0, ← h]; rfl
  | succ k ih =>
    intro j h
    rw [hstep k j (by omega)]
    exact ih (j + 1) (by omega)

section
variable {σ τ ε : Type} (R : τ → σ) (P : τ → Prop) (step : τ → ε → τ) (l : List ε) (loop : Nat → Int → σ → Outcome σ)
  (hP : ∀ t e, P t → P (step t e)) (h0 : ∀ i s, loop 0 i s = .ok s)
  (hs : ∀ k i (h : i < l.length) t, P t → loop (k+1) (i:Int) (R t) = loop k ((i:Int)+1) (R (step t l[i])))
include hP h0 hs

/-- `for i, e := range l` with a step that cannot fail: a counted loop whose body acts as `step` on the Model state
`t` behind the generated state `R t`, as long as `P t`, computes the fold of `step` over `l`.  Unlike `fold_scan` it
speaks of the images `R t` only, so it serves where the generated state cannot be read back (C14: `ofD`, `ofU`). -/
theorem list_loop (t : τ) (ht : P t) : loop l.length 0 (R t) = .ok (R (l.foldl step t)) := by
  have := loop_steps (L := loop) (fun j => R ((l.take j).foldl step t)) l.length h0 fun k j hj => by
    rw [hs k j hj _ (List.foldlRecOn _ step (motive := P) ht fun t h e _ => hP t e h), List.take_succ_eq_append_getElem hj, List.foldl_append]; rfl
  rwa [List.take_length] at this
end

section
variable {σ τ : Type} (R : τ → σ) (P : τ → Prop) (step : τ → Nat → τ) (n : Nat) (loop : Nat → Int → σ → Outcome σ)
  (hP : ∀ t v, P t → P (step t v)) (hend : ∀ k s, loop (k+1) (n:Int) s = .ok s)
  (hs : ∀ k v t, v < n → P t → loop (k+1) (v:Int) (R t) = loop k ((v:Int)+1) (R (step t v)))
include hP hend hs

/-- `for_loop` from counter `v` with `m` rounds to go; the loop's own counter `k` only has to cover the `m + 1` tests -/
theorem for_loop_from : ∀ m v k t, P t → v + m = n → m + 1 ≤ k →
    loop k (v:Int) (R t) = .ok (R ((List.range' v m).foldl step t))
  | 0, v, k+1, t, _, h, _ => by
    obtain rfl : v = n := h
    exact hend k _
  | m+1, v, k+1, t, ht, h, hk => by
    rw [hs k v t (h ▸ Nat.lt_add_of_pos_right (Nat.succ_pos m)) ht, List.range'_succ, List.foldl_cons]
    exact for_loop_from m (v + 1) k _ (hP _ _ ht) (by rw [Nat.add_right_comm]; exact h) (Nat.le_of_succ_le_succ hk)

/-- `for v := 0; v < g.V(); v++`: the bound is evaluated at every test, so the translator does not count the loop — it
runs on the caller's fuel, `hend` is its exit at `v = n`. -/
theorem for_loop (fuel : Nat) (hf : n + 1 ≤ fuel) (t : τ) (ht : P t) :
    loop fuel 0 (R t) = .ok (R ((List.range n).foldl step t)) := by
  rw [List.range_eq_range']
  exact for_loop_from R P step n loop hP hend hs n 0 fuel t ht (Nat.zero_add _) hf
end

/-- `make([]T, n)` (zero value `z`) after the first `m` rounds of `for i := range a { a[i] = v(i) }` -/
def fill (z : α) (n : Nat) (v : Nat → α) (m : Nat) : Array α :=
  Array.ofFn (n := n) fun i => if i.val < m then v i else z

theorem fill_zero (z : α) (n : Nat) (v : Nat → α) : fill z n v 0 = Array.replicate n z := by
  apply Array.ext <;> simp [fill]

theorem fill_const (z c : α) (n : Nat) : fill z n (fun _ => c) n = Array.replicate n c := by
  apply Array.ext <;> simp [fill]

theorem setIdx_fill {z : α} {n m : Nat} (v : Nat → α) (h : m < n) :
    setIdx (fill z n v m) m (v m) = .ok (fill z n v (m + 1)) := by
  rw [setIdx_nat (by simpa [fill] using h)]
  congr 1
  apply Array.ext_getElem?
  intro i
  simp only [fill, Array.getElem?_set, Array.getElem?_ofFn]
  by_cases hi : m = i
  · subst hi; simp [h]
  · have : i < m + 1 ↔ i < m := by omega
    simp [hi, this]

/-- `for i := range a { a[i] = v(i) }` on a fresh slice, for any `L` with the two equations of that loop -/
theorem fill_loop (z : α) (v : Nat → α) (L : Nat → Int → Array α → Outcome (Array α)) (h0 : ∀ i a, L 0 i a = .ok a)
    (hS : ∀ k (j : Nat) a, L (k + 1) j a = (setIdx a j (v j) >>= L k ((j : Int) + 1))) (n : Nat) :
    L n 0 (Array.replicate n z) = .ok (fill z n v n) := by
  rw [← fill_zero z n v]
  exact loop_steps (fill z n v) n h0 fun k j hj => by rw [hS, setIdx_fill v hj, Outcome.ok_bind]

/-- `for i := range a { a[i] = c }` -/
theorem fill_loop_const (z c : α) (L : Nat → Int → Array α → Outcome (Array α)) (h0 : ∀ i a, L 0 i a = .ok a)
    (hS : ∀ k i a, L (k + 1) i a = (setIdx a i c >>= L k (i + 1))) (n : Nat) :
    L n 0 (Array.replicate n z) = .ok (Array.replicate n c) :=
  fill_const z c n ▸ fill_loop z (fun _ => c) L h0 (fun k j a => hS k j a) n

end Go
end AlgoVerif
