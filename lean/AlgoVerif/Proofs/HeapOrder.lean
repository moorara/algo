/-!
# Heap order while an entry is sifted (core only, no arrays, no comparators)

Heap order is a statement about a transitive relation `L` on positions ("what is at `a` is before what is at `b`")
along the edges of a forest `R` ("`p` is the parent of `c`").  A loop that moves an entry from `x` towards the root
or towards the leaves keeps all of the order except at `x` (`Hole`, `Up`, `Down`); exchanging the contents of two
positions replaces `L` by `L` read through the transposition (`Swapped`).  The binary heaps (`heap/binary.go`,
`heap/indexed_binary.go`, `sort/heap.go`) use the forest `Par l m` on positions `1..m`; the indexed binomial heap uses
the pairs of its trees.
-/
namespace AlgoVerif.HeapOrder

def tr (i j p : Nat) : Nat := if p = i then j else if p = j then i else p

theorem tr_left (i j : Nat) : tr i j i = j := by simp [tr]
theorem tr_right (i j : Nat) : tr i j j = i := by
  unfold tr; split <;> simp_all
theorem tr_self (i p : Nat) : tr i i p = p := by
  unfold tr; split <;> simp_all
theorem tr_other {i j p : Nat} (h1 : p ≠ i) (h2 : p ≠ j) : tr i j p = p := by simp [tr, h1, h2]
theorem tr_comm (i j p : Nat) : tr i j p = tr j i p := by
  unfold tr; split <;> split <;> simp_all
theorem tr_tr (i j p : Nat) : tr i j (tr i j p) = p := by
  by_cases h1 : p = i
  · rw [h1, tr_left, tr_right]
  · by_cases h2 : p = j
    · rw [h2, tr_right, tr_left]
    · rw [tr_other h1 h2, tr_other h1 h2]

/-- every node has at most one parent, and no two nodes are each other's parent (longer cycles are not excluded:
the step lemmas look at one edge and its neighbours only) -/
structure Forest (R : Nat → Nat → Prop) : Prop where
  unique : ∀ a b x, R a x → R b x → a = b
  no2 : ∀ a b, R a b → ¬ R b a

theorem Forest.irrefl {R : Nat → Nat → Prop} (F : Forest R) (a : Nat) : ¬ R a a := fun h => F.no2 a a h h

def Ordered (L R : Nat → Nat → Prop) : Prop := ∀ a b, R a b → L a b

/-- order along every edge that does not touch `x`, and from the parent of `x` to the children of `x`: the state
after the contents of `x` were replaced by anything (`ChangeKey` of the indexed heaps, before it is known which way
the entry moves).  With `Below` it is `Up`, with `Above` it is `Down`.  `step_up` is proved for it, since the exchange
itself yields `Below` at the parent; `Up.step` is the corollary. -/
structure Hole (L R : Nat → Nat → Prop) (x : Nat) : Prop where
  edge : ∀ a b, R a b → a ≠ x → b ≠ x → L a b
  skip : ∀ p c, R p x → R x c → L p c

/-- order but for the edges below `x`: the state of a sift-down at `x` -/
structure Down (L R : Nat → Nat → Prop) (x : Nat) : Prop where
  edge : ∀ a b, R a b → a ≠ x → L a b
  skip : ∀ p c, R p x → R x c → L p c

/-- order but for the edge above `x`: the state of a sift-up at `x` whose children are in order -/
structure Up (L R : Nat → Nat → Prop) (x : Nat) : Prop where
  edge : ∀ a b, R a b → b ≠ x → L a b
  skip : ∀ p c, R p x → R x c → L p c

def Below (L R : Nat → Nat → Prop) (x : Nat) : Prop := ∀ c, R x c → L x c
def Above (L R : Nat → Nat → Prop) (x : Nat) : Prop := ∀ p, R p x → L p x

/-- `L'` is `L` after the contents of positions `i` and `j` have been exchanged -/
def Swapped (L L' : Nat → Nat → Prop) (i j : Nat) : Prop := ∀ a b, L' a b ↔ L (tr i j a) (tr i j b)

variable {L L' R : Nat → Nat → Prop} {x : Nat}

theorem Swapped.symm {i j : Nat} (h : Swapped L L' i j) : Swapped L L' j i := fun a b => by
  rw [tr_comm j i a, tr_comm j i b]; exact h a b

theorem Ordered.hole (ht : ∀ a b c, L a b → L b c → L a c) (h : Ordered L R) (x : Nat) : Hole L R x :=
  ⟨fun a b hab _ _ => h a b hab, fun p c hp hc => ht _ _ _ (h p x hp) (h x c hc)⟩
theorem Ordered.down (ht : ∀ a b c, L a b → L b c → L a c) (h : Ordered L R) (x : Nat) : Down L R x :=
  ⟨fun a b hab _ => h a b hab, (h.hole ht x).skip⟩

theorem Up.hole (h : Up L R x) : Hole L R x := ⟨fun a b hab _ hb => h.edge a b hab hb, h.skip⟩
theorem Up.below (F : Forest R) (h : Up L R x) : Below L R x :=
  fun c hc => h.edge x c hc fun e => F.irrefl x (e ▸ hc)

theorem Hole.up (h : Hole L R x) (hb : Below L R x) : Up L R x :=
  ⟨fun a b hab hbx => Classical.byCases (fun e : a = x => e ▸ hb b (e ▸ hab)) fun e => h.edge a b hab e hbx, h.skip⟩
theorem Hole.down (h : Hole L R x) (ha : Above L R x) : Down L R x :=
  ⟨fun a b hab hax => Classical.byCases (fun e : b = x => e ▸ ha a (e ▸ hab)) fun e => h.edge a b hab hax e, h.skip⟩
theorem Up.stop (h : Up L R x) (ha : Above L R x) : Ordered L R :=
  fun a b hab => Classical.byCases (fun e : b = x => e ▸ ha a (e ▸ hab)) fun e => h.edge a b hab e
theorem Down.stop (h : Down L R x) (hb : Below L R x) : Ordered L R :=
  fun a b hab => Classical.byCases (fun e : a = x => e ▸ hb b (e ▸ hab)) fun e => h.edge a b hab e

theorem Hole.step_up (ht : ∀ a b c, L a b → L b c → L a c) (F : Forest R) {p : Nat} (hs : Swapped L L' x p)
    (hpx : R p x) (h : Hole L R x) : Hole L' R p ∧ (L x p → Below L' R p) := by
  have hxp : x ≠ p := fun e => F.irrefl p (e ▸ hpx)
  -- an `L` fact becomes an `L'` fact about the positions that the transposition maps to its two positions
  have mv : ∀ {a b a' b'}, tr x p a' = a → tr x p b' = b → L a b → L' a' b' :=
    fun ha hb hl => (hs _ _).2 (ha ▸ hb ▸ hl)
  have gx : tr x p x = p := tr_left _ _
  have gp : tr x p p = x := tr_right _ _
  have go : ∀ y, y ≠ x → y ≠ p → tr x p y = y := fun y h1 h2 => tr_other h1 h2
  have hsib : ∀ c, R p c → c ≠ x → c ≠ p ∧ L p c := fun c hpc hcx =>
    ⟨fun e => F.irrefl p (e ▸ hpc), h.edge p c hpc (fun e => hxp e.symm) hcx⟩
  refine ⟨⟨?_, ?_⟩, ?_⟩
  · intro a b hab hap hbp
    by_cases hax : a = x
    · subst hax
      -- (x, b): the old parent's contents are before x's children
      have hbx : b ≠ a := fun e => F.irrefl a (e ▸ hab)
      exact mv gx (go b hbx hbp) (h.skip p b hpx hab)
    · by_cases hbx : b = x
      · subst hbx
        exact absurd (F.unique a p b hab hpx) hap
      · exact mv (go a hax hap) (go b hbx hbp) (h.edge a b hab hax hbx)
  · intro pp c hpp hpc
    have hppx : pp ≠ x := fun e => F.no2 pp p hpp (e ▸ hpx)
    have hppp : pp ≠ p := fun e => F.irrefl p (e ▸ hpp)
    have hq : L pp p := h.edge pp p hpp hppx (fun e => hxp e.symm)
    by_cases hcx : c = x
    · subst hcx
      exact mv (go pp hppx hppp) gx hq
    · obtain ⟨hcp, hsb⟩ := hsib c hpc hcx
      exact mv (go pp hppx hppp) (go c hcx hcp) (ht _ _ _ hq hsb)
  · intro hlt c hpc
    by_cases hcx : c = x
    · subst hcx; exact mv gp gx hlt
    · obtain ⟨hcp, hsb⟩ := hsib c hpc hcx
      exact mv gp (go c hcx hcp) (ht _ _ _ hlt hsb)

theorem Up.step (ht : ∀ a b c, L a b → L b c → L a c) (F : Forest R) {p : Nat} (hs : Swapped L L' x p)
    (hpx : R p x) (h : Up L R x) (hlt : L x p) : Up L' R p :=
  let ⟨h1, h2⟩ := h.hole.step_up ht F hs hpx
  h1.up (h2 hlt)

theorem Down.step (F : Forest R) {c : Nat} (hs : Swapped L L' x c) (hxc : R x c)
    (h : Down L R x) (hmin : ∀ s, R x s → L c s) (hle : L c x) : Down L' R c := by
  have hne : c ≠ x := fun e => F.irrefl x (e ▸ hxc)
  have mv : ∀ {a b a' b'}, tr x c a' = a → tr x c b' = b → L a b → L' a' b' :=
    fun ha hb hl => (hs _ _).2 (ha ▸ hb ▸ hl)
  have gx : tr x c x = c := tr_left _ _
  have gc : tr x c c = x := tr_right _ _
  have go : ∀ y, y ≠ x → y ≠ c → tr x c y = y := fun y h1 h2 => tr_other h1 h2
  constructor
  · intro a b hab hac
    by_cases hax : a = x
    · subst hax
      by_cases hbc : b = c
      · subst hbc; exact mv gx gc hle
      · have hba : b ≠ a := fun e => F.irrefl a (e ▸ hab)
        exact mv gx (go b hba hbc) (hmin b hab)
    · by_cases hbx : b = x
      · subst hbx
        -- (a, x): a is the parent of x, and was before x's child c
        exact mv (go a hax hac) gx (h.skip a c hab hxc)
      · have hbc : b ≠ c := fun e => hax (F.unique a x c (e ▸ hab) hxc)
        exact mv (go a hax hac) (go b hbx hbc) (h.edge a b hab hax)
  · intro p d hpc hcd
    have hpx : p = x := F.unique p x c hpc hxc
    subst hpx
    have hdp : d ≠ p := fun e => F.no2 c d hcd (e ▸ hxc)
    have hdc : d ≠ c := fun e => F.irrefl c (e ▸ hcd)
    exact mv gx (go d hdp hdc) (h.edge c d hcd hne)

/-! The parent of `c ≥ 2` is `c / 2`.  Only the edges whose parent is at least `l` count: `l = 1` is the whole heap,
`sort/heap.go` builds its heap through `l = m/2, …, 1`. -/

structure Par (l m p c : Nat) : Prop where
  two : 2 ≤ c
  le : c ≤ m
  half : c / 2 = p
  lo : l ≤ p

theorem forest_par (l m : Nat) : Forest (Par l m) :=
  ⟨fun _ _ _ h1 h2 => h1.half.symm.trans h2.half, fun a b ⟨_, _, _, _⟩ ⟨_, _, _, _⟩ => by omega⟩

theorem Par.child {l m k c : Nat} (h : Par l m k c) : c = 2 * k ∨ c = 2 * k + 1 := by
  obtain ⟨_, _, _, _⟩ := h; omega

theorem Par.parent_lt {l m p c : Nat} (h : Par l m p c) : p < c := by
  obtain ⟨_, _, _, _⟩ := h; omega

theorem below_leaf {l m k : Nat} (h : m < 2 * k) : Below L (Par l m) k := fun _ ⟨_, _, _, _⟩ => by omega

theorem ordered_leaves {m : Nat} : Ordered L (Par (m / 2 + 1) m) := fun _ _ ⟨_, _, _, _⟩ => by omega

theorem Ordered.root_le (ht : ∀ a b c, L a b → L b c → L a c) {m : Nat} (h : Ordered L (Par 1 m)) (h1 : L 1 1) :
    ∀ p, 1 ≤ p → p ≤ m → L 1 p := by
  intro p
  induction p using Nat.strongRecOn with
  | _ p ih =>
    intro hp1 hpm
    by_cases hp : p = 1
    · subst hp; exact h1
    · exact ht _ _ _ (ih (p / 2) (by omega) (by omega) (by omega)) (h _ p ⟨by omega, hpm, rfl, by omega⟩)

theorem Ordered.up_last {m : Nat} (h : Ordered L (Par 1 m)) : Up L (Par 1 (m + 1)) (m + 1) :=
  ⟨fun a b ⟨h2, hm, e, hl⟩ hb => h a b ⟨h2, by omega, e, hl⟩, fun _ _ _ ⟨_, _, _, _⟩ => by omega⟩

theorem Ordered.down_root {m : Nat} (h : Ordered L (Par 1 (m + 1)))
    (hL : ∀ a b, 2 ≤ a → a ≤ m → 2 ≤ b → b ≤ m → L a b → L' a b) : Down L' (Par 1 m) 1 :=
  ⟨fun a b ⟨h2, hm, e, hl⟩ ha => hL a b (by omega) (by omega) h2 hm (h a b ⟨h2, by omega, e, hl⟩),
    fun _ _ ⟨_, _, _, _⟩ _ => by omega⟩

theorem Ordered.down_root_swap {m : Nat} (h : Ordered L (Par 1 (m + 1))) (hs : Swapped L L' 1 (m + 1)) :
    Down L' (Par 1 m) 1 :=
  h.down_root fun a b _ _ _ _ hab => (hs a b).2 <| by
    rwa [tr_other (by omega) (by omega), tr_other (by omega) (by omega)]

theorem Ordered.down_next {m k : Nat} (h : Ordered L (Par (k + 1) m)) : Down L (Par k m) k :=
  ⟨fun a b ⟨h2, hm, e, hl⟩ ha => h a b ⟨h2, hm, e, by omega⟩, fun _ _ ⟨_, _, _, _⟩ _ => by omega⟩

/-- `L` for positions that hold keys -/
def OnKeys {K : Type} (le : K → K → Prop) (f : Nat → Option K) (a b : Nat) : Prop :=
  ∃ ka kb, f a = some ka ∧ f b = some kb ∧ le ka kb

variable {K : Type} {le : K → K → Prop} {f g : Nat → Option K}

theorem OnKeys.trans (ht : ∀ a b c, le a b → le b c → le a c) (a b c : Nat) :
    OnKeys le f a b → OnKeys le f b c → OnKeys le f a c := by
  rintro ⟨ka, kb, ha, hb, hab⟩ ⟨kb', kc, hb', hc, hbc⟩
  cases hb.symm.trans hb'
  exact ⟨ka, kc, ha, hc, ht _ _ _ hab hbc⟩

theorem OnKeys.swapped {i j : Nat} (hg : ∀ y, g y = f (tr i j y)) : Swapped (OnKeys le f) (OnKeys le g) i j :=
  fun a b => by unfold OnKeys; rw [hg a, hg b]

theorem OnKeys.congr {a b : Nat} (ha : g a = f a) (hb : g b = f b) (h : OnKeys le f a b) : OnKeys le g a b := by
  unfold OnKeys; rw [ha, hb]; exact h

end AlgoVerif.HeapOrder
