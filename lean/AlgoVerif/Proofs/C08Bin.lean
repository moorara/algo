import AlgoVerif.Proofs.C08Ext
/-!
# BIN (`eliminateNonBinaryProductions`): what the result is, language, well-formedness

Ghost state: `defs`, the list of (fresh name, the string of symbols it stands for).  For the chain
`A → X₁ A₁, A₁ → X₂ A₂, …, Aₙ₋₂ → Xₙ₋₁ Xₙ` built from `A → X₁ … Xₙ`, `Aᵢ` stands for `Xᵢ₊₁ … Xₙ`.
The result extends the input by these definitions (`BinCore.folded`); completeness is read off the chain as it is
built: `A` has a production and `A ⇒* X₁ … Xₙ` (`Covers`).
-/
namespace AlgoVerif.C08
open AlgoVerif AlgoVerif.Gram AlgoVerif.C08.Spec

/-- productions BIN copies unchanged -/
def binSkip (p : SProd) : Bool := isTerminalProd p || isBinary p || p.body.isEmpty || isSingle p

/-- a symbol of the body of a production of `g` that BIN chains -/
def OldSym (g : G) (x : SSym) : Prop := ∃ p ∈ g.prods, binSkip p = false ∧ x ∈ p.body

/-- `h` stands for `β`: an original production `h → β` that is being chained, or a recorded fresh name -/
def Exp (g : G) (defs : Defs) (h : String) (β : List SSym) : Prop :=
  (∃ p ∈ g.prods, p.head = h ∧ p.body = β ∧ binSkip p = false) ∨ (h, β) ∈ defs

/-- the body of a chain link for something that stands for `β` -/
def LinkBody (g : G) (defs : Defs) (body β : List SSym) : Prop :=
  (∃ x hN r, body = [x, Sym.nonterm hN] ∧ (hN, r) ∈ defs ∧ β = x :: r ∧ OldSym g x) ∨
  (∃ x y, body = [x, y] ∧ β = [x, y] ∧ OldSym g x ∧ OldSym g y)

/-- a production of the grammar under construction: copied unchanged, or a chain link -/
def BinProd (g : G) (defs : Defs) (p' : SProd) : Prop :=
  (p' ∈ g.prods ∧ binSkip p' = true) ∨ (∃ β, Exp g defs p'.head β ∧ LinkBody g defs p'.body β)

/-- the invariant of BIN's loop: `ng` is the grammar under construction, `defs` the chain names with the strings they
stand for.  With `WellFormed g` it is a `Folded` (`BinCore.folded`).  `form` serves totality only (`cnf_total`: names
that end in a numeric suffix leave a primed candidate free for `EliminateCycles`). -/
structure BinCore (g ng : G) (defs : Defs) : Prop where
  terms : ng.terms = g.terms
  start : ng.start = g.start
  nonterms : ng.nonterms = g.nonterms ++ defs.map (fun d => d.1)
  freshg : ∀ d ∈ defs, d.1 ∉ g.nonterms
  inj : ∀ d ∈ defs, ∀ d' ∈ defs, d.1 = d'.1 → d = d'
  old : ∀ d ∈ defs, ∀ s ∈ d.2, OldSym g s
  form : ∀ d ∈ defs, ∃ b, ∃ s ∈ numerics, d.1 = b ++ s
  prods : ∀ p' ∈ ng.prods, BinProd g defs p'

theorem Exp.mono {g : G} {defs defs' : Defs} (hs : ∀ d ∈ defs, d ∈ defs') {h : String} {β : List SSym}
    (he : Exp g defs h β) : Exp g defs' h β := by
  rcases he with he | he
  · exact Or.inl he
  · exact Or.inr (hs _ he)

theorem LinkBody.mono {g : G} {defs defs' : Defs} (hs : ∀ d ∈ defs, d ∈ defs') {b β : List SSym}
    (hl : LinkBody g defs b β) : LinkBody g defs' b β := by
  rcases hl with ⟨x, hN, r, h1, h2, h3, h4⟩ | h
  · exact Or.inl ⟨x, hN, r, h1, hs _ h2, h3, h4⟩
  · exact Or.inr h

theorem BinProd.mono {g : G} {defs defs' : Defs} (hs : ∀ d ∈ defs, d ∈ defs') {p' : SProd}
    (h : BinProd g defs p') : BinProd g defs' p' := by
  rcases h with h | ⟨β, he, hl⟩
  · exact Or.inl h
  · exact Or.inr ⟨β, he.mono hs, hl.mono hs⟩

theorem BinCore.add_prod {g ng : G} {defs : Defs} (hc : BinCore g ng defs) {p' : SProd} (hp : BinProd g defs p') :
    BinCore g { ng with prods := ins ng.prods p' } defs :=
  ⟨hc.terms, hc.start, hc.nonterms, hc.freshg, hc.inj, hc.old, hc.form,
    fun q hq => (mem_ins.mp hq).elim (hc.prods q) fun e => e ▸ hp⟩

theorem BinCore.extend {g ng g1 : G} {defs : Defs} (hc : BinCore g ng defs) {A head hN : String} {x : SSym}
    {r : List SSym} (ha : addNew ng A numerics = .ok (g1, hN)) (he : Exp g defs head (x :: r))
    (hold : ∀ s ∈ x :: r, OldSym g s) :
    BinCore g { g1 with prods := ins g1.prods { head := head, body := [x, .nonterm hN] } } (defs ++ [(hN, r)]) := by
  obtain ⟨sN, hsN, hformN⟩ := addNew_form ha
  obtain ⟨hfresh, rfl⟩ := addNew_ok ha
  rw [hc.nonterms, List.mem_append, not_or] at hfresh
  have hNd : ∀ d ∈ defs, d.1 ≠ hN := fun d hd hdn => hfresh.2 (List.mem_map.mpr ⟨d, hd, hdn⟩)
  have hs1 : ∀ d ∈ defs, d ∈ defs ++ [(hN, r)] := fun d hd => List.mem_append_left _ hd
  have hmem1 : (hN, r) ∈ defs ++ [(hN, r)] := List.mem_append_right _ (List.mem_singleton_self _)
  refine ⟨hc.terms, hc.start, by simp [hc.nonterms], forall_mem_snoc hc.freshg hfresh.1,
    inj_snoc (fun d : String × List SSym => d.1) hc.inj hNd,
    forall_mem_snoc hc.old fun s hs => hold s (List.mem_cons_of_mem _ hs),
    forall_mem_snoc hc.form ⟨_, sN, hsN, hformN⟩, fun q hq => ?_⟩
  rcases mem_ins.mp hq with hq | rfl
  · exact (hc.prods q hq).mono hs1
  · exact Or.inr ⟨x :: r, he.mono hs1, Or.inl ⟨x, hN, r, rfl, hmem1, rfl, hold x (List.mem_cons_self ..)⟩⟩

theorem binChain_spec {g : G} (A : String) :
    ∀ (fuel : Nat) (head : String) (rest : List SSym) (ng ng' : G) (defs : Defs),
      BinCore g ng defs → Exp g defs head rest → (∀ s ∈ rest, OldSym g s) → 2 ≤ rest.length →
      rest.length ≤ fuel + 1 → binChain A fuel head rest ng = .ok ng' →
      ∃ defs', BinCore g ng' defs' ∧ (∀ p ∈ ng.prods, p ∈ ng'.prods) ∧
        (∀ d ∈ defs', d ∈ defs ∨ ∃ p' ∈ ng'.prods, p'.head = d.1) ∧ Covers ng' head rest := by
  intro fuel
  induction fuel with
  | zero => intro head rest ng ng' defs _ _ _ h2 hf _; omega
  | succ fuel ih =>
    intro head rest ng ng' defs hc he hold h2 hf hrun
    match rest, h2, hf, he, hold, hrun with
    | [x, y], _, _, he, hold, hrun =>
      cases hrun
      exact ⟨defs, hc.add_prod (Or.inr ⟨_, he, Or.inr ⟨x, y, rfl, rfl, hold x (by simp), hold y (by simp)⟩⟩),
        fun p hp => mem_ins.mpr (Or.inl hp), fun d hd => Or.inl hd,
        Covers.of_prod (p := ⟨head, [x, y]⟩) (mem_ins.mpr (Or.inr rfl))⟩
    | x :: y :: z :: rest'', _, hf, he, hold, hrun =>
      simp only [binChain] at hrun
      obtain ⟨⟨g1, hN⟩, ha, hrun⟩ := bind_eq_ok hrun
      obtain ⟨defs', hc', hp', hnew, hcov⟩ := ih hN (y :: z :: rest'') _ ng' _ (hc.extend ha he hold)
        (Or.inr (List.mem_append_right _ (List.mem_singleton_self _)))
        (fun s hs => hold s (List.mem_cons_of_mem _ hs)) (by simp) (by simp at hf ⊢; omega) hrun
      obtain ⟨_, rfl⟩ := addNew_ok ha
      have hlink : (⟨head, [x, .nonterm hN]⟩ : SProd) ∈ ng'.prods := hp' _ (mem_ins.mpr (Or.inr rfl))
      refine ⟨defs', hc', fun p hp => hp' p (mem_ins.mpr (Or.inl hp)), fun d hd => ?_, ⟨_, hlink, rfl⟩, ?_⟩
      · rcases hnew d hd with hd | hd
        · rcases List.mem_append.mp hd with hd | hd
          · exact Or.inl hd
          · cases List.mem_singleton.1 hd; exact Or.inr hcov.1
        · exact Or.inr hd
      · exact (Derives.of_prod hlink).trans (hcov.2.append_left [x])
    | [], h2, _, _, _, _ => simp at h2
    | [_], h2, _, _, _, _ => simp at h2

theorem mem_dedup {α : Type} [DecidableEq α] (l : List α) (y : α) : y ∈ dedup l ↔ y ∈ l := by
  unfold dedup
  rw [mem_insAll]
  simp

theorem mem_headsOf {ps : List SProd} {p : SProd} (h : p ∈ ps) : p.head ∈ headsOf ps := by
  unfold headsOf
  rw [mem_dedup]
  exact List.mem_map.mpr ⟨p, h, rfl⟩

def binProdStep (A : String) (ng : G) (p : SProd) : Outcome G :=
  if isTerminalProd p || isBinary p || p.body.isEmpty || isSingle p then pure { ng with prods := ins ng.prods p }
  else binChain A (p.body.length + 1) A p.body ng

def binHeadStep (g : G) (ng : G) (A : String) : Outcome G :=
  (sortBy prodLt (prodsOf g.prods A)).foldlM (binProdStep A) ng

theorem cnfBin_eq (g : G) : cnfBin g = (headsOf g.prods).foldlM (binHeadStep g) ({ g with prods := [] } : G) := rfl

theorem two_le_of_not_skip {p : SProd} (h : binSkip p = false) : 2 ≤ p.body.length := by
  unfold binSkip isTerminalProd isBinary isSingle at h
  match hb : p.body with
  | [] => rw [hb] at h; simp at h
  | [s] =>
    rw [hb] at h
    cases s <;> simp at h
  | _ :: _ :: _ => simp

/-- between productions: every recorded name has a production -/
def BinInv (g ng : G) : Prop := ∃ defs, BinCore g ng defs ∧ ∀ d ∈ defs, ∃ p' ∈ ng.prods, p'.head = d.1

theorem binProdStep_inv {g : G} {A : String} {ng ng' : G} {p : SProd}
    (h : BinInv g ng) (hp : p ∈ g.prods) (hA : p.head = A) (hs : binProdStep A ng p = .ok ng') :
    BinInv g ng' ∧ (∀ q ∈ ng.prods, q ∈ ng'.prods) ∧ Covers ng' p.head p.body := by
  obtain ⟨defs, hc, hdone⟩ := h
  unfold binProdStep at hs
  split at hs
  · rename_i hskip
    cases hs
    have hsub : ∀ q ∈ ng.prods, q ∈ ins ng.prods p := fun q hq => mem_ins.mpr (Or.inl hq)
    exact ⟨⟨defs, hc.add_prod (Or.inl ⟨hp, hskip⟩), fun d hd => (hdone d hd).imp fun _ h => ⟨hsub _ h.1, h.2⟩⟩, hsub,
      Covers.of_prod (mem_ins.mpr (Or.inr rfl))⟩
  · rename_i hskip
    have hsk : binSkip p = false := by simpa [binSkip] using hskip
    obtain ⟨defs', hc', hp', hnew, hcov⟩ := binChain_spec A (p.body.length + 1) A p.body ng ng' defs hc
      (Or.inl ⟨p, hp, hA, rfl, hsk⟩) (fun s hs => ⟨p, hp, hsk, hs⟩) (two_le_of_not_skip hsk) (by omega) hs
    refine ⟨⟨defs', hc', fun d hd => ?_⟩, hp', hA ▸ hcov⟩
    exact (hnew d hd).elim (fun hd => (hdone d hd).imp fun _ h => ⟨hp' _ h.1, h.2⟩) id

theorem binHeadStep_inv {g : G} {A : String} {ng ng' : G} (h : BinInv g ng) (hs : binHeadStep g ng A = .ok ng') :
    BinInv g ng' ∧ (∀ p : SProd, Covers ng p.head p.body → Covers ng' p.head p.body) ∧
      ∀ p ∈ g.prods, p.head = A → Covers ng' p.head p.body := by
  have hmem : ∀ p, p ∈ sortBy prodLt (prodsOf g.prods A) ↔ p ∈ g.prods ∧ p.head = A := fun p => by
    rw [mem_sortBy, prodsOf, List.mem_filter, decide_eq_true_eq]
  obtain ⟨hi, hm, hc⟩ := foldlM_all (Inv := BinInv g) (C := fun ng p => Covers ng p.head p.body)
    (fun ng p ng' hi hp hf => by
      obtain ⟨hi', hsub, hc⟩ := binProdStep_inv hi ((hmem p).1 hp).1 ((hmem p).1 hp).2 hf
      exact ⟨hi', fun _ h => h.mono hsub, hc⟩) h hs
  exact ⟨hi, hm, fun p hp hA => hc p ((hmem p).2 ⟨hp, hA⟩)⟩

theorem cnfBin_spec {g g' : G} (h : cnfBin g = .ok g') :
    ∃ defs, BinCore g g' defs ∧ (∀ d ∈ defs, ∃ p' ∈ g'.prods, p'.head = d.1) ∧
      ∀ p ∈ g.prods, Covers g' p.head p.body := by
  rw [cnfBin_eq] at h
  have h0 : BinInv g ({ g with prods := [] } : G) := by
    refine ⟨[], ⟨rfl, rfl, (List.append_nil _).symm, ?_, ?_, ?_, ?_, ?_⟩, ?_⟩ <;>
      exact fun _ h => (List.not_mem_nil h).elim
  obtain ⟨⟨defs, hc, hdone⟩, _, hcov⟩ := foldlM_all (Inv := BinInv g)
    (C := fun ng A => ∀ p ∈ g.prods, p.head = A → Covers ng p.head p.body)
    (fun ng A ng' hi _ hf => by
      obtain ⟨hi', hm, hc⟩ := binHeadStep_inv hi hf
      exact ⟨hi', fun A' h p hp hA => hm p (h p hp hA), hc⟩) h0 h
  exact ⟨defs, hc, hdone, fun p hp => hcov p.head (mem_headsOf hp) p hp rfl⟩

theorem OldSym.stands {g : G} (hw : WellFormed g) (defs : Defs) {x : SSym} (hx : OldSym g x) : DefStands g defs x [x] :=
  let ⟨p, hp, _, hxp⟩ := hx
  DefStands.of_decl ((hw.2 p hp).2 x hxp)

theorem BinCore.folded {g g' : G} {defs : Defs} (hc : BinCore g g' defs) (hw : WellFormed g) : Folded g g' defs := by
  refine ⟨hc.terms, hc.start, hc.nonterms, hc.freshg, hc.inj,
    fun d hd s hs => (hc.old d hd s hs).imp fun _ h => ⟨h.1, h.2.2⟩, fun p' hp' => ?_⟩
  rcases hc.prods p' hp' with ⟨hpg, _⟩ | ⟨β, he, hlb⟩
  · exact ⟨_, DefStands.refl_of hw defs hpg, Or.inl hpg⟩
  · refine ⟨β, ?_, ?_⟩
    · rcases hlb with ⟨x, hN, r, hb, hmem, rfl, hx⟩ | ⟨x, y, hb, rfl, hx, hy⟩ <;> rw [hb]
      · exact Expands.cons (hx.stands hw defs) (Expands.single (Or.inr hmem))
      · exact Expands.cons (hx.stands hw defs) (Expands.single (hy.stands hw defs))
    · rcases he with ⟨p, hp, hh, hb, _⟩ | hd
      · exact Or.inl (prod_eq hh hb ▸ hp)
      · exact Or.inr hd

theorem cnfBin_language {g g' : G} (h : cnfBin g = .ok g') (hw : WellFormed g) (w : List String) :
    Language g' w ↔ Language g w := by
  obtain ⟨defs, hc, _, hcov⟩ := cnfBin_spec h
  exact (hc.folded hw).language hw hcov w

theorem cnfBin_wf {g g' : G} (h : cnfBin g = .ok g') (hw : WellFormed g) : WellFormed g' := by
  obtain ⟨defs, hc, _, _⟩ := cnfBin_spec h
  exact (hc.folded hw).wf hw

end AlgoVerif.C08
