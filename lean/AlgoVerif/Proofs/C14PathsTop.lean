import AlgoVerif.Proofs.C14Iter
/-!
# C14 proofs — `Paths(s, strategy)` for the three strategies, and `To`
-/
namespace AlgoVerif.C14

theorem dfs_paths_top {g : Graph} (hg : g.WF) (s : Nat) (hs : s < g.n) :
    ∃ st, dfs g pathsVisitors (g.n + 1) s ⟨Array.replicate g.n false, Array.replicate g.n 0⟩ = .ok st ∧
      PathsOK g s ⟨(s : Int), st.visited, st.s⟩ := by
  obtain ⟨st, h1, h2, h3⟩ := dfs_paths hg s (g.n + 1) s ⟨Array.replicate g.n false, Array.replicate g.n 0⟩
    ⟨pinv_init g s, Or.inl rfl⟩ (by simp) (replicate_false_get hs)
    (cntF_le_succ Array.size_replicate)
  refine ⟨st, h1, rfl, h3.size, h2, ?_⟩
  apply vis_iff_of_closed h2 h3.self
  intro x hx y hy
  exact h3.closed x hx vis_replicate_false y hy

theorem paths_ok {g : Graph} (hg : g.WF) (s : Nat) (hs : s < g.n) (strat : Strategy) :
    ∃ p, g.paths (s : Int) strat = .ok p ∧ PathsOK g s p := by
  have hvalid : g.isVertexValid (s : Int) = true := valid_iff.2 ⟨Int.natCast_nonneg s, Int.ofNat_lt.2 hs⟩
  have key : ∃ st, traverse g strat pathsVisitors s ⟨Array.replicate g.n false, Array.replicate g.n 0⟩ = .ok st ∧
      PathsOK g s ⟨(s : Int), st.visited, st.s⟩ := by
    have plain : ∀ push, PushOK push →
        ∃ st, iter push g pathsVisitors s ⟨Array.replicate g.n false, Array.replicate g.n 0⟩ = .ok st ∧
          PathsOK g s ⟨(s : Int), st.visited, st.s⟩ := fun push hp =>
      let ⟨st, h1, h2, _⟩ := iter_paths_top push hp g hg s (fun _ _ _ => True)
        (fun _ _ _ _ _ _ _ _ _ => trivial) (fun _ _ _ _ _ _ _ => trivial) hs trivial
      ⟨st, h1, h2⟩
    cases strat with
    | dfs => exact dfs_paths_top hg s hs
    | dfsi => exact plain pushStack pushStack_ok
    | bfs => exact plain pushQueue pushQueue_ok
  obtain ⟨st, h1, h2⟩ := key
  refine ⟨⟨(s : Int), st.visited, st.s⟩, ?_, h2⟩
  simp only [Graph.paths, hvalid, if_true, Int.toNat_natCast, h1]

theorem paths_invalid {g : Graph} (s : Int) (hs : g.isVertexValid s = false) (strat : Strategy) :
    g.paths s strat = .ok ⟨s, Array.replicate g.n false, Array.replicate g.n 0⟩ := by
  simp [Graph.paths, hs]

theorem to_out_of_range {g : Graph} (p : Paths) (hsize : p.visited.size = g.n) (v : Int)
    (hv : ¬ (0 ≤ v ∧ v < (g.n : Int))) : p.to v = .panic := by
  unfold Paths.to
  by_cases h0 : 0 ≤ v
  · have : ¬ v.toNat < p.visited.size := by rw [hsize]; omega
    simp [h0, Array.getElem?_eq_none (Nat.le_of_not_lt this)]
  · simp [h0]

theorem to_blank {g : Graph} (s v : Int) :
    (⟨s, Array.replicate g.n false, Array.replicate g.n 0⟩ : Paths).to v =
      if 0 ≤ v ∧ v < (g.n : Int) then .ok none else .panic := by
  split
  · next hv =>
    have : v.toNat < g.n := by omega
    simp [Paths.to, hv.1, this]
  · next hv => exact to_out_of_range _ (by simp) v hv

end AlgoVerif.C14
