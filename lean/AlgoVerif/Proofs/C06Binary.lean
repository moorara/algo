import AlgoVerif.Proofs.C06Order
/-!
# C06 — the binary trie as a set of entries

`ents n` lists the keys (relative to the node) and values of the `term` nodes below `n` in the
order of the ascending traversal.  Under `WF` (right links strictly increasing) it is strictly
sorted, and `put`, `delete` and `get` are the Spec's `Map.put`, `Map.delete` and `Map.get` on it:
the Spec's functions distribute over the three parts of a node's list (own entry, left subtree
under `consKey`, right chain), which is all the inductions over the trie need.  `_delete` ends, at the node
where the key ends and at every node above it on the key's path, by dropping the node if it has become useless
(`prune`); the facts about `delete` go through the laws of `prune`.
The last part is the invariant `Tight` (a node without a left child ends a key),
under which a descending traversal meets a `term` node first.
-/
namespace AlgoVerif.C06
variable {V : Type}

def consKey (ch : UInt8) (e : Key × V) : Key × V := (ch :: e.1, e.2)

@[simp] theorem consKey_fst (ch : UInt8) (e : Key × V) : (consKey ch e).1 = ch :: e.1 := rfl
@[simp] theorem consKey_snd (ch : UInt8) (e : Key × V) : (consKey ch e).2 = e.2 := rfl

namespace Spec

theorem Map.put_map_consKey (ch : UInt8) (m : Map V) (k : Key) (v : V) :
    Map.put (m.map (consKey ch)) (ch :: k) v = (Map.put m k v).map (consKey ch) := by
  induction m with
  | nil => rfl
  | cons e m ih =>
    have : (ch :: k == ch :: e.1) = (k == e.1) := by simp
    simp only [List.map_cons, Map.put, consKey, klt_cons_same, ih, this]
    cases klt k e.1 <;> cases k == e.1 <;> rfl

theorem Map.delete_map_consKey (ch : UInt8) (m : Map V) (k : Key) :
    Map.delete (m.map (consKey ch)) (ch :: k) = (Map.delete m k).map (consKey ch) := by
  simp [Map.delete, List.filter_map, Function.comp_def, bne]

theorem Map.get_map_consKey (ch : UInt8) (m : Map V) (k : Key) :
    Map.get (m.map (consKey ch)) (ch :: k) = Map.get m k := by
  induction m with
  | nil => rfl
  | cons e m ih =>
    simp only [Map.get, List.map_cons, List.find?_cons] at ih ⊢
    have : (ch :: e.1 == ch :: k) = (e.1 == k) := by simp
    simp only [consKey, this]
    cases e.1 == k
    · exact ih
    · rfl
end Spec

namespace BNode

def ents : BNode V → List (Key × V)
  | nil => []
  | node ch val term l r => (if term then [([ch], val)] else []) ++ (ents l).map (consKey ch) ++ ents r

/-- every node of the right chain starting at `n` has a character above `c` (the chain is sorted, so
the first node decides) -/
def Above (c : UInt8) : BNode V → Prop
  | nil => True
  | node ch _ _ _ _ => c < ch

/-- right links are strictly increasing (`_isTrie`) -/
def WF : BNode V → Prop
  | nil => True
  | node ch _ _ l r => WF l ∧ WF r ∧ Above ch r

@[simp] theorem ents_nil : ents (nil : BNode V) = [] := rfl
@[simp] theorem WF_nil : WF (nil : BNode V) := trivial
@[simp] theorem Above_nil (c : UInt8) : Above c (nil : BNode V) := trivial

theorem Above.mono {c d : UInt8} {n : BNode V} (h : Above d n) (hcd : c < d) : Above c n := by
  cases n with
  | nil => trivial
  | node ch val term l r => exact UInt8.lt_trans hcd h

theorem ents_left_head (ch : UInt8) (val : V) (term : Bool) (l : BNode V) :
    ∀ e ∈ (if term then [([ch], val)] else []) ++ (ents l).map (consKey ch), ∃ k, e.1 = ch :: k := by
  intro e he
  rcases List.mem_append.mp he with he | he
  · cases term <;> simp at he
    exact ⟨[], he ▸ rfl⟩
  · obtain ⟨e', _, rfl⟩ := List.mem_map.mp he
    exact ⟨e'.1, rfl⟩

theorem ents_key_ne_nil (n : BNode V) : ∀ e ∈ ents n, e.1 ≠ [] := by
  induction n with
  | nil => simp
  | node ch val term l r ihl ihr =>
    intro e he
    rcases List.mem_append.mp he with he | he
    · obtain ⟨k, hk⟩ := ents_left_head ch val term l e he
      simp [hk]
    · exact ihr e he

theorem ents_head_gt {c : UInt8} {n : BNode V} (hw : WF n) (ha : Above c n) :
    ∀ e ∈ ents n, ∃ x k, e.1 = x :: k ∧ c < x := by
  induction n generalizing c with
  | nil => simp
  | node ch val term l r ihl ihr =>
    intro e he
    rcases List.mem_append.mp he with he | he
    · obtain ⟨k, hk⟩ := ents_left_head ch val term l e he
      exact ⟨ch, k, hk, ha⟩
    · obtain ⟨x, k, h1, h2⟩ := ihr hw.2.1 hw.2.2 e he
      exact ⟨x, k, h1, UInt8.lt_trans ha h2⟩

theorem ents_right_head {ch : UInt8} {val : V} {term : Bool} {l r : BNode V} (hw : WF (node ch val term l r)) :
    ∀ e ∈ ents r, ∃ x k, e.1 = x :: k ∧ ch < x := ents_head_gt hw.2.1 hw.2.2

theorem ents_lt_of_above {c : UInt8} {n : BNode V} (hw : WF n) (ha : Above c n) (rest : Key) :
    ∀ e ∈ ents n, klt (c :: rest) e.1 = true := by
  intro e he
  obtain ⟨x, k, hx, hlt⟩ := ents_head_gt hw ha e he
  rw [hx]; exact klt_cons_of_lt hlt _ _

theorem ents_left_lt {ch c : UInt8} (h : ch < c) (val : V) (term : Bool) (l : BNode V) (rest : Key) :
    ∀ e ∈ (if term then [([ch], val)] else []) ++ (ents l).map (consKey ch), klt e.1 (c :: rest) = true := by
  intro e he
  obtain ⟨k, hk⟩ := ents_left_head ch val term l e he
  rw [hk]; exact klt_cons_of_lt h _ _

theorem ents_left_gt (ch : UInt8) (l : BNode V) : ∀ e ∈ (ents l).map (consKey ch), klt [ch] e.1 = true := by
  intro e he
  obtain ⟨e', he', rfl⟩ := List.mem_map.mp he
  cases h : e'.1 with
  | nil => exact absurd h (ents_key_ne_nil l e' he')
  | cons => simp [h]

theorem sorted_ents {n : BNode V} (hw : WF n) : Sorted (ents n) := by
  induction n with
  | nil => exact Sorted.nil
  | node ch val term l r ihl ihr =>
    unfold Sorted ents
    rw [List.pairwise_append, List.pairwise_append]
    refine ⟨⟨?_, ?_, ?_⟩, ihr hw.2.1, ?_⟩
    · cases term <;> simp
    · rw [List.pairwise_map]
      exact (ihl hw.1).imp (by intro a b h; simpa using h)
    · intro a ha b hb
      cases term <;> simp at ha
      exact ha ▸ ents_left_gt ch l b hb
    · intro a ha b hb
      obtain ⟨x, k, h1, h2⟩ := ents_right_head hw b hb
      rw [h1]; exact ents_left_lt h2 val term l k a ha

open Spec

theorem ents_chain [Inhabited V] (c : UInt8) (rest : Key) (v : V) : ents (chain c rest v) = [(c :: rest, v)] := by
  induction rest generalizing c with
  | nil => simp [chain, ents]
  | cons c' rest ih => simp [chain, ents, ih, consKey]

theorem WF_chain [Inhabited V] (c : UInt8) (rest : Key) (v : V) : WF (chain c rest v) := by
  induction rest generalizing c with
  | nil => simp [chain, WF]
  | cons c' rest ih => simp [chain, WF, ih]

theorem Above_chain [Inhabited V] {x c : UInt8} (h : x < c) (rest : Key) (v : V) : Above x (chain c rest v) := by
  cases rest <;> simpa [chain, Above] using h

theorem put_WF [Inhabited V] (n : BNode V) (c : UInt8) (rest : Key) (v : V) (sz : Int) (hw : WF n) :
    WF (put n c rest v sz).1 ∧ ∀ x, x < c → Above x n → Above x (put n c rest v sz).1 := by
  induction n generalizing c rest sz with
  | nil => exact ⟨by simp [put, WF_chain], fun x hx _ => by simpa [put] using Above_chain hx rest v⟩
  | node ch val term l r ihl ihr =>
    unfold put
    rcases u8_trichotomy ch c with h | rfl | h
    · rw [ite_cmp_lt h]
      exact ⟨⟨hw.1, (ihr c rest sz hw.2.1).1, (ihr c rest sz hw.2.1).2 ch h hw.2.2⟩, fun x _ ha => ha⟩
    · rw [ite_cmp_eq]
      cases rest with
      | nil => exact ⟨hw, fun x _ ha => ha⟩
      | cons c' rest' => exact ⟨⟨(ihl c' rest' sz hw.1).1, hw.2.1, hw.2.2⟩, fun x _ ha => ha⟩
    · rw [ite_cmp_gt h]
      cases rest with
      | nil => exact ⟨⟨trivial, hw, h⟩, fun x hx _ => hx⟩
      | cons c' rest' => exact ⟨⟨WF_chain _ _ _, hw, h⟩, fun x hx _ => hx⟩

theorem ents_put [Inhabited V] (n : BNode V) (c : UInt8) (rest : Key) (v : V) (sz : Int) (hw : WF n) :
    ents (put n c rest v sz).1 = Map.put (ents n) (c :: rest) v := by
  induction n generalizing c rest sz with
  | nil => simp [put, ents_chain, Map.put]
  | node ch val term l r ihl ihr =>
    have hr := ents_lt_of_above hw.2.1 hw.2.2
    unfold put
    rcases u8_trichotomy ch c with h | rfl | h
    · rw [ite_cmp_lt h]
      simp only [ents]
      rw [ihr c rest sz hw.2.1, Map.put_append_right v (ents_left_lt h val term l rest)]
    · rw [ite_cmp_eq]
      cases rest with
      | nil =>
        simp only [ents]
        rw [Map.put_append_left v (hr []), Map.put_append_left v (ents_left_gt ch l)]
        cases term <;> simp [Map.put, klt_irrefl]
      | cons c' rest' =>
        have ht : ∀ e ∈ (if term then [([ch], val)] else []), klt e.1 (ch :: c' :: rest') = true := by
          cases term <;> simp
        simp only [ents]
        rw [Map.put_append_left v (hr _), ihl c' rest' sz hw.1, ← Map.put_map_consKey,
          Map.put_append_right v ht]
    · rw [ite_cmp_gt h]
      rw [Map.put_of_lt v (ents_lt_of_above hw h rest)]
      cases rest <;> simp [ents, ents_chain, consKey]

theorem put_size [Inhabited V] (n : BNode V) (c : UInt8) (rest : Key) (v : V) (sz : Int) :
    (put n c rest v sz).2 = sz + (ents (put n c rest v sz).1).length - (ents n).length := by
  induction n generalizing c rest sz with
  | nil => simp [put, ents_chain]
  | node ch val term l r ihl ihr =>
    unfold put
    rcases u8_trichotomy ch c with h | rfl | h
    · rw [ite_cmp_lt h]
      have := ihr c rest sz
      simp only [ents, List.length_append, List.length_map]
      rw [this]; push_cast; omega
    · rw [ite_cmp_eq]
      cases rest with
      | nil => cases term <;> simp [ents] <;> omega
      | cons c' rest' =>
        have := ihl c' rest' sz
        simp only [ents, List.length_append, List.length_map]
        rw [this]; push_cast; omega
    · rw [ite_cmp_gt h]
      cases rest with
      | nil => simp [ents]; omega
      | cons c' rest' => simp [ents, ents_chain]; omega

theorem isNil_iff (n : BNode V) : n.isNil = true ↔ n = nil := by cases n <;> simp [isNil]

/-- `if n.left == nil && !n.term { n = n.right }` at the end of `_delete`: a node that ends no key and has
no left subtree leaves its chain -/
def prune : BNode V → BNode V
  | nil => nil
  | node ch val term l r => if l.isNil && !term then r else node ch val term l r

theorem prune_node (ch : UInt8) (val : V) (term : Bool) (l r : BNode V) :
    prune (node ch val term l r) = if l.isNil && !term then r else node ch val term l r := rfl

theorem ents_prune (n : BNode V) : ents (prune n) = ents n := by
  cases n with
  | nil => rfl
  | node ch val term l r =>
    rw [prune_node]
    split
    · next h =>
      simp only [Bool.and_eq_true, isNil_iff, Bool.not_eq_eq_eq_not, Bool.not_true] at h
      simp [ents, h.1, h.2]
    · rfl

theorem WF_prune {n : BNode V} (hw : WF n) : WF (prune n) ∧ ∀ x, Above x n → Above x (prune n) := by
  cases n with
  | nil => exact ⟨hw, fun _ h => h⟩
  | node ch val term l r =>
    rw [prune_node]
    split
    · exact ⟨hw.2.1, fun x hx => Above.mono hw.2.2 hx⟩
    · exact ⟨hw, fun _ h => h⟩

theorem delete_here [Inhabited V] (ch : UInt8) (val : V) (term : Bool) (l r : BNode V) (sz : Int) :
    delete (node ch val term l r) ch [] sz =
      (prune (node ch (if term then default else val) false l r), if term then some val else none,
        if term then sz - 1 else sz) := by
  rw [delete, ite_cmp_eq, prune_node]
  cases term <;> cases l.isNil <;> rfl

theorem delete_down [Inhabited V] (ch : UInt8) (val : V) (term : Bool) (l r : BNode V) (c' : UInt8) (rest' : Key)
    (sz : Int) :
    delete (node ch val term l r) ch (c' :: rest') sz =
      (prune (node ch val term (delete l c' rest' sz).1 r), (delete l c' rest' sz).2) := by
  rw [delete, ite_cmp_eq, prune_node]
  simp only
  split <;> rfl

theorem delete_WF [Inhabited V] (n : BNode V) (c : UInt8) (rest : Key) (sz : Int) (hw : WF n) :
    WF (delete n c rest sz).1 ∧ ∀ x, Above x n → Above x (delete n c rest sz).1 := by
  induction n generalizing c rest sz with
  | nil => simp [delete]
  | node ch val term l r ihl ihr =>
    rcases u8_trichotomy ch c with h | rfl | h
    · unfold delete; rw [ite_cmp_lt h]
      exact ⟨⟨hw.1, (ihr c rest sz hw.2.1).1, (ihr c rest sz hw.2.1).2 ch hw.2.2⟩, fun x hx => hx⟩
    · cases rest with
      | nil => rw [delete_here]; exact WF_prune (n := node ch _ false l r) hw
      | cons c' rest' =>
        rw [delete_down]
        exact WF_prune (n := node ch val term _ r) ⟨(ihl c' rest' sz hw.1).1, hw.2.1, hw.2.2⟩
    · unfold delete; rw [ite_cmp_gt h]; exact ⟨hw, fun x hx => hx⟩

theorem ents_delete [Inhabited V] (n : BNode V) (c : UInt8) (rest : Key) (sz : Int) (hw : WF n) :
    ents (delete n c rest sz).1 = Map.delete (ents n) (c :: rest) := by
  induction n generalizing c rest sz with
  | nil => rfl
  | node ch val term l r ihl ihr =>
    have hr : ∀ rest, Map.delete (ents r) (ch :: rest) = ents r := fun rest =>
      Map.delete_of_ne fun e he => (klt_ne (ents_lt_of_above hw.2.1 hw.2.2 rest e he)).symm
    rcases u8_trichotomy ch c with h | rfl | h
    · unfold delete; rw [ite_cmp_lt h]
      simp only [ents]
      rw [ihr c rest sz hw.2.1, Map.delete_append,
        Map.delete_of_ne fun e he => klt_ne (ents_left_lt h val term l rest e he)]
    · cases rest with
      | nil =>
        simp only [delete_here, ents_prune, ents, Map.delete_append, hr,
          Map.delete_of_ne fun e he => (klt_ne (ents_left_gt ch l e he)).symm]
        cases term <;> simp [Map.delete]
      | cons c' rest' =>
        simp only [delete_down, ents_prune, ents, Map.delete_append, hr, Map.delete_map_consKey,
          ← ihl c' rest' sz hw.1]
        cases term <;> simp [Map.delete]
    · unfold delete; rw [ite_cmp_gt h]
      exact (Map.delete_of_ne fun e he => (klt_ne (ents_lt_of_above hw h rest e he)).symm).symm

theorem delete_size [Inhabited V] (n : BNode V) (c : UInt8) (rest : Key) (sz : Int) :
    (delete n c rest sz).2.2 = sz + (ents (delete n c rest sz).1).length - (ents n).length := by
  induction n generalizing c rest sz with
  | nil => simp [delete]
  | node ch val term l r ihl ihr =>
    rcases u8_trichotomy ch c with h | rfl | h
    · unfold delete; rw [ite_cmp_lt h]
      simp only [ents, List.length_append, List.length_map]
      rw [ihr c rest sz]; push_cast; omega
    · cases rest with
      | nil =>
        simp only [delete_here, ents_prune, ents]
        cases term <;> simp <;> omega
      | cons c' rest' =>
        simp only [delete_down, ents_prune, ents, List.length_append, List.length_map]
        rw [ihl c' rest' sz]; push_cast; omega
    · unfold delete; rw [ite_cmp_gt h]
      simp only; omega

theorem delete_val [Inhabited V] (n : BNode V) (c : UInt8) (rest : Key) (sz : Int) :
    (delete n c rest sz).2.1 = get n (c :: rest) := by
  induction n generalizing c rest sz with
  | nil => simp [delete, get]
  | node ch val term l r ihl ihr =>
    rcases u8_trichotomy ch c with h | rfl | h
    · unfold delete get; rw [ite_cmp_lt h, ite_cmp_lt h]; exact ihr c rest sz
    · cases rest with
      | nil => rw [delete_here, get, ite_cmp_eq]; cases term <;> cases l <;> rfl
      | cons c' rest' => rw [delete_down, get, ite_cmp_eq]; simpa using ihl c' rest' sz
    · unfold delete get; rw [ite_cmp_gt h, ite_cmp_gt h]

theorem get_eq (n : BNode V) (k : Key) (hw : WF n) : get n k = Map.get (ents n) k := by
  induction n generalizing k with
  | nil => rfl
  | node ch val term l r ihl ihr =>
    cases k with
    | nil => exact (Map.get_of_ne (ents_key_ne_nil _)).symm
    | cons c rest =>
      unfold get
      rcases u8_trichotomy ch c with h | rfl | h
      · rw [ite_cmp_lt h]
        simp only [ents]
        rw [ihr _ hw.2.1, Map.get_append,
          Map.get_of_ne fun e he => klt_ne (ents_left_lt h val term l rest e he), Option.none_or]
      · rw [ite_cmp_eq]
        simp only [ents, Map.get_append,
          Map.get_map_consKey, ← ihl rest hw.1]
        rw [Map.get_of_ne fun e he => (klt_ne (ents_lt_of_above hw.2.1 hw.2.2 rest e he)).symm]
        cases term <;> cases rest <;> simp [Map.get]
      · rw [ite_cmp_gt h]
        exact (Map.get_of_ne fun e he => (klt_ne (ents_lt_of_above hw h rest e he)).symm).symm

/-! ## every node without a left child ends a key (why `Max`'s visitor never sees a non-`term` node) -/

def Tight : BNode V → Prop
  | nil => True
  | node _ _ term l r => Tight l ∧ Tight r ∧ (l.isNil = true → term = true)

theorem Tight_prune {ch : UInt8} {val : V} {term : Bool} {l r : BNode V} (hl : Tight l) (hr : Tight r) :
    Tight (prune (node ch val term l r)) := by
  rw [prune_node]
  split
  · exact hr
  · next h => exact ⟨hl, hr, fun hn => by cases term <;> simp_all⟩

theorem chain_not_nil [Inhabited V] (c : UInt8) (rest : Key) (v : V) : (chain c rest v).isNil = false := by
  cases rest <;> rfl

theorem chain_tight [Inhabited V] (c : UInt8) (rest : Key) (v : V) : Tight (chain c rest v) := by
  induction rest generalizing c with
  | nil => simp [chain, Tight]
  | cons c' rest ih => simp [chain, Tight, ih, chain_not_nil]

theorem put_not_nil [Inhabited V] (n : BNode V) (c : UInt8) (rest : Key) (v : V) (sz : Int) :
    (put n c rest v sz).1.isNil = false := by
  cases n with
  | nil => simp [put, chain_not_nil]
  | node ch val term l r =>
    simp only [put]
    split
    · cases rest <;> rfl
    · split
      · cases rest <;> rfl
      · rfl

theorem put_tight [Inhabited V] (n : BNode V) (c : UInt8) (rest : Key) (v : V) (sz : Int) (h : Tight n) :
    Tight (put n c rest v sz).1 := by
  induction n generalizing c rest sz with
  | nil => simp [put, chain_tight]
  | node ch val term l r ihl ihr =>
    obtain ⟨hl, hr, ht⟩ := h
    simp only [put]
    split
    · cases rest with
      | nil => exact ⟨trivial, ⟨hl, hr, ht⟩, fun _ => rfl⟩
      | cons c' rest' => exact ⟨chain_tight .., ⟨hl, hr, ht⟩, fun hh => by simp [chain_not_nil] at hh⟩
    · split
      · cases rest with
        | nil => exact ⟨hl, hr, fun _ => rfl⟩
        | cons c' rest' => exact ⟨ihl c' rest' sz hl, hr, fun hh => by simp [put_not_nil] at hh⟩
      · exact ⟨hl, ihr c rest sz hr, ht⟩

theorem delete_tight [Inhabited V] (n : BNode V) (c : UInt8) (rest : Key) (sz : Int) (h : Tight n) :
    Tight (delete n c rest sz).1 := by
  induction n generalizing c rest sz with
  | nil => exact h
  | node ch val term l r ihl ihr =>
    rcases u8_trichotomy ch c with hc | rfl | hc
    · unfold delete; rw [ite_cmp_lt hc]; exact ⟨h.1, ihr c rest sz h.2.1, h.2.2⟩
    · cases rest with
      | nil => rw [delete_here]; exact Tight_prune h.1 h.2.1
      | cons c' rest' => rw [delete_down]; exact Tight_prune (ihl c' rest' sz h.1) h.2.1
    · unfold delete; rw [ite_cmp_gt hc]; exact h

/-- a descending traversal whose visitor stops at the first `term` node stops at its very first call: what the
visitor would do on a non-`term` node is never asked for -/
theorem travDesc_first_term {σ : Type} (v1 v2 : σ → Key → V → Bool → σ × Bool)
    (hagree : ∀ s k v, v1 s k v true = v2 s k v true) (hstop : ∀ s k v, (v1 s k v true).2 = false)
    (n : BNode V) (hn : n.isNil = false) (ht : Tight n) (pre : Key) (s : σ) :
    travDesc v1 n pre s = travDesc v2 n pre s ∧ (travDesc v1 n pre s).2 = false := by
  induction n generalizing pre s with
  | nil => simp [isNil] at hn
  | node ch val term l r ihl ihr =>
    obtain ⟨hl, hr, htm⟩ := ht
    simp only [travDesc]
    cases hrn : r.isNil with
    | false =>
      obtain ⟨h1, h2⟩ := ihr hrn hr pre s
      rw [← h1]
      simp [h2]
    | true =>
      cases (isNil_iff r).mp hrn
      simp only [travDesc, Bool.not_true, Bool.false_eq_true, if_false]
      cases hln : l.isNil with
      | false =>
        obtain ⟨h1, h2⟩ := ihl hln hl (pre ++ [ch]) s
        have h2' : (travDesc v2 l (pre ++ [ch]) s).2 = false := h1 ▸ h2
        simp [h1, h2']
      | true =>
        cases (isNil_iff l).mp hln
        have : term = true := htm rfl
        subst this
        simp only [travDesc, Bool.not_true, Bool.false_eq_true, if_false]
        exact ⟨hagree .., hstop ..⟩

end BNode

namespace Binary

theorem step_tight [Inhabited V] {t t' : Binary V} {o : Out V} (op : Op V) (h : t.root.Tight)
    (hs : t.step op = .ok (t', o)) : t'.root.Tight := by
  have hdel : ∀ k (r : Binary V × Option V), t.delete k = .ok r → r.1.root.Tight := by
    intro k r hr
    cases k with
    | nil => simp [Binary.delete] at hr
    | cons c rest =>
      simp only [Binary.delete, Outcome.ok.injEq] at hr
      subst hr
      exact BNode.delete_tight _ _ _ _ h
  cases op with
  | put k v =>
    cases k with
    | nil => simp [Binary.step, Binary.put, Outcome.map] at hs
    | cons c rest =>
      simp only [Binary.step, Binary.put, Outcome.map, Outcome.ok.injEq, Prod.mk.injEq] at hs
      rw [← hs.1]
      exact BNode.put_tight _ _ _ _ _ h
  | delete k =>
    simp only [Binary.step] at hs
    cases hd : t.delete k with
    | ok r =>
      simp only [hd, Outcome.map, Outcome.ok.injEq, Prod.mk.injEq] at hs
      rw [← hs.1]; exact hdel k r hd
    | panic => simp [hd, Outcome.map] at hs
    | diverge => simp [hd, Outcome.map] at hs
  | deleteMin | deleteMax =>
    simp only [Binary.step, Binary.deleteMin, Binary.deleteMax] at hs
    split at hs
    · simp only [Outcome.map, Outcome.ok.injEq, Prod.mk.injEq] at hs
      rw [← hs.1]; exact h
    · next k v _ =>
      cases hd : t.delete k with
      | ok r =>
        obtain ⟨t1, o1⟩ := r
        have := hdel k _ hd
        cases o1 <;> simp only [hd, Outcome.map, Outcome.ok.injEq, Prod.mk.injEq] at hs <;> (rw [← hs.1]; exact this)
      | panic => simp [hd, Outcome.map] at hs
      | diverge => simp [hd, Outcome.map] at hs
  | deleteAll =>
    simp only [Binary.step, Outcome.ok.injEq, Prod.mk.injEq] at hs
    rw [← hs.1]; trivial
  | get k =>
    simp only [Binary.step] at hs
    cases hg : t.get k <;> simp only [hg, Outcome.map, Outcome.ok.injEq, Prod.mk.injEq, reduceCtorEq] at hs
    rw [← hs.1]; exact h
  | _ =>
    simp only [Binary.step, Outcome.ok.injEq, Prod.mk.injEq] at hs
    rw [← hs.1]; exact h

end Binary
end AlgoVerif.C06
