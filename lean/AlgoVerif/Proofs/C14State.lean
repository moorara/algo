import AlgoVerif.Proofs.C14Build
/-!
# C14 proofs — graph objects: `AddEdge`, `build`, exact adjacency lists, counters, `Reverse()`
-/
namespace AlgoVerif.C14

theorem addEdge_kind (o : GObj) (u v w : Int) : (o.addEdge u v w).kind = o.kind := by
  unfold GObj.addEdge
  split
  · split <;> rfl
  · rfl

theorem addEdge_g (o : GObj) (u v w : Int) :
    (o.addEdge u v w).g =
      if o.kind.isDirected then o.g.addEdgeDirected u v w else o.g.addEdgeUndirected u v w := by
  unfold GObj.addEdge
  by_cases h : (o.g.isVertexValid u && o.g.isVertexValid v) = true
  · rw [if_pos h]; split <;> rfl
  · rw [if_neg h]
    unfold Graph.addEdgeDirected Graph.addEdgeUndirected
    simp [h]

theorem foldl_addEdge_kind (es : List EdgeIn) (o : GObj) :
    (es.foldl (fun o e => o.addEdge e.u e.v e.w) o).kind = o.kind := by
  induction es generalizing o with
  | nil => rfl
  | cons e es ih => simp only [List.foldl_cons]; rw [ih, addEdge_kind]

theorem foldl_addEdge_g (es : List EdgeIn) (o : GObj) :
    (es.foldl (fun o e => o.addEdge e.u e.v e.w) o).g =
      if o.kind.isDirected then es.foldl (fun g e => g.addEdgeDirected e.u e.v e.w) o.g
      else es.foldl (fun g e => g.addEdgeUndirected e.u e.v e.w) o.g := by
  induction es generalizing o with
  | nil => simp
  | cons e es ih =>
    simp only [List.foldl_cons]
    rw [ih, addEdge_kind, addEdge_g]
    split <;> rfl

theorem build_kind (k : Kind) (n : Nat) (es : List EdgeIn) : (GObj.build k n es).kind = k := by
  unfold GObj.build; rw [foldl_addEdge_kind]; rfl

theorem build_g (k : Kind) (n : Nat) (es : List EdgeIn) : (GObj.build k n es).g = theGraph k n es := by
  unfold GObj.build theGraph buildDirected buildUndirected
  rw [foldl_addEdge_g]; rfl

theorem build_append (k : Kind) (n : Nat) (es : List EdgeIn) (e : EdgeIn) :
    GObj.build k n (es ++ [e]) = (GObj.build k n es).addEdge e.u e.v e.w := by
  unfold GObj.build; rw [List.foldl_append]; rfl

theorem addEdge_n (o : GObj) (u v w : Int) : (o.addEdge u v w).g.n = o.g.n := by
  rw [addEdge_g]; split
  · exact n_addEdgeDirected _ _ _ _
  · exact n_addEdgeUndirected _ _ _ _

theorem addEdge_e (o : GObj) (u v w : Int) :
    (o.addEdge u v w).e = o.e + if validE o.g.n ⟨u, v, w⟩ then 1 else 0 := by
  unfold GObj.addEdge
  rw [validE_iff]
  split
  · split <;> rfl
  · rfl

theorem addEdge_ins (o : GObj) (u v w : Int) :
    (o.addEdge u v w).ins =
      if o.kind.isDirected && validE o.g.n ⟨u, v, w⟩ then o.ins.modify v.toNat (· + 1) else o.ins := by
  unfold GObj.addEdge
  rw [validE_iff]
  by_cases h : (o.g.isVertexValid u && o.g.isVertexValid v) = true
  · rw [if_pos h]; cases hk : o.kind.isDirected <;> simp [h]
  · rw [if_neg h]; simp [h]

theorem foldl_addEdge_n (es : List EdgeIn) (o : GObj) :
    (es.foldl (fun o e => o.addEdge e.u e.v e.w) o).g.n = o.g.n := by
  induction es generalizing o with
  | nil => rfl
  | cons e es ih => simp only [List.foldl_cons]; rw [ih, addEdge_n]

theorem foldl_addEdge_e (es : List EdgeIn) (o : GObj) :
    (es.foldl (fun o e => o.addEdge e.u e.v e.w) o).e = o.e + (es.filter (validE o.g.n)).length := by
  induction es generalizing o with
  | nil => simp
  | cons e es ih =>
    simp only [List.foldl_cons]
    rw [ih, addEdge_e, addEdge_n, List.filter_cons]
    split <;> simp <;> omega

theorem foldl_addEdge_ins (es : List EdgeIn) (o : GObj) (hk : o.kind.isDirected = true) :
    (es.foldl (fun o e => o.addEdge e.u e.v e.w) o).ins.size = o.ins.size ∧
    ∀ x, x < o.ins.size → (es.foldl (fun o e => o.addEdge e.u e.v e.w) o).ins.getD x 0 =
      o.ins.getD x 0 + (es.filter fun e => validE o.g.n e && decide (e.v.toNat = x)).length := by
  induction es generalizing o with
  | nil => exact ⟨rfl, fun x _ => rfl⟩
  | cons e es ih =>
    have hins := addEdge_ins o e.u e.v e.w
    rw [hk, Bool.true_and, show (⟨e.u, e.v, e.w⟩ : EdgeIn) = e from rfl] at hins
    have hsz : (o.addEdge e.u e.v e.w).ins.size = o.ins.size := by rw [hins]; split <;> simp
    obtain ⟨h1, h2⟩ := ih (o.addEdge e.u e.v e.w) ((addEdge_kind o e.u e.v e.w).symm ▸ hk)
    refine ⟨h1.trans hsz, fun x hx => ?_⟩
    rw [List.foldl_cons, h2 x (hsz ▸ hx), addEdge_n, hins, List.filter_cons]
    by_cases hv : validE o.g.n e = true
    · rw [if_pos hv, getD_modify _ _ _ _ _ hx]
      simp only [hv, Bool.true_and, decide_eq_true_eq]
      split <;> simp only [List.length_cons] <;> omega
    · rw [if_neg hv]
      simp only [hv, Bool.false_and, Bool.false_eq_true, if_false]

theorem build_e (k : Kind) (n : Nat) (es : List EdgeIn) : (GObj.build k n es).e = (es.filter (validE n)).length := by
  unfold GObj.build; rw [foldl_addEdge_e]; simp [GObj.new, Graph.new]

theorem build_n (k : Kind) (n : Nat) (es : List EdgeIn) : (GObj.build k n es).g.n = n := by
  unfold GObj.build; rw [foldl_addEdge_n]; rfl

theorem build_ins (k : Kind) (hk : k.isDirected = true) (n : Nat) (es : List EdgeIn) :
    (GObj.build k n es).ins.size = n ∧
    ∀ x, x < n → (GObj.build k n es).ins[x]? =
      some (es.filter fun e => validE n e && decide (e.v.toNat = x)).length := by
  obtain ⟨h1, h2⟩ := foldl_addEdge_ins es (GObj.new k n) hk
  have hs : (GObj.new k n).ins.size = n := by simp [GObj.new, hk]
  refine ⟨by unfold GObj.build; rw [h1, hs], fun x hx => ?_⟩
  unfold GObj.build
  rw [getD_of_lt _ 0 (by rw [h1, hs]; exact hx), h2 x (hs.symm ▸ hx)]
  simp [GObj.new, hk, Graph.new, hx]

theorem toList_eq_range_map {α : Type} (a : Array α) (d : α) :
    a.toList = (List.range a.size).map fun i => a.getD i d := by
  apply List.ext_getElem
  · simp
  · intro i h1 h2
    simp only [List.getElem_map, List.getElem_range, Array.getElem_toList]
    have : i < a.size := by simpa using h1
    rw [Array.getD_eq_getD_getElem?, Array.getElem?_eq_getElem this]; rfl

theorem build_adj_get (k : Kind) (n : Nat) (es : List EdgeIn) (x : Nat) (hx : x < n) :
    (GObj.build k n es).g.adj[x]? = some (adjSpec k n es x) := by
  rw [build_g, ← theGraph_adj k n es x]
  apply getD_of_lt
  rw [(theGraph_wf k n es).size, theGraph_n]; exact hx

theorem build_valid (k : Kind) (n : Nat) (es : List EdgeIn) (v : Int) :
    (GObj.build k n es).g.isVertexValid v = true ↔ 0 ≤ v ∧ v < (n : Int) := by
  rw [valid_iff, build_n]

theorem build_adjOf (k : Kind) (n : Nat) (es : List EdgeIn) (v : Int) :
    (GObj.build k n es).adjOf v =
      if 0 ≤ v ∧ v < (n : Int) then .ok (some (adjSpec k n es v.toNat)) else .ok none := by
  unfold GObj.adjOf
  by_cases h : 0 ≤ v ∧ v < (n : Int)
  · rw [if_pos h, if_pos ((build_valid k n es v).2 h), build_adj_get k n es v.toNat ((Int.toNat_lt h.1).2 h.2)]
  · rw [if_neg h, if_neg (mt (build_valid k n es v).1 h)]

theorem build_outDegree (k : Kind) (n : Nat) (es : List EdgeIn) (v : Int) :
    (GObj.build k n es).outDegree v =
      if 0 ≤ v ∧ v < (n : Int) then .ok ((adjSpec k n es v.toNat).length : Int) else .ok (-1) := by
  unfold GObj.outDegree
  by_cases h : 0 ≤ v ∧ v < (n : Int)
  · rw [if_pos h, if_pos ((build_valid k n es v).2 h), build_adj_get k n es v.toNat ((Int.toNat_lt h.1).2 h.2)]
  · rw [if_neg h, if_neg (mt (build_valid k n es v).1 h)]

theorem build_inDegree (k : Kind) (hk : k.isDirected = true) (n : Nat) (es : List EdgeIn) (v : Int) :
    (GObj.build k n es).inDegree v =
      if 0 ≤ v ∧ v < (n : Int) then
        .ok ((es.filter fun e => validE n e && decide (e.v.toNat = v.toNat)).length : Int)
      else .ok (-1) := by
  unfold GObj.inDegree
  by_cases h : 0 ≤ v ∧ v < (n : Int)
  · rw [if_pos h, if_pos ((build_valid k n es v).2 h), (build_ins k hk n es).2 v.toNat ((Int.toNat_lt h.1).2 h.2)]
  · rw [if_neg h, if_neg (mt (build_valid k n es v).1 h)]

theorem build_edges (k : Kind) (n : Nat) (es : List EdgeIn) :
    (GObj.build k n es).edges =
      if k.isDirected then (List.range n).flatMap fun v => (adjSpec k n es v).map (·.e)
      else (List.range n).flatMap fun v => ((adjSpec k n es v).filter fun x => decide (v < x.to)).map (·.e) := by
  unfold GObj.edges
  have hsz : (GObj.build k n es).g.adj.size = n := by
    rw [build_g, (theGraph_wf k n es).size, theGraph_n]
  rw [build_kind]
  split
  · rw [toList_eq_range_map _ [], hsz, List.flatMap_map]
    congr 1; funext v
    rw [build_g, theGraph_adj]
  · rw [hsz]
    congr 1; funext v
    rw [build_g, theGraph_adj]

theorem flip_row (k : Kind) (hk : k.isDirected = true) (n : Nat) (v : Nat) (es : List EdgeIn) :
    ((adjSpec k n es v).map fun x => if k.isWeighted then (⟨x.e.b, x.e.a, x.e.w⟩ : EdgeIn) else ⟨x.to, v, x.e.w⟩) =
      (es.filter fun e => validE n e && decide (e.u.toNat = v)).map fun e => ⟨e.v, e.u, e.w⟩ := by
  induction es with
  | nil => simp [adjSpec]
  | cons e es ih =>
    have hcons : adjSpec k n (e :: es) v = arcsOf k n e v ++ adjSpec k n es v := by simp [adjSpec]
    rw [hcons, List.map_append, ih, List.filter_cons]
    unfold arcsOf
    by_cases hv : validE n e = true
    · obtain ⟨h1, _, h3, _⟩ := validE_nonneg hv
      by_cases hu : e.u.toNat = v
      · simp only [hv, hu, hk, if_true, Bool.not_true, Bool.false_and, Bool.false_eq_true, if_false,
          List.append_nil, List.map_cons, List.map_nil, Bool.and_self, decide_true, List.singleton_append]
        congr 1
        have h3' : ((e.v.toNat : Nat) : Int) = e.v := Int.toNat_of_nonneg h3
        have h1' : ((v : Nat) : Int) = e.u := by rw [← hu]; exact Int.toNat_of_nonneg h1
        cases k.isWeighted <;> simp only [Bool.false_eq_true, if_false, if_true, h3', h1']
      · simp [hv, hu, hk]
    · simp [hv]

theorem build_flipped (k : Kind) (hk : k.isDirected = true) (n : Nat) (es : List EdgeIn) :
    (GObj.build k n es).flipped = flipSpec n es := by
  unfold GObj.flipped flipSpec
  rw [build_n, build_kind]
  congr 1; funext v
  rw [build_g, theGraph_adj]
  exact flip_row k hk n v es

theorem build_reverse (k : Kind) (hk : k.isDirected = true) (n : Nat) (es : List EdgeIn) :
    (GObj.build k n es).reverse = GObj.build k n (flipSpec n es) := by
  unfold GObj.reverse
  rw [build_kind, build_n, build_flipped k hk]

/-- The two Models of `Reverse()` — `GObj.reverse` (the method on the object) and `Graph.reverse` (the call inside
`StronglyConnectedComponents`) — give the same graph.  For `WeightedDirected` the first reads the ends off the stored edge
(`e.To()`, `e.From()`) and the second off the adjacency slot, so there the entries of `adj[v]` must be edges from `v` to their
`to` (`DWF`, which `AddEdge` keeps). -/
theorem GObj.reverse_g (o : GObj) (hk : o.kind.isDirected = true) (hw : o.kind.isWeighted = true → o.g.DWF) :
    o.reverse.g = o.g.reverse := by
  rw [reverse_eq_build, GObj.reverse, build_g, theGraph, if_pos hk, GObj.flipped]
  congr 2; funext v
  refine List.map_congr_left fun x hx => ?_
  split
  · next h => obtain ⟨ha, hb⟩ := hw h v x hx; rw [ha, hb]
  · rfl

theorem buckets_perm {α : Type} (key : α → Nat) (l : List α) : ∀ n : Nat,
    ((List.range n).flatMap fun v => l.filter fun e => decide (key e = v)).Perm (l.filter fun e => decide (key e < n))
  | 0 => by simp
  | n + 1 => by
    rw [List.range_succ, List.flatMap_append]
    refine ((buckets_perm key l n).append_right _).trans ?_
    -- the elements below `n + 1`, split into those below `n` and the rest
    have h := List.filter_append_perm (fun e => decide (key e < n)) (l.filter fun e => decide (key e < n + 1))
    rw [List.filter_filter, List.filter_filter] at h
    have e1 : ∀ e : α, (decide (key e < n) && decide (key e < n + 1)) = decide (key e < n) := by grind
    have e2 : ∀ e : α, (!decide (key e < n) && decide (key e < n + 1)) = decide (key e = n) := by grind
    simpa [e1, e2] using h

theorem flipSpec_perm (n : Nat) (es : List EdgeIn) :
    (flipSpec n es).Perm ((es.filter (validE n)).map fun e => ⟨e.v, e.u, e.w⟩) := by
  have h := (buckets_perm (fun e : EdgeIn => e.u.toNat) (es.filter (validE n)) n).map
    fun e => (⟨e.v, e.u, e.w⟩ : EdgeIn)
  have hlt : ∀ e ∈ es.filter (validE n), decide (e.u.toNat < n) = true := fun e he => by
    have := validE_nonneg (List.mem_filter.1 he).2
    simp; omega
  rw [List.filter_eq_self.2 hlt] at h
  simpa [flipSpec, List.map_flatMap, List.filter_filter, Bool.and_comm] using h

theorem mem_flipSpec (n : Nat) (es : List EdgeIn) (x : EdgeIn) :
    x ∈ flipSpec n es ↔ ∃ e ∈ es, validE n e = true ∧ x = ⟨e.v, e.u, e.w⟩ := by
  simp only [(flipSpec_perm n es).mem_iff, List.mem_map, List.mem_filter, and_assoc, eq_comm]

theorem length_flipSpec (n : Nat) (es : List EdgeIn) : (flipSpec n es).length = (es.filter (validE n)).length := by
  rw [(flipSpec_perm n es).length_eq, List.length_map]

theorem validE_flip (n : Nat) (e : EdgeIn) : validE n ⟨e.v, e.u, e.w⟩ = validE n e := by
  simp only [validE]; rw [Bool.and_comm]

theorem dirE_flip (n : Nat) (es : List EdgeIn) (a b : Nat) : DirE n (flipSpec n es) a b ↔ DirE n es b a := by
  unfold DirE
  constructor
  · rintro ⟨x, hx, h1, h2, h3, h4, h5, h6⟩
    obtain ⟨e, he, _, rfl⟩ := (mem_flipSpec n es x).1 hx
    exact ⟨e, he, h3, h4, h1, h2, h6, h5⟩
  · rintro ⟨e, he, h1, h2, h3, h4, h5, h6⟩
    refine ⟨⟨e.v, e.u, e.w⟩, (mem_flipSpec n es _).2 ⟨e, he, ?_, rfl⟩, h3, h4, h1, h2, h6, h5⟩
    simp [validE, h1, h2, h3, h4]

theorem filter_flipSpec (n : Nat) (es : List EdgeIn) : (flipSpec n es).filter (validE n) = flipSpec n es :=
  List.filter_eq_self.2 fun x hx => by
    obtain ⟨e, _, hv, rfl⟩ := (mem_flipSpec n es x).1 hx
    rw [validE_flip]; exact hv

theorem flipSpec_flipSpec_perm (n : Nat) (es : List EdgeIn) : (flipSpec n (flipSpec n es)).Perm (es.filter (validE n)) := by
  have h := (flipSpec_perm n (flipSpec n es)).trans (((flipSpec_perm n es).filter (validE n)).map _)
  simpa [List.filter_map, Function.comp_def, validE_flip, List.filter_filter] using h

end AlgoVerif.C14
