import AlgoVerif.Proofs.C11LalrFollow
import AlgoVerif.Proofs.C11ChainFill
/-!
# C11 — the success chain SLR(1) ⇒ LALR(1) ⇒ canonical LR(1), without a certificate

* `lr0_cover`: every LR(0) kernel state of the LALR construction is contained in a state of the SLR collection
  (induction along the way the kernel collection was found; the SLR collection is closed under GOTO);
* `lr1_cover`: every set of the canonical LR(1) collection is contained in the closure of an LALR state
  (induction along the way the LR(1) collection was found; the LALR lookaheads are closed under GOTO, `la_closed`);
* `chain_slr_lalr`: an LALR row asks for no more than the SLR row of its core does (`las_follow`: LALR lookaheads ⊆ FOLLOW),
  so a conflict in the LALR table is a conflict in the SLR table;
* `chain_lalr_lr1`: an LR(1) row asks for no more than the LALR row that covers it.

Both by `fillRel_cf_of_le` (`C11ChainFill`).

No hypothesis on the fuel of any of the builders, and none on productivity.
-/
namespace AlgoVerif.C11.Lalr
open AlgoVerif AlgoVerif.Gram AlgoVerif.C11 AlgoVerif.C11.Spec AlgoVerif.C11.Built AlgoVerif.C11.BuiltComplete
  AlgoVerif.C11.Chain

theorem asksK_core {g' : SGrammar} {c c0 : List Item} (follow : String → List String)
    (hcore : ∀ x ∈ c, x.core ∈ c0) (hgood : ∀ x ∈ c, Good g' x)
    (hfol : ∀ x ∈ c, ∀ b, x.la = some b → b ∈ follow x.prod.head)
    {a : String} {act : Action} (hk : AsksK g'.start la1 c a act) :
    AsksK g'.start (fun item => follow item.prod.head) c0 a act := by
  cases act with
  | shift j =>
    obtain ⟨⟨it, hit, hd⟩, _⟩ := hk
    exact ⟨⟨it.core, hcore it hit, hd⟩, trivial⟩
  | reduce p =>
    obtain ⟨it, hit, hp, hc, hf, ha⟩ := hk
    have hla : it.la = some a := by
      unfold la1 at ha
      cases hl : it.la with
      | none => rw [hl] at ha; simp at ha
      | some b => rw [hl] at ha; simp at ha; rw [ha]
    refine ⟨it.core, hcore it hit, hp, hc, ?_, hfol it hit a hla⟩
    have hne : it.prod.head ≠ g'.start := by
      intro hh
      have := (hgood it hit).2 hh
      simp [Item.isFinal, hh, hc, this] at hf
    simp [Item.isFinal, Item.core, hne]
  | accept =>
    obtain ⟨ha, it, hit, hf⟩ := hk
    refine ⟨ha, it.core, hcore it hit, ?_⟩
    simp only [Item.isFinal, Bool.and_eq_true, beq_iff_eq] at hf ⊢
    exact ⟨⟨hf.1.1, hf.1.2⟩, by simp [Item.core, laIsEnd]⟩

section
variable {g g' : SGrammar} (hv : ValidG g) (ht : TermsListed g) (ha : augment g = Outcome.ok g')
include hv ha

theorem lr0_cover {f1 f2 : Nat} {C K0 : List (List Item)}
    (hC : (mkAuto g' false false f1).canonical = Outcome.ok C)
    (hK0 : (A0 g' f2).canonical = Outcome.ok K0) :
    ∀ Ks ∈ K0, ∃ I ∈ C, ∀ x ∈ Ks, x ∈ I := by
  have h := augOK_of_augment hv ha
  have hQi : (mkAuto g' false false f1).initialItem.la = none := by simp [Auto.initialItem, mkAuto]
  obtain ⟨hsets, hgoto⟩ := canonical_complete (A := mkAuto g' false false f1) rfl (itemProp_none _ _ _) hQi hC
  obtain ⟨I0f, hI0f, hI0fC, _⟩ := canonical_reach hC
  obtain ⟨I0k, hI0k, _, hreach⟩ := canonical_reach hK0
  have hI0k' : I0k = [(A0 g' f2).initialItem] := by simpa [mkAuto] using hI0k.symm
  refine hreach (fun Ks => ∃ I ∈ C, ∀ x ∈ Ks, x ∈ I) ?_ ?_
  · refine ⟨I0f, hI0fC, ?_⟩
    intro x hx
    rw [hI0k'] at hx
    simp only [List.mem_singleton] at hx
    subst hx
    exact (closure_fix _ _ _ _ _ _ hI0f).2.1 _ (by simp; rfl)
  · rintro Ks _ ⟨I, hIC, hsub⟩ X hX J hJ hne _
    obtain ⟨ck, hck, rfl⟩ := kgoto_ok (A := A0 g' f2) rfl hJ
    have hckI : ∀ x ∈ ck, x ∈ I := (closure_fix _ _ _ _ _ _ hck).2.2 I hsub (hsets I hIC).1
    obtain ⟨J', hJ', hor⟩ := hgoto I hIC X hX
    have hJJ' : ∀ y ∈ advance ck X, y ∈ J' := by
      intro y hy
      obtain ⟨y0, hy0, hd, rfl⟩ := mem_advance.mp hy
      exact goto_next (A := mkAuto g' false false f1) rfl hJ' (hckI y0 hy0) hd
    rcases hor with hemp | ⟨K, hK, hsame⟩
    · exfalso
      obtain ⟨y, hy⟩ := List.exists_mem_of_ne_nil _ hne
      have := hJJ' y hy
      rw [hemp] at this
      simp at this
    · exact ⟨K, hK, fun y hy => (hsame y).mpr (hJJ' y hy)⟩

variable {fuel : Nat} {K1 : List (List Item)} (R : LalrRun g' fuel K1)

include ht R in
theorem lr1_cover {f3 : Nat} {C1 : List (List Item)} (hC1 : (mkAuto g' true false f3).canonical = Outcome.ok C1) :
    ∀ I ∈ C1, ∃ K ∈ buildStateMap g'.start K1, ∀ x ∈ I,
      CloG g' (fun i => i ∈ K) x := by
  have h := augOK_of_augment hv ha
  obtain ⟨I0, hI0, _, hreach⟩ := canonical_reach hC1
  replace hI0 : (mkAuto g' true false f3).closure [(mkAuto g' true false f3).initialItem] = Outcome.ok I0 := hI0
  refine hreach (fun I => ∃ K ∈ buildStateMap g'.start K1, ∀ x ∈ I,
    CloG g' (fun i => i ∈ K) x) ?_ ?_
  · -- the initial set lies in the closure of `[S′ → •S, $]`, the kernel of LR(0) state 0
    obtain ⟨K, hK, hKJ⟩ := kernels_all R 0 _ (k0_zero h R.hK0)
    exact ⟨K, hK, fun x hx => clo_mono (List.forall_mem_singleton.mpr ((hKJ _).mpr ((ker_zero h R.toLaRun _).mpr rfl)))
      ((mem_auto_closure_iff hI0 x).mp hx)⟩
  · rintro I _ ⟨K, hK, hcov⟩ X _ J' hJ' hne _
    obtain ⟨s, Is, hIs, hKmem⟩ := kernel_src h R hK
    rw [goto_eq (A := mkAuto g' true false f3) rfl] at hJ'
    have hadvne : advance I X ≠ [] := by
      intro he
      rw [he] at hJ'
      exact hne (closure_nil _ _ _ _ _ hJ')
    obtain ⟨n, Kn, ⟨_, _, _, hKn, _⟩, hker⟩ := ker_goto hv ht ha R.toLaRun hIs
      (fun y hy => clo_mono (fun z hz => (hKmem z).mp hz) (hcov y hy)) hadvne
    obtain ⟨Kc, hKc, hKcJ⟩ := kernels_all R n Kn hKn
    exact ⟨Kc, hKc, fun x hx => clo_mono (fun z hz => (hKcJ z).mpr (hker z hz)) ((mem_auto_closure_iff hJ' x).mp hx)⟩

end

theorem chain_slr_lalr (g : SGrammar) (hv : ValidG g) (ht : TermsListed g) (f1 f2 : Nat) (bS bL : Built)
    (hS : buildSLR g f1 = Outcome.ok bS) (hL : buildLALR g f2 = Outcome.ok bL)
    (hcf : chkConflictFree bS.table = true) : chkConflictFree bL.table = true := by
  obtain ⟨g', C, TS, hg', hC, hTS, rfl⟩ := buildSLR_ok hS
  obtain ⟨g'', K, TL, cl, hg'', hK, hrows, rfl⟩ := buildLALR_ok hL
  obtain rfl : g' = g'' := Outcome.ok.inj (hg'.symm.trans hg'')
  simp only at hcf ⊢
  obtain ⟨R⟩ := lalrRun_of_ok hK
  have h := augOK_of_augment hv hg'
  have hAg : (A1 g' f2).g = g' := rfl
  have hAk : (A1 g' f2).kernel = true := rfl
  have hSL := stateMap_spec (isInitial_initialItem h hAg) (lalrKernels_spec h hK)
  have hS0 := k0_ok h R.hK0
  have hQi : (mkAuto g' false false f1).initialItem.la = none := by simp [Auto.initialItem, mkAuto]
  obtain ⟨hsets, _⟩ := canonical_complete (A := mkAuto g' false false f1) rfl (itemProp_none _ _ _) hQi hC
  obtain ⟨hfill, _⟩ := lalrRows_spec hAg hrows
  refine fillRel_cf_of_le (fillRel_of_fillFull hTS) hfill ?_ hcf
  rintro i c ⟨I, hI, hc⟩
  obtain ⟨s, Is, hIs, hKmem⟩ := kernel_src h R (List.mem_of_getElem? hI)
  obtain ⟨Ks, hKs, hIsEq⟩ := mem_buildStateMap.mp (List.mem_of_getElem? hIs)
  obtain ⟨I0, hI0C, hcov⟩ := lr0_cover hv hg' hC R.hK0 Ks hKs
  have hmemS : sortBy (cmpItem g'.start) I0 ∈ buildStateMap g'.start C := mem_buildStateMap.mpr ⟨I0, hI0C, rfl⟩
  obtain ⟨m, hm⟩ := List.mem_iff_getElem?.mp hmemS
  have hcmem := mem_auto_closure_iff hc
  have hseed : ∀ z, z ∈ I → ∃ k a, LA R.S0 R.las s k a ∧ z = withLa k a := fun z => (hKmem z).mp
  have hcore : ∀ x ∈ c, x.core ∈ sortBy (cmpItem g'.start) I0 := by
    intro x hx
    rw [mem_sortBy]
    have hx' := clo_core (g := g') (fun i hi => by
      obtain ⟨k, a, _, rfl⟩ := hseed i hi; rfl) ((hcmem x).mp hx)
    refine hx'.sub ?_ (hsets I0 hI0C).1
    rintro y ⟨z, hz, rfl⟩
    obtain ⟨k, a, hLA, rfl⟩ := hseed z hz
    have hkIs := la_mem hIs hLA
    have hknone : k.la = none := k0_la_none R.hK0 Is (List.mem_of_getElem? hIs) k hkIs
    rw [core_withLa, core_of_none hknone]
    apply hcov
    rw [hIsEq] at hkIs
    exact (mem_sortBy _ _ _).mp hkIs
  have hgood : ∀ x ∈ c, Good g' x := by
    obtain ⟨_, _, hg⟩ := auto_closure_spec h hAg (I := I) (K := c) hc (statesOK_good hSL i _ hI)
    exact hg
  have hfol : ∀ x ∈ c, ∀ b, x.la = some b → b ∈ FollowG g' x.prod.head := by
    intro x hx b hb
    obtain ⟨b', hb', hfo⟩ := clo_follow hv ht hg' (seed := fun i => i ∈ I) (by
      intro z hz
      obtain ⟨k, a, hLA, rfl⟩ := hseed z hz
      have hkIs := la_mem hIs hLA
      exact ⟨(statesOK_good hS0 s Is hIs k hkIs).1, a, rfl, (las_follow hv ht hg' R.toLaRun hLA : a ∈ FollowG g' k.prod.head)⟩) ((hcmem x).mp hx)
    rw [hb] at hb'
    simp only [Option.some.injEq] at hb'
    rw [hb']; exact hfo
  exact ⟨m, _, ⟨_, hm, rfl⟩, fun a act hk => asksK_core (FollowG g') hcore hgood hfol hk⟩

theorem chain_lalr_lr1 (g : SGrammar) (hv : ValidG g) (ht : TermsListed g) (f2 f3 : Nat) (bL bC : Built)
    (hL : buildLALR g f2 = Outcome.ok bL) (hC : buildLR1 g f3 = Outcome.ok bC)
    (hcf : chkConflictFree bL.table = true) : chkConflictFree bC.table = true := by
  obtain ⟨g', C1, TC, hg', hC1c, hTC, rfl⟩ := buildLR1_ok hC
  obtain ⟨g'', K, TL, cl, hg'', hK, hrows, rfl⟩ := buildLALR_ok hL
  obtain rfl : g' = g'' := Outcome.ok.inj (hg'.symm.trans hg'')
  simp only at hcf ⊢
  obtain ⟨R⟩ := lalrRun_of_ok hK
  have hAg : (A1 g' f2).g = g' := rfl
  obtain ⟨hfill, hrel⟩ := lalrRows_spec hAg hrows
  refine fillRel_cf_of_le hfill (fillRel_of_fillFull hTC) ?_ hcf
  rintro m I ⟨I0, hrow, hpure⟩
  obtain rfl := pure_eq_ok hpure
  obtain ⟨I', hI', rfl⟩ := mem_buildStateMap.mp (List.mem_of_getElem? hrow)
  obtain ⟨Kc, hKc, hcov⟩ := lr1_cover hv ht hg' R hC1c I' hI'
  obtain ⟨i, hi⟩ := List.mem_iff_getElem?.mp hKc
  obtain ⟨c, hc, _⟩ := hrel.2 i _ hi
  have hsub : ∀ x ∈ sortBy (cmpItem g'.start) I', x ∈ c :=
    fun x hx => (mem_auto_closure_iff hc x).mpr (hcov x ((mem_sortBy _ _ _).mp hx))
  exact ⟨i, c, ⟨_, hi, hc⟩, fun a act hk => hk.mono hsub fun _ _ h => h⟩

end AlgoVerif.C11.Lalr
