import AlgoVerif.Spec.C20
/-!
C20: steps of different disciplined threads commute, so a run depends only on how
many steps each thread takes; every access in a trace respects the ownership discipline.
For the commutation a step is read as two parts (`stepT_eq`): the local state the stepping thread moves to
(`nextLocal`) and the memory it leaves (`write`).
-/
namespace AlgoVerif.C20

variable {Loc Val Local : Type} [DecidableEq Loc]
variable {P : Prog Loc Val Local} {owner : Loc → Option Tid}

theorem updLocal_same (f : Tid → Local) (t : Tid) (x : Local) : updLocal f t x t = x := by
  simp [updLocal]

theorem updLocal_other (f : Tid → Local) {t u : Tid} (x : Local) (h : u ≠ t) : updLocal f t x u = f u := by
  simp [updLocal, h]

theorem upd_comm {α β : Type} [DecidableEq α] (f : α → β) {a b : α} (x y : β) (h : a ≠ b) :
    (fun w => if w = a then x else if w = b then y else f w) =
      fun w => if w = b then y else if w = a then x else f w := by
  funext w
  by_cases h1 : w = a
  · rw [if_pos h1, if_neg fun e => h (h1.symm.trans e), if_pos h1]
  · rw [if_neg h1, if_neg h1]

theorem updLocal_comm (f : Tid → Local) {t u : Tid} (x y : Local) (h : t ≠ u) :
    updLocal (updLocal f u y) t x = updLocal (updLocal f t x) u y :=
  upd_comm f x y h

theorem updMem_comm (m : Loc → Val) {l l' : Loc} (v v' : Val) (h : l ≠ l') :
    updMem (updMem m l' v') l v = updMem (updMem m l v) l' v' :=
  upd_comm m v v' h

theorem updMem_other (m : Loc → Val) {l l' : Loc} (v : Val) (h : l' ≠ l) : updMem m l v l' = m l' := by
  simp [updMem, h]

theorem stepT_loc_other (P : Prog Loc Val Local) {t u : Tid} (h : t ≠ u) (c : Cfg Loc Val Local) :
    (stepT P u c).loc t = c.loc t := by
  unfold stepT
  split <;> simp [updLocal, h]

theorem stepT_done {t : Tid} {c : Cfg Loc Val Local} (h : P.step t (c.loc t) = .done) :
    stepT P t c = c := by
  unfold stepT; rw [h]

theorem stepT_load {t : Tid} {c : Cfg Loc Val Local} {l : Loc} {k : Val → Local}
    (h : P.step t (c.loc t) = .load l k) :
    stepT P t c = { loc := updLocal c.loc t (k (c.mem l)), mem := c.mem } := by
  unfold stepT; rw [h]

theorem stepT_store {t : Tid} {c : Cfg Loc Val Local} {l : Loc} {v : Val} {n : Local}
    (h : P.step t (c.loc t) = .store l v n) :
    stepT P t c = { loc := updLocal c.loc t n, mem := updMem c.mem l v } := by
  unfold stepT; rw [h]

def nextLocal (P : Prog Loc Val Local) (t : Tid) (σ : Local) (m : Loc → Val) : Local :=
  match P.step t σ with
  | .done => σ
  | .load l k => k (m l)
  | .store _ _ next => next

def write (P : Prog Loc Val Local) (t : Tid) (σ : Local) (m : Loc → Val) : Loc → Val :=
  match P.step t σ with
  | .store l v _ => updMem m l v
  | _ => m

theorem updLocal_self (f : Tid → Local) (t : Tid) : updLocal f t (f t) = f := by
  funext u; unfold updLocal; split <;> simp [*]

theorem stepT_eq (P : Prog Loc Val Local) (t : Tid) (c : Cfg Loc Val Local) :
    stepT P t c = ⟨updLocal c.loc t (nextLocal P t (c.loc t) c.mem), write P t (c.loc t) c.mem⟩ := by
  unfold stepT nextLocal write
  split <;> simp [*, updLocal_self]

theorem write_other (hD : Disciplined P owner) (u : Tid) (σ : Local) (m : Loc → Val) {l : Loc}
    (h : owner l ≠ some u) : write P u σ m l = m l := by
  unfold write
  cases e : P.step u σ with
  | store l' v nx => exact updMem_other m v fun k => h (k ▸ hD.store_ok u σ l' v nx e)
  | _ => rfl

theorem nextLocal_write (hD : Disciplined P owner) {t u : Tid} (htu : t ≠ u) (σ σu : Local) (m : Loc → Val) :
    nextLocal P t σ (write P u σu m) = nextLocal P t σ m := by
  unfold nextLocal
  cases e : P.step t σ with
  | load l k =>
    refine congrArg k (write_other hD u σu m ?_)
    rcases hD.load_ok t σ l k e with h | h <;> rw [h] <;> simp [htu]
  | _ => rfl

theorem write_comm (hD : Disciplined P owner) {t u : Tid} (htu : t ≠ u) (σ σu : Local) (m : Loc → Val) :
    write P t σ (write P u σu m) = write P u σu (write P t σ m) := by
  unfold write
  cases e : P.step t σ with
  | store l v nx =>
    cases e' : P.step u σu with
    | store l' v' nx' =>
      exact updMem_comm m v v' fun k => htu (Option.some.inj
        ((hD.store_ok t σ l v nx e).symm.trans (k ▸ hD.store_ok u σu l' v' nx' e')))
    | _ => rfl
  | _ => rfl

/-- Both orders give: `t` and `u` in the local states they move to from `c` (neither reads what the other writes), and
the memory with both writes (which go to different locations). -/
theorem stepT_comm (hD : Disciplined P owner) {t u : Tid} (htu : t ≠ u) (c : Cfg Loc Val Local) :
    stepT P t (stepT P u c) = stepT P u (stepT P t c) := by
  have hut : u ≠ t := fun e => htu e.symm
  simp only [stepT_eq, updLocal_other _ _ htu, updLocal_other _ _ hut, nextLocal_write hD htu,
    nextLocal_write hD hut, updLocal_comm _ _ _ htu, write_comm hD htu]

theorem run_perm (hD : Disciplined P owner) {s s' : List Tid} (h : s.Perm s') :
    ∀ c : Cfg Loc Val Local, run P s c = run P s' c := by
  induction h with
  | nil => intro c; rfl
  | cons t _ ih => intro c; exact ih (stepT P t c)
  | swap t u s =>
    intro c
    simp only [run]
    by_cases e : t = u
    · subst e; rfl
    · rw [stepT_comm hD e c]
  | trans _ _ ih1 ih2 => intro c; rw [ih1 c, ih2 c]

theorem run_append (P : Prog Loc Val Local) (s s' : List Tid) (c : Cfg Loc Val Local) :
    run P (s ++ s') c = run P s' (run P s c) := by
  induction s generalizing c with
  | nil => rfl
  | cons t s ih => exact ih (stepT P t c)

theorem run_of_complete (P : Prog Loc Val Local) {c : Cfg Loc Val Local} (hc : Complete P c)
    (s : List Tid) : run P s c = c := by
  induction s with
  | nil => rfl
  | cons t s ih =>
    have : stepT P t c = c := stepT_done (hc t)
    simp only [run, this, ih]

theorem trace_owner (hD : Disciplined P owner) (s : List Tid) :
    ∀ (c : Cfg Loc Val Local), ∀ e ∈ trace P s c,
      owner e.loc = some e.tid ∨ (e.isWrite = false ∧ owner e.loc = none) := by
  induction s with
  | nil => intro c e he; simp [trace] at he
  | cons t s ih =>
    intro c e he
    unfold trace at he
    cases hev : eventT P t c with
    | none =>
      rw [hev] at he
      exact ih _ e he
    | some e0 =>
      rw [hev] at he
      rcases List.mem_cons.mp he with h | h
      · subst h
        unfold eventT at hev
        cases hat : P.step t (c.loc t) with
        | done => rw [hat] at hev; cases hev
        | load l k =>
          rw [hat] at hev
          cases hev
          exact (hD.load_ok t _ l k hat).imp_right fun h => ⟨rfl, h⟩
        | store l v n =>
          rw [hat] at hev
          cases hev
          exact .inl (hD.store_ok t _ l v n hat)
      · exact ih _ e h

end AlgoVerif.C20
