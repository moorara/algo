import AlgoVerif.Proofs.C02Lin
/-!
# C02/C03 — linear probing: `Delete` with re-insertion of the rest of the cluster

After the entry of `key` (found at probe `i0`) is removed, the loop walks on along the same probe sequence `P`, takes every
entry out and puts it back, up to the first nil slot `P c` that the table had after `i0`.  Loop invariant at pointer `i`
(`Lin.MaskInv`): with the entries still to be re-inserted — the slots `P i, …, P (c-1)`, untouched so far — left out of account,
the table satisfies the invariant of open addressing (`ProbedF`): every other entry is reached by its own probe sequence through
occupied slots, none of them among those still to come.  Re-inserting the entry at `P i` writes it into the first nil slot of its
probe sequence, which is `ProbedF.set`; that the probes before that slot meet none of the entries still to come is where the
geometry enters (`run_before_nil`: probe sequences are translates of each other, so a run of occupied slots that passed one of
them would have to run on to `P i` past the nil slot `P c`).  At `i = c` nothing is left out.
-/
set_option linter.unusedSectionVars false
namespace AlgoVerif.C02
open Spec AlgoVerif.Generated
variable {K V σ : Type} [DecidableEq K]

/-- the probe sequence of `k` in a linear-probing table of capacity `m`: `Lin.pr hash t` is `lp hash t.m` by `rfl`.  The loop
rewrites the slots and the counter but never `m`, so its lemmas speak of the one `lp hash t.m` instead of a `Lin.pr` of every
intermediate table. -/
def lp (hash : K → UInt64) (m : Nat) (k : K) (b : Nat) : Nat := Lin.probeIdx m (mix (hash k)) b

theorem lp_eq (hash : K → UInt64) (m : Nat) (k : K) (b : Nat) (hm : 0 < m) :
    lp hash m k b = (((mix (hash k)).toNat &&& (m - 1)) + b) % m := Lin.probeIdx_eq m _ b hm

theorem lp_lt (hash : K → UInt64) (m : Nat) (k : K) (b : Nat) (hm : 0 < m) : lp hash m k b < m := by
  rw [lp_eq hash m k b hm]; exact Nat.mod_lt _ hm

theorem lp_inj (hash : K → UInt64) (m : Nat) (k : K) (b b' : Nat) (hm : 0 < m) (h1 : b < b') (h2 : b' < b + m) :
    lp hash m k b ≠ lp hash m k b' := Lin.probeIdx_inj m _ b b' hm h1 h2

theorem lp_shift (hash : K → UInt64) (m : Nat) (k1 k2 : K) (b1 b2 x : Nat) (hm : 0 < m)
    (h : lp hash m k1 b1 = lp hash m k2 b2) : lp hash m k1 (b1 + x) = lp hash m k2 (b2 + x) := by
  rw [lp_eq hash m k1 _ hm, lp_eq hash m k2 _ hm] at *
  rw [← Nat.add_assoc, ← Nat.add_assoc, ← Nat.mod_add_mod, h, Nat.mod_add_mod]

theorem exists_of_usedL {s : LSlots K V} {i : Nat} (h : isUsedL s i = true) : ∃ e, s[i]? = some (some e) := by
  obtain ⟨k, hk⟩ := Option.isSome_iff_exists.1 h
  obtain ⟨v, hv⟩ := keyAtL_eq_some.1 hk
  exact ⟨_, hv⟩

theorem Lin.put_absent (sh : Shuffle σ) (hash : K → UInt64) (d : Nat) (t : LinTable K V) (g : σ) (k : K) (v : V)
    (hsize : t.slots.size = t.m) (hm : 0 < t.m) (hcheck : ratioGE t.n t.m t.maxLF = false)
    (habs : ∀ j, keyAtL t.slots j ≠ some k) {a : Nat} (ha : a < t.m) (hnil : t.slots[lp hash t.m k a]? = some none) :
    ∃ ck, ck ≤ a ∧ t.slots[lp hash t.m k ck]? = some none ∧ (∀ b, b < ck → isUsedL t.slots (lp hash t.m k b) = true) ∧
      Lin.put sh hash (d + 1) t g k v =
        .ok ({ t with slots := t.slots.setIfInBounds (lp hash t.m k ck) (some (k, v)), n := t.n + 1 }, g) := by
  obtain ⟨ck, x1, hck, hx1, hstop, hbefore, hwalk, _⟩ := walk_stop t.slots (lp hash t.m k)
    (fun i => hsize ▸ lp_lt hash t.m k i hm) (a + 1) t.m (by omega) ⟨a, Nat.lt_succ_self a, hnil⟩
    (isUsedL t.slots) (fun _ => isUsedL_false_of_none) (stopL k) rfl
  cases x1 with
  | some e => exact absurd (keyAtL_eq_some.2 ⟨e.2, by rw [← stopL_some hstop]; exact hx1⟩) (habs _)
  | none =>
    refine ⟨ck, by omega, hx1, fun b hb => ?_, ?_⟩
    · obtain ⟨e, he, _⟩ := hbefore b hb
      exact isUsedL_true_of_some he
    · have hloop := (Lin.putLoop_eq hash t k v t.m 0).trans
        (hwalk _ (fun i _ => Lin.written t (Lin.pr hash t k i) k v))
      unfold Lin.put
      simp only [hcheck, Bool.false_eq_true, if_false, hloop, Lin.written,
        show isUsedL t.slots (Lin.pr hash t k ck) = false from isUsedL_false_of_none hx1]
      rfl

/-- context of one `Delete`: `key` was found at probe `i0` of its sequence; `c` is the first probe after `i0`
whose slot is nil in the table `t` the operation started from -/
structure Lin.DelCtx (hash : K → UInt64) (t : LinTable K V) (key : K) (i0 c : Nat) : Prop where
  inv : Lin.Inv hash t
  c_lo : i0 < c
  c_hi : c < i0 + t.m
  c_nil : t.slots[lp hash t.m key c]? = some none
  c_first : ∀ j, i0 < j → j < c → isUsedL t.slots (lp hash t.m key j) = true

/-- the loop invariant of `Delete`'s re-insertion with the nil slot behind the pointer carried as an index `iH` (`weak`: reached
through occupied slots or that hole; `strict`: the entries re-inserted since the hole last moved).  The loop lemmas below use
`Lin.MaskInv`, which needs no such index. -/
structure Lin.LoopInv (hash : K → UInt64) (t : LinTable K V) (key : K) (i0 c i iH : Nat) (t' : LinTable K V) : Prop where
  hole_lo : i0 ≤ iH
  hole_hi : iH < i
  ptr : i ≤ c
  m_eq : t'.m = t.m
  min_eq : t'.minLF = t.minLF
  max_eq : t'.maxLF = t.maxLF
  size : t'.slots.size = t.m
  n_eq : t'.n = ((cnt (isUsedL t'.slots) t.m : Nat) : Int)
  n_val : t'.n = t.n - 1
  uniq : ∀ a b k, keyAtL t'.slots a = some k → keyAtL t'.slots b = some k → a = b
  hole : t'.slots[lp hash t.m key iH]? = some none
  weak : ∀ idx k, keyAtL t'.slots idx = some k → ∃ a, a < t.m ∧ lp hash t.m k a = idx ∧
    ∀ b, b < a → isUsedL t'.slots (lp hash t.m k b) = true ∨ lp hash t.m k b = lp hash t.m key iH
  strict : ∀ j, iH < j → j < i → ∀ k, keyAtL t'.slots (lp hash t.m key j) = some k → ∃ a, a < t.m ∧
    lp hash t.m k a = lp hash t.m key j ∧ ∀ b, b < a → isUsedL t'.slots (lp hash t.m k b) = true
  ahead : ∀ j, i ≤ j → j < i0 + t.m → t'.slots[lp hash t.m key j]? = t.slots[lp hash t.m key j]?
  live : ∀ k v, Lin.Live t' k v ↔ k ≠ key ∧ Lin.Live t k v

def InSeg (P : Nat → Nat) (i c x : Nat) : Prop := ∃ j, i ≤ j ∧ j < c ∧ x = P j

theorem inSeg_succ {P : Nat → Nat} {i c x : Nat} (hi : i < c) : InSeg P i c x ↔ x = P i ∨ InSeg P (i + 1) c x := by
  constructor
  · rintro ⟨j, h1, h2, rfl⟩
    rcases Nat.eq_or_lt_of_le h1 with rfl | hlt
    · exact Or.inl rfl
    · exact Or.inr ⟨j, hlt, h2, rfl⟩
  · rintro (rfl | ⟨j, h1, h2, rfl⟩)
    · exact ⟨i, Nat.le_refl _, hi, rfl⟩
    · exact ⟨j, by omega, h2, rfl⟩

noncomputable def maskedKey (s : LSlots K V) (P : Nat → Nat) (i c : Nat) (x : Nat) : Option K :=
  open Classical in if InSeg P i c x then none else keyAtL s x

theorem maskedKey_eq_some {s : LSlots K V} {P : Nat → Nat} {i c x : Nat} {k : K} :
    maskedKey s P i c x = some k ↔ ¬ InSeg P i c x ∧ keyAtL s x = some k := by
  unfold maskedKey
  split <;> simp [*]

theorem maskedKey_isSome {s : LSlots K V} {P : Nat → Nat} {i c x : Nat} :
    (maskedKey s P i c x).isSome = true ↔ ¬ InSeg P i c x ∧ isUsedL s x = true := by
  unfold maskedKey isUsedL
  split <;> simp [*]

theorem maskedKey_rem {s : LSlots K V} {P : Nat → Nat} {i c : Nat} (hi : i < c) (hidx : P i < s.size) :
    maskedKey (s.setIfInBounds (P i) none) P (i + 1) c = maskedKey s P i c := by
  funext x
  unfold maskedKey
  rw [keyAtL_rem s _ hidx]
  by_cases hseg : InSeg P (i + 1) c x
  · rw [if_pos hseg, if_pos ((inSeg_succ hi).2 (Or.inr hseg))]
  · rw [if_neg hseg]
    by_cases hxi : x = P i
    · rw [if_pos hxi, if_pos ((inSeg_succ hi).2 (Or.inl hxi))]
    · rw [if_neg hxi, if_neg fun hs => ((inSeg_succ hi).1 hs).elim hxi hseg]

theorem maskedKey_set {s : LSlots K V} {P : Nat → Nat} {i c q : Nat} (hq : ¬ InSeg P i c q) (hqs : q < s.size) (e : K × V)
    (x : Nat) : maskedKey (s.setIfInBounds q (some e)) P i c x = if x = q then some e.1 else maskedKey s P i c x := by
  unfold maskedKey
  rw [keyAtL_set s q hqs]
  by_cases hxq : x = q
  · rw [if_pos hxq, if_pos hxq, if_neg (hxq ▸ hq)]
  · rw [if_neg hxq, if_neg hxq]

theorem run_before_nil {hash : K → UInt64} {s : LSlots K V} {m : Nat} {k key : K} {j c a b : Nat} (hm : 0 < m)
    (hnil : isUsedL s (lp hash m key c) = false) (hj : j ≤ c) (hb : b ≤ a)
    (hpass : lp hash m k b = lp hash m key j) (hused : ∀ x, x ≤ a → isUsedL s (lp hash m k x) = true) :
    j + (a - b) < c ∧ lp hash m k a = lp hash m key (j + (a - b)) := by
  have hshift : ∀ x, lp hash m k (b + x) = lp hash m key (j + x) := fun x => lp_shift hash m k key b j x hm hpass
  refine ⟨?_, by rw [← hshift, Nat.add_sub_of_le hb]⟩
  by_contra hc
  have := hused (b + (c - j)) (by omega)
  rw [hshift, Nat.add_sub_of_le hj, hnil] at this
  cases this

/-- Loop invariant of `Delete`'s re-insertion at pointer `i`.  The loop changes the slot array only: at every pointer position the
table is `t` with the slots `s'` and one entry less. -/
structure Lin.MaskInv (hash : K → UInt64) (t : LinTable K V) (key : K) (i0 c i : Nat) (s' : LSlots K V) : Prop where
  lo : i0 < i
  ptr : i ≤ c
  stores : Stores s' t.m (t.n - 1) (fun k v => k ≠ key ∧ Lin.Live t k v)
  probed : ProbedF (maskedKey s' (lp hash t.m key) i c) (lp hash t.m) t.m
  ahead : ∀ j, i ≤ j → j < i0 + t.m → s'[lp hash t.m key j]? = t.slots[lp hash t.m key j]?

section
variable {hash : K → UInt64} {t : LinTable K V} {key : K} {i0 c : Nat}

/-- The probes that lead to an entry outside the slots `P i, …, P (c-1)` pass through none of them, since from there they would run on
through occupied slots, hence before `P c`, to the entry, which would be one of them.  (`i = i0`: the start of the loop; `i + 1`: the path
of the entry under the pointer.) -/
theorem Lin.DelCtx.probed (hx : Lin.DelCtx hash t key i0 c) (i : Nat) :
    ProbedF (maskedKey t.slots (lp hash t.m key) i c) (lp hash t.m) t.m := by
  have hmp : 0 < t.m := by have := Lin.m_ge hx.inv.1; omega
  refine ⟨fun x y k hx1 hy1 => hx.inv.1.uniq x y k (maskedKey_eq_some.1 hx1).2 (maskedKey_eq_some.1 hy1).2, fun idx k hk => ?_⟩
  obtain ⟨hseg, hkt⟩ := maskedKey_eq_some.1 hk
  obtain ⟨a, ha, hpa, hpath⟩ : ∃ a, a < t.m ∧ lp hash t.m k a = idx ∧
      ∀ b, b < a → isUsedL t.slots (lp hash t.m k b) = true := hx.inv.1.reach idx k hkt
  have hpath' : ∀ x, x ≤ a → isUsedL t.slots (lp hash t.m k x) = true := fun x hxa => by
    rcases Nat.eq_or_lt_of_le hxa with rfl | hlt
    · rw [hpa, isUsedL, hkt]; rfl
    · exact hpath x hlt
  refine ⟨a, ha, hpa, fun b hb => maskedKey_isSome.2 ⟨fun ⟨j, hj1, hj2, hbj⟩ => ?_, hpath b hb⟩⟩
  obtain ⟨h1, h2⟩ := run_before_nil hmp (isUsedL_false_of_none hx.c_nil) (Nat.le_of_lt hj2) (Nat.le_of_lt hb) hbj hpath'
  exact hseg ⟨j + (a - b), by omega, h1, hpa.symm.trans h2⟩

theorem Lin.DelCtx.no_resize (hx : Lin.DelCtx hash t key i0 c) : ratioGE (t.n - 1 - 1) t.m t.maxLF = false := by
  unfold ratioGE
  rw [decide_eq_false_iff_not, Int.not_le]
  have h1 : (t.n - 1) * (t.maxLF.den : Int) < (t.maxLF.num : Int) * (t.m : Int) :=
    room_one_iff.1 (by rw [show t.n - 1 + ((1 : Nat) : Int) = t.n + ((0 : Nat) : Int) by omega]; exact hx.inv.2)
  exact Int.lt_of_le_of_lt (Int.mul_le_mul_of_nonneg_right (by omega) (Int.natCast_nonneg _)) h1

theorem Lin.MaskInv.final {s' : LSlots K V} (hx : Lin.DelCtx hash t key i0 c) (h : Lin.MaskInv hash t key i0 c c s') :
    Lin.Inv hash { t with slots := s', n := t.n - 1 } := by
  have hmask : ∀ x, maskedKey s' (lp hash t.m key) c c x = keyAtL s' x := fun x =>
    if_neg fun ⟨j, h1, h2, _⟩ => Nat.lt_irrefl _ (Nat.lt_of_le_of_lt h1 h2)
  have hreach := h.probed.reach
  simp only [hmask] at hreach
  refine ⟨⟨h.stores.size, hx.inv.1.pow2, hx.inv.1.minM, h.stores.n_eq, hx.inv.1.lf, h.stores.uniq, hreach⟩, ?_⟩
  exact Int.lt_of_le_of_lt (Int.mul_le_mul_of_nonneg_right (by show t.n - 1 + _ ≤ _; omega) (Int.natCast_nonneg _)) hx.inv.2

theorem Lin.MaskInv.step (sh : Shuffle σ) (d : Nat) {i : Nat} {s' : LSlots K V} (g : σ)
    (hx : Lin.DelCtx hash t key i0 c) (h : Lin.MaskInv hash t key i0 c i s') (hi : i < c) :
    ∃ e, s'[lp hash t.m key i]? = some (some e) ∧ ∃ s'',
      Lin.put sh hash (d + 1) { t with slots := s'.setIfInBounds (lp hash t.m key i) none, n := t.n - 1 - 1 } g e.1 e.2 =
        .ok ({ t with slots := s'', n := t.n - 1 }, g) ∧
      Lin.MaskInv hash t key i0 c (i + 1) s'' := by
  have hmp : 0 < t.m := by have := Lin.m_ge hx.inv.1; omega
  have hlo := h.lo
  have hchi := hx.c_hi
  have hPi_lt : lp hash t.m key i < s'.size := by rw [h.stores.size]; exact lp_lt hash t.m key i hmp
  have hti := h.ahead i (Nat.le_refl _) (by omega)
  obtain ⟨⟨k, v⟩, he⟩ : ∃ e, s'[lp hash t.m key i]? = some (some e) := by
    rw [hti]
    exact exists_of_usedL (hx.c_first i hlo hi)
  refine ⟨(k, v), he, ?_⟩
  -- the probe sequence of the entry under the pointer reaches it through slots that `t` had occupied, none of them among the
  -- entries still to come
  obtain ⟨a, ha, hpa, hpath⟩ := (hx.probed (i + 1)).reach _ k (maskedKey_eq_some.2
    ⟨fun ⟨j, hj1, hj2, hj⟩ => lp_inj hash t.m key i j hmp hj1 (by omega) hj, keyAtL_eq_some.2 ⟨v, hti ▸ he⟩⟩)
  have hgr := get_set s' (lp hash t.m key i) hPi_lt none
  obtain ⟨hS, habs⟩ := h.stores.remove he
  obtain ⟨ck, hcka, hcknil, hckused, hput⟩ := Lin.put_absent sh hash d
    ({ t with slots := s'.setIfInBounds (lp hash t.m key i) none, n := t.n - 1 - 1 } : LinTable K V) g k v
    hS.size hmp hx.no_resize habs ha (by rw [hpa]; exact (hgr _).trans (if_pos rfl))
  refine ⟨_, hput.trans (by rw [show t.n - 1 - 1 + 1 = t.n - 1 by omega]), ?_⟩
  -- the landing slot is none of the entries still to come: it is nil, they are not
  have hq : ∀ j, i < j → j < i0 + t.m → lp hash t.m k ck ≠ lp hash t.m key j := by
    intro j hj1 hj2 hqj
    have hji := lp_inj hash t.m key i j hmp hj1 (by omega)
    rw [hqj, hgr, if_neg hji.symm, h.ahead j (by omega) hj2] at hcknil
    rcases Nat.eq_or_lt_of_le hcka with rfl | hlt
    · exact hji (hpa.symm.trans hqj)
    · have := (maskedKey_isSome.1 (hpath ck hlt)).2
      rw [hqj, isUsedL_false_of_none hcknil] at this
      cases this
  have hqseg : ¬ InSeg (lp hash t.m key) (i + 1) c (lp hash t.m k ck) := fun ⟨j, hj1, hj2, hj⟩ => hq j (by omega) (by omega) hj
  have hkv : k ≠ key ∧ Lin.Live t k v := (h.stores.live k v).1 ⟨_, he⟩
  refine ⟨by omega, hi, (hS.put (lt_size_of_get hcknil) k v (fun x _ => habs x) fun e he => by rw [hcknil] at he; cases he).cast
    (by rw [isUsedL_false_of_none hcknil, if_neg Bool.false_ne_true]; omega) fun k' v' => ?_, ?_, fun j hj1 hj2 => ?_⟩
  · constructor
    · rintro (⟨rfl, rfl⟩ | ⟨_, _, hl⟩)
      · exact hkv
      · exact hl
    · intro hl
      by_cases hkk : k' = k
      · subst hkk
        exact Or.inl ⟨rfl, h.stores.func hl hkv⟩
      · exact Or.inr ⟨hkk, hkk, hl⟩
  · exact (maskedKey_rem hi hPi_lt ▸ h.probed).set (maskedKey_set hqseg (lt_size_of_get hcknil) (k, v))
      (fun x _ hx1 => habs x (maskedKey_eq_some.1 hx1).2)
      ⟨ck, by omega, rfl, fun b hb => maskedKey_isSome.2 ⟨(maskedKey_isSome.1 (hpath b (by omega))).1, hckused b hb⟩⟩
  · rw [get_set _ _ (lt_size_of_get hcknil), if_neg (hq j (by omega) hj2).symm, hgr,
      if_neg (lp_inj hash t.m key i j hmp (by omega) (by omega)).symm]
    exact h.ahead j (by omega) hj2

/-- the loop from pointer `i` to the nil slot `P c`: `c - i` re-insertions, each by a `Put` that does not resize (fuel `d + 1`), and
one more unit of the loop's fuel to see the nil slot.  `Delete` starts it at `i0 + 1` with fuel `m`, and `c < i0 + m`. -/
theorem Lin.reLoop_spec (sh : Shuffle σ) (d : Nat)
    (hx : Lin.DelCtx hash t key i0 c) : ∀ (fuel i : Nat) (s' : LSlots K V) (g : σ),
    Lin.MaskInv hash t key i0 c i s' → c - i < fuel →
    ∃ t'', Lin.reLoop (Lin.put sh hash (d + 1)) t.m (mix (hash key)) fuel i { t with slots := s', n := t.n - 1 } g = .ok (t'', g) ∧
      Lin.Inv hash t'' ∧ (∀ k v, Lin.Live t'' k v ↔ k ≠ key ∧ Lin.Live t k v) := by
  intro fuel
  induction fuel with
  | zero => intro i s' g _ h; omega
  | succ f ih =>
    intro i s' g h hf
    have hpr : Lin.probeIdx t.m (mix (hash key)) i = lp hash t.m key i := rfl
    unfold Lin.reLoop
    simp only [hpr]
    rcases Nat.lt_or_ge i c with hic | hic
    · obtain ⟨e, he, s'', hput, hnext⟩ := Lin.MaskInv.step sh d g hx h hic
      simp only [he, hput]
      exact ih (i + 1) s'' g hnext (by omega)
    · have hic' : i = c := by have := h.ptr; omega
      subst hic'
      have hnil : s'[lp hash t.m key i]? = some none := by
        rw [h.ahead i (Nat.le_refl _) hx.c_hi]; exact hx.c_nil
      simp only [hnil]
      exact ⟨_, rfl, Lin.MaskInv.final hx h, h.stores.live⟩

theorem Lin.exists_next_nil {hash : K → UInt64} {t : LinTable K V} (h : Lin.Inv hash t) (key : K) (i0 : Nat)
    (hused : isUsedL t.slots (lp hash t.m key i0) = true) :
    ∃ c, Lin.DelCtx hash t key i0 c := by
  obtain ⟨x, ⟨hx1, hx2⟩, hmin⟩ := exists_least (Lin.exists_free_from h key i0)
  have hx0 : x ≠ 0 := by
    rintro rfl
    have : isUsedL t.slots (lp hash t.m key (i0 + 0)) = false := isUsedL_false_of_none hx2
    rw [Nat.add_zero, hused] at this
    cases this
  refine ⟨i0 + x, h, by omega, by omega, hx2, fun j hj1 hj2 => ?_⟩
  by_contra hu
  refine hmin (j - i0) (by omega) ⟨by omega, ?_⟩
  rw [show i0 + (j - i0) = j by omega]
  exact none_of_not_usedL (Lin.pr_lt h.1 key j) (Bool.eq_false_iff.2 hu)

theorem Lin.MaskInv.init (hx : Lin.DelCtx hash t key i0 c) (v0 : V)
    (hslot : t.slots[lp hash t.m key i0]? = some (some (key, v0))) :
    Lin.MaskInv hash t key i0 c (i0 + 1) (t.slots.setIfInBounds (lp hash t.m key i0) none) :=
  have hmp : 0 < t.m := by have := Lin.m_ge hx.inv.1; omega
  ⟨Nat.lt_succ_self _, hx.c_lo, (hx.inv.1.stores.remove hslot).1, maskedKey_rem hx.c_lo (lt_size_of_get hslot) ▸ hx.probed i0,
    fun j hj1 hj2 => (get_set _ _ (lt_size_of_get hslot) _ _).trans
      (if_neg (lp_inj hash t.m key i0 j hmp (by omega) (by omega)).symm)⟩

end

theorem Lin.delete_spec {sh : Shuffle σ} (hsh : ShufflePerm sh) (hash : K → UInt64) (d : Nat) (t : LinTable K V) (g : σ)
    (key : K) (h : Lin.Inv hash t) :
    ∃ t' g' o, Lin.delete sh hash (d + 2) t g key = .ok (t', g', o) ∧ Lin.Inv hash t' ∧
      (∀ k' v', Lin.Live t' k' v' ↔ k' ≠ key ∧ Lin.Live t k' v') ∧ ∀ v, o = some v ↔ Lin.Live t key v := by
  obtain ⟨i1, x1, hf⟩ := Lin.find_result hash t key h
  have hfind : Lin.findLoop t (mix (hash key)) key t.m 0 = .ok (i1, Lin.pr hash t key i1) := by
    rw [Lin.findLoop_eq]
    exact hf.returns _ (fun i _ => (i, Lin.pr hash t key i))
  unfold Lin.delete
  simp only [hfind, hf.get]
  cases x1 with
  | none =>
    obtain ⟨h1, h2⟩ := delete_absent (Live := Lin.Live) fun v hl => by cases (Lin.live_iff_found hf v).1 hl
    exact ⟨t, g, none, rfl, h, h1, h2⟩
  | some e =>
    obtain ⟨k0, v0⟩ := e
    have hke : k0 = key := stopL_some hf.stops
    subst hke
    have hslot : t.slots[lp hash t.m k0 i1]? = some (some (k0, v0)) := hf.get
    obtain ⟨c, hctx⟩ := Lin.exists_next_nil h k0 i1 (isUsedL_true_of_some hslot)
    have hinit := Lin.MaskInv.init hctx v0 hslot
    obtain ⟨t2, hre, hinv2, hlive2⟩ := Lin.reLoop_spec sh (d + 1) hctx t.m (i1 + 1) _ g hinit
      (by have := hctx.c_hi; have := hf.lt; omega)
    have ho : ∀ v, some v0 = some v ↔ Lin.Live t k0 v := fun v => by
      rw [Lin.live_iff_found hf]
      simp
    -- the re-insertions ran at fuel `d + 1 + 1`, which is the `d + 2` that `Delete` hands to its `Put`s
    have hre' : Lin.reLoop (Lin.put sh hash (d + 2)) t.m (mix (hash k0)) t.m (i1 + 1)
        { t with slots := t.slots.setIfInBounds (Lin.pr hash t k0 i1) none, n := t.n - 1 } g = .ok (t2, g) := hre
    simp only [hre']
    split
    · obtain ⟨t3, g3, hr, hinv3, hL3⟩ := Lin.resize_any hsh hash d t2 g (t2.m / 2) hinv2
        (by
          intro hmin
          have : 2 ≤ t2.m := by have := lpMinM_ge; omega
          exact (isPowerOf2_half t2.m this hinv2.1.pow2).1)
      exact ⟨t3, g3, some v0, by simp only [hr], hinv3, fun k' v' => by rw [hL3, hlive2], ho⟩
    · exact ⟨t2, g, some v0, rfl, hinv2, hlive2, ho⟩

theorem Lin.correct {sh : Shuffle σ} (hsh : ShufflePerm sh) (hash : K → UInt64) (eqVal : V → V → Bool) :
    Correct eqVal (Lin.impl sh hash eqVal) (Lin.Inv hash) Lin.Live where
  func := fun t k v v' hI h1 h2 => hI.1.stores.func h1 h2
  put := by
    intro t g k v hI
    obtain ⟨t', g', h1, h2, hp⟩ := Lin.put_any hsh hash (depth - 2) t g k v hI
    exact ⟨t', g', h1, h2, hp.live⟩
  get := fun t k hI => Lin.get_spec hash t k hI
  delete := fun _ t g k hI => Lin.delete_spec hsh hash (depth - 2) t g k hI
  deleteAll := fun t hI => Lin.deleteAll_spec hash t hI
  all := by
    intro t g hI
    obtain ⟨h1, h2, _⟩ := Lin.all_spec hsh hI.1 g
    exact ⟨h1.nodup, h2⟩
  size := by
    intro t g hI
    obtain ⟨_, _, h3⟩ := Lin.all_spec hsh hI.1 g
    exact h3.symm
  equal := fun _ _ _ => rfl

/-- what `NewLinearHashTable` accepts (capacity 0 = default, else a power of two ≥ the minimum), with default-or-tighter
load-factor bounds -/
def Lin.ValidOpts (o : Opts) : Prop :=
  (o.cap = 0 ∨ (symboltable_lpMinM ≤ o.cap ∧ isPowerOf2 o.cap = true)) ∧
  ValidLF lpMinLF lpMaxLF (effLF o.minLF lpMinLF) (effLF o.maxLF lpMaxLF)

theorem Lin.new_eff (o : Opts) :
    (Lin.new o : Outcome (LinTable K V)) =
      Lin.new ⟨if o.cap = 0 then symboltable_lpMinM else o.cap, effLF o.minLF lpMinLF, effLF o.maxLF lpMaxLF⟩ := by
  unfold Lin.new
  simp only [effLF_idem _ _ (show lpMinLF.num ≠ 0 by decide), effLF_idem _ _ (show lpMaxLF.num ≠ 0 by decide),
    cap_idem _ _ (show symboltable_lpMinM ≠ 0 by decide)]
  rfl

theorem Lin.init_spec (hash : K → UInt64) (o : Opts) (hv : Lin.ValidOpts o) :
    ∃ t0 : LinTable K V, Lin.new o = .ok t0 ∧ Lin.Inv hash t0 ∧ ∀ k v, ¬ Lin.Live t0 k v := by
  obtain ⟨hcap, hlf⟩ := hv
  have hc := cap_default (by decide : 0 < symboltable_lpMinM) (by decide) hcap
  obtain ⟨fresh, hnew, hfI, _, hfn, _, hfempty⟩ := Lin.new_spec (V := V) hash _ _ _ hlf hc.1 hc.2
  exact ⟨fresh, by rw [Lin.new_eff, hnew], Lin.inv_of_empty hfI hfn, hfempty⟩

theorem Lin.probes_bound (hash : K → UInt64) (t : LinTable K V) (key : K) (h : Lin.Inv hash t) :
    ∃ c, Lin.probes t (mix (hash key)) key t.m 0 = some c ∧ c ≤ t.m := by
  obtain ⟨i1, x1, hf⟩ := Lin.find_result hash t key h
  exact ⟨i1 + 1, (Lin.probes_eq hash t key t.m 0).trans (congrArg okVal (hf.returns _ (fun i _ => i + 1))), hf.lt⟩

end AlgoVerif.C02
