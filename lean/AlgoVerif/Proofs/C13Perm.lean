import AlgoVerif.Proofs.C13DFA
/-! C13: list lemmas for `Isomorphic`: `generatePermutations` reaches every arrangement, the bijection built
from two state lists, the sorted degree sequence only depends on the multiset of degrees, and what an
injective renaming does to the quantities the pre-checks compare; and the search of `Isomorphic` itself: it answers `true`
as soon as the pre-checks pass and some arrangement yields the argument (`isomorphic_of_arrangement`). -/
namespace AlgoVerif.C13
open AlgoVerif

theorem swapAt_perm (l : List Int) (i j : Nat) : (swapAt l i j).Perm l := by
  simp only [swapAt]
  cases hi : l[i]? with
  | none => exact List.Perm.refl _
  | some x =>
    cases hj : l[j]? with
    | none => exact List.Perm.refl _
    | some y =>
      obtain ⟨hi', rfl⟩ := List.getElem?_eq_some_iff.1 hi
      obtain ⟨hj', rfl⟩ := List.getElem?_eq_some_iff.1 hj
      exact List.set_set_perm hi' hj'

theorem swapAt_take (l : List Int) (i j n : Nat) (hi : n ≤ i) (hj : n ≤ j) : (swapAt l i j).take n = l.take n := by
  simp only [swapAt]
  cases l[i]? with
  | none => rfl
  | some x =>
    cases l[j]? with
    | none => rfl
    | some y =>
      simp only [List.take_set]
      rw [List.set_eq_of_length_le (by simp; omega), List.set_eq_of_length_le (by simp; omega)]

theorem swapAt_getElem (l : List Int) (i j : Nat) (x y : Int) (hx : l[i]? = some x) (hy : l[j]? = some y) :
    (swapAt l i j)[i]? = some y := by
  simp only [swapAt, hx, hy]
  have hi : i < l.length := (List.getElem?_eq_some_iff.1 hx).1
  by_cases hij : i = j
  · subst hij; rw [hx] at hy; injection hy with hy; subst hy; simp [hi]
  · rw [List.getElem?_set]
    simp [Ne.symm hij, hi]

theorem drop_perm_of_take_eq {l π : List Int} {start : Nat} (hperm : π.Perm l) (htake : π.take start = l.take start) :
    (π.drop start).Perm (l.drop start) := by
  rw [← List.take_append_drop start π, ← List.take_append_drop start l, htake] at hperm
  exact (List.perm_append_left_iff _).1 hperm

theorem genPerms_complete (yield : List Int → Bool) (k : Nat) (l : List Int) (start : Nat) (π : List Int)
    (hlen : l.length = start + k + 1) (hperm : π.Perm l) (htake : π.take start = l.take start)
    (hy : yield π = false) : genPerms yield k l start = false := by
  induction k generalizing l start with
  | zero =>
    -- one element is left: the arrangements are equal
    have hdrop := drop_perm_of_take_eq hperm htake
    obtain ⟨y, hl⟩ := List.length_eq_one_iff.1 (show (l.drop start).length = 1 by simp; omega)
    rw [hl] at hdrop
    have : π = l := by
      rw [← List.take_append_drop start π, htake, List.perm_singleton.1 hdrop, ← hl, List.take_append_drop]
    simp only [genPerms]; rw [← this]; exact hy
  | succ k ih =>
    -- the element of `π` at `start` sits in `l` at some `start + i`; swapping it there makes the arrangements agree
    -- up to `start + 1`
    obtain ⟨x, hx⟩ : ∃ x, π[start]? = some x :=
      ⟨π[start]'(by rw [hperm.length_eq]; omega), List.getElem?_eq_getElem _⟩
    obtain ⟨y, hyl⟩ : ∃ y, l[start]? = some y := ⟨l[start]'(by omega), List.getElem?_eq_getElem _⟩
    obtain ⟨i, hi⟩ := List.mem_iff_getElem?.1
      ((drop_perm_of_take_eq hperm htake).subset (List.mem_of_getElem? (i := 0) (by simpa using hx)))
    rw [List.getElem?_drop] at hi
    have hilt : start + i < l.length := (List.getElem?_eq_some_iff.1 hi).1
    simp only [genPerms]
    rw [List.all_eq_false]
    refine ⟨i, List.mem_range.2 (by omega), ?_⟩
    have hsw := swapAt_perm l start (start + i)
    have := ih (swapAt l start (start + i)) (start + 1) (by rw [hsw.length_eq]; omega)
      (hperm.trans hsw.symm) (by
        rw [List.take_add_one, List.take_add_one, swapAt_take l start (start + i) start (Nat.le_refl _) (by omega), htake,
          swapAt_getElem l start (start + i) y x hyl hi, hx])
    simp [this]

theorem genPerms_finds (yield : List Int → Bool) (l π : List Int) (hne : l.isEmpty = false)
    (hperm : π.Perm l) (hy : yield π = false) : genPerms yield (l.length - 1) l 0 = false := by
  have hlen : l.length = 0 + (l.length - 1) + 1 := by
    cases l with
    | nil => simp at hne
    | cons _ _ => simp
  exact genPerms_complete yield _ l 0 π hlen hperm (by simp) hy

theorem bij_map (states1 : List Int) (f : Int → Int) (s : Int) (hs : s ∈ states1) :
    bij states1 (states1.map f) s = f s := by
  simp only [bij]
  cases hi : states1.idxOf? s with
  | none =>
    exfalso
    rw [List.idxOf?_eq_none_iff] at hi
    exact hi hs
  | some i =>
    rw [List.idxOf?_eq_some_iff] at hi
    obtain ⟨h, he, _⟩ := hi
    simp only
    rw [List.getD_eq_getElem?_getD, List.getElem?_map]
    simp [h, he]

theorem insSorted_comm (x y : Int) (l : List Int) : insSorted x (insSorted y l) = insSorted y (insSorted x l) := by
  induction l with
  | nil => grind [insSorted]
  -- either of `x`, `y` goes in front of `z` or behind it; if both go behind, the tails agree by induction
  | cons z l ih => grind [insSorted]

/-- the only fact about the sort the degree pre-check rests on: the result does not depend on the order of the input -/
theorem sortInts_perm (l l' : List Int) (h : l.Perm l') : sortInts l = sortInts l' :=
  h.foldl_eq' (fun x _ y _ acc => insSorted_comm y x acc) []

theorem degreesAgree_refl (l : List Int) : degreesAgree l l = some true := by
  induction l with
  | nil => simp [degreesAgree]
  | cons x l ih => simp [degreesAgree, ih]

theorem mkSet_perm (xs : List Int) (hnd : xs.Nodup) : (mkSet xs).Perm xs :=
  (List.perm_ext_iff_of_nodup (ssorted_nodup (ssorted_mkSet xs)) hnd).2 fun _ => mem_mkSet

theorem flatMap_perm_pointwise {α β : Type} (l : List α) (g h : α → List β) (hp : ∀ x ∈ l, (g x).Perm (h x)) :
    (l.flatMap g).Perm (l.flatMap h) := by
  induction l with
  | nil => simp
  | cons x l ih =>
    simp only [List.flatMap_cons]
    exact (hp x (by simp)).append (ih (fun y hy => hp y (by simp [hy])))

theorem aEqual_refl {β : Type} (eqv : β → β → Bool) (t : List (Int × β)) (hs : ASorted t)
    (hr : ∀ kv ∈ t, eqv kv.2 kv.2 = true) : aEqual eqv t t = true := by
  simp only [aEqual, Bool.and_self, List.all_eq_true]
  intro kv hkv
  obtain ⟨k, v⟩ := kv
  rw [(mem_iff_aget hs k v).1 hkv]
  exact hr _ hkv

theorem DFA.equal_self {d : DFA} (h : d.WF) : d.equal d = true := by
  simp only [DFA.equal, beq_self_eq_true, Bool.true_and, setEq_refl]
  exact aEqual_refl _ _ h.1 (fun kv hkv => aEqual_refl _ _ (h.2 kv hkv) (fun _ _ => by simp))

theorem NFA.equal_self {n : NFA} (h : n.WF) : n.equal n = true := by
  simp only [NFA.equal, beq_self_eq_true, Bool.true_and, setEq_refl]
  exact aEqual_refl _ _ h.1 (fun kv hkv => aEqual_refl _ _ (h.2 kv hkv) (fun _ _ => setEq_refl _))

theorem map_perm_of_ssorted {Q Q' : List Int} {f : Int → Int} (hQ : SSorted Q) (hQ' : SSorted Q')
    (hinj : ∀ s ∈ Q, ∀ t ∈ Q, f s = f t → s = t) (hmem : ∀ x, x ∈ Q' ↔ x ∈ Q.map f) : (Q.map f).Perm Q' := by
  rw [List.perm_ext_iff_of_nodup (nodup_map_of_injOn f _ (ssorted_nodup hQ) hinj) (ssorted_nodup hQ')]
  exact fun x => (hmem x).symm

theorem length_mkSet_map {F : List Int} {f : Int → Int} (hF : SSorted F)
    (hinj : ∀ s ∈ F, ∀ t ∈ F, f s = f t → s = t) : (mkSet (F.map f)).length = F.length := by
  rw [(mkSet_perm _ (nodup_map_of_injOn f _ (ssorted_nodup hF) hinj)).length_eq, List.length_map]

/-- the degree of a state, as `getSortedDegreeSequence` counts it -/
def degOf (edges : List (Int × Int)) (s : Int) : Int :=
  ((edges.filter (fun p => p.1 == s)).length + (edges.filter (fun p => p.2 == s)).length : Int)

theorem degOf_perm (e1 e2 : List (Int × Int)) (h : e1.Perm e2) (s : Int) : degOf e1 s = degOf e2 s := by
  simp only [degOf, (h.filter _).length_eq]

theorem beq_congr_of_iff {a b c d : Int} (h : a = b ↔ c = d) : (a == b) = (c == d) := by
  rw [Bool.eq_iff_iff]; simp [h]

theorem degOf_map (edges : List (Int × Int)) (f : Int → Int) (s : Int)
    (hinj : ∀ p ∈ edges, (f p.1 = f s ↔ p.1 = s) ∧ (f p.2 = f s ↔ p.2 = s)) :
    degOf (edges.map (fun p => (f p.1, f p.2))) (f s) = degOf edges s := by
  simp only [degOf, List.filter_map, List.length_map]
  congr 2
  · congr 1
    exact List.filter_congr fun p hp => beq_congr_of_iff (hinj p hp).1
  · congr 1
    exact List.filter_congr fun p hp => beq_congr_of_iff (hinj p hp).2

theorem sortInts_degOf_renamed (Q Q' : List Int) (E E' : List (Int × Int)) (f : Int → Int)
    (hQ : (Q.map f).Perm Q') (hE : E'.Perm (E.map (fun p => (f p.1, f p.2))))
    (hinj : ∀ s ∈ Q, ∀ t ∈ Q, f s = f t → s = t) (hEQ : ∀ p ∈ E, p.1 ∈ Q ∧ p.2 ∈ Q) :
    sortInts (Q'.map (degOf E')) = sortInts (Q.map (degOf E)) := by
  apply sortInts_perm
  refine (hQ.symm.map _).trans (List.Perm.of_eq ?_)
  rw [List.map_map]
  apply List.map_congr_left
  intro s hs
  simp only [Function.comp]
  rw [degOf_perm _ _ hE, degOf_map]
  intro p hp
  exact ⟨⟨fun h => hinj _ (hEQ p hp).1 _ hs h, fun h => by rw [h]⟩,
    ⟨fun h => hinj _ (hEQ p hp).2 _ hs h, fun h => by rw [h]⟩⟩

theorem nodup_of_keys {β : Type} {L : List (Int × Int × β)}
    (hk : L.Pairwise (fun e e' => ¬ (e.1 = e'.1 ∧ e.2.1 = e'.2.1))) : L.Nodup :=
  hk.imp fun h he => h ⟨congrArg (·.1) he, congrArg (·.2.1) he⟩

theorem keys_renamed {β : Type} {E : List (Int × Int × β)}
    (hk : E.Pairwise (fun e e' => ¬ (e.1 = e'.1 ∧ e.2.1 = e'.2.1))) (f : Int → Int) (g : β → β)
    (hinj : ∀ e ∈ E, ∀ e' ∈ E, f e.1 = f e'.1 → e.1 = e'.1) :
    (E.map (fun e => (f e.1, e.2.1, g e.2.2))).Pairwise (fun e e' => ¬ (e.1 = e'.1 ∧ e.2.1 = e'.2.1)) := by
  rw [List.pairwise_map]
  exact hk.imp_of_mem fun he he' hne h => hne ⟨hinj _ he _ he' h.1, h.2⟩

/-- the edges `(s, t)` the degree sequence counts, from the entries of a table -/
def edgesOf {β : Type} (tgts : β → List Int) (E : List (Int × Int × β)) : List (Int × Int) :=
  E.flatMap (fun e => (tgts e.2.2).map (fun t => (e.1, t)))

/-- What the pre-checks of `Isomorphic` see of an automaton is its start state, its final states and the entries `E` of its
table, which have pairwise different keys `(s, a)` (`tgts b`: the targets in a table value `b`, a state for a DFA, a set of
states for an NFA).  If the entries `E'` of a second table are those of the first renamed by `f` (values by `g`, which renames the targets up to their order) and `f` is
injective on the states, the states correspond, the sorted degree sequences agree and the same symbols occur. -/
theorem renamed_table {β : Type} (tgts : β → List Int) (f : Int → Int) (g : β → β)
    {start : Int} {final : List Int} {E E' : List (Int × Int × β)} {S S' : List Int}
    (hk : E.Pairwise (fun e e' => ¬ (e.1 = e'.1 ∧ e.2.1 = e'.2.1)))
    (hk' : E'.Pairwise (fun e e' => ¬ (e.1 = e'.1 ∧ e.2.1 = e'.2.1)))
    (hg : ∀ s a b, (s, a, b) ∈ E → (tgts (g b)).Perm ((tgts b).map f))
    (hent : ∀ x a T, (x, a, T) ∈ E' ↔ (x, a, T) ∈ E.map (fun e => (f e.1, e.2.1, g e.2.2)))
    (hS : ∀ x, x ∈ S ↔ x = start ∨ x ∈ final ∨ ∃ s a b, (s, a, b) ∈ E ∧ (x = s ∨ x ∈ tgts b))
    (hS' : ∀ x, x ∈ S' ↔ x = f start ∨ x ∈ mkSet (final.map f) ∨ ∃ s a b, (s, a, b) ∈ E' ∧ (x = s ∨ x ∈ tgts b))
    (hSs : SSorted S) (hSs' : SSorted S')
    (hinj : ∀ s ∈ S, ∀ t ∈ S, f s = f t → s = t) :
    (S.map f).Perm S' ∧ S'.isEmpty = false ∧
    sortInts (S'.map (degOf (edgesOf tgts E'))) = sortInts (S.map (degOf (edgesOf tgts E))) ∧
    ∀ a, (∃ s b, (s, a, b) ∈ E') ↔ ∃ s b, (s, a, b) ∈ E := by
  have hES : ∀ s a b, (s, a, b) ∈ E → s ∈ S ∧ ∀ t ∈ tgts b, t ∈ S := fun s a b h =>
    ⟨(hS s).2 (Or.inr (Or.inr ⟨s, a, b, h, Or.inl rfl⟩)), fun t ht => (hS t).2 (Or.inr (Or.inr ⟨s, a, b, h, Or.inr ht⟩))⟩
  -- both lists are duplicate-free, so the second table holds the renamed entries also counted with multiplicity
  have hentperm : E'.Perm (E.map (fun e => (f e.1, e.2.1, g e.2.2))) := by
    rw [List.perm_ext_iff_of_nodup (nodup_of_keys hk') (nodup_of_keys
      (keys_renamed hk f g fun e he e' he' => hinj _ (hES _ _ _ he).1 _ (hES _ _ _ he').1))]
    rintro ⟨x, a, y⟩; exact hent x a y
  have hstates : ∀ x, x ∈ S' ↔ x ∈ S.map f := by
    intro x
    rw [hS', List.mem_map]
    constructor
    · rintro (h | h | ⟨s, a, T, hm, hx⟩)
      · exact ⟨start, (hS _).2 (Or.inl rfl), h.symm⟩
      · obtain ⟨q, hq, rfl⟩ := List.mem_map.1 (mem_mkSet.1 h)
        exact ⟨q, (hS _).2 (Or.inr (Or.inl hq)), rfl⟩
      · obtain ⟨⟨s1, a1, b1⟩, he, heq⟩ := List.mem_map.1 ((hent s a T).1 hm)
        simp only [Prod.mk.injEq] at heq
        obtain ⟨rfl, rfl, rfl⟩ := heq
        rcases hx with rfl | hx
        · exact ⟨s1, (hES _ _ _ he).1, rfl⟩
        · obtain ⟨t, ht, rfl⟩ := List.mem_map.1 ((hg _ _ _ he).subset hx)
          exact ⟨t, (hES _ _ _ he).2 t ht, rfl⟩
    · rintro ⟨s, hs, rfl⟩
      rcases (hS s).1 hs with h | h | ⟨s1, a, b1, hm, hx⟩
      · left; rw [h]
      · exact Or.inr (Or.inl (mem_mkSet.2 (List.mem_map.2 ⟨s, h, rfl⟩)))
      · exact Or.inr (Or.inr ⟨f s1, a, g b1, (hent _ _ _).2 (List.mem_map.2 ⟨(s1, a, b1), hm, rfl⟩),
          hx.imp (congrArg f) (fun hx => (hg _ _ _ hm).symm.subset (List.mem_map.2 ⟨s, hx, rfl⟩))⟩)
  have hstperm : (S.map f).Perm S' := map_perm_of_ssorted hSs hSs' hinj hstates
  refine ⟨hstperm, ?_, ?_, fun a => ⟨?_, ?_⟩⟩
  · have : f start ∈ S' := (hS' _).2 (Or.inl rfl)
    cases S' with
    | nil => simp at this
    | cons _ _ => rfl
  · refine sortInts_degOf_renamed _ _ _ _ f hstperm ?_ hinj ?_
    · refine (hentperm.flatMap_right _).trans ?_
      rw [edgesOf, List.flatMap_map, List.map_flatMap]
      apply flatMap_perm_pointwise
      rintro ⟨s1, a1, b1⟩ he
      refine ((hg _ _ _ he).map _).trans (List.Perm.of_eq ?_)
      simp only [List.map_map]; rfl
    · intro p hp
      obtain ⟨⟨s1, a1, b1⟩, he, hp⟩ := List.mem_flatMap.1 hp
      obtain ⟨t, ht, rfl⟩ := List.mem_map.1 hp
      exact ⟨(hES _ _ _ he).1, (hES _ _ _ he).2 t ht⟩
  · rintro ⟨x, y, h⟩
    obtain ⟨⟨s1, a1, b1⟩, he, heq⟩ := List.mem_map.1 ((hent _ _ _).1 h)
    simp only [Prod.mk.injEq] at heq
    obtain ⟨-, rfl, -⟩ := heq
    exact ⟨s1, b1, he⟩
  · rintro ⟨s, b, h⟩
    exact ⟨f s, g b, (hent _ _ _).2 (List.mem_map.2 ⟨(s, a, b), h, rfl⟩)⟩

theorem NFA.isomorphic_of_arrangement (n rhs : NFA)
    (h1 : n.final.length = rhs.final.length) (h2 : n.states.length = rhs.states.length)
    (h3 : setEq n.symbols rhs.symbols = true)
    (h4 : degreesAgree n.sortedDegrees rhs.sortedDegrees = some true)
    (hne : rhs.states.isEmpty = false) (π : List Int) (hπ : π.Perm rhs.states)
    (heq : (n.permuted (bij n.states π)).equal rhs = true) :
    n.isomorphic rhs = .ok true := by
  simp only [NFA.isomorphic, h1, h2, h3, h4, hne]
  simp
  exact genPerms_finds _ _ π hne hπ (by rw [heq]; rfl)

theorem DFA.isomorphic_of_arrangement (d rhs : DFA)
    (h1 : d.final.length = rhs.final.length) (h2 : d.states.length = rhs.states.length)
    (h3 : setEq d.symbols rhs.symbols = true)
    (h4 : degreesAgree d.sortedDegrees rhs.sortedDegrees = some true)
    (hne : rhs.states.isEmpty = false) (π : List Int) (hπ : π.Perm rhs.states)
    (heq : (d.permuted (bij d.states π)).equal rhs = true) :
    d.isomorphic rhs = .ok true := by
  simp only [DFA.isomorphic, h1, h2, h3, h4, hne]
  simp
  exact genPerms_finds _ _ π hne hπ (by rw [heq]; rfl)

theorem NFA.isomorphic_of_sorted_renaming (n rhs : NFA)
    (h1 : n.final.length = rhs.final.length) (h2 : n.states.length = rhs.states.length)
    (h3 : setEq n.symbols rhs.symbols = true)
    (h4 : degreesAgree n.sortedDegrees rhs.sortedDegrees = some true)
    (hne : rhs.states.isEmpty = false)
    (heq : (n.permuted (bij n.states rhs.states)).equal rhs = true) :
    n.isomorphic rhs = .ok true :=
  n.isomorphic_of_arrangement rhs h1 h2 h3 h4 hne _ (List.Perm.refl _) heq

theorem DFA.isomorphic_of_sorted_renaming (d rhs : DFA)
    (h1 : d.final.length = rhs.final.length) (h2 : d.states.length = rhs.states.length)
    (h3 : setEq d.symbols rhs.symbols = true)
    (h4 : degreesAgree d.sortedDegrees rhs.sortedDegrees = some true)
    (hne : rhs.states.isEmpty = false)
    (heq : (d.permuted (bij d.states rhs.states)).equal rhs = true) :
    d.isomorphic rhs = .ok true :=
  d.isomorphic_of_arrangement rhs h1 h2 h3 h4 hne _ (List.Perm.refl _) heq

end AlgoVerif.C13
