import AlgoVerif.Proofs.C11TermBase
/-!
# C11 — termination of the driver: witnessed valid items and the two arguments against an infinite run

`WV fr p d z` ("witnessed valid"): the LR(1) item `[p, dot at d, first token of z]` is valid for the frames `fr`
(`Term.TFrame`: state, accessing symbol, tree), with the terminal string `z` as a witness for its lookahead — built bottom-up
along the frames from `[S′ → •S, $]` by moving the dot over a frame and by the CLOSURE rule, where the witness of a closure item
is (the yield of a forest for the rest of the parent's body) · (the parent's witness).  The definition mentions no item set and
stores no lookahead.  On a complete table the item lies in the state on top of the frames (`wv_items`), the driver started on
`yield(fr) · yield(forest for the rest of p) · z` climbs the frames (`climb_frames`), and that input is a sentence (`wv_tree`), so
the driver halts on it.

Two consequences:

* `no_eps_growth` (B): frames `π ≠ []` on top of `fr1` with empty yields that lead back to the state on top of `fr1`
  cannot carry a witnessed valid item — on a sentence the driver would climb `π` again and again without reading a token,
  its stack growing for ever;
* `no_two_trees` (A): a witnessed valid item with `B` after the dot excludes two different derivation trees of `B` with
  the same yield — they would extend to two derivation trees of one sentence (`wv_ambig`), and a grammar with a complete
  table is unambiguous (`Complete.unambiguous`).
-/
namespace AlgoVerif.C11.Term
open AlgoVerif AlgoVerif.Gram AlgoVerif.C11 AlgoVerif.C11.Spec AlgoVerif.C11.Complete

theorem peek_statesF (fr : List TFrame) (rest : List Int) (h : peekState rest = 0 ∨ fr ≠ []) :
    peekState (statesF fr ++ rest) = if fr = [] then peekState rest else topF fr := by
  cases fr with
  | nil => simp [statesF]
  | cons f fr => simp [statesF, peekState, topF]

theorem topF_append (π fr : List TFrame) : topF (π ++ fr) = if π = [] then topF fr else topF π := by
  cases π <;> simp [topF]

theorem derivesL_adv {g : SGrammar} {p : Pr} {d : Nat} {X : Sy} {t : Tree} {ks : List Tree} (hd : p.body[d]? = some X)
    (hdt : derivesT g t X) (hks : derivesL g ks (p.body.drop (d + 1))) : derivesL g (t :: ks) (p.body.drop d) := by
  obtain ⟨hlt, hget⟩ := List.getElem?_eq_some_iff.mp hd
  rw [List.drop_eq_getElem_cons hlt, hget]
  simp only [derivesL]
  exact ⟨X, _, rfl, hdt, hks⟩

theorem derivesL_clo {g : SGrammar} {p : Pr} {d : Nat} {B : String} {q : Pr} {ks kβ : List Tree}
    (hd : p.body[d]? = some (Sym.nonterm B)) (hq : q ∈ g.prods) (hqh : q.head = B)
    (hkβ : derivesL g kβ (p.body.drop (d + 1))) (hks : derivesL g ks q.body) :
    derivesL g (Tree.node q ks :: kβ) (p.body.drop d) :=
  derivesL_adv hd (by simp only [derivesT]; exact ⟨by rw [hqh], hq, hks⟩) hkβ

section
variable (g : SGrammar) (start' : String) (T : Tbl)

/-- `WV fr p d z`: the dotted production `p`, dot at `d`, is valid for the frames `fr`, and `z` can follow it.  No lookahead is
stored: the LR(1) item meant is `[p, d, look z]` (`wv_items`). -/
inductive WV : List TFrame → Pr → Nat → List String → Prop where
  | init : WV [] { head := start', body := [Sym.nonterm g.start] } 0 []
  | adv {fr : List TFrame} {p : Pr} {d : Nat} {z : List String} {f : TFrame} : WV fr p d z → p.body[d]? = some f.sym →
      derivesT g f.tree f.sym → Link T (topF fr) f.sym f.state → WV (f :: fr) p (d + 1) z
  | clo {fr : List TFrame} {p : Pr} {d : Nat} {z : List String} {B : String} {q : Pr} {kβ : List Tree} : WV fr p d z →
      p.body[d]? = some (Sym.nonterm B) → q ∈ g.prods → q.head = B → derivesL g kβ (p.body.drop (d + 1)) →
      WV fr q 0 (Tree.yieldL kβ ++ z)

end

theorem wv_below {g : SGrammar} {start' : String} {T : Tbl} {f : TFrame} {fr : List TFrame} {p : Pr} {d : Nat}
    {z : List String} (h : WV g start' T (f :: fr) p d z) (hks : ∃ ks, derivesL g ks (p.body.drop d)) :
    ∃ q e z', WV g start' T fr q e z' ∧ q.body[e]? = some f.sym ∧ ∃ ks, derivesL g ks (q.body.drop (e + 1)) := by
  generalize hfr : f :: fr = fr' at h
  induction h with
  | init => cases hfr
  | @adv fr0 q e z f0 hwv hd _ _ _ =>
    cases hfr
    exact ⟨q, e, z, hwv, hd, hks⟩
  | clo _ hd hq hqh hkβ ih =>
    obtain ⟨ks, hks⟩ := hks
    exact ih ⟨_, derivesL_clo hd hq hqh hkβ hks⟩ hfr

section
variable {g : SGrammar} {start' : String} {nl : List String} {fe : Env} {items : Int → List Item} {T : Tbl}
  (hC : CompleteTable g start' nl fe items T)
include hC

section
variable {fr : List TFrame} {p : Pr} {d : Nat} {z : List String} (h : WV g start' T fr p d z)
include h

theorem wv_items : ({ prod := p, dot := d, la := some (look z) } : Item) ∈ items (topF fr) := by
  induction h with
  | init => exact hC.init
  | @adv fr p d z f _ hd _ htg ih =>
    show _ ∈ items f.state
    cases hX : f.sym with
    | term a =>
      rw [hX] at hd htg
      obtain ⟨t', hsh, hnext⟩ := hC.advT _ _ a ih hd
      rw [← link_unique hC.conflictFree (X := Sym.term a) hsh htg]; exact hnext
    | nonterm A =>
      rw [hX] at hd htg
      obtain ⟨t', hgo, hnext⟩ := hC.advN _ _ A ih hd
      rw [← link_unique hC.conflictFree (X := Sym.nonterm A) hgo htg]; exact hnext
  | @clo fr p d z B q kβ _ hd hq hqh hkβ ih =>
    exact hC.closed _ _ B (look z) ih hd rfl q hq hqh _ (look_sem hC.nullClosed hC.firstClosed hkβ z)

theorem climb_frames :
    ∀ (π fr1 : List TFrame), fr = π ++ fr1 → ∀ ks, derivesL g ks (p.body.drop d) →
      ∀ st : PState, peekState st.stack = topF fr1 → st.input = yieldF π ++ (Tree.yieldL ks ++ z) →
      ∃ st', Reaches T st st' ∧ st'.stack = statesF π ++ st.stack ∧ st'.input = Tree.yieldL ks ++ z := by
  induction h with
  | init =>
    intro π fr1 hfr ks _ st _ hin
    have : π = [] := by
      cases π with
      | nil => rfl
      | cons _ _ => simp at hfr
    subst this
    exact ⟨st, reaches_refl T st, by simp [statesF], by simpa [yieldF, treesF, Tree.yieldL] using hin⟩
  | @adv fr0 p d z f hwv hd hdt htg ih =>
    intro π fr1 hfr ks hks st hpeek hin
    cases π with
    | nil =>
      exact ⟨st, reaches_refl T st, by simp [statesF], by simpa [yieldF, treesF, Tree.yieldL] using hin⟩
    | cons f' π0 =>
      simp only [List.cons_append, List.cons.injEq] at hfr
      obtain ⟨rfl, hfr0⟩ := hfr
      have hks' := derivesL_adv hd hdt hks
      have hin' : st.input = yieldF π0 ++ (Tree.yieldL (f.tree :: ks) ++ z) := by
        rw [hin, yieldF_cons]
        simp [Tree.yieldL, List.append_assoc]
      obtain ⟨st0, hr0, hstk0, hin0⟩ := ih π0 fr1 hfr0 (f.tree :: ks) hks' st hpeek hin'
      have hpeek0 : peekState st0.stack = topF fr0 := by
        rw [hstk0, hfr0]
        cases π0 with
        | nil => simpa [statesF] using hpeek
        | cons f0 π1 => simp [statesF, peekState, topF]
      have hin0' : st0.input = f.tree.yield ++ (Tree.yieldL ks ++ z) := by
        rw [hin0]; simp [Tree.yieldL, List.append_assoc]
      obtain ⟨st1, s1, hr1, hstk1, _, hin1, _, _, htg1⟩ :=
        proc_tree hC f.tree f.sym st0 { prod := p, dot := d, la := some (look z) } (Tree.yieldL ks ++ z) hdt hin0'
          (by rw [hpeek0]; exact wv_items hC hwv) hd
          (fun B _ => ⟨look z, rfl, look_sem hC.nullClosed hC.firstClosed hks z⟩)
      rw [hpeek0] at htg1
      have hs1 : s1 = f.state := link_unique hC.conflictFree htg1 htg
      exact ⟨st1, reaches_trans hr0 hr1, by rw [hstk1, hs1, hstk0]; simp [statesF], hin1⟩
  | @clo fr0 p d z B q kβ hwv hd hq hqh hkβ ih =>
    intro π fr1 hfr ks hks st hpeek hin
    have hks' := derivesL_clo hd hq hqh hkβ hks
    have hin' : st.input = yieldF π ++ (Tree.yieldL (Tree.node q ks :: kβ) ++ z) := by
      rw [hin]; simp [Tree.yieldL, Tree.yield, List.append_assoc]
    obtain ⟨st', hr, hstk, hin''⟩ := ih π fr1 hfr _ hks' st hpeek hin'
    exact ⟨st', hr, hstk, by rw [hin'']; simp [Tree.yieldL, Tree.yield, List.append_assoc]⟩

omit hC in
theorem wv_tree :
    ∀ ks, derivesL g ks (p.body.drop d) →
      ∃ tS, derivesT g tS (Sym.nonterm g.start) ∧ tS.yield = yieldF fr ++ (Tree.yieldL ks ++ z) := by
  induction h with
  | init =>
    intro ks hks
    obtain ⟨t, rfl, ht⟩ := derivesL_singleton (X := Sym.nonterm g.start) hks
    exact ⟨t, ht, by simp [yieldF, treesF, Tree.yieldL]⟩
  | @adv fr0 p d z f _ hd hdt _ ih =>
    intro ks hks
    have hks' := derivesL_adv hd hdt hks
    obtain ⟨tS, h1, h2⟩ := ih _ hks'
    exact ⟨tS, h1, by rw [h2, yieldF_cons]; simp [Tree.yieldL, List.append_assoc]⟩
  | @clo fr0 p d z B q kβ _ hd hq hqh hkβ ih =>
    intro ks hks
    have hks' := derivesL_clo hd hq hqh hkβ hks
    obtain ⟨tS, h1, h2⟩ := ih _ hks'
    exact ⟨tS, h1, by rw [h2]; simp [Tree.yieldL, Tree.yield, List.append_assoc]⟩

theorem wv_run {ks : List Tree}
    (hks : derivesL g ks (p.body.drop d)) :
    ∃ st, Halts T st ∧ st.stack = statesF fr ++ [0] ∧ st.input = Tree.yieldL ks ++ z := by
  obtain ⟨tS, hS, hy⟩ := wv_tree h ks hks
  obtain ⟨fuel, hf⟩ := complete_tree hC tS hS
  have hH : Halts T (pinit tS.yield) := ⟨fuel, _, hf⟩
  obtain ⟨st', hr, hstk, hin⟩ := climb_frames hC h fr [] (by simp) ks hks (pinit tS.yield) (by simp [pinit, peekState, topF])
    (by rw [hy]; simp [pinit])
  exact ⟨st', halts_of_reaches hH hr, by simpa [pinit] using hstk, hin⟩

end

theorem no_eps_growth {π fr1 : List TFrame} {p : Pr} {d : Nat} {z : List String} (h : WV g start' T (π ++ fr1) p d z)
    (hπ : π ≠ []) (htop : topF (π ++ fr1) = topF fr1) (hyπ : yieldF π = [])
    (hrest : ∃ ks, derivesL g ks (p.body.drop d)) : False := by
  obtain ⟨ks, hks⟩ := hrest
  obtain ⟨st2, hH, hstk2, hin2⟩ := wv_run hC h hks
  obtain ⟨f, π0, rfl⟩ := List.exists_cons_of_ne_nil hπ
  have hpeek2 : peekState st2.stack = topF fr1 := by
    rw [hstk2, ← htop]; simp [statesF, peekState, topF]
  -- pump: every climb over `f :: π0` makes the stack higher
  have pump : ∀ n : Nat, ∃ st, Reaches T st2 st ∧ peekState st.stack = topF fr1 ∧ st.input = Tree.yieldL ks ++ z ∧
      n ≤ st.stack.length := by
    intro n
    induction n with
    | zero => exact ⟨st2, reaches_refl T st2, hpeek2, hin2, by omega⟩
    | succ n ih =>
      obtain ⟨st, hr, hpk, hin, hlen⟩ := ih
      obtain ⟨st', hr', hstk', hin'⟩ := climb_frames hC h (f :: π0) fr1 rfl ks hks st hpk (by rw [hyπ, hin]; simp)
      refine ⟨st', reaches_trans hr hr', ?_, hin', by simp [hstk', statesF]; omega⟩
      rw [hstk', ← htop]; simp [statesF, peekState, topF]
  obtain ⟨B, hB⟩ := halts_stack_bound hH
  obtain ⟨st, hr, _, _, hlen⟩ := pump B
  have := hB st hr
  omega

omit hC in
theorem wv_ambig {fr : List TFrame} {p : Pr} {d : Nat} {z : List String}
    (h : WV g start' T fr p d z) : ∀ ks1 ks2, derivesL g ks1 (p.body.drop d) → derivesL g ks2 (p.body.drop d) →
      Tree.yieldL ks1 = Tree.yieldL ks2 → ks1 ≠ ks2 →
      ∃ t1 t2, derivesT g t1 (Sym.nonterm g.start) ∧ derivesT g t2 (Sym.nonterm g.start) ∧ t1.yield = t2.yield ∧
        t1 ≠ t2 := by
  induction h with
  | init =>
    intro ks1 ks2 h1 h2 hy hne
    obtain ⟨t1, rfl, ht1⟩ := derivesL_singleton (X := Sym.nonterm g.start) h1
    obtain ⟨t2, rfl, ht2⟩ := derivesL_singleton (X := Sym.nonterm g.start) h2
    exact ⟨t1, t2, ht1, ht2, by simpa [Tree.yieldL] using hy, fun e => hne (by rw [e])⟩
  | adv _ hd hdt _ ih =>
    intro ks1 ks2 h1 h2 hy hne
    exact ih _ _ (derivesL_adv hd hdt h1) (derivesL_adv hd hdt h2) (by simp [Tree.yieldL, hy]) (by simpa using hne)
  | clo _ hd hp hph hkβ ih =>
    intro ks1 ks2 h1 h2 hy hne
    exact ih _ _ (derivesL_clo hd hp hph hkβ h1) (derivesL_clo hd hp hph hkβ h2) (by simp [Tree.yieldL, Tree.yield, hy])
      (by simpa using hne)

theorem no_two_trees {fr : List TFrame} {p : Pr} {d : Nat} {z : List String} (h : WV g start' T fr p d z) {X : Sy}
    (hd : p.body[d]? = some X) {u1 u2 : Tree} (h1 : derivesT g u1 X)
    (h2 : derivesT g u2 X) (hy : u1.yield = u2.yield) (hne : u1 ≠ u2)
    (hrest : ∃ ks, derivesL g ks (p.body.drop (d + 1))) : False := by
  obtain ⟨ks, hks⟩ := hrest
  obtain ⟨t1, t2, hd1, hd2, hy12, hne12⟩ := wv_ambig h (u1 :: ks) (u2 :: ks) (derivesL_adv hd h1 hks)
    (derivesL_adv hd h2 hks) (by simp [Tree.yieldL, hy]) (by simpa using hne)
  exact hne12 (unambiguous hC hd1 hd2 hy12)

end

end AlgoVerif.C11.Term
