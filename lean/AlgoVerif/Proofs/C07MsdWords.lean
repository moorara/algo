import AlgoVerif.Proofs.C07Msd
import AlgoVerif.Proofs.C07RIns
import AlgoVerif.Proofs.C07Words
/-!
# C07 — the MSD radix sorts on machine words (`radixsort/msd.go`: `MSDUint`, `MSDInt`)

The native orders are comparators `cmpW signed` with natural-number key `wk`.  A pass by the digit at
depth `d` lays 256 buckets out in the segment; `C07Msd` does the rest, given that a smaller rank of
the digit means a smaller word (`wk_lt_of_bucket`) and which loop index handles which bucket
(`sched_none`, and `sched_rot` for the rotated pass on the sign byte).  At the last byte a bucket holds
copies of one word and there are no calls.
-/
namespace AlgoVerif.C07
open AlgoVerif

/-- the native three-way comparison -/
def cmpW (signed : Bool) (x y : UInt64) : Int := (wk signed x : Int) - (wk signed y : Int)

theorem cmpW_tp (signed : Bool) : TotalPreorder (cmpW signed) := by
  constructor
  · intro a b; unfold cmpW; omega
  · intro a b c; unfold cmpW; omega

theorem ltW_iff (signed : Bool) (x y : UInt64) :
    (if signed then iLt else uLt) x y = true ↔ cmpW signed x y < 0 := by
  cases signed
  · simp only [Bool.false_eq_true, ↓reduceIte, uLt_eq, cmpW, wk, decide_eq_true_eq]; omega
  · simp only [↓reduceIte, iLt_eq, cmpW, wk, decide_eq_true_eq]; omega

/-- the digit the pass at depth `d` sorts by -/
def mkey (d : Nat) (v : UInt64) : Nat := dig v (7 - d)

def mrot (signed : Bool) (d : Nat) : Option Bool := if signed = true ∧ d = 0 then some true else none

theorem toNat_lt_of_bucket (d : Nat) (h r r' : Nat) (x y : UInt64)
    (hx : high x (7 - d) = h * 256 + r) (hy : high y (7 - d) = h * 256 + r') (hrr : r < r') :
    x.toNat < y.toNat := by
  have e1 := toNat_eq_high_low x (7 - d)
  have e2 := toNat_eq_high_low y (7 - d)
  have := mul_add_lt (show high x (7 - d) < high y (7 - d) by omega) (low_lt x (7 - d)) (low y (7 - d))
  omega

theorem top_of_bucket (d : Nat) (hd : d ≤ 7) (hd0 : 0 < d) (h r : Nat) (hr : r < 256) (x : UInt64)
    (hx : high x (7 - d) = h * 256 + r) : high x 7 = h / 256 ^ (d - 1) := by
  have e : 7 = (7 - d) + ((d - 1) + 1) := by omega
  rw [e, high_shift, hx, Nat.pow_succ', ← Nat.div_div_eq_div_mul]
  congr 1
  omega

theorem skey_lt_of_top (x y : UInt64) (ht : high x 7 = high y 7) (h : x.toNat < y.toNat) : skey x < skey y := by
  have e1 := toNat_eq_high_low x 7
  have e2 := toNat_eq_high_low y 7
  rw [skey_eq_high, skey_eq_high, ht]
  rw [ht] at e1
  omega

theorem wk_lt_of_bucket (signed : Bool) (d : Nat) (hd : d ≤ 7) (h r r' : Nat) (hr : r < 256) (hr' : r' < 256)
    (x y : UInt64) (hx : high x (7 - d) = h * 256 + r) (hy : high y (7 - d) = h * 256 + r')
    (hrr : rotRank 256 (mrot signed d) r < rotRank 256 (mrot signed d) r') : wk signed x < wk signed y := by
  cases signed
  · simp only [mrot, Bool.false_eq_true, false_and, ↓reduceIte, rotRank] at hrr
    simpa [wk] using toNat_lt_of_bucket d h r r' x y hx hy hrr
  · simp only [wk, ↓reduceIte]
    by_cases hd0 : d = 0
    · subst hd0
      simp only [mrot, and_self, ↓reduceIte, rotRank] at hrr
      have hx7 : high x 7 < 256 := by have := x.toNat_lt; unfold high; omega
      have hy7 : high y 7 < 256 := by have := y.toNat_lt; unfold high; omega
      have l1 := low_lt x 7
      have l2 := low_lt y 7
      simp only [Nat.sub_zero] at hx hy
      rw [skey_eq_high, skey_eq_high, hx, hy]
      have h0 : h = 0 := by omega
      subst h0
      omega
    · have hrr : r < r' := by simpa [mrot, rotRank, hd0] using hrr
      apply skey_lt_of_top
      · rw [top_of_bucket d hd (by omega) h r hr x hx, top_of_bucket d hd (by omega) h r' hr' y hy]
      · exact toNat_lt_of_bucket d h r r' x y hx hy hrr


/-- with the rotation index `r ≠ 127` meets bucket `(r + 1) % 256`; bucket 128 is the first -/
theorem sched_rot (k : α → Nat) (seg : List α) (hall : ∀ x, x ∈ seg → k x < 256) :
    Sched true 256 256 (startPos k 256 (some true) seg) (cnt k seg) (countAfter k 256 (some true) seg) (fun _ => True)
      (fun b => b = 128) := by
  have hC := fun r => countAfter_lt k seg 256 (some true) (by decide) (by simp) hall (r := r)
  have hT := countAfter_top k seg 256 (some true) (by decide) (by simp) hall
  have hn := cntLt_all k seg 256 hall
  have hsplit := cntLt_add_cntIn k seg 128 256 (by decide)
  have hw : ∀ r, r < 256 → r ≠ 127 →
      countAfter k 256 (some true) seg r = (startPos k 256 (some true) seg ((r + 1) % 256) : Int) ∧
      countAfter k 256 (some true) seg (r + 1) =
        ((startPos k 256 (some true) seg ((r + 1) % 256) + cnt k seg ((r + 1) % 256) : Nat) : Int) := by
    intro r hr hr127
    by_cases hr255 : r = 255
    · subst hr255
      have := cntLt_zero k seg
      have : cntIn k seg 128 256 = cntIn k seg 128 255 + cnt k seg 255 := cntIn_succ k seg 128 255 (by decide)
      have : cntLt k seg 1 = cntLt k seg 0 + cnt k seg 0 := cntLt_succ k seg 0
      rw [hC 255 hr, hT]
      simp only [startPos, topVal, Nat.reduceDiv, Nat.reduceAdd, Nat.reduceMod, Nat.reduceLT, ↓reduceIte]
      omega
    · rw [Nat.mod_eq_of_lt (by omega : r + 1 < 256)]
      refine ⟨?_, hC (r + 1) (by omega)⟩
      rw [hC r hr]
      simp only [startPos, Nat.reduceDiv]
      by_cases hlt : r < 128
      · have : r + 1 < 128 := by omega
        simp only [hlt, this, ↓reduceIte, cntLt_succ]
        omega
      · have : ¬ r + 1 < 128 := by omega
        simp only [hlt, this, ↓reduceIte]
        rw [cntIn_succ k seg 128 r (by omega)]
  constructor
  · intro r hr
    by_cases hr' : r = 127
    · subst hr'
      refine Or.inl ⟨rfl, ?_⟩
      rw [hC 127 hr, hC 128 (by decide)]
      have : cntLt k seg 128 = cntLt k seg 127 + cnt k seg 127 := cntLt_succ k seg 127
      have := cntIn_self k seg 128
      have hle : cnt k seg 128 ≤ seg.length := List.countP_le_length
      simp only [startPos, Nat.reduceDiv, Nat.reduceLT, ↓reduceIte, Nat.lt_irrefl]
      omega
    · exact Or.inr ⟨(r + 1) % 256, by omega, trivial, hw r hr hr'⟩
  · intro b hb
    by_cases hb' : b = 128
    · exact Or.inl hb'
    · have := hw ((b + 255) % 256) (by omega) (by omega)
      rw [show ((b + 255) % 256 + 1) % 256 = b by omega] at this
      exact Or.inr ⟨_, by omega, this⟩

theorem mrot_eq (signed : Bool) (d : Nat) :
    (if (signed && ((d : Int) == 0)) = true then some true else none) = mrot signed d := by
  unfold mrot
  cases signed <;> simp

theorem high_of_bucket {d h b : Nat} (hd : d ≤ 7) {x : UInt64} (hx : high x (8 - d) = h ∧ mkey d x = b) :
    high x (7 - d) = h * 256 + b := by
  have h3 := high_eq x (7 - d)
  rwa [show 7 - d + 1 = 8 - d by omega, hx.1, show dig x (7 - d) = b from hx.2] at h3

/-- `15 8 256 8 64` are `CUTOFF W R BYTE_SIZE INT_SIZE` of msd.go (`Generated.radixsort_msdUint_*`, the same for
`msdInt`; `msdUint` / `msdInt` unfold to these literals), so `n ≤ 16` below is `hi ≤ lo + CUTOFF`. -/
theorem msdWordAux_spec (hcp : CountingPassSpec) (signed : Bool) : ∀ (f d : Nat), d ≤ 7 → 8 ≤ f + d →
    RecSpec (cmpW signed) (fun h v => high v (8 - d) = h) (fun _ => True)
      (fun a aux lo hi => msdWordAux signed 15 8 256 8 64 f a aux lo hi (d : Int)) := by
  intro f
  induction f with
  | zero => intro d h1 h2; omega
  | succ f ih =>
    intro d hd hf a aux lo n h _ hsz haux hpre
    simp only []
    unfold msdWordAux
    by_cases hn : n ≤ 16
    · have c : ((lo + n : Nat) : Int) - 1 ≤ (lo : Int) + 15 := by omega
      simp only [c, ↓reduceIte]
      obtain ⟨a', h1, S, h6⟩ := rInsertion_segStep (cmpW_tp signed) (ltW_iff signed) a lo n hsz
      rw [h1]
      exact ⟨a', aux, rfl, rfl, S, h6⟩
    · have c : ¬ ((lo + n : Nat) : Int) - 1 ≤ (lo : Int) + 15 := by omega
      simp only [c, ↓reduceIte]
      obtain ⟨a1, aux1, count, p1, p2, p3, p4, p5, p6, p7⟩ :=
        hcp (fun v => digitAt v (64 - 8 - 8 * (d : Int))) (mkey d) 256 (mrot signed d) a aux lo n
          (by decide) (fun _ => rfl) hsz (by omega) (fun i _ _ => ⟨digitAt_of_eq _ _ (7 - d) (by omega) (by omega), dig_lt _ _⟩)
      rw [mrot_eq]
      have e256 : ((256 : Nat) : Int) = 256 := rfl
      rw [e256] at p1
      rw [p1]
      simp only [ok_bind]
      have hall : ∀ x, x ∈ segL a lo (lo + n) → mkey d x < 256 := fun x _ => dig_lt x _
      -- a smaller rank of the digit means a smaller word; at the last byte a bucket holds copies of one word
      obtain ⟨m1, L, m2⟩ := buckets_of_pass (cmp := cmpW signed) (mkey d) 256 (mrot signed d) (by decide) (fun _ => rfl)
        a a1 lo n hsz p2 (fun x => dig_lt x _) _ hpre p5 _ rfl p6
        (fun x y hx hy hlt => by
          have := wk_lt_of_bucket signed d hd h _ _ (dig_lt x _) (dig_lt y _) x y (high_of_bucket hd ⟨hx, rfl⟩)
            (high_of_bucket hd ⟨hy, rfl⟩) hlt
          unfold cmpW
          omega)
        (fun _ => d = 7) (fun x y hx hy e hd7 => by
          subst hd7
          have h1 := high_of_bucket hd ⟨hx, e⟩
          have h2 := high_of_bucket hd ⟨hy, rfl⟩
          simp only [Nat.sub_self, high_zero] at h1 h2
          rw [UInt64.toNat_inj.1 (h1.trans h2.symm)]
          exact (cmpW_tp signed).refl _)
      by_cases hd7 : d = 7
      · have c7 : ((d : Int) == 8 - 1) = true := by subst hd7; decide
        simp only [c7, ↓reduceIte]
        exact ⟨a1, aux1, rfl, by omega, m1, sorted_of_buckets L a1 _ m2 (fun _ _ _ => hd7)⟩
      · have c7 : ((d : Int) == 8 - 1) = false := by
          simp only [Int.reduceSub, beq_eq_false_iff_ne, ne_eq]; omega
        simp only [c7, Bool.false_eq_true, ↓reduceIte]
        have hrec : RecSpec (cmpW signed) (fun b x => high x (8 - d) = h ∧ mkey d x = b) (fun _ => True)
            (fun a aux lo hi => msdWordAux signed 15 8 256 8 64 f a aux lo hi ((d : Int) + 1)) := by
          intro a' aux' l m b _ h1 h2 h3
          have e : 8 - (d + 1) = 7 - d := by omega
          have := ih (d + 1) (by omega) (by omega) a' aux' l m (h * 256 + b) trivial h1 h2
            (h3.imp (fun x hx => by simp only [e]; exact high_of_bucket hd hx))
          simpa only [Int.natCast_succ] using this
        have e257 : Int.toNat 256 + 1 = 257 := rfl
        rw [e257]
        have hlo1 : lo + n ≤ a1.size := by omega
        have haux1 : aux1.size = a1.size := by omega
        have g0 : get count (0 : Int) = .ok (countAfter (mkey d) 256 (mrot signed d) (segL a lo (lo + n)) 0) :=
          get_of_getElem? (p7 0 (by omega))
        have g128 : get count (256 / 2 : Int) = .ok (countAfter (mkey d) 256 (mrot signed d) (segL a lo (lo + n)) 128) :=
          get_of_getElem? (p7 128 (by omega))
        by_cases hrot : signed = true ∧ d = 0
        · obtain ⟨rfl, rfl⟩ := hrot
          have hm : mrot true 0 = some true := by simp [mrot]
          rw [hm] at p7 m2 L g0 g128
          have Sc := sched_rot (mkey 0) (segL a lo (lo + n)) hall
          have hS0 : startPos (mkey 0) 256 (some true) (segL a lo (lo + n)) 128 = 0 := by
            simp [startPos, cntIn_self]
          obtain ⟨a2, aux2, a3, aux3, t1, t2, t3, t4, t5⟩ := tail_phase L hrec 128 (by decide) trivial hS0
            (countAfter_lt _ _ _ _ (by decide) (fun _ => rfl) hall (by decide)) Sc count p7 a1 aux1 hlo1 haux1 m2
          have t2' : bucketLoop true (fun a aux lo hi => msdWordAux true 15 8 256 8 64 f a aux lo hi (((0 : Nat) : Int) + 1))
            count (lo : Int) 256 257 0 a2 aux2 = .ok (a3, aux3) := t2
          have hz : (((0 : Nat) : Int) == 0) = true := by decide
          have hnz : (((0 : Nat) : Int) != 0) = false := by decide
          simp only [↓reduceIte, g128, ok_bind, hz, hnz, Bool.true_and, Bool.false_and, decide_eq_true_eq,
            Bool.false_eq_true]
          rw [t1]
          simp only [ok_bind, g0]
          rw [t2']
          exact ⟨a3, aux3, rfl, by omega, m1.trans t4, t5⟩
        · have hm : mrot signed d = none := by simp [mrot, hrot]
          rw [hm] at p7 m2 L g0 g128
          have Sc := sched_none true (mkey d) 256 256 (Nat.le_refl _) (by omega) (fun h => by cases h) (segL a lo (lo + n)) hall
            (fun _ => True) (fun _ _ => trivial)
          have hS0 : startPos (mkey d) 256 none (segL a lo (lo + n)) 0 = 0 := by
            simp [startPos, cntLt_zero]
          obtain ⟨a2, aux2, a3, aux3, t1, t2, t3, t4, t5⟩ := tail_phase L hrec 0 (by decide) trivial hS0
            (countAfter_lt _ _ _ _ (by decide) (fun _ => rfl) hall (by decide)) Sc count p7 a1 aux1 hlo1 haux1 m2
          have t2' : bucketLoop true (fun a aux lo hi => msdWordAux signed 15 8 256 8 64 f a aux lo hi ((d : Int) + 1))
            count (lo : Int) 256 257 0 a2 aux2 = .ok (a3, aux3) := t2
          cases signed with
          | false =>
            simp only [Bool.false_eq_true, ↓reduceIte, g0, ok_bind]
            rw [t1]
            simp only [ok_bind]
            rw [t2']
            exact ⟨a3, aux3, rfl, by omega, m1.trans t4, t5⟩
          | true =>
            have hd0 : d ≠ 0 := fun h0 => hrot ⟨rfl, h0⟩
            have hz : ((d : Int) == 0) = false := by
              simp only [beq_eq_false_iff_ne, ne_eq]; omega
            have hnz : ((d : Int) != 0) = true := by
              simp only [bne_iff_ne, ne_eq]; omega
            simp only [↓reduceIte, g128, g0, ok_bind, hz, hnz, Bool.true_and, Bool.false_and, decide_eq_true_eq,
              Bool.false_eq_true]
            rw [t1]
            simp only [ok_bind]
            rw [t2']
            exact ⟨a3, aux3, rfl, by omega, m1.trans t4, t5⟩

theorem msdWord_top (hcp : CountingPassSpec) (signed : Bool) (a : Array UInt64) :
    ∃ a' aux', msdWordAux signed 15 8 256 8 64 9 a (Array.replicate a.size 0) 0 ((a.size : Int) - 1) 0 =
        .ok (a', aux') ∧ a'.toList = a.toList.mergeSort (keyLe (wk signed)) := by
  obtain ⟨a', aux', h1, _, h3, h4⟩ := msdWordAux_spec hcp signed 9 0 (by omega) (by omega) a
    (Array.replicate a.size 0) 0 a.size 0 trivial (by omega) (by simp) (fun p _ _ _ => high_eight _)
  have hs := h3.size
  simp only [Nat.zero_add] at h1 h4
  rw [← hs] at h4
  refine ⟨a', aux', h1, eq_mergeSort_of_pairwise _ (keyLe_trans _) (keyLe_total _)
    (keyLe_antisymm (wk_injective signed)) (Array.perm_iff_toList_perm.1 h3.perm) ((sorted_of_sortedSeg h4).imp ?_)⟩
  intro x y hxy
  simp only [cmpW] at hxy
  simp only [keyLe, decide_eq_true_eq]
  omega

theorem msdUint_spec (hcp : CountingPassSpec) (a : Array UInt64) :
    ∃ out, msdUint a = .ok out ∧ out.toList = a.toList.mergeSort uLe := by
  obtain ⟨a', aux', h1, h2⟩ := msdWord_top hcp false a
  refine ⟨a', ?_, uLe_eq_keyLe ▸ h2⟩
  change (msdWordAux false 15 8 256 8 64 9 a (Array.replicate a.size 0) 0 ((a.size : Int) - 1) 0 >>=
    fun x => Outcome.ok x.fst) = _
  rw [h1]
  rfl

theorem msdInt_spec (hcp : CountingPassSpec) (a : Array UInt64) :
    ∃ out, msdInt a = .ok out ∧ out.toList = a.toList.mergeSort iLe := by
  obtain ⟨a', aux', h1, h2⟩ := msdWord_top hcp true a
  refine ⟨a', ?_, iLe_eq_keyLe ▸ h2⟩
  change (msdWordAux true 15 8 256 8 64 9 a (Array.replicate a.size 0) 0 ((a.size : Int) - 1) 0 >>=
    fun x => Outcome.ok x.fst) = _
  rw [h1]
  rfl

end AlgoVerif.C07
