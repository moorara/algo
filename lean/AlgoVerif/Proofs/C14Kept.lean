import AlgoVerif.Model.C14R
import AlgoVerif.Proofs.C14Admits
/-!
# C14 proofs — constructors with an edge list, result objects kept by the client (`Model/C14R.lean`)
-/
namespace AlgoVerif.C14

theorem initWith_eval (k : Kind) (n : Nat) (es : List EdgeIn) :
    (⟨#[⟨k, n, es⟩], 0⟩ : SWorld).eval = World.initWith k n es := by
  simp [SWorld.eval, World.initWith, SObj.eval]

/-- `NewX(V, edges…)` is `NewX(V)` followed by one `AddEdge` per edge -/
theorem initWith_eq_run (k : Kind) (n : Nat) (es : List EdgeIn) :
    World.initWith k n es = ((World.init k n).run (es.map fun e => Op.edge e.u e.v e.w)).1 := by
  rw [← init_eval, run_refines, srun_edges es _ (by simp [SWorld.init]), ← initWith_eval]
  simp [SWorld.init, SWorld.obj]

theorem bind_of_map {α β γ : Type} (x : Outcome α) (f : α → β) (k : β → Outcome γ) :
    (x.map f).bind k = x.bind fun a => k (f a) := by
  cases x <;> rfl

theorem bind_ok_eq_map {α β : Type} (x : Outcome α) (f : α → β) : (x.bind fun a => .ok (f a)) = x.map f := by
  cases x <;> rfl

theorem compute_ask (o : GObj) (q : Query) (hq : q.keepable = true) (sel : Option Int) :
    (o.compute q).bind (fun r => r.ask o.g.n sel) = o.answer (q.at sel) := by
  cases q <;> simp only [Query.keepable] at hq <;> try (exact absurd hq (by decide))
  -- `compute` maps a constructor of `Res` over the call and `ask` takes it off again; what is left is the call followed
  -- by a pure function (`bind_ok_eq_map`), or by `To(v)` / `PathTo(v)` on both sides
  all_goals
    cases sel <;> simp only [GObj.compute, Query.at, GObj.answer, bind_of_map] <;> first | exact bind_ok_eq_map _ _ | rfl

/-- the steps of a session that go to the graph objects (`AddEdge`, direct queries, `Reverse()`, `use`), as a history of
`Model/C14S.lean`; `C14_session_objects` and `C14_kept_results` (`Props/C14.lean`) are stated with it -/
def baseOps : List ROp → List Op
  | [] => []
  | .base op :: ops => op :: baseOps ops
  | _ :: ops => baseOps ops

/-- the outcomes of those steps, picked out of the outcomes of the session -/
def pickBase : List ROp → List (Outcome Answer) → List (Outcome Answer)
  | .base _ :: ops, a :: as => a :: pickBase ops as
  | _ :: ops, _ :: as => pickBase ops as
  | _, _ => []

theorem step_w (s : Session) (op : ROp) :
    (s.step op).1.w = match op with
      | .base o => (s.w.step o).1
      | _ => s.w := by
  cases op with
  | base o => rfl
  | keep q => simp only [Session.step]; cases s.w.obj.compute q <;> rfl
  | hole => rfl
  | ask i sel => simp only [Session.step]; cases s.kept[i]? <;> rfl
  | callerWrite => rfl

theorem run_w (ops : List ROp) : ∀ s : Session,
    (s.run ops).1.w = (s.w.run (baseOps ops)).1 ∧ pickBase ops (s.run ops).2 = (s.w.run (baseOps ops)).2 := by
  induction ops with
  | nil => intro s; exact ⟨rfl, rfl⟩
  | cons op ops ih =>
    intro s
    have hw := step_w s op
    obtain ⟨h1, h2⟩ := ih (s.step op).1
    -- only a `base` step reaches the graph objects; there both sides unfold to the same run
    cases op
    all_goals
      simp only at hw
      simp only [Session.run, baseOps, pickBase]
      rw [h1, h2, hw]
      exact ⟨rfl, rfl⟩

theorem step_kept (s : Session) (op : ROp) (i : Nat) (kp : Kept) (h : s.kept[i]? = some kp) :
    (s.step op).1.kept[i]? = some kp := by
  have hi : i < s.kept.size := (Array.getElem?_eq_some_iff.1 h).1
  cases op with
  | base o => exact h
  | keep q =>
    simp only [Session.step]
    cases s.w.obj.compute q with
    | ok r => simp only [Array.getElem?_push_lt hi]; rw [← Array.getElem?_eq_getElem hi]; exact h
    | panic => exact h
    | diverge => exact h
  | hole =>
    simp only [Session.step, Array.getElem?_push_lt hi]; rw [← Array.getElem?_eq_getElem hi]; exact h
  | ask j sel => simp only [Session.step]; cases s.kept[j]? <;> exact h
  | callerWrite => exact h

theorem run_length (ops : List ROp) : ∀ s : Session, (s.run ops).2.length = ops.length := by
  induction ops with
  | nil => intro s; rfl
  | cons op ops ih => intro s; simp [Session.run, ih]

theorem run_append (a b : List ROp) : ∀ s : Session,
    (s.run (a ++ b)).1 = ((s.run a).1.run b).1 ∧ (s.run (a ++ b)).2 = (s.run a).2 ++ ((s.run a).1.run b).2 := by
  induction a with
  | nil => intro s; exact ⟨rfl, rfl⟩
  | cons op a ih =>
    intro s
    obtain ⟨h1, h2⟩ := ih (s.step op).1
    simp only [List.cons_append, Session.run]
    rw [h1, h2]
    exact ⟨rfl, rfl⟩

theorem run_ask (mid : List ROp) : ∀ (s : Session) (i : Nat) (kp : Kept) (sel : Option Int) (post : List ROp),
    s.kept[i]? = some kp →
    (s.run (mid ++ .ask i sel :: post)).2[mid.length]? = some (kp.r.ask kp.o.g.n sel) := by
  induction mid with
  | nil =>
    intro s i kp sel post h
    simp only [List.nil_append, Session.run, Session.step, h, List.length_nil, List.getElem?_cons_zero]
  | cons op mid ih =>
    intro s i kp sel post h
    simp only [List.cons_append, Session.run, List.length_cons, List.getElem?_cons_succ]
    exact ih _ i kp sel post (step_kept s op i kp h)

end AlgoVerif.C14
