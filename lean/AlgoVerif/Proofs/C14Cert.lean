import AlgoVerif.Proofs.C14Basic
/-!
# C14 proofs — soundness of the executable certificates of `Spec/C14.lean`

`mstCertificate`, which the driver evaluates as well, has no soundness theorem: the conjunct it tests is proved for all inputs
(`mst_minimum`, `Proofs/C14Prim.lean`).
-/
namespace AlgoVerif.C14

def ListArc (adj : Array (List Nat)) (p q : Nat) : Prop := q ∈ adj.getD p []

theorem getD_set!_true {a : Array Bool} {w x : Nat} (h : (a.set! w true).getD x false = true) :
    x = w ∨ a.getD x false = true := by
  rw [getD_set!] at h
  split at h
  · next e => exact Or.inl e.1.symm
  · exact Or.inr h

theorem closeLoop_sound (adj : Array (List Nat)) (ok : Nat → Bool) (s : Nat) :
    ∀ fuel work seen, (∀ x, seen.getD x false = true → Reach (ListArc adj) s x) →
      (∀ x ∈ work, Reach (ListArc adj) s x) →
      ∀ x, (closeLoop adj ok fuel work seen).getD x false = true → Reach (ListArc adj) s x := by
  intro fuel
  induction fuel with
  | zero => intro work seen h1 _ x hx; exact h1 x (by rwa [closeLoop] at hx)
  | succ fuel ih =>
    intro work seen h1 h2 x hx
    cases work with
    | nil => exact h1 x (by simpa only [closeLoop] using hx)
    | cons v rest =>
      have hv : Reach (ListArc adj) s v := h2 v (by simp)
      -- the inner fold keeps "marked or queued ⇒ reachable"
      have := List.foldlRecOn (adj.getD v [])
        (fun (acc : Array Bool × List Nat) w =>
          if ok w && !(acc.1.getD w true) then (acc.1.set! w true, w :: acc.2) else acc)
        (motive := fun acc => (∀ y, acc.1.getD y false = true → Reach (ListArc adj) s y) ∧
          ∀ y ∈ acc.2, Reach (ListArc adj) s y)
        (b := (seen, rest)) ⟨h1, fun y hy => h2 y (by simp [hy])⟩ (by
          intro acc ⟨k1, k2⟩ w hw
          have hw' : Reach (ListArc adj) s w := .tail hv hw
          split
          · exact ⟨fun y hy => (getD_set!_true hy).elim (fun e => e ▸ hw') (k1 y),
              fun y hy => (List.mem_cons.1 hy).elim (fun e => e ▸ hw') (k2 y)⟩
          · exact ⟨k1, k2⟩)
      rw [closeLoop] at hx
      exact ih _ _ this.1 this.2 x hx

theorem closure_sound (adj : Array (List Nat)) (ok : Nat → Bool) (s x : Nat)
    (h : (closure adj ok s).getD x false = true) : Reach (ListArc adj) s x := by
  unfold closure at h
  refine closeLoop_sound adj ok s _ _ _ ?_ ?_ x h
  · intro y hy
    rcases getD_set!_true hy with rfl | h'
    · exact .refl _
    · rw [getD_replicate] at h'
      exact Bool.noConfusion h'
  · intro y hy
    have : y = s := by simpa using hy
    subst this; exact .refl _

theorem succs_arc (g : Graph) (p q : Nat) : ListArc g.succs p q ↔ g.HasArc p q := by
  unfold ListArc Graph.succs Graph.HasArc
  rw [Array.getD_eq_getD_getElem?, Array.getD_eq_getD_getElem?, Array.getElem?_map]
  cases h : g.adj[p]? with
  | none => simp
  | some l =>
    simp only [Option.map_some, Option.getD_some, List.mem_map]

theorem getD_modify_cons (a : Array (List Nat)) (i j u : Nat) :
    ∀ q, q ∈ (a.modify i (u :: ·)).getD j [] → (q = u ∧ i = j) ∨ q ∈ a.getD j [] := by
  intro q hq
  by_cases hj : j < a.size
  · rw [getD_modify _ _ _ _ _ hj] at hq
    by_cases h : i = j
    · rw [if_pos h] at hq
      exact (List.mem_cons.1 hq).imp (fun e => ⟨e, h⟩) id
    · rw [if_neg h] at hq
      exact Or.inr hq
  · rw [getD_of_ge _ _ (by simpa using hj)] at hq
    exact absurd hq List.not_mem_nil

theorem preds_arc (g : Graph) (p q : Nat) (h : ListArc g.preds p q) : g.HasArc q p := by
  unfold ListArc Graph.preds at h
  -- invariant of both folds (over the vertices, over `adj[u]`): every listed predecessor has the arc
  let P (acc : Array (List Nat)) : Prop := ∀ p q, q ∈ acc.getD p [] → g.HasArc q p
  refine List.foldlRecOn (motive := P) (List.range g.n) _ ?_ ?_ p q h
  · intro p q hq
    rw [getD_replicate] at hq
    exact absurd hq List.not_mem_nil
  · intro acc k u _
    refine List.foldlRecOn (motive := P) (g.adj.getD u []) _ k ?_
    intro acc k x hx p q hq
    rcases getD_modify_cons acc x.to p u q hq with ⟨rfl, rfl⟩ | h'
    · exact ⟨x, hx, rfl⟩
    · exact k p q h'

theorem sccClassOK_sound (g : Graph) (id : Array Nat) (i : Nat)
    (h : sccClassOK g.n g.succs g.preds id i = true) :
    ∃ r, r < g.n ∧ id.getD r 0 = i ∧
      ∀ v, v < g.n → id.getD v 0 = i → Reach g.HasArc r v ∧ Reach g.HasArc v r := by
  unfold sccClassOK at h
  split at h
  · simp at h
  · rename_i r hr
    have hr1 := List.find?_some hr
    have hr2 := List.mem_of_find?_eq_some hr
    refine ⟨r, List.mem_range.1 hr2, by simpa using hr1, ?_⟩
    intro v hv hvi
    simp only [List.all_eq_true, List.mem_range] at h
    have := h v hv
    simp only [hvi, bne_self_eq_false, Bool.false_or, Bool.and_eq_true] at this
    constructor
    · exact (closure_sound _ _ _ _ this.1).mono (fun p q e => (succs_arc g p q).1 e)
    · have := (closure_sound _ _ _ _ this.2).mono (fun p q e => preds_arc g p q e)
      exact Reach.reverse this

theorem sccCertificate_sound (g : Graph) (hg : g.WF) (c : Components) (h : sccCertificate g c = true) :
    c.id.size = g.n ∧
    (∀ v, v < g.n → c.id.getD v 0 < c.count) ∧
    (∀ i, i < c.count → ∃ v, v < g.n ∧ c.id.getD v 0 = i) ∧
    (∀ u v, u < g.n → v < g.n →
      (c.id.getD u 0 = c.id.getD v 0 ↔ Reach g.HasArc u v ∧ Reach g.HasArc v u)) := by
  unfold sccCertificate at h
  simp only [Bool.and_eq_true, beq_iff_eq, List.all_eq_true, List.mem_range, decide_eq_true_eq] at h
  obtain ⟨⟨⟨h1, h2⟩, h3⟩, h4⟩ := h
  have hmono : ∀ u v, u < g.n → Reach g.HasArc u v → v < g.n ∧ c.id.getD v 0 ≤ c.id.getD u 0 := fun u v hu hr =>
    hr.closed (S := fun v => v < g.n ∧ c.id.getD v 0 ≤ c.id.getD u 0)
      (fun p _ hp ⟨x, hx, e⟩ => e ▸ ⟨hg.bound p x hx, Nat.le_trans (h3 p hp.1 x hx) hp.2⟩) ⟨hu, Nat.le_refl _⟩
  refine ⟨h1, h2, ?_, ?_⟩
  · intro i hi
    obtain ⟨r, hr, hri, _⟩ := sccClassOK_sound g c.id i (h4 i hi)
    exact ⟨r, hr, hri⟩
  · intro u v hu hv
    constructor
    · intro e
      obtain ⟨r, _, _, hall⟩ := sccClassOK_sound g c.id (c.id.getD u 0) (h4 _ (h2 u hu))
      have k1 := hall u hu rfl
      have k2 := hall v hv e.symm
      exact ⟨k1.2.trans k2.1, k2.2.trans k1.1⟩
    · intro ⟨r1, r2⟩
      have := (hmono u v hu r1).2
      have := (hmono v u hv r2).2
      omega

theorem isEdgeWalkB_sound (g : Graph) : ∀ (p : List Edge) (s v : Nat),
    isEdgeWalkB g s v p = true → IsEdgeWalk g s v p := by
  intro p
  induction p with
  | nil => intro s v h; simpa [isEdgeWalkB, IsEdgeWalk] using h
  | cons e r ih =>
    intro s v h
    simp only [isEdgeWalkB, Bool.and_eq_true, beq_iff_eq, List.any_eq_true] at h
    obtain ⟨⟨h1, x, hx, hxe, hxt⟩, h3⟩ := h
    refine ⟨h1, ?_, ih _ _ h3⟩
    unfold Graph.HasEdge
    have : x = ⟨e.b, e⟩ := by
      cases x; simp_all
    rw [← this]; exact hx

theorem noRelaxP_walk (g : Graph) (dist : Nat → Option Int)
    (h : ∀ u du, dist u = some du → ∀ x ∈ g.adj.getD u [], ∃ dw, dist x.to = some dw ∧ dw ≤ du + x.e.w)
    {s : Nat} (h0 : dist s = some 0) (v : Nat) (q : List Edge) (hq : IsEdgeWalk g s v q) :
    ∃ dv, dist v = some dv ∧ dv ≤ walkWeight q := by
  suffices ∀ (q : List Edge) (u : Nat) (du : Int), IsEdgeWalk g u v q → dist u = some du →
      ∃ dv, dist v = some dv ∧ dv ≤ du + walkWeight q by
    simpa using this q s 0 hq h0
  intro q
  induction q with
  | nil =>
    intro u du hw hd
    simp only [IsEdgeWalk] at hw
    subst hw
    exact ⟨du, hd, by simp [walkWeight]⟩
  | cons e r ih =>
    intro u du hw hd
    obtain ⟨h1, h2, h3⟩ := hw
    subst h1
    obtain ⟨dw, k1, k2⟩ := h e.a du hd ⟨e.b, e⟩ h2
    obtain ⟨dv, k3, k4⟩ := ih e.b dw h3 k1
    refine ⟨dv, k3, ?_⟩
    simp only [walkWeight, List.map_cons, List.sum_cons] at k4 ⊢
    simp only at k2
    omega

theorem noRelax_of_check (g : Graph) (hg : g.WF) (dist : Array (Option Int)) (h : noRelaxableEdge g dist = true) :
    ∀ u du, dist.getD u none = some du → ∀ x ∈ g.adj.getD u [],
      ∃ dw, dist.getD x.to none = some dw ∧ dw ≤ du + x.e.w := by
  unfold noRelaxableEdge at h
  simp only [List.all_eq_true, List.mem_range] at h
  intro u du hd x hx
  have := h u (hg.src_lt (.of_mem hx))
  rw [hd] at this
  simp only [List.all_eq_true] at this
  have := this x hx
  split at this
  · simp at this
  · rename_i dv hdv
    exact ⟨dv, hdv, of_decide_eq_true this⟩

theorem sptCertificate_sound (g : Graph) (hg : g.WF) (s : Nat) (t : SPT)
    (answers : List (Nat × Option (List Edge × Int))) (h : sptCertificate g s t answers = true) :
    ∀ v a, (v, a) ∈ answers →
      match a with
      | none => ¬ ∃ q, IsEdgeWalk g s v q
      | some (p, d) => IsEdgeWalk g s v p ∧ walkWeight p = d ∧ ∀ q, IsEdgeWalk g s v q → d ≤ walkWeight q := by
  unfold sptCertificate at h
  simp only [Bool.and_eq_true, beq_iff_eq, List.all_eq_true] at h
  obtain ⟨⟨⟨_, h0⟩, hnr⟩, hall⟩ := h
  have hlow : ∀ v q, IsEdgeWalk g s v q → ∃ dv, t.distTo.getD v none = some dv ∧ dv ≤ walkWeight q :=
    noRelaxP_walk g (t.distTo.getD · none) (noRelax_of_check g hg t.distTo hnr) h0
  intro v a hva
  have hr := hall (v, a) hva
  simp only at hr
  unfold realises at hr
  cases a with
  | none =>
    simp only
    intro ⟨q, hq⟩
    obtain ⟨dv, k1, _⟩ := hlow v q hq
    rw [k1] at hr
    simp at hr
  | some pd =>
    obtain ⟨p, d⟩ := pd
    simp only
    cases hd : t.distTo.getD v none with
    | none => rw [hd] at hr; simp at hr
    | some d0 =>
      rw [hd] at hr
      simp only [Bool.and_eq_true, beq_iff_eq] at hr
      obtain ⟨⟨e1, e2⟩, e3⟩ := hr
      subst e1
      refine ⟨isEdgeWalkB_sound g p s v e2, e3, ?_⟩
      intro q hq
      obtain ⟨dv, k1, k2⟩ := hlow v q hq
      rw [hd] at k1
      cases k1
      exact k2

end AlgoVerif.C14
