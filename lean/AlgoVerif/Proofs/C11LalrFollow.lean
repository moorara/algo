import AlgoVerif.Proofs.C11LalrLA
import AlgoVerif.Proofs.C11CompleteSLRCheck
/-!
# C11 — every LALR(1) lookahead the Model computes lies in FOLLOW of the head of its item

(the inclusion behind "SLR(1) conflict-free ⇒ LALR(1) conflict-free").  `FOLLOW` is the Model's `followEnv` of the
augmented grammar; all that is used about it is that it is closed under the productions and that FOLLOW(S′) ∋ `$`
(`follow_closed`).
-/
namespace AlgoVerif.C11.Lalr
open AlgoVerif AlgoVerif.Gram AlgoVerif.C11 AlgoVerif.C11.Spec AlgoVerif.C11.Built AlgoVerif.C11.BuiltComplete

section
variable {g g' : SGrammar} (hv : ValidG g) (ht : TermsListed g) (ha : augment g = Outcome.ok g')
include hv ht ha

/-- FOLLOW of the augmented grammar, as the Model computes it -/
def FollowG (g' : SGrammar) (B : String) : List String :=
  envGet (followEnv g' (nullableOf g') (firstEnv g' (nullableOf g'))) B

theorem follow_at {it : Item} (hp : it.prod ∈ g'.prods) {B : String} (hd : it.dotSym = some (Sym.nonterm B)) :
    (∀ c ∈ FirstG g' (it.prod.body.drop (it.dot + 1)), c ∈ FollowG g' B) ∧
    ((it.prod.body.drop (it.dot + 1)).all (symNullable (nullableOf g')) = true →
      ∀ c ∈ FollowG g' it.prod.head, c ∈ FollowG g' B) := by
  have hL := augListed hv ht ha
  obtain ⟨hfc, _⟩ := follow_closed g' hL.listed hL.endIn (nullableOf g') hL.bodies hL.startIn
  unfold chkFollowClosed at hfc
  rw [List.all_eq_true] at hfc
  exact Complete.followClosedBody_spec _ _ B _ (hfc it.prod hp) (Complete.dotSym_split hd)

theorem follow_start : endmarker ∈ FollowG g' g'.start := by
  have hL := augListed hv ht ha
  exact (follow_closed g' hL.listed hL.endIn (nullableOf g') hL.bodies hL.startIn).2

theorem cand_follow {i j : Item} (hi : i.prod ∈ g'.prods) {c : String} (hic : i.la = some c)
    (hj : j ∈ closureCands g' (nullableOf g') (firstEnv g' (nullableOf g')) i) :
    ∃ b, j.la = some b ∧
      ((b ∈ FirstG g' (i.prod.body.drop (i.dot + 1)) ∧
          b ∈ FollowG g' j.prod.head) ∨
        (b = c ∧ ∀ d ∈ FollowG g' i.prod.head, d ∈ FollowG g' j.prod.head)) := by
  obtain ⟨B, p, hd, hp, hcase⟩ := mem_closureCands.mp hj
  obtain ⟨hf1, hf2⟩ := follow_at hv ht ha hi hd
  have hph : p.head = B := (mem_prodsOf.mp hp).2
  rcases hcase with ⟨hnone, _⟩ | ⟨c', b, hla, hb, rfl⟩
  · rw [hnone] at hic; cases hic
  · cases hic.symm.trans hla
    refine ⟨b, rfl, ?_⟩
    simp only [hph]
    rcases mem_lookaheadsFor.mp hb with hfirst | ⟨hnull, rfl⟩
    · exact Or.inl ⟨hfirst, hf1 b hfirst⟩
    · exact Or.inr ⟨rfl, hf2 hnull⟩

theorem clo_follow_dummy {k : Item} (hk : k.prod ∈ g'.prods) {x : Item}
    (hx : CloG g' (fun i => i = withLa k endmarker) x) :
    ∃ b, x.la = some b ∧ ((b ≠ endmarker ∧ b ∈ FollowG g' x.prod.head) ∨
      (b = endmarker ∧ ∀ d ∈ FollowG g' k.prod.head, d ∈ FollowG g' x.prod.head)) := by
  induction hx with
  | base hs =>
    subst hs
    exact ⟨endmarker, rfl, Or.inr ⟨rfl, fun d hd => hd⟩⟩
  | @step i j hi hj ih =>
    obtain ⟨c, hic, hQ⟩ := ih
    have hiprod : i.prod ∈ g'.prods := clo_prod (fun z hz => by rw [hz]; exact hk) hi
    obtain ⟨b, hjb, hcase⟩ := cand_follow hv ht ha hiprod hic hj
    refine ⟨b, hjb, ?_⟩
    rcases hcase with ⟨hfirst, hfo⟩ | ⟨hbc, hsub⟩
    · exact Or.inl ⟨fun he => first_no_end hv ht ha hiprod _ (he ▸ hfirst), hfo⟩
    · subst hbc
      rcases hQ with ⟨h1, h2⟩ | ⟨h1, h2⟩
      · exact Or.inl ⟨h1, hsub _ h2⟩
      · exact Or.inr ⟨h1, fun d hd' => hsub _ (h2 d hd')⟩

/-- Not a corollary of `clo_follow_dummy`: there the seed carries `$`, which need not lie in FOLLOW of the head of `k`. -/
theorem clo_follow {seed : Item → Prop}
    (hs : ∀ i, seed i → i.prod ∈ g'.prods ∧ ∃ a, i.la = some a ∧ a ∈ FollowG g' i.prod.head) {x : Item}
    (hx : CloG g' seed x) :
    ∃ b, x.la = some b ∧ b ∈ FollowG g' x.prod.head := by
  induction hx with
  | base h => exact (hs _ h).2
  | @step i j hi hj ih =>
    obtain ⟨c, hic, hQ⟩ := ih
    obtain ⟨b, hjb, hcase⟩ := cand_follow hv ht ha (clo_prod (fun z hz => (hs z hz).1) hi) hic hj
    rcases hcase with ⟨_, hfo⟩ | ⟨hbc, hsub⟩
    · exact ⟨b, hjb, hfo⟩
    · exact ⟨b, hjb, hsub _ (hbc ▸ hQ)⟩

variable {fuel : Nat} (R : LaRun g' fuel)

theorem las_follow {s : Nat} {k : Item} {a : String} (hLA : LA R.S0 R.las s k a) : a ∈ FollowG g' k.prod.head := by
  have h := augOK_of_augment hv ha
  refine las_sound R.hlp R.hlas (P := fun it a => a ∈ FollowG g' it.prod.head) ?_ ?_ hLA
  · intro I0 it hI0 hit
    cases (k0_zero h R.hK0).symm.trans hI0
    cases hit
    rw [initialItem_eq h (A := A0 g' fuel) rfl]
    exact follow_start hv ht ha
  · intro s Is hIs k hk J hJ j hj
    obtain ⟨b, hjb, hQ⟩ := clo_follow_dummy hv ht ha (statesOK_good (k0_ok h R.hK0) s Is hIs k hk).1
      ((mem_closure_single hJ j).mp hj)
    refine ⟨fun hla d hd => ?_, fun a hla hae => ?_⟩
    · rcases hQ with ⟨h1, _⟩ | ⟨_, h2⟩
      · exact absurd (Option.some.inj (hjb.symm.trans hla)) h1
      · exact h2 d hd
    · cases Option.some.inj (hjb.symm.trans hla)
      rcases hQ with ⟨_, h2⟩ | ⟨h1, _⟩
      · exact h2
      · exact absurd h1 hae

end

end AlgoVerif.C11.Lalr
