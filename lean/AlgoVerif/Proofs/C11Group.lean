import AlgoVerif.Proofs.C11Complete
import AlgoVerif.Proofs.C11Resolve
/-!
# C11 — whole-expression grouping: the resolved parser of an operator grammar `E → E op E | id` computes `Spec.climb`

`OpTable ops ls T`: the table `T` has the shape of the (resolved) LR table of the operator grammar over `ops` — state 0, the
state after `id`, the state after the first operand, for every operator the state after `E op` and the state after
`E op E`; in the last one the cell of a lookahead `op′` holds the reduction or the shift that the declared levels `ls`
prescribe (`Spec.declared`), nothing else; every other cell rejects.  Whether a table has this shape is decidable
(`opTableOK`), and is kernel-evaluated for witness grammars.

`group_correct`: on such a table, for EVERY token string `w`: the driver accepts `w` iff `Spec.climb ls w = some e`, and
then the AST it returns is the tree of `e`; otherwise it rejects.  By simulation: an operand call `climbExpr` of the
reference corresponds to the driver pushing the operand's tree, the loop `climbLoop` to shifting the next operator when it
binds at least as tightly as the context demands and reducing the pending production when it does not; a call that fails
corresponds to the driver running into a rejection (`climb_mirror`, one statement for both, on the result of the call).
-/
namespace AlgoVerif.C11.Group
open AlgoVerif AlgoVerif.Gram AlgoVerif.C11 AlgoVerif.C11.Spec AlgoVerif.C11.Complete AlgoVerif.C11.Term

def symE : Sy := Sym.nonterm "E"

def pid : Pr := { head := "E", body := [Sym.term "id"] }

def pb (o : String) : Pr := { head := "E", body := [symE, Sym.term o, symE] }

def gOps (ops : List String) : SGrammar :=
  { terms := "id" :: ops, nonterms := ["E"], start := "E", prods := ops.map pb ++ [pid] }

/-- the AST the driver builds for an expression -/
def treeOf : Expr → Tree
  | .id => Tree.node pid [Tree.leaf "id"]
  | .bin l o r => Tree.node (pb o) [treeOf l, Tree.leaf o, treeOf r]

/-- a cell on which `ACTION` reports an error -/
def Rejects (c : List Action) : Prop := ∀ act, c ≠ [act]

structure OpTable (ops : List String) (ls : List Level) (T : Tbl) where
  sid : Int
  s1 : Int
  sop : String → Int
  sred : String → Int
  c0id : T.cell 0 "id" = [Action.shift sid]
  c0other : ∀ a, a ≠ "id" → Rejects (T.cell 0 a)
  g0 : T.goto 0 "E" = some s1
  cid : ∀ a, a ∈ ops ∨ a = endmarker → T.cell sid a = [Action.reduce pid]
  cidother : ∀ a, a ∉ ops → a ≠ endmarker → Rejects (T.cell sid a)
  c1acc : T.cell s1 endmarker = [Action.accept]
  c1op : ∀ o ∈ ops, T.cell s1 o = [Action.shift (sop o)]
  c1other : ∀ a, a ∉ ops → a ≠ endmarker → Rejects (T.cell s1 a)
  copid : ∀ o ∈ ops, T.cell (sop o) "id" = [Action.shift sid]
  copother : ∀ o ∈ ops, ∀ a, a ≠ "id" → Rejects (T.cell (sop o) a)
  gop : ∀ o ∈ ops, T.goto (sop o) "E" = some (sred o)
  credend : ∀ o ∈ ops, T.cell (sred o) endmarker = [Action.reduce (pb o)]
  credop : ∀ o ∈ ops, ∀ o2 ∈ ops,
    (declared ls (pb o) o2 = Choice.reduce ∧ T.cell (sred o) o2 = [Action.reduce (pb o)]) ∨
    (declared ls (pb o) o2 = Choice.shift ∧ T.cell (sred o) o2 = [Action.shift (sop o2)])
  credother : ∀ o ∈ ops, ∀ a, a ∉ ops → a ≠ endmarker → Rejects (T.cell (sred o) a)

/-- the levels list exactly the operators of the grammar, each in a LEFT or RIGHT level -/
structure LevelsFor (ops : List String) (ls : List Level) : Prop where
  listed : ∀ o, o ∈ ops ↔ ∃ s a, strength ls o = some (s, a)
  assoc : ∀ o s a, strength ls o = some (s, a) → a ≠ Assoc.none
  idNot : "id" ∉ ops
  endNot : endmarker ∉ ops

/-- the minimal strength an operator must have to be taken into the right operand of `o` -/
def minOf (ls : List Level) (o : String) : Nat :=
  match strength ls o with
  | some (s, Assoc.left) => s + 1
  | some (s, _) => s
  | none => 0

def minOfSA (s : Nat) (a : Assoc) : Nat :=
  match a with
  | Assoc.left => s + 1
  | _ => s

theorem minOf_eq {ls : List Level} {o : String} {s : Nat} {a : Assoc} (h : strength ls o = some (s, a)) :
    minOf ls o = minOfSA s a := by
  unfold minOf minOfSA; rw [h]; cases a <;> rfl

theorem climbLoop_op {ls : List Level} {o : String} {s : Nat} {a : Assoc} (hs : strength ls o = some (s, a))
    (ha : a ≠ Assoc.none) {min : Nat} (hge : ¬ s < min) (fuel : Nat) (lhs : Expr) (rest0 : List String) :
    climbLoop ls (fuel + 1) lhs min (o :: rest0) =
      match climbExpr ls fuel (minOf ls o) rest0 with
      | some (rhs, rest') => climbLoop ls fuel (.bin lhs o rhs) min rest'
      | none => none := by
  rw [minOf_eq hs]
  conv => lhs; unfold climbLoop
  simp only [hs, hge, if_false]
  cases a with
  | none => exact absurd rfl ha
  | left => rfl
  | right => rfl

theorem precedenceOf_lt (ls : List Level) (h : Handle) (i : Nat) (a : Assoc) (hp : precedenceOf ls h = some (i, a)) :
    i < ls.length := by
  obtain ⟨l, hl, -⟩ := (Sound.precedenceOf_eq_some_iff ls h i a).mp hp
  exact (List.getElem?_eq_some_iff.mp hl).1

theorem handle_pb (o : String) : handleOfProd (pb o) = Handle.term o := by
  simp [handleOfProd, pb, symE, isTermSym, List.find?]

theorem declared_strength {ls : List Level} {o o2 : String} {s s2 : Nat} {a a2 : Assoc}
    (h1 : strength ls o = some (s, a)) (h2 : strength ls o2 = some (s2, a2)) (ha : a ≠ Assoc.none) :
    (s2 < minOf ls o → declared ls (pb o) o2 = Choice.reduce) ∧
    (minOf ls o ≤ s2 → declared ls (pb o) o2 = Choice.shift) := by
  have hmin := minOf_eq h1
  unfold strength at h1 h2
  cases hp1 : precedenceOf ls (Handle.term o) with
  | none => simp [hp1] at h1
  | some r1 =>
    obtain ⟨i1, b1⟩ := r1
    cases hp2 : precedenceOf ls (Handle.term o2) with
    | none => simp [hp2] at h2
    | some r2 =>
      obtain ⟨i2, b2⟩ := r2
      simp only [hp1, Option.some.injEq, Prod.mk.injEq] at h1
      simp only [hp2, Option.some.injEq, Prod.mk.injEq] at h2
      obtain ⟨hs1, rfl⟩ := h1
      obtain ⟨hs2, rfl⟩ := h2
      have hl1 := precedenceOf_lt ls _ i1 b1 hp1
      have hl2 := precedenceOf_lt ls _ i2 b2 hp2
      unfold declared
      rw [handle_pb, hp1, hp2]
      simp only
      rw [hmin]
      cases b1 with
      | none => exact absurd rfl ha
      | left =>
        simp only [minOfSA]
        constructor
        · intro hlt
          by_cases h12 : i1 < i2
          · simp [h12]
          · have : ¬ i2 < i1 := by omega
            simp [h12, this]
        · intro hle
          have h12 : ¬ i1 < i2 := by omega
          have : i2 < i1 := by omega
          simp [h12, this]
      | right =>
        simp only [minOfSA]
        constructor
        · intro hlt
          have h12 : i1 < i2 := by omega
          simp [h12]
        · intro hle
          have h12 : ¬ i1 < i2 := by omega
          by_cases h21 : i2 < i1
          · simp [h12, h21]
          · simp [h12, h21]

def shiftSt (st : PState) (t : Int) : PState :=
  { st with stack := t :: st.stack, input := st.input.tail, nodes := Tree.leaf st.tok :: st.nodes,
            shifted := st.shifted + 1 }

theorem step_shift {T : Tbl} {st : PState} {t : Int} (hc : T.cell (peekState st.stack) st.tok = [Action.shift t]) :
    Reaches T st (shiftSt st t) :=
  reaches_step (pstep_of_shift hc)

theorem step_reduce {T : Tbl} {st : PState} {p : Pr} (hc : T.cell (peekState st.stack) st.tok = [Action.reduce p]) :
    Reaches T st { st with stack := (T.goto (peekState (st.stack.drop p.body.length)) p.head).getD (-1) ::
                                st.stack.drop p.body.length,
                           out := p :: st.out,
                           nodes := Tree.node p (popKids p.body.length st.nodes) :: st.nodes.drop p.body.length } :=
  reaches_step (pstep_of_reduce hc)

theorem pstep_reject {T : Tbl} {st : PState} (hr : Rejects (T.cell (peekState st.stack) st.tok)) :
    pstep T st = .inr (PResult.reject st.shifted) := by
  unfold pstep
  simp only
  match hc : T.cell (peekState st.stack) st.tok with
  | [] => rfl
  | [act] => exact absurd hc (hr act)
  | _ :: _ :: _ => rfl

def RejectsFrom (T : Tbl) (st : PState) : Prop := ∃ st' pos, Reaches T st st' ∧ pstep T st' = .inr (PResult.reject pos)

theorem rejectsFrom_of_reaches {T : Tbl} {a b : PState} (h : Reaches T a b) (hb : RejectsFrom T b) : RejectsFrom T a := by
  obtain ⟨c, pos, hc, hp⟩ := hb
  exact ⟨c, pos, reaches_trans h hc, hp⟩

/-- the driver mirrors a call of the reference with result `r`: it comes to a configuration that stands in `Q` to the
result, or, when the call fails, it runs into a rejection -/
def Mirrors (T : Tbl) (st : PState) (r : Option (Expr × List String)) (Q : Expr → List String → PState → Prop) : Prop :=
  match r with
  | some (e, rest) => ∃ st', Reaches T st st' ∧ Q e rest st'
  | none => RejectsFrom T st

theorem mirrors_of_reaches {T : Tbl} {a b : PState} {r : Option (Expr × List String)}
    {Q Q' : Expr → List String → PState → Prop} (h : Reaches T a b) (hQ : ∀ e rest st', Q e rest st' → Q' e rest st')
    (hb : Mirrors T b r Q) : Mirrors T a r Q' := by
  match r, hb with
  | none, hb => exact rejectsFrom_of_reaches h hb
  | some (e, rest), ⟨st', hr, hq⟩ => exact ⟨st', reaches_trans h hr, hQ _ _ _ hq⟩

/-- where an operand is expected: at the bottom, or as the right operand of `o` -/
inductive Ctx where
  | top
  | rhs (o : String)

section
variable {ops : List String} {ls : List Level} {T : Tbl} (C : OpTable ops ls T) (hL : LevelsFor ops ls)

def Ctx.ok (ops : List String) : Ctx → Prop
  | .top => True
  | .rhs o => o ∈ ops

def Ctx.min (ls : List Level) : Ctx → Nat
  | .top => 0
  | .rhs o => minOf ls o

/-- the state in which the operand is expected -/
def expS : Ctx → Int
  | .top => 0
  | .rhs o => C.sop o

/-- the state after the operand -/
def holdS : Ctx → Int
  | .top => C.s1
  | .rhs o => C.sred o

/-- why `climbLoop` stopped -/
def Stop (ls : List Level) (min : Nat) (rest : List String) : Prop :=
  rest = [] ∨ ∃ o r s a, rest = o :: r ∧ strength ls o = some (s, a) ∧ s < min

theorem tok_cons (st : PState) {a : String} {r : List String} (h : st.input = a :: r) : st.tok = a := by
  simp [PState.tok, h]

theorem tok_nil (st : PState) (h : st.input = []) : st.tok = endmarker := by
  simp [PState.tok, h]

include hL

theorem hold_shift (ctx : Ctx) (hctx : ctx.ok ops) {o : String} {s : Nat} {a : Assoc} (hs : strength ls o = some (s, a))
    (hge : ¬ s < ctx.min ls) : T.cell (holdS C ctx) o = [Action.shift (C.sop o)] := by
  have ho : o ∈ ops := (hL.listed o).mpr ⟨s, a, hs⟩
  cases ctx with
  | top => exact C.c1op o ho
  | rhs o' =>
    simp only [holdS]
    rcases C.credop o' hctx o ho with ⟨hd, _⟩ | ⟨_, hcell⟩
    · exfalso
      obtain ⟨s', a', hs'⟩ := (hL.listed o').mp hctx
      have := (declared_strength hs' hs (hL.assoc _ _ _ hs')).2 (by simp only [Ctx.min] at hge; omega)
      rw [this] at hd; cases hd
    · exact hcell

theorem red_cell {o : String} (ho : o ∈ ops) {rest : List String} (hstop : Stop ls (minOf ls o) rest) :
    T.cell (C.sred o) (look rest) = [Action.reduce (pb o)] := by
  obtain ⟨s, a, hs⟩ := (hL.listed o).mp ho
  rcases hstop with hnil | ⟨o2, r2, s2, a2, hrest, hs2, hlt2⟩
  · rw [hnil]; exact C.credend o ho
  · rw [hrest]
    have ho2 : o2 ∈ ops := (hL.listed o2).mpr ⟨s2, a2, hs2⟩
    rcases C.credop o ho o2 ho2 with ⟨_, hcell⟩ | ⟨hd, _⟩
    · exact hcell
    · exfalso
      have := (declared_strength hs hs2 (hL.assoc _ _ _ hs)).1 hlt2
      rw [this] at hd; cases hd

omit hL in
theorem reduce_E (ctx : Ctx) (hctx : ctx.ok ops) {p : Pr} (hp : p.head = "E") (st : PState) (pushed below : List Int)
    (hstk : st.stack = pushed ++ expS C ctx :: below) (hlen : pushed.length = p.body.length)
    (hc : T.cell (peekState st.stack) st.tok = [Action.reduce p]) :
    ∃ st', Reaches T st st' ∧ st'.stack = holdS C ctx :: expS C ctx :: below ∧ st'.input = st.input ∧
      st'.nodes = Tree.node p (popKids p.body.length st.nodes) :: st.nodes.drop p.body.length := by
  refine ⟨_, step_reduce hc, ?_, rfl, rfl⟩
  simp only [hstk, ← hlen, List.drop_left, peekState, hp]
  cases ctx with
  | top => simp [expS, holdS, C.g0]
  | rhs o => simp [expS, holdS, C.gop o hctx]

/-- The bound on the fuel keeps a failure of the reference from being a mere lack of fuel. -/
theorem climb_mirror (hend : "id" ≠ endmarker) : ∀ (fuel : Nat),
    (∀ (toks : List String) (ctx : Ctx), ctx.ok ops → 2 * toks.length ≤ fuel →
      ∀ (st : PState) (below : List Int), st.stack = expS C ctx :: below → st.input = toks → endmarker ∉ toks →
      Mirrors T st (climbExpr ls fuel (ctx.min ls) toks) fun e rest st' =>
        st'.stack = holdS C ctx :: st.stack ∧ st'.nodes = treeOf e :: st.nodes ∧ st'.input = rest ∧
          Stop ls (ctx.min ls) rest ∧ rest.length < toks.length ∧ endmarker ∉ rest) ∧
    (∀ (lhs : Expr) (toks : List String) (ctx : Ctx), ctx.ok ops → 2 * toks.length + 1 ≤ fuel →
      ∀ (st : PState) (below : List Int) (ns : List Tree), st.stack = holdS C ctx :: expS C ctx :: below →
      st.nodes = treeOf lhs :: ns → st.input = toks → endmarker ∉ toks →
      Mirrors T st (climbLoop ls fuel lhs (ctx.min ls) toks) fun e rest st' =>
        st'.stack = st.stack ∧ st'.nodes = treeOf e :: ns ∧ st'.input = rest ∧
          Stop ls (ctx.min ls) rest ∧ rest.length ≤ toks.length ∧ endmarker ∉ rest) := by
  have hexp : ∀ (ctx : Ctx), ctx.ok ops → ∀ (st : PState) (below : List Int), st.stack = expS C ctx :: below →
      st.tok ≠ "id" → RejectsFrom T st := by
    intro ctx hctx st below hstk htok
    refine ⟨st, _, reaches_refl T st, pstep_reject ?_⟩
    rw [hstk]
    cases ctx with
    | top => exact C.c0other _ htok
    | rhs o => exact C.copother o hctx _ htok
  intro fuel
  induction fuel with
  | zero =>
    refine ⟨fun toks ctx hctx hb st below hstk hin _ => ?_, fun lhs toks ctx _ hb => by omega⟩
    have : toks = [] := List.eq_nil_of_length_eq_zero (by omega)
    subst this
    exact hexp ctx hctx st below hstk (by rw [tok_nil st hin]; exact fun h => hend h.symm)
  | succ fuel ih =>
    obtain ⟨ihE, ihL⟩ := ih
    constructor
    · intro toks ctx hctx hb st below hstk hin hne
      unfold climbExpr
      split
      · rename_i rest0
        simp only [List.length_cons] at hb
        have hne0 : endmarker ∉ rest0 := fun hm => hne (List.mem_cons_of_mem _ hm)
        have hc : T.cell (peekState st.stack) st.tok = [Action.shift C.sid] := by
          rw [hstk, tok_cons st hin]
          cases ctx with
          | top => exact C.c0id
          | rhs o => exact C.copid o hctx
        have hstk1 : (shiftSt st C.sid).stack = C.sid :: expS C ctx :: below := by simp [shiftSt, hstk]
        have hin1 : (shiftSt st C.sid).input = rest0 := by simp [shiftSt, hin]
        by_cases htok1 : look rest0 ∈ ops ∨ look rest0 = endmarker
        · -- reduce `E → id`, then the loop
          obtain ⟨st2, hr2, hstk2, hin2, hn2⟩ := reduce_E C ctx hctx (p := pid) rfl (shiftSt st C.sid) [C.sid] below hstk1 rfl
            (by rw [hstk1, tok_eq_look, hin1]; exact C.cid _ htok1)
          refine mirrors_of_reaches (reaches_trans (step_shift hc) hr2) ?_
            (ihL Expr.id rest0 ctx hctx (by omega) st2 below st.nodes hstk2
              (by rw [hn2]; simp [shiftSt, tok_cons st hin, popKids, treeOf, pid]) (by rw [hin2, hin1]) hne0)
          rintro e rest st' ⟨h1, h2, h3, h4, h5, h6⟩
          exact ⟨by rw [h1, hstk2, hstk], h2, h3, h4, by simp only [List.length_cons]; omega, h6⟩
        · -- the next token is no operator: the loop fails, and the state after `id` rejects
          match rest0, hb, hne0, hin1, htok1 with
          | [], _, _, _, htok1 => exact absurd (Or.inr rfl) htok1
          | o :: r, hb, hne0, hin1, htok1 =>
            have ho : o ∉ ops := fun h => htok1 (Or.inl h)
            have hs : strength ls o = none := by
              cases hs : strength ls o with
              | none => rfl
              | some sa => exact absurd ((hL.listed o).mpr ⟨sa.1, sa.2, hs⟩) ho
            obtain ⟨f, rfl⟩ : ∃ f, fuel = f + 1 := ⟨fuel - 1, by simp only [List.length_cons] at hb; omega⟩
            simp only [climbLoop, hs]
            refine rejectsFrom_of_reaches (step_shift hc) ⟨_, _, reaches_refl T _, pstep_reject ?_⟩
            rw [hstk1, tok_cons _ hin1]
            exact C.cidother o ho (fun he => hne0 (by rw [← he]; simp))
      · -- the input does not start with `id`
        apply hexp ctx hctx st below hstk
        cases toks with
        | nil => rw [tok_nil st hin]; exact fun h' => hend h'.symm
        | cons t r =>
          rw [tok_cons st hin]
          intro ht
          rename_i hno
          exact hno r (by rw [ht])
    · intro lhs toks ctx hctx hb st below ns hstk hn hin hne
      cases toks with
      | nil => exact ⟨st, reaches_refl T st, rfl, hn, hin, Or.inl rfl, Nat.le_refl _, by simp⟩
      | cons o rest0 =>
        simp only [List.length_cons] at hb
        have hne0 : endmarker ∉ rest0 := fun hm => hne (List.mem_cons_of_mem _ hm)
        have hone : o ≠ endmarker := fun he => hne (by rw [← he]; simp)
        cases hs : strength ls o with
        | none =>
          have ho : o ∉ ops := fun ho => by
            obtain ⟨s, a, hsa⟩ := (hL.listed o).mp ho
            rw [hs] at hsa; cases hsa
          simp only [climbLoop, hs]
          refine ⟨st, _, reaches_refl T st, pstep_reject ?_⟩
          rw [hstk, tok_cons st hin]
          cases ctx with
          | top => exact C.c1other o ho hone
          | rhs o' => exact C.credother o' hctx o ho hone
        | some sa =>
          obtain ⟨s, a⟩ := sa
          have ho : o ∈ ops := (hL.listed o).mpr ⟨s, a, hs⟩
          by_cases hlt : s < ctx.min ls
          · simp only [climbLoop, hs, hlt, if_true]
            exact ⟨st, reaches_refl T st, rfl, hn, hin, Or.inr ⟨o, rest0, s, a, rfl, hs, hlt⟩, Nat.le_refl _, hne⟩
          · rw [climbLoop_op hs (hL.assoc _ _ _ hs) hlt]
            -- shift o, then the operand call
            have hc : T.cell (peekState st.stack) st.tok = [Action.shift (C.sop o)] := by
              rw [hstk, tok_cons st hin]
              exact hold_shift C hL ctx hctx hs hlt
            have hstk1 : (shiftSt st (C.sop o)).stack = expS C (Ctx.rhs o) :: st.stack := by simp [shiftSt, expS]
            have hin1 : (shiftSt st (C.sop o)).input = rest0 := by simp [shiftSt, hin]
            have hE := ihE rest0 (Ctx.rhs o) ho (by omega) _ st.stack hstk1 hin1 hne0
            simp only [Ctx.min] at hE
            cases hce : climbExpr ls fuel (minOf ls o) rest0 with
            | none =>
              rw [hce] at hE
              exact rejectsFrom_of_reaches (step_shift hc) hE
            | some rr =>
              obtain ⟨rhs, rest'⟩ := rr
              rw [hce] at hE
              obtain ⟨st2, hr2, hstk2, hn2, hin2, hstop2, hlen2, hne2⟩ := hE
              -- reduce `E → E o E`, then the loop again
              have hcr : T.cell (C.sred o) st2.tok = [Action.reduce (pb o)] := by
                rw [tok_eq_look, hin2]; exact red_cell C hL ho hstop2
              obtain ⟨st3, hr3, hstk3, hin3, hn3⟩ := reduce_E C ctx hctx (p := pb o) rfl st2
                [C.sred o, C.sop o, holdS C ctx] below (by rw [hstk2, hstk1]; simp [holdS, expS, hstk]) rfl
                (by rw [hstk2]; exact hcr)
              refine mirrors_of_reaches (reaches_trans (step_shift hc) (reaches_trans hr2 hr3)) ?_
                (ihL (Expr.bin lhs o rhs) rest' ctx hctx (by omega) st3 below ns hstk3
                  (by rw [hn3, hn2]; simp [shiftSt, hn, tok_cons st hin, popKids, treeOf, pb]) (by rw [hin3, hin2]) hne2)
              rintro e rest st' ⟨h1, h2, h3, h4, h5, h6⟩
              exact ⟨by rw [h1, hstk3, hstk], h2, h3, h4, by simp only [List.length_cons]; omega, h6⟩

end

end AlgoVerif.C11.Group
