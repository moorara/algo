import AlgoVerif.Proofs.C19Buf
import AlgoVerif.Proofs.C19Utf8
/-!
# C19 — `Next` is the decoder applied to the bytes at `forward`

`Next_spec`: under the buffer invariant, for a NUL-free source and any reader without I/O errors, `Input.Next`
behaves as `decodeRune (S.drop p)` says: it returns the rune and advances by its length, or reports invalid
UTF-8, or returns `io.EOF` when the source ends before the sequence is complete — re-establishing the invariant
(and `LexOK`, as long as the pending lexeme stays within `n` bytes) in every case.
-/
namespace AlgoVerif.C19
open AlgoVerif AlgoVerif.Generated

/-- the pending lexeme `[b, p)` lies within the two halves and `lexemeBegin` stands for `b` -/
structure LexOK (n : Nat) (i : Input) (p B s b : Nat) : Prop where
  b_le : b ≤ p
  b_lo : B ≤ b + n
  len : p ≤ b + n
  lb : i.lexemeBegin = idx n s B b

/-- `k` steps of `next()` from position `p`: the state they reach -/
structure Step (S : List UInt8) (n : Nat) (i : Input) (p B s k : Nat) (i' : Input) (B' cnt' s' : Nat) : Prop where
  inv : Inv S n i' (p + k) B' cnt' s'
  same : SameLex i i'
  lex : ∀ b, LexOK n i p B s b → p + k ≤ b + n → LexOK n i' (p + k) B' s' b

theorem Step.zero {S : List UInt8} {n : Nat} {i : Input} {p B cnt s : Nat} (hinv : Inv S n i p B cnt s) :
    Step S n i p B s 0 i B cnt s :=
  ⟨hinv, SameLex.refl i, fun _ hl _ => hl⟩

theorem Inv.of_eq {S : List UInt8} {n : Nat} {i i' : Input} {p B cnt s : Nat} (h : Inv S n i p B cnt s)
    (h1 : i'.src = i.src) (h2 : i'.buff = i.buff) (h3 : i'.forward = i.forward) (h4 : i'.ahead = i.ahead)
    (h5 : i'.err = i.err) : Inv S n i' p B cnt s :=
  h.move p h.p_lo h.p_hi h.atEnd i' (congrArg _ h1) (h1 ▸ h.noio) h2 (h3.trans h.fw) (h4.trans h.ahead) (h5.trans h.err)

theorem LexOK.of_eq {n : Nat} {i i' : Input} {p B s b : Nat} (h : LexOK n i p B s b)
    (h1 : i'.lexemeBegin = i.lexemeBegin) : LexOK n i' p B s b :=
  ⟨h.b_le, h.b_lo, h.len, by rw [h1]; exact h.lb⟩

/-- the lexeme bookkeeping after `Next` returned the rune `r` of `k` bytes -/
structure Pushed (i i' : Input) (r k : Nat) : Prop where
  lexemeBegin : i'.lexemeBegin = i.lexemeBegin
  offset : i'.offset = i.offset
  line : i'.line = i.line
  column : i'.column = i.column
  runeSizes : i'.runeSizes = k :: i.runeSizes
  nextColumn : i'.nextColumn = if k = 1 ∧ r = 10 then 1 else i.nextColumn + 1
  lastColumns : i'.lastColumns = if k = 1 ∧ r = 10 then i.nextColumn :: i.lastColumns else i.lastColumns

theorem forwardPos_same {i i' : Input} (h : SameLex i i') : i'.forwardPos = i.forwardPos := by
  simp [Input.forwardPos, h.offset, h.line, h.runeSizes, h.lastColumns, h.nextColumn]

/-- what `Next` does, by the outcome of the decoder on the bytes at `forward` -/
def NextPost (S : List UInt8) (n : Nat) (i : Input) (p B s : Nat) : Dec → Prop
  | .rune r k => ∃ i' B' cnt' s', i.Next = .ok (i', .rune r) ∧ Inv S n i' (p + k) B' cnt' s' ∧
      p + k ≤ S.length ∧ Pushed i i' r k ∧
      (∀ b, LexOK n i p B s b → p + k ≤ b + n → LexOK n i' (p + k) B' s' b)
  | .short => ∃ i' B' cnt' s', i.Next = .ok (i', .err .eof) ∧ Inv S n i' S.length B' cnt' s' ∧ SameLex i i' ∧
      (S.drop p = [] → i' = i)
  | .invalid k => ∃ i' B' cnt' s', i.Next = .ok (i', .invalid i.forwardPos) ∧ Inv S n i' (p + k) B' cnt' s' ∧
      SameLex i i'

theorem pushRune_pushed {i i2 : Input} (hs : SameLex i i2) (r k : Nat) (hk : k ≠ 1) : Pushed i (i2.pushRune k) r k := by
  have : ¬ (k = 1 ∧ r = 10) := fun h => hk h.1
  constructor <;> simp [Input.pushRune, this, hs.lexemeBegin, hs.offset, hs.line, hs.column, hs.runeSizes,
    hs.nextColumn, hs.lastColumns]

theorem pushAscii_pushed {i i2 : Input} (hs : SameLex i i2) (b0 : UInt8) :
    Pushed i (i2.pushAscii b0) b0.toNat 1 := by
  have hb : b0.toNat = 10 ↔ b0 = 10 := ⟨fun h => UInt8.toNat_inj.mp h, congrArg UInt8.toNat⟩
  unfold Input.pushAscii
  split <;> constructor <;>
    simp [*, hs.lexemeBegin, hs.offset, hs.line, hs.column, hs.runeSizes, hs.nextColumn, hs.lastColumns]

theorem pushAscii_keeps (i : Input) (b0 : UInt8) :
    (i.pushAscii b0).src = i.src ∧ (i.pushAscii b0).buff = i.buff ∧ (i.pushAscii b0).forward = i.forward ∧
    (i.pushAscii b0).ahead = i.ahead ∧ (i.pushAscii b0).err = i.err ∧
    (i.pushAscii b0).lexemeBegin = i.lexemeBegin := by
  unfold Input.pushAscii; split <;> exact ⟨rfl, rfl, rfl, rfl, rfl, rfl⟩

section
variable {S : List UInt8} {n : Nat} {i i' : Input} {p B s k B' c' s' : Nat} (st : Step S n i p B s k i' B' c' s')
include st

theorem Step.short (hpL : p + k = S.length) (hN : i.Next = .ok (i', .err .eof)) (hi : S.drop p = [] → i' = i) :
    NextPost S n i p B s .short :=
  ⟨i', B', c', s', hN, hpL ▸ st.inv, st.same, hi⟩

theorem Step.invalid (hN : i.Next = .ok (i', .invalid i'.forwardPos)) : NextPost S n i p B s (.invalid k) :=
  ⟨i', B', c', s', by rw [hN, forwardPos_same st.same], st.inv, st.same⟩

theorem Step.rune (hk : k ≠ 1) (hL : p + k ≤ S.length) {r : Nat} (hN : i.Next = .ok (i'.pushRune k, .rune r)) :
    NextPost S n i p B s (.rune r k) :=
  ⟨_, B', c', s', hN, st.inv.of_eq rfl rfl rfl rfl rfl, hL, pushRune_pushed st.same r k hk,
    fun b hl hlen => (st.lex b hl hlen).of_eq rfl⟩

end

/-- One more byte.  What is left of `Next` calls `next()` and goes on with `F`; what is left of the decoder takes the byte at
`p + k` and goes on with `G`: at the end of input both stop, otherwise it is enough to compare `F` and `G` one step further. -/
theorem Step.feed {S : List UInt8} {n : Nat} {i i1 : Input} {p B s k B1 c1 s1 : Nat}
    (st : Step S n i p B s k i1 B1 c1 s1) (hnul : NulFree S) (hk : S.drop p = [] → i1 = i)
    {F : Input → UInt8 → Outcome (Input × NextResult)} {G : UInt8 → List UInt8 → Dec}
    (hN : i.Next = match i1.next with
      | .panic => .panic
      | .diverge => .diverge
      | .ok (j, .error e) => .ok (j, .err e)
      | .ok (j, .ok b) => F j b)
    (h : ∀ b j B' c' s', Step S n i p B s (k + 1) j B' c' s' → p + k < S.length → i.Next = F j b →
      NextPost S n i p B s (G b (S.drop (p + k + 1)))) :
    NextPost S n i p B s (match S.drop (p + k) with | [] => .short | b :: bs => G b bs) := by
  have hinv := st.inv
  by_cases hp : p + k < B1 + c1
  · obtain ⟨b0, hb0, i', B', cnt', s', hnext, hinv', hsl, hstep⟩ := next_spec hinv hnul hp
    have hpL : p + k < S.length := by have := hinv.hiL; omega
    rw [List.getElem?_eq_getElem hpL] at hb0
    rw [List.drop_eq_getElem_cons hpL, Option.some.inj hb0]
    simp only [hnext] at hN
    refine h b0 i' B' cnt' s' ⟨hinv', st.same.trans hsl, fun b hl hlen => ?_⟩ hpL hN
    have hl1 := st.lex b hl (by omega)
    have := hl1.b_le
    rcases hstep with ⟨hB, hs, _⟩ | ⟨hB, hs, hpB⟩
    · subst hB hs
      exact ⟨by omega, hl1.b_lo, hlen, hsl.lexemeBegin.trans hl1.lb⟩
    · subst hB hs
      exact ⟨by omega, by omega, hlen,
        (hsl.lexemeBegin.trans hl1.lb).trans
          (idx_reload n s1 B1 b hinv.npos (by have := hinv.s01; omega) (by omega) (by omega)).symm⟩
  · have hpe : p + k = B1 + c1 := by have := hinv.p_hi; omega
    have hL := hinv.atEnd hpe
    rw [List.drop_eq_nil_iff.mpr (by omega)]
    simp only [next_at_end hinv hpe] at hN
    exact st.short (by omega) hN hk

theorem Next_spec {S : List UInt8} {n : Nat} {i : Input} {p B cnt s : Nat}
    (hinv : Inv S n i p B cnt s) (hnul : NulFree S) : NextPost S n i p B s (decodeRune (S.drop p)) := by
  -- `hN`: what is left of `Next` to run, simplified in step with `decodeRune` in the goal
  have hN : i.Next = _ := Input.Next.eq_1 i
  rw [decodeRune.eq_def]
  refine Step.feed (k := 0) (Step.zero hinv) hnul (fun _ => rfl) hN ?_
  intro b0 i1 B1 c1 s1 st1 hpL hN
  have hne : ∀ j : Input, S.drop p = [] → j = i := fun j h => by
    have := congrArg List.length h; rw [List.length_drop, List.length_nil] at this; omega
  generalize hxv : firstOf b0 = x at hN ⊢
  by_cases hx : x ≥ lexer_input_as
  · simp only [hx, if_true] at hN ⊢
    by_cases hxx : x = lexer_input_xx
    ·
      simp only [hxx, if_true] at hN ⊢
      exact st1.invalid hN
    ·
      simp only [hxx, if_false, NextPost] at hN ⊢
      obtain ⟨a1, a2, a3, a4, a5, a6⟩ := pushAscii_keeps i1 b0
      exact ⟨i1.pushAscii b0, B1, c1, s1, hN, st1.inv.of_eq a1 a2 a3 a4 a5, by omega, pushAscii_pushed st1.same b0,
        fun b hl hlen => (st1.lex b hl hlen).of_eq a6⟩
  have hsz := size_cases b0 (by rw [hxv]; exact hx)
  rw [hxv] at hsz
  simp only [hx, if_false] at hN ⊢
  refine st1.feed hnul (hne _) hN ?_
  intro b1 i2 B2 c2 s2 st2 hpL1 hN
  by_cases hacc : b1.toNat < (acceptOf x).1 ∨ (acceptOf x).2 < b1.toNat
  · simp only [hacc, if_true] at hN ⊢
    exact st2.invalid hN
  simp only [hacc, if_false] at hN ⊢
  by_cases hs2 : x &&& 7 = 2
  · simp only [hs2, if_true] at hN ⊢
    exact st2.rune (by decide) (by omega) hN
  simp only [hs2, if_false] at hN ⊢
  refine st2.feed hnul (hne _) hN ?_
  intro b2 i3 B3 c3 s3 st3 hpL2 hN
  by_cases hc2 : b2.toNat < lexer_input_locb ∨ lexer_input_hicb < b2.toNat
  · simp only [hc2, if_true] at hN ⊢
    exact st3.invalid hN
  simp only [hc2, if_false] at hN ⊢
  by_cases hs3 : x &&& 7 = 3
  · simp only [hs3, if_true] at hN ⊢
    exact st3.rune (by decide) (by omega) hN
  simp only [hs3, if_false] at hN ⊢
  refine st3.feed hnul (hne _) hN ?_
  intro b3 i4 B4 c4 s4 st4 hpL3 hN
  by_cases hc3 : b3.toNat < lexer_input_locb ∨ lexer_input_hicb < b3.toNat
  · simp only [hc3, if_true] at hN ⊢
    exact st4.invalid hN
  simp only [hc3, if_false, (hsz.resolve_left hs2).resolve_left hs3] at hN ⊢
  exact st4.rune (by decide) (by omega) hN

theorem nulFree_encode (cs : List Char) (h : ∀ c ∈ cs, c.toNat ≠ 0) : NulFree (Spec.encode cs) := by
  intro b hb
  simp only [Spec.encode, List.mem_flatMap] at hb
  obtain ⟨c, hc, hbc⟩ := hb
  exact encodeChar_ne_zero c (h c hc) b hbc

theorem step_next_of {i i' : Input} {r : NextResult} (h : i.Next = .ok (i', r)) :
    i.step .next = .ok (i', match r with | .rune r => .rune r | .err e => .err e | .invalid p => .invalid p) := by
  simp only [Input.step, h]; cases r <;> rfl

end AlgoVerif.C19
