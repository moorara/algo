import AlgoVerif.Model.C11
/-!
# C11 — primed start symbols, and the driver on an input that ends in a column-less token

* the new start symbol of `augment` (`augStart`, which trims the primes the start symbol already ends in, as
  `AddNewNonTerminal` does);
* the driver on an input that ends in a token no table column exists for — the Model of "the lexer failed here"
  (`parsefail` of the line protocol).
-/
namespace AlgoVerif.C11.Hard
open AlgoVerif AlgoVerif.Gram AlgoVerif.C11

/-- the names `AddNewNonTerminal` tries, in order -/
def augCandidates (g : SGrammar) : List String := primeSuffixes.map (augBase g ++ ·)

theorem augStart_eq (g : SGrammar) : augStart g = (augCandidates g).find? (fun n => !(n ∈ g.nonterms)) := rfl

theorem augStart_some_iff (g : SGrammar) (s' : String) :
    augStart g = some s' ↔
      s' ∉ g.nonterms ∧ ∃ before after, augCandidates g = before ++ s' :: after ∧ ∀ n ∈ before, n ∈ g.nonterms := by
  rw [augStart_eq, List.find?_eq_some_iff_append]
  constructor
  · rintro ⟨h, as, bs, hl, hall⟩
    refine ⟨by simpa using h, as, bs, hl, ?_⟩
    intro n hn
    simpa using hall n hn
  · rintro ⟨h, as, bs, hl, hall⟩
    refine ⟨by simpa using h, as, bs, hl, ?_⟩
    intro n hn
    simpa using hall n hn

theorem augStart_none_iff (g : SGrammar) : augStart g = none ↔ ∀ n ∈ augCandidates g, n ∈ g.nonterms := by
  rw [augStart_eq, List.find?_eq_none]
  constructor
  · intro h n hn
    simpa using h n hn
  · intro h n hn
    simpa using h n hn

/-- the driver's configuration while it works on `pre ++ [bad]` -/
structure LexInv (pre : List String) (bad : String) (st : PState) : Prop where
  rest : ∃ r, st.input = r ++ [bad] ∧ endmarker ∉ r ∧ st.shifted + r.length = pre.length

theorem lexInv_init (pre : List String) (bad : String) (hpre : endmarker ∉ pre) :
    LexInv pre bad (pinit (pre ++ [bad])) :=
  ⟨⟨pre, rfl, hpre, by simp [pinit]⟩⟩

theorem pstep_lexInv {T : Tbl} {pre : List String} {bad : String}
    (hbad : ∀ s, T.cell s bad = [])
    (hacc : ∀ s a, Action.accept ∈ T.cell s a → a = endmarker)
    {st : PState} (hinv : LexInv pre bad st) :
    (∃ st', pstep T st = .inl st' ∧ LexInv pre bad st') ∨ (∃ i, pstep T st = .inr (.reject i) ∧ i ≤ pre.length) := by
  obtain ⟨r, hin, hend, hlen⟩ := hinv.rest
  have htok : st.tok = (r ++ [bad]).head (by simp) := by
    unfold PState.tok
    rw [hin]
    cases r <;> simp
  unfold pstep
  cases r with
  | nil =>
    have ht : st.tok = bad := by simpa using htok
    right
    refine ⟨st.shifted, ?_, by simp at hlen; omega⟩
    simp [ht, hbad]
  | cons x r' =>
    have ht : st.tok = x := by simpa using htok
    have hx : x ≠ endmarker := by
      intro h
      exact hend (by simp [h])
    simp only [ht]
    match hc : T.cell (peekState st.stack) x with
    | [] => right; exact ⟨st.shifted, by simp, by simp at hlen; omega⟩
    | [.shift t] =>
      left
      refine ⟨_, rfl, ⟨r', ?_, ?_, ?_⟩⟩
      · simp [hin]
      · intro h; exact hend (by simp [h])
      · simp at hlen ⊢; omega
    | [.reduce p] =>
      left
      exact ⟨_, rfl, ⟨x :: r', hin, hend, hlen⟩⟩
    | [.accept] =>
      exact absurd (hacc _ _ (by rw [hc]; simp)) hx
    | _ :: _ :: _ => right; exact ⟨st.shifted, by simp, by simp at hlen; omega⟩

theorem prun_lexInv {T : Tbl} {pre : List String} {bad : String}
    (hbad : ∀ s, T.cell s bad = [])
    (hacc : ∀ s a, Action.accept ∈ T.cell s a → a = endmarker)
    (fuel : Nat) {st : PState} (hinv : LexInv pre bad st) :
    prun T fuel st = .diverge ∨ ∃ i, prun T fuel st = .ok (.reject i) ∧ i ≤ pre.length := by
  induction fuel generalizing st with
  | zero => left; rfl
  | succ fuel ih =>
    unfold prun
    rcases pstep_lexInv hbad hacc hinv with ⟨st', hs, hinv'⟩ | ⟨i, hs, hi⟩
    · rw [hs]; exact ih hinv'
    · right; exact ⟨i, by rw [hs], hi⟩

end AlgoVerif.C11.Hard
