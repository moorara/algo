import AlgoVerif.Proofs.C01Bst
import AlgoVerif.Proofs.C01Avl
import AlgoVerif.Proofs.C01RbTop
/-!
# C01: the three tree kinds under one statement
-/
namespace AlgoVerif.C01

variable {K V : Type}

/-- `Good` is `Inv` for BST and AVL, `GoodRB` for LLRB -/
theorem kindOK_any (kind : Kind) : ∃ Good : (K → K → Int) → Tree K V → Prop,
    ∀ cmp, LawfulCmp cmp → KindOK kind cmp (Good cmp) := by
  cases kind
  · exact ⟨_, fun _ h => bst_kindOK h⟩
  · exact ⟨_, fun _ h => avl_kindOK h⟩
  · exact ⟨_, fun _ h => rb_kindOK h⟩

theorem run_accepts (kind : Kind) {cmpA cmpB cmpC : K → K → Int} (hA : LawfulCmp cmpA) (hB : LawfulCmp cmpB)
    (hC : LawfulCmp cmpC) (eqA eqB eqC : V → V → Bool) (ops : List (Op K V)) :
    ∃ s outs, run kind (.new cmpA eqA) (.new cmpB eqB) (.new cmpC eqC) ops = .ok (s, outs) ∧
      Spec.accepts (.new cmpA eqA, .new cmpB eqB, .new cmpC eqC) ops outs := by
  obtain ⟨Good, hk⟩ := kindOK_any (K := K) (V := V) kind
  obtain ⟨s, outs, e, -, acc⟩ := run_ok hk hA hB hC eqA eqB eqC ops
  exact ⟨s, outs, e, acc⟩

end AlgoVerif.C01
