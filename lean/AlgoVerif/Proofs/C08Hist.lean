import AlgoVerif.Model.C08Hist
import AlgoVerif.Proofs.C08Cnf
import AlgoVerif.Proofs.C08LeftRecMain
import AlgoVerif.Proofs.C08LeftFactorMain
/-!
# Histories over grammar objects: the store lemmas and "every transformation `apply` knows preserves the language"
-/
namespace AlgoVerif.C08.Hist
open AlgoVerif AlgoVerif.Gram AlgoVerif.C08 AlgoVerif.C08.Spec

theorem lookup_filter_ne (s : Store) (i x : Nat) (h : x ≠ i) :
    (s.filter (fun e => e.1 != i)).lookup x = s.lookup x := by
  induction s with
  | nil => rfl
  | cons e s ih =>
    obtain ⟨k, v⟩ := e
    by_cases hk : k = i
    · subst hk
      have hx : (x == k) = false := by simpa using h
      simp [List.filter, List.lookup, hx, ih]
    · have hk' : (k != i) = true := by simpa using hk
      simp only [List.filter, hk', List.lookup]
      split <;> simp_all

theorem get_set_self (s : Store) (i : Nat) (g : G) : get (set s i g) i = some g := by
  simp [get, set]

theorem get_set_ne (s : Store) (i x : Nat) (g : G) (h : x ≠ i) : get (set s i g) x = get s x := by
  have hx : (x == i) = false := by simpa using h
  simp only [get, set, List.lookup, hx]
  exact lookup_filter_ne s i x h

theorem transform_language {t : String} {g g' : G} (hv : Valid g) (h : transform t g = some (.ok g')) :
    SameLanguage g g' := by
  unfold transform at h
  split at h
  · cases h; exact fun _ => Iff.rfl
  split at h
  · cases h
  unfold applyOp at h
  split at h
  · exact elimEmpty_language (Option.some.inj h) hv.wellFormed
  · exact elimSingle_language (Option.some.inj h) hv.wellFormed
  · exact elimUnreachable_language (Option.some.inj h)
  · exact elimCycles_language (Option.some.inj h) hv.wellFormed
  · exact elimLeftRec_language (Option.some.inj h) hv.wellFormed
  · exact C08_leftfactor_of_wellFormed hv.wellFormed (Option.some.inj h)
  · exact cnf_language (Option.some.inj h) hv.wellFormed
  · exact cnfStart_language (Option.some.inj h) hv.wellFormed
  · exact cnfTerm_language (Option.some.inj h) hv.wellFormed
  · exact cnfBin_language (Option.some.inj h) hv.wellFormed
  · cases h; exact fun _ => Iff.rfl
  · cases h

/-- the four edits `Productions.Add/Remove`, `NonTerminals.Add`, `Terminals.Add` rewrite the slot they read -/
theorem edit_frame {s s' : Store} {i : Nat} {f : G → G}
    (h : (get s i).map (fun g => Outcome.ok (set s i (f g))) = some (.ok s')) {x : Nat} (hx : x ≠ i) :
    get s' x = get s x := by
  cases hg : get s i with
  | none => simp [hg] at h
  | some g => simp [hg] at h; cases h; exact get_set_ne _ _ _ _ hx

theorem step_frame {s s' : Store} {op : Op} (h : step s op = some (.ok s')) (x : Nat) (hx : x ≠ op.target) :
    get s' x = get s x := by
  cases op with
  | apply i t j =>
    simp only [step] at h
    split at h
    · cases h
    · split at h
      · cases h
      · cases h; exact get_set_ne _ _ _ _ hx
      · cases h
      · cases h
  | addProd i p => exact edit_frame h hx
  | rmProd i p => exact edit_frame h hx
  | addNT i n => exact edit_frame h hx
  | addTerm i t => exact edit_frame h hx

theorem step_apply {s s' : Store} {i j : Nat} {t : String} {g : G} (hi : get s i = some g) (hv : Valid g)
    (h : step s (.apply i t j) = some (.ok s')) :
    ∃ g', transform t g = some (.ok g') ∧ get s' j = some g' ∧ SameLanguage g g' := by
  simp only [step, hi] at h
  split at h
  · cases h
  · rename_i g' ht
    cases h
    exact ⟨g', ht, get_set_self _ _ _, transform_language hv ht⟩
  · cases h
  · cases h

end AlgoVerif.C08.Hist
