import AlgoVerif.Proofs.C11BuiltCompleteAuto
import AlgoVerif.Proofs.C11BuiltCompleteSets
import AlgoVerif.Proofs.C11CompleteCheck
/-!
# C11 — LR(1) closures over LR(0) closures, and the "dummy lookahead" lemma behind `ComputeLALR1Kernels`

In terms of `Clo` (`C11Built`: `x` is reachable from a seed item by the CLOSURE rule; what `closure` returns is exactly
this set, `mem_closure_iff`):

* `clo_dummy`: CLOSURE of a single LR(1) item `[k, a]` is determined by CLOSURE of `[k, $]` — every item of it is an
  instance (`Inst a`) of an item of CLOSURE(`[k, $]`): that item with a lookahead other than `$` (generated
  *spontaneously*), or `[j, a]` for an item `[j, $]` (the lookahead *propagates*).  This is the dragon book's lemma with the
  endmarker playing the role of the dummy `#`, which is sound because no FIRST set of the augmented grammar contains it.
* `clo_core` / `clo_lift`: the cores of an LR(1) closure lie in the LR(0) closure of the cores, and conversely every item
  of the LR(0) closure carries at least one lookahead in the LR(1) closure when FIRST(βa) is never empty
  (every non-terminal derives a terminal string: `Productive`).

Second half: FIRST of the augmented grammar contains terminals of production bodies only, so never the endmarker
(`first_no_end`), and a symbol that derives a terminal string is nullable or has a non-empty FIRST set, so `LiveSuffix`
holds of the items of a grammar with productive non-terminals (`live_item`).
-/
namespace AlgoVerif.C11.Lalr
open AlgoVerif AlgoVerif.Gram AlgoVerif.C11 AlgoVerif.C11.Spec AlgoVerif.C11.Built AlgoVerif.C11.BuiltComplete

/-- the LR(1) item `[k, a]`; the Model writes `{ k with la := some a }` -/
def withLa (k : Item) (a : String) : Item := { k with la := some a }

section
variable {g : SGrammar} {nl : List String} {fe : Env}

theorem mem_auto_closure_iff {A : Auto} {J K : List Item} (hc : A.closure J = Outcome.ok K) (x : Item) :
    x ∈ K ↔ Clo A.g A.nl A.fe (fun i => i ∈ J) x :=
  mem_closure_iff (g := A.g) hc x

theorem closure_eq_auto (A : Auto) (I : List Item) : A.closure I = closure A.g A.nl A.fe A.fuel I := rfl

theorem mem_closure_single {A : Auto} {k : Item} {K : List Item} (hc : A.closure [k] = Outcome.ok K) (x : Item) :
    x ∈ K ↔ Clo A.g A.nl A.fe (fun i => i = k) x := by
  rw [mem_auto_closure_iff hc x]
  constructor <;> exact clo_mono (fun z hz => by simpa using hz)

theorem clo_single {seed : Item → Prop} {x : Item} (hx : Clo g nl fe seed x) :
    ∃ k, seed k ∧ Clo g nl fe (fun i => i = k) x :=
  hx.sub (P := fun x => ∃ k, seed k ∧ Clo g nl fe (fun i => i = k) x) (fun k hk => ⟨k, hk, Clo.base rfl⟩)
    fun _ ⟨k, hk, hc⟩ _ hj => ⟨k, hk, Clo.step hc hj⟩

theorem lookaheadsFor_withLa (i : Item) (c a : String) :
    lookaheadsFor nl fe (withLa i c) a = lookaheadsFor nl fe i a := rfl

theorem dotSym_withLa (i : Item) (c : String) : (withLa i c).dotSym = i.dotSym := rfl

/-- `x` is `j` with the dummy lookahead `$` replaced by `a` -/
def Inst (a : String) (j x : Item) : Prop :=
  j.prod = x.prod ∧ j.dot = x.dot ∧
    ((j.la = some endmarker ∧ x.la = some a) ∨ ∃ b, j.la = some b ∧ x.la = some b ∧ b ≠ endmarker)

theorem clo_dummy {k : Item} {a : String}
    (hne : ∀ x, Clo g nl fe (fun i => i = withLa k endmarker) x →
      endmarker ∉ firstOfStr nl fe (x.prod.body.drop (x.dot + 1)))
    {x : Item} (hx : Clo g nl fe (fun i => i = withLa k a) x) :
    ∃ j, Clo g nl fe (fun i => i = withLa k endmarker) j ∧ Inst a j x := by
  induction hx with
  | base hs => exact ⟨withLa k endmarker, Clo.base rfl, hs ▸ ⟨rfl, rfl, Or.inl ⟨rfl, rfl⟩⟩⟩
  | @step i x _ hx ih =>
    obtain ⟨i', hcl, hpr, hdt, hla⟩ := ih
    obtain ⟨B, p, hd, hp, hcase⟩ := mem_closureCands.mp hx
    obtain ⟨c, b, hic, hb, rfl⟩ : ∃ c b, i.la = some c ∧ b ∈ lookaheadsFor nl fe i c ∧
        x = { prod := p, dot := 0, la := some b } := by
      rcases hcase with ⟨hnone, _⟩ | h1
      · rcases hla with ⟨_, h2⟩ | ⟨_, _, h2, _⟩ <;> rw [hnone] at h2 <;> cases h2
      · exact h1
    have hd' : i'.dotSym = some (Sym.nonterm B) := by
      unfold Item.dotSym at hd ⊢; rw [hpr, hdt]; exact hd
    have hsuf : i'.prod.body.drop (i'.dot + 1) = i.prod.body.drop (i.dot + 1) := by rw [hpr, hdt]
    have hcand : ∀ c' b', i'.la = some c' → b' ∈ lookaheadsFor nl fe i c' →
        Clo g nl fe (fun z => z = withLa k endmarker) { prod := p, dot := 0, la := some b' } := by
      intro c' b' hc' hb'
      refine Clo.step hcl (mem_closureCands.mpr ⟨B, p, hd', hp, Or.inr ⟨c', b', hc', ?_, rfl⟩⟩)
      rw [mem_lookaheadsFor, hsuf]
      exact mem_lookaheadsFor.mp hb'
    rcases mem_lookaheadsFor.mp hb with hf | ⟨hnull, rfl⟩
    · -- `b ∈ FIRST(β)`: generated in both closures, and it is not `$`
      have hbne : b ≠ endmarker := fun he => hne i' hcl (hsuf ▸ he ▸ hf)
      obtain ⟨c', hc'⟩ : ∃ c', i'.la = some c' := by
        rcases hla with ⟨h1, _⟩ | ⟨c', h1, _⟩ <;> exact ⟨_, h1⟩
      exact ⟨_, hcand c' b hc' (mem_lookaheadsFor.mpr (Or.inl hf)), rfl, rfl, Or.inr ⟨b, rfl, rfl, hbne⟩⟩
    · -- `β` is nullable: the lookahead of `i` is handed on, and so is that of `i'`
      rcases hla with ⟨h1, h2⟩ | ⟨c', h1, h2, h3⟩
      · cases hic.symm.trans h2
        exact ⟨_, hcand endmarker endmarker h1 (mem_lookaheadsFor.mpr (Or.inr ⟨hnull, rfl⟩)), rfl, rfl,
          Or.inl ⟨rfl, rfl⟩⟩
      · cases hic.symm.trans h2
        exact ⟨_, hcand b b h1 (mem_lookaheadsFor.mpr (Or.inr ⟨hnull, rfl⟩)), rfl, rfl, Or.inr ⟨b, rfl, rfl, h3⟩⟩

theorem core_withLa (k : Item) (a : String) : (withLa k a).core = k.core := rfl

theorem core_of_none {k : Item} (h : k.la = none) : k.core = k := by
  cases k; simp_all [Item.core]

theorem withLa_core {x : Item} {b : String} (h : x.la = some b) : withLa x.core b = x := by
  cases x; simp_all [Item.core, withLa]

theorem dotSym_core (i : Item) : i.core.dotSym = i.dotSym := rfl

theorem clo_la_some {seed : Item → Prop} (hs : ∀ i, seed i → i.la.isSome = true) {x : Item}
    (hx : Clo g nl fe seed x) : x.la.isSome = true :=
  hx.sub hs (itemProp_some g nl fe).cands

theorem clo_la_none {seed : Item → Prop} (hs : ∀ i, seed i → i.la = none) {x : Item}
    (hx : Clo g nl fe seed x) : x.la = none :=
  hx.sub hs (itemProp_none g nl fe).cands

theorem clo_prod {seed : Item → Prop} (hs : ∀ i, seed i → i.prod ∈ g.prods)
    {x : Item} (hx : Clo g nl fe seed x) : x.prod ∈ g.prods :=
  hx.sub hs fun _ _ _ hj => by
    obtain ⟨B, p, _, hp, hcase⟩ := mem_closureCands.mp hj
    have := (mem_prodsOf.mp hp).1
    rcases hcase with ⟨_, rfl⟩ | ⟨_, _, _, _, rfl⟩ <;> exact this

theorem clo_core {seed : Item → Prop} (hs : ∀ i, seed i → i.la.isSome = true) {x : Item}
    (hx : Clo g nl fe seed x) : Clo g nl fe (fun y => ∃ s, seed s ∧ s.core = y) x.core := by
  induction hx with
  | base h => exact Clo.base ⟨_, h, rfl⟩
  | @step i j hi hj ih =>
    obtain ⟨B, p, hd, hp, hcase⟩ := mem_closureCands.mp hj
    have hsome := clo_la_some hs hi
    rcases hcase with ⟨hnone, _⟩ | ⟨a, b, _, _, rfl⟩
    · rw [hnone] at hsome; cases hsome
    · apply Clo.step ih
      apply mem_closureCands.mpr
      exact ⟨B, p, hd, hp, Or.inl ⟨rfl, rfl⟩⟩

/-- FIRST(βa) is never empty for the suffixes `β` of the items in play -/
def LiveSuffix (nl : List String) (fe : Env) (x : Item) : Prop :=
  ∀ a, lookaheadsFor nl fe x a ≠ []

theorem clo_lift {seed0 seed1 : Item → Prop} (h0 : ∀ i, seed0 i → i.la = none)
    (hseed : ∀ i, seed0 i → ∃ a, seed1 (withLa i a))
    (hlive : ∀ x, Clo g nl fe seed0 x → LiveSuffix nl fe x)
    {y : Item} (hy : Clo g nl fe seed0 y) : ∃ b, Clo g nl fe seed1 (withLa y b) := by
  induction hy with
  | base h =>
    obtain ⟨a, ha⟩ := hseed _ h
    exact ⟨a, Clo.base ha⟩
  | @step i j hi hj ih =>
    obtain ⟨a, ha⟩ := ih
    obtain ⟨B, p, hd, hp, hcase⟩ := mem_closureCands.mp hj
    have hnone := clo_la_none h0 hi
    rcases hcase with ⟨_, rfl⟩ | ⟨a', b, hla, _, _⟩
    · have hl := hlive i hi a
      obtain ⟨b, hb⟩ := List.exists_mem_of_ne_nil _ hl
      refine ⟨b, Clo.step ha ?_⟩
      apply mem_closureCands.mpr
      exact ⟨B, p, hd, hp, Or.inr ⟨a, b, rfl, hb, rfl⟩⟩
    · rw [hnone] at hla; cases hla

end

theorem envFix_inv (f : Env → Env) (P : Env → Prop) (hstep : ∀ env, P env → P (f env)) :
    ∀ (fuel : Nat) (env : Env), P env → P (envFix f fuel env)
  | 0, env, h => by simpa [envFix] using h
  | fuel + 1, env, h => by
    unfold envFix
    simp only
    split
    · exact h
    · exact envFix_inv f P hstep fuel _ (hstep env h)

theorem firstEnv_terms (g : SGrammar) (Tm : List String) (hheads : ∀ p ∈ g.prods, p.head ∈ g.nonterms)
    (hT : ∀ p ∈ g.prods, ∀ t, Sym.term t ∈ p.body → t ∈ Tm) (nl : List String) :
    ∀ m, ∀ t ∈ envGet (firstEnv g nl) m, t ∈ Tm := by
  let g2 : SGrammar := { g with terms := Tm }
  have hL : Listed g2 := ⟨hheads, hT⟩
  have hform : EnvForm g.nonterms Tm (firstEnv g nl) := by
    unfold firstEnv
    apply envFix_inv (firstStep g nl) (EnvForm g.nonterms Tm)
    · intro env henv
      exact (firstStep_form g2 hL nl env henv).1
    · exact ⟨fun _ => [], rfl, fun _ => ⟨by simp, by simp⟩⟩
  intro m
  exact (envForm_get hform m).2

/-- a symbol that derives a terminal string is nullable or has a non-empty FIRST set -/
def LiveSym (nl : List String) (fe : Env) : Sy → Prop
  | .term _ => True
  | .nonterm n => n ∈ nl ∨ envGet fe n ≠ []

theorem live_body (nl : List String) (fe : Env) : ∀ (β : List Sy), (∀ X ∈ β, LiveSym nl fe X) →
    β.all (symNullable nl) = true ∨ firstOfStr nl fe β ≠ []
  | [], _ => Or.inl (by simp)
  | .term t :: rest, _ => Or.inr (by simp [firstOfStr])
  | .nonterm n :: rest, h => by
    have hn := h (.nonterm n) (by simp)
    have hrest := live_body nl fe rest (fun X hX => h X (List.mem_cons_of_mem _ hX))
    by_cases hnl : n ∈ nl
    · rcases hrest with h1 | h1
      · left
        simp [symNullable, hnl, h1]
      · right
        simp only [firstOfStr, hnl, if_true]
        obtain ⟨c, hc⟩ := List.exists_mem_of_ne_nil _ h1
        intro he
        have : c ∈ unionNew (envGet fe n) (firstOfStr nl fe rest) := mem_unionNew.mpr (Or.inr hc)
        rw [he] at this
        simp at this
    · right
      simp only [firstOfStr, hnl, if_false]
      rcases hn with h1 | h1
      · exact absurd h1 hnl
      · exact h1

theorem live_lookaheads {nl : List String} {fe : Env} {x : Item}
    (h : ∀ X ∈ x.prod.body, LiveSym nl fe X) : LiveSuffix nl fe x := by
  intro a
  have := live_body nl fe (x.prod.body.drop (x.dot + 1)) (fun X hX => h X (List.mem_of_mem_drop hX))
  rcases this with h1 | h1
  · intro he
    have : a ∈ lookaheadsFor nl fe x a := mem_lookaheadsFor.mpr (Or.inr ⟨h1, rfl⟩)
    rw [he] at this
    simp at this
  · obtain ⟨c, hc⟩ := List.exists_mem_of_ne_nil _ h1
    intro he
    have : c ∈ lookaheadsFor nl fe x a := mem_lookaheadsFor.mpr (Or.inl hc)
    rw [he] at this
    simp at this

theorem derives_mono {g g' : SGrammar} (hsub : ∀ p ∈ g.prods, p ∈ g'.prods) {α β : List Sy} (hd : Derives g α β) :
    Derives g' α β := by
  induction hd with
  | refl => exact Derives.refl _
  | tail _ hs ih =>
    refine Derives.tail ih ?_
    cases hs with
    | mk u v p hp => exact Step.mk u v p (hsub p hp)

section
variable {g g' : SGrammar} (hsub : ∀ p ∈ g.prods, p ∈ g'.prods)
include hsub

mutual
theorem derivesT_sub : ∀ (t : Tree) (X : Sy), derivesT g t X → derivesT g' t X
  | .leaf a, _, hd => by simpa [derivesT] using hd
  | .nil, _, hd => by simp [derivesT] at hd
  | .node p ks, _, hd => by
    simp only [derivesT] at hd ⊢
    exact ⟨hd.1, hsub p hd.2.1, derivesL_sub ks p.body hd.2.2⟩
theorem derivesL_sub : ∀ (ks : List Tree) (σ : List Sy), derivesL g ks σ → derivesL g' ks σ
  | [], _, hd => by simpa [derivesL] using hd
  | t :: tr, _, hd => by
    simp only [derivesL] at hd ⊢
    obtain ⟨X, Xr, rfl, hdt, hdr⟩ := hd
    exact ⟨X, Xr, rfl, derivesT_sub t X hdt, derivesL_sub tr Xr hdr⟩
end

end

/-- `derivesT_sub` / `derivesL_sub` for trees up to a size `N` (the bound plays no part) -/
theorem derivesT_mono {g g' : SGrammar} (hsub : ∀ p ∈ g.prods, p ∈ g'.prods) :
    ∀ (N : Nat), (∀ t X, treeSize t ≤ N → derivesT g t X → derivesT g' t X) ∧
      (∀ ks σ, treeSizeL ks ≤ N → derivesL g ks σ → derivesL g' ks σ) :=
  fun _ => ⟨fun t X _ => derivesT_sub hsub t X, fun ks σ _ => derivesL_sub hsub ks σ⟩

theorem live_of_derives {g : SGrammar} {nl : List String} {fe : Env}
    (hN : ∀ p ∈ g.prods, p.body.all (symNullable nl) = true → p.head ∈ nl)
    (hF : ∀ p ∈ g.prods, ∀ c ∈ firstOfStr nl fe p.body, c ∈ envGet fe p.head)
    {B : String} {w : List String} (hd : Derives g [Sym.nonterm B] (w.map Sym.term)) :
    LiveSym nl fe (Sym.nonterm B) := by
  have h0 : Complete.HasForest g w (w.map Sym.term) :=
    ⟨_, (Complete.derivesL_terms g w).1, (Complete.derivesL_terms g w).2⟩
  obtain ⟨ks, hks, hy⟩ := Complete.hasForest_of_derives hd h0
  cases w with
  | nil =>
    have := Complete.null_forest hN ks _ hks hy
    left
    simpa [symNullable] using this
  | cons c x =>
    have := Complete.first_forest hN hF ks _ c x hks hy
    simp only [firstOfStr] at this
    by_cases hn : B ∈ nl
    · exact Or.inl hn
    · right
      simp only [hn, if_false] at this
      intro he
      rw [he] at this
      simp at this

abbrev CloG (g' : SGrammar) (seed : Item → Prop) (x : Item) : Prop :=
  Clo g' (nullableOf g') (firstEnv g' (nullableOf g')) seed x

abbrev FirstG (g' : SGrammar) (β : List Sy) : List String :=
  firstOfStr (nullableOf g') (firstEnv g' (nullableOf g')) β

/-- the terminals that occur in production bodies (`g'.terms` will not do in `first_no_end`: `augment` adds `$` to it) -/
def bodyTerms (g : SGrammar) : List String :=
  g.prods.flatMap fun p => p.body.filterMap fun s => match s with
    | .term t => some t
    | .nonterm _ => none

theorem mem_bodyTerms {g : SGrammar} {t : String} : t ∈ bodyTerms g ↔ ∃ p ∈ g.prods, Sym.term t ∈ p.body := by
  unfold bodyTerms
  simp only [List.mem_flatMap, List.mem_filterMap]
  constructor
  · rintro ⟨p, hp, s, hs, hst⟩
    cases s with
    | term t' => simp only [Option.some.injEq] at hst; subst hst; exact ⟨p, hp, hs⟩
    | nonterm _ => simp at hst
  · rintro ⟨p, hp, hs⟩
    exact ⟨p, hp, _, hs, rfl⟩

section
variable {g g' : SGrammar} (hv : ValidG g) (ht : TermsListed g) (ha : augment g = Outcome.ok g')
include hv ht ha

theorem first_no_end {p : Pr} (hp : p ∈ g'.prods) (n : Nat) :
    endmarker ∉ FirstG g' (p.body.drop n) := by
  have h := augOK_of_augment hv ha
  have hL := augListed hv ht ha
  have henv := firstEnv_terms g' (bodyTerms g') hL.listed.heads
    (fun p hp t htm => mem_bodyTerms.mpr ⟨p, hp, htm⟩) (nullableOf g')
  intro hmem
  have := firstOfStr_sub (nullableOf g') _ (bodyTerms g') henv (p.body.drop n)
    (fun t htm => mem_bodyTerms.mpr ⟨p, hp, List.mem_of_mem_drop htm⟩) endmarker hmem
  obtain ⟨q, hq, hqm⟩ := mem_bodyTerms.mp this
  exact body_no_end h hq hqm

theorem live_item (hprod : Productive g) {x : Item} (hx : x.prod ∈ g'.prods) :
    LiveSuffix (nullableOf g') (firstEnv g' (nullableOf g')) x := by
  have h := augOK_of_augment hv ha
  have hL := augListed hv ht ha
  apply live_lookaheads
  intro X hX
  cases X with
  | term t => trivial
  | nonterm B =>
    have hB : B ∈ g.nonterms := by
      rcases (mem_prods' h).mp hx with h1 | h1
      · exact h.bodies _ h1 B hX
      · rw [h1] at hX
        simp only [startProd, List.mem_singleton, Sym.nonterm.injEq] at hX
        exact hX ▸ h.startIn
    obtain ⟨w, hw⟩ := hprod B hB
    exact live_of_derives (Complete.nullClosed_of_check (nullable_closed g' hL.listed.heads))
      (Complete.firstClosed_of_check (first_closed g' hL.listed (nullableOf g')))
      (derives_mono (fun p hp => (mem_prods' h).mpr (Or.inl hp)) hw)

end

end AlgoVerif.C11.Lalr
