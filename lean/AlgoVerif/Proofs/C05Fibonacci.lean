import AlgoVerif.Model.C05Fibonacci
import AlgoVerif.Proofs.C05BinomFibIndex
/-!
# The ids linked into the indexed Fibonacci heap Model, and its index-map invariant

The structural routines (`cutIn`, a link of `consolidate`, `meldChildren`) permute the list of linked node ids
(`rootsIds`), on which the index-map invariant `Inv` depends only up to permutation.
-/
namespace AlgoVerif.C05

def rootsIds (l : List FN) : List Nat := l.flatMap FN.ids

theorem rootsIds_cons (r : FN) (l : List FN) : rootsIds (r :: l) = FN.ids r ++ rootsIds l := by
  simp [rootsIds]

theorem rootsIds_append (a b : List FN) : rootsIds (a ++ b) = rootsIds a ++ rootsIds b := by
  simp [rootsIds]

theorem rootsIds_nil : rootsIds [] = [] := rfl

theorem rootsIds_perm {a b : List FN} (h : a.Perm b) : (rootsIds a).Perm (rootsIds b) :=
  List.Perm.flatMap_right _ h

namespace FT

theorem toList_ids : ∀ (t : FT), rootsIds (toList t) = ids t
  | nil => rfl
  | node id d m c nx => by
    simp only [toList, rootsIds_cons, FN.ids, ids, toList_ids nx, List.cons_append]

theorem cutIn_node {target id : Nat} {d : Int} {m : Bool} {c nx t' : FT} {cuts : List FN} {b : Bool}
    (h : cutIn target (node id d m c nx) = some (t', cuts, b)) :
    (id = target ∧ t' = nx ∧ cuts = [⟨id, d, m, c⟩] ∧ b = true) ∨
    (∃ c' cuts', cutIn target c = some (c', cuts', true) ∧
      ((m = false ∧ t' = node id (d - 1) true c' nx ∧ cuts = cuts' ∧ b = false) ∨
       (m = true ∧ t' = nx ∧ cuts = cuts' ++ [⟨id, d - 1, false, c'⟩] ∧ b = true))) ∨
    (∃ c', cutIn target c = some (c', cuts, false) ∧ t' = node id d m c' nx ∧ b = false) ∨
    (∃ nx', cutIn target nx = some (nx', cuts, b) ∧ t' = node id d m c nx') := by
  simp only [cutIn] at h
  split at h
  · rename_i hid; cases h; exact Or.inl ⟨hid, rfl, rfl, rfl⟩
  · split at h
    · rename_i c' cuts' removed hc
      cases removed with
      | true =>
        refine Or.inr (Or.inl ⟨c', cuts', hc, ?_⟩)
        cases m with
        | false => cases h; exact Or.inl ⟨rfl, rfl, rfl, rfl⟩
        | true => cases h; exact Or.inr ⟨rfl, rfl, rfl, rfl⟩
      | false => cases h; exact Or.inr (Or.inr (Or.inl ⟨c', hc, rfl, rfl⟩))
    · split at h
      · rename_i nx' cuts' removed hn
        cases h; exact Or.inr (Or.inr (Or.inr ⟨nx', hn, rfl⟩))
      · cases h

theorem cutIn_perm (target : Nat) : ∀ (t t' : FT) (cuts : List FN) (b : Bool),
    cutIn target t = some (t', cuts, b) → (ids t' ++ rootsIds cuts).Perm (ids t)
  | nil, _, _, _, h => by simp [cutIn] at h
  | node id d m c nx, t', cuts, b, h => by
    rcases cutIn_node h with ⟨-, rfl, rfl, -⟩ | ⟨c', cuts', hc, ⟨-, rfl, rfl, -⟩ | ⟨-, rfl, rfl, -⟩⟩ |
      ⟨c', hc, rfl, -⟩ | ⟨nx', hn, rfl⟩
    · simp only [rootsIds_cons, rootsIds_nil, FN.ids, ids, List.append_nil]
      perm_count
    · simp only [ids]
      perm_count using cutIn_perm target c c' _ _ hc
    · simp only [rootsIds_append, rootsIds_cons, rootsIds_nil, FN.ids, ids]
      perm_count using cutIn_perm target c c' _ _ hc
    · simp only [ids]
      perm_count using cutIn_perm target c c' _ _ hc
    · simp only [ids]
      perm_count using cutIn_perm target nx nx' _ _ hn

theorem cutIn_target (target : Nat) : ∀ (t t' : FT) (cuts : List FN) (b : Bool),
    cutIn target t = some (t', cuts, b) → ∃ f, f ∈ cuts ∧ f.id = target
  | nil, _, _, _, h => by simp [cutIn] at h
  | node id d m c nx, t', cuts, b, h => by
    rcases cutIn_node h with ⟨hid, -, rfl, -⟩ | ⟨c', cuts', hc, ⟨-, -, rfl, -⟩ | ⟨-, -, rfl, -⟩⟩ |
      ⟨c', hc, -, -⟩ | ⟨nx', hn, -⟩
    · exact ⟨_, List.mem_singleton.mpr rfl, hid⟩
    · exact cutIn_target target c c' _ _ hc
    · obtain ⟨f, hf, hfid⟩ := cutIn_target target c c' _ _ hc
      exact ⟨f, List.mem_append_left _ hf, hfid⟩
    · exact cutIn_target target c c' _ _ hc
    · exact cutIn_target target nx nx' _ _ hn

theorem cutIn_some (target : Nat) : ∀ (t : FT), target ∈ ids t → ∃ res, cutIn target t = some res
  | nil, h => by simp [ids] at h
  | node id d m c nx, h => by
    simp only [cutIn]
    by_cases hid : id = target
    · rw [if_pos hid]
      exact ⟨_, rfl⟩
    · rw [if_neg hid]
      simp only [ids, List.mem_cons, List.mem_append] at h
      cases hc : cutIn target c with
      | some res =>
        obtain ⟨c', cuts, removed⟩ := res
        simp only []
        split
        · split <;> exact ⟨_, rfl⟩
        · exact ⟨_, rfl⟩
      | none =>
        simp only []
        rcases h with h | h | h
        · exact absurd h.symm hid
        · obtain ⟨_, he⟩ := cutIn_some target c h
          rw [hc] at he; cases he
        · obtain ⟨_, he⟩ := cutIn_some target nx h
          rw [he]
          exact ⟨_, rfl⟩

end FT

namespace IFib
variable {K V : Type} {cmp : K → K → Int} {eq : V → V → Bool} {cap : Nat} {S : List Nat}

theorem findRoot_eq_find? (x : Nat) : ∀ l : List FN, findRoot x l = l.find? (fun r => decide (r.id = x))
  | [] => rfl
  | r :: rs => by
    simp only [findRoot, List.find?_cons, findRoot_eq_find? x rs]
    by_cases h : r.id = x <;> simp [h]

theorem findRoot_id (l : List FN) (x : Nat) (xn : FN) (h : findRoot x l = some xn) : xn.id = x := by
  rw [findRoot_eq_find?] at h
  simpa using List.find?_some h

theorem eraseRoot_eq_eraseP (x : Nat) : ∀ l : List FN, eraseRoot x l = l.eraseP (fun r => decide (r.id = x))
  | [] => rfl
  | r :: rs => by
    simp only [eraseRoot, List.eraseP_cons, eraseRoot_eq_eraseP x rs]
    by_cases h : r.id = x <;> simp [h]

def topIds (l : List FN) : List Nat := l.map (·.id)

theorem topIds_sub : ∀ (l : List FN) (x : Nat), x ∈ topIds l → x ∈ rootsIds l
  | [], _, h => by simp [topIds] at h
  | r :: rs, x, h => by
    simp only [topIds, List.map_cons, List.mem_cons] at h
    rw [rootsIds_cons]
    rcases h with rfl | h
    · simp [FN.ids]
    · exact List.mem_append_right _ (topIds_sub rs x h)

theorem findRoot_some_iff (l : List FN) (x : Nat) : (∃ xn, findRoot x l = some xn) ↔ x ∈ topIds l := by
  rw [findRoot_eq_find?, ← Option.isSome_iff_exists, List.find?_isSome]
  simp [topIds]

theorem findRoot_mem (l : List FN) (x : Nat) (xn : FN) (h : findRoot x l = some xn) : xn ∈ l := by
  rw [findRoot_eq_find?] at h
  exact List.mem_of_find?_eq_some h

theorem eraseRoot_sub (l : List FN) (x : Nat) (f : FN) (h : f ∈ eraseRoot x l) : f ∈ l := by
  rw [eraseRoot_eq_eraseP] at h
  exact List.mem_of_mem_eraseP h

theorem findRoot_split (l : List FN) (x : Nat) (xn : FN) (h : findRoot x l = some xn) :
    ∃ A B, l = A ++ xn :: B ∧ (∀ a, a ∈ A → a.id ≠ x) ∧ xn.id = x := by
  rw [findRoot_eq_find?] at h
  obtain ⟨hp, A, B, hl, hA⟩ := List.find?_eq_some_iff_append.mp h
  exact ⟨A, B, hl, fun a ha => by simpa using hA a ha, by simpa using hp⟩

/-- `link(child, parent)` seen from the parent: one more child, put in front -/
def linked (ch r : FN) : FN :=
  { r with child := .node ch.id ch.degree ch.mark ch.child r.child, degree := r.degree + 1 }

theorem linkUnder_append (ch : FN) {y : Nat} {yn : FN} (hid : yn.id = y) (B : List FN) :
    ∀ A : List FN, (∀ a, a ∈ A → a.id ≠ y) → linkUnder ch y (A ++ yn :: B) = A ++ linked ch yn :: B
  | [], _ => by simp [linkUnder, hid, linked]
  | a :: A, hA => by
    simp only [List.cons_append, linkUnder]
    rw [if_neg (hA a List.mem_cons_self), linkUnder_append ch hid B A (fun a ha => hA a (List.mem_cons_of_mem _ ha))]

theorem eraseRoot_perm : ∀ (l : List FN) (x : Nat) (xn : FN), findRoot x l = some xn →
    (rootsIds l).Perm (FN.ids xn ++ rootsIds (eraseRoot x l))
  | [], _, _, h => by simp [findRoot] at h
  | r :: rs, x, xn, h => by
    simp only [findRoot] at h
    simp only [eraseRoot]
    split at h
    · rename_i hid
      cases h
      rw [if_pos hid, rootsIds_cons]
    · rename_i hid
      rw [if_neg hid]
      simp only [rootsIds_cons]
      perm_count using eraseRoot_perm rs x xn h

theorem findRoot_erase : ∀ (l : List FN) (x y : Nat) (yn : FN), y ≠ x → findRoot y l = some yn →
    findRoot y (eraseRoot x l) = some yn
  | [], _, _, _, _, h => by simp [findRoot] at h
  | r :: rs, x, y, yn, hne, h => by
    simp only [findRoot] at h
    simp only [eraseRoot]
    split at h
    · rename_i hid
      cases h
      have : ¬ r.id = x := by rw [hid]; exact hne
      rw [if_neg this]
      simp only [findRoot]; rw [if_pos hid]
    · rename_i hid
      by_cases hx : r.id = x
      · rw [if_pos hx]; exact h
      · rw [if_neg hx]
        simp only [findRoot]; rw [if_neg hid]
        exact findRoot_erase rs x y yn hne h

theorem linkUnder_perm (ch : FN) (l : List FN) (y : Nat) (yn : FN) (h : findRoot y l = some yn) :
    (rootsIds (linkUnder ch y l)).Perm (FN.ids ch ++ rootsIds l) := by
  obtain ⟨A, B, rfl, hA, hid⟩ := findRoot_split l y yn h
  rw [linkUnder_append ch hid B A hA]
  simp only [rootsIds_append, rootsIds_cons, linked, FN.ids, FT.ids]
  perm_count

theorem link_step_perm {roots : List FN} {x y : Nat} {xn yn : FN} (hx : findRoot x roots = some xn)
    (hy : findRoot y roots = some yn) (hne : y ≠ x) :
    (rootsIds (linkUnder xn y (eraseRoot x roots))).Perm (rootsIds roots) :=
  (linkUnder_perm xn _ y yn (findRoot_erase roots x y yn hne hy)).trans (eraseRoot_perm roots x xn hx).symm

def abs (h : IFib K V) : Spec.Map K V := absOf h.nodes h.cells

structure Inv (cap : Nat) (h : IFib K V) : Prop where
  reg : Reg cap (rootsIds h.roots) h.nodes h.cells
  card : h.n = (Spec.card cap (abs h) : Int)

theorem containsIndex_eq {h : IFib K V} (r : Reg cap S h.nodes h.cells) (i : Int) :
    h.containsIndex i = (abs h i).isSome :=
  r.indexHeld_eq i

theorem meldChildren_perm (rest ch : List FN) : (meldChildren rest ch).Perm (rest ++ ch) := by
  unfold meldChildren
  cases ch with
  | nil => simp
  | cons c cs =>
    simp only []
    split
    · rename_i he
      have : rest = [] := by simpa using he
      subst this; simp
    · refine List.Perm.append_left _ ?_
      exact List.perm_append_comm

theorem removeRoot_perm {roots : List FN} {x : Nat} {rn : FN} (hrn : findRoot x roots = some rn) :
    (rootsIds roots).Perm (x :: rootsIds (meldChildren (eraseRoot x roots) rn.child.toList)) := by
  refine (eraseRoot_perm _ _ _ hrn).trans ?_
  have h1 := rootsIds_perm (meldChildren_perm (eraseRoot x roots) rn.child.toList)
  rw [rootsIds_append, FT.toList_ids] at h1
  simp only [FN.ids, findRoot_id _ _ _ hrn]
  perm_count using h1

theorem empty_of_roots_nil {h : IFib K V} (r : Reg cap (rootsIds h.roots) h.nodes h.cells)
    (hn : h.roots = []) : ∀ i, abs h i = none :=
  r.nil_iff.mp (by rw [hn]; rfl)

theorem isEmpty_iff {h : IFib K V} (r : Reg cap (rootsIds h.roots) h.nodes h.cells) :
    h.roots.isEmpty = true ↔ ∀ i, abs h i = none := by
  refine Iff.trans ?_ r.nil_iff
  cases h.roots <;> simp [rootsIds, FN.ids]

theorem inv_new (cap : Nat) : Inv cap (new cap : IFib K V) :=
  ⟨Reg.empty cap, card_replicate cap cap _⟩

theorem abs_new (cap : Nat) : abs (new cap : IFib K V) = Spec.Map.empty := absOf_replicate _ _

end IFib
end AlgoVerif.C05
