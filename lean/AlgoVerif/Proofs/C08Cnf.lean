import AlgoVerif.Proofs.C08Term
import AlgoVerif.Proofs.C08Bin
/-!
# `ChomskyNormalForm` = START, TERM, BIN, `EliminateCycles` (DEL, UNIT, unreachable): language preservation
-/
namespace AlgoVerif.C08
open AlgoVerif AlgoVerif.Gram AlgoVerif.C08.Spec

theorem cnf_eq (g : G) : cnf g = cnfStart g >>= fun g1 => cnfTerm g1 >>= fun g2 => cnfBin g2 >>= elimCycles := rfl

theorem cnf_ok {g g' : G} (h : cnf g = .ok g') :
    ∃ g1 g2 g3, cnfStart g = .ok g1 ∧ cnfTerm g1 = .ok g2 ∧ cnfBin g2 = .ok g3 ∧ elimCycles g3 = .ok g' := by
  rw [cnf_eq] at h
  obtain ⟨g1, h1, h⟩ := bind_eq_ok h
  obtain ⟨g2, h2, h⟩ := bind_eq_ok h
  obtain ⟨g3, h3, h⟩ := bind_eq_ok h
  exact ⟨g1, g2, g3, h1, h2, h3, h⟩

theorem cnf_language {g g' : G} (h : cnf g = .ok g') (hw : WellFormed g) (w : List String) :
    Language g' w ↔ Language g w := by
  obtain ⟨g1, g2, g3, h1, h2, h3, h4⟩ := cnf_ok h
  have w1 := cnfStart_wf h1 hw
  have w2 := cnfTerm_wf h2 w1
  rw [elimCycles_language h4 (cnfBin_wf h3 w2), cnfBin_language h3 w2, cnfTerm_language h2 w1,
    cnfStart_language h1 hw]

end AlgoVerif.C08
