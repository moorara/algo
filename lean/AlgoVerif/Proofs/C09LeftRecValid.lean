import AlgoVerif.Proofs.C08LeftRecMain
import AlgoVerif.Proofs.C09Valid
/-!
# The result of `EliminateLeftRecursion` passes `Verify()` when `L(G) ≠ ∅`

The result is `prune` of something well-formed (`elimLeftRec_wf`), so every declared non-terminal other than
the start symbol has a production (`prune_done`); the start symbol has one because the language is preserved
(`elimLeftRec_language`) and a sentence exists.
-/
namespace AlgoVerif.C08
open AlgoVerif AlgoVerif.Gram AlgoVerif.C08.Spec

theorem elimLeftRec_valid {g g' : G} (h : elimLeftRec g = .ok g') (hv : Valid g) (hl : ∃ w, Language g w) :
    Valid g' := by
  have hwf := elimLeftRec_wf h hv.wellFormed
  obtain ⟨w, hw⟩ := hl
  have hl' : ∃ w, Language g' w := ⟨w, (elimLeftRec_language h hv.wellFormed w).mpr hw⟩
  obtain ⟨g0, nts, g1, _, _, _, rfl⟩ := elimLeftRec_ok h
  exact valid_of_pruned hwf (prune_done _) hl'

end AlgoVerif.C08
