import AlgoVerif.Proofs.C08Cycles
/-!
# Post-conditions of the Model's results (C09): no ε-production, reachability, no unit production

At the end `iter_eq_iterStop`: the analyses of `Spec/C09.lean` run a fixed number of rounds, and an evaluation may
stop at the first round that changes nothing.
-/
namespace AlgoVerif.C08
open AlgoVerif AlgoVerif.Gram AlgoVerif.C08.Spec AlgoVerif.C09.Spec

theorem elimEmpty_noEmpty {g g' : G} (h : elimEmpty g = .ok g') (hv : WellFormed g) :
    NoEmptyExceptFreshStart g g' := by
  obtain ⟨nul, g1, _, rfl, _, _, hps⟩ := elimEmpty_built h
  intro p hp hb
  rcases hps p (prune_prods_subset _ p hp) with ⟨hne, _⟩ | ⟨hf, hh, _⟩
  · exact absurd hb hne
  · rw [prune_start]
    refine ⟨hh, hf, fun q hq hm => ?_⟩
    rcases hps q (prune_prods_subset _ q hq) with ⟨_, p₀, hp₀, _, hv₀⟩ | ⟨_, _, hb | hb⟩
    · exact hf ((hv.2 p₀ hp₀).2 _ (hv₀.sub.2 _ hm))
    · rw [hb, List.mem_singleton] at hm
      exact hf (Sym.nonterm.inj hm ▸ hv.1)
    · rw [hb] at hm; cases hm

theorem reach_declared {g : G} (hw : WellFormed g) {n : String} (h : Reach g n) : n ∈ g.nonterms := by
  induction h with
  | start => exact hw.1
  | step p n hp _ hn _ => exact (hw.2 p hp).2 (Sym.nonterm n) hn

theorem elimUnreachable_allReachable {g g' : G} (h : elimUnreachable g = .ok g') : AllReachable g' := by
  obtain ⟨hs, hn, hp, ht⟩ := elimUnreachable_spec h
  have htr : ∀ n, Reach g n → Reach g' n := by
    intro n hn
    induction hn with
    | start => exact hs ▸ .start
    | step p n hpp hh hn ih => exact .step p n ((hp p).2 ⟨hpp, hh⟩) ih hn
  exact ⟨fun n hn' => htr n ((hn n).1 hn'), fun p hpp => htr _ ((hp p).1 hpp).2, fun t htm => ((ht t).1 htm).2⟩

theorem elimUnreachable_prods_subset {g g' : G} (h : elimUnreachable g = .ok g') : ∀ p ∈ g'.prods, p ∈ g.prods :=
  fun p hp => (((elimUnreachable_spec h).2.2.1 p).1 hp).1

theorem elimCycles_noUnit {g g' : G} (h : elimCycles g = .ok g') : NoUnit g' := by
  obtain ⟨g1, g2, _, h2, h3⟩ := elimCycles_ok h
  intro p hp
  exact elimSingle_noUnit h2 p (elimUnreachable_prods_subset h3 p hp)

theorem elimCycles_allReachable {g g' : G} (h : elimCycles g = .ok g') : AllReachable g' := by
  obtain ⟨_, _, _, _, h3⟩ := elimCycles_ok h
  exact elimUnreachable_allReachable h3

def iterStop {α : Type} [DecidableEq α] (f : α → α) : Nat → α → α
  | 0, a => a
  | n + 1, a => if f a = a then a else iterStop f n (f a)

theorem iter_fixed {α : Type} {f : α → α} {a : α} (h : f a = a) : ∀ n, iter f n a = a
  | 0 => rfl
  | n + 1 => by rw [iter, h, iter_fixed h n]

theorem iter_eq_iterStop {α : Type} [DecidableEq α] (f : α → α) : ∀ n a, iter f n a = iterStop f n a
  | 0, _ => rfl
  | n + 1, a => by
    rw [iterStop]
    split
    · next h => exact iter_fixed h _
    · exact iter_eq_iterStop f n (f a)

end AlgoVerif.C08
