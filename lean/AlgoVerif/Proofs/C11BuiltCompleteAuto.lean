import AlgoVerif.Proofs.C11Built
/-!
# C11 — the fixpoints of CLOSURE and of the canonical collection (complete-item-set automaton: SLR and canonical LR(1))

What `closure` returns is the *least* closed set that contains its argument (`closure_fix`) — hence CLOSURE and GOTO respect set
equality.  `canonicalLoop` returns `.ok C` only when `canonicalNew` found nothing new: every non-empty `GOTO(I, X)`, `I ∈ C`,
`X` a symbol of the grammar, is (set-equal to) a member of `C`; every member of the collection is a closed set whose items all
satisfy any property that is preserved by moving the dot and by `closureCands`: all items are LR(1) items / all are LR(0) items.
After `BuildStateMap` (sorting) all this holds for the numbered states, and so `FindItemSet(GOTO(Iᵢ, X))` succeeds for every
symbol `X` after a dot of an item of state `i`, in a state that holds the advanced item (`statesComplete`).
-/
namespace AlgoVerif.C11.BuiltComplete
open AlgoVerif AlgoVerif.Gram AlgoVerif.C11 AlgoVerif.C11.Spec AlgoVerif.C11.Built

def ClosedSet (g : SGrammar) (nl : List String) (fe : Env) (J : List Item) : Prop :=
  ∀ i ∈ J, ∀ j ∈ closureCands g nl fe i, j ∈ J

section
variable {g : SGrammar} {nl : List String} {fe : Env}

theorem closedSet_congr {J K : List Item} (h : ∀ x, x ∈ J ↔ x ∈ K)
    (hJ : ClosedSet g nl fe J) : ClosedSet g nl fe K :=
  fun i hi j hj => (h j).mp (hJ i ((h i).mpr hi) j hj)

theorem chkClosed_of {S : StateMap} (h : ∀ I ∈ S, ClosedSet g nl fe I) :
    chkClosed g nl fe S = true := by
  unfold chkClosed
  rw [List.all_eq_true]
  intro I hI
  rw [List.all_eq_true]
  intro it hit
  have hcl := h I hI it hit
  cases hd : it.dotSym with
  | none => rfl
  | some X =>
    cases X with
    | term a => rfl
    | nonterm B =>
      simp only
      rw [List.all_eq_true]
      intro p hp
      cases hla : it.la with
      | none => simpa using hcl _ (mem_closureCands.mpr ⟨B, p, hd, hp, Or.inl ⟨hla, rfl⟩⟩)
      | some a =>
        simp only
        rw [List.all_eq_true]
        intro b hb
        simpa using hcl _ (mem_closureCands.mpr ⟨B, p, hd, hp, Or.inr ⟨a, b, hla, hb, rfl⟩⟩)

theorem closure_fix (g : SGrammar) (nl : List String) (fe : Env) (fuel : Nat) (J K : List Item)
    (hc : closure g nl fe fuel J = Outcome.ok K) :
    ClosedSet g nl fe K ∧ (∀ i ∈ J, i ∈ K) ∧
      ∀ M : List Item, (∀ i ∈ J, i ∈ M) → ClosedSet g nl fe M → ∀ i ∈ K, i ∈ M :=
  ⟨fun i hi j hj => (mem_closure_iff hc j).mpr (Clo.step ((mem_closure_iff hc i).mp hi) hj),
    closure_sub fuel J K hc, fun M hJM hM => closure_pred (· ∈ M) hM fuel J K hc hJM⟩

theorem closure_congr {f1 f2 : Nat} {J1 J2 K1 K2 : List Item}
    (h1 : closure g nl fe f1 J1 = Outcome.ok K1) (h2 : closure g nl fe f2 J2 = Outcome.ok K2)
    (hJ : ∀ x, x ∈ J1 ↔ x ∈ J2) : ∀ x, x ∈ K1 ↔ x ∈ K2 := fun x => by
  rw [mem_closure_iff h1, mem_closure_iff h2]
  exact ⟨clo_mono fun i => (hJ i).mp, clo_mono fun i => (hJ i).mpr⟩

structure ItemProp (g : SGrammar) (nl : List String) (fe : Env) (Q : Item → Prop) : Prop where
  next : ∀ i, Q i → Q i.next
  cands : ∀ i, Q i → ∀ j ∈ closureCands g nl fe i, Q j

theorem closure_all {Q : Item → Prop} (hQ : ItemProp g nl fe Q)
    (fuel : Nat) (J K : List Item) (hc : closure g nl fe fuel J = Outcome.ok K) (hJ : ∀ i ∈ J, Q i) : ∀ i ∈ K, Q i :=
  closure_pred Q hQ.cands fuel J K hc hJ

end

theorem itemProp_some (g : SGrammar) (nl : List String) (fe : Env) :
    ItemProp g nl fe (fun it => it.la.isSome = true) := by
  refine ⟨fun i hi => hi, ?_⟩
  intro i hi j hj
  obtain ⟨_, _, _, _, ⟨hla, _⟩ | ⟨_, _, _, _, rfl⟩⟩ := mem_closureCands.mp hj
  · rw [hla] at hi; simp at hi
  · rfl

theorem itemProp_none (g : SGrammar) (nl : List String) (fe : Env) :
    ItemProp g nl fe (fun it => it.la = none) := by
  refine ⟨fun i hi => hi, ?_⟩
  intro i hi j hj
  obtain ⟨_, _, _, _, ⟨_, rfl⟩ | ⟨_, _, hla, _, _⟩⟩ := mem_closureCands.mp hj
  · rfl
  · rw [hla] at hi; simp at hi

theorem advance_congr {I I' : List Item} (h : ∀ x, x ∈ I ↔ x ∈ I') (X : Sy) :
    ∀ x, x ∈ advance I X ↔ x ∈ advance I' X := by
  intro x
  rw [mem_advance, mem_advance]
  constructor
  · rintro ⟨i, hi, h2⟩; exact ⟨i, (h i).mp hi, h2⟩
  · rintro ⟨i, hi, h2⟩; exact ⟨i, (h i).mpr hi, h2⟩

theorem goto_congr {A : Auto} {I I' J J' : List Item} {X : Sy} (h : ∀ x, x ∈ I ↔ x ∈ I')
    (h1 : A.goto I X = Outcome.ok J) (h2 : A.goto I' X = Outcome.ok J') : ∀ x, x ∈ J ↔ x ∈ J' := by
  by_cases hAk : A.kernel = true
  · obtain ⟨c, hc, rfl⟩ := kgoto_ok hAk h1
    obtain ⟨c', hc', rfl⟩ := kgoto_ok hAk h2
    exact advance_congr (closure_congr hc hc' h) X
  · unfold Auto.goto at h1 h2
    rw [if_neg hAk] at h1 h2
    exact closure_congr h1 h2 (advance_congr h X)

def SetOK (A : Auto) (Q : Item → Prop) (I : List Item) : Prop :=
  ClosedSet A.g A.nl A.fe I ∧ ∀ it ∈ I, Q it

theorem setOK_congr {A : Auto} {Q : Item → Prop} {I K : List Item} (h : ∀ x, x ∈ I ↔ x ∈ K) (hI : SetOK A Q I) :
    SetOK A Q K :=
  ⟨closedSet_congr h hI.1, fun it hit => hI.2 it ((h it).mpr hit)⟩

section
variable {A : Auto} (hAk : A.kernel = false)
include hAk

theorem goto_setOK {Q : Item → Prop} (hQ : ItemProp A.g A.nl A.fe Q) {I J : List Item} {X : Sy}
    (hI : SetOK A Q I) (h1 : A.goto I X = Outcome.ok J) : SetOK A Q J := by
  rw [goto_eq hAk] at h1
  refine ⟨(closure_fix _ _ _ _ _ _ h1).1, closure_all hQ _ _ _ h1 ?_⟩
  intro i hi
  obtain ⟨i0, hi0, _, rfl⟩ := mem_advance.mp hi
  exact hQ.next i0 (hI.2 i0 hi0)

end

/-- `C` is closed under GOTO for the symbols `syms` (up to set equality; the empty set is not a state) -/
def GotoClosed (A : Auto) (syms : List Sy) (C : List (List Item)) : Prop :=
  ∀ I ∈ C, ∀ X ∈ syms, ∃ J, A.goto I X = Outcome.ok J ∧ (J = [] ∨ ∃ K ∈ C, ∀ x, x ∈ K ↔ x ∈ J)

theorem canonicalNew_nil {A : Auto} {C : List (List Item)} (h : canonicalNew A C = Outcome.ok []) :
    GotoClosed A (allSymbols A.g) C := by
  unfold canonicalNew at h
  have hstep : ∀ (I : List Item) (acc : List (List Item)) (X : Sy),
      (do let J ← A.goto I X
          if J.isEmpty || containsSet C J || containsSet acc J then pure acc else pure (acc ++ [J])) = Outcome.ok [] →
      acc = [] ∧ ∃ J, A.goto I X = Outcome.ok J ∧ (J = [] ∨ ∃ K ∈ C, ∀ x, x ∈ K ↔ x ∈ J) := by
    intro I acc X hs
    obtain ⟨J, hJ, hif⟩ := bind_eq_ok hs
    split at hif
    · next hcond =>
      cases pure_eq_ok hif
      refine ⟨rfl, J, hJ, ?_⟩
      simp only [Bool.or_eq_true, List.isEmpty_iff] at hcond
      rcases hcond with (hc | hc) | hc
      · exact Or.inl hc
      · exact Or.inr (containsSet_iff.mp hc)
      · simp [containsSet] at hc
    · simpa using pure_eq_ok hif
  have hinner := fun I acc => foldlM_nil _ (fun acc X hX => (hstep I acc X hX).1) (allSymbols A.g) acc
  intro I hI X hX
  exact (hstep I [] X ((hinner I [] ((foldlM_nil _ (fun acc I hI => (hinner I acc hI).1) C [] h).2 I hI)).2 X hX)).2

theorem grows_complete {A : Auto} {C C' : List (List Item)} (h : Grows A C C') : GotoClosed A (allSymbols A.g) C' :=
  canonicalNew_nil (grows_last h)

theorem canonical_complete {A : Auto} (hAk : A.kernel = false) {Q : Item → Prop} (hQ : ItemProp A.g A.nl A.fe Q)
    (hinit : Q A.initialItem) {C : List (List Item)} (hc : A.canonical = Outcome.ok C) :
    (∀ I ∈ C, SetOK A Q I) ∧ GotoClosed A (allSymbols A.g) C := by
  obtain ⟨I0, hI0, hg⟩ := canonical_grows hc
  simp only [hAk, Bool.false_eq_true, if_false] at hI0
  unfold Auto.closure at hI0
  refine ⟨grows_all (SetOK A Q) (fun I J X hI hg => goto_setOK hAk hQ hI hg) hg ?_, grows_complete hg⟩
  exact List.forall_mem_singleton.mpr
    ⟨(closure_fix _ _ _ _ _ _ hI0).1, closure_all hQ _ _ _ hI0 (List.forall_mem_singleton.mpr hinit)⟩

theorem mem_buildStateMap {start : String} {C : List (List Item)} {K : List Item} :
    K ∈ buildStateMap start C ↔ ∃ I ∈ C, K = sortBy (cmpItem start) I := by
  unfold buildStateMap
  rw [mem_sortBy, List.mem_map]
  constructor
  · rintro ⟨I, hI, rfl⟩; exact ⟨I, hI, rfl⟩
  · rintro ⟨I, hI, rfl⟩; exact ⟨I, hI, rfl⟩

theorem goto_found {A : Auto} {C : List (List Item)} (hc : A.canonical = Outcome.ok C) {start : String} {K : List Item}
    (hK : K ∈ buildStateMap start C) {X : Sy} (hX : X ∈ allSymbols A.g) {J : List Item}
    (hJ : A.goto K X = Outcome.ok J) (hne : J ≠ []) :
    ∃ (n : Nat) (K' : List Item), findItemSet (buildStateMap start C) J = (n : Int) ∧
      (buildStateMap start C)[n]? = some K' ∧ ∀ x, x ∈ K' ↔ x ∈ J := by
  obtain ⟨I, hI, rfl⟩ := mem_buildStateMap.mp hK
  obtain ⟨I0, _, hg⟩ := canonical_grows hc
  obtain ⟨J', hJ', hor⟩ := grows_complete hg I hI X hX
  have hJJ : ∀ x, x ∈ J ↔ x ∈ J' := goto_congr (fun x => mem_sortBy _ I x) hJ hJ'
  rcases hor with rfl | ⟨K1, hK1, hs1⟩
  · obtain ⟨y, hy⟩ := List.exists_mem_of_ne_nil _ hne
    exact absurd ((hJJ y).mp hy) (by simp)
  · exact findItemSet_found (mem_buildStateMap.mpr ⟨K1, hK1, rfl⟩) fun x => by rw [mem_sortBy, hs1 x]; exact (hJJ x).symm

/-- what the table fill needs to know about the state map -/
structure StatesComplete (A : Auto) (Q : Item → Prop) (S : StateMap) : Prop where
  setOK : ∀ K ∈ S, SetOK A Q K
  found : ∀ K ∈ S, ∀ it ∈ K, ∀ X, it.dotSym = some X → X ∈ allSymbols A.g → ∀ J, A.goto K X = Outcome.ok J →
    ∃ (n : Nat) (K' : List Item), findItemSet S J = (n : Int) ∧ S[n]? = some K' ∧ it.next ∈ K'

theorem statesComplete {A : Auto} (hAk : A.kernel = false) {Q : Item → Prop} (hQ : ItemProp A.g A.nl A.fe Q)
    (hinit : Q A.initialItem) {C : List (List Item)} (hc : A.canonical = Outcome.ok C) (start : String) :
    StatesComplete A Q (buildStateMap start C) := by
  constructor
  · intro K hK
    obtain ⟨I, hI, rfl⟩ := mem_buildStateMap.mp hK
    exact setOK_congr (fun x => (mem_sortBy _ I x).symm) ((canonical_complete hAk hQ hinit hc).1 I hI)
  · intro K hK it hit X hd hX J hJ
    have hnext : it.next ∈ J := goto_next hAk hJ hit hd
    obtain ⟨n, K', hn, hK', hs'⟩ := goto_found hc hK hX hJ (List.ne_nil_of_mem hnext)
    exact ⟨n, K', hn, hK', (hs' _).mpr hnext⟩

end AlgoVerif.C11.BuiltComplete
