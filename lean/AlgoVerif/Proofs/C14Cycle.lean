import AlgoVerif.Proofs.C14Basic
/-!
# C14 proofs — `DirectedCycle`

Ghost state: the recursion stack `stk` (current vertex first).  While no cycle has been found:
`onStack` is exactly `stk`, consecutive stack entries are linked by `edgeTo` and an arc, and the finished
vertices (visited, not on the stack) carry a rank that strictly decreases along every arc (`DoneOK`) — so
if the search ends without a cycle the graph is acyclic.  When an arc into a stack vertex is met, the
`edgeTo` chain from the current vertex down to it closes a genuine cycle.  The recursion keeps the invariant by
two steps: `DCInv.push` (enter a vertex) and `DCInv.pop` (leave it once all its successors are finished).
-/
namespace AlgoVerif.C14

def Done (c : DC) (x : Nat) : Prop := Vis c.visited x ∧ ¬ Vis c.onStack x

/-- consecutive stack entries (top first): `edgeTo[x] = y` and `y → x` is an arc -/
inductive Linked (g : Graph) (et : Array Nat) : List Nat → Prop
  | nil : Linked g et []
  | single (x : Nat) : Linked g et [x]
  | cons {x y : Nat} {r : List Nat} : et[x]? = some y → g.HasArc y x → Linked g et (y :: r) →
      Linked g et (x :: y :: r)

/-- finished vertices are ranked so that every arc out of a finished vertex leads to a finished vertex of
smaller rank; the ranks stay below `K`, so that the vertex finished next takes rank `K` (`DCInv.pop`) -/
def DoneOK (g : Graph) (c : DC) : Prop :=
  ∃ (rank : Nat → Nat) (K : Nat), (∀ x, Done c x → rank x < K) ∧
    ∀ x, Done c x → ∀ y, g.HasArc x y → Done c y ∧ rank y < rank x

structure DCInv (g : Graph) (c : DC) (stk : List Nat) : Prop where
  vsize : c.visited.size = g.n
  esize : c.edgeTo.size = g.n
  osize : c.onStack.size = g.n
  nocyc : c.cycle = none
  ons : ∀ x, Vis c.onStack x ↔ x ∈ stk
  vis : ∀ x ∈ stk, Vis c.visited x
  linked : Linked g c.edgeTo stk
  done : DoneOK g c

theorem DCInv.done_iff {g : Graph} {c : DC} {stk : List Nat} (h : DCInv g c stk) (x : Nat) :
    Done c x ↔ Vis c.visited x ∧ x ∉ stk :=
  and_congr_right' (not_congr (h.ons x))

/-- a genuine cycle is recorded (the search stops, only `visited` is still read) -/
def HasCyc (g : Graph) (c : DC) : Prop :=
  c.visited.size = g.n ∧ ∃ cyc, c.cycle = some cyc ∧ IsCycle g.HasArc cyc

/-- relation between the state `c` at some point and a later state `c'` in which still no cycle is known -/
structure DCStep (g : Graph) (c c' : DC) (stk : List Nat) : Prop where
  inv : DCInv g c' stk
  grows : ∀ x, Vis c.visited x → Vis c'.visited x
  cnt : cntF c'.visited ≤ cntF c.visited

theorem vis_unset {a : Array Bool} {i x : Nat} : Vis (a.set! i false) x ↔ x ≠ i ∧ Vis a x := by
  unfold Vis
  rw [getElem?_set!]
  by_cases h : i = x
  · subst h; by_cases h2 : i < a.size <;> simp [h2]
  · simp [h, Ne.symm h]

theorem DCInv.push {g : Graph} {c : DC} {stk : List Nat} {v : Nat} (h : DCInv g c stk)
    (hunv : c.visited[v]? = some false) (hl : Linked g c.edgeTo (v :: stk)) :
    DCInv g { c with onStack := c.onStack.set! v true, visited := c.visited.set! v true } (v :: stk) := by
  have hvlt : v < c.visited.size := (Array.getElem?_eq_some_iff.1 hunv).1
  have hons : ∀ x, Vis (c.onStack.set! v true) x ↔ x ∈ v :: stk := fun x => by
    rw [vis_set, h.ons, List.mem_cons]
    exact or_congr ⟨fun h => h.1.symm, fun e => ⟨e.symm, by rw [h.osize, ← h.vsize]; exact hvlt⟩⟩ Iff.rfl
  have hD : ∀ x, Done { c with onStack := c.onStack.set! v true, visited := c.visited.set! v true } x ↔ Done c x :=
    fun x => by
    rw [h.done_iff]; unfold Done
    rw [hons, vis_set, List.mem_cons]
    exact ⟨fun ⟨h1, h2⟩ => ⟨h1.resolve_left fun e => h2 (Or.inl e.1.symm), fun m => h2 (Or.inr m)⟩,
      fun ⟨h1, h2⟩ => ⟨Or.inr h1, fun o => o.elim (fun e => not_vis_of_false hunv (e ▸ h1)) h2⟩⟩
  obtain ⟨rank, K, h1, h2⟩ := h.done
  exact
    { vsize := (size_set! ..).trans h.vsize
      esize := h.esize
      osize := (size_set! ..).trans h.osize
      nocyc := h.nocyc
      ons := hons
      vis := List.forall_mem_cons.2 ⟨vis_set_self hvlt, fun x hx => vis_set_of_vis (h.vis x hx)⟩
      linked := hl
      done := ⟨rank, K, fun x hx => h1 x ((hD x).1 hx), fun x hx y hy =>
        (h2 x ((hD x).1 hx) y hy).imp_left (hD y).2⟩ }

theorem DCInv.pop {g : Graph} {c : DC} {stk : List Nat} {v : Nat} (h : DCInv g c (v :: stk)) (hv : v ∉ stk)
    (hall : ∀ y, g.HasArc v y → Done c y) :
    DCInv g { c with onStack := c.onStack.set! v false } stk := by
  have hons : ∀ x, Vis (c.onStack.set! v false) x ↔ x ∈ stk := fun x => by
    rw [vis_unset, h.ons, List.mem_cons]
    exact ⟨fun ⟨hne, hx⟩ => hx.resolve_left hne, fun hx => ⟨fun e => hv (e ▸ hx), Or.inr hx⟩⟩
  have hD : ∀ x, Done { c with onStack := c.onStack.set! v false } x ↔ (x = v ∨ Done c x) := fun x => by
    rw [h.done_iff]; unfold Done
    rw [hons, List.mem_cons]
    refine ⟨fun ⟨h1, h2⟩ => (Classical.em (x = v)).imp_right fun hxv => ⟨h1, fun o => o.elim hxv h2⟩, ?_⟩
    rintro (rfl | ⟨h1, h2⟩)
    · exact ⟨h.vis x (List.mem_cons_self ..), hv⟩
    · exact ⟨h1, fun m => h2 (Or.inr m)⟩
  have hne : ∀ x, Done c x → x ≠ v := fun x hx e => ((h.done_iff x).1 hx).2 (e ▸ List.mem_cons_self ..)
  obtain ⟨rank, K, h1, h2⟩ := h.done
  refine
    { vsize := h.vsize
      esize := h.esize
      osize := (size_set! ..).trans h.osize
      nocyc := h.nocyc
      ons := hons
      vis := fun x hx => h.vis x (List.mem_cons_of_mem _ hx)
      linked := by
        cases h.linked with
        | single _ => exact .nil
        | cons _ _ hr => exact hr
      done := ⟨fun z => if z = v then K else rank z, K + 1, fun x hx => ?_, fun x hx y hy => ?_⟩ }
  · rcases (hD x).1 hx with rfl | hdx
    · simp
    · simp only [hne x hdx, if_false]; exact Nat.lt_succ_of_lt (h1 x hdx)
  · -- an arc out of `v` leads to a vertex finished before; the others are ranked as before
    rcases (hD x).1 hx with rfl | hdx
    · have hdy := hall y hy
      exact ⟨(hD y).2 (Or.inr hdy), by simp only [hne y hdy, if_false, if_true]; exact h1 y hdy⟩
    · have := h2 x hdx y hy
      exact ⟨(hD y).2 (Or.inr this.1), by simp only [hne y this.1, hne x hdx, if_false]; exact this.2⟩

theorem Linked.congr {g : Graph} {et et' : Array Nat} {l : List Nat} (h : Linked g et l)
    (he : ∀ x ∈ l, et'[x]? = et[x]?) : Linked g et' l := by
  induction h with
  | nil => exact .nil
  | single x => exact .single x
  | cons h1 h2 _ ih =>
    exact .cons (by rw [he _ (by simp)]; exact h1) h2 (ih (fun x hx => he x (by simp [hx])))

theorem dcChain_linked {g : Graph} {et : Array Nat} (w : Nat) :
    ∀ (l : List Nat) (x : Nat), Linked g et (x :: l) → w ∈ x :: l → ∀ fuel acc, l.length < fuel →
      ∃ seg, dcChain et w fuel x acc = .ok (seg ++ acc) ∧ WalkFromTo g.HasArc w x (w :: seg) := by
  intro l
  induction l with
  | nil =>
    intro x _ hw fuel acc hf
    have : w = x := List.mem_singleton.1 hw
    subst this
    cases fuel with
    | zero => omega
    | succ fuel => exact ⟨[], by simp [dcChain], WalkFromTo.single _ _⟩
  | cons y r ih =>
    intro x hl hw fuel acc hf
    cases fuel with
    | zero => omega
    | succ fuel =>
      by_cases hxw : x = w
      · subst hxw
        exact ⟨[], by simp [dcChain], WalkFromTo.single _ _⟩
      · cases hl with
        | cons h1 h2 h3 =>
          have hw' : w ∈ y :: r := by
            rcases List.mem_cons.1 hw with h | h
            · exact absurd h.symm hxw
            · exact h
          obtain ⟨seg, k1, k2⟩ := ih y h3 hw' fuel (x :: acc) (by simp at hf; omega)
          refine ⟨seg ++ [x], ?_, ?_⟩
          · simp only [dcChain, hxw, if_false, h1]
            rw [k1]; simp
          · have := k2.snoc h2
            simpa using this

theorem isCycle_of_walk {E : Nat → Nat → Prop} {v w : Nat} {seg : List Nat} (e : E v w)
    (h : WalkFromTo E w v (w :: seg)) : IsCycle E (v :: w :: seg) := by
  obtain ⟨_, h2, h3⟩ := h
  refine ⟨by simp, ?_, ⟨e, h3⟩⟩
  rw [List.getLast?_cons_cons, h2]; simp

theorem dcLoop_cyc (rec : Nat → DC → Outcome DC) (v : Nat) (c : DC) (h : c.cycle.isSome = true) :
    ∀ rest, ∃ b, dcLoop rec v rest c = .ok (c, b) := by
  intro rest
  cases rest with
  | nil => exact ⟨true, rfl⟩
  | cons x rest => exact ⟨false, by simp [dcLoop, h]⟩

section

variable {g : Graph} (hg : g.WF)
include hg

/-- `hlen`: depth of the stack plus fuel stays within `n + 1`, which is what lets `dcChain`, run with fuel `n + 1`, walk down
the whole stack -/
theorem dcLoop_spec (fuel : Nat) (v : Nat) (stk : List Nat) (c0 : DC)
    (hlen : (v :: stk).length + fuel ≤ g.n + 1)
    (ih : ∀ w c stk', DCInv g c stk' → c.visited[w]? = some false → Linked g c.edgeTo (w :: stk') →
        cntF c.visited ≤ fuel → stk'.length + fuel ≤ g.n + 1 →
        ∃ c', dcDfs g fuel w c = .ok c' ∧ (HasCyc g c' ∨ (DCStep g c c' stk' ∧ Done c' w))) :
    ∀ rest done cur, g.adj.getD v [] = done ++ rest → DCStep g c0 cur (v :: stk) →
      cntF cur.visited ≤ fuel → (∀ x ∈ done, Done cur x.to) →
      ∃ cur' b, dcLoop (dcDfs g fuel) v rest cur = .ok (cur', b) ∧
        (HasCyc g cur' ∨ (b = true ∧ DCStep g c0 cur' (v :: stk) ∧ ∀ x ∈ g.adj.getD v [], Done cur' x.to)) := by
  intro rest
  induction rest with
  | nil =>
    intro done cur hadj hstep _ hdone
    refine ⟨cur, true, rfl, Or.inr ⟨rfl, hstep, ?_⟩⟩
    intro x hx; rw [hadj] at hx; exact hdone x (by simpa using hx)
  | cons x rest ihr =>
    intro done cur hadj hstep hcnt hdone
    have hinv := hstep.inv
    have hxmem : x ∈ g.adj.getD v [] := by rw [hadj]; simp
    have hxn : x.to < g.n := hg.bound v x hxmem
    have harc : g.HasArc v x.to := Graph.HasArc.of_mem hxmem
    have hadj' : g.adj.getD v [] = (done ++ [x]) ++ rest := by rw [hadj]; simp
    have hnone : cur.cycle.isSome = false := by rw [hinv.nocyc]; rfl
    rcases vis_or_false (by rw [hinv.vsize]; exact hxn : x.to < cur.visited.size) with hvis | hunv
    · rcases vis_or_false (by rw [hinv.osize]; exact hxn : x.to < cur.onStack.size) with hon | hoff
      · -- arc into the stack: a cycle
        obtain ⟨seg, k1, k2⟩ := dcChain_linked (g := g) x.to stk v hinv.linked ((hinv.ons x.to).1 hon)
          (cur.visited.size + 1) [] (by rw [hinv.vsize]; simp at hlen; omega)
        obtain ⟨b, hb⟩ := dcLoop_cyc (dcDfs g fuel) v { cur with cycle := some (v :: x.to :: seg) } rfl rest
        refine ⟨{ cur with cycle := some (v :: x.to :: seg) }, b, ?_,
          Or.inl ⟨hinv.vsize, _, rfl, isCycle_of_walk harc k2⟩⟩
        unfold dcLoop
        have h1 : cur.visited[x.to]? = some true := hvis
        have h2 : cur.onStack[x.to]? = some true := hon
        simp only [hnone, Bool.false_eq_true, if_false, h1, h2, k1, List.append_nil]
        exact hb
      · -- arc to a finished vertex
        obtain ⟨cur', b, k1, k3⟩ := ihr (done ++ [x]) cur hadj' hstep hcnt
          (List.forall_mem_append.2 ⟨hdone, List.forall_mem_singleton.2 ⟨hvis, not_vis_of_false hoff⟩⟩)
        refine ⟨cur', b, ?_, k3⟩
        unfold dcLoop
        have h1 : cur.visited[x.to]? = some true := hvis
        simp only [hnone, Bool.false_eq_true, if_false, h1, hoff]
        exact k1
    · -- unvisited: record edgeTo, recurse
      have hlt : x.to < cur.edgeTo.size := by rw [hinv.esize]; exact hxn
      have hinv1 : DCInv g { cur with edgeTo := cur.edgeTo.set! x.to v } (v :: stk) :=
        { hinv with
          esize := (size_set! ..).trans hinv.esize
          linked := hinv.linked.congr fun y hy =>
            getElem?_set!_ne _ _ fun e => not_vis_of_false hunv (e ▸ hinv.vis y hy) }
      obtain ⟨c2, hd, hres⟩ := ih x.to _ (v :: stk) hinv1 hunv
        (.cons (getElem?_set!_self _ _ hlt) harc hinv1.linked) hcnt hlen
      have hrun : dcLoop (dcDfs g fuel) v (x :: rest) cur =
          match dcDfs g fuel x.to { cur with edgeTo := cur.edgeTo.set! x.to v } with
          | .ok c' => dcLoop (dcDfs g fuel) v rest c'
          | .panic => .panic
          | .diverge => .diverge := by
        rw [dcLoop]
        simp only [hnone, Bool.false_eq_true, if_false, hunv, hlt, if_true]
        rfl
      rcases hres with ⟨hsz, cyc, hc, hic⟩ | ⟨hstep2, hdw⟩
      · obtain ⟨b, hb⟩ := dcLoop_cyc (dcDfs g fuel) v c2 (by rw [hc]; rfl) rest
        exact ⟨c2, b, by rw [hrun, hd]; exact hb, Or.inl ⟨hsz, cyc, hc, hic⟩⟩
      · obtain ⟨cur', b, k1, k3⟩ := ihr (done ++ [x]) c2 hadj'
          ⟨hstep2.inv, fun y hy => hstep2.grows y (hstep.grows y hy), Nat.le_trans hstep2.cnt hstep.cnt⟩
          (Nat.le_trans hstep2.cnt hcnt)
          (List.forall_mem_append.2 ⟨fun y h => (hstep2.inv.done_iff _).2
            ⟨hstep2.grows _ (hdone y h).1, ((hinv.done_iff _).1 (hdone y h)).2⟩, List.forall_mem_singleton.2 hdw⟩)
        exact ⟨cur', b, by rw [hrun, hd]; exact k1, k3⟩

theorem dcDfs_spec :
    ∀ fuel v c stk, DCInv g c stk → c.visited[v]? = some false → Linked g c.edgeTo (v :: stk) →
      cntF c.visited ≤ fuel → stk.length + fuel ≤ g.n + 1 →
      ∃ c', dcDfs g fuel v c = .ok c' ∧ (HasCyc g c' ∨ (DCStep g c c' stk ∧ Done c' v)) := by
  intro fuel
  induction fuel with
  | zero =>
    intro v c stk _ hunv _ hc _
    exfalso
    have := cntF_set hunv
    omega
  | succ fuel ih =>
    intro v c stk hinv hunv hl hc hlen
    have hvlt : v < c.visited.size := (Array.getElem?_eq_some_iff.1 hunv).1
    have hvn : v < g.n := hinv.vsize ▸ hvlt
    have hvo : v < c.onStack.size := by rw [hinv.osize]; exact hvn
    have hvstk : v ∉ stk := fun h => not_vis_of_false hunv (hinv.vis v h)
    have hcnt0 := cntF_set hunv
    obtain ⟨cur', b, k1, k3⟩ :=
      dcLoop_spec hg fuel v stk _ (by simp at hlen ⊢; omega) ih (g.adj.getD v []) [] _ (by simp)
        ⟨hinv.push hunv hl, fun _ h => h, Nat.le_refl _⟩ (by show cntF (c.visited.set! v true) ≤ fuel; omega) (by simp)
    have hrun : dcDfs g (fuel + 1) v c =
        match dcLoop (dcDfs g fuel) v (g.adj.getD v [])
          { c with onStack := c.onStack.set! v true, visited := c.visited.set! v true } with
        | .ok (c', true) => .ok { c' with onStack := c'.onStack.set! v false }
        | .ok (c', false) => .ok c'
        | .panic => .panic
        | .diverge => .diverge := by
      rw [dcDfs]
      simp only [hvo, hvlt, and_self, if_true, hg.adj_get hvn]
      rfl
    rcases k3 with hcyc | ⟨rfl, hstep, hall⟩
    · cases b with
      | true => exact ⟨{ cur' with onStack := cur'.onStack.set! v false }, by rw [hrun, k1], Or.inl hcyc⟩
      | false => exact ⟨cur', by rw [hrun, k1], Or.inl hcyc⟩
    · have hinv' := hstep.inv.pop hvstk fun y ⟨a, ha, e⟩ => e ▸ hall a ha
      refine ⟨_, by rw [hrun, k1], Or.inr ⟨⟨hinv', fun x hx => hstep.grows x (vis_set_of_vis hx), ?_⟩,
        (hinv'.done_iff v).2 ⟨hstep.inv.vis v (List.mem_cons_self ..), hvstk⟩⟩⟩
      have : cntF cur'.visited ≤ cntF (c.visited.set! v true) := hstep.cnt
      show cntF cur'.visited ≤ _
      omega

end

theorem dcOuter_spec {g : Graph} (hg : g.WF) (vs : List Nat) (hvs : ∀ v ∈ vs, v < g.n) (c : DC) (hinv : DCInv g c []) :
    ∃ c', dcOuter g vs c = .ok c' ∧ (HasCyc g c' ∨ (DCInv g c' [] ∧ ∀ v ∈ vs, Vis c'.visited v)) := by
  refine list_loop_inv (loop := dcOuter g)
    (I := fun done c => HasCyc g c ∨ (DCInv g c [] ∧ ∀ v ∈ done, Vis c.visited v))
    (fun _ => rfl) vs (fun done v rest c hall hI => ?_) c (.inr ⟨hinv, by simp⟩)
  have hvn : v < g.n := hvs v (by rw [hall]; simp)
  rcases hI with hcyc | ⟨hinv, hd⟩
  · obtain ⟨hsz, cyc, hc, _⟩ := id hcyc
    refine ⟨c, ?_, .inl hcyc⟩
    rcases vis_or_false (by rw [hsz]; exact hvn : v < c.visited.size) with h1 | h1
    · rw [dcOuter, show c.visited[v]? = some true from h1]
    · simp only [dcOuter, h1, hc, Option.isSome_some, if_true]
  · rcases vis_or_false (by rw [hinv.vsize]; exact hvn : v < c.visited.size) with h1 | h1
    · exact ⟨c, by rw [dcOuter, show c.visited[v]? = some true from h1],
        .inr ⟨hinv, List.forall_mem_append.2 ⟨hd, List.forall_mem_singleton.2 h1⟩⟩⟩
    · have hnone : c.cycle.isSome = false := by rw [hinv.nocyc]; rfl
      obtain ⟨c1, hd1, hres⟩ :=
        dcDfs_spec hg (g.n + 1) v c [] hinv h1 (.single v) (cntF_le_succ hinv.vsize) (by simp)
      exact ⟨c1, by simp only [dcOuter, h1, hnone, Bool.false_eq_true, if_false, hd1], hres.imp id fun ⟨hstep, hdv⟩ =>
        ⟨hstep.inv, List.forall_mem_append.2 ⟨fun x hx => hstep.grows x (hd x hx), List.forall_mem_singleton.2 hdv.1⟩⟩⟩

theorem not_acyclic_of_cycle {E : Nat → Nat → Prop} {cyc : List Nat} (h : IsCycle E cyc) : ¬ Acyclic E := by
  obtain ⟨hlen, hhl, hw⟩ := h
  match cyc, hlen, hhl, hw with
  | a :: b :: rest, _, hhl, hw =>
    intro hac
    simp only [IsWalk] at hw
    have hl : (b :: rest).getLast? = some a := by
      rw [List.getLast?_cons_cons] at hhl
      simpa using hhl.symm
    have : WalkFromTo E b a (b :: rest) := ⟨by simp, hl, hw.2⟩
    exact hac a b hw.1 this.reach

theorem acyclic_of_doneOK {g : Graph} (hg : g.WF) {c : DC} (hd : DoneOK g c)
    (hall : ∀ x, x < g.n → Done c x) : Acyclic g.HasArc := by
  obtain ⟨rank, K, _, h2⟩ := hd
  have hsrc : ∀ u v, g.HasArc u v → u < g.n := fun u v h => hg.src_lt h
  intro u v e hr
  have hu := hsrc u v e
  have h1 := (h2 u (hall u hu) v e).2
  have := (hr.closed (S := fun b => b < g.n ∧ rank b ≤ rank v)
    (fun p q hp e' => ⟨hg.arc_lt e', Nat.le_trans (Nat.le_of_lt (h2 p (hall p hp.1) q e').2) hp.2⟩) ⟨hg.arc_lt e, Nat.le_refl _⟩).2
  omega

/-- **DirectedCycle**: always returns; a reported cycle is genuine; none is reported iff the graph is acyclic -/
theorem directedCycle_spec {g : Graph} (hg : g.WF) :
    ∃ c, g.directedCycle = .ok c ∧
      (∀ cyc, c.cycleList = some cyc → IsCycle g.HasArc cyc) ∧
      (c.cycleList = none ↔ Acyclic g.HasArc) := by
  let c0 : DC := { visited := Array.replicate g.n false, edgeTo := Array.replicate g.n 0,
                   onStack := Array.replicate g.n false }
  have hinv0 : DCInv g c0 [] :=
    { vsize := by simp [c0]
      esize := by simp [c0]
      osize := by simp [c0]
      nocyc := rfl
      ons := by intro x; simp only [List.not_mem_nil, iff_false]; exact vis_replicate_false
      vis := by simp
      linked := .nil
      done := ⟨fun _ => 0, 1, fun _ _ => by simp, fun x hx => absurd hx.1 vis_replicate_false⟩ }
  obtain ⟨c, h1, h3⟩ := dcOuter_spec hg (List.range g.n) (fun v hv => List.mem_range.1 hv) c0 hinv0
  refine ⟨c, h1, ?_, ?_⟩
  · intro cyc hc
    rcases h3 with ⟨_, cyc', h, hic⟩ | ⟨hinv, _⟩
    · have : cyc' = cyc := by
        unfold DC.cycleList at hc; rw [h] at hc; exact Option.some.inj hc
      exact this ▸ hic
    · unfold DC.cycleList at hc; rw [hinv.nocyc] at hc; simp at hc
  · rcases h3 with ⟨_, cyc', h, hic⟩ | ⟨hinv, hall⟩
    · constructor
      · intro hn; unfold DC.cycleList at hn; rw [h] at hn; simp at hn
      · intro hac; exact absurd hac (not_acyclic_of_cycle hic)
    · constructor
      · intro _
        apply acyclic_of_doneOK hg hinv.done
        intro x hx
        refine ⟨hall x (List.mem_range.2 hx), ?_⟩
        intro h; have := (hinv.ons x).1 h; simp at this
      · intro _; exact hinv.nocyc

end AlgoVerif.C14
