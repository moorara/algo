import AlgoVerif.Proofs.C10Derives
/-!
# General facts about derivations (used by the C08 theorems), for arbitrary `T`, `N`

* `Derives.expands`: the soundness direction of every transformation (`Derives.of_derivable_prods`,
  `Language.of_fresh_start` and `Derives.expand` are its instances);
* `Derives.tree_induction`: induction over the parse trees of derivations of terminal strings (the completeness
  directions).

Core Lean only.
-/
namespace AlgoVerif.Gram
variable {T N : Type}

theorem Step.mono {g g' : Grammar T N} (h : ∀ p ∈ g.prods, p ∈ g'.prods) {α β} (s : Step g α β) : Step g' α β := by
  cases s with
  | mk u v p hp => exact Step.mk u v p (h p hp)

theorem Derives.mono {g g' : Grammar T N} (h : ∀ p ∈ g.prods, p ∈ g'.prods) {α β} (d : Derives g α β) :
    Derives g' α β := by
  induction d with
  | refl => exact Derives.refl _
  | tail _ s ih => exact Derives.tail ih (s.mono h)

theorem Derives.cases_head {g : Grammar T N} {α γ} (d : Derives g α γ) :
    α = γ ∨ ∃ β, Step g α β ∧ Derives g β γ := by
  induction d with
  | refl => exact Or.inl rfl
  | tail d s ih =>
    rcases ih with rfl | ⟨β, s₁, d₁⟩
    · exact Or.inr ⟨_, s, Derives.refl _⟩
    · exact Or.inr ⟨β, s₁, Derives.tail d₁ s⟩

theorem Step.of_single {g : Grammar T N} {A : N} {γ} (s : Step g [Sym.nonterm A] γ) :
    ∃ p ∈ g.prods, p.head = A ∧ γ = p.body := by
  generalize hx : [Sym.nonterm A] = x at s
  cases s with
  | mk u v p hp =>
    have : u = [] ∧ v = [] ∧ p.head = A := by
      cases u with
      | nil =>
        simp at hx
        exact ⟨rfl, hx.2, hx.1.symm⟩
      | cons a u' =>
        simp at hx
    obtain ⟨rfl, rfl, rfl⟩ := this
    exact ⟨p, hp, rfl, by simp⟩

theorem Derives.nonterm_productive {g : Grammar T N} {u v : List (Sym T N)} {A : N} {w : List T}
    (d : Derives g (u ++ [Sym.nonterm A] ++ v) (w.map Sym.term)) :
    ∃ w' : List T, Derives g [Sym.nonterm A] (w'.map Sym.term) := by
  rw [List.append_assoc] at d
  obtain ⟨γ₁, γ₂, h, _, d₂⟩ := d.split
  obtain ⟨δ₁, δ₂, h', dA, _⟩ := d₂.split
  have hδ : ∃ w' : List T, δ₁ = w'.map Sym.term := by
    have h2 : w.map Sym.term = γ₁ ++ (δ₁ ++ δ₂) := by rw [h, h']
    obtain ⟨w₁, w₂, _, _, hw₂⟩ := List.map_eq_append_iff.mp h2
    obtain ⟨w₃, w₄, _, hw₃, _⟩ := List.map_eq_append_iff.mp hw₂
    exact ⟨w₃, hw₃.symm⟩
  obtain ⟨w', rfl⟩ := hδ
  exact ⟨w', dA⟩

theorem Derives.has_prod {g : Grammar T N} {A : N} {w : List T}
    (d : Derives g [Sym.nonterm A] (w.map Sym.term)) :
    ∃ p ∈ g.prods, p.head = A ∧ Derives g p.body (w.map Sym.term) := by
  rcases d.cases_head with h | ⟨β, s, d'⟩
  · cases w <;> simp at h
  · obtain ⟨p, hp, hh, rfl⟩ := s.of_single
    exact ⟨p, hp, hh, d'⟩

/-- `Expands R α β`: `β` is `α` with every symbol `s` replaced by some string `x` with `R s x` -/
inductive Expands (R : Sym T N → List (Sym T N) → Prop) : List (Sym T N) → List (Sym T N) → Prop where
  | nil : Expands R [] []
  | cons {s x α β} : R s x → Expands R α β → Expands R (s :: α) (x ++ β)

namespace Expands
variable {R : Sym T N → List (Sym T N) → Prop}

theorem single {s x} (h : R s x) : Expands R [s] x := by
  simpa using Expands.cons h Expands.nil

theorem of_single {s β} (h : Expands R [s] β) : R s β := by
  cases h with
  | cons hr h' => cases h'; simpa using hr

theorem append {α₁ β₁ α₂ β₂} (h₁ : Expands R α₁ β₁) (h₂ : Expands R α₂ β₂) :
    Expands R (α₁ ++ α₂) (β₁ ++ β₂) := by
  induction h₁ with
  | nil => simpa using h₂
  | cons hr _ ih => simpa [List.append_assoc] using Expands.cons hr ih

theorem of_append : ∀ {α₁ α₂ β}, Expands R (α₁ ++ α₂) β →
    ∃ β₁ β₂, β = β₁ ++ β₂ ∧ Expands R α₁ β₁ ∧ Expands R α₂ β₂
  | [], _, β, h => ⟨[], β, rfl, Expands.nil, h⟩
  | s :: α₁, α₂, _, h => by
    cases h with
    | cons hr h' =>
      obtain ⟨β₁, β₂, rfl, h1, h2⟩ := of_append h'
      exact ⟨_, β₂, by simp, Expands.cons hr h1, h2⟩

theorem eq_of_id {α β} (h : Expands R α β) (hid : ∀ s ∈ α, ∀ x, R s x → x = [s]) : β = α := by
  induction h with
  | nil => rfl
  | cons hr _ ih =>
    rw [hid _ (List.mem_cons_self ..) _ hr, ih (fun s hs => hid s (List.mem_cons_of_mem _ hs))]
    rfl

theorem refl_of {α} (h : ∀ s ∈ α, R s [s]) : Expands R α α := by
  induction α with
  | nil => exact Expands.nil
  | cons s α ih =>
    exact Expands.cons (h s (List.mem_cons_self ..)) (ih (fun s hs => h s (List.mem_cons_of_mem _ hs)))

end Expands

/-- **Backward simulation through an expansion relation.**  `R` says what a symbol of `g'` may stand for in `g`.
If every production `A → β` of `g'` is matched — whatever `b` the body stands for, the head can stand for some
`x` with `x ⇒* b` in `g` — then every derivation of `g'` is matched by one of `g`, read from its end. -/
theorem Derives.expands {g g' : Grammar T N} (R : Sym T N → List (Sym T N) → Prop)
    (h : ∀ p ∈ g'.prods, ∀ b, Expands R p.body b → ∃ x, R (Sym.nonterm p.head) x ∧ Derives g x b)
    {α' β' : List (Sym T N)} (d : Derives g' α' β') :
    ∀ β, Expands R β' β → ∃ α, Expands R α' α ∧ Derives g α β := by
  induction d with
  | refl => exact fun β hβ => ⟨β, hβ, Derives.refl _⟩
  | tail _ s ih =>
    intro β hβ
    cases s with
    | mk u v p hp =>
      obtain ⟨_, βv, rfl, h1, hv⟩ := hβ.of_append
      obtain ⟨βu, βb, rfl, hu, hb⟩ := h1.of_append
      obtain ⟨x, hx, dx⟩ := h p hp βb hb
      obtain ⟨α, hα, dα⟩ := ih (βu ++ x ++ βv) ((hu.append (Expands.single hx)).append hv)
      exact ⟨α, hα, dα.trans ((dx.append_left βu).append_right βv)⟩

theorem Language.of_expands {g g' : Grammar T N} (R : Sym T N → List (Sym T N) → Prop)
    (hT : ∀ t, R (Sym.term t) [Sym.term t])
    (hS : ∀ x, R (Sym.nonterm g'.start) x → x = [Sym.nonterm g.start])
    (h : ∀ p ∈ g'.prods, ∀ b, Expands R p.body b → ∃ x, R (Sym.nonterm p.head) x ∧ Derives g x b)
    {w : List T} (hw : Language g' w) : Language g w := by
  obtain ⟨α, hα, d⟩ := Derives.expands R h hw _
    (Expands.refl_of (by intro s hs; obtain ⟨t, _, rfl⟩ := List.mem_map.1 hs; exact hT t))
  rwa [hS _ hα.of_single] at d

theorem Derives.of_derivable_prods {g g' : Grammar T N} (h : ∀ p ∈ g'.prods, Derives g [Sym.nonterm p.head] p.body)
    {α β : List (Sym T N)} (d : Derives g' α β) : Derives g α β := by
  obtain ⟨α₀, hα, d₀⟩ := Derives.expands (fun s x => x = [s])
    (fun p hp b hb => ⟨_, rfl, hb.eq_of_id (fun _ _ _ hx => hx) ▸ h p hp⟩) d β (Expands.refl_of fun _ _ => rfl)
  rwa [hα.eq_of_id fun _ _ _ hx => hx] at d₀

theorem Language.of_derivable {g g' : Grammar T N} (hs : g'.start = g.start)
    (h : ∀ p ∈ g.prods, Derives g' [Sym.nonterm p.head] p.body) {w : List T} (hw : Language g w) :
    Language g' w := by
  unfold Language at hw ⊢
  rw [hs]
  exact Derives.of_derivable_prods h hw

theorem Derives.tree_induction {g : Grammar T N} {Q : List (Sym T N) → List T → Prop}
    (nil : Q [] [])
    (term : ∀ t β w, Q β w → Q (Sym.term t :: β) (t :: w))
    (nonterm : ∀ p ∈ g.prods, ∀ β w₁ w₂, Derives g p.body (w₁.map Sym.term) → Q p.body w₁ → Q β w₂ →
      Q (Sym.nonterm p.head :: β) (w₁ ++ w₂))
    {α : List (Sym T N)} {w : List T} (d : Derives g α (w.map Sym.term)) : Q α w := by
  -- by the number of steps (for the body of the first production), inside it by the form
  have key : ∀ k, ∀ (α : List (Sym T N)), ∀ j ≤ k, ∀ w : List T, DerivesN g j α (w.map Sym.term) → Q α w := by
    intro k
    induction k using Nat.strongRecOn with
    | _ k ih =>
      intro α
      induction α with
      | nil =>
        intro j _ w d
        rw [List.map_eq_nil_iff.1 d.of_nil.1]
        exact nil
      | cons s α ihα =>
        intro j hj w d
        have d' : DerivesN g j ([s] ++ α) (w.map Sym.term) := d
        obtain ⟨n₁, n₂, γ₁, γ₂, hn, hγ, d₁, d₂⟩ := d'.split
        obtain ⟨w₁, w₂, rfl, rfl, rfl⟩ := List.map_eq_append_iff.mp hγ
        have hα := ihα n₂ (by omega) w₂ d₂
        cases s with
        | term t =>
          match w₁, (DerivesN.of_terms (w := [t]) d₁).1 with
          | [_], h => cases h; exact term t α w₂ hα
        | nonterm X =>
          cases n₁ with
          | zero => cases w₁ <;> cases d₁
          | succ m =>
            obtain ⟨p, hp, rfl, db⟩ := d₁.of_single
            exact nonterm p hp α w₁ w₂ db.toDerives (ih m (by omega) p.body m (Nat.le_refl _) w₁ db) hα
  obtain ⟨k, dk⟩ := d.toDerivesN
  exact key k α k (Nat.le_refl _) w dk

end AlgoVerif.Gram
