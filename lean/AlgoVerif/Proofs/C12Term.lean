import AlgoVerif.Proofs.C12Complete
import AlgoVerif.Proofs.C10LL1
import AlgoVerif.Proofs.C10Term
/-! The predictive parser's loop returns on EVERY token sequence when the table is conflict-free.

Between two matches the lookahead is fixed, and the cell of the non-terminal on top of the stack says how the run goes
on (`halts_nonterm`).  An entry that is there because its body produces the lookahead is the first step of a
derivation of a string that starts with the lookahead, and the run follows that derivation to the match
(`ends_derives`).  An entry that is there because its body vanishes starts a stretch of such entries; the cell holds
one production only, so they are the steps of a derivation `π ⇒* ε` of a prefix of the stack, which gets shorter
(`halts_vanish`), and then the stack is shorter (`halts_stack`).

`cell_tableLL1`, the one instance of `TableLL1` (`Proofs/C12Complete.lean`), is here and not there: its `shape` needs that
the computed sets hold declared terminals only (`computeFirst_inv`, `computeFollow_inv` of `Proofs/C10Term.lean`). -/
set_option linter.unusedSectionVars false
namespace AlgoVerif.C10
open AlgoVerif AlgoVerif.Gram
variable {T N : Type} [DecidableEq T] [DecidableEq N]
variable {g : Grammar T N}

section halt
variable {g : Grammar T N} {M : N → Option T → List (GProd T N)} {Fo : N → Option T → Prop}

abbrev Halts (M : N → Option T → List (GProd T N)) := Ends M fun _ => True

theorem halts_noentry {A : N} {σ : List (Sym T N)} {input : List T}
    (hM : M A input.head? = []) : Halts M (Sym.nonterm A :: σ) input :=
  fun _ _ => ⟨1, .reject .noEntry, by simp [parseLoop, hM], trivial⟩

theorem halts_term {t : T} {σ : List (Sym T N)} {input : List T}
    (h : ∀ rest, input = t :: rest → Halts M σ rest) : Halts M (Sym.term t :: σ) input := by
  by_cases hi : ∃ rest, input = t :: rest
  · obtain ⟨rest, rfl⟩ := hi
    exact (h rest rfl).shift
  · intro pos evs
    refine ⟨1, .reject .terminal, ?_, trivial⟩
    cases input with
    | nil => rfl
    | cons a rest => simp [parseLoop, show t ≠ a from fun e => hi ⟨rest, e ▸ rfl⟩]

theorem halts_nil {input : List T} : Halts M ([] : List (Sym T N)) input := by
  cases input with
  | nil => exact Ends.nil fun _ => trivial
  | cons a rest => exact fun _ _ => ⟨1, .reject .trailing, rfl, trivial⟩

variable (hv : validB g = true) (hM : TableLL1 g M Fo)
include hv hM

section lookahead
-- the lookahead is the head of `input`; behind a match the loop returns
variable {input : List T}
  (hshort : ∀ t rest, input = t :: rest → ∀ (σ : List (Sym T N)) (u : List T), Ctx g u σ → Halts M σ rest)
include hshort

theorem halts_nonterm {A : N} {τ : List (Sym T N)} {u : List T} (hctx : Ctx g u (Sym.nonterm A :: τ))
    (h : ∀ p, M A input.head? = [p] → p ∈ g.prods → p.head = A → input.head? ∈ columns g →
      Spec.Eps g p.body → Fo A input.head? → Halts M (p.body ++ τ) input) :
    Halts M (Sym.nonterm A :: τ) input := by
  rcases hM.shape A input.head? (hctx.head_nonterm hv) with h0 | ⟨p, hp1, hp2, rfl, hcol, ⟨a, hc, β, hβ⟩ | ⟨he, hfo⟩⟩
  · exact halts_noentry h0
  · apply Ends.expand hp1
    obtain ⟨n, hn⟩ := (hβ.append_right τ).toDerivesN
    cases input with
    | nil => cases hc
    | cons b rest =>
      cases hc
      exact ends_derives hv hM (γ := Sym.term a :: (β ++ τ)) rfl nofun
        (fun a' rest' _ hi _ σ u' hc' _ => hshort a' rest' hi σ u' hc') n _ u hn (hctx.expand hp2)
  · exact Ends.expand hp1 (h p hp1 hp2 rfl hcol he hfo)

theorem halts_vanish {rest : List (Sym T N)} (hrest : ∀ u, Ctx g u rest → Halts M rest input) :
    ∀ (m : Nat) (π : List (Sym T N)) (u : List T),
      DerivesN g m π [] → Ctx g u (π ++ rest) → Halts M (π ++ rest) input := by
  intro m
  induction m using Nat.strongRecOn with
  | _ m ihm =>
    intro π u hd hctx
    match π with
    | [] => exact hrest u hctx
    | .term t :: π' => obtain ⟨_, hγ, _⟩ := hd.of_term_cons; cases hγ
    | .nonterm A :: π' =>
      obtain ⟨q, k, m₂, γ₁, γ₂, hq, rfl, rfl, hγ, dq, d₂⟩ := hd.of_nonterm_cons nofun
      obtain ⟨rfl, rfl⟩ := List.append_eq_nil_iff.1 hγ.symm
      apply halts_nonterm hv hM hshort (τ := π' ++ rest) hctx
      intro p hp1 _ _ hcol _ hfo
      -- the cell holds one production, and `q` belongs there as well
      have hq' := hM.pick q _ hq (Ctx.head_nonterm (σ := π' ++ rest) hv hctx) hcol (Or.inr ⟨dq.toDerives, hfo⟩)
      obtain rfl : p = q := by rw [hp1] at hq'; simpa using hq'
      have := ihm (k + m₂) (by omega) (p.body ++ π') u (by simpa using DerivesN.append dq d₂)
        (by simpa using Ctx.expand (σ := π' ++ rest) hq hctx)
      simpa using this

theorem halts_stack :
    ∀ (stack : List (Sym T N)) (u : List T), Ctx g u stack → Halts M stack input := by
  intro stack
  induction stack with
  | nil => exact fun _ _ => halts_nil
  | cons X σ ih =>
    intro u hctx
    cases X with
    | term t => exact halts_term fun rest hr => hshort t rest hr σ (u ++ [t]) hctx.shift
    | nonterm A =>
      apply halts_nonterm hv hM hshort hctx
      rintro p - hp rfl - he -
      obtain ⟨k, hk⟩ := he.toDerivesN
      exact halts_vanish hv hM hshort ih k p.body u hk (hctx.expand hp)

end lookahead

theorem halts_all :
    ∀ (input : List T) (stack : List (Sym T N)) (u : List T), Ctx g u stack → Halts M stack input := by
  intro input
  induction input with
  | nil => exact halts_stack hv hM nofun
  | cons b input' ih => exact halts_stack hv hM fun t rest hr => by cases hr; exact ih

end halt

/-- "column `col` is in the computed FOLLOW(A)": the FOLLOW half of `InCellP`, by column -/
def FoOf (fo : N → TEnd T) (A : N) : Option T → Prop
  | some a => a ∈ (fo A).terms
  | none => (fo A).endm = true

theorem cell_tableLL1 (hv : validB g = true)
    {o₁ o₂ : IterOrder T N} (h₁ : o₁.Fair) (h₂ : o₂.Fair) {an : Analysis T N}
    (h : analyse g o₁ o₂ = .ok an) (hcf : conflicts g (firstStr an.first) an.follow = []) :
    TableLL1 g (cell g (firstStr an.first) an.follow) (FoOf an.follow) := by
  have hf := (analyse_ok h).1
  have hfo := (analyse_ok h).2
  have hfinv := computeFirst_inv hv h₁ hf
  have hfoinv : FollowInv g an.follow := computeFollow_inv hv h₂ (firstStr_declared hfinv) hfo
  have incell : ∀ (p : GProd T N) (col : Option T),
      InCellP (firstStr an.first) an.follow p col ↔
        ((∃ a, col = some a ∧ Spec.First g p.body a) ∨ (Spec.Eps g p.body ∧ FoOf an.follow p.head col)) := by
    intro p col
    cases col with
    | none =>
      simp only [InCellP, FoOf, first_exact_eps h₁ hf]
      exact ⟨Or.inr, fun hh => hh.elim (fun ⟨_, ha, _⟩ => nomatch ha) id⟩
    | some a =>
      simp only [InCellP, FoOf, first_exact_eps h₁ hf, first_exact_terms h₁ hf]
      exact or_congr ⟨fun hh => ⟨a, rfl, hh⟩, fun ⟨_, hb, hh⟩ => Option.some.inj hb ▸ hh⟩ Iff.rfl
  refine ⟨fun A => (follow_complete h₁ h₂ h A).1, fun A => (follow_complete h₁ h₂ h A).2, ?_, ?_⟩
  · intro p col hp hA hcol hcase
    exact cell_singleton hcf hp hA hcol ((incell p col).2 hcase)
  · intro A col hA
    cases hc : cell g (firstStr an.first) an.follow A col with
    | nil => exact Or.inl rfl
    | cons x xs =>
      right
      obtain ⟨x1, x2, x3⟩ := mem_cell.1 (by rw [hc]; exact List.mem_cons_self ..)
      have hcol : col ∈ columns g := by
        cases col with
        | none => exact mem_columns_none
        | some a =>
          apply mem_columns_some
          rcases x3 with h3 | ⟨_, h3⟩
          · exact firstStr_declared hfinv _ (valid_prod hv x1).2 a h3
          · exact (hfoinv.1 _ a h3).2
      have hsing := cell_singleton hcf x1 (x2 ▸ hA) hcol x3
      rw [x2, hc] at hsing
      refine ⟨x, hsing, x1, x2, hcol, ?_⟩
      have := (incell x col).1 x3
      rwa [x2] at this

theorem parse_terminates (hv : validB g = true)
    {o₁ o₂ : IterOrder T N} (h₁ : o₁.Fair) (h₂ : o₂.Fair) {an : Analysis T N}
    (h : analyse g o₁ o₂ = .ok an) (hcf : conflicts g (firstStr an.first) an.follow = []) (w : List T) :
    ∃ fuel r, parseLoop (cell g (firstStr an.first) an.follow) fuel [Sym.nonterm g.start] w 0 [] = .ok r := by
  have hM := cell_tableLL1 hv h₁ h₂ h hcf
  obtain ⟨fuel, r, hr, -⟩ := halts_all hv hM w [Sym.nonterm g.start] [] (by simpa [Ctx] using Derives.refl _) 0 []
  exact ⟨fuel, r, hr⟩

end AlgoVerif.C10
