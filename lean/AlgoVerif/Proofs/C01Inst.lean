import AlgoVerif.Model.C01
import AlgoVerif.Proofs.C01Spec
/-!
# C01 / C15: instances used by the non-vacuity examples
-/
namespace AlgoVerif.C01

theorem cmpAsc_sign (a b : Int) :
    (cmpAsc a b < 0 ↔ a < b) ∧ (cmpAsc a b = 0 ↔ a = b) ∧ (0 < cmpAsc a b ↔ b < a) := by
  unfold cmpAsc
  split
  · omega
  · split <;> omega

theorem lawful_cmpAsc : LawfulCmp cmpAsc where
  eq_iff := fun a b => (cmpAsc_sign a b).2.1
  flip := fun a b => by rw [(cmpAsc_sign a b).1, (cmpAsc_sign b a).2.2]
  trans := fun a b c => by
    rw [(cmpAsc_sign a b).1, (cmpAsc_sign b c).1, (cmpAsc_sign a c).1]; omega

theorem lawful_cmpDesc : LawfulCmp cmpDesc := lawful_cmpAsc.swap

theorem lawful_cmpDiff : LawfulCmp cmpDiff where
  eq_iff := fun a b => by unfold cmpDiff; omega
  flip := fun a b => by unfold cmpDiff; omega
  trans := fun a b c h1 h2 => by unfold cmpDiff at *; omega

theorem lawful_cmpDiff7 : LawfulCmp cmpDiff7 where
  eq_iff := fun a b => by unfold cmpDiff7; omega
  flip := fun a b => by unfold cmpDiff7; omega
  trans := fun a b c h1 h2 => by unfold cmpDiff7 at *; omega

theorem lawful_cmpRDiff : LawfulCmp cmpRDiff := lawful_cmpDiff.swap

theorem lawful_cmpRDiff3 : LawfulCmp cmpRDiff3 where
  eq_iff := fun a b => by unfold cmpRDiff3; omega
  flip := fun a b => by unfold cmpRDiff3; omega
  trans := fun a b c h1 h2 => by unfold cmpRDiff3 at *; omega

theorem cmpLex_sign (f : Int → Int) (a b : Int) :
    (cmpLex f a b < 0 ↔ f a < f b ∨ f a = f b ∧ a < b) ∧ (cmpLex f a b = 0 ↔ a = b) ∧
    (0 < cmpLex f a b ↔ f b < f a ∨ f a = f b ∧ b < a) := by
  have : a = b → f a = f b := congrArg f
  have := cmpAsc_sign a b
  unfold cmpLex
  split
  · omega
  · split <;> omega

theorem lawful_cmpLex (f : Int → Int) : LawfulCmp (cmpLex f) where
  eq_iff := fun a b => (cmpLex_sign f a b).2.1
  flip := fun a b => by rw [(cmpLex_sign f a b).1, (cmpLex_sign f b a).2.2]; omega
  trans := fun a b c => by
    rw [(cmpLex_sign f a b).1, (cmpLex_sign f b c).1, (cmpLex_sign f a c).1]; omega

theorem lawful_cmpAbsSign : LawfulCmp cmpAbsSign := lawful_cmpLex absI
theorem lawful_cmpEvenOdd : LawfulCmp cmpEvenOdd := lawful_cmpLex parityI

def okAnd {α : Type} (o : Outcome α) (p : α → Bool) : Bool :=
  match o with
  | .ok a => p a
  | _ => false

def outBools {K V : Type} : List (Out K V) → List Bool
  | [] => []
  | .bool b :: os => b :: outBools os
  | _ :: os => outBools os

end AlgoVerif.C01
