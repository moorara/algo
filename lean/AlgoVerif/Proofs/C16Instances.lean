import AlgoVerif.Driver.C16
import AlgoVerif.Proofs.C16Algebra
/-!
# C16: the callbacks the driver runs the Model with are lawful and the set objects of the `example`s valid (non-vacuity
of the theorems' hypotheses)
-/
namespace AlgoVerif.C16
open AlgoVerif.C16.Driver
variable {α : Type}

theorem eqI_law : EqLaw (fun _ => True) Eq eqI := by
  intro a b _ _
  exact ⟨a == b, rfl, by simp⟩

def signAsc (a b : Int) : Int := if a < b then -1 else if a > b then 1 else 0
def signDesc (a b : Int) : Int := if a < b then 1 else if a > b then -1 else 0

theorem cmpAsc_law : CmpLaw (fun _ => True) Eq cmpAsc := by
  refine ⟨signAsc, fun _ _ _ _ => rfl, ?_, ?_, ?_⟩ <;> intros <;> simp only [signAsc] at * <;>
    (repeat' split) <;> omega

theorem cmpDesc_law : CmpLaw (fun _ => True) Eq cmpDesc := by
  refine ⟨signDesc, fun _ _ _ _ => rfl, ?_, ?_, ?_⟩ <;> intros <;> simp only [signDesc] at * <;>
    (repeat' split) <;> omega

theorem cmpSub_law : CmpLaw (fun _ => True) Eq cmpSub := by
  refine ⟨fun a b => a - b, fun _ _ _ _ => rfl, ?_, ?_, ?_⟩ <;> intros <;> simp only at * <;> omega

theorem cmpSub7_law : CmpLaw (fun _ => True) Eq cmpSub7 := by
  refine ⟨fun a b => 7 * (a - b), fun _ _ _ _ => rfl, ?_, ?_, ?_⟩ <;> intros <;> simp only at * <;> omega

theorem cmpRevSub_law : CmpLaw (fun _ => True) Eq cmpRevSub := by
  refine ⟨fun a b => b - a, fun _ _ _ _ => rfl, ?_, ?_, ?_⟩ <;> intros <;> simp only at * <;> omega

def idShuffle : Shuffle Unit := fun n g => (List.range n, g)

theorem idShuffle_law : ShLaw idShuffle := fun _ _ => List.Perm.refl _

/-- a reversing "shuffle" (a lawful one that is not the identity) -/
def revShuffle : Shuffle Unit := fun n g => ((List.range n).reverse, g)

theorem revShuffle_law : ShLaw revShuffle := fun _ _ => List.reverse_perm _

theorem wf0_unordered {equal : EqualFunc α} (hl : EqLaw (fun _ => True) Eq equal) {l : List α} (hnd : l.Nodup) :
    WF0 (⟨.unordered equal, l⟩ : MSet α) :=
  ⟨fun _ _ => trivial, hnd, hl, fun _ h => by cases h⟩

theorem wf0_stable {equal : EqualFunc α} (hl : EqLaw (fun _ => True) Eq equal) {l : List α} (hnd : l.Nodup) :
    WF0 (⟨.stable equal, l⟩ : MSet α) :=
  ⟨fun _ _ => trivial, hnd, hl, fun _ h => by cases h⟩

theorem wf0_sorted {compare : CompareFunc α} (hl : CmpLaw (fun _ => True) Eq compare) {l : List α}
    (hs : SortedBy compare l) : WF0 (⟨.sorted compare, l⟩ : MSet α) := by
  refine ⟨fun _ _ => trivial, ?_, hl, fun c h => by cases h; exact hs⟩
  obtain ⟨c, hc, hc0, _, _⟩ := hl
  refine List.Pairwise.imp ?_ hs
  rintro a b ⟨c', h, hlt⟩ hab
  rw [hc a b trivial trivial] at h
  cases h
  have := (hc0 a b).2 hab
  omega

theorem sortedBy_cmpAsc {l : List Int} (h : l.Pairwise (· < ·)) : SortedBy cmpAsc l := by
  refine List.Pairwise.imp ?_ h
  intro a b hab
  exact ⟨-1, by simp [cmpAsc, hab], by omega⟩

theorem sortedBy_cmpDesc {l : List Int} (h : l.Pairwise (· > ·)) : SortedBy cmpDesc l := by
  refine List.Pairwise.imp ?_ h
  intro a b hab
  refine ⟨-1, ?_, by omega⟩
  have h1 : ¬ a < b := by omega
  simp [cmpDesc, h1, hab]

theorem swapIfInBounds_perm (a : Array Nat) (i j : Nat) : (a.swapIfInBounds i j).Perm a := by
  unfold Array.swapIfInBounds
  split
  · split
    · exact Array.swap_perm _ _
    · exact Array.Perm.refl _
  · exact Array.Perm.refl _

theorem shuffleLoop_perm : ∀ (i : Nat) (a : Array Nat) (g : UInt32), (shuffleLoop i a g).1.Perm a
  | 0, a, _ => Array.Perm.refl a
  | i + 1, a, g => by
    unfold shuffleLoop
    exact (shuffleLoop_perm i _ _).trans (swapIfInBounds_perm a _ _)

theorem shuffle_law : ShLaw Driver.shuffle := by
  intro n g
  have := shuffleLoop_perm (n - 1) (Array.range n) g
  rw [Array.perm_iff_toList_perm, Array.toList_range] at this
  exact this

/-- "every operand is valid", "every callback is lawful" for the literal lists of the `example`s -/
theorem forall_mem_pair {β : Type} {p : β → Prop} {a b : β} (ha : p a) (hb : p b) : ∀ x ∈ [a, b], p x :=
  List.forall_mem_cons.2 ⟨ha, List.forall_mem_cons.2 ⟨hb, fun _ h => nomatch h⟩⟩

theorem forall_mem_triple {β : Type} {p : β → Prop} {a b c : β} (ha : p a) (hb : p b) (hc : p c) :
    ∀ x ∈ [a, b, c], p x :=
  List.forall_mem_cons.2 ⟨ha, forall_mem_pair hb hc⟩

def exUnordered : MSet Int := ⟨.unordered eqI, [4, 1, 3]⟩
def exStable : MSet Int := ⟨.stable eqI, [5, 1, 4]⟩
def exAsc : MSet Int := ⟨.sorted cmpAsc, [1, 3, 5]⟩
def exDesc : MSet Int := ⟨.sorted cmpDesc, [6, 3, 2]⟩

def exSub7 : MSet Int := ⟨.sorted cmpSub7, [-2, 0, 9]⟩
theorem exSub7_wf : WF0 exSub7 := by
  refine wf0_sorted cmpSub7_law ?_
  refine List.Pairwise.imp (R := (· < ·)) ?_ (by simp)
  intro a b hab
  exact ⟨7 * (a - b), rfl, by omega⟩

theorem exUnordered_wf : WF0 exUnordered := wf0_unordered eqI_law (by decide)
theorem exStable_wf : WF0 exStable := wf0_stable eqI_law (by decide)
theorem exAsc_wf : WF0 exAsc := wf0_sorted cmpAsc_law (sortedBy_cmpAsc (by simp))
theorem exDesc_wf : WF0 exDesc := wf0_sorted cmpDesc_law (sortedBy_cmpDesc (by simp))

end AlgoVerif.C16
