import AlgoVerif.Proofs.C08LeftRecImm
/-!
# `EliminateLeftRecursion` preserves the language (C08)

`elimLeftRec g = elimCycles g`, then for the non-terminals `A₁ … Aₙ` in the order of `orderNT`:
substitute `Aⱼ` (j < i) into the `Aᵢ`-productions that begin with it (`lrSubst`), remove the immediate left
recursion of `Aᵢ` (`lrImmediate`); finally `prune`.  Every step preserves the language and
well-formedness (`Proofs/C08LeftRecSubst.lean`, `Proofs/C08LeftRecImm.lean`), whatever the order — so the
theorem needs nothing about `orderNT` and not even `Hygienic`: freshness of `A′` comes from
`addNew_ok` and well-formedness alone.
-/
namespace AlgoVerif.C08
open AlgoVerif AlgoVerif.Gram AlgoVerif.C08.Spec

def LRInv (g0 g : G) : Prop := WellFormed g ∧ ∀ w, Language g w ↔ Language g0 w

theorem lrSubst_fold_inv {g0 : G} (Ai : String) (done : List String) (g : G) (h : LRInv g0 g) :
    LRInv g0 (done.foldl (fun g Aj => lrSubst g Ai Aj) g) :=
  List.foldlRecOn done _ (motive := LRInv g0) h fun a ha Aj _ =>
    ⟨lrSubst_wf ha.1 Ai Aj, fun w => (lrSubst_language a Ai Aj w).trans (ha.2 w)⟩

theorem lrLoop_inv {g0 : G} : ∀ (rest done : List String) (g g' : G), LRInv g0 g →
    lrLoop done rest g = .ok g' → LRInv g0 g' := by
  intro rest
  induction rest with
  | nil =>
    intro done g g' hinv h
    simp [lrLoop, pure] at h
    subst h; exact hinv
  | cons Ai rest ih =>
    intro done g g' hinv h
    simp only [lrLoop] at h
    have h1 := lrSubst_fold_inv Ai done g hinv
    generalize done.foldl (fun g Aj => lrSubst g Ai Aj) g = g1 at h h1
    obtain ⟨g2, h2, h⟩ := bind_eq_ok h
    refine ih (done ++ [Ai]) g2 g' ?_ h
    exact ⟨lrImmediate_wf h2 h1.1, fun w => (lrImmediate_language h2 h1.1 w).trans (h1.2 w)⟩

theorem elimLeftRec_ok {g g' : G} (h : elimLeftRec g = .ok g') :
    ∃ g0 nts g1, elimCycles g = .ok g0 ∧ orderNT g0 = .ok nts ∧ lrLoop [] nts g0 = .ok g1 ∧ g' = prune g1 := by
  unfold elimLeftRec at h
  obtain ⟨g0, h0, h⟩ := bind_eq_ok h
  obtain ⟨nts, h1, h⟩ := bind_eq_ok h
  obtain ⟨g1, h2, h⟩ := bind_eq_ok h
  cases h
  exact ⟨g0, nts, g1, h0, h1, h2, rfl⟩

theorem elimLeftRec_wf {g g' : G} (h : elimLeftRec g = .ok g') (hw : WellFormed g) : WellFormed g' := by
  obtain ⟨g0, nts, g1, h0, _, h2, rfl⟩ := elimLeftRec_ok h
  have hinv : LRInv g0 g0 := ⟨elimCycles_wf h0 hw, fun _ => Iff.rfl⟩
  exact prune_wf (lrLoop_inv nts [] g0 g1 hinv h2).1

theorem elimLeftRec_language {g g' : G} (h : elimLeftRec g = .ok g') (hw : WellFormed g) (w : List String) :
    Language g' w ↔ Language g w := by
  obtain ⟨g0, nts, g1, h0, _, h2, rfl⟩ := elimLeftRec_ok h
  have hinv : LRInv g0 g0 := ⟨elimCycles_wf h0 hw, fun _ => Iff.rfl⟩
  have h1 := lrLoop_inv nts [] g0 g1 hinv h2
  rw [prune_language, h1.2 w, elimCycles_language h0 hw]

/-- **`EliminateLeftRecursion` preserves the language** — every valid grammar, every sentence; conditional on
the Model returning `.ok` like the other C08 theorems.  (`Hygienic` is not needed.) -/
theorem C08_leftrec (g g' : G) (hv : Valid g) (h : elimLeftRec g = .ok g') : SameLanguage g g' :=
  fun w => elimLeftRec_language h hv.wellFormed w

theorem C08_leftrec' (g g' : G) (hv : Valid g) (_hh : Hygienic g) (h : elimLeftRec g = .ok g') :
    SameLanguage g g' := C08_leftrec g g' hv h

theorem C08_leftrec_sound (g g' : G) (hv : Valid g) (h : elimLeftRec g = .ok g') (w : List String)
    (hw : Language g' w) : Language g w := (C08_leftrec g g' hv h w).1 hw

theorem C08_leftrec_complete (g g' : G) (hv : Valid g) (h : elimLeftRec g = .ok g') (w : List String)
    (hw : Language g w) : Language g' w := (C08_leftrec g g' hv h w).2 hw

theorem C08_lrSubst (g : G) (Ai Aj : String) : SameLanguage g (lrSubst g Ai Aj) :=
  fun w => lrSubst_language g Ai Aj w

theorem C08_lrImmediate (g g' : G) (A : String) (hw : WellFormed g) (h : lrImmediate g A = .ok g') :
    SameLanguage g g' := fun w => lrImmediate_language h hw w

end AlgoVerif.C08

open AlgoVerif AlgoVerif.Gram AlgoVerif.C08 AlgoVerif.C08.Spec

/-- `E → E + T | T`, `T → T * F | F`, `F → ( E ) | id` -/
def C08LRex1 : G :=
  { terms := ["+", "*", "(", ")", "id"], nonterms := ["E", "T", "F"], start := "E",
    prods := [⟨"E", [.nonterm "E", .term "+", .nonterm "T"]⟩, ⟨"E", [.nonterm "T"]⟩,
              ⟨"T", [.nonterm "T", .term "*", .nonterm "F"]⟩, ⟨"T", [.nonterm "F"]⟩,
              ⟨"F", [.term "(", .nonterm "E", .term ")"]⟩, ⟨"F", [.term "id"]⟩] }

/-- `S → A a | b`, `A → S c | d` (indirect left recursion, the D14 witness) -/
def C08LRex2 : G :=
  { terms := ["a", "b", "c", "d"], nonterms := ["S", "A"], start := "S",
    prods := [⟨"S", [.nonterm "A", .term "a"]⟩, ⟨"S", [.term "b"]⟩,
              ⟨"A", [.nonterm "S", .term "c"]⟩, ⟨"A", [.term "d"]⟩] }

example : Valid C08LRex1 := by decide +kernel
example : Valid C08LRex2 := by decide +kernel
theorem elimLeftRec_LRex2 : (elimLeftRec C08LRex2).map showGrammar =
    .ok "start=S T={a,b,c,d} N={A,A′,S} P={A′→a c A′; A′→ε; A→b c A′; A→d A′; S→A a; S→b}" := by decide +kernel

example : (elimLeftRec C08LRex2).map showGrammar =
    .ok "start=S T={a,b,c,d} N={A,A′,S} P={A′→a c A′; A′→ε; A→b c A′; A→d A′; S→A a; S→b}" := elimLeftRec_LRex2

set_option maxRecDepth 8000 in
example : (elimLeftRec C08LRex1).map showGrammar =
    .ok "start=E T={(,),*,+,id} N={E,E′,F,T,T′} P={E′→+ T E′; E′→ε; E→( E ) E′; E→T * F E′; E→id E′; F→( E ); F→id; T′→* F T′; T′→ε; T→( E ) T′; T→id T′}" := by
  decide +kernel
