import AlgoVerif.Model.GrammarCore
/-! Counted derivations and the decomposition lemmas the FIRST / FOLLOW / parser proofs rest on. -/
namespace AlgoVerif.Gram
variable {T N : Type}
variable {g : Grammar T N}

theorem step_iff {x y : List (Sym T N)} :
    Step g x y ↔ ∃ u v p, p ∈ g.prods ∧ x = u ++ [Sym.nonterm p.head] ++ v ∧ y = u ++ p.body ++ v := by
  constructor
  · intro h
    cases h with
    | mk u v p hp => exact ⟨u, v, p, hp, rfl, rfl⟩
  · rintro ⟨u, v, p, hp, rfl, rfl⟩
    exact Step.mk u v p hp

/-- `n` rewriting steps, the first step first -/
inductive DerivesN (g : Grammar T N) : Nat → List (Sym T N) → List (Sym T N) → Prop where
  | refl (α : List (Sym T N)) : DerivesN g 0 α α
  | head {n : Nat} {α β γ : List (Sym T N)} : Step g α β → DerivesN g n β γ → DerivesN g (n + 1) α γ

theorem DerivesN.toDerives {n α β} (h : DerivesN g n α β) : Derives g α β := by
  induction h with
  | refl => exact Derives.refl _
  | head s _ ih => exact (Derives.single s).trans ih

theorem DerivesN.snoc {n α β γ} (h : DerivesN g n α β) (s : Step g β γ) :
    DerivesN g (n + 1) α γ := by
  induction h with
  | refl => exact DerivesN.head s (DerivesN.refl _)
  | head s' _ ih => exact DerivesN.head s' (ih s)

theorem Derives.toDerivesN {α β} (h : Derives g α β) : ∃ n, DerivesN g n α β := by
  induction h with
  | refl => exact ⟨0, DerivesN.refl _⟩
  | tail _ s ih =>
    obtain ⟨n, hn⟩ := ih
    exact ⟨n + 1, hn.snoc s⟩

theorem DerivesN.trans {n m α β γ} (h₁ : DerivesN g n α β) (h₂ : DerivesN g m β γ) :
    DerivesN g (n + m) α γ := by
  induction h₁ with
  | refl => simpa using h₂
  | head s _ ih =>
    have := DerivesN.head s (ih h₂)
    simpa [Nat.add_right_comm, Nat.add_assoc, Nat.add_comm] using this

theorem no_step_of_terms {w : List T} {y} : ¬ Step g (w.map Sym.term) y := by
  intro h
  obtain ⟨u, v, p, _, hx, _⟩ := step_iff.1 h
  have : Sym.nonterm p.head ∈ w.map (Sym.term (N := N)) := by
    rw [hx]; simp
  simp at this

theorem no_step_of_nil {g : Grammar T N} {y} : ¬ Step g ([] : List (Sym T N)) y :=
  no_step_of_terms (w := [])

theorem DerivesN.of_terms {n} {w : List T} {γ} (h : DerivesN g n (w.map Sym.term) γ) :
    γ = w.map Sym.term ∧ n = 0 := by
  cases h with
  | refl => exact ⟨rfl, rfl⟩
  | head s _ => exact absurd s no_step_of_terms

theorem DerivesN.of_nil {n} {γ} (h : DerivesN g n ([] : List (Sym T N)) γ) :
    γ = [] ∧ n = 0 := DerivesN.of_terms (w := []) h

theorem Derives.of_terms {w : List T} {γ} (h : Derives g (w.map Sym.term) γ) :
    γ = w.map Sym.term := by
  obtain ⟨n, hn⟩ := h.toDerivesN
  exact hn.of_terms.1

theorem DerivesN.of_single {n A γ} (h : DerivesN g (n + 1) [Sym.nonterm A] γ) :
    ∃ p, p ∈ g.prods ∧ p.head = A ∧ DerivesN g n p.body γ := by
  cases h with
  | head s rest =>
    obtain ⟨u, v, p, hp, hx, hy⟩ := step_iff.1 s
    have hu : u = [] := by
      cases u with
      | nil => rfl
      | cons a u => simp at hx
    subst hu
    simp at hx
    obtain ⟨hA, hv⟩ := hx
    subst hv
    refine ⟨p, hp, hA.symm, ?_⟩
    simpa [hy] using rest

theorem DerivesN.append_left {n α β} (h : DerivesN g n α β) (p : List (Sym T N)) :
    DerivesN g n (p ++ α) (p ++ β) := by
  induction h with
  | refl => exact DerivesN.refl _
  | head s _ ih => exact DerivesN.head (s.append_left p) ih

theorem DerivesN.append_right {n α β} (h : DerivesN g n α β) (s : List (Sym T N)) :
    DerivesN g n (α ++ s) (β ++ s) := by
  induction h with
  | refl => exact DerivesN.refl _
  | head st _ ih => exact DerivesN.head (st.append_right s) ih

theorem append_eq_split {α : Type} {x y l r : List α} {b : α} (h : x ++ y = l ++ b :: r) :
    (∃ x₂, x = l ++ b :: x₂ ∧ r = x₂ ++ y) ∨ (∃ y₁, l = x ++ y₁ ∧ y = y₁ ++ b :: r) := by
  rcases List.append_eq_append_iff.1 h with ⟨a', h1, h2⟩ | ⟨c', h1, h2⟩
  · exact Or.inr ⟨a', h1, h2⟩
  · cases c' with
    | nil =>
      simp at h1 h2
      exact Or.inr ⟨[], by simp [h1], by simp [h2]⟩
    | cons c c'' =>
      simp at h2
      obtain ⟨hc, hr⟩ := h2
      subst hc
      exact Or.inl ⟨c'', h1, hr⟩

theorem DerivesN.split {n} {α β γ : List (Sym T N)} (h : DerivesN g n (α ++ β) γ) :
    ∃ n₁ n₂ γ₁ γ₂, n = n₁ + n₂ ∧ γ = γ₁ ++ γ₂ ∧ DerivesN g n₁ α γ₁ ∧ DerivesN g n₂ β γ₂ := by
  generalize hx : α ++ β = x at h
  induction h generalizing α β with
  | refl x => subst hx; exact ⟨0, 0, α, β, rfl, rfl, DerivesN.refl _, DerivesN.refl _⟩
  | @head n x y z s rest ih =>
    subst hx
    obtain ⟨u, v, p, hp, hx, rfl⟩ := step_iff.1 s
    rw [List.append_assoc] at hx
    rcases append_eq_split hx with ⟨α₂, rfl, rfl⟩ | ⟨β₁, rfl, rfl⟩
    ·
      obtain ⟨n₁, n₂, γ₁, γ₂, hn, hγ, d₁, d₂⟩ := ih (α := u ++ p.body ++ α₂) (β := β) (by simp)
      refine ⟨n₁ + 1, n₂, γ₁, γ₂, by omega, hγ, DerivesN.head ?_ d₁, d₂⟩
      simpa using Step.mk u α₂ p hp
    ·
      obtain ⟨n₁, n₂, γ₁, γ₂, hn, hγ, d₁, d₂⟩ := ih (α := α) (β := β₁ ++ p.body ++ v) (by simp)
      refine ⟨n₁, n₂ + 1, γ₁, γ₂, by omega, hγ, d₁, DerivesN.head ?_ d₂⟩
      simpa using Step.mk β₁ v p hp

theorem DerivesN.of_term_cons {n} {a : T} {α γ : List (Sym T N)}
    (h : DerivesN g n (Sym.term a :: α) γ) : ∃ γ', γ = Sym.term a :: γ' ∧ DerivesN g n α γ' := by
  have h' : DerivesN g n ([Sym.term a] ++ α) γ := h
  obtain ⟨n₁, n₂, γ₁, γ₂, hn, hγ, d₁, d₂⟩ := h'.split
  obtain ⟨h1, h2⟩ := DerivesN.of_terms (w := [a]) d₁
  subst h1
  refine ⟨γ₂, by simpa using hγ, ?_⟩
  have : n = n₂ := by omega
  rw [this]; exact d₂

theorem DerivesN.of_nonterm_cons {n : Nat} {A : N} {σ γ : List (Sym T N)}
    (h : DerivesN g n (Sym.nonterm A :: σ) γ) (hne : γ.head? ≠ some (Sym.nonterm A)) :
    ∃ q k n₂ γ₁ γ₂, q ∈ g.prods ∧ q.head = A ∧ n = k + 1 + n₂ ∧ γ = γ₁ ++ γ₂ ∧
      DerivesN g k q.body γ₁ ∧ DerivesN g n₂ σ γ₂ := by
  have h' : DerivesN g n ([Sym.nonterm A] ++ σ) γ := h
  obtain ⟨n₁, n₂, γ₁, γ₂, hn, hγ, d₁, d₂⟩ := h'.split
  cases n₁ with
  | zero => cases d₁; exact absurd (by rw [hγ]; rfl) hne
  | succ k =>
    obtain ⟨q, hq, hqA, dq⟩ := d₁.of_single
    exact ⟨q, k, n₂, γ₁, γ₂, hq, hqA, hn, hγ, dq, d₂⟩

theorem Derives.of_term_cons {g : Grammar T N} {a : T} {α γ : List (Sym T N)}
    (h : Derives g (Sym.term a :: α) γ) : ∃ γ', γ = Sym.term a :: γ' ∧ Derives g α γ' := by
  obtain ⟨n, hn⟩ := h.toDerivesN
  obtain ⟨γ', h1, h2⟩ := hn.of_term_cons
  exact ⟨γ', h1, h2.toDerives⟩

theorem Derives.split {α β γ : List (Sym T N)} (h : Derives g (α ++ β) γ) :
    ∃ γ₁ γ₂, γ = γ₁ ++ γ₂ ∧ Derives g α γ₁ ∧ Derives g β γ₂ := by
  obtain ⟨n, hn⟩ := h.toDerivesN
  obtain ⟨_, _, γ₁, γ₂, _, hγ, d₁, d₂⟩ := hn.split
  exact ⟨γ₁, γ₂, hγ, d₁.toDerives, d₂.toDerives⟩

theorem Derives.of_prod_in {p : Prod T N} (hp : p ∈ g.prods) (x v : List (Sym T N)) :
    Derives g (x ++ Sym.nonterm p.head :: v) (x ++ (p.body ++ v)) := by
  simpa only [List.append_assoc, List.cons_append, List.nil_append] using
    Derives.single (Step.mk x v p hp)

theorem Derives.of_prod {p : Prod T N} (hp : p ∈ g.prods) :
    Derives g [Sym.nonterm p.head] p.body := by
  simpa only [List.nil_append, List.append_nil] using Derives.of_prod_in hp [] []

end AlgoVerif.Gram
