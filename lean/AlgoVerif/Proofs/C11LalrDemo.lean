import AlgoVerif.Proofs.C11LalrComplete
import AlgoVerif.Proofs.C11Demo
/-!
# C11 — witness grammars for the LALR(1) theorems (kernel-evaluated on the Model)

`gLR` (LALR(1), not SLR(1)): the hypotheses of exactness are satisfiable; `built17`: the table for the grammar of D17;
`gUnprod`, `gUnprod2`: with an unproductive non-terminal exactness fails and the builder panics.
-/
namespace AlgoVerif.C11.Lalr
open AlgoVerif AlgoVerif.Gram AlgoVerif.C11 AlgoVerif.C11.Spec AlgoVerif.C11.Built AlgoVerif.C11.BuiltComplete
  AlgoVerif.C11.Demo

/-- `S → B U | E | c B d | c E e`, `B → b y`, `E → b z`, `U → U c`: well formed, but `U` derives no terminal string.
Why `C11_exact_lalr` asks for productive non-terminals (`C11_exact_lalr_needs_productive`): in state 0 the LR(0) item
`B → •b y` has no LR(1) lookahead because FIRST(U) = ∅; the target of the shift of `b` from state 0 has the core
`{E → b•z}`, the only LALR state containing it has the core `{B → b•y, E → b•z}`, and `findSuperset` — which requires
equal cores — returns ErrState. -/
def gUnprod : SGrammar :=
  { terms := ["b", "c", "d", "e", "y", "z"], nonterms := ["S", "B", "E", "U"], start := "S",
    prods := [⟨"S", [.nonterm "B", .nonterm "U"]⟩, ⟨"S", [.nonterm "E"]⟩,
      ⟨"S", [.term "c", .nonterm "B", .term "d"]⟩, ⟨"S", [.term "c", .nonterm "E", .term "e"]⟩,
      ⟨"B", [.term "b", .term "y"]⟩, ⟨"E", [.term "b", .term "z"]⟩, ⟨"U", [.nonterm "U", .term "c"]⟩] }

/-- what the LALR(1) builder returns for the D17 grammar `S → a S | a a a`: after `a` (state 5), `a a` (state 4), `a a a …`
(state 2); the reduction by `S → a a a` only in state 2 -/
def built17 : Built :=
  let s0 : Pr := ⟨"S′", [.nonterm "S"]⟩
  let p1 : Pr := ⟨"S", [.term "a", .nonterm "S"]⟩
  let p2 : Pr := ⟨"S", [.term "a", .term "a", .term "a"]⟩
  let it (p : Pr) (d : Nat) : Item := ⟨p, d, some endmarker⟩
  { start := "S′",
    states := [[it s0 0, it p1 0, it p2 0], [it s0 1], [it p2 3, it p2 2, it p1 1, it p2 1, it p1 0, it p2 0], [it p1 2],
      [it p2 2, it p1 1, it p2 1, it p1 0, it p2 0], [it p1 1, it p2 1, it p1 0, it p2 0]],
    table :=
      { nstates := 6,
        actions := [((0, "a"), [.shift 5]), ((1, endmarker), [.accept]), ((2, endmarker), [.reduce p2]),
          ((2, "a"), [.shift 2]), ((3, endmarker), [.reduce p1]), ((4, "a"), [.shift 2]), ((5, "a"), [.shift 4])],
        gotos := [((0, "S"), 1), ((2, "S"), 3), ((4, "S"), 3), ((5, "S"), 3)] } }

theorem build_lalr_g17 : build .lalr g17 40 = .ok built17 := by decide +kernel

/-! The wrappers of `Proofs/C11Demo.lean` on a table that is known; `b` a variable, so that the instances for an explicit
table are checked without running the builder. -/

theorem validated_eq {k : Kind} {g : SGrammar} {b : Built} (hb : build k g 40 = .ok b) : validated k g = soundOK g b := by
  unfold validated
  rw [hb]

theorem acceptsWith_eq {k : Kind} {g : SGrammar} {b : Built} (hb : build k g 40 = .ok b) (w : List String) :
    acceptsWith k g w =
      (match resolveAll [] (fun _ _ acts => acts) b.table with
       | .ok (T, .table) =>
         match parse T.toTbl 200 w with
         | .ok (.accept _ _) => some true
         | .ok (.reject _) => some false
         | _ => none
       | _ => none) := by
  unfold acceptsWith
  rw [hb]
  rfl

theorem acceptTrace_eq {k : Kind} {g : SGrammar} {b : Built} (hb : build k g 40 = .ok b) (w : List String) :
    acceptTrace k g w =
      (match resolveAll [] (fun _ _ acts => acts) b.table with
       | .ok (T, _) =>
         match parse T.toTbl 200 w with
         | .ok (.accept π root) => some (π, root)
         | _ => none
       | _ => none) := by
  unfold acceptTrace
  rw [hb]
  rfl

theorem gLR_lalr_conflict_free :
    (match build .lalr gLR 60 with | .ok b => chkConflictFree b.table | _ => false) = true := by decide +kernel

/-- the same without a `match`: the `match` of a statement is a different constant in every module, and the kernel would
identify two of them on the closed term `build .lalr gLR 60` by running the builder -/
theorem gLR_lalr_built : ∃ b, build .lalr gLR 60 = .ok b ∧ chkConflictFree b.table = true := by
  have h := gLR_lalr_conflict_free
  generalize build .lalr gLR 60 = o at h ⊢
  cases o with
  | ok b => exact ⟨b, rfl, h⟩
  | _ => cases h

theorem gLR_valid : ValidG gLR := validG_sound (by decide)

theorem gLR_termsListed : TermsListed gLR := termsListed_sound (by decide)

theorem gLR_productive : Productive gLR := by
  have hL : Derives gLR [Sym.nonterm "L"] (["id"].map Sym.term) := by
    simpa using Derives.single (Step.mk (g := gLR) [] [] ⟨"L", [.term "id"]⟩ (by simp [gLR]))
  have hR : Derives gLR [Sym.nonterm "R"] (["id"].map Sym.term) := by
    refine Derives.trans ?_ hL
    simpa using Derives.single (Step.mk (g := gLR) [] [] ⟨"R", [.nonterm "L"]⟩ (by simp [gLR]))
  have hS : Derives gLR [Sym.nonterm "S"] (["id"].map Sym.term) := by
    refine Derives.trans ?_ hR
    simpa using Derives.single (Step.mk (g := gLR) [] [] ⟨"S", [.nonterm "R"]⟩ (by simp [gLR]))
  intro B hB
  simp only [gLR, List.mem_cons, List.not_mem_nil, or_false] at hB
  rcases hB with rfl | rfl | rfl
  · exact ⟨_, hS⟩
  · exact ⟨_, hL⟩
  · exact ⟨_, hR⟩

/-- exactness at work on the dragon-book grammar `S → L = R | R`, `L → * R | id`, `R → L` (LALR(1), not SLR(1)) -/
example (b : Built) (hb : build .lalr gLR 60 = .ok b) (w : List String) (hend : endmarker ∉ w) :
    Language gLR w ↔ ∃ fuel' π root, parse b.table.toTbl fuel' w = .ok (.accept π root) := by
  obtain ⟨b', hb', hcf⟩ := gLR_lalr_built
  cases hb.symm.trans hb'
  exact built_exact .lalr gLR gLR_valid gLR_termsListed (fun _ => gLR_productive) 60 b hb hcf w hend

/-- `S → B U | a`, `B → b`, `U → U c`: well formed, `U` unproductive.  Why `np_buildLALR` asks for productive
non-terminals (`C11_never_panics_needs_productive`): the kernel item `B → b•` never receives a lookahead (FIRST(U) = ∅), and
`ComputeLALR1Kernels` dereferences the nil set. -/
def gUnprod2 : SGrammar :=
  { terms := ["a", "b", "c"], nonterms := ["S", "B", "U"], start := "S",
    prods := [⟨"S", [.nonterm "B", .nonterm "U"]⟩, ⟨"S", [.term "a"]⟩, ⟨"B", [.term "b"]⟩,
              ⟨"U", [.nonterm "U", .term "c"]⟩] }

end AlgoVerif.C11.Lalr
